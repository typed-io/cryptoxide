-- Root of the `CxVerif` library — GENERATED by tools/gen_registry.py: all modules that `lake build` checks.
import CxVerif.Driver.Aead
import CxVerif.Driver.Argon2
import CxVerif.Driver.B32
import CxVerif.Driver.B32Group
import CxVerif.Driver.Blake2
import CxVerif.Driver.C18
import CxVerif.Driver.Ed25519
import CxVerif.Driver.Fe64
import CxVerif.Driver.HashLen
import CxVerif.Driver.KTie
import CxVerif.Driver.Long
import CxVerif.Driver.MacKdf
import CxVerif.Driver.Poly1305
import CxVerif.Driver.Registry
import CxVerif.Driver.Scalar64
import CxVerif.Driver.Sha1Ripemd
import CxVerif.Driver.Sha2
import CxVerif.Driver.Sha3
import CxVerif.Driver.Simd
import CxVerif.Driver.Stream
import CxVerif.Extracted.B32
import CxVerif.Extracted.B32Tables
import CxVerif.Extracted.Blake2
import CxVerif.Extracted.Ed25519
import CxVerif.Extracted.Fe64
import CxVerif.Extracted.GlueArgon2
import CxVerif.Extracted.GlueCurve
import CxVerif.Extracted.GlueCurve32
import CxVerif.Extracted.GlueDigest
import CxVerif.Extracted.GlueKdf
import CxVerif.Extracted.GlueMac
import CxVerif.Extracted.GlueMd
import CxVerif.Extracted.GlueRest
import CxVerif.Extracted.GlueSha2Disp
import CxVerif.Extracted.GlueSha2Drv
import CxVerif.Extracted.GlueSimd
import CxVerif.Extracted.GlueSponge
import CxVerif.Extracted.GlueStream
import CxVerif.Extracted.KernelsArgon2
import CxVerif.Extracted.KernelsBlake2
import CxVerif.Extracted.KernelsCT
import CxVerif.Extracted.KernelsChaChaRef
import CxVerif.Extracted.KernelsChaChaSse2
import CxVerif.Extracted.KernelsFe32
import CxVerif.Extracted.KernelsFe64
import CxVerif.Extracted.KernelsKeccak
import CxVerif.Extracted.KernelsPoly1305
import CxVerif.Extracted.KernelsPoly1305New
import CxVerif.Extracted.KernelsRipemd160
import CxVerif.Extracted.KernelsSalsa
import CxVerif.Extracted.KernelsScalar32
import CxVerif.Extracted.KernelsScalar64
import CxVerif.Extracted.KernelsSha1
import CxVerif.Extracted.KernelsSha256
import CxVerif.Extracted.KernelsSha512
import CxVerif.Extracted.MacKdf
import CxVerif.Extracted.Poly1305
import CxVerif.Extracted.Scalar64
import CxVerif.Extracted.Sha1Ripemd
import CxVerif.Extracted.Sha2
import CxVerif.Extracted.Sha3
import CxVerif.Extracted.Simd
import CxVerif.Extracted.Stream
import CxVerif.Impl.Aead
import CxVerif.Impl.Argon2
import CxVerif.Impl.Blake2
import CxVerif.Impl.ChaCha
import CxVerif.Impl.ConstantTime
import CxVerif.Impl.Digest
import CxVerif.Impl.Drg
import CxVerif.Impl.Ed25519
import CxVerif.Impl.Ed25519_32
import CxVerif.Impl.Fe32
import CxVerif.Impl.Fe64
import CxVerif.Impl.FixedBuffer
import CxVerif.Impl.Ge
import CxVerif.Impl.Ge32
import CxVerif.Impl.HashLen
import CxVerif.Impl.HashProg
import CxVerif.Impl.Hmac
import CxVerif.Impl.Kdf
import CxVerif.Impl.Leak
import CxVerif.Impl.LeakModel
import CxVerif.Impl.LeakModelHash
import CxVerif.Impl.LeakModelSym
import CxVerif.Impl.MdEngine
import CxVerif.Impl.Poly1305
import CxVerif.Impl.Ripemd160
import CxVerif.Impl.Salsa
import CxVerif.Impl.Scalar32
import CxVerif.Impl.Scalar64
import CxVerif.Impl.Sha1
import CxVerif.Impl.Sha2
import CxVerif.Impl.Sha3
import CxVerif.Impl.SimdBlake2
import CxVerif.Impl.SimdLanes
import CxVerif.Impl.SimdSha256
import CxVerif.Impl.StreamCtx
import CxVerif.Impl.X25519
import CxVerif.Impl.X25519_32
import CxVerif.Proofs.Aead
import CxVerif.Proofs.AeadBytes
import CxVerif.Proofs.AeadDeps
import CxVerif.Proofs.AeadHist
import CxVerif.Proofs.AeadOneShot
import CxVerif.Proofs.Argon2Assemble
import CxVerif.Proofs.Argon2Block
import CxVerif.Proofs.Argon2Hash
import CxVerif.Proofs.Argon2Index
import CxVerif.Proofs.Argon2Prologue
import CxVerif.Proofs.Argon2Segment
import CxVerif.Proofs.BindWalk
import CxVerif.Proofs.Blake2
import CxVerif.Proofs.Blake2Hist
import CxVerif.Proofs.Blake2Tables
import CxVerif.Proofs.BlockLoop
import CxVerif.Proofs.Blocks
import CxVerif.Proofs.ByteLemmas
import CxVerif.Proofs.Bits
import CxVerif.Proofs.ConstantTime
import CxVerif.Proofs.Digits
import CxVerif.Proofs.Ed25519Exchange
import CxVerif.Proofs.Ed25519Generic
import CxVerif.Proofs.Ed25519Honest
import CxVerif.Proofs.Ed25519Inst
import CxVerif.Proofs.Ed25519Sha
import CxVerif.Proofs.Ed25519Sign
import CxVerif.Proofs.Ed25519Verify
import CxVerif.Proofs.Ed25519_32Sign
import CxVerif.Proofs.Ed25519_32Verify
import CxVerif.Proofs.EdField
import CxVerif.Proofs.EdProj
import CxVerif.Proofs.EdRoundTrip
import CxVerif.Proofs.EdwardsAlgebra
import CxVerif.Proofs.EdwardsAssoc
import CxVerif.Proofs.EdwardsGroupLaw
import CxVerif.Proofs.EdwardsSpec
import CxVerif.Proofs.Fe32Arith
import CxVerif.Proofs.Fe32Basic
import CxVerif.Proofs.Fe32Bytes
import CxVerif.Proofs.Fe32Carry
import CxVerif.Proofs.Fe32Chain
import CxVerif.Proofs.Fe32FromBytes
import CxVerif.Proofs.Fe32Mul
import CxVerif.Proofs.Fe32Pred
import CxVerif.Proofs.Fe32Tables
import CxVerif.Proofs.Fe64Arith
import CxVerif.Proofs.Fe64Basic
import CxVerif.Proofs.Fe64Bytes
import CxVerif.Proofs.Fe64Chain
import CxVerif.Proofs.Fe64FromBytes
import CxVerif.Proofs.Fe64Pred
import CxVerif.Proofs.Fe64Square
import CxVerif.Proofs.Field25519
import CxVerif.Proofs.Field25519Encode
import CxVerif.Proofs.Field25519Prime
import CxVerif.Proofs.FixedBuffer
import CxVerif.Proofs.Ge32Agree
import CxVerif.Proofs.Ge32Bytes
import CxVerif.Proofs.Ge32Comb
import CxVerif.Proofs.Ge32Decode
import CxVerif.Proofs.Ge32Dsm
import CxVerif.Proofs.Ge32Refine
import CxVerif.Proofs.GeBytes
import CxVerif.Proofs.GeComb
import CxVerif.Proofs.GeDecode
import CxVerif.Proofs.GeDsm
import CxVerif.Proofs.GeRecode
import CxVerif.Proofs.GeGeneric
import CxVerif.Proofs.GeGenericRefine
import CxVerif.Proofs.GeRefine
import CxVerif.Proofs.GeSelect
import CxVerif.Proofs.GeTableVals
import CxVerif.Proofs.GeTables
import CxVerif.Proofs.GlueArgon2Hash
import CxVerif.Proofs.GlueArgon2Params
import CxVerif.Proofs.GlueArgon2Process
import CxVerif.Proofs.GlueArgon2Segment
import CxVerif.Proofs.GeEncLen
import CxVerif.Proofs.GlueCurve
import CxVerif.Proofs.GlueCurve32
import CxVerif.Proofs.GlueDigest
import CxVerif.Proofs.GlueKdf
import CxVerif.Proofs.GlueKdfScrypt
import CxVerif.Proofs.GlueMac
import CxVerif.Proofs.GlueMd
import CxVerif.Proofs.GlueRest
import CxVerif.Proofs.GlueRestMuladd
import CxVerif.Proofs.GlueSha2Drv
import CxVerif.Proofs.GlueSimd
import CxVerif.Proofs.GlueSimdBlake2
import CxVerif.Proofs.GlueSimdBlake2Avx2
import CxVerif.Proofs.GlueSimdBlake2AvxB
import CxVerif.Proofs.GlueSimdBlake2AvxS
import CxVerif.Proofs.GlueSimdSha
import CxVerif.Proofs.GlueSimdShaAvx
import CxVerif.Proofs.GlueSponge
import CxVerif.Proofs.GlueSpongeBlake2
import CxVerif.Proofs.GlueStream
import CxVerif.Proofs.GlueVocab
import CxVerif.Proofs.OptionSteps
import CxVerif.Proofs.HashLen
import CxVerif.Proofs.HashProg
import CxVerif.Proofs.KdfHkdf
import CxVerif.Proofs.KdfPbkdf2
import CxVerif.Proofs.KdfScrypt
import CxVerif.Proofs.KdfScryptMF
import CxVerif.Proofs.KdfScryptMix
import CxVerif.Proofs.KdfScryptSalsa
import CxVerif.Proofs.KeccakF
import CxVerif.Proofs.KernelRfl
import CxVerif.Proofs.KeccakVectors
import CxVerif.Proofs.KernelTieWords
import CxVerif.Proofs.LeakJoint
import CxVerif.Proofs.LeakModel
import CxVerif.Proofs.LeakModelEd25519
import CxVerif.Proofs.LeakModelHash
import CxVerif.Proofs.LeakModelAead
import CxVerif.Proofs.LeakModelHashBlake2
import CxVerif.Proofs.LeakModelHashMd
import CxVerif.Proofs.LeakModelHashSha2
import CxVerif.Proofs.LeakModelHashSponge
import CxVerif.Proofs.LeakModelHmac
import CxVerif.Proofs.LeakModelPoly
import CxVerif.Proofs.LeakModelSym
import CxVerif.Proofs.LeakModelX25519
import CxVerif.Proofs.LimbBytes
import CxVerif.Proofs.Limbs
import CxVerif.Proofs.MacBlake2
import CxVerif.Proofs.MacHmac
import CxVerif.Proofs.MacInst
import CxVerif.Proofs.MacInstBlake2
import CxVerif.Proofs.MacInstSha3
import CxVerif.Proofs.MacLegacy
import CxVerif.Proofs.MacObj
import CxVerif.Proofs.MdRefine
import CxVerif.Proofs.MontgomeryCurve
import CxVerif.Proofs.MontgomeryLadder
import CxVerif.Proofs.MontgomeryXArith
import CxVerif.Proofs.Poly1305Arith
import CxVerif.Proofs.Poly1305Bytes
import CxVerif.Proofs.Poly1305Finish
import CxVerif.Proofs.Poly1305Object
import CxVerif.Proofs.Poly1305Stream
import CxVerif.Proofs.PowChain
import CxVerif.Proofs.PowMod
import CxVerif.Proofs.Pratt
import CxVerif.Proofs.Prime25519
import CxVerif.Proofs.Prime25519Inst
import CxVerif.Proofs.RefusalArgon2
import CxVerif.Proofs.RefusalHash
import CxVerif.Proofs.RefusalKdf
import CxVerif.Proofs.RefusalMac
import CxVerif.Proofs.RefusalStream
import CxVerif.Proofs.Ripemd160
import CxVerif.Proofs.Ripemd160Stream
import CxVerif.Proofs.Scalar32Canon
import CxVerif.Proofs.Scalar32Digits
import CxVerif.Proofs.Scalar32Muladd
import CxVerif.Proofs.Scalar32MuladdA
import CxVerif.Proofs.Scalar32Reduce
import CxVerif.Proofs.Scalar32ReduceA
import CxVerif.Proofs.Scalar32ReduceB
import CxVerif.Proofs.Scalar32ReduceC
import CxVerif.Proofs.Scalar64Barrett
import CxVerif.Proofs.Scalar64Basic
import CxVerif.Proofs.Scalar64Bytes
import CxVerif.Proofs.Scalar64Digits
import CxVerif.Proofs.Scalar64Mul
import CxVerif.Proofs.Scalar64Slide
import CxVerif.Proofs.ScalarL
import CxVerif.Proofs.Sha1
import CxVerif.Proofs.Sha1Chunks
import CxVerif.Proofs.Sha1Stream
import CxVerif.Proofs.Sha2Compress
import CxVerif.Proofs.Sha2Compress512
import CxVerif.Proofs.Sha2Engine
import CxVerif.Proofs.Sha2Tables
import CxVerif.Proofs.SimdBits
import CxVerif.Proofs.SimdBlake2Avx2
import CxVerif.Proofs.SimdBlake2AvxB
import CxVerif.Proofs.SimdBlake2AvxS
import CxVerif.Proofs.SimdBlake2Ctx
import CxVerif.Proofs.SimdBlake2Mat
import CxVerif.Proofs.SimdSha256Batch
import CxVerif.Proofs.SimdSha256Lanes
import CxVerif.Proofs.SimdSha256Sched
import CxVerif.Proofs.SpongeAbsorb
import CxVerif.Proofs.SpongeCtx
import CxVerif.Proofs.SpongeHash
import CxVerif.Proofs.SpongePad
import CxVerif.Proofs.StreamChaCha
import CxVerif.Proofs.StreamBytes
import CxVerif.Proofs.StreamCtx
import CxVerif.Proofs.StreamDrg
import CxVerif.Proofs.StreamEngine
import CxVerif.Proofs.StreamFast
import CxVerif.Proofs.StreamLayout
import CxVerif.Proofs.StreamSalsa
import CxVerif.Proofs.StreamSse2
import CxVerif.Proofs.X25519Arith
import CxVerif.Proofs.X25519Ladder
import CxVerif.Proofs.X25519Step
import CxVerif.Proofs.X25519_32Ladder
import CxVerif.Props.C01.Blake2
import CxVerif.Props.C01.GlueTieMd
import CxVerif.Props.C01.GlueTieMdSpec
import CxVerif.Props.C01.GlueTieSha2Drv
import CxVerif.Props.C01.KernelTieBlake2
import CxVerif.Props.C01.KernelTieKeccak
import CxVerif.Props.C01.KernelTieRipemd160
import CxVerif.Props.C01.KernelTieSha1
import CxVerif.Props.C01.KernelTieSha256
import CxVerif.Props.C01.KernelTieSha512
import CxVerif.Props.C01.Ripemd160
import CxVerif.Props.C01.Sha1
import CxVerif.Props.C01.Sha2
import CxVerif.Props.C01.Sha3
import CxVerif.Props.C02.Blake2
import CxVerif.Props.C02.GlueTieSponge
import CxVerif.Props.C02.Sha1Ripemd
import CxVerif.Props.C02.Sha2
import CxVerif.Props.C02.Sha3
import CxVerif.Props.C03.KernelTie
import CxVerif.Props.C03.Stream
import CxVerif.Props.C04.GlueTieStream
import CxVerif.Props.C04.Stream
import CxVerif.Props.C05.GlueTieMac
import CxVerif.Props.C05.KernelTie
import CxVerif.Props.C05.KernelTieNew
import CxVerif.Props.C05.Poly1305
import CxVerif.Props.C06.Aead
import CxVerif.Props.C07.Aead
import CxVerif.Props.C08.Hmac
import CxVerif.Props.C08.HmacBlake2
import CxVerif.Props.C09.GlueTieDigest
import CxVerif.Props.C09.MacDigest
import CxVerif.Props.C09.Poly1305
import CxVerif.Props.C10.GlueTieKdf
import CxVerif.Props.C10.Kdf
import CxVerif.Props.C10.Scrypt
import CxVerif.Props.C11.Argon2
import CxVerif.Props.C11.Argon2Full
import CxVerif.Props.C11.GlueTieArgon2
import CxVerif.Props.C11.KernelTie
import CxVerif.Props.C12.Final
import CxVerif.Props.C12.Symmetry
import CxVerif.Props.C12.X25519
import CxVerif.Props.C13.Ed25519
import CxVerif.Props.C13.Final
import CxVerif.Props.C14.Ed25519
import CxVerif.Props.C14.Final
import CxVerif.Props.C14.Honest
import CxVerif.Props.C14.VerifyFull
import CxVerif.Props.C15.Fe64
import CxVerif.Props.C15.Final
import CxVerif.Props.C15.Ge
import CxVerif.Props.C15.GlueTieCurve
import CxVerif.Props.C15.GroupLaw
import CxVerif.Props.C15.KernelTieFe64
import CxVerif.Props.C15.KernelTieScalar64
import CxVerif.Props.C15.Prime
import CxVerif.Props.C15.RoundTrip
import CxVerif.Props.C15.Scalar64
import CxVerif.Props.C16.Blake2
import CxVerif.Props.C16.ChaCha
import CxVerif.Props.C16.GlueTieSha2Disp
import CxVerif.Props.C16.GlueTieSimd
import CxVerif.Props.C16.GlueTieSimdBlake2
import CxVerif.Props.C16.GlueTieSimdSha
import CxVerif.Props.C16.KernelTieChaCha
import CxVerif.Props.C16.Sha256
import CxVerif.Props.C17.B32
import CxVerif.Props.C17.GlueTieCurve32
import CxVerif.Props.C17.Group32
import CxVerif.Props.C17.KernelTieB32
import CxVerif.Props.C17.Sc32
import CxVerif.Props.C18
import CxVerif.Props.C18KernelTie
import CxVerif.Props.C19.Leak
import CxVerif.Props.C19.LeakHash
import CxVerif.Props.C19.LeakReal
import CxVerif.Props.C20.Aead
import CxVerif.Props.C20.Blake2
import CxVerif.Props.C20.GlueTieRest
import CxVerif.Props.C20.HashLen
import CxVerif.Props.C20.Refusal
import CxVerif.Spec.Aead
import CxVerif.Spec.Argon2
import CxVerif.Spec.Blake2
import CxVerif.Spec.ChaCha
import CxVerif.Spec.Ed25519
import CxVerif.Spec.Edwards
import CxVerif.Spec.Field25519
import CxVerif.Spec.HashLen
import CxVerif.Spec.Hmac
import CxVerif.Spec.Kdf
import CxVerif.Spec.Keccak
import CxVerif.Spec.MerkleDamgard
import CxVerif.Spec.Poly1305
import CxVerif.Spec.Ripemd160
import CxVerif.Spec.Salsa
import CxVerif.Spec.ScalarL
import CxVerif.Spec.Sha1
import CxVerif.Spec.Sha2
import CxVerif.Spec.Stream
import CxVerif.Spec.X25519
import CxVerif.Util.Blocks
import CxVerif.Util.Bytes
import CxVerif.Util.DebugAssert
import CxVerif.Util.GlueDebug
import CxVerif.Util.GlueRt
import CxVerif.Util.Intrinsics
import CxVerif.Util.IntrinsicsHwTest
import CxVerif.Util.Proto
