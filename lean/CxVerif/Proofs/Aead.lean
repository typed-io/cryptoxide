/-
  Proofs.Aead — the refinement behind C06/C07: every method of the incremental `Context` of
  src/chacha20poly1305.rs (model Impl.Aead) keeps the invariant

      "the Poly1305 object has absorbed exactly the bytes  aad            (phase aad)
                                                    resp.  aad ‖ pad16(aad) ‖ ct   (phase enc / dec),
       the ChaCha context stands at absolute keystream position 64 + |ct|,
       aad_len = |aad|, data_len = |ct|"

  and `finalize_raw` then returns Poly1305(otk, macData aad ct) with otk = block 0 [0,32).

  The stream layer enters as the explicit hypothesis `CipherDeps` (position refinement of the IETF `ChaCha<R>`
  context, C04; Proofs/AeadDeps.lean discharges it).  The Poly1305 object is read through the poly1305 unit's own
  invariant (`MacAbs.absorbing`: a state reached from `new otk` by `input` calls is `Absorbing`), so `input` and
  `raw_result` on it never panic and the result is the RFC 8439 §2.5 tag of the bytes fed (C05).
-/
import CxVerif.Impl.Aead
import CxVerif.Proofs.AeadBytes
import CxVerif.Proofs.Poly1305Stream
namespace Cx.Proofs.Aead
open Cx.Impl Cx.Impl.StreamCtx Cx.Impl.Aead
open Cx.Proofs.Stream (encrypt_length)

variable {σ : Type}

/-- position refinement of `ChaCha<R>` for one (key, nonce): `At c p` = context `c` stands at absolute
    keystream byte position `p` -/
structure CipherDeps (E : ChaCha.Engine σ) (R : Nat) (key nonce : Bytes) (At : Ctx σ → Nat → Prop) : Prop where
  new_at : ∃ c, ChaCha.ChaCha.new E R key nonce = .ok c ∧ At c 0
  process_mut_at : ∀ (c : Ctx σ) (p : Nat) (data : Bytes), At c p →
    ∃ c', ChaCha.ChaCha.process_mut E R c data = .ok (c', Spec.ChaCha.encrypt R key nonce p data) ∧ At c' (p + data.length)
  /-- a fact of the Spec (`Proofs.ChaCha.block_length`), carried here because this file does not import the stream proofs;
      needed once, for block 0 = the one-time key -/
  block_len : ∀ n, (Spec.ChaCha.blockAt R key nonce n).length = 64

theorem inputs_append (st : Poly1305.State) (a b : List Bytes) :
    Poly1305.inputs st (a ++ b) =
      match Poly1305.inputs st a with
      | .error e => .error e
      | .ok st' => Poly1305.inputs st' b := by
  induction a generalizing st with
  | nil => simp [Poly1305.inputs]
  | cons x xs ih =>
    simp only [List.cons_append, Poly1305.inputs]
    cases h : Poly1305.input st x with
    | error e => simp
    | ok st1 => simp [ih]

/-- `st` is reached from `new otk` by `input` calls whose arguments concatenate to `m`: "has absorbed exactly `m`" in the
    model's own terms, so that it can stand in a property statement (C06); the proofs read it through the poly1305 unit's
    invariant `Absorbing`, which speaks of limbs (`MacAbs.absorbing`) -/
def MacAbs (otk : Bytes) (st : Poly1305.State) (m : Bytes) : Prop :=
  ∃ ms : List Bytes, Poly1305.inputs (Poly1305.new otk) ms = .ok st ∧ ms.flatten = m

theorem macAbs_new (otk : Bytes) : MacAbs otk (Poly1305.new otk) [] := ⟨[], rfl, rfl⟩

theorem MacAbs.absorbing {otk : Bytes} {st : Poly1305.State} {m : Bytes} (h : MacAbs otk st m) :
    Cx.Proofs.Poly1305.Absorbing otk st m := by
  obtain ⟨ms, e, rfl⟩ := h
  obtain ⟨st', e', a⟩ := Cx.Proofs.Poly1305.inputs_spec otk ms _ [] (Cx.Proofs.Poly1305.new_absorbing otk)
  rw [e] at e'; cases e'; simpa using a

theorem macAbs_input (otk : Bytes) (st : Poly1305.State) (m d : Bytes)
    (h : MacAbs otk st m) : ∃ st', Poly1305.input st d = .ok st' ∧ MacAbs otk st' (m ++ d) := by
  obtain ⟨st', e, _⟩ := Cx.Proofs.Poly1305.input_spec otk st m d h.absorbing
  obtain ⟨ms, hms, hm⟩ := h
  refine ⟨st', e, ms ++ [d], ?_, by simp [hm]⟩
  rw [inputs_append, hms]
  simp only [Poly1305.inputs, e]

theorem macAbs_result (otk : Bytes) (st : Poly1305.State) (m : Bytes) (h : MacAbs otk st m) :
    ∃ st', Poly1305.raw_result Poly1305.codeVariant st 16 = .ok (st', Spec.Poly1305.mac otk m) := by
  obtain ⟨st', e, _⟩ := Cx.Proofs.Poly1305.raw_result_absorbing _ otk st m 16 (Nat.le_refl _) h.absorbing
  exact ⟨st', e⟩

theorem pad16_abs (otk : Bytes) (st : Poly1305.State) (m x : Bytes)
    (h : MacAbs otk st m) :
    ∃ st', Impl.Aead.pad16 st x.length = .ok st' ∧ MacAbs otk st' (m ++ Spec.Aead.pad16 x) := by
  unfold Impl.Aead.pad16
  by_cases hz : x.length % 16 = 0
  · refine ⟨st, by simp [hz], ?_⟩
    have : Spec.Aead.pad16 x = [] := by simp [Spec.Aead.pad16, hz, zeros]
    rw [this, List.append_nil]; exact h
  · have hpad : (zeros 15).take (16 - x.length % 16) = Spec.Aead.pad16 x := by
      simp only [Spec.Aead.pad16, zeros, List.take_replicate]
      congr 1; omega
    obtain ⟨st', hin, habs⟩ := macAbs_input otk st m ((zeros 15).take (16 - x.length % 16)) h
    refine ⟨st', by simp [hz, hin, liftP], ?_⟩
    rw [← hpad]; exact habs

/-- the one-time key: RFC 8439 §2.6 -/
abbrev otk (R : Nat) (key nonce : Bytes) : Bytes := Spec.Aead.polyKeyGen R key nonce

structure CtxInv (R : Nat) (key nonce : Bytes) (At : Ctx σ → Nat → Prop) (c : Context σ) (m : Bytes)
    (aadLen dataLen : Nat) : Prop where
  mac : MacAbs (otk R key nonce) c.mac m
  cipher : At c.cipher (64 + dataLen)
  aad_len : c.aad_len = aadLen
  data_len : c.data_len = dataLen

section ctx
variable {E : ChaCha.Engine σ} {R : Nat} {key nonce : Bytes} {At : Ctx σ → Nat → Prop}

theorem process_at (D : CipherDeps E R key nonce At) (c : Ctx σ) (p : Nat) (data : Bytes) (h : At c p) :
    ∃ c', ChaCha.ChaCha.process E R c data data.length = .ok (c', Spec.ChaCha.encrypt R key nonce p data)
      ∧ At c' (p + data.length) := by
  obtain ⟨c', h1, h2⟩ := D.process_mut_at c p data h
  refine ⟨c', ?_, h2⟩
  simp only [ChaCha.ChaCha.process, StreamCtx.process, if_true]
  exact h1

theorem new_inv (D : CipherDeps E R key nonce At) :
    ∃ c, Context.new E R key nonce = .ok c ∧ c.mac = Poly1305.new (otk R key nonce) ∧ CtxInv R key nonce At c [] 0 0 := by
  obtain ⟨c0, hnew, hat⟩ := D.new_at
  -- `Context::new` repeats the two length guards of `ChaCha::new`: that the inner constructor succeeded grants them
  have hn : nonce.length = 12 := by
    by_cases hn : nonce.length = 12
    · exact hn
    · simp [ChaCha.ChaCha.new, hn] at hnew
  have hkey : key.length = 16 ∨ key.length = 32 := by
    by_cases hk : key.length = 16 ∨ key.length = 32
    · exact hk
    · simp only [ChaCha.ChaCha.new, hn] at hnew
      simp [hk] at hnew
  obtain ⟨c1, hproc, hat1⟩ := process_at D c0 0 (zeros 64) hat
  have hz : (zeros 64).length = 64 := by simp [zeros]
  rw [hz] at hproc hat1
  have hblock : Spec.ChaCha.encrypt R key nonce 0 (zeros 64) = Spec.ChaCha.block R key nonce 0 := by
    have := Cx.Proofs.Stream.keystream_block (Spec.ChaCha.blockAt R key nonce) D.block_len 0
    rw [Spec.ChaCha.encrypt, Cx.Proofs.Stream.encrypt_zeros]
    simpa [Spec.ChaCha.blockAt] using this
  refine ⟨{ cipher := c1, mac := Poly1305.new (otk R key nonce), aad_len := 0, data_len := 0 }, ?_, rfl, ?_⟩
  · unfold Context.new
    simp only [hn, hkey, hnew, hproc, hblock]
    simp [otk, Spec.Aead.polyKeyGen]
  · exact ⟨macAbs_new _, by simpa using hat1, rfl, rfl⟩

theorem add_data_inv (c : Context σ) (m d : Bytes) (aadLen dataLen : Nat)
    (h : CtxInv R key nonce At c m aadLen dataLen) (hb : aadLen + d.length < 2 ^ 64) :
    ∃ c', Context.add_data c d = .ok c' ∧ CtxInv R key nonce At c' (m ++ d) (aadLen + d.length) dataLen := by
  obtain ⟨st', hin, habs⟩ := macAbs_input _ c.mac m d h.mac
  refine ⟨{ c with mac := st', aad_len := aadLen + d.length }, ?_, ⟨habs, h.cipher, rfl, h.data_len⟩⟩
  -- `2 ^ 64` in `hb` is Mathlib's power, the one inside `addU64` is core's: hand `simp` the numeral
  have hb' : aadLen + d.length < 18446744073709551616 := hb
  simp [Context.add_data, addU64, h.aad_len, hb', hin, liftP]

/-- stated on the two fields it reads, not on `CtxInv`: in `encrypt_mut` the cipher has already moved when `add_encrypted` runs,
    in `decrypt_mut` not yet, so no `CtxInv` holds of the argument in the first case -/
theorem add_encrypted_inv (c : Context σ) (m d : Bytes)
    (dataLen : Nat) (hmac : MacAbs (otk R key nonce) c.mac m) (hdl : c.data_len = dataLen)
    (hb : dataLen + d.length < 2 ^ 64) :
    ∃ st', Context.add_encrypted c d = .ok { c with mac := st', data_len := dataLen + d.length }
      ∧ MacAbs (otk R key nonce) st' (m ++ d) := by
  obtain ⟨st', hin, habs⟩ := macAbs_input _ c.mac m d hmac
  have hb' : dataLen + d.length < 18446744073709551616 := hb
  exact ⟨st', by simp [Context.add_encrypted, addU64, hdl, hb', hin, liftP], habs⟩

/-- the conclusion is the premise of `encrypt_mut_inv` / `decrypt_mut_inv` at `ct := []`, left unsimplified so that it fits them -/
theorem to_encryption_inv (c : Context σ) (aad : Bytes)
    (h : CtxInv R key nonce At c aad aad.length 0) :
    ∃ c', Context.to_encryption c = .ok c' ∧
      CtxInv R key nonce At c' (aad ++ Spec.Aead.pad16 aad ++ []) aad.length ([] : Bytes).length := by
  obtain ⟨st', hp, habs⟩ := pad16_abs _ c.mac aad aad h.mac
  refine ⟨{ c with mac := st' }, ?_, ⟨by simpa using habs, h.cipher, h.aad_len, h.data_len⟩⟩
  simp [Context.to_encryption, h.aad_len, hp]

theorem to_decryption_eq (c : Context σ) : Context.to_decryption c = Context.to_encryption c := rfl

theorem encrypt_mut_inv (D : CipherDeps E R key nonce At) (c : Context σ) (aad ct d : Bytes)
    (h : CtxInv R key nonce At c (aad ++ Spec.Aead.pad16 aad ++ ct) aad.length ct.length)
    (hb : ct.length + d.length < 2 ^ 64) :
    let out := Spec.ChaCha.encrypt R key nonce (64 + ct.length) d
    ∃ c', ContextEncryption.encrypt_mut E R c d = .ok (c', out) ∧
      CtxInv R key nonce At c' (aad ++ Spec.Aead.pad16 aad ++ (ct ++ out)) aad.length (ct ++ out).length := by
  intro out
  obtain ⟨c1, hproc, hat⟩ := D.process_mut_at c.cipher _ d h.cipher
  have hlen : out.length = d.length := encrypt_length _ _ _
  obtain ⟨st', hadd, habs⟩ := add_encrypted_inv { c with cipher := c1 } _ out ct.length h.mac h.data_len
    (by rw [hlen]; exact hb)
  refine ⟨{ cipher := c1, mac := st', aad_len := c.aad_len, data_len := ct.length + out.length }, ?_,
    ⟨?_, ?_, h.aad_len, ?_⟩⟩
  · simp only [ContextEncryption.encrypt_mut, hproc]
    simp only [out] at hadd ⊢; simp only [hadd]
  · simpa [List.append_assoc] using habs
  · simp only [List.length_append, hlen]
    rw [← Nat.add_assoc]; exact hat
  · simp [List.length_append]

/-- `process` copies the input into the output buffer, then runs `process_mut` -/
theorem encrypt_eq_mut (c : Context σ) (d : Bytes) :
    ContextEncryption.encrypt E R c d d.length = ContextEncryption.encrypt_mut E R c d := by
  simp only [ContextEncryption.encrypt, ContextEncryption.encrypt_mut, ChaCha.ChaCha.process, StreamCtx.process, ne_eq,
    not_true_eq_false, if_false, if_true]
  rfl

theorem decrypt_mut_inv (D : CipherDeps E R key nonce At) (c : Context σ) (aad ct d : Bytes)
    (h : CtxInv R key nonce At c (aad ++ Spec.Aead.pad16 aad ++ ct) aad.length ct.length)
    (hb : ct.length + d.length < 2 ^ 64) :
    ∃ c', ContextDecryption.decrypt_mut E R c d = .ok (c', Spec.ChaCha.encrypt R key nonce (64 + ct.length) d) ∧
      CtxInv R key nonce At c' (aad ++ Spec.Aead.pad16 aad ++ (ct ++ d)) aad.length (ct ++ d).length := by
  obtain ⟨st', hadd, habs⟩ := add_encrypted_inv c _ d ct.length h.mac h.data_len hb
  obtain ⟨c1, hproc, hat⟩ := D.process_mut_at c.cipher _ d h.cipher
  refine ⟨{ cipher := c1, mac := st', aad_len := c.aad_len, data_len := ct.length + d.length }, ?_,
    ⟨?_, ?_, h.aad_len, ?_⟩⟩
  · simp only [ContextDecryption.decrypt_mut, hadd, hproc]
  · simpa [List.append_assoc] using habs
  · simp only [List.length_append]
    rw [← Nat.add_assoc]; exact hat
  · simp [List.length_append]

theorem decrypt_eq_mut (c : Context σ) (d : Bytes) :
    ContextDecryption.decrypt E R c d d.length = ContextDecryption.decrypt_mut E R c d := by
  simp only [ContextDecryption.decrypt, ContextDecryption.decrypt_mut, ChaCha.ChaCha.process, StreamCtx.process, ne_eq,
    not_true_eq_false, if_false, if_true]
  rfl

theorem finalize_raw_inv (c : Context σ) (aad ct : Bytes)
    (h : CtxInv R key nonce At c (aad ++ Spec.Aead.pad16 aad ++ ct) aad.length ct.length) :
    ∃ c', finalize_raw c = .ok (c', Spec.Aead.tag R key nonce aad ct) := by
  obtain ⟨st1, hp, habs1⟩ := pad16_abs _ c.mac _ ct h.mac
  obtain ⟨st2, hin, habs2⟩ := macAbs_input _ st1 _ (natToLE 8 aad.length ++ natToLE 8 ct.length) habs1
  obtain ⟨st3, hres⟩ := macAbs_result _ st2 _ habs2
  refine ⟨{ c with mac := st3 }, ?_⟩
  have hm : aad ++ Spec.Aead.pad16 aad ++ ct ++ Spec.Aead.pad16 ct ++ (natToLE 8 aad.length ++ natToLE 8 ct.length)
      = Spec.Aead.macData aad ct := by
    simp [Spec.Aead.macData, Spec.Aead.le64, List.append_assoc]
  rw [hm] at hres
  simp only [finalize_raw, h.data_len, h.aad_len, hp, hin, hres, liftP, Spec.Aead.tag, otk]

end ctx

end Cx.Proofs.Aead
