/-
  Proofs.AeadBytes — byte-string facts used by the AEAD proofs: `cutAt` (a string cut at given lengths: the pieces the
  streamed interface emits), the padding to 16, and the injectivity of the RFC 8439 §2.8 MAC-input encoding
  (`macData_injective`).  Pure list reasoning, no Mathlib.
-/
import CxVerif.Spec.Aead
import CxVerif.Proofs.StreamBytes
namespace Cx.Proofs.Aead
open Cx.Spec.Stream
open Cx.Proofs.Stream (encrypt_length encrypt_invol)

theorem encrypt_nil (KS : Nat → Bytes) (p : Nat) : encrypt KS p [] = [] := by
  simp [encrypt, xorBytes]

theorem cipher_length (R : Nat) (key nonce pt : Bytes) : (Spec.Aead.cipher R key nonce pt).length = pt.length :=
  encrypt_length _ _ _

theorem cipher_invol (R : Nat) (key nonce pt : Bytes) :
    Spec.Aead.cipher R key nonce (Spec.Aead.cipher R key nonce pt) = pt :=
  encrypt_invol _ _ _

def cutAt : List Nat → Bytes → List Bytes
  | [], _ => []
  | n :: ns, w => w.take n :: cutAt ns (w.drop n)

theorem cutAt_flatten : ∀ (ns : List Nat) (w : Bytes), ns.sum = w.length → (cutAt ns w).flatten = w := by
  intro ns
  induction ns with
  | nil => intro w h; simp at h; simp [cutAt, List.eq_nil_of_length_eq_zero h.symm]
  | cons n ns ih =>
    intro w h
    simp only [cutAt, List.flatten_cons]
    rw [ih (w.drop n) (by simp only [List.sum_cons] at h; rw [List.length_drop]; omega)]
    exact List.take_append_drop n w

theorem cutAt_pair (a b : Nat) (w : Bytes) (h : w.length = a + b) : cutAt [a, b] w = [w.take a, w.drop a] := by
  simp only [cutAt, List.cons.injEq, and_true, true_and]
  exact List.take_of_length_le (by rw [List.length_drop]; omega)

open Cx.Spec.Aead

theorem le64_length (n : Nat) : (le64 n).length = 8 := Bytes.natToLE_length 8 n

theorem pad16_length (x : Bytes) : (pad16 x).length = (16 - x.length % 16) % 16 := by simp [pad16, zeros]

theorem padded_length (x : Bytes) : (x ++ pad16 x).length % 16 = 0 := by
  rw [List.length_append, pad16_length]; omega

theorem pad16_of_length_eq (x y : Bytes) (h : x.length = y.length) : pad16 x = pad16 y := by
  simp [pad16, h]

theorem macData_length (aad ct : Bytes) :
    (macData aad ct).length = aad.length + (pad16 aad).length + ct.length + (pad16 ct).length + 16 := by
  simp only [macData, List.length_append, le64_length]

theorem macData_split (aad ct : Bytes) :
    macData aad ct = (aad ++ pad16 aad ++ ct ++ pad16 ct) ++ (le64 aad.length ++ le64 ct.length) := by
  simp [macData, List.append_assoc]

/-- lengths < 2^64: the RFC's domain -/
theorem macData_injective (aad ct aad' ct' : Bytes)
    (ha : aad.length < 2 ^ 64) (hc : ct.length < 2 ^ 64) (ha' : aad'.length < 2 ^ 64) (hc' : ct'.length < 2 ^ 64)
    (h : macData aad ct = macData aad' ct') : aad = aad' ∧ ct = ct' := by
  rw [macData_split, macData_split] at h
  -- equal total lengths and 16-byte trailers: split at the trailer
  have hbody : (aad ++ pad16 aad ++ ct ++ pad16 ct).length = (aad' ++ pad16 aad' ++ ct' ++ pad16 ct').length := by
    have := congrArg List.length h
    simp only [List.length_append, le64_length] at this ⊢
    omega
  obtain ⟨hb, ht⟩ := List.append_inj h hbody
  -- the trailer gives the two lengths
  obtain ⟨h1, h2⟩ := List.append_inj ht (by rw [le64_length, le64_length])
  have e64 : (256 : Nat) ^ 8 = 2 ^ 64 := by decide
  have la : aad.length = aad'.length := Bytes.natToLE_inj (n := 8) (by omega) (by omega) h1
  have lc : ct.length = ct'.length := Bytes.natToLE_inj (n := 8) (by omega) (by omega) h2
  -- with the lengths known the body splits uniquely
  simp only [List.append_assoc] at hb
  obtain ⟨ea, hb⟩ := List.append_inj hb la
  obtain ⟨_, hb⟩ := List.append_inj hb (by rw [pad16_length, pad16_length, la])
  obtain ⟨ec, _⟩ := List.append_inj hb lc
  exact ⟨ea, ec⟩

end Cx.Proofs.Aead
