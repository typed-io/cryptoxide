/-
  Proofs.AeadDeps — discharges the hypothesis `CipherDeps` of Proofs.Aead from the stream unit's lemmas
  (`chacha_opens`, `process_mut_refines`, `block_length`): for BOTH engine models (`S : EngineSim E α`: `referenceSim`, `sse2Sim`), every key of 16 or
  32 bytes, every 12-byte nonce and R ∈ {8, 12, 20} the IETF `ChaCha<R>` context refines the absolute keystream
  position.  Also: the blockwise `…Fast` evaluation used by the driver equals the Spec.
-/
import CxVerif.Proofs.Aead
import CxVerif.Proofs.StreamEngine
import CxVerif.Proofs.StreamFast
namespace Cx.Proofs.Aead
open Cx.Impl Cx.Impl.ChaCha

variable {σ : Type} {E : Engine σ} {α : σ → W16}

theorem cipherDeps (S : Cx.Proofs.ChaCha.EngineSim E α) (R : Nat) (key nonce : Bytes)
    (hk : Spec.ChaCha.validKey key) (hn : nonce.length = 12) (hR : Spec.ChaCha.validRounds R) :
    ∃ At, CipherDeps E R key nonce At := by
  obtain ⟨s0, hnew, M, habs⟩ := Cx.Proofs.ChaCha.chacha_opens S R key nonce hk hn hR
  exact ⟨Cx.Proofs.Stream.Abs (Cx.Proofs.ChaCha.mk32 E s0) (Spec.ChaCha.blockAt R key nonce),
    { new_at := ⟨_, hnew, habs⟩
      process_mut_at := fun c p data h => Cx.Proofs.Stream.process_mut_refines M.gen c p data h
      block_len := fun n => Cx.Proofs.ChaCha.block_length _ _ _ _ }⟩

theorem with_cipher {P : Prop} (S : Cx.Proofs.ChaCha.EngineSim E α) {R : Nat} {key nonce : Bytes}
    (hk : Spec.ChaCha.validKey key) (hn : nonce.length = 12) (hR : Spec.ChaCha.validRounds R)
    (f : ∀ At, CipherDeps E R key nonce At → P) : P := by
  obtain ⟨At, D⟩ := cipherDeps S R key nonce hk hn hR
  exact f At D

section valid
variable {R : Nat} {k n aad data : Bytes} (hv : Spec.Aead.Valid R k n aad data)
include hv

theorem _root_.Cx.Spec.Aead.Valid.rounds : Spec.ChaCha.validRounds R := hv.1
theorem _root_.Cx.Spec.Aead.Valid.key : Spec.ChaCha.validKey k := hv.2.1
theorem _root_.Cx.Spec.Aead.Valid.nonce : n.length = 12 := hv.2.2.1
theorem _root_.Cx.Spec.Aead.Valid.aad_lt : aad.length < 2 ^ 64 := hv.2.2.2.1
theorem _root_.Cx.Spec.Aead.Valid.data_lt : data.length < 2 ^ 64 := hv.2.2.2.2

theorem with_valid {P : Prop} (S : Cx.Proofs.ChaCha.EngineSim E α) (f : ∀ At, CipherDeps E R k n At → P) : P :=
  with_cipher S hv.key hv.nonce hv.rounds f

end valid

theorem cipherFast_eq (R : Nat) (key nonce data : Bytes) :
    Spec.Aead.cipherFast R key nonce data = Spec.Aead.cipher R key nonce data :=
  Cx.Proofs.Stream.encryptFast_eq _ (fun _ => Cx.Proofs.ChaCha.block_length _ _ _ _) 64 data

theorem encryptFast_eq (R : Nat) (key nonce aad pt : Bytes) :
    Spec.Aead.encryptFast R key nonce aad pt = Spec.Aead.encrypt R key nonce aad pt := by
  simp [Spec.Aead.encryptFast, Spec.Aead.encrypt, cipherFast_eq]

theorem decryptFast_eq (R : Nat) (key nonce aad ct t : Bytes) :
    Spec.Aead.decryptFast R key nonce aad ct t = Spec.Aead.decrypt R key nonce aad ct t := by
  simp [Spec.Aead.decryptFast, Spec.Aead.decrypt, cipherFast_eq]

end Cx.Proofs.Aead
