/-
  Proofs.AeadOneShot — the one-shot object `ChaChaPoly1305<R>` (new / encrypt / decrypt / reuse refused) in terms
  of the context lemmas of Proofs.Aead, the structured histories of the incremental interface (`encProg`, `decProg`), and
  `flipBit` with `flipBit_ne` (one bit of a tag changed: for Props/C07).
-/
import CxVerif.Proofs.AeadHist
namespace Cx.Proofs.Aead
open Cx.Impl Cx.Impl.Aead
open Cx.Proofs.Stream (encrypt_length encrypt_append)

variable {σ : Type}
variable {E : ChaCha.Engine σ} {R : Nat} {key nonce : Bytes} {At : StreamCtx.Ctx σ → Nat → Prop}

theorem oneshot_new (D : CipherDeps E R key nonce At) (aad : Bytes) (hb : aad.length < 2 ^ 64) :
    ∃ o, ChaChaPoly1305.new E R key nonce aad = .ok o ∧ o.finished = false ∧
      CtxInv R key nonce At o.context aad aad.length 0 := by
  obtain ⟨c, hnew, _, hinv⟩ := new_inv D
  obtain ⟨c', hadd, hinv'⟩ := add_data_inv c [] aad 0 0 hinv (by simpa using hb)
  refine ⟨{ finished := false, context := c' }, ?_, rfl, by simpa using hinv'⟩
  simp [ChaChaPoly1305.new, hnew, hadd]

theorem oneshot_encrypt (D : CipherDeps E R key nonce At) (o : ChaChaPoly1305 σ) (aad pt : Bytes)
    (hfin : o.finished = false) (hinv : CtxInv R key nonce At o.context aad aad.length 0)
    (hb : pt.length < 2 ^ 64) :
    ChaChaPoly1305.encrypt E R o pt pt.length 16 =
      .ok ({ o with finished := true }, Spec.Aead.cipher R key nonce pt,
           Spec.Aead.tag R key nonce aad (Spec.Aead.cipher R key nonce pt)) := by
  obtain ⟨c1, h1, inv1⟩ := to_encryption_inv o.context aad hinv
  obtain ⟨c2, h2, inv2⟩ := encrypt_mut_inv D c1 aad [] pt inv1 (by simpa using hb)
  simp only [List.length_nil, Nat.add_zero, List.nil_append] at h2 inv2
  obtain ⟨c3, h3⟩ := finalize_raw_inv c2 aad _ inv2
  simp only [ChaChaPoly1305.encrypt, hfin, ne_eq, not_true_eq_false, if_false, h1, encrypt_eq_mut, h2, ContextEncryption.finalize, h3,
    Spec.Aead.cipher]
  rfl

theorem oneshot_decrypt (D : CipherDeps E R key nonce At) (o : ChaChaPoly1305 σ) (aad ct tag : Bytes)
    (hfin : o.finished = false) (hinv : CtxInv R key nonce At o.context aad aad.length 0)
    (hb : ct.length < 2 ^ 64) (ht : tag.length = 16) :
    ChaChaPoly1305.decrypt E R o ct ct.length tag =
      .ok ({ o with finished := true }, Spec.Aead.cipher R key nonce ct,
           decide (tag = Spec.Aead.tag R key nonce aad ct)) := by
  obtain ⟨c1, h1, inv1⟩ := to_encryption_inv o.context aad hinv
  obtain ⟨c2, h2, inv2⟩ := decrypt_mut_inv D c1 aad [] ct inv1 (by simpa using hb)
  simp only [List.length_nil, Nat.add_zero, List.nil_append] at h2 inv2
  obtain ⟨c3, h3⟩ := finalize_raw_inv c2 aad _ inv2
  simp only [ChaChaPoly1305.decrypt, hfin, ht, ne_eq, not_true_eq_false, if_false, to_decryption_eq, h1, decrypt_eq_mut, h2,
    ContextDecryption.finalize, h3, tag_eq_decide ht, Spec.Aead.cipher]
  rfl

/-- three `assert!`s in a row: if one of them fails the call panics, whatever would follow -/
theorem asserts_panic {α : Type} {g1 g2 g3 : Prop} [Decidable g1] [Decidable g2] [Decidable g3] {k : Except String α}
    (h : g1 ∨ g2 ∨ g3) :
    (if g1 then .error "PANIC" else if g2 then .error "PANIC" else if g3 then .error "PANIC" else k) = .error "PANIC" := by
  by_cases h1 : g1 <;> by_cases h2 : g2 <;> by_cases h3 : g3 <;> simp_all

theorem oneshot_finished_refuses_encrypt (o : ChaChaPoly1305 σ) (h : o.finished = true) (input : Bytes) (n l : Nat) :
    ChaChaPoly1305.encrypt E R o input n l = .error "PANIC" :=
  asserts_panic (.inr (.inl h))

theorem oneshot_encrypt_refuses_lengths (o : ChaChaPoly1305 σ) (input : Bytes) (n l : Nat)
    (h : input.length ≠ n ∨ l ≠ 16) : ChaChaPoly1305.encrypt E R o input n l = .error "PANIC" :=
  asserts_panic (h.imp_right .inr)

theorem oneshot_finished_refuses_decrypt (o : ChaChaPoly1305 σ) (h : o.finished = true) (input : Bytes) (n : Nat)
    (tag : Bytes) : ChaChaPoly1305.decrypt E R o input n tag = .error "PANIC" :=
  asserts_panic (.inr (.inr h))

theorem oneshot_decrypt_refuses_lengths (o : ChaChaPoly1305 σ) (input : Bytes) (n : Nat) (tag : Bytes)
    (h : input.length ≠ n ∨ tag.length ≠ 16) : ChaChaPoly1305.decrypt E R o input n tag = .error "PANIC" :=
  asserts_panic (h.symm.imp_right .inl)

theorem absRun_addData (R : Nat) (key nonce : Bytes) : ∀ (as : List Bytes) (aad : Bytes) (rest : List Op),
    absRun R key nonce ⟨.aad, aad, []⟩ (as.map Op.addData ++ rest) =
      absRun R key nonce ⟨.aad, aad ++ as.flatten, []⟩ rest := by
  intro as
  induction as with
  | nil => intro aad rest; simp
  | cons a as ih =>
    intro aad rest
    simp only [List.map_cons, List.cons_append, absRun, absStep, List.flatten_cons]
    rw [ih, List.append_assoc]
    cases absRun R key nonce ⟨.aad, aad ++ (a ++ as.flatten), []⟩ rest with
    | none => rfl
    | some r => obtain ⟨x, y⟩ := r; simp

/-- an encryption call: buffer-to-buffer (`false`) or in place (`true`) -/
def encOp (p : Bytes × Bool) : Op := if p.2 then .encryptMut p.1 else .encrypt p.1 p.1.length
def decOp (p : Bytes × Bool) : Op := if p.2 then .decryptMut p.1 else .decrypt p.1 p.1.length

theorem absStep_encOp (R : Nat) (key nonce : Bytes) (aad ct : Bytes) (p : Bytes × Bool) :
    absStep R key nonce ⟨.enc, aad, ct⟩ (encOp p) =
      some (⟨.enc, aad, ct ++ Spec.ChaCha.encrypt R key nonce (64 + ct.length) p.1⟩,
            [.bytes (Spec.ChaCha.encrypt R key nonce (64 + ct.length) p.1)]) := by
  obtain ⟨d, b⟩ := p
  cases b <;> simp [encOp, absStep]

theorem absStep_decOp (R : Nat) (key nonce : Bytes) (aad ct : Bytes) (p : Bytes × Bool) :
    absStep R key nonce ⟨.dec, aad, ct⟩ (decOp p) =
      some (⟨.dec, aad, ct ++ p.1⟩, [.bytes (Spec.ChaCha.encrypt R key nonce (64 + ct.length) p.1)]) := by
  obtain ⟨d, b⟩ := p
  cases b <;> simp [decOp, absStep]

theorem absRun_enc (R : Nat) (key nonce aad : Bytes) : ∀ (ps : List (Bytes × Bool)) (ct : Bytes),
    absRun R key nonce ⟨.enc, aad, ct⟩ (ps.map encOp ++ [Op.finalizeEnc]) =
      some (⟨.done, aad, ct ++ Spec.ChaCha.encrypt R key nonce (64 + ct.length) (ps.map (·.1)).flatten⟩,
            dataOuts R key nonce (64 + ct.length) (ps.map (·.1)) ++
            [.bytes (Spec.Aead.tag R key nonce aad
              (ct ++ Spec.ChaCha.encrypt R key nonce (64 + ct.length) (ps.map (·.1)).flatten))]) := by
  intro ps
  induction ps with
  | nil =>
    intro ct
    simp [absRun, absStep, dataOuts, Spec.ChaCha.encrypt, encrypt_nil]
  | cons p ps ih =>
    intro ct
    simp only [List.map_cons, List.cons_append, absRun, absStep_encOp, ih, List.flatten_cons, dataOuts]
    have happ := encrypt_append (Spec.ChaCha.blockAt R key nonce) (64 + ct.length) p.1 (ps.map (·.1)).flatten
    have hlen : (Spec.ChaCha.encrypt R key nonce (64 + ct.length) p.1).length = p.1.length := encrypt_length _ _ _
    simp only [Spec.ChaCha.encrypt] at happ hlen ⊢
    simp only [List.length_append, hlen, happ, Nat.add_assoc, List.append_assoc, List.nil_append]

theorem absRun_dec (R : Nat) (key nonce aad t : Bytes) (ht : t.length = 16) : ∀ (ps : List (Bytes × Bool)) (ct : Bytes),
    absRun R key nonce ⟨.dec, aad, ct⟩ (ps.map decOp ++ [Op.finalizeDec t]) =
      some (⟨.done, aad, ct ++ (ps.map (·.1)).flatten⟩,
            dataOuts R key nonce (64 + ct.length) (ps.map (·.1)) ++
            [.verdict (decide (t = Spec.Aead.tag R key nonce aad (ct ++ (ps.map (·.1)).flatten)))]) := by
  intro ps
  induction ps with
  | nil =>
    intro ct
    simp [absRun, absStep, dataOuts, ht]
  | cons p ps ih =>
    intro ct
    simp only [List.map_cons, List.cons_append, absRun, absStep_decOp, ih, List.flatten_cons, dataOuts]
    simp only [List.length_append, Nat.add_assoc, List.append_assoc, List.nil_append]

def encProg (as : List Bytes) (ps : List (Bytes × Bool)) : List Op :=
  as.map Op.addData ++ ([Op.toEnc] ++ (ps.map encOp ++ [Op.finalizeEnc]))

def decProg (as : List Bytes) (ps : List (Bytes × Bool)) (t : Bytes) : List Op :=
  as.map Op.addData ++ ([Op.toDec] ++ (ps.map decOp ++ [Op.finalizeDec t]))

section prog
variable (D : CipherDeps E R key nonce At) (as : List Bytes) (ps : List (Bytes × Bool))
include D

theorem runNew_encProg (hA : as.flatten.length < 2 ^ 64) (hP : (ps.map (·.1)).flatten.length < 2 ^ 64) :
    runNew E R key nonce (encProg as ps) =
      .ok ((cutAt (ps.map (·.1.length)) (Spec.Aead.encrypt R key nonce as.flatten (ps.map (·.1)).flatten).1).map Out.bytes
           ++ [.bytes (Spec.Aead.encrypt R key nonce as.flatten (ps.map (·.1)).flatten).2]) := by
  have habs : absRun R key nonce ⟨.aad, [], []⟩ (encProg as ps) =
      some (⟨.done, as.flatten, Spec.Aead.cipher R key nonce (ps.map (·.1)).flatten⟩,
        dataOuts R key nonce 64 (ps.map (·.1)) ++
          [.bytes (Spec.Aead.tag R key nonce as.flatten (Spec.Aead.cipher R key nonce (ps.map (·.1)).flatten))]) := by
    unfold encProg
    rw [absRun_addData]
    simp only [List.nil_append, List.singleton_append, absRun, absStep]
    rw [absRun_enc]
    simp [Spec.Aead.cipher]
  rw [runNew_refines D _ _ _ habs ⟨hA, by rw [cipher_length]; exact hP⟩,
    dataOuts_eq_cut]
  simp [Spec.Aead.encrypt, Spec.Aead.cipher, List.map_map, Function.comp_def]

theorem runNew_decProg (t : Bytes) (ht : t.length = 16)
    (hA : as.flatten.length < 2 ^ 64) (hP : (ps.map (·.1)).flatten.length < 2 ^ 64) :
    runNew E R key nonce (decProg as ps t) =
      .ok ((cutAt (ps.map (·.1.length)) (Spec.Aead.cipher R key nonce (ps.map (·.1)).flatten)).map Out.bytes
           ++ [.verdict (decide (t = Spec.Aead.tag R key nonce as.flatten (ps.map (·.1)).flatten))]) := by
  have habs : absRun R key nonce ⟨.aad, [], []⟩ (decProg as ps t) =
      some (⟨.done, as.flatten, (ps.map (·.1)).flatten⟩,
        dataOuts R key nonce 64 (ps.map (·.1)) ++
          [.verdict (decide (t = Spec.Aead.tag R key nonce as.flatten (ps.map (·.1)).flatten))]) := by
    unfold decProg
    rw [absRun_addData]
    simp only [List.nil_append, List.singleton_append, absRun, absStep]
    rw [absRun_dec _ _ _ _ _ ht]
    simp
  rw [runNew_refines D _ _ _ habs ⟨hA, hP⟩, dataOuts_eq_cut]
  simp [Spec.Aead.cipher, List.map_map, Function.comp_def]

end prog

/-- flip bit `i` (bit `i % 8` of byte `i / 8`) of a byte string -/
def flipBit : Bytes → Nat → Bytes
  | [], _ => []
  | b :: bs, i => if i < 8 then (b ^^^ ((1 : UInt8) <<< UInt8.ofNat i)) :: bs else b :: flipBit bs (i - 8)

theorem flipBit_length : ∀ (t : Bytes) (i : Nat), (flipBit t i).length = t.length := by
  intro t
  induction t with
  | nil => intro i; rfl
  | cons b bs ih =>
    intro i
    simp only [flipBit]
    split
    · simp
    · simp [ih]

theorem shl_ne_zero : ∀ i : Fin 8, (1 : UInt8) <<< UInt8.ofNat i.val ≠ 0 := by decide

theorem xor_ne_self (b m : UInt8) (hm : m ≠ 0) : b ^^^ m ≠ b := by
  intro h
  apply hm
  have : b ^^^ (b ^^^ m) = b ^^^ b := by rw [h]
  rw [← UInt8.xor_assoc, UInt8.xor_self, UInt8.zero_xor] at this
  exact this

theorem flipBit_ne : ∀ (t : Bytes) (i : Nat), i < 8 * t.length → flipBit t i ≠ t := by
  intro t
  induction t with
  | nil => intro i h; simp at h
  | cons b bs ih =>
    intro i h
    simp only [flipBit]
    split
    · rename_i hi
      intro he
      simp only [List.cons.injEq, and_true] at he
      exact xor_ne_self b _ (shl_ne_zero ⟨i, hi⟩) he
    · rename_i hi
      intro he
      simp only [List.cons.injEq, true_and] at he
      exact ih (i - 8) (by simp only [List.length_cons] at h; omega) he

end Cx.Proofs.Aead
