/-
  Proofs.Argon2Assemble — links (b)–(e) of the Argon2 assembly (the letters are those of the list at the end of
  Props/C11/Argon2.lean; (a) is Proofs/Argon2Prologue.lean); Props/C11/Argon2Full.lean chains them.
-/
import CxVerif.Proofs.Argon2Prologue
import CxVerif.Proofs.Argon2Hash
namespace Cx.Proofs.Argon2
open Cx.Spec.Argon2
open Cx.Impl.Argon2 (subU SYNC_POINTS BlockPos)

/-- the numeric part of the RFC's domain that the memory geometry needs -/
structure Geo (c : Params) : Prop where
  hp : 1 ≤ c.p
  hm : 8 * c.p ≤ c.m
  hm2 : c.m < 2 ^ 32

theorem Geo.pos {c : Params} (g : Geo c) {i : Nat} (hi : i < c.p) : Pos c 1 i 0 0 :=
  ⟨g.hp, g.hm, g.hm2, hi, by omega, by have := segLen_ge c g.hp g.hm; omega, by omega⟩

theorem Geo.bounds {c : Params} (g : Geo c) {i : Nat} (hi : i < c.p) :
    c.p * q c < 2 ^ 32 ∧ i * q c + q c ≤ c.p * q c ∧ 8 ≤ q c := (g.pos hi).bounds

theorem size_setB (c : Params) (B : Memory) (i j : Nat) (x : Block) : (setB c B i j x).size = B.size := by
  simp [setB]

theorem set_block_at_eq (c : Params) (B : Memory) (i j : Nat) (x : Block) (h : i * q c + j < B.size)
    (h64 : i * q c + j < 2 ^ 64) :
    (mk c B).set_block_at i j x = some (mk c (setB c B i j x)) := by
  unfold Impl.Argon2.Memory.set_block_at Impl.Argon2.Memory.set_block_index mk setB
  simp only [Option.bind_eq_bind]
  rw [mul64_some (by omega)]
  simp only [Option.bind_some]
  rw [add64_some h64]
  simp only [Option.bind_some]
  rw [if_pos h]

def firstStep (c : Params) (h0 : Bytes) (B : Memory) (i : Nat) : Memory :=
  let B := setB c B i 0 (blockOfBytes (Hprime 1024 (h0 ++ LE32 0 ++ LE32 i)))
  setB c B i 1 (blockOfBytes (Hprime 1024 (h0 ++ LE32 1 ++ LE32 i)))

theorem firstBlocks_eq (c : Params) (h0 : Bytes) :
    firstBlocks c h0 = (List.range c.p).foldl (firstStep c h0) (Array.replicate (mPrime c) zeroBlock) := rfl

/-- (b) the first loop of `process` = RFC 9106 3.2 steps 3, 4, from any list of lanes -/
theorem process_init_eq (c : Params) (g : Geo c) (h0 : Bytes) :
    ∀ (lanes : List Nat) (B : Memory), (∀ l ∈ lanes, l < c.p) → B.size = c.p * q c →
      Impl.Argon2.process_init h0 lanes (mk c B) = some (mk c (lanes.foldl (firstStep c h0) B)) ∧
      (lanes.foldl (firstStep c h0) B).size = c.p * q c
  | [], B, _, hB => ⟨rfl, hB⟩
  | i :: rest, B, hl, hB => by
    have hi : i < c.p := hl i (List.mem_cons_self)
    obtain ⟨hb1, hb2, hb3⟩ := g.bounds hi
    have hs : (firstStep c h0 B i).size = c.p * q c := by unfold firstStep; simp only [size_setB, hB]
    obtain ⟨e, hsz⟩ := process_init_eq c g h0 rest (firstStep c h0 B i) (fun l h => hl l (List.mem_cons_of_mem _ h)) hs
    rw [List.foldl_cons]
    refine ⟨?_, hsz⟩
    unfold Impl.Argon2.process_init
    rw [hprime_block_init_eq]
    simp only []
    rw [set_block_at_eq c B i 0 _ (by omega) (by omega)]
    simp only []
    rw [hprime_block_init_eq]
    simp only []
    rw [set_block_at_eq c _ i 1 _ (by rw [size_setB]; omega) (by omega)]
    simp only []
    exact e

/-- one level of the three nested loops (used for passes, slices and lanes) -/
theorem process_fill_flatMap (c : Params) (params : Impl.Argon2.Params) {ι : Type} (pos : ι → List BlockPos)
    (f : Memory → ι → Memory) (ok : ι → Prop)
    (h : ∀ x B, ok x → B.size = c.p * q c →
      Impl.Argon2.process_fill params (pos x) (mk c B) = some (mk c (f B x)) ∧ (f B x).size = c.p * q c) :
    ∀ (xs : List ι) (B : Memory), (∀ x ∈ xs, ok x) → B.size = c.p * q c →
      Impl.Argon2.process_fill params (xs.flatMap pos) (mk c B) = some (mk c (xs.foldl f B)) ∧
      (xs.foldl f B).size = c.p * q c
  | [], B, _, hB => ⟨rfl, hB⟩
  | x :: rest, B, hl, hB => by
    obtain ⟨e1, hs⟩ := h x B (hl x List.mem_cons_self) hB
    rw [List.foldl_cons, List.flatMap_cons, process_fill_append, e1, Option.bind_some]
    exact process_fill_flatMap c params pos f ok h rest _ (fun y hy => hl y (List.mem_cons_of_mem _ hy)) hs

theorem process_fill_lanes (c : Params) (params : Impl.Argon2.Params) (hc : Corr params c) (g : Geo c) (r sl : Nat)
    (hsl : sl < 4) (B : Memory) (hB : B.size = c.p * q c) :
    Impl.Argon2.process_fill params ((List.range c.p).map fun lane => ⟨r, lane, sl, 0⟩) (mk c B) =
        some (mk c ((List.range c.p).foldl (fillSegment c r sl) B)) ∧
      ((List.range c.p).foldl (fillSegment c r sl) B).size = c.p * q c := by
  rw [List.map_eq_flatMap]
  refine process_fill_flatMap c params _ (fillSegment c r sl) (· < c.p) (fun i B hi hB => ?_) _ B
    (fun l h => List.mem_range.mp h) hB
  obtain ⟨e1, hs⟩ := fill_segment_eq c params hc r i sl 0 g.hp g.hm g.hm2 hi hsl B hB
  refine ⟨?_, hs⟩
  unfold Impl.Argon2.process_fill
  rw [e1]
  rfl

theorem process_fill_passes (c : Params) (params : Impl.Argon2.Params) (hc : Corr params c) (g : Geo c) (passes : List Nat)
    (B : Memory) (hB : B.size = c.p * q c) :
    Impl.Argon2.process_fill params
        (passes.flatMap fun pass => (List.range SYNC_POINTS).flatMap fun slice =>
          (List.range params.parallelism).map fun lane => ⟨pass, lane, slice, 0⟩) (mk c B) =
      some (mk c (passes.foldl (fun B r => (List.range SL).foldl (fun B sl =>
        (List.range c.p).foldl (fillSegment c r sl) B) B) B)) ∧
    (passes.foldl (fun B r => (List.range SL).foldl (fun B sl =>
        (List.range c.p).foldl (fillSegment c r sl) B) B) B).size = c.p * q c := by
  rw [hc.p]
  refine process_fill_flatMap c params _ _ (fun _ => True) (fun r B _ hB => ?_) passes B (fun _ _ => trivial) hB
  exact process_fill_flatMap c params _ _ (· < 4) (fun sl B hsl hB => process_fill_lanes c params hc g r sl hsl B hB)
    (List.range SL) B (fun l h => List.mem_range.mp h) hB

/-- (c) the three nested loops of `process` = RFC 9106 3.2 steps 5, 6 (all passes, slices, lanes) -/
theorem process_fill_eq (c : Params) (params : Impl.Argon2.Params) (hc : Corr params c) (g : Geo c) (B : Memory)
    (hB : B.size = c.p * q c) :
    Impl.Argon2.process_fill params (Impl.Argon2.process_positions params) (mk c B) = some (mk c (fillMemory c B)) ∧
    (fillMemory c B).size = c.p * q c := by
  unfold Impl.Argon2.process_positions fillMemory
  rw [hc.t]
  exact process_fill_passes c params hc g (List.range c.t) B hB

theorem xorBlock_zero_left (b : Block) : xorBlock zeroBlock b = b := by
  ext k hk
  simp [xorBlock, zeroBlock]

theorem process_final_eq (c : Params) (g : Geo c) (B : Memory) (hB : B.size = c.p * q c) :
    ∀ (lanes : List Nat) (C : Block), (∀ l ∈ lanes, l < c.p) →
      Impl.Argon2.process_final (mk c B) lanes C =
        some (lanes.foldl (fun C i => xorBlock C (getB c B i (q c - 1))) C)
  | [], C, _ => rfl
  | i :: rest, C, hl => by
    have hi : i < c.p := hl i (List.mem_cons_self)
    obtain ⟨hb1, hb2, hb3⟩ := g.bounds hi
    unfold Impl.Argon2.process_final
    simp only [Impl.Argon2.Memory.stride, mk, Option.bind_eq_bind]
    rw [mul32_some (by omega)]
    simp only [Option.bind_some]
    rw [subU_some (by omega)]
    simp only [Option.bind_some]
    rw [add32_some (by omega)]
    simp only [Impl.Argon2.Memory.block_index]
    rw [getElem?_getB c B i (q c - 1) (by omega)]
    simp only [List.foldl_cons]
    exact process_final_eq c g B hB rest _ (fun l h => hl l (List.mem_cons_of_mem _ h))

/-- (d) the first-lane read plus the loop over lanes `1 .. p−1` = RFC 9106 3.2 step 7 -/
theorem final_eq (c : Params) (g : Geo c) (B : Memory) (hB : B.size = c.p * q c) :
    ((subU (mk c B).stride 1).bind (mk c B).block_index).bind
        (Impl.Argon2.process_final (mk c B) (List.range' 1 (c.p - 1))) = some (finalBlock c B) := by
  have hp := g.hp
  obtain ⟨hb1, hb2, hb3⟩ := g.bounds (show 0 < c.p by omega)
  simp only [Impl.Argon2.Memory.stride, mk]
  rw [subU_some (by omega), Option.bind_some]
  simp only [Impl.Argon2.Memory.block_index]
  have h0 := getElem?_getB c B 0 (q c - 1) (by omega)
  rw [Nat.zero_mul, Nat.zero_add] at h0
  rw [h0, Option.bind_some]
  have := process_final_eq c g B hB (List.range' 1 (c.p - 1)) (getB c B 0 (q c - 1))
    (fun l h => by have := List.mem_range'_1.mp h; omega)
  simp only [mk] at this
  rw [this]
  unfold finalBlock
  obtain ⟨n, hn⟩ : ∃ n, c.p = n + 1 := ⟨c.p - 1, by omega⟩
  rw [hn, List.range_eq_range', List.range'_succ, List.foldl_cons, xorBlock_zero_left]
  rfl

/-- `H0::new` = RFC 9106 3.2 step 1 for every input: the `as u32` casts of the lengths and of the tag length are what
    `LE32` does anyway -/
theorem H0_eq (c : Params) (params : Impl.Argon2.Params) (hc : Corr params c) (pwd salt key aad : Bytes) :
    Impl.Argon2.H0.new params pwd salt key aad (c.T % 2 ^ 32) = some (H0 c pwd salt key aad) := by
  rw [H0_new_eq, hc.p, hc.t, hc.m, hc.v, hc.y, tyOf_toNat, show LE32 (c.T % 2 ^ 32) = LE32 c.T from LE32_mod _]
  rfl

/-- (e) `Memory::new`: m' zero blocks -/
theorem memory_new_eq (c : Params) (params : Impl.Argon2.Params) (hc : Corr params c) (g : Geo c) :
    Impl.Argon2.Memory.new params = some (mk c (Array.replicate (mPrime c) zeroBlock)) := by
  obtain ⟨hb1, _, _⟩ := g.bounds (show 0 < c.p from g.hp)
  unfold Impl.Argon2.Memory.new
  simp only [hc.p, hc.lane, Option.bind_eq_bind, Option.pure_def]
  rw [mul64_some (by omega), Option.bind_some, (geometry c g.hp).2.2]
  rfl

/-- (e) `process` = RFC 9106 3.2 steps 3–8 on the freshly allocated memory -/
theorem process_eq (c : Params) (params : Impl.Argon2.Params) (hc : Corr params c) (g : Geo c) (h0 : Bytes) (T : Nat)
    (hT : 1 ≤ T) :
    Impl.Argon2.process params h0 (mk c (Array.replicate (mPrime c) zeroBlock)) T =
      some (Hprime T (bytesOfBlock (finalBlock c (fillMemory c (firstBlocks c h0))))) := by
  have hsz : (Array.replicate (mPrime c) zeroBlock).size = c.p * q c := by
    rw [Array.size_replicate, (geometry c g.hp).2.2]
  obtain ⟨e1, s1⟩ := process_init_eq c g h0 (List.range c.p) _ (fun l h => List.mem_range.mp h) hsz
  rw [← firstBlocks_eq] at e1 s1
  obtain ⟨e2, s2⟩ := process_fill_eq c params hc g _ s1
  have e3 := final_eq c g _ s2
  unfold Impl.Argon2.process
  rw [hc.p, e1]
  simp only []
  rw [e2]
  simp only []
  cases h : (subU (mk c (fillMemory c (firstBlocks c h0))).stride 1).bind
      (mk c (fillMemory c (firstBlocks c h0))).block_index with
  | none => rw [h] at e3; simp at e3
  | some bh =>
    rw [h, Option.bind_some] at e3
    simp only []
    rw [e3]
    simp only []
    exact hprime_eq T _ hT

end Cx.Proofs.Argon2
