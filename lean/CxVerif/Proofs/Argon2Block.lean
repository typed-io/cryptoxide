/-
  Proofs.Argon2Block — the word-level part of Argon2: `add_and_mul` / `fBlaMka` on naturals, the code's `gb`/`p`
  (16 scalars) = the RFC's GB/P (4×4 word matrix), the two unrolled loops of `fill_block` = "P on every row, then
  on every column" of the 8×8 register matrix, `fill_block` = G with / without XOR.  Core Lean only.
-/
import CxVerif.Impl.Argon2
import CxVerif.Proofs.KernelRfl
namespace Cx.Proofs.Argon2
open Cx.Impl.Argon2 Cx.Spec.Argon2

theorem and_mask (x : UInt64) : (x &&& 0xffffffff).toNat = x.toNat % 2 ^ 32 := by
  rw [UInt64.toNat_and]
  exact Nat.and_two_pow_sub_one_eq_mod x.toNat 32

/-- the plain `*` of `add_and_mul` cannot overflow u64 (both factors are below 2^32) -/
theorem add_and_mul_no_overflow (x y : UInt64) : (x &&& 0xffffffff).toNat * (y &&& 0xffffffff).toNat < 2 ^ 64 := by
  rw [and_mask, and_mask]
  have hx : x.toNat % 2 ^ 32 < 2 ^ 32 := Nat.mod_lt _ (by decide)
  have hy : y.toNat % 2 ^ 32 < 2 ^ 32 := Nat.mod_lt _ (by decide)
  calc _ < 2 ^ 32 * 2 ^ 32 := Nat.mul_lt_mul'' hx hy
    _ = 2 ^ 64 := by decide

theorem add_and_mul_toNat (x y : UInt64) :
    (add_and_mul x y).toNat = (x.toNat + y.toNat + 2 * (x.toNat % 2 ^ 32) * (y.toNat % 2 ^ 32)) % 2 ^ 64 := by
  unfold add_and_mul
  simp only [UInt64.toNat_add, UInt64.toNat_shiftLeft, UInt64.toNat_mul, and_mask]
  have h1 : (UInt64.toNat 1) % 64 = 1 := by decide
  rw [h1, Nat.shiftLeft_eq, Nat.mul_assoc 2]
  generalize (x.toNat % 2 ^ 32) * (y.toNat % 2 ^ 32) = pr
  omega

/-- the Spec's UInt64 formula read on naturals: RFC 9106 3.6 `(a + b + 2 * trunc(a) * trunc(b)) mod 2^64` -/
theorem fBlaMka_toNat (a b : UInt64) :
    (fBlaMka a b).toNat = (a.toNat + b.toNat + 2 * (a.toNat % 2 ^ 32) * (b.toNat % 2 ^ 32)) % 2 ^ 64 := by
  unfold fBlaMka trunc
  simp only [UInt64.toNat_add, UInt64.toNat_mul, UInt64.toNat_mod]
  have h1 : (UInt64.toNat 0x100000000) = 2 ^ 32 := by decide
  have h2 : (UInt64.toNat 2) = 2 := by decide
  rw [h1, h2]
  have hu : a.toNat % 2 ^ 32 < 2 ^ 32 := Nat.mod_lt _ (by decide)
  rw [Nat.mod_eq_of_lt (show 2 * (a.toNat % 2 ^ 32) < 2 ^ 64 by omega)]
  omega

theorem add_and_mul_eq_fBlaMka (a b : UInt64) : add_and_mul a b = fBlaMka a b :=
  UInt64.toNat_inj.mp (by rw [add_and_mul_toNat, fBlaMka_toNat])

theorem rot32 (x : UInt64) : rotate_right x 32 = rotr64 x 32 := by
  simp [rotate_right, rotr64, rotl64, UInt64.or_comm]
theorem rot24 (x : UInt64) : rotate_right x 24 = rotr64 x 24 := by
  simp [rotate_right, rotr64, rotl64, UInt64.or_comm]
theorem rot16 (x : UInt64) : rotate_right x 16 = rotr64 x 16 := by
  simp [rotate_right, rotr64, rotl64, UInt64.or_comm]
theorem rot63 (x : UInt64) : rotate_right x 63 = rotr64 x 63 := by
  simp [rotate_right, rotr64, rotl64, UInt64.or_comm]

def ofVec (v : Vector UInt64 16) : V16 :=
  ⟨v[0], v[1], v[2], v[3], v[4], v[5], v[6], v[7], v[8], v[9], v[10], v[11], v[12], v[13], v[14], v[15]⟩
def toVec (v : V16) : Vector UInt64 16 :=
  #v[v.v0, v.v1, v.v2, v.v3, v.v4, v.v5, v.v6, v.v7, v.v8, v.v9, v.v10, v.v11, v.v12, v.v13, v.v14, v.v15]

theorem toVec_ofVec (v : Vector UInt64 16) : toVec (ofVec v) = v := by
  obtain ⟨⟨l⟩, h⟩ := v
  iterate 16 (rcases l with _ | ⟨_, l⟩; · simp at h)
  rcases l with _ | ⟨_, l⟩
  · rfl
  · simp at h

theorem gb_spec (a b c d : UInt64) : gb a b c d =
    let a := fBlaMka a b
    let d := rotr64 (d ^^^ a) 32
    let c := fBlaMka c d
    let b := rotr64 (b ^^^ c) 24
    let a := fBlaMka a b
    let d := rotr64 (d ^^^ a) 16
    let c := fBlaMka c d
    let b := rotr64 (b ^^^ c) 63
    ⟨a, b, c, d⟩ := by
  simp only [gb, rot32, rot24, rot16, rot63, add_and_mul_eq_fBlaMka]

theorem P_lit (v0 v1 v2 v3 v4 v5 v6 v7 v8 v9 v10 v11 v12 v13 v14 v15 : UInt64) :
    P #v[v0, v1, v2, v3, v4, v5, v6, v7, v8, v9, v10, v11, v12, v13, v14, v15] =
      toVec (p ⟨v0, v1, v2, v3, v4, v5, v6, v7, v8, v9, v10, v11, v12, v13, v14, v15⟩) := by
  simp only [p, gb_spec]
  -- both sides are the same straight-line program on the 16 words; the elaborator's `rfl` would evaluate the 64
  -- `set`s without sharing
  kernel_rfl

theorem P_eq (v : Vector UInt64 16) : P v = toVec (p (ofVec v)) := by
  conv => lhs; rw [← toVec_ofVec v]
  exact P_lit ..

/-- word positions of row `i` of the register matrix: `16 i + k` (the code's `block_r[16 * i + k]`) -/
theorem wordIdx_row (i : Fin 8) (k : Fin 16) : (wordIdx (rowReg i) k).val = 16 * i.val + k.val := by
  simp only [wordIdx, wordOf, rowReg]; omega

/-- word positions of column `i`: `2 i + 16 ⌊k/2⌋ + k mod 2` (the code's `block_r[2 * i + {0,1,16,17,…,112,113}]`) -/
theorem wordIdx_col (i : Fin 8) (k : Fin 16) :
    (wordIdx (colReg i) k).val = 2 * i.val + (16 * (k.val / 2) + k.val % 2) := by
  simp only [wordIdx, wordOf, colReg]; omega

theorem row_eq (R : Block) (i : Fin 8) : fill_block_row R i = applyP R (rowReg i) := by
  have h : wordIdx (rowReg i) = fun k => ⟨16 * i.val + k.val, by omega⟩ := funext fun k => Fin.ext (wordIdx_row i k)
  simp only [applyP, P_eq, h]
  -- `kernel_rfl` reads the goal as an application of `Eq` and does not look through what `simp only` leaves around it
  -- (metadata, uninstantiated metavariables): `show` restates it as a plain equation; the same in `col_eq`
  show _ = _
  kernel_rfl

theorem col_eq (R : Block) (i : Fin 8) : fill_block_col R i = applyP R (colReg i) := by
  have h : wordIdx (colReg i) = fun k => ⟨2 * i.val + (16 * (k.val / 2) + k.val % 2), by omega⟩ :=
    funext fun k => Fin.ext (wordIdx_col i k)
  simp only [applyP, P_eq, h]
  show _ = _
  kernel_rfl

theorem xorBlock_comm (a b : Block) : xorBlock a b = xorBlock b a := by
  ext i hi
  simp [xorBlock, UInt64.xor_comm]

theorem xorBlock_assoc (a b c : Block) : xorBlock (xorBlock a b) c = xorBlock a (xorBlock b c) := by
  ext i hi
  simp [xorBlock, UInt64.xor_assoc]

theorem bitxor_eq (a b : Block) : Block.bitxor_assign a b = xorBlock a b := rfl

theorem rows_cols_eq (R : Block) :
    (List.finRange 8).foldl fill_block_col ((List.finRange 8).foldl fill_block_row R) =
      (List.finRange 8).foldl (fun B i => applyP B (colReg i)) ((List.finRange 8).foldl (fun B i => applyP B (rowReg i)) R) := by
  have h1 : fill_block_row = fun B i => applyP B (rowReg i) := by funext B i; exact row_eq B i
  have h2 : fill_block_col = fun B i => applyP B (colReg i) := by funext B i; exact col_eq B i
  rw [h1, h2]

theorem fill_block_eq_G (prev ref next : Block) : fill_block prev ref next false = G prev ref := by
  unfold fill_block G
  simp only [bitxor_eq, Bool.false_eq_true, if_false]
  rw [rows_cols_eq, xorBlock_comm ref prev, xorBlock_comm]

theorem fill_block_xor_eq_G (prev ref next : Block) : fill_block prev ref next true = xorBlock (G prev ref) next := by
  unfold fill_block G
  simp only [bitxor_eq, if_true]
  rw [rows_cols_eq, xorBlock_comm ref prev, xorBlock_assoc, xorBlock_comm next, ← xorBlock_assoc, xorBlock_comm (xorBlock prev ref)]

end Cx.Proofs.Argon2
