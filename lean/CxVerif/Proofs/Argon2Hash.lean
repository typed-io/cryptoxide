/-
  Proofs.Argon2Hash — the BLAKE2b-based functions of Argon2: chains of `Context` / `ContextDyn` calls = `H^x` of the
  concatenated input (through the refinement relation `Rel` of Proofs.Blake2), `hprime` = RFC 9106 3.3 H' for
  every output length, `hprime_block_init` = H'^1024, `H0::new` = the H_0 field layout.  The loops and the last write of
  H' are characterised on ANY buffer (every byte is overwritten): the models start from zeros, the source from the
  caller's buffer (Proofs.GlueArgon2Hash).  Core Lean only.
-/
import CxVerif.Proofs.Blake2Hist
import CxVerif.Impl.Argon2
namespace Cx.Proofs.Argon2
open Cx.Spec.Argon2
open Cx.Proofs.Blake2 (Rel RelA good_b impl_b_eq_spec_b fits_wrapping)
open Cx.Impl.Blake2 (Ctx Context ContextDyn setSlice)

/-- an unkeyed BLAKE2b context for `nn` output bytes that has absorbed `data` -/
def RelN (nn : Nat) (c : Ctx UInt64) (data : Bytes) : Prop :=
  Rel Spec.Blake2.b c (Spec.Blake2.init Spec.Blake2.b nn 0) 0 data

theorem H_length (n : Nat) (hn : n ≤ 64) (a : Bytes) : (H n a).length = n := by
  unfold H Spec.Blake2.blake2b Spec.Blake2.blake2 Spec.Blake2.output
  simp only [List.length_take, Blake2.hbytes_length]
  have : Spec.Blake2.wbytes UInt64 = 8 := rfl
  omega

theorem RelN.relA {nn : Nat} {c : Ctx UInt64} {data : Bytes} (h : RelN nn c data) : RelA Spec.Blake2.b nn c ([], data) :=
  ⟨Nat.zero_le _, h⟩

theorem ctx_new_rel (nn : Nat) (hn : 0 < nn ∧ nn ≤ 64) :
    ∃ c0, Ctx.new_keyed Impl.Blake2.b nn [] = some c0 ∧ RelN nn c0 [] := by
  rw [impl_b_eq_spec_b]
  exact ⟨_, Blake2.new_keyed_eq Spec.Blake2.b nn [] hn (by decide), (Blake2.newState_relA Spec.Blake2.b good_b nn hn.2 [] (by decide)).2⟩

theorem ctx512_new : ∃ c0, Context.new Impl.Blake2.b 512 = some c0 ∧ RelN 64 c0 [] := by
  obtain ⟨c0, h1, h2⟩ := ctx_new_rel 64 (by decide)
  refine ⟨c0, ?_, h2⟩
  unfold Context.new Context.new_keyed
  rw [if_neg (by rw [impl_b_eq_spec_b]; decide), if_neg (by rw [impl_b_eq_spec_b]; decide)]
  exact h1

theorem ctx_update (nn : Nat) (c : Ctx UInt64) (data d : Bytes) (hr : RelN nn c data) :
    ∃ c', Context.update Impl.Blake2.b .wrapping c d = some c' ∧ RelN nn c' (data ++ d) := by
  unfold Context.update
  rw [impl_b_eq_spec_b]
  exact Rel.update Spec.Blake2.b good_b .wrapping c _ 0 data d hr (fits_wrapping _ _)

theorem rel_finalize (nn : Nat) (hn : nn ≤ 64) (c : Ctx UInt64) (data : Bytes) (hr : RelN nn c data) :
    Ctx.finalize_at Impl.Blake2.b .wrapping c nn nn = some (H nn data) := by
  rw [impl_b_eq_spec_b]
  exact hr.relA.finalize good_b hn

theorem ctx512_finalize_at (c : Ctx UInt64) (data : Bytes) (hr : RelN 64 c data) :
    Context.finalize_at Impl.Blake2.b .wrapping 512 c 64 = some (H 64 data) :=
  rel_finalize 64 (by decide) c data hr

theorem ctx512_finalize (c : Ctx UInt64) (data : Bytes) (hr : RelN 64 c data) :
    Context.finalize Impl.Blake2.b .wrapping 512 c = some (H 64 data) :=
  rel_finalize 64 (by decide) c data hr

def RelD (nn : Nat) (c : ContextDyn UInt64) (data : Bytes) : Prop := c.outlen = nn ∧ RelN nn c.ctx data

theorem dyn_new (n : Nat) (hn : 0 < n ∧ n ≤ 64) : ∃ c0, ContextDyn.new Impl.Blake2.b n = some c0 ∧ RelD n c0 [] := by
  obtain ⟨c0, h1, h2⟩ := ctx_new_rel n hn
  refine ⟨{ ctx := c0, outlen := n }, ?_, rfl, h2⟩
  unfold ContextDyn.new ContextDyn.new_keyed
  rw [if_neg (by rw [impl_b_eq_spec_b]; exact fun h => h hn), h1]

theorem dyn_new_zero : ContextDyn.new Impl.Blake2.b 0 = none := by
  unfold ContextDyn.new
  rw [if_pos (by omega)]

theorem dyn_update (nn : Nat) (c : ContextDyn UInt64) (data d : Bytes) (hr : RelD nn c data) :
    ∃ c', c.update Impl.Blake2.b .wrapping d = some c' ∧ RelD nn c' (data ++ d) := by
  obtain ⟨x, h1, h2⟩ := ctx_update nn c.ctx data d hr.2
  refine ⟨{ c with ctx := x }, ?_, hr.1, h2⟩
  unfold ContextDyn.update ContextDyn.update_mut
  unfold Context.update at h1
  rw [h1]

theorem dyn_finalize_at (nn : Nat) (hn : nn ≤ 64) (c : ContextDyn UInt64) (data : Bytes) (hr : RelD nn c data) :
    c.finalize_at Impl.Blake2.b .wrapping nn = some (H nn data) := by
  unfold ContextDyn.finalize_at
  rw [hr.1]
  exact rel_finalize nn hn c.ctx data hr.2

theorem step64 (v : Bytes) : ∃ c0 c1, Context.new Impl.Blake2.b 512 = some c0 ∧
    Context.update Impl.Blake2.b .wrapping c0 v = some c1 ∧
    Context.finalize_at Impl.Blake2.b .wrapping 512 c1 64 = some (H 64 v) := by
  obtain ⟨c0, h0, r0⟩ := ctx512_new
  obtain ⟨c1, h1, r1⟩ := ctx_update 64 c0 [] v r0
  exact ⟨c0, c1, h0, h1, by simpa using ctx512_finalize_at c1 _ r1⟩

/-- starting from `V_i`: (`W_{i+1} || … || W_{i+n}`, `V_{i+n}`) -/
def chainW : Nat → Bytes → Bytes × Bytes
  | 0, V => ([], V)
  | n + 1, V => ((H 64 V).take 32 ++ (chainW n (H 64 V)).1, (chainW n (H 64 V)).2)

theorem Hchain_eq (last : Nat) : ∀ (n : Nat) (V : Bytes),
    Hchain last n V = V.take 32 ++ (chainW n V).1 ++ H last (chainW n V).2
  | 0, V => by simp [Hchain, chainW]
  | n + 1, V => by simp [Hchain, chainW, Hchain_eq last n (H 64 V)]

theorem chainW_length : ∀ (n : Nat) (V : Bytes), (chainW n V).1.length = 32 * n
  | 0, _ => rfl
  | n + 1, V => by
    simp only [chainW, List.length_append, List.length_take, H_length 64 (by decide) V, chainW_length n]
    omega

theorem setSlice_acc (acc src rest : Bytes) (pos : Nat) (hpos : pos = acc.length) :
    setSlice (acc ++ rest) pos src = acc ++ src ++ rest.drop src.length := by
  subst hpos
  unfold setSlice
  rw [List.take_left' rfl, List.drop_append]
  simp

theorem setSlice_zero (src rest : Bytes) : setSlice rest 0 src = src ++ rest.drop src.length :=
  setSlice_acc [] src rest 0 rfl

/-- the `for _ in 0..29` loop of `hprime_block_init` on ANY buffer: n iterations write `W_2 … W_{n+1}` from `pos`, the end of
    what is written, over whatever the buffer held there -/
theorem hprime_block_init_loop_eq : ∀ (n : Nat) (acc rest V : Bytes) (pos : Nat), pos = acc.length → 32 * n ≤ rest.length →
    V.length = 64 →
    Impl.Argon2.hprime_block_init_loop n (acc ++ rest) V pos =
      some (acc ++ (chainW n V).1 ++ rest.drop (32 * n), (chainW n V).2, acc.length + 32 * n)
  | 0, acc, rest, V, pos, hpos, _, _ => by simp [Impl.Argon2.hprime_block_init_loop, chainW, hpos]
  | n + 1, acc, rest, V, pos, hpos, hz, hV => by
    subst hpos
    unfold Impl.Argon2.hprime_block_init_loop
    obtain ⟨c0, c1, e0, e1, e2⟩ := step64 V
    -- each `simp only []` reduces the `match some _ with …` that the `rw` before it leaves (iota only, no lemma); this pair
    -- of steps follows every call of the model in the Argon2 proofs
    rw [hV, e0]; simp only []; rw [e1]; simp only []; rw [e2]; simp only []
    have hH := H_length 64 (by decide) V
    rw [if_neg (by simp [hH]; omega), setSlice_acc _ _ _ _ rfl,
      hprime_block_init_loop_eq n _ _ _ _ (by simp [hH]) (by simp [hH]; omega) hH]
    simp [chainW, hH, Nat.mul_succ, Nat.add_comm]
    omega

/-- the `while bytes > 64` loop of `hprime` is that counted loop when `bytes = last + 32 n` with `32 < last ≤ 64` -/
theorem hprime_loop_counted (last : Nat) (hl : 32 < last ∧ last ≤ 64) : ∀ (n fuel : Nat) (out V : Bytes) (pos : Nat),
    n ≤ fuel →
    Impl.Argon2.hprime_loop fuel out V (last + 32 * n) pos =
      (Impl.Argon2.hprime_block_init_loop n out V pos).map fun x => (x.1, x.2.1, last, x.2.2)
  | 0, fuel, out, V, pos, _ => by
    cases fuel with
    | zero => rfl
    | succ f => unfold Impl.Argon2.hprime_loop; rw [if_neg (by omega)]; rfl
  | n + 1, fuel, out, V, pos, hf => by
    obtain ⟨f, rfl⟩ : ∃ f, fuel = f + 1 := ⟨fuel - 1, by omega⟩
    unfold Impl.Argon2.hprime_loop Impl.Argon2.hprime_block_init_loop
    rw [if_pos (by omega)]
    cases Context.new Impl.Blake2.b 512 with
    | none => rfl
    | some c =>
      simp only []
      cases Context.update Impl.Blake2.b .wrapping c V with
      | none => rfl
      | some c =>
        simp only []
        cases Context.finalize_at Impl.Blake2.b .wrapping 512 c V.length with
        | none => rfl
        | some V' =>
          simp only []
          split
          · rfl
          · rw [show last + 32 * (n + 1) - 32 = last + 32 * n by omega]
            exact hprime_loop_counted last hl n f _ V' _ (by omega)

theorem hprime_loop_eq (last : Nat) (hl : 32 < last ∧ last ≤ 64) (n fuel : Nat) (acc rest V : Bytes) (pos : Nat)
    (hpos : pos = acc.length) (hf : n ≤ fuel) (hr : 32 * n ≤ rest.length) (hV : V.length = 64) :
    Impl.Argon2.hprime_loop fuel (acc ++ rest) V (last + 32 * n) pos =
      some (acc ++ (chainW n V).1 ++ rest.drop (32 * n), (chainW n V).2, last, acc.length + 32 * n) := by
  rw [hprime_loop_counted last hl n fuel _ V pos hf, hprime_block_init_loop_eq n acc rest V pos hpos hr hV]
  rfl

/-- the last write of H': after `W_1 … W_{n+1}` the remaining `last` bytes of the buffer receive `V_{n+2}`, and the buffer holds
    the RFC's `W_1 ‖ … ‖ W_{n+1} ‖ V_{n+2}` whatever it held before -/
theorem hchain_written (last n : Nat) (hl : last ≤ 64) (V rest : Bytes) (hV : V.length = 64)
    (hr : rest.length = 32 * n + last) (pos : Nat) (hpos : pos = 32 + 32 * n) :
    setSlice (V.take 32 ++ (chainW n V).1 ++ rest.drop (32 * n)) pos (H last (chainW n V).2) = Hchain last n V := by
  rw [setSlice_acc _ _ _ _ (by simp [hV, chainW_length n V, hpos]), Hchain_eq, H_length last hl,
    List.drop_drop, List.drop_eq_nil_of_le (by omega)]
  simp

/-- an `as u32` cast in front of `to_le_bytes` changes nothing: `LE32` keeps four bytes anyway -/
theorem LE32_mod (n : Nat) : natToLE 4 (n % 2 ^ 32) = LE32 n := Bytes.natToLE_mod 4 n

theorem last_bounds (T : Nat) (hT : 64 < T) :
    1 ≤ (T + 31) / 32 - 2 ∧ 32 < T - 32 * ((T + 31) / 32 - 2) ∧ T - 32 * ((T + 31) / 32 - 2) ≤ 64 ∧
    T - 32 = (T - 32 * ((T + 31) / 32 - 2)) + 32 * ((T + 31) / 32 - 2 - 1) := by omega

/-- `hprime` = RFC 9106 3.3 `H'^T` for EVERY output length T ≥ 1 (≤ 64: direct; otherwise 32-byte strides of the 64-byte
    chain and the final `H^(T−32r)`); every slice operation in range.  The length field is `T mod 2^32` in the code and in
    the RFC's `LE32(T)` alike. -/
theorem hprime_eq (T : Nat) (A : Bytes) (hT : 1 ≤ T) : Impl.Argon2.hprime T A = some (Hprime T A) := by
  unfold Impl.Argon2.hprime Hprime
  by_cases h64 : T ≤ 64
  · rw [if_pos h64, if_pos h64, LE32_mod]
    obtain ⟨c0, e0, r0⟩ := dyn_new T ⟨by omega, h64⟩
    obtain ⟨c1, e1, r1⟩ := dyn_update T c0 [] (LE32 T) r0
    obtain ⟨c2, e2, r2⟩ := dyn_update T c1 _ A r1
    rw [e0]; simp only []; rw [e1]; simp only []; rw [e2]; simp only []
    rw [dyn_finalize_at T h64 c2 _ r2]
    rfl
  · rw [if_neg h64, if_neg h64, LE32_mod]
    obtain ⟨hr1, hl1, hl2, hb⟩ := last_bounds T (by omega)
    generalize hr : (T + 31) / 32 - 2 = r at *
    generalize hlast : T - 32 * r = last at *
    obtain ⟨c0, e0, r0⟩ := ctx512_new
    obtain ⟨c1, e1, r1⟩ := ctx_update 64 c0 [] (LE32 T) r0
    obtain ⟨c2, e2, r2⟩ := ctx_update 64 c1 _ A r1
    rw [e0]; simp only []; rw [e1]; simp only []; rw [e2]; simp only []
    rw [ctx512_finalize c2 _ r2]
    simp only [List.nil_append]
    generalize hV1 : H 64 (LE32 T ++ A) = V1
    have hV : V1.length = 64 := by rw [← hV1]; exact H_length 64 (by decide) _
    have h32 : (V1.take 32).length = 32 := by simp [hV]
    have hrest : ((zeros T).drop 32).length = 32 * (r - 1) + last := by rw [List.length_drop, Bytes.zeros_length]; omega
    rw [if_neg (by simp [hV, Bytes.zeros_length]; omega), setSlice_zero, h32, hb,
      hprime_loop_eq last ⟨hl1, hl2⟩ (r - 1) _ _ _ V1 32 (by simp [hV]) (by omega) (by omega) hV]
    simp only []
    obtain ⟨d0, f0, s0⟩ := dyn_new last ⟨by omega, hl2⟩
    obtain ⟨d1, f1, s1⟩ := dyn_update last d0 [] (chainW (r - 1) V1).2 s0
    rw [f0]; simp only []; rw [f1]; simp only []
    rw [if_neg (by simp [hV, chainW_length (r - 1) V1, Bytes.zeros_length]; omega),
      dyn_finalize_at last hl2 d1 _ s1]
    simp only [List.nil_append]
    rw [hchain_written last (r - 1) hl2 V1 _ hV hrest _ (by simp [hV]), hlast]

/-- a zero-length output is refused (BLAKE2b has no 0-byte digest) -/
theorem hprime_zero (A : Bytes) : Impl.Argon2.hprime 0 A = none := by
  unfold Impl.Argon2.hprime
  rw [if_pos (by omega), dyn_new_zero]

theorem hprime_block_init_eq (h0 : Bytes) (col lane : Nat) :
    Impl.Argon2.hprime_block_init h0 col lane = some (Hprime 1024 (h0 ++ LE32 col ++ LE32 lane)) := by
  unfold Impl.Argon2.hprime_block_init Hprime
  rw [if_neg (by decide)]
  obtain ⟨c0, e0, r0⟩ := ctx512_new
  obtain ⟨c1, e1, r1⟩ := ctx_update 64 c0 [] (natToLE 4 1024) r0
  obtain ⟨c2, e2, r2⟩ := ctx_update 64 c1 _ h0 r1
  obtain ⟨c3, e3, r3⟩ := ctx_update 64 c2 _ (natToLE 4 col) r2
  obtain ⟨c4, e4, r4⟩ := ctx_update 64 c3 _ (natToLE 4 lane) r3
  rw [e0]; simp only []; rw [e1]; simp only []; rw [e2]; simp only []; rw [e3]; simp only []; rw [e4]; simp only []
  rw [ctx512_finalize c4 _ r4]
  simp only [List.nil_append]
  have hin : natToLE 4 1024 ++ h0 ++ natToLE 4 col ++ natToLE 4 lane = LE32 1024 ++ (h0 ++ LE32 col ++ LE32 lane) := by
    simp [LE32, List.append_assoc]
  rw [hin]
  generalize hV1 : H 64 (LE32 1024 ++ (h0 ++ LE32 col ++ LE32 lane)) = V1
  have hV : V1.length = 64 := by rw [← hV1]; exact H_length 64 (by decide) _
  have h32 : (V1.take 32).length = 32 := by simp [hV]
  have hrest : ((zeros 1024).drop 32).length = 32 * 29 + 64 := by rw [List.length_drop, Bytes.zeros_length]
  rw [if_neg (by simp [hV]), setSlice_zero, h32,
    hprime_block_init_loop_eq 29 _ _ V1 32 (by simp [hV]) (by omega) hV]
  simp only []
  obtain ⟨d1, f1, g1⟩ := ctx_update 64 c0 [] (chainW 29 V1).2 r0
  rw [f1]; simp only []
  rw [if_neg (by simp [hV, chainW_length 29 V1, Bytes.zeros_length]), ctx512_finalize_at d1 _ g1]
  simp only [List.nil_append]
  rw [hchain_written 64 29 (by decide) V1 _ hV hrest _ (by simp [hV])]

/-- the builder chain of `H0::new` so far: the optional context is there and has absorbed `data` -/
def St (oc : Option (Context UInt64)) (data : Bytes) : Prop := ∃ c, oc = some c ∧ RelN 64 c data

theorem St.upd {oc : Option (Context UInt64)} {data : Bytes} (h : St oc data) (d : Bytes) : St (Impl.Argon2.H0.upd oc d) (data ++ d) := by
  obtain ⟨c, rfl, hr⟩ := h
  obtain ⟨c', h1, h2⟩ := ctx_update 64 c data d hr
  exact ⟨c', h1, h2⟩

/-- `H0::new` hashes exactly the fields of RFC 9106 3.2 step 1, in order, each number as LE32 (the `as u32` casts of the
    lengths change nothing: `LE32_mod`) -/
theorem H0_new_eq (params : Impl.Argon2.Params) (password salt key aad : Bytes) (tag_length : Nat) :
    Impl.Argon2.H0.new params password salt key aad tag_length =
      some (H 64 (LE32 params.parallelism ++ LE32 tag_length ++ LE32 params.memory_kb ++ LE32 params.iterations ++
        LE32 params.version ++ LE32 params.hash_type.toNat ++ LE32 password.length ++ password ++
        LE32 salt.length ++ salt ++ LE32 key.length ++ key ++ LE32 aad.length ++ aad)) := by
  have s0 : St (Context.new Impl.Blake2.b 512) [] := by
    obtain ⟨c0, e0, r0⟩ := ctx512_new; exact ⟨c0, e0, r0⟩
  have s := (((((((((((((s0.upd (natToLE 4 params.parallelism)).upd (natToLE 4 tag_length)).upd
    (natToLE 4 params.memory_kb)).upd (natToLE 4 params.iterations)).upd (natToLE 4 params.version)).upd
    (natToLE 4 params.hash_type.toNat)).upd (natToLE 4 (password.length % 2 ^ 32))).upd password).upd
    (natToLE 4 (salt.length % 2 ^ 32))).upd salt).upd (natToLE 4 (key.length % 2 ^ 32))).upd key).upd
    (natToLE 4 (aad.length % 2 ^ 32))).upd aad
  obtain ⟨c, hc, hr⟩ := s
  show (match Impl.Argon2.H0.upd _ aad with | none => none | some c => Context.finalize Impl.Blake2.b .wrapping 512 c) = _
  rw [hc]
  simp only []
  rw [ctx512_finalize c _ hr]
  simp only [LE32_mod, List.nil_append]
  rfl

/-! ### `process_fill` over a concatenation
(no BLAKE2b in it: it stands here because its two users, Proofs/Argon2Assemble.lean and Proofs/GlueArgon2Process.lean, have this file as
their common upstream) -/

theorem process_fill_append (params : Impl.Argon2.Params) (l1 l2 : List Impl.Argon2.BlockPos) (m : Impl.Argon2.Memory) :
    Impl.Argon2.process_fill params (l1 ++ l2) m =
      (Impl.Argon2.process_fill params l1 m).bind (Impl.Argon2.process_fill params l2) := by
  induction l1 generalizing m with
  | nil => rfl
  | cons x l1 ih =>
    rw [List.cons_append, Impl.Argon2.process_fill, Impl.Argon2.process_fill]
    cases Impl.Argon2.fill_segment params x m with
    | none => rfl
    | some m' => exact ih m'

end Cx.Proofs.Argon2
