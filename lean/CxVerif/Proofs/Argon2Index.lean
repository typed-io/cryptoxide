/-
  Proofs.Argon2Index — the index arithmetic of Argon2: memory geometry of the `Params` builder vs RFC 9106 3.2
  (m', q, segment length), the reference set W of 3.4.2 as a cyclic window `n ↦ (start + n) mod q`, `n < |W|`,
  and `index_alpha` = "the zz-th element of W" with every u32/u64 operation in range.  Core Lean only.
-/
import CxVerif.Impl.Argon2
namespace Cx.Proofs.Argon2
open Cx.Spec.Argon2
open Cx.Impl.Argon2 (index_alpha subU add32 mul32 mul64 add64 remU divU SYNC_POINTS)

theorem mod_wrap (x q : Nat) (h : x < 2 * q) : x % q = if x < q then x else x - q := by
  split
  · exact Nat.mod_eq_of_lt ‹_›
  · rw [Nat.mod_eq_sub_mod (by omega), Nat.mod_eq_of_lt (by omega)]

theorem mod_add_ne (x d q : Nat) (hd : 0 < d) (hdq : d < q) : (x + d) % q ≠ x % q := by
  have := Nat.mod_lt x (show 0 < q by omega)
  rw [← Nat.mod_add_mod, mod_wrap _ _ (by omega)]
  split <;> omega

theorem filter_last (f : Nat → Nat) (N : Nat) (hN : 1 ≤ N) (hinj : ∀ a, a < N - 1 → f a ≠ f (N - 1)) :
    ((List.range N).map f).filter (· != f (N - 1)) = (List.range (N - 1)).map f := by
  obtain ⟨M, rfl⟩ : ∃ M, N = M + 1 := ⟨N - 1, by omega⟩
  simp only [Nat.add_sub_cancel] at *
  rw [List.range_succ, List.map_append, List.filter_append]
  have h1 : ((List.range M).map f).filter (· != f M) = (List.range M).map f := by
    rw [List.filter_eq_self]
    intro a ha
    simp only [List.mem_map, List.mem_range] at ha
    obtain ⟨b, hb, rfl⟩ := ha
    simpa using hinj b hb
  rw [h1]
  simp

theorem dropLast_map_range (f : Nat → Nat) (N : Nat) :
    ((List.range N).map f).dropLast = (List.range (N - 1)).map f := by
  cases N with
  | zero => simp
  | succ M => rw [List.range_succ, List.map_append]; simp

def win (q s N : Nat) : List Nat := (List.range N).map fun n => (s + n) % q

theorem win_append (q s N M : Nat) : win q s (N + M) = win q s N ++ win q (s + N) M := by
  simp [win, List.range_add, Nat.add_assoc]

theorem win_congr {q s s' : Nat} (h : s % q = s' % q) (N : Nat) : win q s N = win q s' N := by
  unfold win
  congr 1
  funext n
  rw [Nat.add_mod, h, ← Nat.add_mod]

theorem range'_eq_win {q s N : Nat} (h : s + N ≤ q) : List.range' s N = win q s N := by
  rw [List.range'_eq_map_range]
  refine List.map_congr_left fun n hn => ?_
  rw [List.mem_range] at hn
  exact (Nat.mod_eq_of_lt (by omega)).symm

theorem win_filter_last (q s N : Nat) (hN : 1 ≤ N) (hq : N ≤ q) :
    (win q s N).filter (· != (s + (N - 1)) % q) = win q s (N - 1) :=
  filter_last (fun n => (s + n) % q) N hN fun a ha h => by
    have := mod_add_ne (s + a) (N - 1 - a) q (by omega) (by omega)
    rw [show s + a + (N - 1 - a) = s + (N - 1) by omega] at this
    exact this h.symm

/-- RFC 9106 3.2 step 2 / 3.4 -/
theorem geometry (c : Params) (hp : 1 ≤ c.p) :
    q c = 4 * (c.m / (4 * c.p)) ∧ segLen c = c.m / (4 * c.p) ∧ mPrime c = c.p * q c := by
  have hq : q c = 4 * (c.m / (4 * c.p)) := by
    unfold q mPrime
    rw [Nat.mul_comm 4 c.p, Nat.mul_assoc, Nat.mul_div_cancel_left _ (by omega : 0 < c.p)]
  refine ⟨hq, ?_, ?_⟩
  · unfold segLen SL; rw [hq]; omega
  · rw [hq]; unfold mPrime; rw [Nat.mul_comm 4 c.p, Nat.mul_assoc]

theorem q_eq (c : Params) (hp : 1 ≤ c.p) : q c = 4 * segLen c := by
  obtain ⟨h1, h2, _⟩ := geometry c hp
  rw [h1, h2]

theorem segLen_ge (c : Params) (hp : 1 ≤ c.p) (hm : 8 * c.p ≤ c.m) : 2 ≤ segLen c := by
  rw [(geometry c hp).2.1]
  exact (Nat.le_div_iff_mul_le (by omega)).mpr (by omega)

theorem mPrime_le (c : Params) : mPrime c ≤ c.m := by
  unfold mPrime
  exact Nat.mul_div_le c.m (4 * c.p)

theorem slice_le (seg : Nat) {sl : Nat} (h : sl < 4) : sl * seg + seg ≤ 4 * seg := by
  rw [← Nat.succ_mul]
  exact Nat.mul_le_mul_right seg h

/-- the number of columns of the segments finished before slice `sl` of pass `r`: `sl` slices in the first pass, three later.
    The sizes of the reference sets are this number, plus the blocks of the current segment, minus one -/
def fin (seg r sl : Nat) : Nat := if r = 0 then sl * seg else 3 * seg

theorem fin_le {sl : Nat} (seg r : Nat) (h : sl < 4) : fin seg r sl ≤ 3 * seg := by
  unfold fin; split
  · exact Nat.mul_le_mul_right seg (Nat.le_of_lt_succ h)
  · exact Nat.le_refl _

theorem fin_ge {r sl : Nat} (seg : Nat) (h : ¬ (r = 0 ∧ sl = 0)) : seg ≤ fin seg r sl := by
  unfold fin; split
  · exact Nat.le_mul_of_pos_left seg (Nat.pos_of_ne_zero fun hs => h ⟨‹r = 0›, hs⟩)
  · omega

def startPos (seg r sl : Nat) : Nat := if r ≠ 0 then (if sl = 3 then 0 else (sl + 1) * seg) else 0

/-- |W| -/
def areaSize (seg r sl k : Nat) (same : Bool) : Nat :=
  if r = 0 then
    if sl = 0 then k - 1
    else if same then sl * seg + k - 1
    else if k = 0 then sl * seg - 1
    else sl * seg
  else
    if same then 4 * seg - seg + k - 1
    else if k = 0 then 4 * seg - seg - 1
    else 4 * seg - seg

theorem sliceCols_eq (c : Params) (hq : q c = 4 * segLen c) (j : Nat) :
    sliceCols c (j % 4) = win (q c) (j * segLen c) (segLen c) := by
  have h := slice_le (segLen c) (Nat.mod_lt j (show 0 < 4 by decide))
  rw [← hq] at h
  rw [sliceCols, range'_eq_win h]
  exact win_congr (by rw [hq, Nat.mul_mod_mul_right, Nat.mul_mod_mul_right, Nat.mod_mod]) _

theorem finished_first (c : Params) (hq : q c = 4 * segLen c) :
    ∀ sl, sl ≤ 4 → (List.range sl).flatMap (sliceCols c) = win (q c) 0 (sl * segLen c)
  | 0, _ => by simp [win]
  | sl + 1, h => by
    have h4 : sl % 4 = sl := Nat.mod_eq_of_lt (by omega)
    rw [List.range_succ, List.flatMap_append, finished_first c hq sl (by omega), List.flatMap_singleton, ← h4,
      sliceCols_eq c hq, h4, Nat.succ_mul, win_append, Nat.zero_add]

theorem finished_later (c : Params) (hq : q c = 4 * segLen c) (sl : Nat) :
    [(sl + 1) % SL, (sl + 2) % SL, (sl + 3) % SL].flatMap (sliceCols c) = win (q c) ((sl + 1) * segLen c) (3 * segLen c) := by
  simp only [List.flatMap_cons, List.flatMap_nil, List.append_nil, SL, sliceCols_eq c hq]
  rw [show 3 * segLen c = segLen c + segLen c + segLen c by omega, win_append, win_append]
  simp only [Nat.succ_mul, Nat.add_assoc, List.append_assoc]

theorem startPos_add {seg q r : Nat} (hq : q = 4 * seg) (hr : r ≠ 0) (sl n : Nat) :
    (startPos seg r sl + n) % q = ((sl + 1) * seg + n) % q := by
  rw [startPos, if_pos hr]
  split
  · subst sl hq
    rw [Nat.zero_add, show (3 + 1) * seg + n = n + 4 * seg by omega, Nat.add_mod_right]
  · rfl

/-- the finished segments followed by the blocks already built in the current segment (`k` of them):
    a window of the cyclic column order starting at `startPos` -/
theorem all_eq (c : Params) (hq : q c = 4 * segLen c) (r sl k : Nat) (hsl : sl < 4) (hk : k ≤ segLen c) :
    finishedCols c r sl ++ List.range' (sl * segLen c) k =
      win (q c) (startPos (segLen c) r sl) (fin (segLen c) r sl + k) := by
  have h := slice_le (segLen c) hsl
  rw [← hq] at h
  rw [range'_eq_win (show sl * segLen c + k ≤ q c by omega), finishedCols]
  by_cases hr : r = 0
  · rw [if_pos hr, fin, if_pos hr, finished_first c hq sl (by omega), win_append, startPos, if_neg (not_not_intro hr), Nat.zero_add]
  · rw [if_neg hr, fin, if_neg hr, finished_later c hq, show win (q c) (startPos (segLen c) r sl) = win (q c) ((sl + 1) * segLen c) from
      funext fun N => congrArg (List.map · _) (funext (startPos_add hq hr sl)), win_append]
    refine congrArg _ (win_congr ?_ k)
    rw [show (sl + 1) * segLen c + 3 * segLen c = sl * segLen c + q c by rw [Nat.succ_mul, hq]; omega, Nat.add_mod_right]

theorem areaSize_same (seg r sl k : Nat) :
    areaSize seg r sl k true = fin seg r sl + k - 1 := by
  simp only [areaSize, fin, if_true]
  split
  · split
    · subst sl; omega
    · rfl
  · omega

theorem areaSize_other (seg r sl k : Nat) (h : ¬ (r = 0 ∧ sl = 0)) :
    areaSize seg r sl k false = fin seg r sl - if k = 0 then 1 else 0 := by
  simp only [areaSize, fin, Bool.false_eq_true, if_false]
  split
  · rw [if_neg fun hs => h ⟨‹r = 0›, hs⟩]
    split <;> rfl
  · split <;> omega

/-- in-range positions: slice < 4, index inside the segment, segments of ≥ 2 blocks, lanes addressable in u32,
    and the first two blocks of pass 0 / slice 0 are not recomputed (starting index 2) -/
structure InRange (seg r sl k : Nat) (same : Bool) : Prop where
  seg2 : 2 ≤ seg
  lane32 : 4 * seg < 2 ^ 32
  sl4 : sl < 4
  kseg : k < seg
  first : r = 0 ∧ sl = 0 → same = true ∧ 2 ≤ k

/-- RFC 9106 3.4.2: W is the window of `areaSize` columns starting at `startPos` of the cyclic column order -/
theorem refSet_eq (c : Params) (hq : q c = 4 * segLen c) (r sl k : Nat) (same : Bool)
    (h : InRange (segLen c) r sl k same) :
    refSet c r sl k same = (List.range (areaSize (segLen c) r sl k same)).map
      (fun n => (startPos (segLen c) r sl + n) % q c) := by
  obtain ⟨hseg, _, hsl, hk, hfirst⟩ := h
  have h0 : r = 0 ∧ sl = 0 → same = true ∧ 1 ≤ k := fun hh => ⟨(hfirst hh).1, Nat.le_of_succ_le (hfirst hh).2⟩
  have h3 := slice_le (segLen c) hsl
  unfold refSet
  cases same with
  | true =>
    have hF := fin_le (segLen c) r hsl
    have hF1 : 1 ≤ fin (segLen c) r sl + k := by
      by_cases hh : r = 0 ∧ sl = 0
      · have := (h0 hh).2; omega
      · have := fin_ge (segLen c) hh; omega
    -- the excluded `B[i][j-1]` is the last column of the window
    have hlast : (sl * segLen c + k + q c - 1) % q c =
        (startPos (segLen c) r sl + (fin (segLen c) r sl + k - 1)) % q c := by
      by_cases hr : r = 0
      · rw [startPos, if_neg (not_not_intro hr), fin, if_pos hr, Nat.zero_add,
          show sl * segLen c + k + q c - 1 = sl * segLen c + k - 1 + q c by rw [fin, if_pos hr] at hF1; omega, Nat.add_mod_right]
      · rw [startPos_add hq hr, fin, if_neg hr, Nat.succ_mul]
        congr 1
        omega
    rw [if_pos rfl, all_eq c hq r sl k hsl (by omega), hlast, areaSize_same,
      win_filter_last _ _ _ (by omega) (by omega)]
    rfl
  | false =>
    have hfin := all_eq c hq r sl 0 hsl (Nat.zero_le _)
    rw [List.range'_zero, List.append_nil, Nat.add_zero] at hfin
    rw [if_neg Bool.false_ne_true, hfin, areaSize_other _ _ _ _ fun h => Bool.noConfusion (h0 h).1]
    split
    · exact dropLast_map_range ..
    · rfl

theorem mapJ1_le (J1 size : Nat) : mapJ1 J1 size ≤ size - 1 := by
  unfold mapJ1; simp only []; omega

theorem mul_u32_lt (a b : Nat) (ha : a < 2 ^ 32) (hb : b < 2 ^ 32) : a * b < 2 ^ 64 :=
  calc a * b < 2 ^ 32 * 2 ^ 32 := Nat.mul_lt_mul'' ha hb
    _ = 2 ^ 64 := by decide

theorem y_le (size x : Nat) (hs : 1 ≤ size) (hx : x < 2 ^ 32) : size * x / 2 ^ 32 ≤ size - 1 := by
  have : size * x / 2 ^ 32 < size := Nat.div_lt_of_lt_mul (by
    rw [Nat.mul_comm (2 ^ 32)]; exact Nat.mul_lt_mul_of_pos_left hx (by omega))
  omega

theorem areaSize_pos {seg r sl k : Nat} {same : Bool} (h : InRange seg r sl k same) :
    1 ≤ areaSize seg r sl k same ∧ areaSize seg r sl k same < 4 * seg := by
  obtain ⟨h1, h2, h3, h4, h5⟩ := h
  have hF := fin_le seg r h3
  cases same with
  | true =>
    rw [areaSize_same]
    by_cases hh : r = 0 ∧ sl = 0
    · have := (h5 hh).2; omega
    · have := fin_ge seg hh; omega
  | false =>
    have hne : ¬ (r = 0 ∧ sl = 0) := fun h => Bool.noConfusion (h5 h).1
    have := fin_ge seg hne
    rw [areaSize_other _ _ _ _ hne]
    split <;> omega

theorem add32_some {a b : Nat} (h : a + b < 2 ^ 32) : add32 a b = some (a + b) := if_pos h
theorem mul32_some {a b : Nat} (h : a * b < 2 ^ 32) : mul32 a b = some (a * b) := if_pos h
theorem add64_some {a b : Nat} (h : a + b < 2 ^ 64) : add64 a b = some (a + b) := if_pos h
theorem mul64_some {a b : Nat} (h : a * b < 2 ^ 64) : mul64 a b = some (a * b) := if_pos h
theorem subU_some {a b : Nat} (h : b ≤ a) : subU a b = some (a - b) := if_pos h
theorem remU_some {a b : Nat} (h : 0 < b) : remU a b = some (a % b) := if_neg (Nat.ne_of_gt h)
theorem divU_some {a b : Nat} (h : 0 < b) : divU a b = some (a / b) := if_neg (Nat.ne_of_gt h)

theorem ite_some {α : Type} {c : Prop} [Decidable c] {a b : Option α} {x y : α} (ha : c → a = some x) (hb : ¬ c → b = some y) :
    (if c then a else b) = some (if c then x else y) := by
  split
  · exact ha ‹_›
  · exact hb ‹_›

theorem reference_area_size_eq (params : Impl.Argon2.Params) (seg r lane sl k : Nat) (same : Bool)
    (hseg : params.segment_length = seg) (hlane : params.lane_length = 4 * seg) (h : InRange seg r sl k same) :
    index_alpha.reference_area_size params ⟨r, lane, sl, k⟩ same = some (areaSize seg r sl k same) := by
  obtain ⟨h1, h2, h3, h4, h5⟩ := h
  have hb := slice_le seg h3
  have hm : mul32 sl seg = some (sl * seg) := mul32_some (by omega)
  have hl : subU (4 * seg) seg = some (4 * seg - seg) := subU_some (by omega)
  have last {x : Nat} (hx : x + k < 2 ^ 32) (h1 : 1 ≤ x + k) :
      ((add32 x k).bind fun b => subU b 1) = some (x + k - 1) := by
    rw [add32_some hx, Option.bind_some, subU_some h1]
  unfold index_alpha.reference_area_size areaSize
  simp only [hseg, hlane, hm, hl, Option.bind_eq_bind, Option.bind_some]
  refine ite_some (fun hr => ite_some (fun hs => subU_some ?_) fun hs => ?_) fun hr => ?_
  · have := (h5 ⟨hr, hs⟩).2; omega
  · have := Nat.le_mul_of_pos_left seg (Nat.pos_of_ne_zero hs)
    exact ite_some (fun _ => last (by omega) (by omega)) fun _ => ite_some (fun _ => subU_some (by omega)) fun _ => rfl
  · exact ite_some (fun _ => last (by omega) (by omega)) fun _ => ite_some (fun _ => subU_some (by omega)) fun _ => rfl

theorem start_position_eq (params : Impl.Argon2.Params) (seg r lane sl k : Nat)
    (hseg : params.segment_length = seg) (h2 : 4 * seg < 2 ^ 32) (h3 : sl < 4) :
    index_alpha.start_position params ⟨r, lane, sl, k⟩ = some (startPos seg r sl) := by
  have hb := Nat.mul_le_mul_right seg (show sl + 1 ≤ 4 from h3)
  unfold index_alpha.start_position startPos
  simp only [hseg]
  refine ite_some (fun _ => ite_some (fun _ => rfl) fun _ => ?_) fun _ => rfl
  rw [add32_some (by omega)]
  exact mul32_some (by omega)

theorem startPos_le (seg r sl : Nat) (h3 : sl < 4) : startPos seg r sl ≤ 3 * seg := by
  unfold startPos
  split
  · split
    · omega
    · exact Nat.mul_le_mul_right seg (by omega)
  · omega

/-- `index_alpha` computes column `(start + zz) mod q` with `zz = |W| − 1 − (|W|·(J1²/2^32))/2^32`;
    no u32/u64 operation overflows, underflows or divides by zero; the final `as u32` loses nothing -/
theorem index_alpha_window (params : Impl.Argon2.Params) (seg r lane sl k J1 : Nat) (same : Bool)
    (hseg : params.segment_length = seg) (hlane : params.lane_length = 4 * seg) (h : InRange seg r sl k same)
    (hJ : J1 < 2 ^ 32) :
    index_alpha params ⟨r, lane, sl, k⟩ J1 same =
      some ((startPos seg r sl + mapJ1 J1 (areaSize seg r sl k same)) % (4 * seg)) := by
  have hA := reference_area_size_eq params seg r lane sl k same hseg hlane h
  have hS := start_position_eq params seg r lane sl k hseg h.lane32 h.sl4
  obtain ⟨hs1, hs⟩ := areaSize_pos h
  have hst := startPos_le seg r sl h.sl4
  have hseg2 := h.seg2
  have hl32 := h.lane32
  generalize areaSize seg r sl k same = size at *
  generalize startPos seg r sl = start at *
  have h1 := mul_u32_lt J1 J1 hJ hJ
  have h2 : J1 * J1 / 2 ^ 32 < 2 ^ 32 := Nat.div_lt_of_lt_mul (by simpa using h1)
  have h3 := mul_u32_lt size _ (by omega) h2
  have h4 := y_le size _ hs1 h2
  have h5 : start + (size - 1 - size * (J1 * J1 / 2 ^ 32) / 2 ^ 32) < 2 ^ 64 := by omega
  unfold index_alpha
  simp only [hA, hS, hlane, mul64_some h1, Nat.shiftRight_eq_div_pow, Option.bind_eq_bind, Option.bind_some, mul64_some h3,
    subU_some hs1, subU_some h4, add64_some h5, remU_some (show 0 < 4 * seg by omega), Option.pure_def, mapJ1]
  congr 1
  exact Nat.mod_eq_of_lt (Nat.lt_trans (Nat.mod_lt _ (by omega)) hl32)

/-- RFC 9106 3.4.2: `z` is the zz-th element of W, and that element exists (`zz < |W|`, W not empty) -/
theorem refCol_window (c : Spec.Argon2.Params) (hq : q c = 4 * segLen c) (r sl k J1 : Nat) (same : Bool)
    (h : InRange (segLen c) r sl k same) :
    (refSet c r sl k same)[mapJ1 J1 (refSet c r sl k same).length]? =
      some ((startPos (segLen c) r sl + mapJ1 J1 (areaSize (segLen c) r sl k same)) % (4 * segLen c)) := by
  have hW := refSet_eq c hq r sl k same h
  obtain ⟨hs1, _⟩ := areaSize_pos h
  rw [hW]
  simp only [List.length_map, List.length_range, List.getElem?_map]
  have hz := mapJ1_le J1 (areaSize (segLen c) r sl k same)
  rw [List.getElem?_range (by omega), hq]
  rfl

theorem refCol_eq (c : Spec.Argon2.Params) (hq : q c = 4 * segLen c) (r sl k J1 : Nat) (same : Bool)
    (h : InRange (segLen c) r sl k same) :
    refCol c r sl k same J1 = (startPos (segLen c) r sl + mapJ1 J1 (areaSize (segLen c) r sl k same)) % (4 * segLen c) := by
  unfold refCol
  simp only []
  rw [List.getD_eq_getElem?_getD, refCol_window c hq r sl k J1 same h]
  rfl

theorem index_alpha_eq_refCol (c : Spec.Argon2.Params) (params : Impl.Argon2.Params) (hq : q c = 4 * segLen c)
    (hseg : params.segment_length = segLen c) (hlane : params.lane_length = q c)
    (r lane sl k J1 : Nat) (same : Bool) (h : InRange (segLen c) r sl k same) (hJ : J1 < 2 ^ 32) :
    index_alpha params ⟨r, lane, sl, k⟩ J1 same = some (refCol c r sl k same J1) := by
  rw [index_alpha_window params (segLen c) r lane sl k J1 same hseg (hlane.trans hq) h hJ, refCol_eq c hq r sl k J1 same h]

def geomOf (s : Impl.Argon2.Params) : Impl.Argon2.Params :=
  let M := max s.memory_kb (8 * s.parallelism)
  { s with memory_kb := M, segment_length := M / (s.parallelism * 4),
           memory_blocks := M / (s.parallelism * 4) * (s.parallelism * 4), lane_length := M / (s.parallelism * 4) * 4 }

theorem override_eq (s : Impl.Argon2.Params) (hp : 1 ≤ s.parallelism) (hp2 : s.parallelism < 2 ^ 24) (hm : s.memory_kb < 2 ^ 32) :
    s.parallelism_override_memory = some (geomOf s) := by
  have h8 : mul32 8 s.parallelism = some (8 * s.parallelism) := mul32_some (by omega)
  have h4 : mul32 s.parallelism SYNC_POINTS = some (s.parallelism * 4) := mul32_some (by unfold SYNC_POINTS; omega)
  unfold Impl.Argon2.Params.parallelism_override_memory
  -- `mb` = the first `memory_blocks`; `tail` = the join point of `if memory_blocks < 8 * parallelism`: the part after the
  -- adjustment of `memory_kb` to `M = max memory_kb (8 * parallelism)`, as a function of `(memory_blocks, self)`
  extract_lets mb tail
  have tail_eq (M : Nat) (h1 : 8 * s.parallelism ≤ M) (h2 : M < 2 ^ 32) (hM : M = max s.memory_kb (8 * s.parallelism)) :
      tail (M, { s with memory_kb := M }) = some (geomOf s) := by
    have h3 : M / (s.parallelism * 4) * (s.parallelism * 4) < 2 ^ 32 := Nat.lt_of_le_of_lt (Nat.div_mul_le_self ..) h2
    have h5 : M / (s.parallelism * 4) * 4 < 2 ^ 32 := Nat.lt_of_le_of_lt (Nat.mul_le_mul_left _ (by omega)) h3
    unfold tail
    simp only [h4, Option.bind_eq_bind, Option.bind_some, Option.pure_def]
    rw [divU_some (by omega), Option.bind_some, mul32_some h3, Option.bind_some, mul32_some (b := SYNC_POINTS) h5,
      Option.bind_some, geomOf, ← hM]
    rfl
  clear_value tail
  simp only [h8, Option.bind_eq_bind, Option.bind_some, Option.pure_def]
  split
  · exact tail_eq _ (Nat.le_refl _) (by omega) (by omega)
  · exact tail_eq _ (by omega) hm (by omega)

def tyOf : Ty → Impl.Argon2.Type'
  | .d => .Argon2d
  | .i => .Argon2i
  | .id => .Argon2id

/-- the code's `Params` holds the RFC parameters `c` and the geometry the RFC derives from them -/
structure Corr (params : Impl.Argon2.Params) (c : Params) : Prop where
  p : params.parallelism = c.p
  t : params.iterations = c.t
  m : params.memory_kb = c.m
  v : params.version = c.v
  y : params.hash_type = tyOf c.y
  blocks : params.memory_blocks = mPrime c
  seg : params.segment_length = segLen c
  lane : params.lane_length = q c

def builtParams (y : Ty) (v t m p : Nat) : Impl.Argon2.Params :=
  let M := max m (8 * p)
  { parallelism := p, iterations := t, memory_kb := M, version := v, hash_type := tyOf y,
    memory_blocks := M / (p * 4) * (p * 4), segment_length := M / (p * 4), lane_length := M / (p * 4) * 4 }

theorem build_ok (y : Ty) (v t m p : Nat) (hv : v = 0x13 ∨ v = 0x10) (ht : 1 ≤ t) (hp : 1 ≤ p) (hp2 : p < 2 ^ 24)
    (hm : m < 2 ^ 32) :
    (Impl.Argon2.Params.def (tyOf y)).build v t m p = some (.ok (builtParams y v t m p)) := by
  unfold Impl.Argon2.Params.build Impl.Argon2.Params.memory_kb' Impl.Argon2.Params.iterations'
    Impl.Argon2.Params.parallelism' Impl.Argon2.Params.version'
  rw [override_eq _ (by simp [Impl.Argon2.Params.def]) (by simp [Impl.Argon2.Params.def]) (by simpa using hm)]
  simp only [if_neg (show ¬ t = 0 by omega), if_neg (show ¬ p ≥ 0x1000000 by omega), if_neg (show ¬ p = 0 by omega)]
  rw [override_eq _ (by simpa using hp) (by simpa using hp2) (by
    simp only [geomOf, Impl.Argon2.Params.def]; omega)]
  simp only [if_neg (show ¬¬(v = 19 ∨ v = 16) from fun h => h hv)]
  have hmax : max (max m (8 * 1)) (8 * p) = max m (8 * p) := by omega
  simp only [geomOf, Impl.Argon2.Params.def, builtParams, hmax]

theorem built_corr (y : Ty) (v t m p T : Nat) (hp : 1 ≤ p) (hm : 8 * p ≤ m) :
    Corr (builtParams y v t m p) { y := y, v := v, t := t, m := m, p := p, T := T } := by
  have hM : max m (8 * p) = m := by omega
  obtain ⟨g1, g2, g3⟩ := geometry { y := y, v := v, t := t, m := m, p := p, T := T } hp
  simp only [] at g1 g2 g3
  refine ⟨rfl, rfl, ?_, rfl, rfl, ?_, ?_, ?_⟩ <;> simp only [builtParams, hM]
  · rw [g3, g1, Nat.mul_comm p 4]; generalize m / (4 * p) = k; ac_rfl
  · rw [g2, Nat.mul_comm p 4]
  · rw [g1, Nat.mul_comm p 4, Nat.mul_comm]

end Cx.Proofs.Argon2
