/-
  Proofs.Argon2Prologue — link (a) of the Argon2 assembly (list at the end of Props/C11/Argon2.lean): the prologue of `fill_segment` (parameter words of
  `input_block`, the extra `next_addresses` of pass 0 / slice 0, `curr_offset`, `prev_offset`) establishes the loop
  invariant `SegInv` at the starting index, and the Spec's loop over `0 .. segLen` skips k = 0, 1 in pass 0 / slice 0,
  so `fill_segment = Spec.fillSegment` on every valid parameter set.  The proof works on the `do` block of `fill_segment`
  itself: what follows the prologue, and what follows the computation of `prev_offset`, are the block's own join points.
  Core Lean only.
-/
import CxVerif.Proofs.Argon2Segment
namespace Cx.Proofs.Argon2
open Cx.Spec.Argon2
open Cx.Impl.Argon2 (add32 mul32 remU)

def mk (c : Params) (B : Memory) : Impl.Argon2.Memory := { lane_length := q c, blocks := B }

theorem tyOf_toNat (y : Ty) : (tyOf y).toNat = y.y := by cases y <;> rfl

def startIdx (r sl : Nat) : Nat := if r = 0 ∧ sl = 0 then 2 else 0

theorem segInv_memory {c : Params} {r i sl k : Nat} {dia : Bool} {st : Impl.Argon2.SegState} {B : Memory}
    (h : SegInv c r i sl k dia st B) : st.memory = mk c B := by
  obtain ⟨m1, m2, _⟩ := h
  cases hst : st.memory with
  | mk ll bb => rw [hst] at m1 m2; simp only at m1 m2; rw [m1, m2]; rfl

/-- the Spec's loop over `0 .. segLen` leaves the two H'-initialised blocks of pass 0 / slice 0 alone, so it is the
    loop from the code's `starting_index` -/
theorem fillSegment_skip (c : Params) (r sl i : Nat) (B : Memory) (hseg : 2 ≤ segLen c) :
    fillSegment c r sl B i = (List.range' (startIdx r sl) (segLen c - startIdx r sl)).foldl
      (fillBlock c r sl i (if dataIndependent c.y r sl then addrBlocks c r i sl else #[])) B := by
  unfold fillSegment startIdx
  simp only [List.range_eq_range']
  by_cases h0 : r = 0 ∧ sl = 0
  · rw [if_pos h0]
    obtain ⟨n, hn⟩ : ∃ n, segLen c = n + 2 := ⟨segLen c - 2, by omega⟩
    rw [hn, Nat.add_sub_cancel, List.range'_succ, List.range'_succ, List.foldl_cons, List.foldl_cons]
    have s0 : ∀ addrs B, fillBlock c r sl i addrs B 0 = B := by
      intro addrs B; unfold fillBlock; dsimp only; rw [if_pos ⟨h0.1, by rw [h0.2]; omega⟩]
    have s1 : ∀ addrs B, fillBlock c r sl i addrs B (0 + 1) = B := by
      intro addrs B; unfold fillBlock; dsimp only; rw [if_pos ⟨h0.1, by rw [h0.2]; omega⟩]
    rw [s0, s1]
  · rw [if_neg h0]; rfl

/-- (a) `fill_segment` = the RFC's segment (3.2 steps 5, 6 for the blocks of one segment), for every valid parameter
    set, every pass, lane < p, slice < 4; the memory keeps its `p·q` blocks -/
theorem fill_segment_eq (c : Params) (params : Impl.Argon2.Params) (hc : Corr params c) (r i sl idx : Nat)
    (hp : 1 ≤ c.p) (hm : 8 * c.p ≤ c.m) (hm2 : c.m < 2 ^ 32) (hi : i < c.p) (hsl : sl < 4) (B : Memory)
    (hB : B.size = c.p * q c) :
    Impl.Argon2.fill_segment params ⟨r, i, sl, idx⟩ (mk c B) = some (mk c (fillSegment c r sl B i)) ∧
    (fillSegment c r sl B i).size = c.p * q c := by
  have hseg := segLen_ge c hp hm
  rw [fillSegment_skip c r sl i B hseg]
  unfold Impl.Argon2.fill_segment
  -- the `let`s of the `do` block in their order: `dia` = `data_independent_addressing`; `zero` = the three blocks bound to
  -- `Block.new` (equal values are merged); `ib0` = `input_block` after the parameter words; `tail` = the join point of
  -- the `if position.pass = 0 ∧ position.slice = 0`: all that follows, as a function of
  -- `(starting_index, address_block, input_block)`
  extract_lets dia zero ib0 tail
  have hdia : dia = dataIndependent c.y r sl := dia_eq params c.y hc.y r i sl idx
  have hz : zero = Impl.Argon2.Block.new := rfl
  clear_value dia zero
  subst hdia hz
  -- pass 1, index 0: a position of this lane and slice at which `Pos` asks nothing of the index; the bounds and `j_lt`
  -- taken from it do not depend on the pass
  have hpos : Pos c 1 i sl 0 := ⟨hp, hm, hm2, hi, hsl, by omega, by omega⟩
  obtain ⟨hb1, hb2, hb3⟩ := hpos.bounds
  -- the offsets and the loop, from any starting index `k` with the address state of `SegInv`
  have tail_eq : ∀ k a ib, k ≤ segLen c → (r = 0 ∧ sl = 0 → 2 ≤ k) → sl * segLen c + k ≠ 1 → sl * segLen c + k < q c →
      (dataIndependent c.y r sl = true → k % 128 ≠ 0 → a = addrBlock c r i sl (k / 128 + 1)) →
      (dataIndependent c.y r sl = true → ib = addrInput c r i sl (if k % 128 = 0 then k / 128 else k / 128 + 1)) →
      ∀ F, (List.range' k (segLen c - k)).foldl
        (fillBlock c r sl i (if dataIndependent c.y r sl then addrBlocks c r i sl else #[])) B = F →
      tail (k, a, ib) = some (mk c F) ∧ F.size = c.p * q c := by
    intro k a ib hk hk0 hk1 hj ha hib F hF
    have e1 : mul32 i (q c) = some (i * q c) := mul32_some (by omega)
    have e2 : mul32 sl (segLen c) = some (sl * segLen c) := mul32_some (by omega)
    have e3 : add32 (i * q c) (sl * segLen c) = some (i * q c + sl * segLen c) := add32_some (by omega)
    have e4 : add32 (i * q c + sl * segLen c) k = some (i * q c + (sl * segLen c + k)) := by
      rw [add32_some (by omega), Nat.add_assoc]
    have e5 : remU (i * q c + (sl * segLen c + k)) (q c) = some (sl * segLen c + k) := by
      rw [remU_some (by omega), Nat.add_comm, Nat.add_mul_mod_self_right, Nat.mod_eq_of_lt hj]
    unfold tail
    simp (config := { zeta := false }) only [Impl.Argon2.Memory.stride, mk, hc.seg, e1, e2, e3, e4, e5,
      Option.bind_eq_bind, Option.bind_some]
    -- `loop` = the join point of `if curr_offset % stride = 0`: the loop and the result, as a function of `prev_offset`
    extract_lets loop
    have fin : ∀ prev, prev = i * q c + (sl * segLen c + k + q c - 1) % q c →
        loop prev = some { lane_length := q c, blocks := F } ∧ F.size = c.p * q c := by
      intro prev hprev
      obtain ⟨st', e, inv'⟩ := loop_eq c params hc r i sl idx hp hm hm2 hi hsl (segLen c - k) k
        ⟨mk c B, ib, a, i * q c + (sl * segLen c + k), prev⟩ B (by omega) hk0 ⟨rfl, rfl, hB, rfl, fun _ => hprev, ha, hib⟩
      unfold loop
      simp only [mk] at e
      simp only [e, Option.bind_some, Option.pure_def]
      rw [hF] at inv'
      exact ⟨congrArg some (segInv_memory inv'), inv'.size⟩
    by_cases hj0 : sl * segLen c + k = 0
    · rw [if_pos hj0, add32_some (by omega), Option.bind_some, subU_some (by omega), Option.bind_some]
      exact fin _ (by rw [hj0, Nat.add_zero, Nat.zero_add, Nat.mod_eq_of_lt (by omega)]; omega)
    · rw [if_neg hj0, subU_some (by omega), Option.bind_some]
      refine fin _ ?_
      rw [show sl * segLen c + k + q c - 1 = (sl * segLen c + k - 1) + q c by omega, Nat.add_mod_right,
        Nat.mod_eq_of_lt (by omega)]
      omega
  -- the prologue: the parameter words, and the first address block in pass 0 / slice 0
  have hib0 : dataIndependent c.y r sl = true → ib0 = addrInput c r i sl 0 := fun hd => by
    unfold ib0
    rw [if_pos hd, addrInput_eq]
    show _ = inputWords _ _ _ _ _ _ 0
    rw [inputWords_zero]
    simp only [hc.blocks, hc.t, hc.y, tyOf_toNat]
  -- from here on `tail` is a variable: with its value in scope `exact tail_eq …` would unfold it in `whnf`
  clear_value tail ib0
  simp only [Option.pure_def, Option.bind_eq_bind, Option.bind_some]
  by_cases h0 : r = 0 ∧ sl = 0
  · have hs : startIdx r sl = 2 := if_pos h0
    have hj : sl * segLen c + 2 < q c := by rw [h0.2]; omega
    rw [if_pos h0, hs]
    cases hd : dataIndependent c.y r sl with
    | false =>
      rw [hd] at tail_eq
      rw [if_neg Bool.false_ne_true]
      exact tail_eq 2 _ _ hseg (fun _ => Nat.le_refl 2) (by omega) hj (fun h => nomatch h) (fun h => nomatch h) _ rfl
    | true =>
      rw [hd] at tail_eq
      rw [if_pos rfl, hib0 hd, next_addresses_eq c r i sl 0 (by decide), Option.bind_some]
      exact tail_eq 2 _ _ hseg (fun _ => Nat.le_refl 2) (by omega) hj (fun _ _ => rfl) (fun _ => rfl) _ rfl
  · have hs : startIdx r sl = 0 := if_neg h0
    rw [if_neg h0, hs]
    refine tail_eq 0 _ _ (Nat.zero_le _) (fun h => absurd h h0) ?_ hpos.j_lt (fun _ h => absurd rfl h) hib0 _ rfl
    by_cases hs0 : sl = 0
    · subst hs0; omega
    · have : 1 * segLen c ≤ sl * segLen c := Nat.mul_le_mul_right _ (by omega)
      omega

end Cx.Proofs.Argon2
