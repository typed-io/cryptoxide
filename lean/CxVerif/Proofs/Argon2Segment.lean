/-
  Proofs.Argon2Segment — data-independent addressing: the byte view of a block determines the block, the code's
  `input_block` words = the RFC's `Z || LE64(i) || ZERO(968)`, `next_addresses` = the RFC's address-block formula;
  one iteration of the `fill_segment` loop = the RFC's step for one block (under the loop invariant).  Core Lean only.
-/
import CxVerif.Proofs.Argon2Block
import CxVerif.Proofs.Argon2Index
import CxVerif.Proofs.ByteLemmas
namespace Cx.Proofs.Argon2
open Cx.Spec.Argon2

theorem leU64_u64le_append (x : UInt64) (rest : Bytes) : leU64 (u64le x ++ rest) = x := by
  unfold leU64 u64le
  rw [List.take_left' (Bytes.natToLE_length 8 _), Bytes.leNat_natToLE]
  have : x.toNat % 256 ^ 8 = x.toNat := Nat.mod_eq_of_lt (by have := x.toNat_lt; omega)
  rw [this]; simp

theorem drop_flatMap_u64le : ∀ (l : List UInt64) (k : Nat), (l.flatMap u64le).drop (8 * k) = (l.drop k).flatMap u64le
  | l, 0 => by simp
  | [], k + 1 => by simp
  | x :: l, k + 1 => by
    have hl : (u64le x).length = 8 := Bytes.natToLE_length 8 _
    rw [List.flatMap_cons, show 8 * (k + 1) = (u64le x).length + 8 * k by omega, List.drop_append]
    simp only [Nat.add_sub_cancel_left, List.drop_succ_cons]
    rw [List.drop_eq_nil_of_le (by omega), List.nil_append, drop_flatMap_u64le l k]

theorem blockOfBytes_bytesOfBlock (b : Block) : blockOfBytes (bytesOfBlock b) = b := by
  ext k hk
  unfold blockOfBytes bytesOfBlock
  rw [Vector.getElem_ofFn, drop_flatMap_u64le]
  have hk' : k < b.toList.length := by simpa using hk
  rw [List.drop_eq_getElem_cons hk', List.flatMap_cons, leU64_u64le_append]
  simp

theorem u64le_ofNat (v : Nat) : u64le (UInt64.ofNat v) = LE64 v := by
  unfold u64le LE64
  rw [UInt64.toNat_ofNat']
  exact Bytes.natToLE_mod 8 v

theorem flatMap_zero : ∀ n : Nat, (List.replicate n (0 : UInt64)).flatMap u64le = zeros (8 * n)
  | 0 => rfl
  | n + 1 => by
    rw [List.replicate_succ, List.flatMap_cons, flatMap_zero n]
    have : u64le 0 = zeros 8 := by decide
    rw [this]
    simp only [zeros, List.replicate_append_replicate]
    congr 1; omega

def inputWords (a0 a1 a2 a3 a4 a5 a6 : UInt64) : Block :=
  ((((((Impl.Argon2.Block.new.set 0 a0).set 1 a1).set 2 a2).set 3 a3).set 4 a4).set 5 a5).set 6 a6

theorem inputWords_bytes (a0 a1 a2 a3 a4 a5 a6 : UInt64) :
    bytesOfBlock (inputWords a0 a1 a2 a3 a4 a5 a6) =
      u64le a0 ++ u64le a1 ++ u64le a2 ++ u64le a3 ++ u64le a4 ++ u64le a5 ++ u64le a6 ++ zeros 968 := by
  have h : (inputWords a0 a1 a2 a3 a4 a5 a6).toList = a0 :: a1 :: a2 :: a3 :: a4 :: a5 :: a6 :: List.replicate 121 0 := rfl
  have hz : (List.replicate 121 (0 : UInt64)).flatMap u64le = zeros 968 := flatMap_zero 121
  unfold bytesOfBlock
  rw [h]
  simp only [List.flatMap_cons, hz, List.append_assoc]

theorem addrInput_eq (c : Params) (r l sl i : Nat) :
    addrInput c r l sl i = inputWords (UInt64.ofNat r) (UInt64.ofNat l) (UInt64.ofNat sl) (UInt64.ofNat (mPrime c))
      (UInt64.ofNat c.t) (UInt64.ofNat c.y.y) (UInt64.ofNat i) := by
  rw [← blockOfBytes_bytesOfBlock (inputWords _ _ _ _ _ _ _), inputWords_bytes]
  simp only [u64le_ofNat]
  rfl

/-- the bounds `i < 128` are given: left to the default tactic each costs more to elaborate than the whole proof -/
theorem inputWords_zero (a0 a1 a2 a3 a4 a5 : UInt64) :
    inputWords a0 a1 a2 a3 a4 a5 0 = (((((Impl.Argon2.Block.new.set 0 a0 (by decide)).set 1 a1 (by decide)).set 2 a2 (by decide)).set 3 a3
      (by decide)).set 4 a4 (by decide)).set 5 a5 (by decide) := by
  kernel_rfl

theorem inputWords_get6 (a0 a1 a2 a3 a4 a5 a6 : UInt64) : (inputWords a0 a1 a2 a3 a4 a5 a6)[6] = a6 := rfl
theorem inputWords_set6 (a0 a1 a2 a3 a4 a5 a6 x : UInt64) :
    (inputWords a0 a1 a2 a3 a4 a5 a6).set 6 x = inputWords a0 a1 a2 a3 a4 a5 x := Vector.set_set ..

/-- `next_addresses` computes the RFC's next 1024-byte address value
    `G(ZERO, G(ZERO, Z || LE64(n+1) || ZERO(968)))` and advances the counter word -/
theorem next_addresses_eq (c : Params) (r l sl n : Nat) (hn : n + 1 < 2 ^ 64) (address : Block) :
    Impl.Argon2.next_addresses address (addrInput c r l sl n) Impl.Argon2.Block.new =
      some (addrBlock c r l sl (n + 1), addrInput c r l sl (n + 1)) := by
  unfold Impl.Argon2.next_addresses
  rw [addrInput_eq, inputWords_get6, if_neg]
  · simp only [inputWords_set6, fill_block_eq_G]
    have : UInt64.ofNat n + 1 = UInt64.ofNat (n + 1) := by
      apply UInt64.toNat_inj.mp
      simp [UInt64.toNat_add, UInt64.toNat_ofNat']
    rw [this, ← addrInput_eq]
    rfl
  · intro h
    have := congrArg UInt64.toNat h
    rw [UInt64.toNat_ofNat', Nat.mod_eq_of_lt (by omega)] at this
    have h2 : (0xffffffffffffffff : UInt64).toNat = 2 ^ 64 - 1 := by decide
    omega

/-- loop invariant of `fill_segment` before the iteration for index `k` of segment (r, i, sl) -/
structure SegInv (c : Params) (r i sl k : Nat) (dia : Bool) (st : Impl.Argon2.SegState) (B : Memory) : Prop where
  mem : st.memory.blocks = B
  lane : st.memory.lane_length = q c
  size : B.size = c.p * q c
  curr : st.curr_offset = i * q c + (sl * segLen c + k)
  prev : sl * segLen c + k ≠ 1 → st.prev_offset = i * q c + (sl * segLen c + k + q c - 1) % q c
  addrA : dia = true → k % 128 ≠ 0 → st.address_block = addrBlock c r i sl (k / 128 + 1)
  addrI : dia = true → st.input_block = addrInput c r i sl (if k % 128 = 0 then k / 128 else k / 128 + 1)

theorem getElem?_getB (c : Params) (B : Memory) (i j : Nat) (h : i * q c + j < B.size) :
    B[i * q c + j]? = some (getB c B i j) := by
  unfold getB
  rw [Array.getElem?_eq_getElem h]
  simp [Array.getD, h]

theorem addrBlocks_getD (c : Params) (r l sl k : Nat) (hk : k < segLen c) :
    (addrBlocks c r l sl).getD (k / 128) zeroBlock = addrBlock c r l sl (k / 128 + 1) := by
  unfold addrBlocks
  have : k / 128 < (segLen c + 127) / 128 := by omega
  simp [Array.getD, this]

theorem shr32_toNat (x : UInt64) : (x >>> 32).toNat = x.toNat / 2 ^ 32 := by
  rw [UInt64.toNat_shiftRight, Nat.shiftRight_eq_div_pow]
  rfl

theorem lt_mul_of (i j p q : Nat) (hi : i < p) (hj : j < q) : i * q + j < p * q := by
  have : (i + 1) * q ≤ p * q := Nat.mul_le_mul_right q hi
  rw [Nat.add_mul] at this
  omega

/-- position `k` of segment (pass `r`, lane `i`, slice `sl`) on a geometry the code can address (1 ≤ p, 8p ≤ m < 2^32); the first
    two blocks of pass 0 / slice 0 are not positions of the loop -/
structure Pos (c : Params) (r i sl k : Nat) : Prop where
  hp : 1 ≤ c.p
  hm : 8 * c.p ≤ c.m
  hm2 : c.m < 2 ^ 32
  hi : i < c.p
  hsl : sl < 4
  hk : k < segLen c
  h0 : r = 0 ∧ sl = 0 → 2 ≤ k

theorem Pos.j_lt {c : Params} {r i sl k : Nat} (h : Pos c r i sl k) : sl * segLen c + k < q c := by
  rw [q_eq c h.hp]
  have := slice_le (segLen c) h.hsl; have := h.hk
  omega

theorem Pos.bounds {c : Params} {r i sl k : Nat} (h : Pos c r i sl k) :
    c.p * q c < 2 ^ 32 ∧ i * q c + q c ≤ c.p * q c ∧ 8 ≤ q c := by
  have hmp : mPrime c = c.p * q c := (geometry c h.hp).2.2
  have hmle := mPrime_le c
  have hseg := segLen_ge c h.hp h.hm
  have hq := q_eq c h.hp
  have : (i + 1) * q c ≤ c.p * q c := Nat.mul_le_mul_right _ h.hi
  rw [Nat.add_mul] at this
  have := h.hm2
  refine ⟨by omega, by omega, by omega⟩

/-- 1.1: the offset of the previous block is `B[i][(j−1) mod q]` -/
theorem rotate_eq (c : Params) (r i sl k : Nat) (hpos : Pos c r i sl k) (dia : Bool) (st : Impl.Argon2.SegState)
    (B : Memory) (inv : SegInv c r i sl k dia st B) :
    Impl.Argon2.fill_segment_body.rotate st = some (i * q c + (sl * segLen c + k + q c - 1) % q c) := by
  obtain ⟨imem, ilane, isize, icurr, iprev, iaA, iaI⟩ := inv
  have hj := hpos.j_lt
  obtain ⟨hb1, hb2, hb3⟩ := hpos.bounds
  generalize sl * segLen c + k = j at *
  unfold Impl.Argon2.fill_segment_body.rotate
  simp only [Impl.Argon2.Memory.stride, ilane, icurr]
  have hmod : (i * q c + j) % q c = j := by
    rw [Nat.add_comm, Nat.add_mul_mod_self_right, Nat.mod_eq_of_lt hj]
  rw [remU_some (by omega), hmod]
  simp only []
  by_cases h1 : j = 1
  · subst h1
    rw [if_pos rfl, subU_some (by omega)]
    congr 1
    rw [show 1 + q c - 1 = q c by omega, Nat.mod_self]
    omega
  · rw [if_neg h1, iprev h1]

theorem Pos.prev_lt {c : Params} {r i sl k : Nat} (h : Pos c r i sl k) (j : Nat) :
    i * q c + (j + q c - 1) % q c < c.p * q c := by
  obtain ⟨hb1, hb2, hb3⟩ := h.bounds
  have : (j + q c - 1) % q c < q c := Nat.mod_lt _ (by omega)
  omega

/-- 1.2.1: the pseudo-random word is the RFC's X: word `k mod 128` of the `(⌊k/128⌋+1)`-th address block (which
    `next_addresses` has just produced when `k mod 128 = 0`), or word 0 of `B[i][j−1]` -/
theorem pseudo_rand_eq (c : Params) (r i sl k : Nat) (hpos : Pos c r i sl k) (dia : Bool) (st : Impl.Argon2.SegState)
    (B : Memory) (inv : SegInv c r i sl k dia st B) :
    Impl.Argon2.fill_segment_body.pseudo_rand dia Impl.Argon2.Block.new st
        (i * q c + (sl * segLen c + k + q c - 1) % q c) k =
      some (if dia then addrBlock c r i sl (k / 128 + 1) else st.address_block,
            if dia then addrInput c r i sl (k / 128 + 1) else st.input_block,
            if dia then (addrBlock c r i sl (k / 128 + 1))[k % 128]'(Nat.mod_lt _ (by omega))
            else (getB c B i ((sl * segLen c + k + q c - 1) % q c))[0]) := by
  obtain ⟨imem, ilane, isize, icurr, iprev, iaA, iaI⟩ := inv
  unfold Impl.Argon2.fill_segment_body.pseudo_rand
  cases dia with
  | true =>
    simp only [if_true]
    have hk32 : k < 2 ^ 32 := by
      have := hpos.hk; have := q_eq c hpos.hp; obtain ⟨hb1, hb2, hb3⟩ := hpos.bounds
      have : q c ≤ c.p * q c := Nat.le_mul_of_pos_left _ hpos.hp
      omega
    by_cases h128 : k % 128 = 0
    · rw [if_pos h128, iaI rfl, if_pos h128, next_addresses_eq c r i sl (k / 128) (by omega)]
    · rw [if_neg h128, iaA rfl h128, iaI rfl, if_neg h128]
  | false =>
    simp only [Bool.false_eq_true, if_false]
    unfold Impl.Argon2.Memory.block_index
    rw [imem, getElem?_getB c B i _ (by rw [isize]; exact hpos.prev_lt _)]

/-- 1.2.2: the reference lane is `J_2 mod p`, or the current lane in the first slice of the first pass -/
theorem ref_lane_eq (c : Params) (params : Impl.Argon2.Params) (hc : Corr params c) (r i sl idx : Nat) (hp : 1 ≤ c.p)
    (X : UInt64) :
    Impl.Argon2.fill_segment_body.ref_lane params ⟨r, i, sl, idx⟩ X = some (refLane c r sl i (splitX X).2) := by
  unfold Impl.Argon2.fill_segment_body.ref_lane refLane splitX
  simp only [hc.p]
  by_cases h : r = 0 ∧ sl = 0
  · rw [if_pos h, if_pos h]
  · rw [if_neg h, if_neg h, remU_some (by omega), shr32_toNat]

/-- steps 5, 6 of RFC 9106 3.2 for one block once the 8-byte value X = J_1 || J_2 is known -/
def fillBlockX (c : Params) (r sl i : Nat) (B : Memory) (k : Nat) (X : UInt64) : Memory :=
  let j := sl * segLen c + k
  let prev := getB c B i ((j + q c - 1) % q c)
  let l := refLane c r sl i (splitX X).2
  let z := refCol c r sl k (l == i) (splitX X).1
  let new := G prev (getB c B l z)
  if r = 0 ∨ c.v = 0x10 then setB c B i j new
  else setB c B i j (xorBlock new (getB c B i j))

theorem refCol_lt (c : Params) (hp : 1 ≤ c.p) (r sl k J1 : Nat) (same : Bool) (h : InRange (segLen c) r sl k same) :
    refCol c r sl k same J1 < q c := by
  have hq := q_eq c hp
  rw [refCol_eq c hq r sl k J1 same h, hq]
  exact Nat.mod_lt _ (by have := h.seg2; omega)

theorem new_block_eq (c : Params) (params : Impl.Argon2.Params) (hc : Corr params c) (r i sl k idx : Nat)
    (hpos : Pos c r i sl k) (dia : Bool) (st : Impl.Argon2.SegState) (B : Memory) (inv : SegInv c r i sl k dia st B)
    (X : UInt64) :
    Impl.Argon2.fill_segment_body.new_block params ⟨r, i, sl, idx⟩ st
        (i * q c + (sl * segLen c + k + q c - 1) % q c) (refLane c r sl i (splitX X).2) X k =
      some { lane_length := q c, blocks := fillBlockX c r sl i B k X } := by
  obtain ⟨imem, ilane, isize, icurr, iprev, iaA, iaI⟩ := inv
  have hq := q_eq c hpos.hp
  have hj := hpos.j_lt
  obtain ⟨hb1, hb2, hb3⟩ := hpos.bounds
  have hl : refLane c r sl i (splitX X).2 < c.p := by
    unfold refLane; split
    · exact hpos.hi
    · exact Nat.mod_lt _ hpos.hp
  generalize hldef : refLane c r sl i (splitX X).2 = l at *
  have hJ1 : (X &&& 0xffffffff).toNat % 2 ^ 32 = (splitX X).1 := by
    rw [and_mask, Nat.mod_mod]; rfl
  have hJ1lt : (splitX X).1 < 2 ^ 32 := Nat.mod_lt _ (by decide)
  have hrange : InRange (segLen c) r sl k (l == i) := by
    refine ⟨segLen_ge c hpos.hp hpos.hm, by omega, hpos.hsl, hpos.hk, fun hh => ⟨?_, hpos.h0 hh⟩⟩
    rw [← hldef]; unfold refLane; rw [if_pos hh]; simp
  have hz := refCol_lt c hpos.hp r sl k (splitX X).1 (l == i) hrange
  unfold Impl.Argon2.fill_segment_body.new_block
  simp only [hJ1]
  rw [index_alpha_eq_refCol c params hq hc.seg hc.lane r i sl k (splitX X).1 (l == i) hrange hJ1lt]
  simp only [hc.lane]
  generalize hzdef : refCol c r sl k (l == i) (splitX X).1 = z at *
  have hlz : l * q c + z < c.p * q c := lt_mul_of l z c.p (q c) hl hz
  have hmul : q c * l < 2 ^ 64 := by rw [Nat.mul_comm]; omega
  rw [mul64_some hmul]
  simp only [Option.bind_some]
  rw [add64_some (by rw [Nat.mul_comm]; omega)]
  simp only [Impl.Argon2.Memory.block_index, Impl.Argon2.Memory.block_index64, imem, icurr]
  rw [getElem?_getB c B i _ (by rw [isize]; exact lt_mul_of i _ c.p (q c) hpos.hi hj)]
  simp only []
  rw [getElem?_getB c B i _ (by rw [isize]; exact hpos.prev_lt _)]
  simp only []
  rw [Nat.mul_comm (q c) l, getElem?_getB c B l z (by rw [isize]; exact hlz)]
  simp only [Impl.Argon2.Memory.set_block_index, imem, ilane]
  rw [if_pos (by rw [isize]; exact lt_mul_of i _ c.p (q c) hpos.hi hj)]
  congr 2
  unfold fillBlockX
  simp only [hldef, hzdef, hc.v]
  by_cases hx : r = 0 ∨ c.v = 0x10
  · rw [if_pos hx]
    have : (!(c.v == 16 || r == 0)) = false := by
      rcases hx with h | h <;> simp [h]
    rw [this, fill_block_eq_G]
    rfl
  · rw [if_neg hx]
    have : (!(c.v == 16 || r == 0)) = true := by
      have h1 : ¬ r = 0 := fun h => hx (Or.inl h)
      have h2 : ¬ c.v = 16 := fun h => hx (Or.inr h)
      simp [h1, h2]
    rw [this, fill_block_xor_eq_G]
    rfl

theorem fillBlock_eq (c : Params) (r sl i k : Nat) (hpos : Pos c r i sl k) (B : Memory) :
    fillBlock c r sl i (if dataIndependent c.y r sl then addrBlocks c r i sl else #[]) B k =
      fillBlockX c r sl i B k
        (if dataIndependent c.y r sl then (addrBlock c r i sl (k / 128 + 1))[k % 128]'(Nat.mod_lt _ (by omega))
         else (getB c B i ((sl * segLen c + k + q c - 1) % q c))[0]) := by
  have hseg := segLen_ge c hpos.hp hpos.hm
  have hskip : ¬ (r = 0 ∧ sl * segLen c + k < 2) := by
    intro ⟨h1, h2⟩
    by_cases hs : sl = 0
    · have := hpos.h0 ⟨h1, hs⟩; subst hs; omega
    · have : 1 * segLen c ≤ sl * segLen c := Nat.mul_le_mul_right _ (by omega)
      omega
  unfold fillBlock fillBlockX
  simp only [if_neg hskip]
  cases hd : dataIndependent c.y r sl with
  | true => simp only [if_true, addrBlocks_getD c r i sl k hpos.hk]
  | false => simp only [Bool.false_eq_true, if_false]

theorem body_eq (c : Params) (params : Impl.Argon2.Params) (hc : Corr params c) (r i sl k idx : Nat)
    (hpos : Pos c r i sl k) (st : Impl.Argon2.SegState) (B : Memory)
    (inv : SegInv c r i sl k (dataIndependent c.y r sl) st B) :
    ∃ st', Impl.Argon2.fill_segment_body params ⟨r, i, sl, idx⟩ (dataIndependent c.y r sl) Impl.Argon2.Block.new st k =
        some st' ∧
      SegInv c r i sl (k + 1) (dataIndependent c.y r sl) st'
        (fillBlock c r sl i (if dataIndependent c.y r sl then addrBlocks c r i sl else #[]) B k) := by
  have hj := hpos.j_lt
  obtain ⟨hb1, hb2, hb3⟩ := hpos.bounds
  have hprev := hpos.prev_lt (sl * segLen c + k)
  have e2 : (sl * segLen c + (k + 1) + q c - 1) % q c = sl * segLen c + k := by
    rw [show sl * segLen c + (k + 1) + q c - 1 = sl * segLen c + k + q c by omega, Nat.add_mod_right,
      Nat.mod_eq_of_lt hj]
  have e3 : sl * segLen c + k ≠ 0 → (sl * segLen c + k + q c - 1) % q c = sl * segLen c + k - 1 := by
    intro h
    rw [show sl * segLen c + k + q c - 1 = (sl * segLen c + k - 1) + q c by omega, Nat.add_mod_right,
      Nat.mod_eq_of_lt (by omega)]
  unfold Impl.Argon2.fill_segment_body
  rw [rotate_eq c r i sl k hpos _ st B inv]
  simp only []
  rw [pseudo_rand_eq c r i sl k hpos _ st B inv]
  simp only []
  rw [ref_lane_eq c params hc r i sl idx hpos.hp]
  simp only []
  rw [new_block_eq c params hc r i sl k idx hpos _ st B inv]
  simp only []
  rw [fillBlock_eq c r sl i k hpos B]
  obtain ⟨imem, ilane, isize, icurr, iprev, iaA, iaI⟩ := inv
  rw [icurr, add32_some (by omega)]
  simp only []
  rw [add32_some (by omega)]
  refine ⟨_, rfl, ⟨rfl, rfl, ?_, ?_, ?_, ?_, ?_⟩⟩
  · unfold fillBlockX
    simp only []
    split <;> simp [setB, isize]
  · simp only []; omega
  · intro hne
    simp only []
    rw [e2, e3 (by omega)]
    omega
  · intro hd hne
    simp only [hd, if_true]
    congr 1
    omega
  · intro hd
    simp only [hd, if_true]
    congr 1
    split <;> omega

/-- the whole `for i in starting_index..segment_length` loop = the RFC's steps for the blocks `k .. segLen−1` of the
    segment, in order -/
theorem loop_eq (c : Params) (params : Impl.Argon2.Params) (hc : Corr params c) (r i sl idx : Nat)
    (hp : 1 ≤ c.p) (hm : 8 * c.p ≤ c.m) (hm2 : c.m < 2 ^ 32) (hi : i < c.p) (hsl : sl < 4) :
    ∀ (n k : Nat) (st : Impl.Argon2.SegState) (B : Memory), k + n = segLen c → (r = 0 ∧ sl = 0 → 2 ≤ k) →
      SegInv c r i sl k (dataIndependent c.y r sl) st B →
      ∃ st', Impl.Argon2.fill_segment_loop params ⟨r, i, sl, idx⟩ (dataIndependent c.y r sl) Impl.Argon2.Block.new
          (List.range' k n) st = some st' ∧
        SegInv c r i sl (segLen c) (dataIndependent c.y r sl) st'
          ((List.range' k n).foldl
            (fillBlock c r sl i (if dataIndependent c.y r sl then addrBlocks c r i sl else #[])) B)
  | 0, k, st, B, hkn, _, inv => by
    have : k = segLen c := by omega
    subst this
    exact ⟨st, rfl, inv⟩
  | n + 1, k, st, B, hkn, h0, inv => by
    have hpos : Pos c r i sl k := ⟨hp, hm, hm2, hi, hsl, by omega, h0⟩
    obtain ⟨st1, e1, inv1⟩ := body_eq c params hc r i sl k idx hpos st B inv
    obtain ⟨st2, e2, inv2⟩ := loop_eq c params hc r i sl idx hp hm hm2 hi hsl n (k + 1) st1 _ (by omega)
      (fun hh => by have := h0 hh; omega) inv1
    refine ⟨st2, ?_, ?_⟩
    · rw [List.range'_succ]
      unfold Impl.Argon2.fill_segment_loop
      rw [e1]
      exact e2
    · rw [List.range'_succ, List.foldl_cons]
      exact inv2

theorem dia_eq (params : Impl.Argon2.Params) (y : Ty) (hy : params.hash_type = tyOf y) (r i sl idx : Nat) :
    Impl.Argon2.data_independent_addressing params ⟨r, i, sl, idx⟩ = dataIndependent y r sl := by
  unfold Impl.Argon2.data_independent_addressing dataIndependent Impl.Argon2.SYNC_POINTS
  rw [hy]
  cases y
  · simp [tyOf]
  · simp [tyOf]
  · have hne : (Impl.Argon2.Type'.Argon2id == Impl.Argon2.Type'.Argon2i) = false := by decide
    have hsl : decide (sl < 2) = (sl == 0 || sl == 1) := by
      by_cases h1 : sl = 0
      · simp [h1]
      · by_cases h2 : sl = 1
        · simp [h2]
        · have : ¬ sl < 2 := by omega
          simp [h1, h2, this]
    have heq : (Impl.Argon2.Type'.Argon2id == Impl.Argon2.Type'.Argon2id) = true := by decide
    simp only [tyOf, hne, hsl, heq, Bool.false_or, Bool.true_and]

end Cx.Proofs.Argon2
