/-
  Proofs.BindWalk — a head-directed tactic for the ties of the Option-monad limb kernels (used in Props/C17/KernelTieB32.lean,
  Proofs/GlueRestMuladd.lean, Props/C20/GlueTieRest.lean; Props/C11/KernelTie.lean applies the step lemma `bcongr` by hand).  Both
  sides of such a tie are straight-line programs in the `Option` monad:
      generated:  x₁.bind fun a₁ => x₂.bind fun a₂ => … => some r           (one bind per checked Rust operation)
      model:      the same operations, grouped into helpers (`carryR`, `mac`, `qstep`, …) that end in `pure`
  Normalising the model side with `simp only [helpers, Option.bind_assoc, Option.bind_some]` re-simplifies the whole
  continuation after every rewrite.  `bind_walk [helpers]` instead walks both sides from the head,
  syntactically, one explicit lemma application per move (the kernel is never asked to discover a reduction):
      side = c args,  c ∈ helpers              ↦  unfold c                       (definitional, checked by delta)
      side = (a.bind b).bind c                 ↦  a.bind fun x => (b x).bind c   (`bassocR` / `bassocL`)
      side = (some v).bind K                   ↦  K v                            (`bsomeR` / `bsomeL`)
      lhs = x.bind F, rhs = y.bind G           ↦  `x = y` by `rfl` on the small operand terms, continue with `F a = G a`
  and closes the final `some r = some r'` goal by `rfl`.  Every move is linear in the term.
-/
import Lean
namespace Cx.Proofs.BindWalk
open Lean Elab Tactic Meta

theorem bcongr {α β : Type} (x y : Option α) (f g : α → Option β) (hx : x = y) (h : ∀ a, f a = g a) :
    x.bind f = y.bind g := by
  subst hx
  cases x with
  | none => rfl
  | some a => exact h a

theorem bsomeR {α β : Type} (L : Option β) (v : α) (K : α → Option β) (h : L = K v) : L = (some v).bind K := h
theorem bsomeL {α β : Type} (R : Option β) (v : α) (K : α → Option β) (h : K v = R) : (some v).bind K = R := h
theorem bassocR {α β γ : Type} (L : Option γ) (a : Option α) (b : α → Option β) (c : β → Option γ)
    (h : L = a.bind fun x => (b x).bind c) : L = (a.bind b).bind c := by
  rw [h]; cases a <;> rfl
theorem bassocL {α β γ : Type} (R : Option γ) (a : Option α) (b : α → Option β) (c : β → Option γ)
    (h : (a.bind fun x => (b x).bind c) = R) : (a.bind b).bind c = R := by
  rw [← h]; cases a <;> rfl

/-- `Bind.bind` / `Pure.pure` of the `Option` monad (what `do` notation elaborates to) as `Option.bind` / `some` -/
def optForm (e : Expr) : Expr :=
  if e.isAppOfArity ``Bind.bind 6 && (e.getArg! 0).isConstOf ``Option then
    mkApp4 (mkConst ``Option.bind [Level.zero, Level.zero]) (e.getArg! 2) (e.getArg! 3) (e.getArg! 4) (e.getArg! 5)
  else if e.isAppOfArity ``Pure.pure 4 && (e.getArg! 0).isConstOf ``Option then
    mkApp2 (mkConst ``Option.some [Level.zero]) (e.getArg! 2) (e.getArg! 3)
  else e

/-- ONE definitional move at the head of a side (so that the kernel re-checks it by a single unfolding, never by a search):
    beta / zeta / iota / projections at the root or at the head operand of a bind; `Bind.bind`/`Pure.pure` of the `Option`
    monad into `Option.bind`/`some` form; a helper constant of `unf` unfolded at the root or as the head operand. -/
def defMove (unf : Array Name) (e : Expr) : MetaM (Option Expr) := do
  let e1 ← whnfCore e
  if e1 != e then return some e1
  let e2 := optForm e
  if e2 != e then return some e2
  let fn := e.getAppFn
  if fn.isConst && unf.contains fn.constName! then
    if let some e' ← unfoldDefinition? e then return some e'
  if e.isAppOfArity ``Option.bind 4 then
    let x := e.getArg! 2
    let rebuild (x' : Expr) : Expr := mkApp4 e.getAppFn (e.getArg! 0) (e.getArg! 1) x' (e.getArg! 3)
    let x1 ← whnfCore x
    if x1 != x then return some (rebuild x1)
    let x2 := optForm x
    if x2 != x then return some (rebuild x2)
    let xfn := x.getAppFn
    if xfn.isConst && unf.contains xfn.constName! then
      if let some x' ← unfoldDefinition? x then return some (rebuild x')
  return none

/-- the moves of the first three rows of the table, on either side, until none applies -/
partial def normHeads (unf : Array Name) : TacticM Unit := withMainContext do
  let g ← getMainGoal
  let t ← instantiateMVars (← g.getType)
  let some (_, lhs', rhs') := t.eq? | throwError "bind_walk: goal is not an equation"
  if let some r ← defMove unf rhs' then
    replaceMainGoal [← g.replaceTargetDefEq (← mkEq lhs' r)]
    return ← normHeads unf
  if let some l ← defMove unf lhs' then
    replaceMainGoal [← g.replaceTargetDefEq (← mkEq l rhs')]
    return ← normHeads unf
  if rhs'.isAppOfArity ``Option.bind 4 then
    let x := rhs'.getArg! 2
    let k := rhs'.getArg! 3
    if x.isAppOfArity ``Option.some 2 then
      let v := x.getArg! 1
      let newGoal ← mkFreshExprSyntheticOpaqueMVar (← mkEq lhs' (k.beta #[v]))
      g.assign (← mkAppM ``Cx.Proofs.BindWalk.bsomeR #[lhs', v, k, newGoal])
      replaceMainGoal [newGoal.mvarId!]
      return ← normHeads unf
    if x.isAppOfArity ``Option.bind 4 then
      let a := x.getArg! 2
      let b := x.getArg! 3
      let inner ← withLocalDeclD `x (x.getArg! 0) fun xv => do
        mkLambdaFVars #[xv] (mkApp4 rhs'.getAppFn (rhs'.getArg! 0) (rhs'.getArg! 1) (b.beta #[xv]) k)
      let new := mkApp4 rhs'.getAppFn (x.getArg! 0) (rhs'.getArg! 1) a inner
      let newGoal ← mkFreshExprSyntheticOpaqueMVar (← mkEq lhs' new)
      g.assign (← mkAppM ``Cx.Proofs.BindWalk.bassocR #[lhs', a, b, k, newGoal])
      replaceMainGoal [newGoal.mvarId!]
      return ← normHeads unf
  if lhs'.isAppOfArity ``Option.bind 4 then
    let x := lhs'.getArg! 2
    let k := lhs'.getArg! 3
    if x.isAppOfArity ``Option.some 2 then
      let v := x.getArg! 1
      let newGoal ← mkFreshExprSyntheticOpaqueMVar (← mkEq (k.beta #[v]) rhs')
      g.assign (← mkAppM ``Cx.Proofs.BindWalk.bsomeL #[rhs', v, k, newGoal])
      replaceMainGoal [newGoal.mvarId!]
      return ← normHeads unf
    if x.isAppOfArity ``Option.bind 4 then
      let a := x.getArg! 2
      let b := x.getArg! 3
      let inner ← withLocalDeclD `x (x.getArg! 0) fun xv => do
        mkLambdaFVars #[xv] (mkApp4 lhs'.getAppFn (lhs'.getArg! 0) (lhs'.getArg! 1) (b.beta #[xv]) k)
      let new := mkApp4 lhs'.getAppFn (x.getArg! 0) (lhs'.getArg! 1) a inner
      let newGoal ← mkFreshExprSyntheticOpaqueMVar (← mkEq new rhs')
      g.assign (← mkAppM ``Cx.Proofs.BindWalk.bassocL #[rhs', a, b, k, newGoal])
      replaceMainGoal [newGoal.mvarId!]
      return ← normHeads unf

/-- one step of the walk; fails unless both sides have a bind at their head, or when the two head operations differ -/
def step (unf : Array Name) : TacticM Unit := do
  normHeads unf
  withMainContext do
  let g ← getMainGoal
  let t ← instantiateMVars (← g.getType)
  let some (_, lhs', rhs') := t.eq? | throwError "bind_walk: goal is not an equation"
  unless lhs'.isAppOfArity ``Option.bind 4 && rhs'.isAppOfArity ``Option.bind 4 do
    throwError "bind_walk: no bind at the head of both sides"
  let x := lhs'.getArg! 2
  let y := rhs'.getArg! 2
  let f := lhs'.getArg! 3
  let k := rhs'.getArg! 3
  let α := lhs'.getArg! 0
  unless ← isDefEq x y do
    throwError "bind_walk: the head operations differ:{indentExpr x}\nvs{indentExpr y}"
  let newTy ← withLocalDeclD `a α fun a => do
    mkForallFVars #[a] (← mkEq (f.beta #[a]) (k.beta #[a]))
  let newGoal ← mkFreshExprSyntheticOpaqueMVar newTy
  let pf ← mkAppM ``Cx.Proofs.BindWalk.bcongr #[x, y, f, k, ← mkEqRefl x, newGoal]
  g.assign pf
  let (_, g') ← newGoal.mvarId!.intro1
  replaceMainGoal [g']

def resolveNames (ids : Array (TSyntax `ident)) : TacticM (Array Name) :=
  ids.mapM fun i => realizeGlobalConstNoOverloadWithInfo i

/-- `bind_walk [helper, …]`: walk the two bind chains in lock step as long as both have a bind at the head (unfolding
    the named helper definitions when they come to the head), expose the remaining heads and close the goal by `rfl`.
    After every 100 moves the rest of the proof is wrapped into an auxiliary lemma (`as_aux_lemma`), so that the nesting
    depth of any single proof term stays small (the kernel otherwise reports "deep recursion" on the longest walk,
    `Scalar32Muladd.muladd_src_eq_model` of Props/C20/GlueTieRest.lean). -/
syntax "bind_walk" "[" ident,* "]" : tactic

elab_rules : tactic
  | `(tactic| bind_walk [$ids,*]) => do
    let unf ← resolveNames ids.getElems
    let mut n := 0
    let mut more := true
    while more && n < 100 do
      let ok ← try step unf; pure true catch _ => pure false
      if ok then n := n + 1 else more := false
    if more then
      evalTactic (← `(tactic| as_aux_lemma => bind_walk [$ids,*]))
    else
      normHeads unf
      evalTactic (← `(tactic| rfl))

end Cx.Proofs.BindWalk
