/-
  Proofs.Bits — bit fields of a number.  `N / 2^o % 2^k` is the field of `k` bits of `N` from bit `o` on; every
  limb a decoder loads is such a field of the little-endian number of the bytes, and every word an encoder writes is
  such a field of the value of the limbs.
  All exponents are variables; a use gives them as numerals and the equations between them are closed by `decide`.
-/
import CxVerif.Proofs.ByteLemmas
namespace Cx.Proofs.Bits

theorem field_lt (N o k : Nat) : N / 2^o % 2^k < 2^k := Nat.mod_lt _ (Nat.two_pow_pos k)

theorem div_div_pow (N a s : Nat) : N / 2^a / 2^s = N / 2^(a + s) := by
  rw [Nat.div_div_eq_div_mul, ← Nat.pow_add]

theorem field_field (N a n s k : Nat) (h : s + k ≤ n) : N / 2^a % 2^n / 2^s % 2^k = N / 2^(a + s) % 2^k := by
  obtain ⟨d, rfl⟩ : ∃ d, n = s + (k + d) := ⟨n - s - k, by omega⟩
  rw [Nat.pow_add, Nat.mod_mul_right_div_self, Nat.pow_add, Nat.mod_mul_right_mod, div_div_pow]

theorem field_low (N a n k : Nat) (h : k ≤ n) : N / 2^a % 2^n % 2^k = N / 2^a % 2^k :=
  Nat.mod_mod_of_dvd _ (Nat.pow_dvd_pow 2 h)

theorem field_high (N a s k : Nat) : N / 2^a % 2^(s + k) / 2^s = N / 2^(a + s) % 2^k := by
  rw [Nat.pow_add, Nat.mod_mul_right_div_self, div_div_pow]

theorem field_add (N o j k : Nat) : N / 2^o % 2^(j + k) = N / 2^o % 2^j + 2^j * (N / 2^(o + j) % 2^k) := by
  rw [Nat.pow_add, Nat.mod_mul, div_div_pow]

theorem field_join (N a s j m n : Nat) (hm : m ≤ n) :
    N / 2^a % 2^(s + j) / 2^s + N / 2^(a + (s + j)) % 2^n % 2^m * 2^j = N / 2^(a + s) % 2^(j + m) := by
  rw [field_high, field_low _ _ _ _ hm, field_add, Nat.add_assoc, Nat.mul_comm]

theorem leNat_window_succ (b : Bytes) (o k : Nat) (h : o < b.length) :
    leNat b / 2^(8*o) % 2^(8*(k+1)) = b[o].toNat + 256 * (leNat b / 2^(8*(o+1)) % 2^(8*k)) := by
  have e := Bytes.leNat_drop b o
  rw [List.drop_eq_getElem_cons h, leNat, Bytes.leNat_drop] at e
  have hx := b[o].toNat_lt
  rw [show 2^(8*o) = 256^o from Nat.pow_mul .., show 2^(8*(o+1)) = 256^(o+1) from Nat.pow_mul .., ← e,
    show 2^(8*(k+1)) = 256 * 2^(8*k) by rw [Nat.mul_succ, Nat.pow_add, Nat.mul_comm], Nat.mod_mul]
  generalize leNat b / 256^(o+1) = q
  rw [show (b[o].toNat + 256 * q) % 256 = b[o].toNat by omega, show (b[o].toNat + 256 * q) / 256 = q by omega]

/-- the window of no bytes, where the unfolding by `leNat_window_succ` stops -/
theorem leNat_window_zero (v : Nat) : v % 2^(8*0) = 0 := Nat.mod_one v

theorem leNat_bit (b : Bytes) (t : Nat) (h : t / 8 < b.length) : leNat b / 2^t % 2 = b[t / 8].toNat / 2^(t % 8) % 2 := by
  have hb := leNat_window_succ b (t / 8) 0 h
  rw [leNat_window_zero] at hb
  have hf := field_field (leNat b) (8 * (t / 8)) (8 * (0 + 1)) (t % 8) 1 (by omega)
  rw [Nat.div_add_mod, hb] at hf
  exact hf.symm

/-- eight bytes OR-ed together at their shifts, as a `load` of a u64 writes them -/
theorem or8 {n0 n1 n2 n3 n4 n5 n6 n7 : Nat} (h0 : n0 < 256) (h1 : n1 < 256) (h2 : n2 < 256) (h3 : n3 < 256) (h4 : n4 < 256)
    (h5 : n5 < 256) (h6 : n6 < 256) :
    n0 ||| n1 <<< 8 ||| n2 <<< 16 ||| n3 <<< 24 ||| n4 <<< 32 ||| n5 <<< 40 ||| n6 <<< 48 ||| n7 <<< 56 =
      n0 + 256 * (n1 + 256 * (n2 + 256 * (n3 + 256 * (n4 + 256 * (n5 + 256 * (n6 + 256 * (n7 + 256 * 0))))))) := by
  simp only [Nat.shiftLeft_eq]
  rw [Bytes.or_add _ _ 8 (by omega), Bytes.or_add _ _ 16 (by omega), Bytes.or_add _ _ 24 (by omega), Bytes.or_add _ _ 32 (by omega),
    Bytes.or_add _ _ 40 (by omega), Bytes.or_add _ _ 48 (by omega), Bytes.or_add _ _ 56 (by omega)]
  omega

theorem leNat_window8 (b : Bytes) (o : Nat) (h : o + 7 < b.length) :
    leNat b / 2^(8*o) % 2^64 = b[o].toNat + 256 * (b[o+1].toNat + 256 * (b[o+2].toNat + 256 * (b[o+3].toNat + 256 * (b[o+4].toNat
      + 256 * (b[o+5].toNat + 256 * (b[o+6].toNat + 256 * (b[o+7].toNat + 256 * 0))))))) := by
  rw [show (2:Nat)^64 = 2^(8*(7+1)) from rfl, leNat_window_succ b o 7 (by omega),
    leNat_window_succ b (o+1) 6 (by omega), leNat_window_succ b (o+2) 5 (by omega),
    leNat_window_succ b (o+3) 4 (by omega), leNat_window_succ b (o+4) 3 (by omega),
    leNat_window_succ b (o+5) 2 (by omega), leNat_window_succ b (o+6) 1 (by omega),
    leNat_window_succ b (o+7) 0 (by omega), leNat_window_zero]

/-! ### the words of a number given limb by limb -/

theorem shr_lt {x w : Nat} (s k : Nat) (hx : x < 2^w) (hw : s + k = w := by decide) : x / 2^s < 2^k :=
  Nat.div_lt_of_lt_mul (Nat.pow_add .. ▸ hw ▸ hx)

theorem word_lo {a : Nat} (k j W Y : Nat) (ha : a < 2^k) (hW : k + j = W := by decide) :
    (a + 2^k * Y) % 2^W = a + 2^k * (Y % 2^j) := by
  subst hW
  rw [Nat.pow_add, Nat.mod_mul, Nat.add_mul_mod_self_left, Nat.mod_eq_of_lt ha,
    Nat.add_mul_div_left _ _ (Nat.two_pow_pos k), Nat.div_eq_of_lt ha, Nat.zero_add]

theorem word_hi {a : Nat} (k j W Y : Nat) (ha : a < 2^k) (hW : k + j = W := by decide) :
    (a + 2^k * Y) / 2^W = Y / 2^j := by
  subst hW
  rw [← div_div_pow, Nat.add_mul_div_left _ _ (Nat.two_pow_pos k), Nat.div_eq_of_lt ha, Nat.zero_add]

theorem horner_mod (u j w y t : Nat) (hw : u + j = w := by decide) : (y + 2^w * t) % 2^j = y % 2^j := by
  subst hw
  rw [Nat.pow_add, Nat.mul_comm (2^u), Nat.mul_assoc, Nat.add_mul_mod_self_left]

theorem horner_div (u j w y t : Nat) (hw : u + j = w := by decide) :
    (y + 2^w * t) / 2^j = y / 2^j + 2^u * t := by
  subst hw
  rw [Nat.pow_add, Nat.mul_comm (2^u), Nat.mul_assoc, Nat.add_mul_div_left _ _ (Nat.two_pow_pos j)]

/-- `a | (b << k)` on a `W`-bit word, `a` below bit `k`: the bits of `b` shifted past bit `W` are dropped -/
theorem or_shl {a : Nat} (k j W b : Nat) (ha : a < 2^k) (hW : k + j = W := by decide) :
    a ||| (b <<< k % 2^W) = a + 2^k * (b % 2^j) := by
  subst hW
  rw [Nat.shiftLeft_eq, Nat.mul_comm b, Nat.pow_add, Nat.mul_mod_mul_left, Nat.mul_comm, Bytes.or_add _ _ _ ha, Nat.mul_comm]

theorem byte_shl_lt (x : UInt8) {k : Nat} (hk : k ≤ 56) : x.toNat <<< k < 2^64 := by
  rw [Nat.shiftLeft_eq]
  calc x.toNat * 2^k < 2^8 * 2^k := Nat.mul_lt_mul_of_pos_right x.toNat_lt (Nat.two_pow_pos k)
    _ = 2^(8 + k) := (Nat.pow_add ..).symm
    _ ≤ 2^64 := Nat.pow_le_pow_right (by decide) (by omega)

/-- a number written in fields `(width, field)`, lowest first -/
def tiled (l : List (Nat × Nat)) : Nat := l.foldr (fun p t => p.2 + 2^p.1 * t) 0

/-- the consecutive fields of `N` from bit `o` on, of the widths `ws` (folds, not `match`: a matcher declared in a module this
    low in the import order is reused by every later definition that matches with the same patterns, which changes what the
    definitions above it elaborate to) -/
def fieldsOf (N o : Nat) (ws : List Nat) : List (Nat × Nat) :=
  ws.foldr (fun w k o => (w, N / 2^o % 2^w) :: k (o + w)) (fun _ => []) o

theorem tiled_fieldsOf (N : Nat) (ws : List Nat) : ∀ o, tiled (fieldsOf N o ws) = N / 2^o % 2^ws.sum := by
  induction ws with
  | nil => intro o; exact (Nat.mod_one _).symm
  | cons w ws ih =>
    intro o
    rw [List.sum_cons, field_add, ← ih (o + w)]
    rfl

/-- three / four bytes OR-ed together at their shifts, as a 3- or 4-byte `load` writes them -/
theorem load3_sum (n0 n1 n2 : Nat) (h0 : n0 < 256) (h1 : n1 < 256) :
    n0 ||| (n1 <<< 8) ||| (n2 <<< 16) = n0 + n1 * 2^8 + n2 * 2^16 := by
  simp only [Nat.shiftLeft_eq]
  rw [Bytes.or_add n0 n1 8 (by omega), Bytes.or_add _ n2 16 (by omega)]

theorem load4_sum (n0 n1 n2 n3 : Nat) (h0 : n0 < 256) (h1 : n1 < 256) (h2 : n2 < 256) :
    n0 ||| (n1 <<< 8) ||| (n2 <<< 16) ||| (n3 <<< 24) = n0 + n1 * 2^8 + n2 * 2^16 + n3 * 2^24 := by
  simp only [Nat.shiftLeft_eq]
  rw [Bytes.or_add n0 n1 8 (by omega), Bytes.or_add _ n2 16 (by omega), Bytes.or_add _ n3 24 (by omega)]

end Cx.Proofs.Bits
