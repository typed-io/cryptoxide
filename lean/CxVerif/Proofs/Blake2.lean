/-
  Proofs.Blake2 — the refinement of the blake2 unit, generic over the variant `P : Params W`, in layers:
  the two counter words as one number; the engine as a function `engAt h t` of its chaining value and that number
  (`increment_counter`, `compress` and the block loop of `update_mut` are equations on it); the lazy state
  `lazy P h t data` = what has been compressed and what is still pending after `data` (a full last block stays
  pending); the buffer invariant `Inv` and its preservation; `update_mut` and `internal_final` against the lazy state;
  the relation `Rel` between a context and (start chaining value, start counter, data so far) with one lemma per
  operation.
-/
import CxVerif.Proofs.Blake2Tables
import CxVerif.Proofs.ByteLemmas
namespace Cx.Proofs.Blake2
open Cx.Spec.Blake2
open Cx.Impl.Blake2 (Engine Ctx Profile LastBlock setSlice zeroFrom addAssign compressRows initH)

section generic
variable {W : Type} [Word W]

theorem toLE_length (x : W) : (toLE x).length = wbytes W := Bytes.natToLE_length _ _

theorem hbytes_length (h : Vector W 8) : (h.toList.flatMap toLE).length = 8 * wbytes W := by
  rw [Bytes.length_flatMap_const _ _ toLE_length, Vector.length_toList, Nat.mul_comm]

theorem setSlice_length (buf : Bytes) (off : Nat) (src : Bytes) (h : off + src.length ≤ buf.length) :
    (setSlice buf off src).length = buf.length := by
  simp [setSlice]; omega

theorem take_setSlice (buf : Bytes) (off : Nat) (src : Bytes) (h : off ≤ buf.length) :
    (setSlice buf off src).take (off + src.length) = buf.take off ++ src := by
  have h1 : (buf.take off ++ src).length = off + src.length := by simp; omega
  unfold setSlice
  rw [List.take_append_of_le_length (by omega), List.take_of_length_le (by omega)]

theorem zeroFrom_length (buf : Bytes) (off : Nat) (h : off ≤ buf.length) : (zeroFrom buf off).length = buf.length := by
  simp [zeroFrom, Bytes.zeros_length]; omega

theorem zeroFrom_zero (buf : Bytes) : zeroFrom buf 0 = zeros buf.length := by simp [zeroFrom]

/-- the engine's counter words hold the 2w-bit number `t` (mod 2^(2w)) -/
def Counts (e : Engine W) (t : Nat) : Prop :=
  e.t0 = t % 2 ^ Word.bits W ∧ e.t1 = t / 2 ^ Word.bits W % 2 ^ Word.bits W

/-- what the proofs need to know about a variant (`good_b`, `good_s` below) -/
structure Good (P : Params W) : Prop where
  bits : Word.bits W = 32 ∨ Word.bits W = 64
  bb_pos : 0 < P.bb
  bb_lt : P.bb < 2 ^ 32
  bb_ge : 8 * wbytes W ≤ P.bb
  rows : compressRows P = Spec.Blake2.rows P.rounds
  out_le : P.maxOut ≤ 8 * wbytes W
  key_le : P.maxKey ≤ P.bb
  param : ∀ nn kk, nn ≤ P.maxOut → kk ≤ P.maxKey → initH P nn kk = init P nn kk

/-- both word sizes hold a 32-bit `usize` increment -/
theorem Good.lt_word {P : Params W} (g : Good P) {n : Nat} (hn : n < 2 ^ 32) : n < 2 ^ Word.bits W :=
  Nat.lt_of_lt_of_le hn (Nat.pow_le_pow_right (by decide) (by rcases g.bits with hb | hb <;> rw [hb] <;> decide))

/-- no overflow of the low counter word when `inc` more bytes are counted from `t` (checked profile only) -/
def Fits (W : Type) [Word W] (pr : Profile) (t inc : Nat) : Prop :=
  pr = Profile.wrapping ∨ t % 2 ^ Word.bits W + inc < 2 ^ Word.bits W

/-- adding `inc` to a two-word counter with word modulus `M`, as the code does it: the low word wraps and the carry
    `new low < inc` goes into the high word -/
theorem counter_wrap (M t inc : Nat) (hM : 0 < M) (hi : inc < M) :
    (t % M + inc) % M = (t + inc) % M ∧
    (t / M % M + if (t % M + inc) % M < inc then 1 else 0) % M = (t + inc) / M % M := by
  have hd := Nat.div_add_mod t M
  have ha := Nat.mod_lt t hM
  generalize t / M = q at *
  generalize t % M = a at *
  subst hd
  rw [Nat.add_assoc, Nat.mul_add_mod, Nat.mul_add_div hM]
  refine ⟨rfl, ?_⟩
  by_cases h : a + inc < M
  · rw [Nat.mod_eq_of_lt h, if_neg (by omega), Nat.div_eq_of_lt h, Nat.add_zero, Nat.add_zero, Nat.mod_mod]
  · have h2 : (a + inc) / M = 1 := Nat.div_eq_of_lt_le (by omega) (by omega)
    have h1 : (a + inc) % M < inc := by have := Nat.div_add_mod (a + inc) M; rw [h2] at this; omega
    rw [if_pos h1, h2, Nat.mod_add_mod]

/-- the same without wrap-around; `+ 0` is what is left of the carry `if new low < inc then 1 else 0` once the `if` is decided,
    so that the facts rewrite the code's text as it stands -/
theorem counter_fits (M t inc : Nat) (hM : 0 < M) (hf : t % M + inc < M) :
    t % M + inc = (t + inc) % M ∧ ¬ (t % M + inc < inc) ∧ t / M % M + 0 < M ∧ t / M % M + 0 = (t + inc) / M % M := by
  have hd := Nat.div_add_mod t M
  generalize t / M = q at *
  generalize t % M = a at *
  subst hd
  rw [Nat.add_assoc, Nat.mul_add_mod, Nat.mul_add_div hM, Nat.mod_eq_of_lt hf, Nat.div_eq_of_lt hf]
  exact ⟨rfl, by omega, Nat.mod_lt _ hM, rfl⟩

theorem counter_value (M t0 t1 inc : Nat) (h0 : t0 < M) (h1 : t1 < M) (hi : inc < M) :
    (t0 + inc) % M + M * ((t1 + if (t0 + inc) % M < inc then 1 else 0) % M) = (t0 + M * t1 + inc) % (M * M) := by
  have hM : 0 < M := by omega
  have h := counter_wrap M (t0 + M * t1) inc hM hi
  rw [Nat.add_mul_mod_self_left, Nat.add_mul_div_left _ _ hM, Nat.div_eq_of_lt h0, Nat.zero_add,
    Nat.mod_eq_of_lt h0, Nat.mod_eq_of_lt h1] at h
  rw [h.2, h.1, Nat.mod_mul]

theorem increment_counter_checked_none (e : Engine W) (inc : Nat) (h1 : e.t1 < 2 ^ Word.bits W) :
    e.increment_counter .checked inc = none ↔ 2 ^ Word.bits W ≤ e.t0 + inc := by
  unfold Engine.increment_counter addAssign
  by_cases hlt : e.t0 + inc < 2 ^ Word.bits W
  · have h2 : ¬ (e.t0 + inc < inc) := by omega
    simp only [hlt, h2, ↓reduceIte, Nat.add_zero, h1]
    exact ⟨fun h => (nomatch h), fun h => absurd hlt (Nat.not_lt.mpr h)⟩
  · rw [if_neg hlt]
    exact ⟨fun _ => Nat.not_lt.mp hlt, fun _ => rfl⟩

theorem Fits.mono {pr : Profile} {t n m : Nat} (h : Fits W pr t n) (hm : m ≤ n) : Fits W pr t m := by
  unfold Fits at *
  rcases h with h | h
  · exact Or.inl h
  · exact Or.inr (by omega)

theorem Fits.step {pr : Profile} {t n b : Nat} (h : Fits W pr t n) (hb : b ≤ n) : Fits W pr (t + b) (n - b) := by
  unfold Fits at *
  rcases h with h | h
  · exact Or.inl h
  · refine Or.inr ?_
    have : (t + b) % 2 ^ Word.bits W ≤ t % 2 ^ Word.bits W + b := by
      rw [← Nat.mod_add_mod]; exact Nat.mod_le _ _
    omega

def engAt (h : Vector W 8) (t : Nat) : Engine W :=
  ⟨h, t % 2 ^ Word.bits W, t / 2 ^ Word.bits W % 2 ^ Word.bits W⟩

theorem engAt_words (h : Vector W 8) {t0 : Nat} (t1 : Nat) (h0 : t0 < 2 ^ Word.bits W) :
    engAt h (t0 + 2 ^ Word.bits W * t1) = ⟨h, t0, t1 % 2 ^ Word.bits W⟩ := by
  unfold engAt
  rw [Nat.add_mul_mod_self_left, Nat.add_mul_div_left _ _ (Nat.pow_pos (by decide)), Nat.div_eq_of_lt h0, Nat.zero_add,
    Nat.mod_eq_of_lt h0]

theorem counts_words (h : Vector W 8) (t0 t1 : Nat) (h0 : t0 < 2 ^ Word.bits W) (h1 : t1 < 2 ^ Word.bits W) :
    Counts ⟨h, t0, t1⟩ (t0 + 2 ^ Word.bits W * t1) := by
  have e := engAt_words h t1 h0
  rw [Nat.mod_eq_of_lt h1] at e
  exact ⟨(congrArg Engine.t0 e).symm, (congrArg Engine.t1 e).symm⟩

theorem Counts.eq_engAt {e : Engine W} {t : Nat} (hc : Counts e t) : e = engAt e.h t := by
  obtain ⟨h, t0, t1⟩ := e
  obtain ⟨rfl, rfl⟩ := hc
  rfl

theorem engAt_inc {P : Params W} (g : Good P) (pr : Profile) (h : Vector W 8) (t inc : Nat) (hinc : inc < 2 ^ 32)
    (hf : Fits W pr t inc) : (engAt h t).increment_counter pr inc = some (engAt h (t + inc)) := by
  have hM : 0 < 2 ^ Word.bits W := Nat.pow_pos (by decide)
  unfold Engine.increment_counter addAssign engAt
  cases pr
  · have hf' : t % 2 ^ Word.bits W + inc < 2 ^ Word.bits W := hf.resolve_left (fun h => nomatch h)
    have h := counter_fits _ t inc hM hf'
    simp only [hf', h.2.1, h.2.2.1, ↓reduceIte]
    rw [h.1, h.2.2.2]
  · have h := counter_wrap _ t inc hM (g.lt_word hinc)
    dsimp only
    rw [h.2, h.1]

theorem engAt_compress {P : Params W} (g : Good P) (h : Vector W 8) (t : Nat) (blk : Bytes) (last : LastBlock) :
    (engAt h t).compress P blk last = engAt (F P h blk t (decide (last = LastBlock.Yes))) t := by
  simp only [Engine.compress, Impl.Blake2.reference_compress, F, g.rows, engAt]

theorem compress_h (P : Params W) (g : Good P) (e : Engine W) (t : Nat) (hc : Counts e t) (blk : Bytes) (last : LastBlock) :
    (e.compress P blk last).h = F P e.h blk t (decide (last = LastBlock.Yes)) := by
  rw [hc.eq_engAt, engAt_compress g]
  rfl

/-- compress every full block that is followed by more data; returns (h, t, rest) with `rest` the last 1..bb
    bytes (empty only if there was no data).  Fuel = data length. -/
def lazyAux (P : Params W) : Nat → Vector W 8 → Nat → Bytes → Vector W 8 × Nat × Bytes
  | 0, h, t, d => (h, t, d)
  | f + 1, h, t, d =>
    if d.length > P.bb then lazyAux P f (F P h (d.take P.bb) (t + P.bb) false) (t + P.bb) (d.drop P.bb)
    else (h, t, d)

/-- the lazy state after `d` from `(h, t)`: (chaining value, bytes counted, bytes still pending) -/
def lazy (P : Params W) (h : Vector W 8) (t : Nat) (d : Bytes) : Vector W 8 × Nat × Bytes :=
  lazyAux P d.length h t d

/-- the final compression of a lazy state: the pending bytes zero-padded, counted, with the last-block flag -/
def fin (P : Params W) (x : Vector W 8 × Nat × Bytes) : Vector W 8 :=
  F P x.1 (x.2.2 ++ zeros (P.bb - x.2.2.length)) (x.2.1 + x.2.2.length) true

theorem lazyAux_short (P : Params W) (f : Nat) (h : Vector W 8) (t : Nat) (d : Bytes) (hd : d.length ≤ P.bb) :
    lazyAux P f h t d = (h, t, d) := by
  cases f with
  | zero => rfl
  | succ f => simp [lazyAux]; omega

theorem lazyAux_fuel (P : Params W) (hbb : 0 < P.bb) :
    ∀ (f1 f2 : Nat) (h : Vector W 8) (t : Nat) (d : Bytes), d.length ≤ f1 → d.length ≤ f2 →
      lazyAux P f1 h t d = lazyAux P f2 h t d := by
  intro f1
  induction f1 with
  | zero =>
    intro f2 h t d h1 _
    have : d.length ≤ P.bb := by omega
    rw [lazyAux_short P 0 h t d this, lazyAux_short P f2 h t d this]
  | succ f1 ih =>
    intro f2 h t d h1 h2
    cases f2 with
    | zero =>
      have : d.length ≤ P.bb := by omega
      rw [lazyAux_short P _ h t d this, lazyAux_short P 0 h t d this]
    | succ f2 =>
      simp only [lazyAux]
      split
      · apply ih <;> simp <;> omega
      · rfl

theorem lazy_short (P : Params W) (h : Vector W 8) (t : Nat) (d : Bytes) (hd : d.length ≤ P.bb) :
    lazy P h t d = (h, t, d) := lazyAux_short P _ h t d hd

theorem lazy_step (P : Params W) (hbb : 0 < P.bb) (h : Vector W 8) (t : Nat) (d : Bytes) (hd : P.bb < d.length) :
    lazy P h t d = lazy P (F P h (d.take P.bb) (t + P.bb) false) (t + P.bb) (d.drop P.bb) := by
  unfold lazy
  obtain ⟨n, hn⟩ : ∃ n, d.length = n + 1 := ⟨d.length - 1, by omega⟩
  rw [hn]
  simp only [lazyAux]
  rw [if_pos (by omega)]
  apply lazyAux_fuel P hbb <;> simp <;> omega

theorem lazy_induction (P : Params W) (hbb : 0 < P.bb) {motive : Vector W 8 → Nat → Bytes → Prop}
    (short : ∀ h t d, d.length ≤ P.bb → motive h t d)
    (step : ∀ h t d, P.bb < d.length →
      motive (F P h (d.take P.bb) (t + P.bb) false) (t + P.bb) (d.drop P.bb) → motive h t d)
    (h : Vector W 8) (t : Nat) (d : Bytes) : motive h t d := by
  generalize hn : d.length = n
  induction n using Nat.strongRecOn generalizing h t d with
  | _ n ih =>
    by_cases hs : d.length ≤ P.bb
    · exact short h t d hs
    · exact step h t d (by omega) (ih _ (by rw [← hn, List.length_drop]; omega) _ _ _ rfl)

theorem lazy_append (P : Params W) (hbb : 0 < P.bb) (h : Vector W 8) (t : Nat) (d1 d2 : Bytes) :
    lazy P h t (d1 ++ d2) = lazy P (lazy P h t d1).1 (lazy P h t d1).2.1 ((lazy P h t d1).2.2 ++ d2) := by
  revert h t d1
  refine lazy_induction P hbb ?_ ?_
  · intro h t d1 hs
    rw [lazy_short P h t d1 hs]
  · intro h t d1 hs ih
    rw [lazy_step P hbb h t d1 hs, lazy_step P hbb h t (d1 ++ d2) (by simp; omega),
      List.take_append_of_le_length (by omega), List.drop_append_of_le_length (by omega)]
    exact ih

/-- what fits from the start fits from the lazy state: it has counted exactly the bytes it no longer holds -/
theorem lazy_fits (P : Params W) (hbb : 0 < P.bb) {pr : Profile} (n : Nat) (h0 : Vector W 8) (t0 : Nat) (data : Bytes) :
    Fits W pr t0 (data.length + n) → Fits W pr (lazy P h0 t0 data).2.1 ((lazy P h0 t0 data).2.2.length + n) := by
  revert h0 t0 data
  refine lazy_induction P hbb ?_ ?_
  · intro h t d hs hf
    rwa [lazy_short P h t d hs]
  · intro h t d hs ih hf
    rw [lazy_step P hbb h t d hs]
    refine ih ?_
    have := hf.step (b := P.bb) (by omega)
    rwa [show d.length + n - P.bb = (d.drop P.bb).length + n by simp; omega] at this

theorem streamAux_eq (P : Params W) :
    ∀ (f : Nat) (h : Vector W 8) (t : Nat) (d : Bytes), streamAux P f h t d = fin P (lazyAux P f h t d) := by
  intro f
  induction f with
  | zero => intro h t d; rfl
  | succ f ih =>
    intro h t d
    simp only [streamAux, lazyAux]
    by_cases hs : d.length ≤ P.bb
    · rw [if_pos hs, if_neg (by omega)]; rfl
    · rw [if_neg hs, if_pos (by omega)]; exact ih _ _ _

theorem stream_eq (P : Params W) (h : Vector W 8) (t : Nat) (d : Bytes) : stream P h t d = fin P (lazy P h t d) :=
  streamAux_eq P _ h t d

theorem update_loop_eq (P : Params W) (g : Good P) (pr : Profile) :
    ∀ (f : Nat) (h : Vector W 8) (t : Nat) (d : Bytes), Fits W pr t d.length →
      Ctx.update_loop P pr f (engAt h t) d
        = some (engAt (lazyAux P f h t d).1 (lazyAux P f h t d).2.1, (lazyAux P f h t d).2.2) := by
  intro f
  induction f with
  | zero => intro h t d _; rfl
  | succ f ih =>
    intro h t d hf
    simp only [Ctx.update_loop, lazyAux]
    split
    · rename_i hs
      rw [engAt_inc g pr h t P.bb g.bb_lt (hf.mono (by omega))]
      dsimp only
      rw [engAt_compress g]
      exact ih _ _ _ (by simpa using hf.step (b := P.bb) (by omega))
    · rfl

def Inv (P : Params W) (c : Ctx W) : Prop := c.buf.length = P.bb ∧ c.buflen ≤ P.bb

/-- the buffered bytes not yet compressed (what lies behind them in `buf` is stale) -/
def pending (c : Ctx W) : Bytes := c.buf.take c.buflen

omit [Word W] in
theorem pending_length (P : Params W) (c : Ctx W) (hi : Inv P c) : (pending c).length = c.buflen := by
  have := hi.2
  simp [pending, hi.1]; omega

theorem update_loop_rest (P : Params W) (pr : Profile) (hbb : 0 < P.bb) :
    ∀ (n : Nat) (e : Engine W) (input : Bytes) (e' : Engine W) (rest : Bytes), input.length ≤ n →
      Ctx.update_loop P pr n e input = some (e', rest) → rest.length ≤ P.bb ∧ rest.length ≤ input.length := by
  intro n
  induction n with
  | zero =>
    intro e input e' rest hn h
    simp only [Ctx.update_loop, Option.some.injEq, Prod.mk.injEq] at h
    obtain ⟨_, rfl⟩ := h
    omega
  | succ n ih =>
    intro e input e' rest hn h
    rw [Ctx.update_loop] at h
    split at h
    · rename_i hgt
      cases hinc : Engine.increment_counter pr e P.bb with
      | none => simp [hinc] at h
      | some e1 =>
        simp only [hinc] at h
        have := ih _ _ _ _ (by simp; omega) h
        simp at this
        omega
    · simp only [Option.some.injEq, Prod.mk.injEq] at h
      obtain ⟨_, rfl⟩ := h
      omega

theorem update_mut_inv (P : Params W) (pr : Profile) (hbb : 0 < P.bb) (c c' : Ctx W) (input : Bytes) (hi : Inv P c)
    (h : Ctx.update_mut P pr c input = some c') : Inv P c' := by
  obtain ⟨hbl, hle⟩ := hi
  unfold Ctx.update_mut at h
  by_cases he : input.isEmpty = true
  · rw [if_pos he] at h; cases h; exact ⟨hbl, hle⟩
  · rw [if_neg he] at h
    by_cases hfill : input.length > P.bb - c.buflen
    · simp only [hfill, if_true] at h
      cases hinc : Engine.increment_counter pr c.eng P.bb with
      | none => simp [hinc] at h
      | some e1 =>
        simp only [hinc] at h
        split at h
        · cases h
        · rename_i e2 rest hloop
          have hrest := update_loop_rest P pr hbb _ _ _ _ _ (Nat.le_refl _) hloop
          cases h
          have hsl := setSlice_length c.buf c.buflen (input.take (P.bb - c.buflen)) (by rw [List.length_take]; omega)
          exact ⟨(setSlice_length _ 0 rest (by omega)).trans (hsl.trans hbl), by show 0 + rest.length ≤ _; omega⟩
    · simp only [hfill, if_false] at h
      cases h
      exact ⟨(setSlice_length _ _ _ (by omega)).trans hbl, by show c.buflen + input.length ≤ _; omega⟩

theorem internal_final_inv (P : Params W) (pr : Profile) (hw : 8 * wbytes W ≤ P.bb) (c c' : Ctx W) (hi : Inv P c)
    (h : Ctx.internal_final P pr c = some c') : Inv P c' := by
  obtain ⟨hbl, hle⟩ := hi
  have hzl := zeroFrom_length c.buf c.buflen (by omega)
  unfold Ctx.internal_final at h
  split at h <;> cases h
  exact ⟨(setSlice_length _ _ _ (by rw [hbytes_length]; omega)).trans (hzl.trans hbl), hle⟩

theorem update_mut_spec (P : Params W) (g : Good P) (pr : Profile) (c : Ctx W) (h : Vector W 8) (t : Nat) (input : Bytes)
    (hi : Inv P c) (he : c.eng = engAt h t) (hf : Fits W pr t (c.buflen + input.length)) :
    ∃ c', Ctx.update_mut P pr c input = some c' ∧
      c'.eng = engAt (lazy P h t (pending c ++ input)).1 (lazy P h t (pending c ++ input)).2.1 ∧
      pending c' = (lazy P h t (pending c ++ input)).2.2 := by
  have hpl := pending_length P c hi
  obtain ⟨hbl, hle⟩ := hi
  unfold Ctx.update_mut
  split
  · rename_i hemp
    have : input = [] := by simpa using hemp
    subst this
    rw [List.append_nil, lazy_short P _ _ _ (by omega)]
    exact ⟨c, rfl, he, rfl⟩
  · dsimp only
    split
    · -- the buffer is topped up and compressed, then the loop runs on the rest: one `lazy_step`, then `update_loop_eq`
      rename_i hbig
      have hsrc : (input.take (P.bb - c.buflen)).length = P.bb - c.buflen := by simp; omega
      have hblk : (setSlice c.buf c.buflen (input.take (P.bb - c.buflen))).take P.bb
          = pending c ++ input.take (P.bb - c.buflen) := by
        have := take_setSlice c.buf c.buflen (input.take (P.bb - c.buflen)) (by omega)
        rwa [hsrc, show c.buflen + (P.bb - c.buflen) = P.bb by omega] at this
      have hf2 : Fits W pr (t + P.bb) (input.drop (P.bb - c.buflen)).length := by
        have := Fits.step hf (b := P.bb) (by omega)
        rwa [show c.buflen + input.length - P.bb = (input.drop (P.bb - c.buflen)).length by simp; omega] at this
      have hlz : lazy P h t (pending c ++ input)
          = lazyAux P (input.drop (P.bb - c.buflen)).length (F P h (pending c ++ input.take (P.bb - c.buflen)) (t + P.bb) false)
              (t + P.bb) (input.drop (P.bb - c.buflen)) := by
        rw [lazy_step P g.bb_pos h t _ (by simp [hpl]; omega), List.take_append, List.drop_append, hpl,
          List.take_of_length_le (by omega), List.drop_of_length_le (by omega)]
        rfl
      rw [he, engAt_inc g pr h t P.bb g.bb_lt (hf.mono (by omega))]
      dsimp only
      rw [hblk, engAt_compress g, update_loop_eq P g pr _ _ _ _ hf2, hlz]
      exact ⟨_, rfl, rfl, by simpa [pending] using take_setSlice _ 0 _ (Nat.zero_le _)⟩
    · rw [lazy_short P _ _ _ (by simp [hpl]; omega)]
      exact ⟨_, rfl, he, take_setSlice c.buf c.buflen input (by omega)⟩

theorem buflen_mod (P : Params W) (g : Good P) (n : Nat) (hn : n ≤ P.bb) : n % 2 ^ Word.bits W = n :=
  Nat.mod_eq_of_lt (g.lt_word (Nat.lt_of_le_of_lt hn g.bb_lt))

theorem internal_final_spec (P : Params W) (g : Good P) (pr : Profile) (c : Ctx W) (h : Vector W 8) (t : Nat)
    (hi : Inv P c) (he : c.eng = engAt h t) (hf : Fits W pr t c.buflen) :
    ∃ c', Ctx.internal_final P pr c = some c' ∧
      ∀ n, n ≤ 8 * wbytes W → c'.buf.take n = output (fin P (h, t, pending c)) n := by
  have hpl := pending_length P c hi
  obtain ⟨hbl, hle⟩ := hi
  have hblk : (zeroFrom c.buf c.buflen).take P.bb = pending c ++ zeros (P.bb - c.buflen) := by
    rw [List.take_of_length_le (by rw [zeroFrom_length _ _ (by omega)]; omega)]
    simp [zeroFrom, pending, hbl]
  unfold Ctx.internal_final
  rw [he, buflen_mod P g c.buflen hle, engAt_inc g pr h t c.buflen (by have := g.bb_lt; omega) hf]
  dsimp only
  rw [hblk, engAt_compress g]
  refine ⟨_, rfl, fun n hn => ?_⟩
  simp only [output, fin, engAt, setSlice, List.take_zero, List.nil_append, Nat.zero_add, hpl]
  rw [List.take_append_of_le_length (by rw [hbytes_length]; omega)]
  rfl

/-- `c` is a context that started at chaining value `h0` with counter `t0` and was fed `data`: its chaining value and its
    pending bytes are those of the lazy state, and its two counter words hold the lazy state's count `t'` (`rel_iff` says it
    in equations) -/
def Rel (P : Params W) (c : Ctx W) (h0 : Vector W 8) (t0 : Nat) (data : Bytes) : Prop :=
  Inv P c ∧ ∃ t', lazy P h0 t0 data = (c.eng.h, t', pending c) ∧ Counts c.eng t'

theorem rel_iff {P : Params W} {c : Ctx W} {h0 : Vector W 8} {t0 : Nat} {data : Bytes} :
    Rel P c h0 t0 data ↔ Inv P c ∧ c.eng = engAt (lazy P h0 t0 data).1 (lazy P h0 t0 data).2.1 ∧
      pending c = (lazy P h0 t0 data).2.2 := by
  constructor
  · rintro ⟨hi, t', hl, hc⟩
    rw [hl]
    exact ⟨hi, hc.eq_engAt, rfl⟩
  · rintro ⟨hi, he, hp⟩
    refine ⟨hi, (lazy P h0 t0 data).2.1, ?_, ?_⟩ <;> rw [he]
    · rw [hp]; rfl
    · exact ⟨rfl, rfl⟩

theorem Rel.update (P : Params W) (g : Good P) (pr : Profile) (c : Ctx W) (h0 : Vector W 8) (t0 : Nat) (data input : Bytes)
    (hr : Rel P c h0 t0 data) (hf : Fits W pr t0 (data.length + input.length)) :
    ∃ c', Ctx.update_mut P pr c input = some c' ∧ Rel P c' h0 t0 (data ++ input) := by
  obtain ⟨hi, he, hp⟩ := rel_iff.mp hr
  obtain ⟨c', h1, he', hp'⟩ := update_mut_spec P g pr c _ _ input hi he
    (by rw [← pending_length P c hi, hp]; exact lazy_fits P g.bb_pos _ _ _ _ hf)
  rw [hp, ← lazy_append P g.bb_pos] at he' hp'
  exact ⟨c', h1, rel_iff.mpr ⟨update_mut_inv P pr g.bb_pos c c' input hi h1, he', hp'⟩⟩

theorem Rel.internal_final (P : Params W) (g : Good P) (pr : Profile) (c : Ctx W) (h0 : Vector W 8) (t0 : Nat) (data : Bytes)
    (hr : Rel P c h0 t0 data) (hf : Fits W pr t0 data.length) :
    ∃ c', Ctx.internal_final P pr c = some c' ∧ Inv P c' ∧
      ∀ n, n ≤ 8 * wbytes W → c'.buf.take n = output (stream P h0 t0 data) n := by
  obtain ⟨hi, he, hp⟩ := rel_iff.mp hr
  obtain ⟨c', h1, h2⟩ := internal_final_spec P g pr c _ _ hi he
    (by rw [← pending_length P c hi, hp]; exact lazy_fits P g.bb_pos 0 _ _ _ hf)
  refine ⟨c', h1, internal_final_inv P pr g.bb_ge c c' hi h1, fun n hn => ?_⟩
  rw [h2 n hn, stream_eq, hp]

theorem Rel.finalize_at (P : Params W) (g : Good P) (pr : Profile) (c : Ctx W) (h0 : Vector W 8) (t0 : Nat) (data : Bytes)
    (nn : Nat) (hn : nn ≤ P.maxOut) (hr : Rel P c h0 t0 data) (hf : Fits W pr t0 data.length) :
    Ctx.finalize_at P pr c nn nn = some (output (stream P h0 t0 data) nn) := by
  obtain ⟨c', h1, _, h2⟩ := Rel.internal_final P g pr c h0 t0 data hr hf
  unfold Ctx.finalize_at
  rw [if_neg (by simp), h1]
  simp only []
  rw [h2 nn (Nat.le_trans hn g.out_le)]

/-- the state `new_keyed` builds (and `reset`, `reset_with_key` rebuild) -/
def newState (P : Params W) (nn : Nat) (key : Bytes) : Ctx W :=
  { eng := { h := initH P nn key.length, t0 := 0, t1 := 0 },
    buf := if key.isEmpty then zeros P.bb else setSlice (zeros P.bb) 0 key,
    buflen := if key.isEmpty then 0 else P.bb }

theorem new_keyed_eq (P : Params W) (nn : Nat) (key : Bytes) (hn : 0 < nn ∧ nn ≤ P.maxOut) (hk : key.length ≤ P.maxKey) :
    Ctx.new_keyed P nn key = some (newState P nn key) := by
  unfold Ctx.new_keyed Engine.new newState
  rw [if_neg (by simpa using hn), if_neg (by simpa using hk)]
  simp only []
  rw [if_neg (by simp; omega), if_neg (by simpa using hk)]
  by_cases he : key.isEmpty <;> simp [he]

theorem new_keyed_none (P : Params W) (nn : Nat) (key : Bytes) (h : ¬ (0 < nn ∧ nn ≤ P.maxOut ∧ key.length ≤ P.maxKey)) :
    Ctx.new_keyed P nn key = none := by
  unfold Ctx.new_keyed
  by_cases h1 : nn > 0 ∧ nn ≤ P.maxOut
  · rw [if_neg (by simpa using h1)]
    rw [if_pos]
    intro h2; exact h ⟨h1.1, h1.2, h2⟩
  · rw [if_pos h1]

theorem new_keyed_ite (P : Params W) (nn : Nat) (key : Bytes) :
    Ctx.new_keyed P nn key
      = if 0 < nn ∧ nn ≤ P.maxOut ∧ key.length ≤ P.maxKey then some (newState P nn key) else none := by
  split
  · rename_i h; exact new_keyed_eq P nn key ⟨h.1, h.2.1⟩ h.2.2
  · rename_i h; exact new_keyed_none P nn key h

theorem contextDyn_new_keyed_eq (P : Params W) (n : Nat) (key : Bytes) :
    Impl.Blake2.ContextDyn.new_keyed P n key = (Ctx.new_keyed P n key).map (⟨·, n⟩) := by
  unfold Impl.Blake2.ContextDyn.new_keyed
  cases Ctx.new_keyed P n key <;> rfl

/-- `new` repeats the assert that `new_keyed` makes anyway -/
theorem contextDyn_new_eq (P : Params W) (n : Nat) :
    Impl.Blake2.ContextDyn.new P n = Impl.Blake2.ContextDyn.new_keyed P n [] := by
  unfold Impl.Blake2.ContextDyn.new
  split
  · rename_i h
    rw [Impl.Blake2.ContextDyn.new_keyed, new_keyed_none P n [] (fun hx => h ⟨hx.1, hx.2.1⟩)]
  · rfl

theorem context_new_eq (P : Params W) (BITS : Nat) :
    Impl.Blake2.Context.new P BITS = Impl.Blake2.Context.new_keyed P BITS [] := by
  unfold Impl.Blake2.Context.new Impl.Blake2.Context.new_keyed
  split <;> rfl

theorem reset_eq (P : Params W) (c : Ctx W) (hi : Inv P c) (nn : Nat) : Ctx.reset P c nn = newState P nn [] := by
  unfold Ctx.reset Engine.reset newState
  simp [zeroFrom_zero, hi.1]

theorem reset_with_key_eq (P : Params W) (c : Ctx W) (hi : Inv P c) (nn : Nat) (key : Bytes) (hk : key.length ≤ P.maxKey) :
    Ctx.reset_with_key P c nn key = some (newState P nn key) := by
  unfold Ctx.reset_with_key Engine.reset newState
  rw [if_neg (by simpa using hk)]
  by_cases he : key.isEmpty <;> simp [he, zeroFrom_zero, hi.1]

theorem reset_with_key_none (P : Params W) (c : Ctx W) (nn : Nat) (key : Bytes) (hk : ¬ key.length ≤ P.maxKey) :
    Ctx.reset_with_key P c nn key = none := by
  unfold Ctx.reset_with_key
  rw [if_pos hk]

theorem newState_inv (P : Params W) (nn : Nat) (key : Bytes) (hk : key.length ≤ P.bb) : Inv P (newState P nn key) := by
  unfold Inv newState
  by_cases he : key.isEmpty
  · simp [he, Bytes.zeros_length]
  · simp only [he]
    refine ⟨?_, Nat.le_refl _⟩
    simp only [Bool.false_eq_true, ↓reduceIte]
    rw [setSlice_length _ _ _ (by rw [Bytes.zeros_length]; omega), Bytes.zeros_length]

theorem newState_rel (P : Params W) (g : Good P) (nn : Nat) (key : Bytes) (hn : nn ≤ P.maxOut) (hk : key.length ≤ P.maxKey) :
    Rel P (newState P nn key) (init P nn key.length) 0 (keyBlock P.bb key) := by
  have hkb := g.key_le
  have hinv := newState_inv P nn key (Nat.le_trans hk hkb)
  have hpend : pending (newState P nn key) = keyBlock P.bb key := by
    unfold pending newState keyBlock
    by_cases he : key.isEmpty
    · simp [he]
    · simp only [he, Bool.false_eq_true, ↓reduceIte]
      rw [List.take_of_length_le (by
        rw [setSlice_length _ _ _ (by rw [Bytes.zeros_length]; omega), Bytes.zeros_length]; exact Nat.le_refl _)]
      simp [setSlice, zeros]
  refine ⟨hinv, 0, ?_, ?_⟩
  · have hlen : (keyBlock P.bb key).length ≤ P.bb := by
      rw [← hpend, pending_length P _ hinv]; exact hinv.2
    rw [lazy_short P _ _ _ hlen, hpend]
    simp only [newState, g.param nn key.length hn hk]
  · simp [Counts, newState]

theorem stream_short (P : Params W) (h : Vector W 8) (t : Nat) (d : Bytes) (hd : d.length ≤ P.bb) :
    stream P h t d = F P h (d ++ zeros (P.bb - d.length)) (t + d.length) true := by
  rw [stream_eq, lazy_short P h t d hd]; rfl

theorem stream_step (P : Params W) (hbb : 0 < P.bb) (h : Vector W 8) (t : Nat) (d : Bytes) (hd : P.bb < d.length) :
    stream P h t d = stream P (F P h (d.take P.bb) (t + P.bb) false) (t + P.bb) (d.drop P.bb) := by
  rw [stream_eq, stream_eq, lazy_step P hbb h t d hd]

omit [Word W] in
theorem split_eq_chunks (bb : Nat) (x : Bytes) : split bb x = chunks bb x := by
  unfold split chunks
  generalize x.length = n
  induction n generalizing x with
  | zero => rfl
  | succ n ih => simp only [splitAux, chunksAux, ih]

omit [Word W] in
theorem split_cons (bb : Nat) (hbb : 0 < bb) (x : Bytes) (hx : x ≠ []) :
    split bb x = x.take bb :: split bb (x.drop bb) := by
  rw [split_eq_chunks, split_eq_chunks]
  exact Bytes.chunks_cons bb hbb x hx

omit [Word W] in
theorem split_nil (bb : Nat) : split bb [] = [] := rfl

omit [Word W] in
theorem padZero_short (bb : Nat) (m : Bytes) (h1 : 0 < m.length) (h2 : m.length ≤ bb) :
    padZero bb m = m ++ zeros (bb - m.length) := by
  unfold padZero
  congr 2
  by_cases he : m.length = bb
  · rw [he, Nat.mod_self]; simp
  · have h3 : m.length % bb = m.length := Nat.mod_eq_of_lt (by omega)
    rw [h3, Nat.mod_eq_of_lt (by omega)]

omit [Word W] in
theorem padZero_long (bb : Nat) (m : Bytes) (h : bb < m.length) :
    (padZero bb m).take bb = m.take bb ∧ (padZero bb m).drop bb = padZero bb (m.drop bb) := by
  unfold padZero
  have hle : bb ≤ m.length := by omega
  refine ⟨List.take_append_of_le_length hle, ?_⟩
  rw [List.drop_append_of_le_length hle]
  congr 3
  simp only [List.length_drop]
  have : m.length = (m.length - bb) + bb := by omega
  conv => lhs; rw [this, Nat.add_mod_right]

omit [Word W] in
theorem split_padZero_ne_nil (bb : Nat) (hbb : 0 < bb) (m : Bytes) (hm : m ≠ []) : split bb (padZero bb m) ≠ [] := by
  rw [split_cons bb hbb _ (by simp [padZero, hm])]
  exact List.cons_ne_nil _ _

omit [Word W] in
theorem blocks_last (bb : Nat) (hbb : 0 < bb) (d : Bytes) (h1 : 0 < d.length) (h2 : d.length ≤ bb) :
    split bb (padZero bb d) = [d ++ zeros (bb - d.length)] := by
  have hl : (d ++ zeros (bb - d.length)).length = bb := by simp [Bytes.zeros_length]; omega
  rw [padZero_short bb d h1 h2, split_cons bb hbb _ (by intro h; rw [h] at hl; simp at hl; omega),
    List.take_of_length_le (by omega), List.drop_of_length_le (by omega), split_nil]

omit [Word W] in
theorem blocks_cons (bb : Nat) (hbb : 0 < bb) (d : Bytes) (h : bb < d.length) :
    split bb (padZero bb d) = d.take bb :: split bb (padZero bb (d.drop bb)) := by
  obtain ⟨ht, hdp⟩ := padZero_long bb d h
  rw [split_cons bb hbb _ (by intro hx; simp [padZero] at hx; rw [hx.1] at h; simp at h), ht, hdp]

theorem absorb_cons (P : Params W) (total : Nat) (h : Vector W 8) (i : Nat) (d : Bytes) {rest : List Bytes} (hne : rest ≠ []) :
    absorb P total h i (d :: rest) = absorb P total (F P h d ((i + 1) * P.bb) false) (i + 1) rest := by
  obtain ⟨y, ys, rfl⟩ := List.exists_cons_of_ne_nil hne
  rfl

theorem absorb_eq_stream (P : Params W) (hbb : 0 < P.bb) (total : Nat) (h : Vector W 8) (t : Nat) (d : Bytes) :
    d ≠ [] → ∀ i, t = i * P.bb → total = t + d.length →
      absorb P total h i (split P.bb (padZero P.bb d)) = stream P h t d := by
  revert h t d
  refine lazy_induction P hbb ?_ ?_
  · intro h t d hs hne i _ htot
    rw [blocks_last P.bb hbb d (List.length_pos_iff.mpr hne) hs, stream_short P h t d hs, htot]
    rfl
  · intro h t d hl ih hne i ht htot
    have hdne : d.drop P.bb ≠ [] := by
      intro hx
      have := congrArg List.length hx
      simp at this; omega
    rw [blocks_cons P.bb hbb d hl, absorb_cons _ _ _ _ _ (split_padZero_ne_nil P.bb hbb _ hdne), stream_step P hbb h t d hl,
      show (i + 1) * P.bb = t + P.bb by rw [ht, Nat.add_mul]; omega]
    exact ih hdne (i + 1) (by rw [ht, Nat.add_mul]; omega) (by simp; omega)

theorem absorb_dataBlocks (P : Params W) (hbb : 0 < P.bb) (h0 : Vector W 8) (key msg : Bytes) (hk : key.length ≤ P.bb) :
    absorb P (if key.length = 0 then msg.length else msg.length + P.bb) h0 0 (dataBlocks P.bb key msg)
      = stream P h0 0 (keyBlock P.bb key ++ msg) := by
  unfold dataBlocks keyBlock
  by_cases hke : key = []
  · subst hke
    simp only [List.length_nil, List.isEmpty_nil, ↓reduceIte, List.nil_append]
    by_cases hm : msg = []
    · subst hm
      simp only [padZero, List.length_nil, Nat.zero_mod, Nat.sub_zero, Nat.mod_self, zeros, List.replicate_zero,
        List.append_nil, split_nil, List.isEmpty_nil, ↓reduceIte]
      rw [stream_short P _ _ [] (by simp)]
      rfl
    · rw [if_neg (by simpa using split_padZero_ne_nil P.bb hbb msg hm)]
      exact absorb_eq_stream P hbb _ h0 0 msg hm 0 (by simp) (by simp)
  · have hkz : ¬ key.length = 0 := by have := List.length_pos_iff.mpr hke; omega
    simp only [hkz, ↓reduceIte, List.isEmpty_iff, hke, List.cons_append, List.nil_append, List.isEmpty_cons,
      Bool.false_eq_true]
    have hkb : (key ++ zeros (P.bb - key.length)).length = P.bb := by simp [Bytes.zeros_length]; omega
    by_cases hm : msg = []
    · subst hm
      rw [List.append_nil, stream_short P _ _ _ (by rw [hkb]; exact Nat.le_refl _), hkb, Nat.sub_self]
      simp [padZero, zeros, split_nil, absorb]
    · rw [absorb_cons _ _ _ _ _ (split_padZero_ne_nil P.bb hbb msg hm),
        absorb_eq_stream P hbb _ _ P.bb msg hm 1 (by simp) (by omega),
        stream_step P hbb _ 0 _ (by simp [Bytes.zeros_length]; have := List.length_pos_iff.mpr hm; omega),
        List.take_append_of_le_length (by omega), List.drop_append_of_le_length (by omega),
        List.take_of_length_le (by omega), List.drop_of_length_le (by omega)]
      simp

/-- RFC 7693 section 3.3 (array of padded blocks, key block first) = streaming form over `keyBlock ++ msg` -/
theorem blake2_eq_stream (P : Params W) (hbb : 0 < P.bb) (nn : Nat) (key msg : Bytes) (hk : key.length ≤ P.bb) :
    blake2 P nn key msg = blake2At P 0 nn key msg := by
  unfold blake2 blake2At
  simp only []
  rw [absorb_dataBlocks P hbb _ key msg hk]

/-- hook `verif_set_counter` on a context that has not compressed anything yet (at most one block pending):
    the same data, counted from `t0 + 2^w t1` -/
theorem Rel.set_counter (P : Params W) (c : Ctx W) (h0 : Vector W 8) (data : Bytes) (t0 t1 : Nat)
    (hd : data.length ≤ P.bb) (hr : Rel P c h0 0 data) (ht0 : t0 < 2 ^ Word.bits W) :
    Rel P (Ctx.verif_set_counter c t0 t1) h0 (t0 + 2 ^ Word.bits W * t1) data := by
  obtain ⟨hi, he, hp⟩ := rel_iff.mp hr
  rw [lazy_short P h0 0 data hd] at he hp
  refine rel_iff.mpr ⟨hi, ?_, ?_⟩ <;> rw [lazy_short P h0 _ data hd]
  · show ({ c.eng with t0 := _, t1 := _ } : Engine W) = _
    rw [he, engAt_words h0 t1 ht0, Nat.mod_eq_of_lt ht0]
    rfl
  · exact hp

theorem keyBlock_length (P : Params W) (g : Good P) (key : Bytes) (hk : key.length ≤ P.maxKey) :
    (keyBlock P.bb key).length = if key.isEmpty then 0 else P.bb := by
  have := g.key_le
  unfold keyBlock
  by_cases he : key.isEmpty <;> simp [he, Bytes.zeros_length]
  omega

theorem fits_wrapping (t n : Nat) : Fits W Profile.wrapping t n := Or.inl rfl

theorem Rel.update_finalize (P : Params W) (g : Good P) (pr : Profile) (c : Ctx W) (h0 : Vector W 8) (t0 : Nat)
    (data msg : Bytes) (nn : Nat) (hn : nn ≤ P.maxOut) (hr : Rel P c h0 t0 data)
    (hf : Fits W pr t0 (data.length + msg.length)) :
    ∃ c', Ctx.update_mut P pr c msg = some c' ∧
      Ctx.finalize_at P pr c' nn nn = some (output (stream P h0 t0 (data ++ msg)) nn) := by
  obtain ⟨c', h1, hr'⟩ := Rel.update P g pr c h0 t0 data msg hr hf
  exact ⟨c', h1, Rel.finalize_at P g pr c' h0 t0 (data ++ msg) nn hn hr' (by simpa using hf)⟩

theorem newState_update_finalize (P : Params W) (g : Good P) (pr : Profile) (nn : Nat) (key msg : Bytes)
    (hn : nn ≤ P.maxOut) (hk : key.length ≤ P.maxKey)
    (hf : Fits W pr 0 ((if key.isEmpty then 0 else P.bb) + msg.length)) :
    ∃ c', Ctx.update_mut P pr (newState P nn key) msg = some c' ∧
      Ctx.finalize_at P pr c' nn nn = some (blake2 P nn key msg) := by
  obtain ⟨c', h1, h2⟩ := Rel.update_finalize P g pr _ _ 0 _ msg nn hn (newState_rel P g nn key hn hk)
    (by rw [keyBlock_length P g key hk]; exact hf)
  rw [blake2_eq_stream P g.bb_pos nn key msg (Nat.le_trans hk g.key_le)]
  exact ⟨c', h1, h2⟩

/-- `ContextDyn::new_keyed(nn, key).update(msg).finalize_at(out[nn])` = RFC 7693 -/
theorem blake2_dyn_eq_spec (P : Params W) (g : Good P) (pr : Profile) (nn : Nat) (key msg : Bytes)
    (hn : 0 < nn ∧ nn ≤ P.maxOut) (hk : key.length ≤ P.maxKey)
    (hf : Fits W pr 0 ((if key.isEmpty then 0 else P.bb) + msg.length)) :
    Impl.Blake2.blake2_dyn P pr nn key msg = some (blake2 P nn key msg) := by
  obtain ⟨c', h1, h2⟩ := newState_update_finalize P g pr nn key msg hn.2 hk hf
  unfold Impl.Blake2.blake2_dyn Impl.Blake2.ContextDyn.new_keyed Impl.Blake2.ContextDyn.update
    Impl.Blake2.ContextDyn.update_mut Impl.Blake2.ContextDyn.finalize_at
  rw [new_keyed_eq P nn key hn hk]
  simp only []
  rw [h1]
  exact h2

theorem blake2_ctx_eq_spec (P : Params W) (g : Good P) (pr : Profile) (BITS : Nat) (key msg : Bytes)
    (hn : 0 < BITS ∧ (BITS + 7) / 8 ≤ P.maxOut) (hk : key.length ≤ P.maxKey)
    (hf : Fits W pr 0 ((if key.isEmpty then 0 else P.bb) + msg.length)) :
    Impl.Blake2.blake2_ctx P pr BITS key msg = some (blake2 P ((BITS + 7) / 8) key msg) := by
  obtain ⟨c', h1, h2⟩ := newState_update_finalize P g pr _ key msg hn.2 hk hf
  unfold Impl.Blake2.blake2_ctx Impl.Blake2.Context.new_keyed Impl.Blake2.Context.update
    Impl.Blake2.Context.finalize_at Impl.Blake2.Context.outlen
  rw [if_neg (by simpa using hn), new_keyed_eq P _ key ⟨by omega, hn.2⟩ hk]
  simp only []
  rw [h1]
  exact h2

/-- C20: a context whose counter words were preset (hook) hashes as BLAKE2 with that start counter, the two words
    behaving as ONE 2w-bit counter through every carry and wrap-around -/
theorem blake2_preset_eq_spec (P : Params W) (g : Good P) (nn : Nat) (key msg : Bytes) (t0 t1 : Nat)
    (hn : 0 < nn ∧ nn ≤ P.maxOut) (hk : key.length ≤ P.maxKey) (ht0 : t0 < 2 ^ Word.bits W) :
    ∃ c c', Ctx.new_keyed P nn key = some c ∧
      Ctx.update_mut P .wrapping (Ctx.verif_set_counter c t0 t1) msg = some c' ∧
      Ctx.finalize_at P .wrapping c' nn nn = some (blake2At P (t0 + 2 ^ Word.bits W * t1) nn key msg) := by
  have hkl : (keyBlock P.bb key).length ≤ P.bb := by
    rw [keyBlock_length P g key hk]; split <;> omega
  have hr := Rel.set_counter P _ _ _ t0 t1 hkl (newState_rel P g nn key hn.2 hk) ht0
  obtain ⟨c', h1, h2⟩ := Rel.update_finalize P g .wrapping _ _ _ _ msg nn hn.2 hr (fits_wrapping _ _)
  exact ⟨_, c', new_keyed_eq P nn key hn hk, h1, h2⟩

/-- `Blake2x::<BITS>::new().update(msg).finalize()` for a BITS that is a multiple of 8 (the `context_finalize!` sizes) -/
theorem blake2_fixed_eq_spec (P : Params W) (g : Good P) (pr : Profile) (BITS : Nat) (msg : Bytes)
    (h8 : BITS % 8 = 0) (hn : 0 < BITS ∧ BITS / 8 ≤ P.maxOut) (hf : Fits W pr 0 msg.length) :
    Impl.Blake2.hashing_blake2 P pr BITS msg = some (blake2 P (BITS / 8) [] msg) := by
  have he : (BITS + 7) / 8 = BITS / 8 := by omega
  have hn' : 0 < BITS ∧ (BITS + 7) / 8 ≤ P.maxOut := ⟨hn.1, by rw [he]; exact hn.2⟩
  have := blake2_ctx_eq_spec P g pr BITS [] msg hn' (Nat.zero_le _) (by simpa using hf)
  unfold Impl.Blake2.blake2_ctx at this
  unfold Impl.Blake2.hashing_blake2 Impl.Blake2.Context.finalize
  rw [context_new_eq, ← he]
  exact this

/-- refused parameters: exactly the arguments outside the RFC's domain, and never a value -/
theorem blake2_dyn_refuses (P : Params W) (pr : Profile) (nn : Nat) (key msg : Bytes)
    (h : ¬ (0 < nn ∧ nn ≤ P.maxOut ∧ key.length ≤ P.maxKey)) :
    Impl.Blake2.blake2_dyn P pr nn key msg = none := by
  unfold Impl.Blake2.blake2_dyn Impl.Blake2.ContextDyn.new_keyed
  rw [new_keyed_none P nn key h]

theorem blake2_ctx_refuses (P : Params W) (pr : Profile) (BITS : Nat) (key msg : Bytes)
    (h : ¬ (0 < BITS ∧ (BITS + 7) / 8 ≤ P.maxOut ∧ key.length ≤ P.maxKey)) :
    Impl.Blake2.blake2_ctx P pr BITS key msg = none := by
  unfold Impl.Blake2.blake2_ctx Impl.Blake2.Context.new_keyed Impl.Blake2.Context.outlen
  by_cases h1 : BITS > 0 ∧ (BITS + 7) / 8 ≤ P.maxOut
  · rw [if_neg (by simpa using h1), new_keyed_none P _ key (fun hx => h ⟨h1.1, hx.2.1, hx.2.2⟩)]
  · rw [if_pos h1]

end generic

theorem paramWord64 (nn kk : Nat) (hk : kk ≤ 64) :
    (UInt64.ofNat 0x01010000 ^^^ (UInt64.ofNat kk <<< UInt64.ofNat 8)) ^^^ UInt64.ofNat nn = UInt64.ofNat (paramWord nn kk) := by
  apply UInt64.toNat_inj.mp
  simp only [UInt64.toNat_xor, UInt64.toNat_shiftLeft, UInt64.toNat_ofNat', paramWord, Nat.xor_mod_two_pow]
  have h1 : kk % 2 ^ 64 = kk := Nat.mod_eq_of_lt (by omega)
  have h2 : (8 : Nat) % 2 ^ 64 % 64 = 8 := by decide
  rw [h1, h2]

theorem paramWord32 (nn kk : Nat) (hk : kk ≤ 64) :
    (UInt32.ofNat 0x01010000 ^^^ (UInt32.ofNat kk <<< UInt32.ofNat 8)) ^^^ UInt32.ofNat nn = UInt32.ofNat (paramWord nn kk) := by
  apply UInt32.toNat_inj.mp
  simp only [UInt32.toNat_xor, UInt32.toNat_shiftLeft, UInt32.toNat_ofNat', paramWord, Nat.xor_mod_two_pow]
  have h1 : kk % 2 ^ 32 = kk := Nat.mod_eq_of_lt (by omega)
  have h2 : (8 : Nat) % 2 ^ 32 % 32 = 8 := by decide
  rw [h1, h2]

theorem good_b : Good Spec.Blake2.b where
  bits := Or.inr rfl
  bb_pos := by decide
  bb_lt := by decide
  bb_ge := by decide
  rows := rows_b
  out_le := by decide
  key_le := by decide
  param := by
    intro nn kk _ hk
    unfold initH init
    congr 1
    exact congrArg _ (paramWord64 nn kk hk)

theorem good_s : Good Spec.Blake2.s where
  bits := Or.inl rfl
  bb_pos := by decide
  bb_lt := by decide
  bb_ge := by decide
  rows := rows_s
  out_le := by decide
  key_le := by decide
  param := by
    intro nn kk _ hk
    unfold initH init
    congr 1
    exact congrArg _ (paramWord32 nn kk (by have : Spec.Blake2.s.maxKey = 32 := rfl; omega))

theorem maxOut_b : Impl.Blake2.b.maxOut = 64 := rfl
theorem maxKey_b : Impl.Blake2.b.maxKey = 64 := rfl
theorem maxOut_s : Impl.Blake2.s.maxOut = 32 := rfl
theorem maxKey_s : Impl.Blake2.s.maxKey = 32 := rfl

end Cx.Proofs.Blake2
