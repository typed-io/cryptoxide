/-
  Proofs.Blake2Hist — operation histories of a BLAKE2 context (C02): the concrete state machine over
  `Impl.Blake2.Ctx` (current context + a stack of clones), the abstract one over (key, bytes since reset),
  one lemma per operation on the relation `RelA` between a context and (key, bytes since reset) — an equation wherever
  the operation ends in the state `newState` — the simulation assembled from them, and "checked refines wrapping" (C20).
  The machine is this file's own and not `HashProg.runProg`: a BLAKE2 context can be rekeyed, `reset` forgets the key,
  and a rekey with a long key is refused, so the abstract state is (key, bytes), not bytes.
-/
import CxVerif.Proofs.Blake2
namespace Cx.Proofs.Blake2
open Cx.Spec.Blake2
open Cx.Impl.Blake2 (Engine Ctx Profile addAssign)

/-- the operations of the modern API on one context value; `clone` pushes a copy of the current context on a
    stack, `swap` exchanges the current context with the top of the stack (so both copies can be continued) -/
inductive Op
  | update (d : Bytes)
  | update_mut (d : Bytes)
  | reset
  | reset_with_key (k : Bytes)
  | finalize_reset
  | finalize_reset_with_key (k : Bytes)
  | finalize            -- `finalize` consumes: it is applied to a clone, the current context stays
  | clone
  | swap

section generic
variable {W : Type} [Word W]

abbrev CSt (W : Type) := Ctx W × List (Ctx W)
abbrev AVal := Bytes × Bytes          -- (key, bytes since last reset)
abbrev ASt := AVal × List AVal

/-- one operation on the code-shaped model (output length `nn` fixed at creation); `none` = panic -/
def stepC (P : Params W) (pr : Profile) (nn : Nat) (s : CSt W) : Op → Option (CSt W × Option Bytes)
  | .update d | .update_mut d =>
    match Ctx.update_mut P pr s.1 d with
    | none => none
    | some c => some ((c, s.2), none)
  | .reset => some ((Ctx.reset P s.1 nn, s.2), none)
  | .reset_with_key k =>
    match Ctx.reset_with_key P s.1 nn k with
    | none => none
    | some c => some ((c, s.2), none)
  | .finalize_reset =>
    match Ctx.finalize_reset_at P pr s.1 nn nn with
    | none => none
    | some (c, out) => some ((c, s.2), some out)
  | .finalize_reset_with_key k =>
    match Ctx.finalize_reset_with_key_at P pr s.1 nn k nn with
    | none => none
    | some (c, out) => some ((c, s.2), some out)
  | .finalize =>
    match Ctx.finalize_at P pr s.1 nn nn with
    | none => none
    | some out => some (s, some out)
  | .clone => some ((s.1, s.1 :: s.2), none)
  | .swap =>
    match s.2 with
    | [] => some (s, none)
    | t :: rest => some ((t, s.1 :: rest), none)

def stepA (P : Params W) (nn : Nat) (a : ASt) : Op → Option (ASt × Option Bytes)
  | .update d | .update_mut d => some (((a.1.1, a.1.2 ++ d), a.2), none)
  | .reset => some ((([], []), a.2), none)
  | .reset_with_key k => if k.length ≤ P.maxKey then some (((k, []), a.2), none) else none
  | .finalize_reset => some ((([], []), a.2), some (blake2 P nn a.1.1 a.1.2))
  | .finalize_reset_with_key k =>
    if k.length ≤ P.maxKey then some (((k, []), a.2), some (blake2 P nn a.1.1 a.1.2)) else none
  | .finalize => some (a, some (blake2 P nn a.1.1 a.1.2))
  | .clone => some ((a.1, a.1 :: a.2), none)
  | .swap =>
    match a.2 with
    | [] => some (a, none)
    | t :: rest => some ((t, a.1 :: rest), none)

def addOut (outs : List Bytes) : Option Bytes → List Bytes
  | none => outs
  | some o => outs ++ [o]

def runC (P : Params W) (pr : Profile) (nn : Nat) : CSt W → List Op → List Bytes → Option (CSt W × List Bytes)
  | s, [], outs => some (s, outs)
  | s, op :: ops, outs =>
    match stepC P pr nn s op with
    | none => none
    | some (s', o) => runC P pr nn s' ops (addOut outs o)

def runA (P : Params W) (nn : Nat) : ASt → List Op → List Bytes → Option (ASt × List Bytes)
  | a, [], outs => some (a, outs)
  | a, op :: ops, outs =>
    match stepA P nn a op with
    | none => none
    | some (a', o) => runA P nn a' ops (addOut outs o)

/-- `c` is a context with output length `nn` under the key `a.1` that was fed `a.2` since creation or the last reset -/
def RelA (P : Params W) (nn : Nat) (c : Ctx W) (a : AVal) : Prop :=
  a.1.length ≤ P.maxKey ∧ Rel P c (init P nn a.1.length) 0 (keyBlock P.bb a.1 ++ a.2)

def RelL (P : Params W) (nn : Nat) : List (Ctx W) → List AVal → Prop
  | [], [] => True
  | c :: cs, a :: as => RelA P nn c a ∧ RelL P nn cs as
  | _, _ => False

def RelSt (P : Params W) (nn : Nat) (s : CSt W) (a : ASt) : Prop := RelA P nn s.1 a.1 ∧ RelL P nn s.2 a.2

def Agree (P : Params W) (nn : Nat) {β : Type} (x : Option (CSt W × β)) (y : Option (ASt × β)) : Prop :=
  match x, y with
  | none, none => True
  | some (s, o), some (a, o') => o = o' ∧ RelSt P nn s a
  | _, _ => False

theorem RelA.inv {P : Params W} {nn : Nat} {c : Ctx W} {a : AVal} (h : RelA P nn c a) : Inv P c := h.2.1

theorem Agree.outs {P : Params W} {nn : Nat} {β : Type} {x : Option (CSt W × β)} {y : Option (ASt × β)}
    (h : Agree P nn x y) : x.map (·.2) = y.map (·.2) := by
  unfold Agree at h
  split at h
  · rfl
  · rw [Option.map_some, Option.map_some, h.1]
  · exact h.elim

theorem Agree.rel {P : Params W} {nn : Nat} {β : Type} {x : Option (CSt W × β)} {y : Option (ASt × β)}
    (h : Agree P nn x y) {s : CSt W} {o : β} (hx : x = some (s, o)) : ∃ a, y = some (a, o) ∧ RelSt P nn s a := by
  subst hx
  cases y with
  | none => exact h.elim
  | some y => exact ⟨y.1, by rw [h.1], h.2⟩

theorem newState_relA (P : Params W) (g : Good P) (nn : Nat) (hn : nn ≤ P.maxOut) (k : Bytes) (hk : k.length ≤ P.maxKey) :
    RelA P nn (newState P nn k) (k, []) := by
  refine ⟨hk, ?_⟩
  simpa using newState_rel P g nn k hn hk

theorem newState_relSt (P : Params W) (g : Good P) (nn : Nat) (hn : nn ≤ P.maxOut) (k : Bytes) (hk : k.length ≤ P.maxKey) :
    RelSt P nn (newState P nn k, []) ((k, []), []) := ⟨newState_relA P g nn hn k hk, trivial⟩

theorem reset_with_key_ite (P : Params W) (c : Ctx W) (hi : Inv P c) (nn : Nat) (k : Bytes) :
    Ctx.reset_with_key P c nn k = if k.length ≤ P.maxKey then some (newState P nn k) else none := by
  split
  · rename_i hk; exact reset_with_key_eq P c hi nn k hk
  · rename_i hk; exact reset_with_key_none P c nn k hk

theorem RelA.update {P : Params W} (g : Good P) {nn : Nat} {c : Ctx W} {k m : Bytes} (hr : RelA P nn c (k, m)) (d : Bytes) :
    ∃ c', Ctx.update_mut P .wrapping c d = some c' ∧ RelA P nn c' (k, m ++ d) := by
  obtain ⟨c', h1, h2⟩ := Rel.update P g .wrapping c _ 0 _ d hr.2 (fits_wrapping _ _)
  exact ⟨c', h1, hr.1, by simpa [List.append_assoc] using h2⟩

/-- `internal_final`: the digest stands at the head of the staging buffer -/
theorem RelA.final {P : Params W} (g : Good P) {nn : Nat} (hn : nn ≤ P.maxOut) {c : Ctx W} {k m : Bytes}
    (hr : RelA P nn c (k, m)) :
    ∃ cf, Ctx.internal_final P .wrapping c = some cf ∧ Inv P cf ∧ cf.buf.take nn = blake2 P nn k m := by
  obtain ⟨cf, hf1, hf2, hf3⟩ := Rel.internal_final P g .wrapping c _ 0 _ hr.2 (fits_wrapping _ _)
  refine ⟨cf, hf1, hf2, ?_⟩
  rw [hf3 nn (Nat.le_trans hn g.out_le), blake2_eq_stream P g.bb_pos nn k m (Nat.le_trans hr.1 g.key_le)]
  rfl

theorem RelA.finalize {P : Params W} (g : Good P) {nn : Nat} (hn : nn ≤ P.maxOut) {c : Ctx W} {k m : Bytes}
    (hr : RelA P nn c (k, m)) : Ctx.finalize_at P .wrapping c nn nn = some (blake2 P nn k m) := by
  obtain ⟨cf, h1, _, h3⟩ := hr.final g hn
  simp only [Ctx.finalize_at, h1, h3, ne_eq, not_true_eq_false, ↓reduceIte]

theorem RelA.finalize_reset {P : Params W} (g : Good P) {nn : Nat} (hn : nn ≤ P.maxOut) {c : Ctx W} {k m : Bytes}
    (hr : RelA P nn c (k, m)) :
    Ctx.finalize_reset_at P .wrapping c nn nn = some (newState P nn [], blake2 P nn k m) := by
  obtain ⟨cf, h1, h2, h3⟩ := hr.final g hn
  simp only [Ctx.finalize_reset_at, h1, h3, reset_eq P cf h2 nn, ne_eq, not_true_eq_false, ↓reduceIte]

theorem RelA.finalize_reset_with_key {P : Params W} (g : Good P) {nn : Nat} (hn : nn ≤ P.maxOut) {c : Ctx W} {k m : Bytes}
    (hr : RelA P nn c (k, m)) (k' : Bytes) :
    Ctx.finalize_reset_with_key_at P .wrapping c nn k' nn
      = if k'.length ≤ P.maxKey then some (newState P nn k', blake2 P nn k m) else none := by
  obtain ⟨cf, h1, h2, h3⟩ := hr.final g hn
  by_cases hk : k'.length ≤ P.maxKey <;>
    simp only [Ctx.finalize_reset_with_key_at, h1, reset_with_key_ite P cf h2 nn k', h3, hk, ne_eq, not_true_eq_false, ↓reduceIte]

theorem stepC_sim (P : Params W) (g : Good P) (nn : Nat) (hn : 0 < nn ∧ nn ≤ P.maxOut) (s : CSt W) (a : ASt)
    (hr : RelSt P nn s a) (op : Op) :
    Agree P nn (stepC P .wrapping nn s op) (stepA P nn a op) := by
  obtain ⟨hcur, hstack⟩ := hr
  have hnew := fun k hk => newState_relA P g nn hn.2 k hk
  cases op with
  | update d | update_mut d =>
    obtain ⟨c', h1, h2⟩ := hcur.update g d
    simp only [stepC, stepA, h1]
    exact ⟨rfl, h2, hstack⟩
  | reset =>
    simp only [stepC, stepA, reset_eq P s.1 hcur.inv nn]
    exact ⟨rfl, hnew [] (Nat.zero_le _), hstack⟩
  | reset_with_key k =>
    by_cases hk : k.length ≤ P.maxKey <;> simp only [stepC, stepA, reset_with_key_ite P s.1 hcur.inv nn k, hk, ↓reduceIte]
    · exact ⟨rfl, hnew k hk, hstack⟩
    · trivial
  | finalize_reset =>
    simp only [stepC, stepA, hcur.finalize_reset g hn.2]
    exact ⟨rfl, hnew [] (Nat.zero_le _), hstack⟩
  | finalize_reset_with_key k =>
    by_cases hk : k.length ≤ P.maxKey <;> simp only [stepC, stepA, hcur.finalize_reset_with_key g hn.2 k, hk, ↓reduceIte]
    · exact ⟨rfl, hnew k hk, hstack⟩
    · trivial
  | finalize =>
    simp only [stepC, stepA, hcur.finalize g hn.2]
    exact ⟨rfl, hcur, hstack⟩
  | clone => exact ⟨rfl, hcur, hcur, hstack⟩
  | swap =>
    obtain ⟨c, cs⟩ := s
    obtain ⟨av, as⟩ := a
    cases cs <;> cases as
    · exact ⟨rfl, hcur, hstack⟩
    · exact hstack.elim
    · exact hstack.elim
    · exact ⟨rfl, hstack.1, hcur, hstack.2⟩

theorem runC_sim (P : Params W) (g : Good P) (nn : Nat) (hn : 0 < nn ∧ nn ≤ P.maxOut) (ops : List Op) :
    ∀ (s : CSt W) (a : ASt) (outs : List Bytes), RelSt P nn s a →
      Agree P nn (runC P .wrapping nn s ops outs) (runA P nn a ops outs) := by
  induction ops with
  | nil => intro s a outs hr; exact ⟨rfl, hr⟩
  | cons op ops ih =>
    intro s a outs hr
    have h := stepC_sim P g nn hn s a hr op
    simp only [runC, runA]
    unfold Agree at h
    split at h
    · rename_i h1 h2
      rw [h1, h2]; trivial
    · rename_i s' o a' o' h1 h2
      obtain ⟨rfl, hr'⟩ := h
      rw [h1, h2]
      exact ih s' a' _ hr'
    · exact h.elim

/-! ### checked refines wrapping: whenever the overflow-checked `+=` build returns, the wrapping build returns the same -/

omit [Word W] in
theorem addAssign_mono (w a b r : Nat) (h : addAssign w .checked a b = some r) : addAssign w .wrapping a b = some r := by
  unfold addAssign at *
  dsimp only at h ⊢
  split at h
  · rename_i hlt
    cases h
    rw [Nat.mod_eq_of_lt hlt]
  · cases h

theorem increment_counter_mono (e e' : Engine W) (inc : Nat) (h : e.increment_counter .checked inc = some e') :
    e.increment_counter .wrapping inc = some e' := by
  unfold Engine.increment_counter at *
  split at h
  · cases h
  · rename_i t0 h0
    rw [addAssign_mono _ _ _ _ h0]
    split at h
    · cases h
    · rename_i t1 h1
      rw [addAssign_mono _ _ _ _ h1]
      exact h

theorem update_loop_mono (P : Params W) :
    ∀ (f : Nat) (e : Engine W) (d : Bytes) (r : Engine W × Bytes),
      Ctx.update_loop P .checked f e d = some r → Ctx.update_loop P .wrapping f e d = some r := by
  intro f
  induction f with
  | zero => intro e d r h; exact h
  | succ f ih =>
    intro e d r h
    unfold Ctx.update_loop at h ⊢
    split at h
    · rename_i hlt
      rw [if_pos hlt]
      split at h
      · cases h
      · rename_i e1 h0
        rw [increment_counter_mono e e1 _ h0]
        exact ih _ _ _ h
    · rename_i hlt
      rw [if_neg hlt]
      exact h

theorem update_mut_mono (P : Params W) (c c' : Ctx W) (d : Bytes) (h : Ctx.update_mut P .checked c d = some c') :
    Ctx.update_mut P .wrapping c d = some c' := by
  unfold Ctx.update_mut at *
  split at h
  · rename_i he; rw [if_pos he]; exact h
  · rename_i he
    rw [if_neg he]
    dsimp only at h ⊢
    split at h
    · rename_i hb
      rw [if_pos hb]
      split at h
      · cases h
      · rename_i e1 h0
        rw [increment_counter_mono _ e1 _ h0]
        dsimp only at h ⊢
        split at h
        · cases h
        · rename_i e2 rest h1
          rw [update_loop_mono P _ _ _ _ h1]
          exact h
    · rename_i hb
      rw [if_neg hb]
      exact h

theorem internal_final_mono (P : Params W) (c c' : Ctx W) (h : Ctx.internal_final P .checked c = some c') :
    Ctx.internal_final P .wrapping c = some c' := by
  unfold Ctx.internal_final at *
  split at h
  · cases h
  · rename_i e1 h0
    rw [increment_counter_mono _ e1 _ h0]
    exact h

theorem stepC_mono (P : Params W) (nn : Nat) (s : CSt W) (op : Op) (r : CSt W × Option Bytes)
    (h : stepC P .checked nn s op = some r) : stepC P .wrapping nn s op = some r := by
  cases op with
  | update d | update_mut d =>
    simp only [stepC] at h ⊢
    split at h
    · cases h
    · rename_i c' h0
      rw [update_mut_mono P _ _ _ h0]; exact h
  | reset | reset_with_key _ | clone | swap => exact h
  | finalize_reset | finalize_reset_with_key _ | finalize =>
    simp only [stepC, Ctx.finalize_reset_at, Ctx.finalize_reset_with_key_at, Ctx.finalize_at] at h ⊢
    cases h0 : Ctx.internal_final P .checked s.1 with
    | none => simp [h0] at h
    | some c' => rw [h0] at h; rw [internal_final_mono P s.1 c' h0]; exact h

end generic
end Cx.Proofs.Blake2
