/-
  Proofs.Blake2Tables — the table obligations of the blake2 unit: the constants extracted from
  /repo/src/hashing/blake2/common.rs against RFC 7693 (Spec.Blake2).
-/
import CxVerif.Impl.Blake2
namespace Cx.Proofs.Blake2
open Cx.Spec.Blake2

/-- `isqrt` really is the integer square root on the 16 arguments the IV formula uses -/
theorem isqrt_spec_iv : ∀ w ∈ [32, 64], ∀ p ∈ primes8,
    isqrt (p * 2 ^ (2 * w)) * isqrt (p * 2 ^ (2 * w)) ≤ p * 2 ^ (2 * w) ∧
    p * 2 ^ (2 * w) < (isqrt (p * 2 ^ (2 * w)) + 1) * (isqrt (p * 2 ^ (2 * w)) + 1) := by decide +kernel

theorem iv_b_formula : Extracted.Blake2.B_IV = (List.range 8).map (ivNat 64) := by decide +kernel
theorem iv_s_formula : Extracted.Blake2.S_IV = (List.range 8).map (ivNat 32) := by decide +kernel
/-- BLAKE2s IV = high halves of the BLAKE2b IV (SHA-256 vs SHA-512 initial values) -/
theorem iv_s_high_half : Extracted.Blake2.S_IV = Extracted.Blake2.B_IV.map (· / 2 ^ 32) := by decide

theorem sigma_len : Extracted.Blake2.SIGMA.length = 12 := by decide
theorem sigma_rows_perm : ∀ row ∈ Extracted.Blake2.SIGMA, row.length = 16 ∧ ∀ k < 16, k ∈ row := by decide
theorem sigma_rows_eq_spec : ∀ r < 12, Impl.Blake2.sigmaRow r = Spec.Blake2.SIGMA.getD (r % 10) [] := by decide
theorem sigma_rows_10_11 : Impl.Blake2.sigmaRow 10 = Impl.Blake2.sigmaRow 0 ∧ Impl.Blake2.sigmaRow 11 = Impl.Blake2.sigmaRow 1 := by decide
theorem spec_sigma_rows_perm : ∀ row ∈ Spec.Blake2.SIGMA, row.length = 16 ∧ ∀ k < 16, k ∈ row := by decide

theorem consts_b : [Extracted.Blake2.B_BLOCK_BYTES, Extracted.Blake2.B_ROUNDS, Extracted.Blake2.B_R1, Extracted.Blake2.B_R2,
    Extracted.Blake2.B_R3, Extracted.Blake2.B_R4, Extracted.Blake2.B_MAX_OUTLEN, Extracted.Blake2.B_MAX_KEYLEN]
    = [128, 12, 32, 24, 16, 63, 64, 64] := by decide
theorem consts_s : [Extracted.Blake2.S_BLOCK_BYTES, Extracted.Blake2.S_ROUNDS, Extracted.Blake2.S_R1, Extracted.Blake2.S_R2,
    Extracted.Blake2.S_R3, Extracted.Blake2.S_R4, Extracted.Blake2.S_MAX_OUTLEN, Extracted.Blake2.S_MAX_KEYLEN]
    = [64, 10, 16, 12, 8, 7, 32, 32] := by decide

theorem getD_map_range (f : Nat → Nat) {n i : Nat} (h : i < n) : ((List.range n).map f).getD i 0 = f i := by
  rw [List.getD_eq_getElem?_getD, List.getElem?_map, List.getElem?_range h]
  exact Option.getD_some

theorem iv_b_entries : ∀ i : Fin 8, Extracted.Blake2.B_IV.getD i.val 0 = ivNat 64 i.val :=
  fun i => iv_b_formula ▸ getD_map_range _ i.isLt
theorem iv_s_entries : ∀ i : Fin 8, Extracted.Blake2.S_IV.getD i.val 0 = ivNat 32 i.val :=
  fun i => iv_s_formula ▸ getD_map_range _ i.isLt

theorem impl_b_eq_spec_b : Impl.Blake2.b = Spec.Blake2.b := by
  have h : (Vector.ofFn fun i : Fin 8 => UInt64.ofNat (Extracted.Blake2.B_IV.getD i.val 0)) = ivB := by
    unfold ivB; congr; funext i; rw [iv_b_entries]
  simp only [Impl.Blake2.b, Spec.Blake2.b, h]
  rfl
theorem impl_s_eq_spec_s : Impl.Blake2.s = Spec.Blake2.s := by
  have h : (Vector.ofFn fun i : Fin 8 => UInt32.ofNat (Extracted.Blake2.S_IV.getD i.val 0)) = ivS := by
    unfold ivS; congr; funext i; rw [iv_s_entries]
  simp only [Impl.Blake2.s, Spec.Blake2.s, h]
  rfl

/-- the unrolled rounds of `compressbody!` with the 12-row table = `SIGMA[i mod 10]`, `i < r` -/
theorem rows_b : Impl.Blake2.compressRows Spec.Blake2.b = Spec.Blake2.rows Spec.Blake2.b.rounds := by decide
theorem rows_s : Impl.Blake2.compressRows Spec.Blake2.s = Spec.Blake2.rows Spec.Blake2.s.rounds := by decide

end Cx.Proofs.Blake2
