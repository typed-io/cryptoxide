/-
  Proofs.BlockLoop — the two loops by which the Merkle–Damgård engines walk over the blocks of a byte string, each given by
  its equations in success-path form, so that an instance only unfolds its own text once per equation.
  `blockLoop_spec`: a fuel loop over `&block[i..i + N]` (`impl256/impl512::reference::digest_block`), characterised
  completely: on a whole number of blocks the fold of the one-block function, on a ragged tail a panic; instances
  `digest_block256_total`, `digest_block512_total` (Proofs/Sha2Engine.lean).
  `chunksLoop_spec`: `for b in d.chunks(N) { one(b) }` (sha1.rs `digest_blocks`, ripemd160.rs `process_msg_blocks`) on a whole
  number of blocks; instances `Sha1Stream.digest_blocks_spec`, `Ripemd160Stream.blocksFn_spec`.  Rests on Proofs/FixedBuffer.lean for the predicates
  `FuncOneBlock` / `FuncIsBlocks` only; no library outside the project.
-/
import CxVerif.Proofs.FixedBuffer
namespace Cx.Proofs.FB

theorem blockLoop_spec {σ : Type} {N : Nat} (hN : 0 < N) (L : Nat → σ → Bytes → Option σ)
    (one : σ → Bytes → Option σ) (compress : σ → Bytes → σ) (h1 : FuncOneBlock N one compress)
    (hnil : ∀ f s r, r.length = 0 → L (f + 1) s r = some s)
    (hstep : ∀ f s r s', N ≤ r.length → one s (r.take N) = some s' → L (f + 1) s r = L f s' (r.drop N))
    (hshort : ∀ f s r, 0 < r.length → r.length < N → L (f + 1) s r = none) (k : Nat) :
    ∀ (fuel : Nat) (s : σ) (r : Bytes), r.length / N = k → k < fuel →
      L fuel s r = if r.length % N = 0 then some ((fullBlocks N r).foldl compress s) else none := by
  induction k with
  | zero =>
    intro fuel s r hk hf
    obtain ⟨f, rfl⟩ : ∃ f, fuel = f + 1 := ⟨fuel - 1, by omega⟩
    have hlt : r.length < N := (Nat.div_eq_zero_iff_lt hN).mp hk
    rw [Nat.mod_eq_of_lt hlt]
    by_cases h0 : r.length = 0
    · rw [hnil f s r h0, if_pos h0, fullBlocks_of_lt hlt]; rfl
    · rw [hshort f s r (by omega) hlt, if_neg h0]
  | succ k ih =>
    intro fuel s r hk hf
    obtain ⟨f, rfl⟩ : ∃ f, fuel = f + 1 := ⟨fuel - 1, by omega⟩
    have hge : N ≤ r.length := by
      rcases Nat.lt_or_ge r.length N with h | h
      · rw [Nat.div_eq_of_lt h] at hk; cases hk
      · exact h
    have ht : (r.take N).length = N := by simp; omega
    have hd : (r.drop N).length = r.length - N := by simp
    have hk' : (r.drop N).length / N = k := by
      rw [hd]; have := Nat.div_eq_sub_div hN hge; omega
    rw [hstep f s r _ hge (h1 s _ ht), ih f _ _ hk' (by omega), hd, ← Nat.mod_eq_sub_mod hge, fullBlocks_of_ge hN hge]
    rfl

theorem chunksLoop_spec {σ : Type} {N : Nat} (hN : 0 < N) (go : σ → List Bytes → Option σ) (one : σ → Bytes → Option σ)
    (compress : σ → Bytes → σ) (h1 : FuncOneBlock N one compress) (hnil : ∀ s, go s [] = some s)
    (hcons : ∀ s b bs s', one s b = some s' → go s (b :: bs) = go s' bs) :
    FuncIsBlocks N (fun s d => go s (chunks N d)) compress := by
  intro s d hd
  show go s (chunks N d) = _
  rw [chunks_eq_fullBlocks hN d hd]
  have hl := fullBlocks_all_len (N := N) d
  generalize fullBlocks N d = bs at hl
  induction bs generalizing s with
  | nil => exact hnil s
  | cons b bs ih =>
    rw [hcons s b bs _ (h1 s b (hl b (by simp))), List.foldl_cons]
    exact ih _ (fun x hx => hl x (by simp [hx]))

end Cx.Proofs.FB
