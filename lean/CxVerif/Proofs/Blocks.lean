/-
  Proofs.Blocks — cutting a byte string into N-byte blocks (namespace `Cx.Proofs.FB`, shared with Proofs/FixedBuffer.lean, which
  builds on this file).  `fullBlocks N d` / `blockTail N d` are the whole blocks of `d` and what is left.  The one fact that makes
  the chunking of an input irrelevant is `split_append`: the cut of `m ++ x` is the blocks of `m`, then the cut of
  `blockTail N m ++ x`.  Its halves `fullBlocks_append` / `blockTail_append` serve FixedBuffer and the Merkle–Damgård engines;
  its fold form `feed_append` (a buffer in the state `(fold over fullBlocks N m, blockTail N m)`, fed `x`, is in the state for
  `m ++ x`) serves Poly1305's staging buffer and the sponge's XOR-in.
  The specifications cut with `chunks`, which keeps the partial block: `chunks_eq_fullBlocks` (whole blocks only) is what the
  hash drivers and ties use; `chunks_eq`, `cut_unique`, `cut_exists` serve Poly1305 alone, whose Spec folds over `chunks` of a
  message with a partial last block.  Core Lean only.
-/
import CxVerif.Util.Blocks
import CxVerif.Proofs.ByteLemmas
namespace Cx.Proofs.FB

theorem fullBlocks_of_lt {N : Nat} {d : Bytes} (h : d.length < N) : fullBlocks N d = [] := by
  unfold fullBlocks
  rw [Nat.div_eq_of_lt h]; rfl

theorem blockTail_of_lt {N : Nat} {d : Bytes} (h : d.length < N) : blockTail N d = d := by
  unfold blockTail
  rw [Nat.div_eq_of_lt h]; simp

theorem fullBlocks_cons {N : Nat} (hN : 0 < N) {a r : Bytes} (ha : a.length = N) :
    fullBlocks N (a ++ r) = a :: fullBlocks N r := by
  unfold fullBlocks
  have : (a ++ r).length / N = r.length / N + 1 := by
    rw [List.length_append, ha, Nat.add_comm, Nat.add_div_right _ hN]
  rw [this, takeBlocks]
  congr 1
  · rw [← ha]; simp
  · rw [← ha]; simp

theorem fullBlocks_single {N : Nat} (hN : 0 < N) {a : Bytes} (ha : a.length = N) : fullBlocks N a = [a] := by
  have := fullBlocks_cons hN (r := []) ha
  rwa [List.append_nil, fullBlocks_of_lt (d := []) (by simpa using hN)] at this

theorem blockTail_cons {N : Nat} (hN : 0 < N) {a r : Bytes} (ha : a.length = N) :
    blockTail N (a ++ r) = blockTail N r := by
  unfold blockTail
  have : (a ++ r).length / N = r.length / N + 1 := by
    rw [List.length_append, ha, Nat.add_comm, Nat.add_div_right _ hN]
  rw [this, Nat.add_mul, Nat.one_mul, Nat.add_comm, ← List.drop_drop]
  congr 1
  rw [← ha]; simp

theorem split_unique {N : Nat} (hN : 0 < N) (blocks : List Bytes) (t : Bytes)
    (hb : ∀ b ∈ blocks, b.length = N) (ht : t.length < N) :
    fullBlocks N (blocks.flatten ++ t) = blocks ∧ blockTail N (blocks.flatten ++ t) = t := by
  induction blocks with
  | nil => simp [fullBlocks_of_lt ht, blockTail_of_lt ht]
  | cons b bs ih =>
    have hbl : b.length = N := hb b (by simp)
    have ih' := ih (fun x hx => hb x (by simp [hx]))
    simp only [List.flatten_cons, List.append_assoc]
    rw [fullBlocks_cons hN hbl, blockTail_cons hN hbl, ih'.1, ih'.2]
    simp

theorem takeBlocks_length (N k : Nat) (d : Bytes) : (takeBlocks N k d).length = k := by
  induction k generalizing d with
  | zero => rfl
  | succ k ih => simp [takeBlocks, ih]

theorem takeBlocks_all_len {N : Nat} (k : Nat) (d : Bytes) (h : k * N ≤ d.length) :
    ∀ b ∈ takeBlocks N k d, b.length = N := by
  induction k generalizing d with
  | zero => simp [takeBlocks]
  | succ k ih =>
    intro b hb
    simp only [takeBlocks, List.mem_cons] at hb
    have h2 : N ≤ d.length := by rw [Nat.add_mul] at h; omega
    rcases hb with rfl | hb
    · simp [h2]
    · exact ih (d.drop N) (by simp; rw [Nat.add_mul] at h; omega) b hb

theorem takeBlocks_flatten {N : Nat} (k : Nat) (d : Bytes) :
    (takeBlocks N k d).flatten = d.take (k * N) := by
  induction k generalizing d with
  | zero => simp [takeBlocks]
  | succ k ih =>
    simp only [takeBlocks, List.flatten_cons, ih]
    rw [Nat.add_mul, Nat.one_mul, Nat.add_comm, List.take_add]

theorem takeBlocks_getElem? (N : Nat) : ∀ (k : Nat) (d : Bytes) (i : Nat), i < k →
    (takeBlocks N k d)[i]? = some ((d.drop (N * i)).take N) := by
  intro k
  induction k with
  | zero => intro d i h; omega
  | succ k ih =>
    intro d i h
    cases i with
    | zero => simp [takeBlocks]
    | succ i =>
      simp only [takeBlocks, List.getElem?_cons_succ]
      rw [ih (d.drop N) i (by omega), List.drop_drop]
      congr 3
      rw [Nat.mul_succ]; omega

theorem takeBlocks_eq_map (N k : Nat) (d : Bytes) :
    takeBlocks N k d = (List.range k).map fun j => (d.drop (N * j)).take N := by
  apply List.ext_getElem?
  intro i
  by_cases h : i < k
  · rw [takeBlocks_getElem? N k d i h]; simp [h]
  · rw [List.getElem?_eq_none (by rw [takeBlocks_length]; omega), List.getElem?_eq_none (by simp; omega)]

theorem takeBlocks_add (N a b : Nat) : ∀ d : Bytes, takeBlocks N (a + b) d = takeBlocks N a d ++ takeBlocks N b (d.drop (N * a)) := by
  induction a with
  | zero => intro d; simp [takeBlocks]
  | succ a ih =>
    intro d
    rw [show a + 1 + b = (a + b) + 1 by omega]
    simp only [takeBlocks, ih, List.cons_append, List.drop_drop]
    rw [show N * (a + 1) = N + N * a by rw [Nat.mul_succ]; omega]

theorem fullBlocks_all_len {N : Nat} (d : Bytes) : ∀ b ∈ fullBlocks N d, b.length = N :=
  takeBlocks_all_len _ d (Nat.div_mul_le_self _ _)

theorem split_exists (N : Nat) (d : Bytes) : d = (fullBlocks N d).flatten ++ blockTail N d := by
  unfold fullBlocks blockTail
  rw [takeBlocks_flatten, List.take_append_drop]

theorem blockTail_length {N : Nat} (d : Bytes) : (blockTail N d).length = d.length % N := by
  unfold blockTail
  simp only [List.length_drop]
  have := Nat.div_add_mod d.length N
  rw [Nat.mul_comm] at this
  omega

theorem blockTail_aligned {N : Nat} (P : Bytes) (hP : P.length % N = 0) : blockTail N P = [] :=
  List.eq_nil_of_length_eq_zero (by rw [blockTail_length, hP])

theorem blockTail_length_lt {N : Nat} (hN : 0 < N) (d : Bytes) : (blockTail N d).length < N :=
  blockTail_length d ▸ Nat.mod_lt d.length hN

theorem split_append {N : Nat} (hN : 0 < N) (m x : Bytes) :
    fullBlocks N (m ++ x) = fullBlocks N m ++ fullBlocks N (blockTail N m ++ x)
    ∧ blockTail N (m ++ x) = blockTail N (blockTail N m ++ x) := by
  have hm := split_exists N m
  have h1 := split_exists N (blockTail N m ++ x)
  have : m ++ x = (fullBlocks N m ++ fullBlocks N (blockTail N m ++ x)).flatten
      ++ blockTail N (blockTail N m ++ x) := by
    rw [List.flatten_append, List.append_assoc, ← h1, ← List.append_assoc, ← hm]
  rw [this]
  exact split_unique hN _ _ (fun b hb => (List.mem_append.mp hb).elim (fullBlocks_all_len _ b) (fullBlocks_all_len _ b))
    (blockTail_length_lt hN _)

theorem fullBlocks_append {N : Nat} (hN : 0 < N) (m x : Bytes) :
    fullBlocks N (m ++ x) = fullBlocks N m ++ fullBlocks N (blockTail N m ++ x) := (split_append hN m x).1

theorem blockTail_append {N : Nat} (hN : 0 < N) (m x : Bytes) :
    blockTail N (m ++ x) = blockTail N (blockTail N m ++ x) := (split_append hN m x).2

theorem fullBlocks_take {N : Nat} (hN : 0 < N) (r : Bytes) :
    fullBlocks N (r.take (r.length / N * N)) = fullBlocks N r := by
  have h := split_exists N r
  have h2 : r.take (r.length / N * N) = (fullBlocks N r).flatten := by
    unfold fullBlocks; rw [takeBlocks_flatten]
  rw [h2]
  have := (split_unique hN (fullBlocks N r) [] (fullBlocks_all_len r) (by simpa using hN)).1
  simpa using this

theorem fullBlocks_of_ge {N : Nat} (hN : 0 < N) {d : Bytes} (h : N ≤ d.length) :
    fullBlocks N d = d.take N :: fullBlocks N (d.drop N) := by
  conv => lhs; rw [← List.take_append_drop N d, fullBlocks_cons hN (by simp; omega)]

theorem blockTail_of_ge {N : Nat} (hN : 0 < N) {d : Bytes} (h : N ≤ d.length) :
    blockTail N d = blockTail N (d.drop N) := by
  conv => lhs; rw [← List.take_append_drop N d, blockTail_cons hN (by simp; omega)]

theorem feed_append {σ : Type} {N : Nat} (hN : 0 < N) (f : σ → Bytes → σ) (s : σ) (m x : Bytes) :
    (fullBlocks N (blockTail N m ++ x)).foldl f ((fullBlocks N m).foldl f s) = (fullBlocks N (m ++ x)).foldl f s
    ∧ blockTail N (blockTail N m ++ x) = blockTail N (m ++ x) := by
  rw [fullBlocks_append hN m x, blockTail_append hN m x, List.foldl_append]
  exact ⟨rfl, rfl⟩

theorem chunks_blocks {N : Nat} (hN : 0 < N) (bs : List Bytes) (t : Bytes) (hb : ∀ b ∈ bs, b.length = N)
    (ht : t.length < N) : chunks N (bs.flatten ++ t) = bs ++ (if t = [] then [] else [t]) := by
  induction bs with
  | nil =>
    by_cases h : t = []
    · subst h; rfl
    · rw [List.flatten_nil, List.nil_append, Bytes.chunks_cons N hN t h, List.take_of_length_le (Nat.le_of_lt ht),
        List.drop_eq_nil_of_le (Nat.le_of_lt ht), Bytes.chunks_nil, if_neg h, List.nil_append]
  | cons b bs ih =>
    have hbl : b.length = N := hb b (by simp)
    have hne : b ++ (bs.flatten ++ t) ≠ [] := by
      intro h; have := congrArg List.length h; simp [hbl] at this; omega
    rw [List.flatten_cons, List.append_assoc, Bytes.chunks_cons N hN _ hne, List.take_left' hbl, List.drop_left' hbl,
      ih (fun x hx => hb x (by simp [hx])), List.cons_append]

theorem chunks_eq {N : Nat} (hN : 0 < N) (d : Bytes) :
    chunks N d = fullBlocks N d ++ (if blockTail N d = [] then [] else [blockTail N d]) := by
  have := chunks_blocks hN (fullBlocks N d) (blockTail N d) (fullBlocks_all_len d) (blockTail_length_lt hN d)
  rwa [← split_exists] at this

theorem cut_unique {N : Nat} (hN : 0 < N) {msg pre t : Bytes} {k : Nat} (hmsg : msg = pre ++ t)
    (hpre : pre.length = N * k) (ht : t.length < N) : fullBlocks N msg = chunks N pre ∧ blockTail N msg = t := by
  have h0 : blockTail N pre = [] := blockTail_aligned pre (by rw [hpre, Nat.mul_mod_right])
  have hp := split_exists N pre
  rw [h0, List.append_nil] at hp
  have := split_unique hN (fullBlocks N pre) t (fullBlocks_all_len pre) ht
  rw [← hp, ← hmsg] at this
  rw [chunks_eq hN pre, h0, if_pos rfl, List.append_nil]
  exact this

theorem cut_exists {N : Nat} (hN : 0 < N) (msg : Bytes) :
    ∃ pre, msg = pre ++ blockTail N msg ∧ pre.length = N * (msg.length / N) ∧ chunks N pre = fullBlocks N msg := by
  refine ⟨(fullBlocks N msg).flatten, split_exists N msg, ?_, ?_⟩
  · unfold fullBlocks
    rw [takeBlocks_flatten, List.length_take, Nat.min_eq_left (Nat.div_mul_le_self _ _), Nat.mul_comm]
  · have := chunks_blocks hN (fullBlocks N msg) [] (fullBlocks_all_len msg) hN
    rwa [List.append_nil, if_pos rfl, List.append_nil] at this

theorem chunks_eq_fullBlocks {N : Nat} (hN : 0 < N) (d : Bytes) (h : d.length % N = 0) : chunks N d = fullBlocks N d := by
  rw [chunks_eq hN, if_pos (blockTail_aligned d h), List.append_nil]

end Cx.Proofs.FB
