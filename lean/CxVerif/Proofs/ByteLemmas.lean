/-
  Proofs.ByteLemmas — what every unit needs of the byte codecs of `Util.Bytes`.
  Core Lean only.
-/
import CxVerif.Util.Bytes
namespace Cx.Proofs.Bytes

theorem or_add (a c k : Nat) (ha : a < 2 ^ k) : a ||| (c * 2 ^ k) = a + c * 2 ^ k := by
  rw [← Nat.shiftLeft_eq, Nat.or_comm, ← Nat.shiftLeft_add_eq_or_of_lt ha, Nat.add_comm]

/-- the selection `Ch` as the code writes it (`c ^ (a & (b ^ c))`), at any width -/
theorem ch_bv {w : Nat} (e f g : BitVec w) : g ^^^ (e &&& (f ^^^ g)) = (e &&& f) ^^^ (~~~e &&& g) := by
  ext i hi
  simp
  cases e[i] <;> cases f[i] <;> cases g[i] <;> rfl

theorem zeros_length (n : Nat) : (zeros n).length = n := List.length_replicate

theorem zeros_add (a b : Nat) : zeros (a + b) = zeros a ++ zeros b := by
  simp [zeros, List.replicate_append_replicate]

theorem zeros_succ (n : Nat) : zeros (n + 1) = 0 :: zeros n := by simp [zeros, List.replicate_succ]

theorem zeros_set_last (n : Nat) (v : UInt8) : (zeros (n + 1)).set n v = zeros n ++ [v] := by
  induction n with
  | zero => rfl
  | succ k ih => simp [zeros, List.replicate_succ] at *; exact ih

theorem zeros_get_last (n : Nat) : (zeros (n + 1))[n]? = some 0 := by
  simp [zeros]

theorem natToLE_length (n v : Nat) : (natToLE n v).length = n := by
  induction n generalizing v with
  | zero => rfl
  | succ n ih => simp [natToLE, ih]

theorem natToBE_length (n v : Nat) : (natToBE n v).length = n := by
  rw [natToBE, List.length_reverse, natToLE_length]

theorem u32le_length (w : UInt32) : (u32le w).length = 4 := natToLE_length 4 _
theorem u32be_length (w : UInt32) : (u32be w).length = 4 := natToBE_length 4 _
theorem u64le_length (w : UInt64) : (u64le w).length = 8 := natToLE_length 8 _
theorem u64be_length (w : UInt64) : (u64be w).length = 8 := natToBE_length 8 _

theorem length_flatMap_const {α β : Type} (f : α → List β) (k : Nat) (h : ∀ x, (f x).length = k) (l : List α) :
    (l.flatMap f).length = k * l.length := by
  induction l with
  | nil => rfl
  | cons x xs ih => rw [List.flatMap_cons, List.length_append, ih, h, List.length_cons, Nat.mul_succ, Nat.add_comm]

theorem flatMap_u32le_length (l : List UInt32) : (l.flatMap u32le).length = 4 * l.length :=
  length_flatMap_const _ 4 u32le_length l

theorem natToLE_add (a b v : Nat) : natToLE (a + b) v = natToLE a v ++ natToLE b (v / 256 ^ a) := by
  induction a generalizing v with
  | zero => simp [natToLE]
  | succ a ih =>
    rw [Nat.add_right_comm]
    simp only [natToLE, List.cons_append, ih, Nat.pow_succ]
    rw [Nat.div_div_eq_div_mul, Nat.mul_comm 256]

theorem natToLE_mod (n v : Nat) : natToLE n (v % 256 ^ n) = natToLE n v := by
  induction n generalizing v with
  | zero => rfl
  | succ n ih =>
    simp only [natToLE]
    rw [Nat.pow_succ, Nat.mul_comm (256 ^ n) 256, Nat.mod_mul_right_mod, Nat.mod_mul_right_div_self, ih]

theorem leNat_lt (bs : Bytes) : leNat bs < 256 ^ bs.length := by
  induction bs with
  | nil => exact Nat.one_pos
  | cons b bs ih =>
    have hb : b.toNat < 256 := b.toNat_lt
    simp only [leNat, List.length_cons, Nat.pow_succ]
    omega

theorem leNat_append (a b : Bytes) : leNat (a ++ b) = leNat a + 256 ^ a.length * leNat b := by
  induction a with
  | nil => simp [leNat]
  | cons x a ih =>
    simp only [List.cons_append, leNat, ih, List.length_cons, Nat.pow_succ]
    rw [Nat.mul_add, Nat.add_assoc, ← Nat.mul_assoc, Nat.mul_comm 256 (256 ^ a.length)]

theorem leNat_split (n : Nat) (bs : Bytes) : leNat bs = leNat (bs.take n) + 256 ^ n * leNat (bs.drop n) := by
  induction n generalizing bs with
  | zero => simp [leNat]
  | succ n ih =>
    cases bs with
    | nil => simp [leNat]
    | cons b bs =>
      simp only [List.take_succ_cons, List.drop_succ_cons, leNat]
      rw [ih bs, Nat.pow_succ]
      generalize leNat (bs.take n) = A
      generalize leNat (bs.drop n) = C
      rw [Nat.mul_add, Nat.add_assoc, Nat.mul_assoc, Nat.mul_left_comm (256 ^ n) 256 C]

theorem leNat_drop (bs : Bytes) (k : Nat) : leNat (bs.drop k) = leNat bs / 256 ^ k := by
  induction bs generalizing k with
  | nil => simp [leNat]
  | cons b bs ih =>
    cases k with
    | zero => simp
    | succ k =>
      have hb : b.toNat < 256 := b.toNat_lt
      simp only [List.drop_succ_cons, leNat, ih, Nat.pow_succ]
      rw [Nat.mul_comm (256 ^ k) 256, ← Nat.div_div_eq_div_mul]
      have h2 : (b.toNat + 256 * leNat bs) / 256 = leNat bs := by omega
      rw [h2]

theorem leNat_natToLE (n v : Nat) : leNat (natToLE n v) = v % 256 ^ n := by
  induction n generalizing v with
  | zero => simp [natToLE, leNat, Nat.mod_one]
  | succ n ih =>
    rw [natToLE, leNat, ih, UInt8.toNat_ofNat', Nat.pow_succ 256, Nat.mul_comm (256 ^ n), Nat.mod_mul]
    omega

theorem natToLE_leNat : ∀ l : Bytes, natToLE l.length (leNat l) = l := by
  intro l
  induction l with
  | nil => rfl
  | cons b t ih =>
    simp only [List.length_cons, natToLE, leNat]
    have hb := b.toNat_lt
    have e1 : (b.toNat + 256 * leNat t) % 256 = b.toNat := by omega
    have e2 : (b.toNat + 256 * leNat t) / 256 = leNat t := by omega
    rw [e1, e2, ih]; simp

theorem beNat_reverse (l : Bytes) : beNat l.reverse = leNat l := by
  unfold beNat
  rw [List.foldl_reverse]
  induction l with
  | nil => rfl
  | cons b bs ih => simp only [List.foldr_cons, leNat, ih]; omega

theorem leNat_reverse (l : Bytes) : leNat l.reverse = beNat l := by rw [← beNat_reverse, List.reverse_reverse]

theorem beNat_natToBE (n v : Nat) : beNat (natToBE n v) = v % 256 ^ n := by
  unfold natToBE; rw [beNat_reverse, leNat_natToLE]

theorem natToLE_inj {n v w : Nat} (hv : v < 256 ^ n) (hw : w < 256 ^ n) (h : natToLE n v = natToLE n w) : v = w := by
  have := congrArg leNat h
  rwa [leNat_natToLE, leNat_natToLE, Nat.mod_eq_of_lt hv, Nat.mod_eq_of_lt hw] at this

theorem xorBytes_length (a b : Bytes) : (xorBytes a b).length = min a.length b.length := by
  simp [xorBytes]

theorem xorBytes_append (a b k1 k2 : Bytes) (h : a.length = k1.length) :
    xorBytes (a ++ b) (k1 ++ k2) = xorBytes a k1 ++ xorBytes b k2 := by
  unfold xorBytes
  exact List.zipWith_append h

theorem xorBytes_invol : ∀ (d k : Bytes), d.length ≤ k.length → xorBytes (xorBytes d k) k = d := by
  intro d
  induction d with
  | nil => intro k _; simp [xorBytes]
  | cons x xs ih =>
    intro k hk
    cases k with
    | nil => simp at hk
    | cons y ys =>
      have := ih ys (by simpa using hk)
      simp only [xorBytes, List.zipWith_cons_cons] at this ⊢
      rw [this]
      congr 1
      rw [UInt8.xor_assoc, UInt8.xor_self, UInt8.xor_zero]

theorem xorBytes_zeros : ∀ (k : Bytes), xorBytes (zeros k.length) k = k := by
  intro k
  induction k with
  | nil => simp [xorBytes, zeros]
  | cons y ys ih =>
    simp only [xorBytes, zeros, List.length_cons, List.replicate_succ, List.zipWith_cons_cons] at ih ⊢
    rw [ih]; simp

theorem chunksAux_fuel2 (n : Nat) (hn : 0 < n) (f1 f2 : Nat) (bs : Bytes) (h1 : bs.length ≤ f1) (h2 : bs.length ≤ f2) :
    chunksAux n f1 bs = chunksAux n f2 bs := by
  induction f1 generalizing f2 bs with
  | zero =>
    have : bs = [] := List.eq_nil_of_length_eq_zero (by omega)
    subst this; cases f2 <;> rfl
  | succ f1 ih =>
    cases bs with
    | nil => cases f2 <;> rfl
    | cons b bs =>
      cases f2 with
      | zero => simp at h2
      | succ f2 =>
        simp only [chunksAux, List.isEmpty_cons, Bool.false_eq_true, if_false]
        have hd : ((b :: bs).drop n).length ≤ bs.length := by simp; omega
        simp only [List.length_cons] at h1 h2
        rw [ih f2 _ (by omega) (by omega)]

theorem chunksAux_fuel (n : Nat) (hn : 0 < n) (fuel : Nat) (bs : Bytes) (h : bs.length ≤ fuel) :
    chunksAux n fuel bs = chunks n bs :=
  chunksAux_fuel2 n hn _ _ bs h (Nat.le_refl _)

theorem chunks_nil (n : Nat) : chunks n [] = [] := rfl

theorem chunks_cons (n : Nat) (hn : 0 < n) (bs : Bytes) (h : bs ≠ []) :
    chunks n bs = bs.take n :: chunks n (bs.drop n) := by
  cases bs with
  | nil => exact absurd rfl h
  | cons b bs =>
    rw [chunks, List.length_cons, chunksAux, if_neg (by simp), chunksAux_fuel n hn]
    simp; omega

theorem chunks_induction (n : Nat) (hn : 0 < n) {P : Bytes → List Bytes → Prop} (h0 : P [] [])
    (hs : ∀ bs, bs ≠ [] → P (bs.drop n) (chunks n (bs.drop n)) → P bs (bs.take n :: chunks n (bs.drop n))) (bs : Bytes) :
    P bs (chunks n bs) := by
  induction hl : bs.length using Nat.strongRecOn generalizing bs with
  | _ l ih =>
    subst hl
    by_cases he : bs = []
    · subst he; exact h0
    · rw [chunks_cons n hn bs he]
      have hpos : 0 < bs.length := List.length_pos_iff.mpr he
      exact hs bs he (ih _ (by rw [List.length_drop]; omega) _ rfl)

theorem chunks_length (n : Nat) (hn : 0 < n) (bs : Bytes) : (chunks n bs).length = (bs.length + (n - 1)) / n := by
  refine chunks_induction n hn (P := fun bs cs => cs.length = (bs.length + (n - 1)) / n)
    (Nat.div_eq_of_lt (by simp; omega)).symm (fun bs he ih => ?_) bs
  have hpos : 0 < bs.length := List.length_pos_iff.mpr he
  rw [List.length_cons, ih, List.length_drop]
  by_cases hle : n ≤ bs.length
  · rw [show bs.length + (n - 1) = (bs.length - n + (n - 1)) + n by omega, Nat.add_div_right _ hn]
  · rw [show bs.length - n + (n - 1) = n - 1 by omega, Nat.div_eq_of_lt (by omega),
      show bs.length + (n - 1) = (bs.length - 1) + n by omega, Nat.add_div_right _ hn, Nat.div_eq_of_lt (by omega)]

theorem wordsBE32_length (bs : Bytes) : (wordsBE32 bs).length = (bs.length + 3) / 4 := by
  rw [wordsBE32, List.length_map, chunks_length 4 (by decide)]
theorem wordsLE32_length (bs : Bytes) : (wordsLE32 bs).length = (bs.length + 3) / 4 := by
  rw [wordsLE32, List.length_map, chunks_length 4 (by decide)]
theorem wordsBE64_length (bs : Bytes) : (wordsBE64 bs).length = (bs.length + 7) / 8 := by
  rw [wordsBE64, List.length_map, chunks_length 8 (by decide)]
theorem wordsLE64_length (bs : Bytes) : (wordsLE64 bs).length = (bs.length + 7) / 8 := by
  rw [wordsLE64, List.length_map, chunks_length 8 (by decide)]

theorem list8 {α : Type} (r : List α) (h : r.length = 8) :
    ∃ a0 a1 a2 a3 a4 a5 a6 a7, r = [a0, a1, a2, a3, a4, a5, a6, a7] := by
  rcases r with _ | ⟨a0, _ | ⟨a1, _ | ⟨a2, _ | ⟨a3, _ | ⟨a4, _ | ⟨a5, _ | ⟨a6, _ | ⟨a7, _ | ⟨a8, t⟩⟩⟩⟩⟩⟩⟩⟩⟩
  all_goals first
    | exact ⟨a0, a1, a2, a3, a4, a5, a6, a7, rfl⟩
    | (simp at h)
    | (simp at h; omega)

theorem vec8 {α : Type} (v : Vector α 8) : ∃ a0 a1 a2 a3 a4 a5 a6 a7, v = #v[a0, a1, a2, a3, a4, a5, a6, a7] := by
  obtain ⟨⟨l⟩, hl⟩ := v
  obtain ⟨a0, a1, a2, a3, a4, a5, a6, a7, rfl⟩ := list8 l (by simpa using hl)
  exact ⟨a0, a1, a2, a3, a4, a5, a6, a7, rfl⟩

theorem list25 {α : Type} (r : List α) (h : r.length = 25) :
    ∃ a0 a1 a2 a3 a4 a5 a6 a7 a8 a9 a10 a11 a12 a13 a14 a15 a16 a17 a18 a19 a20 a21 a22 a23 a24,
      r = [a0, a1, a2, a3, a4, a5, a6, a7, a8, a9, a10, a11, a12, a13, a14, a15, a16, a17, a18, a19, a20, a21, a22, a23, a24] := by
  rcases r with _ | ⟨a0, _ | ⟨a1, _ | ⟨a2, _ | ⟨a3, _ | ⟨a4, _ | ⟨a5, _ | ⟨a6, _ | ⟨a7, _ | ⟨a8,
    _ | ⟨a9, _ | ⟨a10, _ | ⟨a11, _ | ⟨a12, _ | ⟨a13, _ | ⟨a14, _ | ⟨a15, _ | ⟨a16, _ | ⟨a17,
    _ | ⟨a18, _ | ⟨a19, _ | ⟨a20, _ | ⟨a21, _ | ⟨a22, _ | ⟨a23, _ | ⟨a24, _ | ⟨a25, t⟩⟩⟩⟩⟩⟩⟩⟩⟩⟩⟩⟩⟩⟩⟩⟩⟩⟩⟩⟩⟩⟩⟩⟩⟩⟩
  all_goals first
    | exact ⟨a0, a1, a2, a3, a4, a5, a6, a7, a8, a9, a10, a11, a12, a13, a14, a15, a16, a17, a18, a19, a20, a21, a22, a23, a24, rfl⟩
    | (simp at h)
    | (simp at h; omega)

theorem exists8 {α : Type} (r : List α) (h : 8 ≤ r.length) :
    ∃ a0 a1 a2 a3 a4 a5 a6 a7 t, r = a0 :: a1 :: a2 :: a3 :: a4 :: a5 :: a6 :: a7 :: t := by
  rcases r with _ | ⟨a0, _ | ⟨a1, _ | ⟨a2, _ | ⟨a3, _ | ⟨a4, _ | ⟨a5, _ | ⟨a6, _ | ⟨a7, t⟩⟩⟩⟩⟩⟩⟩⟩
  all_goals first
    | exact ⟨a0, a1, a2, a3, a4, a5, a6, a7, t, rfl⟩
    | (simp at h; omega)
    | (simp at h)

theorem mapM_some_map {α β γ : Type} (l : List α) (p : α → β) (f : β → Option γ) (g : α → γ)
    (h : ∀ x ∈ l, f (p x) = some (g x)) : (l.map p).mapM f = some (l.map g) := by
  induction l with
  | nil => rfl
  | cons a l ih =>
    simp only [List.map_cons, List.mapM_cons, h a (by simp), ih (fun x hx => h x (by simp [hx]))]
    rfl

end Cx.Proofs.Bytes
