/-
  Proofs.ConstantTime — the bit-level facts under C18 (kernel-pure: no bv_decide, no native_decide).
  Every integer predicate of constant_time.rs is `(expr) >>> 63` on a `u64`: `bv_shr63` turns that into the top bit of
  `expr`, and the top bit is decided by a case split on the top bits of the operands (`bv_nz_msb`: `x | −x` has it set
  iff `x ≠ 0`; `bv_lt_msb`: the borrow formula has it set iff `a < b`); `nz_val`, `lt_val` lift this to `UInt64`.
  The masked selectors (`masked_sel64/32`, and `masked_swap` for lists of any element type) and the zero test of an
  OR-accumulator (`ct_zero_ofBool`) are what the array theorems of Props/C18.lean are instances of.
-/
import CxVerif.Impl.ConstantTime
namespace Cx.Proofs.CT
open Cx.Impl.CT

theorem bv_shr63 (x : BitVec 64) : x >>> 63 = if x.msb then 1#64 else 0#64 := by
  apply BitVec.eq_of_toNat_eq
  have h := x.isLt
  simp only [BitVec.toNat_ushiftRight, BitVec.msb_eq_decide]
  by_cases hm : 2^63 ≤ x.toNat
  · simp [hm]; omega
  · simp [hm]; omega

theorem bv_nz_msb (x : BitVec 64) : (x ||| (0 - x)).msb = decide (x ≠ 0) := by
  have h := x.isLt
  have e : x ≠ 0 ↔ x.toNat ≠ 0 := BitVec.toNat_ne
  simp only [BitVec.msb_or]
  simp only [BitVec.msb_eq_decide, BitVec.toNat_sub, e]
  by_cases a : x.toNat = 0
  · simp [a]
  · by_cases b : 2^63 ≤ x.toNat
    · simp [a, b]
    · simp [a, b]; omega

theorem bv_lt_msb (a b : BitVec 64) :
    (a ^^^ ((a ^^^ b) ||| ((a - b) ^^^ b))).msb = decide (a.toNat < b.toNat) := by
  have ha := a.isLt; have hb := b.isLt
  simp only [BitVec.msb_xor, BitVec.msb_or]
  simp only [BitVec.msb_eq_decide, BitVec.toNat_sub]
  -- equal top bits: the borrow of `a − b` decides; different top bits: `b`'s top bit decides
  by_cases x : 2^63 ≤ a.toNat <;> by_cases y : 2^63 ≤ b.toNat <;>
    simp only [x, y, decide_true, decide_false, Bool.xor_false, Bool.false_xor, Bool.true_xor, Bool.xor_true,
      Bool.true_or, Bool.false_or, Bool.not_not, Bool.not_false, Bool.xor_self]
  · exact decide_eq_decide.2 (by omega)
  · exact (decide_eq_false (by omega)).symm
  · exact (decide_eq_true (by omega)).symm
  · exact decide_eq_decide.2 (by omega)

theorem nz_val (x : UInt64) : (x ||| wneg x) >>> 63 = if x = 0 then 0 else 1 := by
  apply UInt64.eq_of_toBitVec_eq
  have h := bv_shr63 (x.toBitVec ||| (0 - x.toBitVec))
  have m := bv_nz_msb x.toBitVec
  by_cases hx : x = 0
  · subst hx; decide
  · have hx' : x.toBitVec ≠ 0 := fun h => hx (UInt64.eq_of_toBitVec_eq (by simpa using h))
    simp only [hx, if_false]
    simp only [wneg, UInt64.toBitVec_shiftRight, UInt64.toBitVec_or, UInt64.toBitVec_sub]
    rw [m] at h
    simp only [hx', ne_eq, not_false_eq_true, decide_true, if_true] at h
    simpa using h

theorem lt_val (a b : UInt64) :
    (a ^^^ ((a ^^^ b) ||| ((a - b) ^^^ b))) >>> 63 = if a < b then 1 else 0 := by
  apply UInt64.eq_of_toBitVec_eq
  have h := bv_shr63 (a.toBitVec ^^^ ((a.toBitVec ^^^ b.toBitVec) ||| ((a.toBitVec - b.toBitVec) ^^^ b.toBitVec)))
  rw [bv_lt_msb] at h
  have e : a < b ↔ a.toBitVec.toNat < b.toBitVec.toNat := by
    simp [UInt64.lt_iff_toNat_lt]
  simp only [UInt64.toBitVec_shiftRight, UInt64.toBitVec_xor, UInt64.toBitVec_or, UInt64.toBitVec_sub]
  by_cases hl : a < b
  · have hl' := e.mp hl
    simp only [hl, if_true]; simp only [hl', decide_true, if_true] at h
    simpa using h
  · have hl' : ¬ a.toBitVec.toNat < b.toBitVec.toNat := fun x => hl (e.mpr x)
    simp only [hl, if_false]; simp only [hl', decide_false] at h
    simpa using h

theorem toUInt64_eq_zero (x : UInt8) : x.toUInt64 = 0 ↔ x = 0 := by
  rw [show (0 : UInt64) = (0 : UInt8).toUInt64 from rfl]; exact UInt8.toUInt64_inj

/-- the right side is `Props.C18.Choice.ofBool (decide P)` unfolded -/
theorem ct_zero_ofBool (x : UInt64) (P : Prop) [Decidable P] (h : x = 0 ↔ P) :
    u64_ct_zero x = ⟨if decide P then 1 else 0⟩ := by
  unfold u64_ct_zero; rw [nz_val]
  by_cases hp : P
  · simp [hp, h.2 hp]
  · simp [hp, mt h.1 hp]

theorem masked_sel64 (x y : UInt64) (c : Bool) :
    x ^^^ ((x ^^^ y) &&& maskOf ⟨if c then 1 else 0⟩) = if c then y else x := by
  cases c
  · simp [show maskOf ⟨0⟩ = 0 by decide]
  · rw [show maskOf ⟨if true then 1 else 0⟩ = -1 by decide, UInt64.and_neg_one, ← UInt64.xor_assoc, UInt64.xor_self,
      UInt64.zero_xor]; rfl

theorem masked_sel32 (x y : UInt32) (c : Bool) :
    x ^^^ ((x ^^^ y) &&& maskOf32 ⟨if c then 1 else 0⟩) = if c then y else x := by
  cases c
  · simp [show maskOf32 ⟨0⟩ = 0 by decide]
  · rw [show maskOf32 ⟨if true then 1 else 0⟩ = -1 by decide, UInt32.and_neg_one, ← UInt32.xor_assoc, UInt32.xor_self,
      UInt32.zero_xor]; rfl

theorem masked_swap {α} (op t : α → α → α) (c : Bool) (hx : ∀ x y, op x (t x y) = if c then y else x)
    (hy : ∀ x y, op y (t x y) = if c then x else y) (a b : List α) (hl : a.length = b.length) :
    (List.zipWith op a (List.zipWith t a b), List.zipWith op b (List.zipWith t a b)) = if c then (b, a) else (a, b) := by
  induction a generalizing b with
  | nil => cases b <;> cases c <;> simp_all
  | cons x xs ih => cases b with
    | nil => simp at hl
    | cons y ys =>
      have := ih ys (by simpa using hl)
      cases c <;> simp_all

end Cx.Proofs.CT
