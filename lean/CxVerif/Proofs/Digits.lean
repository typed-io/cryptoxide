/-
  Proofs.Digits — the value `Spec.ScalarL.evalDigits b` of a digit list, any base: concatenation, prefixes, zero tails.
-/
import CxVerif.Spec.ScalarL
import Mathlib.Tactic.Ring
namespace Cx.Proofs.Digits
open Cx.Spec.ScalarL (evalDigits)

theorem evalDigits_append (b : Nat) (l₁ l₂ : List Int) :
    evalDigits b (l₁ ++ l₂) = evalDigits b l₁ + (b : Int) ^ l₁.length * evalDigits b l₂ := by
  induction l₁ with
  | nil => simp [evalDigits]
  | cons x xs ih => simp only [List.cons_append, evalDigits, ih, List.length_cons, pow_succ]; ring

theorem evalDigits_zeros (b : Nat) (l : List Int) (h : ∀ d ∈ l, d = 0) : evalDigits b l = 0 := by
  induction l with
  | nil => rfl
  | cons d ds ih =>
    rw [evalDigits, h d List.mem_cons_self, ih fun e he => h e (List.mem_cons_of_mem _ he)]; simp

theorem evalDigits_take_succ (b : Nat) (l : List Int) (n : Nat) (d : Int) (h : l[n]? = some d) :
    evalDigits b (l.take (n + 1)) = evalDigits b (l.take n) + (b : Int) ^ n * d := by
  obtain ⟨hn, rfl⟩ := List.getElem?_eq_some_iff.mp h
  rw [List.take_succ_eq_append_getElem hn, evalDigits_append, List.length_take_of_le (Nat.le_of_lt hn)]
  simp [evalDigits]

theorem evalDigits_take_top (b : Nat) (l : List Int) (n : Nat) (h : ∀ j, n ≤ j → j < l.length → l[j]? = some 0) :
    evalDigits b (l.take n) = evalDigits b l := by
  have hz : ∀ d ∈ l.drop n, d = 0 := by
    intro d hd
    obtain ⟨j, hj, rfl⟩ := List.getElem_of_mem hd
    have hj' : n + j < l.length := by simp at hj; omega
    have := h (n + j) (by omega) hj'
    rw [List.getElem?_eq_getElem hj'] at this
    simp only [List.getElem_drop]
    exact Option.some.inj this
  conv_rhs => rw [← List.take_append_drop n l, evalDigits_append, evalDigits_zeros b _ hz, mul_zero, add_zero]

end Cx.Proofs.Digits
