/-
  Proofs.Ed25519Exchange — `ed25519::exchange` = X25519 of the pruned hashed secret with the public key's
  Edwards y mapped to the Montgomery u = (1+y)/(1−y), over the field contract and any `curve25519` that is RFC 7748 X25519.
  Unconditional (no primality, no group law): every step is a field operator spec or SHA-512 split independence.  Then the
  64-bit text equation (the X25519 fact of this backend, the C12 theorem, is supplied where it is used: Props/C13/Ed25519.lean).
-/
import CxVerif.Proofs.Ed25519Sign
namespace Cx.Proofs.Ed25519G
open Cx.Spec Cx.Proofs.GeG Cx.Proofs.Ed25519Sign
open Cx.Impl.Ed25519 (extended_secret extended_scalar_bytes)

variable {O : Sig}

theorem edwards_to_montgomery_x_ok (S : Contract O) (y : O.Fe) (hy : S.R 1 y) :
    ∃ m, edwards_to_montgomery_x O y = some m ∧ S.R 1 m ∧ S.eval m = Spec.Ed25519.edwardsToMontgomeryU (S.eval y) := by
  unfold edwards_to_montgomery_x
  dsimp only
  refine bind_ok (S.add_spec O.ONE y S.ONE_spec.1 hy (by decide)) fun a ⟨ta, va⟩ => ?_
  refine bind_ok (S.sub_spec O.ONE y S.ONE_spec.1 hy (by decide)) fun b ⟨tb, vb⟩ => ?_
  refine bind_ok (S.invert_spec b (cw tb)) fun c ⟨tc, vc⟩ => ?_
  obtain ⟨d, e, td, vd⟩ := S.mul_spec a c (cw ta) (w3 tc)
  refine ⟨d, e, td, ?_⟩
  rw [vd, va, vc, vb, S.ONE_spec.2]
  rfl

/-- `exchange(pk, seed)` for EVERY 32-byte `pk` (any y, also non-canonical, y = 1 where 1/(1−y) is taken as 0) and every
    32-byte seed -/
theorem exchange_eq (S : Contract O) {E : SigEd O}
    (hX : ∀ (n u : Bytes) (hn : n.length = 32) (hu : u.length = 32), E.curve25519 n u hn hu = some (X25519.x25519 n u))
    (pk seed : Bytes) (hpk : pk.length = 32) (hs : seed.length = 32) :
    exchange O E pk seed = some (Spec.Ed25519.exchange pk seed) := by
  obtain ⟨y, ey, ty, vy⟩ := S.from_bytes_spec pk hpk
  obtain ⟨m, em, tm, vm⟩ := edwards_to_montgomery_x_ok S y ty
  unfold exchange feFromBytes
  rw [dif_pos hpk, ey, some_bind, em, some_bind, extended_secret_eq seed hs, some_bind]
  have hn : extended_scalar_bytes (Spec.Ed25519.expandSeed seed)
      = some (Spec.Ed25519.clamp ((Spec.Ed25519.H seed).take 32)) := by
    unfold extended_scalar_bytes; rw [if_pos (expandSeed_length seed), expandSeed_take]
  rw [hn, some_bind, S.to_bytes_spec m (w6 tm), some_bind]
  rw [dif_pos ⟨clampH_length seed, Proofs.Bytes.natToLE_length _ _⟩, hX, vm, vy]
  rfl

end Cx.Proofs.Ed25519G

namespace Cx.Proofs.Ed25519Exchange
open Cx.Impl.Ed25519 Cx.Proofs.GeRefine Cx.Proofs.Ed25519Sign

/-- to be rewritten before anything is compared with the ladder: the unifier unfolds the ladder before the projection -/
theorem curve25519_field : sigEd64.curve25519 = Impl.X25519.curve25519 := by unfold sigEd64; with_reducible rfl

theorem exchange_text : exchange = Ed25519G.exchange sig64 sigEd64 := by
  unfold exchange Ed25519G.exchange Impl.Fe64.fromBytes Ed25519G.feFromBytes; rw [from_bytes_field_eq, curve25519_field]; rfl

end Cx.Proofs.Ed25519Exchange
