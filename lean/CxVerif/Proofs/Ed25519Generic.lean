/-
  Proofs.Ed25519Generic — /repo/src/ed25519.rs ONCE.  ed25519.rs is backend-generic Rust; Impl/Ed25519.lean and
  Impl/Ed25519_32.lean are its text over the two field/scalar backends.  Here the functions that mention `Fe`, `Scalar` or `Ge`
  are written once (same statement order; the rest is reused from Impl/Ed25519.lean, as Impl/Ed25519_32.lean does) over the
  signature `O : GeG.Sig` of Proofs/GeGeneric.lean and `E : SigEd O`: what ed25519.rs uses beyond ge.rs — the byte-level scalar
  operations and the X25519 function.  Both models are this text at an instance, function by function, by unfolding.

  `ScalarSpec` is the contract of a scalar backend: an invariant and a value, and what each operation does to them
  (scalar64: the limb invariant and `Scalar.val`; scalar32: no invariant, the 32 bytes little-endian).
-/
import CxVerif.Proofs.GeComb
import CxVerif.Impl.Ed25519
import CxVerif.Spec.ScalarL
namespace Cx.Proofs.Ed25519G
open Cx Cx.Impl Cx.Proofs.GeG
open Cx.Impl.Ed25519 (sha512_2 sha512_3 extended_secret keypair_private keypair_public extended_scalar_bytes)
open Cx.Spec.ScalarL (L)

/-- what ed25519.rs uses of the scalar unit beyond `nibbles`/`slide` (on byte strings: a wrong length is `none`), and
    `curve25519` of x25519.rs.  A structure over `O`, not an extension of `Sig`: the text then calls `GeG.X O` with the very `O`
    the instance facts of Proofs/GeRefine.lean and Proofs/Ge32Refine.lean speak of -/
structure SigEd (O : Sig) where
  fromBytes : Bytes → Option O.Scalar
  fromBytesCanonical : Bytes → Option (Option O.Scalar)
  reduceWide : Bytes → Option O.Scalar
  muladd : O.Scalar → O.Scalar → O.Scalar → Option O.Scalar
  to_bytes : O.Scalar → Bytes
  curve25519 : (n u : Bytes) → n.length = 32 → u.length = 32 → Option Bytes

variable (O : Sig) (E : SigEd O)

def extended_scalar (extended_secret : Bytes) : Option O.Scalar :=
  if extended_secret.length = 64 then E.fromBytes (extended_secret.take 32) else none

def extended_to_public (extended_secret : Bytes) : Option Bytes := do
  let a ← Ge.scalarmult_base O (← extended_scalar O E extended_secret)
  Ge.to_bytes O a

def keypair (secret_key : Bytes) : Option (Bytes × Bytes) := do
  let extended_secret ← extended_secret secret_key
  let public_key ← extended_to_public O E extended_secret
  let output := secret_key ++ extended_secret.drop 32
  let output := output.take 32 ++ public_key
  pure (output, public_key)

def signature_nonce (extended_secret message : Bytes) : Option O.Scalar :=
  if extended_secret.length = 64 then do
    let hash_output ← sha512_2 (extended_secret.drop 32) message
    E.reduceWide hash_output
  else none

def signature_tail (message public_key az : Bytes) (nonce : O.Scalar) : Option Bytes := do
  let r ← Ge.scalarmult_base O nonce
  let rb ← Ge.to_bytes O r
  let signature := rb ++ public_key
  let hram ← sha512_2 signature message
  let hram ← E.reduceWide hram
  let s ← E.muladd hram (← extended_scalar O E az) nonce
  pure (signature.take 32 ++ E.to_bytes s)

def signature (message keypair : Bytes) : Option Bytes := do
  let private_key ← keypair_private keypair
  let public_key ← keypair_public keypair
  let az ← extended_secret private_key
  let nonce ← signature_nonce O E az message
  signature_tail O E message public_key az nonce

def signature_extended (message extended_secret : Bytes) : Option Bytes := do
  let public_key ← extended_to_public O E extended_secret
  let nonce ← signature_nonce O E extended_secret message
  signature_tail O E message public_key extended_secret nonce

def verify (message public_key signature : Bytes) : Option Bool :=
  if public_key.length = 32 ∧ signature.length = 64 then do
    let signature_left := signature.take 32
    let signature_right := signature.drop 32
    match ← Ge.from_bytes O public_key with
    | none => pure false
    | some g =>
      let a ← Ge.negate O g
      match ← E.fromBytesCanonical signature_right with
      | none => pure false
      | some signature_scalar =>
        let d : UInt8 := public_key.foldl (· ||| ·) 0
        if d == 0 then pure false
        else
          let hash ← sha512_3 signature_left public_key message
          let a_scalar ← E.reduceWide hash
          let r ← Part.double_scalarmult_vartime O a_scalar a signature_scalar
          let rcheck ← Part.to_bytes O r
          pure (CT.array_u8_ct_eq rcheck signature_left).isTrue
  else none

def edwards_to_montgomery_x (ed_y : O.Fe) : Option O.Fe := do
  let ed_z := O.ONE
  let temp_x ← O.add ed_z ed_y
  let temp_z ← O.sub ed_z ed_y
  let temp_z_inv ← O.invert temp_z
  O.mul temp_x temp_z_inv

/-- `Fe::from_bytes` on a byte string (`fromBytes` of Impl/Fe64.lean and Impl/Fe32.lean) -/
def feFromBytes (b : Bytes) : Option O.Fe := if h : b.length = 32 then O.from_bytes b h else none

def exchange (public_key private_key : Bytes) : Option Bytes := do
  let ed_y ← feFromBytes O public_key
  let mont_x ← edwards_to_montgomery_x O ed_y
  let extended_secret ← extended_secret private_key
  let n ← extended_scalar_bytes extended_secret
  let u ← O.to_bytes mont_x
  if h : n.length = 32 ∧ u.length = 32 then E.curve25519 n u h.1 h.2 else none

variable {O} in
/-- `muladd_bytes` is `muladd` followed by `to_bytes`, the only use ed25519.rs makes of
    either.  The other scalar operations have their contracts where they are used: `fromBytesCanonical` as hypothesis `hcan` of
    `Ed25519G.verify_eq`, `slide` as `GeG.SlideOk` (Proofs/GeDsm.lean), `curve25519` in Proofs/Ed25519Exchange.lean -/
structure ScalarSpec (E : SigEd O) (Inv : O.Scalar → Prop) (val : O.Scalar → Nat) : Prop where
  fromBytes : ∀ b : Bytes, b.length = 32 → ∃ s, E.fromBytes b = some s ∧ Inv s ∧ val s = leNat b
  reduceWide : ∀ h : Bytes, h.length = 64 → ∃ s, E.reduceWide h = some s ∧ Inv s ∧ val s = leNat h % L
  muladd_bytes : ∀ a b c : O.Scalar, Inv a → Inv b → Inv c → val c < L →
    ∃ o, E.muladd a b c = some o ∧ E.to_bytes o = natToLE 32 ((val a * val b + val c) % L)
  nibbles : ∀ s : O.Scalar, Inv s → val s < 2 ^ 255 → NibblesOk (O.nibbles s) (val s)

end Cx.Proofs.Ed25519G
