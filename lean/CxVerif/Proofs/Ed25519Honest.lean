/-
  Proofs.Ed25519Honest — the Spec predicate of Ed25519 verification (RFC 8032 §5.1.7, Spec/Ed25519.lean) ACCEPTS every
  signature produced by the Spec signer (§5.1.6) under the matching public key, and determines S uniquely.

  Ingredients, all theorems of this development (nothing assumed):
    * the group of curve points (Proofs/EdwardsGroupLaw.lean), primality of p and of L (Proofs/Prime25519.lean);
    * `[L]B = O` (kernel evaluation, Props/C14/Ed25519.lean) — with L prime and B ≠ O the order of B is exactly L, hence
      `[n mod L]B = [n]B` and `[m]B = [n]B → m = n` for m, n < L;
    * the public key decodes to the point it encodes (Proofs/EdRoundTrip.lean);
    * no multiple of B is encoded by the all-zero string: 0^32 decodes to a point Z with [4]Z = O, Z ≠ O, and a
      multiple of B killed by 4 and by L is O.
  Then `[S]B − [k]([a]B) = [r]B` for `S = (r + k·a) mod L` is group algebra.
-/
import CxVerif.Proofs.EdRoundTrip
import CxVerif.Proofs.EdwardsGroupLaw
import CxVerif.Proofs.Prime25519Inst
import CxVerif.Props.C14.Ed25519
namespace Cx.Proofs.Ed25519Honest
open Cx.Spec Cx.Proofs.EdSpec Cx.Proofs.GeComb
open Cx.Proofs.EdGroup (edwardsGroupLaw)
open Cx.Spec.Edwards (smul zero B encode decode)
open Cx.Spec.ScalarL (L)

/-- the group law, as the class the group instance on `CurvePoint` is keyed on (local: a theorem, not a hypothesis) -/
theorem groupLawFact : GroupLawFact := ⟨edwardsGroupLaw⟩
attribute [local instance] groupLawFact

theorem L_nsmul_Bc : L • Bc = 0 :=
  Subtype.ext (by rw [cval_nsmul]; exact Cx.Props.C14.L_times_B_is_zero)

theorem Bc_ne_zero : Bc ≠ 0 := by
  intro h
  have h1 : Edwards.Bx = 0 := congrArg (fun P : CurvePoint => P.1.x) h
  exact absurd h1 (by decide)

theorem addOrderOf_Bc : addOrderOf Bc = L := addOrderOf_eq_prime L_nsmul_Bc Bc_ne_zero

theorem nsmul_mod_L (n : Nat) : (n % L) • Bc = n • Bc := by
  have := mod_addOrderOf_nsmul Bc n
  rwa [addOrderOf_Bc] at this

theorem nsmul_Bc_inj {m n : Nat} (hm : m < L) (hn : n < L) (h : m • Bc = n • Bc) : m = n := by
  have h1 := nsmul_eq_nsmul_iff_modEq.1 h
  rw [addOrderOf_Bc] at h1
  unfold Nat.ModEq at h1
  rwa [Nat.mod_eq_of_lt hm, Nat.mod_eq_of_lt hn] at h1

theorem smulB_val (n : Nat) : smul n B = (n • Bc).1 := by rw [cval_nsmul]; rfl

theorem smul_mod_L (n : Nat) : smul (n % L) B = smul n B := by
  rw [smulB_val, smulB_val, nsmul_mod_L]

theorem smulB_inj {m n : Nat} (hm : m < L) (hn : n < L) (h : smul m B = smul n B) : m = n := by
  rw [smulB_val, smulB_val] at h
  exact nsmul_Bc_inj hm hn (Subtype.ext h)

theorem smulB_onCurve (n : Nat) : OnCurve (smul n B) := smul_onCurve edwardsGroupLaw _ _ Proofs.Ge.B_spec.1

theorem sub_smulB (s : Nat) (Q : CurvePoint) : Edwards.sub (smul s B) Q.1 = (s • Bc + -Q).1 := by
  unfold Edwards.sub; rw [smulB_val, cval_add, cval_neg]

theorem sign_equation (r k a : Nat) :
    Edwards.sub (smul ((r + k * a) % L) B) (smul k (smul a B)) = smul r B := by
  have e : ((r + k * a) % L) • Bc + -(k • (a • Bc)) = r • Bc := by
    rw [nsmul_mod_L, add_nsmul, mul_nsmul']; abel
  have h2 : smul k (smul a B) = (k • (a • Bc)).1 := by rw [cval_nsmul, cval_nsmul]; rfl
  rw [h2, sub_smulB, e, smulB_val]

theorem zeros_decode_fact :
    (decode (zeros 32)).all (fun Z => smul 4 Z == zero && Z != zero) = true := by decide +kernel

theorem gcd_4_L : Nat.gcd 4 L = 1 := by decide

theorem encode_smulB_ne_zeros (a : Nat) : encode (smul a B) ≠ zeros 32 := by
  intro h
  have hd := EdRoundTrip.decode_encode _ (smulB_onCurve a)
  rw [h] at hd
  have hz := zeros_decode_fact
  rw [hd] at hz
  simp only [Option.all_some, Bool.and_eq_true, beq_iff_eq, bne_iff_ne] at hz
  obtain ⟨h4, hne⟩ := hz
  have g4 : 4 • (a • Bc) = 0 := Subtype.ext (by rw [cval_nsmul, cval_nsmul]; exact h4)
  have gL : L • (a • Bc) = 0 := by rw [← mul_nsmul', Nat.mul_comm, mul_nsmul', L_nsmul_Bc, smul_zero]
  have hdvd := Nat.dvd_gcd (addOrderOf_dvd_of_nsmul_eq_zero g4) (addOrderOf_dvd_of_nsmul_eq_zero gL)
  rw [gcd_4_L, Nat.dvd_one, AddMonoid.addOrderOf_eq_one_iff] at hdvd
  apply hne
  rw [smulB_val, hdvd]; rfl

theorem signWith_eq (a : Nat) (pre A M : Bytes) :
    Spec.Ed25519.signWith a pre A M =
      encode (smul (leNat (Spec.Ed25519.H (pre ++ M)) % Spec.Ed25519.L) B) ++
        natToLE 32 ((leNat (Spec.Ed25519.H (pre ++ M)) % Spec.Ed25519.L +
          leNat (Spec.Ed25519.H (encode (smul (leNat (Spec.Ed25519.H (pre ++ M)) % Spec.Ed25519.L) B) ++ A ++ M))
            % Spec.Ed25519.L * a) % Spec.Ed25519.L) := rfl

theorem L_lt : L < 256 ^ 32 := by decide

theorem signWith_length (a : Nat) (pre A M : Bytes) : (Spec.Ed25519.signWith a pre A M).length = 64 := by
  rw [signWith_eq, List.length_append, Ed25519Sign.encode_length, Proofs.Bytes.natToLE_length]

theorem verify_signWith (a : Nat) (pre M : Bytes) :
    Spec.Ed25519.verify M (encode (smul a B)) (Spec.Ed25519.signWith a pre (encode (smul a B)) M) = true := by
  unfold Spec.Ed25519.verify
  refine (Props.C14.verifyWith_iff ..).2 ⟨smul a B, EdRoundTrip.decode_encode _ (smulB_onCurve a), signWith_length _ _ _ _,
    ?_, ?_, ?_⟩
  · -- S < L
    rw [signWith_eq, List.drop_left' (Ed25519Sign.encode_length _), Proofs.Bytes.leNat_natToLE]
    exact Nat.lt_of_le_of_lt (Nat.mod_le _ _) (Nat.mod_lt _ Proofs.ScalarL.L_pos)
  · exact encode_smulB_ne_zeros a
  · rw [signWith_eq, List.drop_left' (Ed25519Sign.encode_length _), List.take_left' (Ed25519Sign.encode_length _),
      Proofs.Bytes.leNat_natToLE]
    unfold Spec.Ed25519.L
    rw [Nat.mod_eq_of_lt (Nat.lt_trans (Nat.mod_lt _ Proofs.ScalarL.L_pos) L_lt), sign_equation]

theorem verify_signExtended (ext M : Bytes) :
    Spec.Ed25519.verify M (Spec.Ed25519.extendedToPublic ext) (Spec.Ed25519.signExtended ext M) = true :=
  verify_signWith (leNat (ext.take 32)) (ext.drop 32) M

theorem verify_S_unique (M A R S S' : Bytes) (hR : R.length = 32) (hS : S.length = 32) (hS' : S'.length = 32)
    (h : Spec.Ed25519.verify M A (R ++ S) = true) (h' : Spec.Ed25519.verify M A (R ++ S') = true) : S = S' := by
  obtain ⟨P, hd, _, hlt, _, heq⟩ := (Props.C14.verifyWith_iff ..).1 h
  obtain ⟨P', hd', _, hlt', _, heq'⟩ := (Props.C14.verifyWith_iff ..).1 h'
  rw [hd] at hd'
  have : P = P' := Option.some.inj hd'
  subst this
  have hP : OnCurve P := GeDecode.decode_onCurve A P hd
  rw [List.drop_left' hR] at hlt hlt' heq heq'
  rw [List.take_left' hR] at heq heq'
  generalize leNat (Spec.Ed25519.H (R ++ A ++ M)) % Spec.Ed25519.L = k at heq heq'
  have hkP : OnCurve (smul k P) := smul_onCurve edwardsGroupLaw _ _ hP
  have hc : ∀ s, OnCurve (Edwards.sub (smul s B) (smul k P)) := fun s =>
    edwardsGroupLaw.closed _ _ (smulB_onCurve s) (neg_onCurve _ hkP)
  have hpt := EdRoundTrip.encode_injective_on_curve _ _ (hc _) (hc _) (heq.trans heq'.symm)
  rw [sub_smulB _ ⟨smul k P, hkP⟩, sub_smulB _ ⟨smul k P, hkP⟩] at hpt
  have hg : leNat S • Bc = leNat S' • Bc := add_right_cancel (Subtype.ext hpt)
  have hv : leNat S = leNat S' := nsmul_Bc_inj hlt hlt' hg
  have r1 := Proofs.Bytes.natToLE_leNat S
  have r2 := Proofs.Bytes.natToLE_leNat S'
  rw [hS] at r1; rw [hS'] at r2
  rw [← r1, ← r2, hv]

end Cx.Proofs.Ed25519Honest
