/-
  Proofs.Ed25519Inst — the interfaces of the 64-bit Ed25519 theorems are THEOREMS: the scalar-unit interfaces `ScalarFacts` and
  `CanonicalFact` from unit scalar64's Proofs/Scalar64{Bytes,Digits,Mul}.lean, the group-layer interfaces `DecodeFact` and `DsmFact`
  from the 64-bit instances in Proofs/GeDecode.lean and Proofs/GeDsm.lean.
-/
import CxVerif.Proofs.Ed25519Verify
import CxVerif.Proofs.GeDecode
import CxVerif.Proofs.GeDsm
import CxVerif.Proofs.Scalar64Digits
import CxVerif.Proofs.Scalar64Mul
namespace Cx.Proofs.Ed25519Inst
open Cx Cx.Spec Cx.Impl.Scalar64 Cx.Proofs.Ed25519Sign Cx.Proofs.Ed25519Verify Cx.Proofs.GeComb
open Cx.Spec.ScalarL (L evalDigits)

theorem toArr_some (n : Nat) (b : Bytes) (h : b.length = n) :
    ∃ v : Vector UInt8 n, toArr n b = some v ∧ v.toList = b := by
  unfold toArr
  rw [dif_pos h]
  exact ⟨_, rfl, by simp [Vector.toList]⟩

theorem scalarFacts : ScalarFacts where
  fromBytes := by
    intro b hb
    obtain ⟨v, hv, hl⟩ := toArr_some 32 b hb
    refine ⟨from_bytes v, ?_, (Proofs.Scalar64.from_bytes_spec v).2, ?_⟩
    · unfold fromBytes; rw [hv]; rfl
    · rw [(Proofs.Scalar64.from_bytes_spec v).1, hl]
  reduceWide := by
    intro h hh
    obtain ⟨v, hv, hl⟩ := toArr_some 64 h hh
    obtain ⟨o, e, ov, oi⟩ := Proofs.Scalar64.reduce_from_wide_bytes_spec v
    refine ⟨o, ?_, oi, ?_⟩
    · unfold reduceFromWideBytes; rw [hv]; exact e
    · rw [ov, hl]
  muladd := fun a b c ha hb hc hcL => Proofs.Scalar64.muladd_spec a b c ha hb hc hcL
  toBytes := fun s hs => Proofs.Scalar64.to_bytes_spec s hs
  nibbles := by
    intro s hs ha
    have hn := Proofs.Scalar64.nibbles_eq_radix16 s hs
    unfold Spec.ScalarL.radix16 at hn
    unfold NibblesOf
    rw [hn]
    exact Proofs.ScalarL.radix16_nibbles s.val ha

theorem canonicalFact : CanonicalFact := by
  intro b hb
  obtain ⟨v, hv, hl⟩ := toArr_some 32 b hb
  refine ⟨from_bytes v, (Proofs.Scalar64.from_bytes_spec v).2, ?_, ?_⟩
  · rw [(Proofs.Scalar64.from_bytes_spec v).1, hl]
  · unfold fromBytesCanonical; rw [hv, Option.bind_some, Proofs.Scalar64.from_bytes_canonical_spec v, hl]

end Cx.Proofs.Ed25519Inst

namespace Cx.Proofs.GeDecode
open Cx Cx.Spec Cx.Proofs.Ed25519Verify
open Cx.Spec.Field25519 (p)

variable [hp : Fact (Nat.Prime p)]

theorem decodeFact : DecodeFact := fun s h => by
  rcases from_bytes_cases s h with ⟨hd, e⟩ | ⟨P, g, hd, hP, e, ok⟩ <;> rw [hd]
  exacts [e, ⟨hP, g, e, ok⟩]

end Cx.Proofs.GeDecode

namespace Cx.Proofs.GeDsm
open Cx Cx.Spec Cx.Proofs.EdSpec Cx.Proofs.GeComb Cx.Proofs.Ed25519Verify
open Cx.Spec.Field25519 (p)

theorem dsmFact [Fact (Nat.Prime p)] (G : EdwardsGroupLaw) : DsmFact := by
  have : GroupLawFact := ⟨G⟩
  exact dsm_ok

end Cx.Proofs.GeDsm
