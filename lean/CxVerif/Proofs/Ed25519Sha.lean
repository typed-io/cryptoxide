/-
  Proofs.Ed25519Sha — the three SHA-512 call shapes of ed25519.rs (`new().update(a)[.update(b)[.update(c)]].finalize()`)
  equal `Spec.Sha2.sha512` of the concatenation: each call is one step of the refinement `sha512_refines` of C02 (unit sha2).
-/
import CxVerif.Impl.Ed25519
import CxVerif.Props.C02.Sha2
namespace Cx.Proofs.Ed25519Sha
open Cx.Impl.Ed25519 Cx.Props.C02.Sha2

theorem sha512_3_eq (a b c : Bytes) (h : (a ++ b ++ c).length < 2 ^ 125) :
    sha512_3 a b c = some (Spec.Sha2.sha512 (a ++ b ++ c)) := by
  obtain ⟨x, e1, r1⟩ := sha512_refines.update _ _ a sha512_refines.new
  obtain ⟨y, e2, r2⟩ := sha512_refines.update _ _ b r1
  obtain ⟨z, e3, r3⟩ := sha512_refines.update _ _ c r2
  exact (congrArg (· >>= _) e1).trans <| (congrArg (· >>= _) e2).trans <| (congrArg (· >>= _) e3).trans <|
    sha512_refines.finalize _ _ r3 h

theorem sha512_2_eq (a b : Bytes) (h : (a ++ b).length < 2 ^ 125) :
    sha512_2 a b = some (Spec.Sha2.sha512 (a ++ b)) := by
  obtain ⟨x, e1, r1⟩ := sha512_refines.update _ _ a sha512_refines.new
  obtain ⟨y, e2, r2⟩ := sha512_refines.update _ _ b r1
  exact (congrArg (· >>= _) e1).trans <| (congrArg (· >>= _) e2).trans <| sha512_refines.finalize _ _ r2 h

theorem sha512_1_eq (a : Bytes) (h : a.length < 2 ^ 125) : sha512_1 a = some (Spec.Sha2.sha512 a) := by
  obtain ⟨x, e1, r1⟩ := sha512_refines.update _ _ a sha512_refines.new
  exact (congrArg (· >>= _) e1).trans <| sha512_refines.finalize _ _ r1 h
end Cx.Proofs.Ed25519Sha
