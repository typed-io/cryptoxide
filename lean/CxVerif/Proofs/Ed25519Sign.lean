/-
  Proofs.Ed25519Sign — key generation and signing of ed25519.rs equal RFC 8032 §5.1.5/§5.1.6 (Spec/Ed25519.lean):
  composition of SHA-512 (C02 split independence), clamping, `Scalar::from_bytes`, `reduce_from_wide_bytes`, `muladd`,
  `to_bytes`, `scalarmult_base` and `Ge::to_bytes`.  Three parts: the backend-free byte lemmas (clamping, the expanded
  seed); the theorems about the text of Proofs/Ed25519Generic.lean over the field contract `GeG.Contract`, a base table and the
  scalar contract `ScalarSpec` (group law through `GroupLawFact`, primality through `[Fact (Nat.Prime p)]`); the 64-bit
  backend as an instance: Impl/Ed25519.lean is that text at `sigEd64`, and the interface `ScalarFacts` gives the scalar
  contract.  Props/C13 reads the second part through the third.
-/
import CxVerif.Proofs.GeComb
import CxVerif.Proofs.GeBytes
import CxVerif.Proofs.Ed25519Sha
import CxVerif.Spec.Ed25519
import CxVerif.Proofs.ByteLemmas
import CxVerif.Proofs.Ed25519Generic
import CxVerif.Proofs.ScalarL
namespace Cx.Proofs.Ed25519Sign
open Cx Cx.Spec Cx.Impl.Ge Cx.Impl.Ed25519 Cx.Proofs.EdSpec Cx.Proofs.GeRefine Cx.Proofs.GeComb Cx.Proofs.Ed25519Sha
open Cx.Impl.Scalar64 (Scalar)
open Cx.Spec.Field25519 (p)
open Cx.Spec.ScalarL (L)

/-- `SInv` repeats `Scalar64.Inv` in the model's own terms because it stands in statements of Props/C14 (`DsmFact`, C14/Final, C14/VerifyFull).
    `ScalarFacts` is the scalar unit's side of `ScalarSpec sigEd64` in the shapes of its `*_spec` theorems: `scalarSpec` below turns it into
    the contract, Proofs/Ed25519Inst.lean proves it (`scalarFacts`), and Props/C13, C14 plug that theorem in -/
def SInv (s : Scalar) : Prop := s.l0 < 2^56 ∧ s.l1 < 2^56 ∧ s.l2 < 2^56 ∧ s.l3 < 2^56 ∧ s.l4 < 2^32

structure ScalarFacts : Prop where
  fromBytes : ∀ b : Bytes, b.length = 32 → ∃ s, Impl.Scalar64.fromBytes b = some s ∧ SInv s ∧ s.val = leNat b
  reduceWide : ∀ h : Bytes, h.length = 64 →
    ∃ s, Impl.Scalar64.reduceFromWideBytes h = some s ∧ SInv s ∧ s.val = leNat h % L
  muladd : ∀ a b c : Scalar, SInv a → SInv b → SInv c → c.val < L →
    ∃ o, Impl.Scalar64.muladd a b c = some o ∧ o.val = (a.val * b.val + c.val) % L ∧ SInv o
  toBytes : ∀ s : Scalar, SInv s → Impl.Scalar64.to_bytes s = natToLE 32 s.val
  nibbles : ∀ s : Scalar, SInv s → s.val < 2^255 → NibblesOf s s.val

/-- bit by bit: `127 = 63 ||| 64`, and bit 6 is set on both sides -/
theorem clamp_byte31 : (fun x : UInt8 => (x &&& 0b00111111) ||| 0b01000000) = (fun x : UInt8 => (x &&& 127) ||| 64) := by
  funext x
  refine UInt8.toNat_inj.1 (Nat.eq_of_testBit_eq fun i => ?_)
  simp only [UInt8.toNat_or, UInt8.toNat_and, Nat.testBit_or, Nat.testBit_and]
  rw [show (127 : UInt8).toNat = (0b00111111 : UInt8).toNat ||| (64 : UInt8).toNat from rfl, Nat.testBit_or]
  cases x.toNat.testBit i <;> cases (0b00111111 : UInt8).toNat.testBit i <;> cases (64 : UInt8).toNat.testBit i <;> rfl

theorem clamp_scalar_eq (h : Bytes) (hl : h.length = 64) :
    clamp_scalar h = some (Spec.Ed25519.clamp (h.take 32) ++ h.drop 32) := by
  unfold clamp_scalar
  rw [if_neg (by omega)]
  dsimp only
  congr 1
  rw [← List.take_append_drop 32 (((h.modify 0 _).modify 31 _).modify 31 _)]
  congr 1
  · rw [List.take_modify, List.take_modify, List.take_modify]
    unfold Spec.Ed25519.clamp
    rw [List.modify_modify_eq, List.modify_modify_eq]
    congr 1
    exact clamp_byte31
  · rw [List.drop_modify_of_lt _ _ _ _ (by decide), List.drop_modify_of_lt _ _ _ _ (by decide),
      List.drop_modify_of_lt _ _ _ _ (by decide)]

theorem sha512_length (m : Bytes) : (Spec.Sha2.sha512 m).length = 64 := by
  simp [Spec.Sha2.sha512, Spec.Sha2.wordsToBytes64, Spec.Sha2.W8.toList, u64be, natToBE, Proofs.Bytes.natToLE_length]

theorem clamp_length (h : Bytes) : (Spec.Ed25519.clamp h).length = h.length := by
  simp [Spec.Ed25519.clamp]

theorem extended_secret_eq (seed : Bytes) (hs : seed.length = 32) :
    extended_secret seed = some (Spec.Ed25519.expandSeed seed) := by
  unfold extended_secret
  rw [if_pos hs, sha512_1_eq seed (by rw [hs]; decide), some_bind, clamp_scalar_eq _ (sha512_length seed)]
  rfl

theorem clampH_length (seed : Bytes) : (Spec.Ed25519.clamp ((Spec.Ed25519.H seed).take 32)).length = 32 := by
  unfold Spec.Ed25519.H
  rw [clamp_length, List.length_take, sha512_length]
  rfl

theorem expandSeed_length (seed : Bytes) : (Spec.Ed25519.expandSeed seed).length = 64 := by
  unfold Spec.Ed25519.expandSeed
  rw [List.length_append, clampH_length, List.length_drop]
  unfold Spec.Ed25519.H
  rw [sha512_length]

theorem expandSeed_take (seed : Bytes) :
    (Spec.Ed25519.expandSeed seed).take 32 = Spec.Ed25519.clamp ((Spec.Ed25519.H seed).take 32) := by
  unfold Spec.Ed25519.expandSeed
  rw [List.take_append_of_le_length (clampH_length seed).ge, List.take_of_length_le (clampH_length seed).le]

theorem expandSeed_drop (seed : Bytes) : (Spec.Ed25519.expandSeed seed).drop 32 = (Spec.Ed25519.H seed).drop 32 := by
  unfold Spec.Ed25519.expandSeed
  rw [List.drop_append_of_le_length (clampH_length seed).ge, List.drop_of_length_le (clampH_length seed).le, List.nil_append]

theorem leNat_lt_255 (l : Bytes) (hl : l.length = 32) (x : UInt8) (hx : l[31]? = some x) (h128 : x.toNat < 128) :
    leNat l < 2 ^ 255 := by
  have h31 : 31 < l.length := by omega
  have := Bytes.leNat_lt (l.take 31)
  rw [List.getElem?_eq_getElem h31, Option.some.injEq] at hx
  rw [Bytes.leNat_split 31 l, List.drop_eq_getElem_cons h31, List.drop_of_length_le (by omega), hx]
  rw [List.length_take, hl, show min 31 32 = 31 from rfl] at this
  simp only [leNat]
  omega

theorem clamp_top_byte (x : UInt8) : ((x &&& 127) ||| 64).toNat < 128 := by
  rw [UInt8.toNat_or, UInt8.toNat_and]
  exact Nat.or_lt_two_pow (n := 7) (Nat.and_lt_two_pow _ (by decide)) (by decide)

theorem clamp_lt (h : Bytes) (hl : h.length = 32) : leNat (Spec.Ed25519.clamp h) < 2 ^ 255 := by
  obtain ⟨x, hx⟩ : ∃ x, h[31]? = some x := ⟨h[31], by rw [List.getElem?_eq_getElem]⟩
  apply leNat_lt_255 _ (by rw [clamp_length, hl]) ((x &&& 127) ||| 64)
  · unfold Spec.Ed25519.clamp
    rw [List.modify_modify_eq, List.getElem?_modify_eq, List.getElem?_modify_ne _ _ (by decide), hx]
    rfl
  · exact clamp_top_byte x

theorem expandSeed_lt (seed : Bytes) : leNat ((Spec.Ed25519.expandSeed seed).take 32) < 2 ^ 255 := by
  rw [expandSeed_take]; exact clamp_lt _ ((clamp_length _).symm.trans (clampH_length seed))

theorem extendedToPublic_expandSeed (seed : Bytes) :
    Spec.Ed25519.extendedToPublic (Spec.Ed25519.expandSeed seed) = Spec.Ed25519.publicKey seed := by
  unfold Spec.Ed25519.extendedToPublic Spec.Ed25519.publicKey Spec.Ed25519.secretScalar
  rw [expandSeed_take]

theorem encode_length (P : Edwards.Point) : (Edwards.encode P).length = 32 := Proofs.Bytes.natToLE_length _ _

end Cx.Proofs.Ed25519Sign

namespace Cx.Proofs.Ed25519G
open Cx Cx.Spec Cx.Proofs.EdSpec Cx.Proofs.GeG Cx.Proofs.GeComb Cx.Proofs.Ed25519Sha Cx.Proofs.Ed25519Sign
open Cx.Impl.Ed25519 (extended_secret keypair_private keypair_public)
open Cx.Spec.Field25519 (p)
open Cx.Spec.ScalarL (L)
open Cx.Proofs.ScalarL (L_pos L_lt_two_pow_255)

variable {O : Sig} {S : Contract O} {E : SigEd O} {Inv : O.Scalar → Prop} {val : O.Scalar → Nat}
  [hp : Fact (Nat.Prime p)] [hG : GroupLawFact] (hT : BaseTable S) (SS : ScalarSpec E Inv val)
include hT SS

theorem base_mul_scalar (s : O.Scalar) (hi : Inv s) (hlt : val s < 2 ^ 255) :
    ∃ g, Ge.scalarmult_base O s = some g ∧ GeOk S g (Edwards.smul (val s) Edwards.B) ∧
      Ge.to_bytes O g = some (Edwards.encode (Edwards.smul (val s) Edwards.B)) := by
  obtain ⟨g, eg, ok⟩ := scalarmult_base_ok hT s (val s) (SS.nibbles s hi hlt)
  have hc : OnCurve (Edwards.smul (val s) Edwards.B) := smul_onCurve hG.out _ _ Proofs.Ge.B_spec.1
  obtain ⟨hx, hy, _⟩ := (onCurve_iff _).1 hc
  exact ⟨g, eg, ok, ge_to_bytes_ok g _ ok hx hy⟩

theorem base_mul_bytes (b : Bytes) (hb : b.length = 32) (hlt : leNat b < 2 ^ 255) :
    ∃ s g, E.fromBytes b = some s ∧ Inv s ∧ val s = leNat b ∧ Ge.scalarmult_base O s = some g ∧
      Ge.to_bytes O g = some (Edwards.encode (Edwards.smul (leNat b) Edwards.B)) := by
  obtain ⟨s, e, inv, v⟩ := SS.fromBytes b hb
  obtain ⟨g, eg, _, eb⟩ := base_mul_scalar hT SS s inv (v ▸ hlt)
  exact ⟨s, g, e, inv, v, eg, v ▸ eb⟩

theorem extended_to_public_eq (ext : Bytes) (hl : ext.length = 64) (hlt : leNat (ext.take 32) < 2 ^ 255) :
    extended_to_public O E ext = some (Spec.Ed25519.extendedToPublic ext) := by
  obtain ⟨s, g, e, _, _, eg, eb⟩ := base_mul_bytes hT SS (ext.take 32) (by simp [hl]) hlt
  simp only [extended_to_public, extended_scalar]
  rw [if_pos hl, e, some_bind, eg, some_bind]
  exact eb

/-- `keypair` = RFC 8032 §5.1.5 in the crate's layout `(seed ‖ A, A)` -/
theorem keypair_eq (seed : Bytes) (hs : seed.length = 32) : keypair O E seed = some (Spec.Ed25519.keypair seed) := by
  have hpub := extended_to_public_eq hT SS (Spec.Ed25519.expandSeed seed) (expandSeed_length seed) (expandSeed_lt seed)
  unfold keypair
  rw [extended_secret_eq seed hs, some_bind, hpub, some_bind, pure_eq_some, extendedToPublic_expandSeed]
  unfold Spec.Ed25519.keypair
  have ht : (seed ++ (Spec.Ed25519.expandSeed seed).drop 32).take 32 = seed := by
    rw [List.take_append_of_le_length (by omega), List.take_of_length_le (by omega)]
  rw [ht]

omit hp hG hT in
theorem signature_nonce_eq (ext msg : Bytes) (hl : ext.length = 64) (hm : msg.length < 2 ^ 124) :
    ∃ s, signature_nonce O E ext msg = some s ∧ Inv s ∧
      val s = leNat (Spec.Ed25519.H (ext.drop 32 ++ msg)) % L := by
  unfold signature_nonce
  rw [if_pos hl, sha512_2_eq _ _ (by simp [hl]; omega), some_bind]
  exact SS.reduceWide _ (sha512_length _)

/-- the statements shared by `signature` and `signature_extended` = RFC 8032 §5.1.6 steps 3–6 -/
theorem signature_tail_eq (msg pk az pre : Bytes) (nonce : O.Scalar) (hm : msg.length < 2 ^ 124)
    (hpk : pk.length = 32) (haz : az.length = 64) (hinv : Inv nonce)
    (hval : val nonce = leNat (Spec.Ed25519.H (pre ++ msg)) % L) :
    signature_tail O E msg pk az nonce = some (Spec.Ed25519.signWith (leNat (az.take 32)) pre pk msg) := by
  have hrL : val nonce < L := by rw [hval]; exact Nat.mod_lt _ L_pos
  obtain ⟨g, eg, _, eb⟩ := base_mul_scalar hT SS nonce hinv (hrL.trans L_lt_two_pow_255)
  unfold signature_tail
  rw [eg, some_bind, eb, some_bind]
  dsimp only
  rw [sha512_2_eq _ _ (by simp [encode_length, hpk]; omega), some_bind]
  obtain ⟨k, ek, kinv, kval⟩ := SS.reduceWide _ (sha512_length (Edwards.encode (Edwards.smul (val nonce) Edwards.B) ++ pk ++ msg))
  rw [ek, some_bind]
  obtain ⟨a, ea, ainv, aval⟩ := SS.fromBytes (az.take 32) (by simp [haz])
  have hes : extended_scalar O E az = some a := by unfold extended_scalar; rw [if_pos haz]; exact ea
  rw [hes, some_bind]
  obtain ⟨o, eo, oval⟩ := SS.muladd_bytes k a nonce kinv ainv hinv hrL
  rw [eo, some_bind, pure_eq_some, oval, kval, aval]
  unfold Spec.Ed25519.signWith Spec.Ed25519.L
  dsimp only
  rw [← hval]
  unfold Spec.Ed25519.H
  rw [List.take_append_of_le_length (by rw [encode_length]), List.take_of_length_le (by rw [encode_length])]
  rw [Nat.add_comm (val nonce)]

theorem signature_extended_eq (msg ext : Bytes) (hl : ext.length = 64) (hlt : leNat (ext.take 32) < 2 ^ 255)
    (hm : msg.length < 2 ^ 124) :
    signature_extended O E msg ext = some (Spec.Ed25519.signExtended ext msg) := by
  obtain ⟨n, en, ninv, nval⟩ := signature_nonce_eq SS ext msg hl hm
  unfold signature_extended
  rw [extended_to_public_eq hT SS ext hl hlt, some_bind, en, some_bind]
  rw [signature_tail_eq hT SS msg (Spec.Ed25519.extendedToPublic ext) ext (ext.drop 32) n hm
    (by unfold Spec.Ed25519.extendedToPublic; exact encode_length _) hl ninv nval]
  rfl

/-- `signature(M, seed ‖ pk)`: the public half of the keypair is used as given -/
theorem signature_eq (msg seed pk : Bytes) (hs : seed.length = 32) (hpk : pk.length = 32)
    (hm : msg.length < 2 ^ 124) :
    signature O E msg (seed ++ pk) = some (Spec.Ed25519.signWith (Spec.Ed25519.secretScalar seed)
      (Spec.Ed25519.noncePrefix seed) pk msg) := by
  have hkl : (seed ++ pk).length = 64 := by simp [hs, hpk]
  obtain ⟨n, en, ninv, nval⟩ := signature_nonce_eq SS (Spec.Ed25519.expandSeed seed) msg (expandSeed_length seed) hm
  unfold signature keypair_private keypair_public
  rw [if_pos hkl, some_bind, if_pos hkl, some_bind]
  rw [List.take_append_of_le_length (by omega), List.take_of_length_le (by omega),
    List.drop_append_of_le_length (by omega), List.drop_of_length_le (by omega), List.nil_append,
    List.take_of_length_le (by omega)]
  rw [extended_secret_eq seed hs, some_bind, en, some_bind]
  rw [expandSeed_drop] at nval
  rw [signature_tail_eq hT SS msg pk _ (Spec.Ed25519.noncePrefix seed) n hm hpk (expandSeed_length seed) ninv nval,
    expandSeed_take]
  rfl

end Cx.Proofs.Ed25519G

namespace Cx.Proofs.Ed25519Sign
open Cx Cx.Spec Cx.Impl.Ge Cx.Impl.Ed25519 Cx.Proofs.EdSpec Cx.Proofs.GeRefine Cx.Proofs.GeComb
open Cx.Impl.Scalar64 (Scalar)
open Cx.Spec.Field25519 (p)

def sigEd64 : Ed25519G.SigEd sig64 where
  fromBytes := Impl.Scalar64.fromBytes
  fromBytesCanonical := Impl.Scalar64.fromBytesCanonical
  reduceWide := Impl.Scalar64.reduceFromWideBytes
  muladd := Impl.Scalar64.muladd
  to_bytes := Impl.Scalar64.to_bytes
  curve25519 := Impl.X25519.curve25519

/-! Impl/Ed25519.lean is the generic text (bottom-up, for use by `rw`/`▸` only: see Proofs/GeRefine.lean) -/

theorem extended_to_public_text : extended_to_public = Ed25519G.extended_to_public sig64 sigEd64 := by
  unfold extended_to_public Ed25519G.extended_to_public; rw [scalarmult_base_eq, ge_to_bytes_eq]; rfl
theorem keypair_text : keypair = Ed25519G.keypair sig64 sigEd64 := by
  unfold keypair Ed25519G.keypair; rw [extended_to_public_text]
theorem signature_tail_text : signature_tail = Ed25519G.signature_tail sig64 sigEd64 := by
  unfold signature_tail Ed25519G.signature_tail; rw [scalarmult_base_eq, ge_to_bytes_eq]; rfl
theorem signature_text : signature = Ed25519G.signature sig64 sigEd64 := by
  unfold signature Ed25519G.signature; rw [signature_tail_text]; rfl
theorem signature_extended_text : signature_extended = Ed25519G.signature_extended sig64 sigEd64 := by
  unfold signature_extended Ed25519G.signature_extended
  rw [extended_to_public_text, signature_tail_text]; rfl

theorem scalarSpec (SF : ScalarFacts) : Ed25519G.ScalarSpec sigEd64 SInv Scalar.val where
  fromBytes := SF.fromBytes
  reduceWide := SF.reduceWide
  muladd_bytes a b c ha hb hc hcL := by
    obtain ⟨o, eo, ov, oi⟩ := SF.muladd a b c ha hb hc hcL
    exact ⟨o, eo, ov ▸ SF.toBytes o oi⟩
  nibbles s hs hv := by rw [nibbles_eq]; exact ⟨by simp, SF.nibbles s hs hv⟩

end Cx.Proofs.Ed25519Sign
