/-
  Proofs.Ed25519Verify — `ed25519::verify` decides exactly the Spec predicate (cofactorless equation, canonical S,
  decodable non-zero key): the decision logic of the function composed from the facts about its callees, proved once for
  the text of Proofs/Ed25519Generic.lean (`Ed25519G.verify_eq`: the callee facts are hypotheses over the contracts), then read
  for the 64-bit backend, where they are the interfaces (explicit hypotheses):
    `DecodeFact`   `Ge::from_bytes` refines `Spec.Edwards.decode` (the §5.1.3 procedure as implemented)
    `DsmFact`      `double_scalarmult_vartime(a, A, b)` represents `[a]A + [b]B` for reduced `a`, canonical `b`
    `ScalarFacts`, `CanonicalFact`   unit scalar64 (`from_bytes_canonical` accepts exactly values < L)
    `GroupLawFact`, `[Fact (Nat.Prime p)]`
-/
import CxVerif.Proofs.Ed25519Sign
namespace Cx.Proofs.Ed25519Verify
open Cx Cx.Spec Cx.Impl.Ge Cx.Impl.Ed25519 Cx.Proofs.EdSpec Cx.Proofs.GeRefine Cx.Proofs.GeComb
  Cx.Proofs.Ed25519Sha Cx.Proofs.Ed25519Sign
open Cx.Impl.Scalar64 (Scalar)
open Cx.Spec.Field25519 (p)
open Cx.Spec.ScalarL (L)

section facts
variable [hp : Fact (Nat.Prime p)]

/-- `Ge::from_bytes` against the Spec decoder (lenient §5.1.3): rejects exactly the non-points, otherwise
    returns a Tight representation of the decoded curve point.  `DecodeFact`, `DsmFact`, `CanonicalFact` say of the 64-bit MODEL what
    `GeG.from_bytes_cases`, `GeG.dsm_ok` and the hypothesis `hcan` say over the contracts.  Proofs/Ed25519Inst.lean proves all three; the statements of
    Props/C14 take `DecodeFact` and `DsmFact` as explicit hypotheses (they need primality and the group law) and plug `canonicalFact` in -/
def DecodeFact : Prop :=
  ∀ s : Bytes, s.length = 32 →
    match Edwards.decode s with
    | none => Ge.from_bytes s = some none
    | some P => OnCurve P ∧ ∃ g, Ge.from_bytes s = some (some g) ∧ GeOk g P

def DsmFact : Prop :=
  ∀ (a b : Scalar) (g : Ge) (A : Edwards.Point), SInv a → SInv b → a.val < 2 ^ 255 → b.val < 2 ^ 255 → GeOk g A →
    OnCurve A → ∃ r, GePartial.double_scalarmult_vartime a g b = some r ∧
      PartialOk r (Edwards.add (Edwards.smul a.val A) (Edwards.smul b.val Edwards.B))

def CanonicalFact : Prop :=
  ∀ b : Bytes, b.length = 32 → ∃ s, SInv s ∧ s.val = leNat b ∧
    Impl.Scalar64.fromBytesCanonical b = some (if leNat b < L then some s else none)

end facts

theorem or_fold_zero (l : Bytes) : (l.foldl (· ||| ·) (0 : UInt8) == 0) = decide (l = zeros l.length) := by
  have gen : ∀ (l : Bytes) (acc : UInt8), (l.foldl (· ||| ·) acc = 0) ↔ (acc = 0 ∧ l = zeros l.length) := by
    intro l
    induction l with
    | nil => intro acc; simp [zeros]
    | cons x xs ih =>
      intro acc
      simp only [List.foldl_cons, ih, UInt8.or_eq_zero_iff, List.length_cons, zeros, List.replicate_succ,
        List.cons.injEq]
      constructor
      · rintro ⟨⟨h1, h2⟩, h3⟩; exact ⟨h1, h2, h3⟩
      · rintro ⟨h1, h2, h3⟩; exact ⟨⟨h1, h2⟩, h3⟩
  have := gen l 0
  by_cases h : l = zeros l.length
  · have h0 : l.foldl (· ||| ·) (0 : UInt8) = 0 := this.2 ⟨rfl, h⟩
    have hd : decide (l = zeros l.length) = true := decide_eq_true h
    rw [hd, h0]; rfl
  · have h0 : ¬ (l.foldl (· ||| ·) (0 : UInt8) = 0) := fun hh => h (this.1 hh).2
    have hd : decide (l = zeros l.length) = false := decide_eq_false h
    rw [hd]; exact beq_eq_false_iff_ne.2 h0

section main
variable [hp : Fact (Nat.Prime p)] [hG : GroupLawFact]

theorem dsm_point_eq (k S : Nat) (A : Edwards.Point) (hA : OnCurve A) :
    Edwards.add (Edwards.smul k (Edwards.neg A)) (Edwards.smul S Edwards.B)
      = Edwards.sub (Edwards.smul S Edwards.B) (Edwards.smul k A) := by
  let Ac : CurvePoint := ⟨A, hA⟩
  have h := congrArg Subtype.val (show k • (-Ac) + S • Bc = S • Bc - k • Ac by rw [smul_neg, add_comm, sub_eq_add_neg])
  rw [cval_add, ← cval_sub, cval_nsmul, cval_nsmul, cval_nsmul] at h
  exact h

end main

end Cx.Proofs.Ed25519Verify

namespace Cx.Proofs.Ed25519G
open Cx Cx.Spec Cx.Proofs.EdSpec Cx.Proofs.GeG Cx.Proofs.GeComb Cx.Proofs.Ed25519Sha Cx.Proofs.Ed25519Sign
  Cx.Proofs.Ed25519Verify
open Cx.Spec.Field25519 (p)
open Cx.Spec.ScalarL (L)
open Cx.Proofs.ScalarL (L_pos L_lt_two_pow_255)

variable {O : Sig} {S : Contract O} {E : SigEd O} {Inv : O.Scalar → Prop} {val : O.Scalar → Nat}
  [hp : Fact (Nat.Prime p)] [hG : GroupLawFact]

/-- the callee facts are hypotheses: `hdec` is the conclusion of `GeG.from_bytes_cases` (Proofs/GeDecode.lean), `hcan` and `hdsm` have the
    shapes of `CanonicalFact`, `DsmFact`.  They stay hypotheses because the 64-bit reading below is given them as the interfaces
    `DecodeFact`, `DsmFact`, which speak of the model's functions -/
theorem verify_eq (SS : ScalarSpec E Inv val)
    (hdec : ∀ s : Bytes, s.length = 32 → (Edwards.decode s = none ∧ Ge.from_bytes O s = some none) ∨
      ∃ P g, Edwards.decode s = some P ∧ OnCurve P ∧ Ge.from_bytes O s = some (some g) ∧ GeOk S g P)
    (hcan : ∀ b : Bytes, b.length = 32 →
      ∃ s, Inv s ∧ val s = leNat b ∧ E.fromBytesCanonical b = some (if leNat b < L then some s else none))
    (hdsm : ∀ (a b : O.Scalar) (g : O.ge.T) (A : Edwards.Point), Inv a → Inv b → val a < 2 ^ 255 → val b < 2 ^ 255 →
      GeOk S g A → OnCurve A → ∃ r, Part.double_scalarmult_vartime O a g b = some r ∧
        PartialOk S r (Edwards.add (Edwards.smul (val a) A) (Edwards.smul (val b) Edwards.B)))
    (msg pk sig : Bytes) (hpk : pk.length = 32) (hsig : sig.length = 64) (hm : msg.length < 2 ^ 124) :
    verify O E msg pk sig = some (Spec.Ed25519.verify msg pk sig) := by
  unfold verify Spec.Ed25519.verify Spec.Ed25519.verifyWith
  rw [if_pos ⟨hpk, hsig⟩]
  rcases hdec pk hpk with ⟨hd, e⟩ | ⟨A, g, hd, hA, eg, gok⟩ <;> rw [hd]
  · rw [e, some_bind]
    rfl
  · rw [eg, some_bind]
    dsimp only
    obtain ⟨a, ea, aok⟩ := negate_ok g A gok
    rw [ea, some_bind]
    obtain ⟨s, sinv, sval, ecan⟩ := hcan (sig.drop 32) (by simp [hsig])
    rw [ecan, some_bind]
    by_cases hSL : leNat (sig.drop 32) < L
    · rw [if_pos hSL]
      dsimp only
      rw [or_fold_zero pk, hpk]
      by_cases hz : pk = zeros 32
      · simp [hz]
      · have hcond : sig.length = 64 ∧ leNat (sig.drop 32) < Spec.Ed25519.L ∧ pk ≠ zeros 32 := ⟨hsig, hSL, hz⟩
        rw [if_pos hcond]
        simp only [hz, decide_false, Bool.false_eq_true, if_false]
        rw [sha512_3_eq _ _ _ (by simp [hpk, hsig]; omega), some_bind]
        obtain ⟨k, ek, kinv, kval⟩ := SS.reduceWide _ (sha512_length (sig.take 32 ++ pk ++ msg))
        rw [ek, some_bind]
        have hkL : val k < L := by rw [kval]; exact Nat.mod_lt _ L_pos
        obtain ⟨r, er, rok⟩ := hdsm k s a (Edwards.neg A) kinv sinv (hkL.trans L_lt_two_pow_255)
          (by rw [sval]; exact hSL.trans L_lt_two_pow_255) aok (neg_onCurve A hA)
        rw [er, some_bind]
        rw [dsm_point_eq (val k) (val s) A hA] at rok
        rw [partial_to_bytes_ok r _ rok (add_x_lt _ _) (add_y_lt _ _), some_bind, pure_eq_some]
        rw [Cx.Props.C18.array_u8_ct_eq_spec _ _ (by rw [encode_length]; simp [hsig])]
        rw [sval, kval]
        unfold Spec.Ed25519.H Spec.Ed25519.L
        rw [beq_eq_decide]
    · rw [if_neg hSL]
      have hcond : ¬ (sig.length = 64 ∧ leNat (sig.drop 32) < Spec.Ed25519.L ∧ pk ≠ zeros 32) :=
        fun h => hSL h.2.1
      rw [if_neg hcond]
      rfl

end Cx.Proofs.Ed25519G

namespace Cx.Proofs.Ed25519Verify
open Cx Cx.Spec Cx.Impl.Ge Cx.Impl.Ed25519 Cx.Proofs.EdSpec Cx.Proofs.GeRefine Cx.Proofs.GeComb Cx.Proofs.Ed25519Sign
open Cx.Spec.Field25519 (p)

/-- the `match`es of `verify` are on values of the signature's types: split (see `GeRefine.ge_from_bytes_eq`) -/
theorem verify_text : verify = Ed25519G.verify sig64 sigEd64 := by
  funext msg pk sig
  unfold verify Ed25519G.verify
  rw [ge_from_bytes_eq, dsm_eq, partial_to_bytes_eq]
  split
  · refine bind_congr fun o => ?_
    cases o with
    | none => rfl
    | some g =>
      refine bind_congr fun a => bind_congr fun o => ?_
      cases o <;> rfl
  · rfl

theorem verify_eq [hp : Fact (Nat.Prime p)] [hG : GroupLawFact] (DF : DecodeFact) (MF : DsmFact) (SF : ScalarFacts)
    (CF : CanonicalFact) (msg pk sig : Bytes) (hpk : pk.length = 32) (hsig : sig.length = 64) (hm : msg.length < 2 ^ 124) :
    verify msg pk sig = some (Spec.Ed25519.verify msg pk sig) := by
  rw [verify_text]
  refine Ed25519G.verify_eq (S := spec64) (scalarSpec SF) (fun s hs => ?_) CF
    (fun a b g A ha hb hav hbv hg hA => ?_) msg pk sig hpk hsig hm
  · -- `DecodeFact` is the `match` form the statements of Props/C14 carry as a hypothesis; the theorem over the contracts wants the disjunction
    have := DF s hs
    simp only [ge_from_bytes_eq, geOk_iff] at this
    cases hd : Edwards.decode s with
    | none => rw [hd] at this; exact .inl ⟨rfl, this⟩
    | some P => rw [hd] at this; exact .inr ⟨P, this.2.choose, rfl, this.1, this.2.choose_spec⟩
  · rw [← dsm_eq]
    exact GeG.ok_imp (fun _ => partialOk_iff.1) (MF a b g A ha hb hav hbv (geOk_iff.2 hg) hA)

end Cx.Proofs.Ed25519Verify
