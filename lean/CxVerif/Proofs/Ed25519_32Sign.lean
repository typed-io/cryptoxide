/-
  Proofs.Ed25519_32Sign — key generation and signing of ed25519.rs on the 32-BIT backends (Impl/Ed25519_32.lean) equal
  RFC 8032 §5.1.5/§5.1.6 (Spec/Ed25519.lean): Impl/Ed25519_32.lean is the text of Proofs/Ed25519Generic.lean at `sigEd32`
  (equations by unfolding), and unit sc32 meets the scalar contract (`scalarSpec`; `Scalar = [u8; 32]`: `from_bytes` is the
  identity, `reduce_from_wide_bytes` and `muladd` are proved for ALL inputs in Proofs/Scalar32Reduce.lean /
  Scalar32Muladd.lean, `nibbles` in Proofs/Scalar32Digits.lean — no limb invariant is needed on this side), so the theorems
  of Proofs/Ed25519Sign.lean over the contracts apply.
-/
import CxVerif.Proofs.Ge32Comb
import CxVerif.Proofs.Ge32Bytes
import CxVerif.Proofs.Ge32Dsm
import CxVerif.Proofs.Ed25519Sign
import CxVerif.Proofs.Scalar32Reduce
import CxVerif.Proofs.Scalar32Muladd
import CxVerif.Impl.Ed25519_32
namespace Cx.Proofs.Ed25519_32Sign
open Cx Cx.Spec Cx.Impl.Ge32 Cx.Impl.Ed25519_32 Cx.Proofs.Ge32Refine Cx.Proofs.Ge32Comb
open Cx.Impl.Scalar32 (Scalar)
open Cx.Proofs.Ge32Dsm (sval)

theorem toArr_some (n : Nat) (b : Bytes) (h : b.length = n) :
    ∃ v : Vector UInt8 n, Impl.Scalar32.toArr n b = some v ∧ v.toList = b := by
  unfold Impl.Scalar32.toArr
  rw [dif_pos h]
  exact ⟨_, rfl, by simp [Vector.toList]⟩

theorem fromBytes_ok (b : Bytes) (hb : b.length = 32) :
    ∃ s, Impl.Scalar32.fromBytes b = some s ∧ s.toList = b ∧ sval s = leNat b := by
  obtain ⟨v, hv, hl⟩ := toArr_some 32 b hb
  refine ⟨v, ?_, hl, by unfold sval; rw [hl]⟩
  unfold Impl.Scalar32.fromBytes; rw [hv]; rfl

def sigEd32 : Ed25519G.SigEd sig32 where
  fromBytes := Impl.Scalar32.fromBytes
  fromBytesCanonical := Impl.Scalar32.fromBytesCanonical
  reduceWide := reduceWide
  muladd := Impl.Scalar32.muladd
  to_bytes := Impl.Scalar32.to_bytes
  curve25519 := Impl.X25519_32.curve25519

/-! Impl/Ed25519_32.lean is the generic text (bottom-up, for use by `rw`/`▸` only: see Proofs/GeRefine.lean) -/

theorem extended_to_public_text : extended_to_public = Ed25519G.extended_to_public sig32 sigEd32 := by
  unfold extended_to_public Ed25519G.extended_to_public; rw [scalarmult_base_eq, ge_to_bytes_eq]; rfl
theorem keypair_text : keypair = Ed25519G.keypair sig32 sigEd32 := by
  unfold keypair Ed25519G.keypair; rw [extended_to_public_text]
theorem signature_tail_text : signature_tail = Ed25519G.signature_tail sig32 sigEd32 := by
  unfold signature_tail Ed25519G.signature_tail; rw [scalarmult_base_eq, ge_to_bytes_eq]; rfl
theorem signature_text : signature = Ed25519G.signature sig32 sigEd32 := by
  unfold signature Ed25519G.signature; rw [signature_tail_text]; rfl
theorem signature_extended_text : signature_extended = Ed25519G.signature_extended sig32 sigEd32 := by
  unfold signature_extended Ed25519G.signature_extended
  rw [extended_to_public_text, signature_tail_text]; rfl

/-- `reduce_from_wide_bytes` and `muladd` are stated by unit sc32 through the bytes of their result, which are the value -/
theorem scalarSpec : Ed25519G.ScalarSpec sigEd32 (fun _ => True) sval where
  fromBytes b hb := (fromBytes_ok b hb).imp fun _ h => ⟨h.1, trivial, h.2.2⟩
  reduceWide h hh := by
    obtain ⟨v, hv, hl⟩ := toArr_some 64 h hh
    obtain ⟨s, hr, hs⟩ := Option.map_eq_some_iff.1 (Proofs.Scalar32.reduce_from_wide_bytes_spec v)
    refine ⟨s, ?_, trivial, ?_⟩
    · show reduceWide h = some s
      unfold reduceWide Impl.Scalar32.reduceFromWideBytes
      rw [hv, Option.map_some, Option.bind_some, hr]
      rfl
    · unfold sval
      unfold Impl.Scalar32.to_bytes at hs
      rw [hs, hl]
      unfold Spec.ScalarL.reduceWide Spec.ScalarL.encode Spec.ScalarL.decode
      rw [Proofs.Bytes.leNat_natToLE]
      exact Nat.mod_eq_of_lt ((Nat.mod_lt _ Proofs.ScalarL.L_pos).trans (Proofs.ScalarL.L_lt_two_pow_255.trans (by decide)))
  muladd_bytes a b c _ _ _ _ := Option.map_eq_some_iff.1 (Proofs.Scalar32.muladd_spec a b c)
  nibbles s _ hv := nibblesOk s hv

end Cx.Proofs.Ed25519_32Sign
