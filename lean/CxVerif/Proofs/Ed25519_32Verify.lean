/-
  Proofs.Ed25519_32Verify — `ed25519::verify` and `ed25519::exchange` on the 32-BIT backends (Impl/Ed25519_32.lean):
  `verify` decides exactly the Spec predicate (cofactorless equation, canonical S, decodable non-zero key), `exchange` is
  X25519 of the pruned hashed secret with the mapped key.  `verify` is the text of Proofs/Ed25519Generic.lean at `sigEd32`, and
  the callee facts of the theorem over the contracts (Proofs/Ed25519Verify.lean) are the THEOREMS of the 32-bit development:
  Proofs/GeDecode.lean at `spec32` (`Ge::from_bytes`), Proofs/Ge32Dsm.lean (`double_scalarmult_vartime`),
  Proofs/Scalar32Canon.lean (`from_bytes_canonical` accepts exactly `le(b) < L`), Proofs/Ed25519_32Sign.lean (scalar layer).
-/
import CxVerif.Proofs.Ed25519_32Sign
import CxVerif.Proofs.Ge32Decode
import CxVerif.Proofs.Ge32Dsm
import CxVerif.Proofs.X25519_32Ladder
import CxVerif.Proofs.Scalar32Canon
import CxVerif.Proofs.Ed25519Verify
namespace Cx.Proofs.Ed25519_32Verify
open Cx.Impl.Ed25519_32 Cx.Proofs.Ge32Refine Cx.Proofs.Ed25519_32Sign
open Cx.Impl.Scalar32 (Scalar)
open Cx.Proofs.GeComb (GroupLawFact)
open Cx.Proofs.Ge32Dsm (sval BI_table slideOk)
open Cx.Spec.Field25519 (p)
open Cx.Spec.ScalarL (L)

theorem canonical_ok (b : Bytes) (hb : b.length = 32) :
    ∃ s : Scalar, True ∧ sval s = leNat b ∧
      Impl.Scalar32.fromBytesCanonical b = some (if leNat b < L then some s else none) := by
  obtain ⟨v, hv, hl⟩ := toArr_some 32 b hb
  refine ⟨v, trivial, by unfold sval; rw [hl], ?_⟩
  unfold Impl.Scalar32.fromBytesCanonical
  rw [hv, Option.map_some, Proofs.Scalar32.from_bytes_canonical_spec v]
  unfold Spec.ScalarL.decode Impl.Scalar32.from_bytes
  rw [hl]

/-- the `match`es of `verify` are on values of the signature's types: split (see `Ge32Refine.ge_from_bytes_eq`) -/
theorem verify_text : verify = Ed25519G.verify sig32 sigEd32 := by
  funext msg pk sig
  unfold verify Ed25519G.verify
  rw [ge_from_bytes_eq, dsm_eq, partial_to_bytes_eq]
  split
  · refine bind_congr fun o => ?_
    cases o with
    | none => rfl
    | some g =>
      refine bind_congr fun a => bind_congr fun o => ?_
      cases o <;> rfl
  · rfl

theorem verify_eq [hp : Fact (Nat.Prime p)] [hG : GroupLawFact] (msg pk sig : Bytes) (hpk : pk.length = 32)
    (hsig : sig.length = 64) (hm : msg.length < 2 ^ 124) :
    verify msg pk sig = some (Spec.Ed25519.verify msg pk sig) := by
  rw [verify_text]
  exact Ed25519G.verify_eq scalarSpec (GeG.from_bytes_cases spec32) canonical_ok
    (fun a b g A _ _ hav hbv hg hA =>
      GeG.dsm_ok BI_table a b (sval a) (sval b) g A (slideOk a hav) (slideOk b hbv) hg hA) msg pk sig hpk hsig hm

/-- to be rewritten before anything is compared with the ladder: the unifier unfolds the ladder before the projection -/
theorem curve25519_field : sigEd32.curve25519 = Impl.X25519_32.curve25519 := by unfold sigEd32; with_reducible rfl

theorem exchange_text : exchange = Ed25519G.exchange sig32 sigEd32 := by
  unfold exchange Ed25519G.exchange Impl.Fe32.fromBytes Ed25519G.feFromBytes; rw [curve25519_field]; rfl

end Cx.Proofs.Ed25519_32Verify
