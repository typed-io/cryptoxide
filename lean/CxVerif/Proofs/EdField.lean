/-
  Proofs.EdField — the Spec field (`Nat` operations reduced mod p, Spec/Field25519.lean) seen in `ZMod p`:
  every Spec operation is the ring operation of `ZMod p` under the cast; `inv` is the field inverse when `p` is
  prime (Fermat); reduced naturals are equal iff their casts are.  Facts about the curve constants that only
  need kernel evaluation plus primality: `sqrtM1² = −1`, `d` is not a square (Euler's criterion), `2 ≠ 0`.
-/
import CxVerif.Spec.Edwards
import CxVerif.Proofs.Field25519
import Mathlib.FieldTheory.Finite.Basic
namespace Cx.Proofs.EdField
open Cx.Spec
open Cx.Spec.Field25519 (p)
open Cx.Proofs.Field25519 (p_pos)

abbrev Fp := ZMod p

instance : NeZero p := ⟨by decide⟩

theorem cast_mod (a : Nat) : ((a % p : Nat) : Fp) = (a : Fp) := ZMod.natCast_mod a p

theorem cast_add (a b : Nat) : ((Field25519.add a b : Nat) : Fp) = (a : Fp) + b := by
  unfold Field25519.add; rw [cast_mod]; push_cast; ring

theorem cast_mul (a b : Nat) : ((Field25519.mul a b : Nat) : Fp) = (a : Fp) * b := by
  unfold Field25519.mul; rw [cast_mod]; push_cast; ring

theorem cast_sq (a : Nat) : ((Field25519.sq a : Nat) : Fp) = (a : Fp) * a := by
  unfold Field25519.sq; rw [cast_mod]; push_cast; ring

theorem cast_p_sub (b : Nat) : ((p - b % p : Nat) : Fp) = -(b : Fp) := by
  have h : b % p < p := Nat.mod_lt _ p_pos
  have : ((p - b % p : Nat) : Fp) + ((b % p : Nat) : Fp) = 0 := by
    rw [← Nat.cast_add, Nat.sub_add_cancel (Nat.le_of_lt h), ZMod.natCast_self]
  rw [cast_mod] at this
  exact eq_neg_of_add_eq_zero_left this

theorem cast_sub (a b : Nat) : ((Field25519.sub a b : Nat) : Fp) = (a : Fp) - b := by
  unfold Field25519.sub; rw [cast_mod, Nat.cast_add, cast_p_sub]; ring

theorem cast_neg (a : Nat) : ((Field25519.neg a : Nat) : Fp) = -(a : Fp) := by
  unfold Field25519.neg; rw [cast_mod, cast_p_sub]

theorem cast_pow (a e : Nat) : ((Field25519.pow a e : Nat) : Fp) = (a : Fp) ^ e := by
  rw [Cx.Proofs.Field25519.pow_eq, cast_mod, Nat.cast_pow]

theorem add_lt (a b : Nat) : Field25519.add a b < p := Nat.mod_lt _ p_pos
theorem sub_lt (a b : Nat) : Field25519.sub a b < p := Nat.mod_lt _ p_pos
theorem mul_lt (a b : Nat) : Field25519.mul a b < p := Nat.mod_lt _ p_pos
theorem neg_lt (a : Nat) : Field25519.neg a < p := Nat.mod_lt _ p_pos

theorem cast_inj {a b : Nat} (ha : a < p) (hb : b < p) : (a : Fp) = (b : Fp) ↔ a = b := by
  rw [ZMod.natCast_eq_natCast_iff', Nat.mod_eq_of_lt ha, Nat.mod_eq_of_lt hb]

theorem cast_eq_zero {a : Nat} (ha : a < p) : (a : Fp) = 0 ↔ a = 0 := by
  have := cast_inj ha p_pos
  simpa using this

theorem cast_ne_zero {n : Nat} (h : n % p ≠ 0) : (n : Fp) ≠ 0 := by
  rwa [← cast_mod, Ne, cast_eq_zero (Nat.mod_lt _ p_pos)]

theorem sqrtM1_sq_nat : Field25519.mul Field25519.sqrtM1 Field25519.sqrtM1 = p - 1 := by decide +kernel

theorem d_euler_nat : Field25519.pow Field25519.edwardsD ((p - 1) / 2) = p - 1 := by decide +kernel

section prime
variable [hp : Fact (Nat.Prime p)]

theorem pow_p_sub_two (z : Fp) : z ^ (p - 2) = z⁻¹ := by
  by_cases h : z = 0
  · rw [h, inv_zero, zero_pow (by decide)]
  · refine eq_inv_of_mul_eq_one_left ?_
    rw [← pow_succ, show p - 2 + 1 = p - 1 by decide]
    exact ZMod.pow_card_sub_one_eq_one h

theorem cast_inv (a : Nat) : ((Field25519.inv a : Nat) : Fp) = (a : Fp)⁻¹ := by
  rw [Field25519.inv, cast_pow, pow_p_sub_two]

theorem two_ne_zero : (2 : Fp) ≠ 0 := cast_ne_zero (n := 2) (by decide)

theorem cast_p_sub_one : ((p - 1 : Nat) : Fp) = -1 := by
  have h := cast_p_sub 1
  rwa [Nat.mod_eq_of_lt (by decide), Nat.cast_one] at h

theorem sqrtM1_sq : ((Field25519.sqrtM1 : Nat) : Fp) ^ 2 = -1 := by
  rw [pow_two, ← cast_mul, sqrtM1_sq_nat, cast_p_sub_one]

theorem d_nonsquare : ∀ r : Fp, r ^ 2 ≠ ((Field25519.edwardsD : Nat) : Fp) := by
  intro r hr
  have h := congrArg (fun n : Nat => (n : Fp)) d_euler_nat
  simp only [cast_pow] at h
  rw [← hr, ← pow_mul] at h
  have hm : 2 * ((p - 1) / 2) = p - 1 := by decide
  rw [hm] at h
  rw [cast_p_sub_one] at h
  by_cases hr0 : r = 0
  · rw [hr0, zero_pow (by decide)] at h
    have : (1 : Fp) = 0 := by linear_combination h
    exact one_ne_zero this
  · rw [ZMod.pow_card_sub_one_eq_one hr0] at h
    have : (2 : Fp) = 0 := by linear_combination h
    exact two_ne_zero this

end prime

end Cx.Proofs.EdField
