/-
  Proofs.EdProj — scalar multiples of Spec points evaluated without inversions.  `Spec.Edwards.add` divides twice,
  and each division is a 255-bit exponentiation; a table check that calls it a thousand times spends all its time
  there.  Here the same double-and-add loop runs on projective triples `(X : Y : Z)` with the addition law cleared
  of denominators, and `Rep` ties a triple to the affine point it stands for, under the proviso that its `Z` is
  nonzero.  Every `Z` carries the `Z`s of the arguments as factors, so one test of the last `Z` vouches for the
  whole computation.  `isPoint` / `isPrecomp` are the tests that the kernel evaluates: they compare a triple with
  an affine point, or with a table entry, by cross-multiplication, and decide equality for reduced coordinates
  (`smul_lt`: the coordinates of `smul n P` are reduced).
-/
import CxVerif.Proofs.EdwardsSpec
namespace Cx.Proofs.EdProj
open Cx.Spec Cx.Proofs.EdField Cx.Proofs.EdSpec
open Cx.Spec.Edwards (Point add zero smul smulAux d)
open Cx.Spec.Field25519 (p)

structure PPoint where
  X : Nat
  Y : Nat
  Z : Nat

def ofAffine (P : Point) : PPoint := ⟨P.x, P.y, 1⟩

/-- `Spec.Edwards.add` cleared of denominators; all three coordinates are scaled by `Z₁Z₂` once more than
    necessary, so that `Z₁Z₂` divides the new `Z` -/
def padd (P Q : PPoint) : PPoint :=
  let A := Field25519.mul P.Z Q.Z
  let B := Field25519.mul A A
  let C := Field25519.mul P.X Q.X
  let D := Field25519.mul P.Y Q.Y
  let E := Field25519.mul d (Field25519.mul C D)
  let F := Field25519.sub B E
  let G := Field25519.add B E
  ⟨Field25519.mul B (Field25519.mul F (Field25519.add (Field25519.mul P.X Q.Y) (Field25519.mul Q.X P.Y))),
    Field25519.mul B (Field25519.mul G (Field25519.add D C)), Field25519.mul A (Field25519.mul F G)⟩

def psmulAux : Nat → Nat → PPoint → PPoint → PPoint
  | 0, _, _, Q => Q
  | fuel + 1, n, P, Q =>
    if n = 0 then Q
    else psmulAux fuel (n / 2) (padd P P) (if n % 2 = 1 then padd Q P else Q)

def psmul (n : Nat) (P : PPoint) : PPoint := psmulAux n n P (ofAffine zero)

def Rep (T : PPoint) (P : Point) : Prop :=
  (T.Z : Fp) ≠ 0 → (T.X : Fp) = P.x * T.Z ∧ (T.Y : Fp) = P.y * T.Z

theorem ofAffine_rep (P : Point) : Rep (ofAffine P) P := fun _ => by simp [ofAffine]

section prime
variable [hp : Fact (Nat.Prime p)]

theorem padd_rep {T U : PPoint} {P Q : Point} (hT : Rep T P) (hU : Rep U Q) : Rep (padd T U) (add P Q) := by
  intro hz
  simp only [padd, cast_mul, cast_add, cast_sub] at hz ⊢
  have hA := left_ne_zero_of_mul hz
  obtain ⟨hx1, hy1⟩ := hT (left_ne_zero_of_mul hA)
  obtain ⟨hx2, hy2⟩ := hU (right_ne_zero_of_mul hA)
  rw [cast_add_x, cast_add_y, EdAlg.addX, EdAlg.addY, dF]
  rw [hx1, hy1, hx2, hy2] at hz ⊢
  generalize (P.x : Fp) = x1, (P.y : Fp) = y1, (Q.x : Fp) = x2, (Q.y : Fp) = y2, (T.Z : Fp) = z1,
    (U.Z : Fp) = z2, ((d : Nat) : Fp) = c at hz hA ⊢
  -- the new `Z` is `(z1·z2)^5 · (1 − t) · (1 + t)`, `t = c·x1·x2·y1·y2`: nonzero `Z` means nonzero denominators
  have e : z1 * z2 * ((z1 * z2 * (z1 * z2) - c * (x1 * z1 * (x2 * z2) * (y1 * z1 * (y2 * z2)))) *
      (z1 * z2 * (z1 * z2) + c * (x1 * z1 * (x2 * z2) * (y1 * z1 * (y2 * z2)))))
      = (z1 * z2) ^ 5 * (1 - c * x1 * x2 * y1 * y2) * (1 + c * x1 * x2 * y1 * y2) := by ring
  rw [e] at hz ⊢
  have hm' := right_ne_zero_of_mul (left_ne_zero_of_mul hz)
  have hp' := right_ne_zero_of_mul hz
  refine ⟨EdAlg.scaled hp' (by ring), ?_⟩
  rw [mul_right_comm ((z1 * z2) ^ 5)]; exact EdAlg.scaled hm' (by ring)

theorem psmulAux_rep : ∀ (f n : Nat) {T U : PPoint} {P Q : Point}, Rep T P → Rep U Q →
    Rep (psmulAux f n T U) (smulAux f n P Q)
  | 0, _, _, _, _, _, _, hU => hU
  | f + 1, n, _, _, _, _, hT, hU => by
    unfold psmulAux smulAux
    split
    · exact hU
    · refine psmulAux_rep f (n / 2) (padd_rep hT hT) ?_
      split
      · exact padd_rep hU hT
      · exact hU

theorem psmul_rep (n : Nat) {T : PPoint} {P : Point} (hT : Rep T P) : Rep (psmul n T) (smul n P) :=
  psmulAux_rep n n hT (ofAffine_rep zero)

def isPoint (T : PPoint) (R : Point) : Bool :=
  T.Z % p != 0 && (T.X % p == Field25519.mul R.x T.Z) && (T.Y % p == Field25519.mul R.y T.Z)

theorem Rep.eq_of_isPoint {T : PPoint} {P R : Point} (h : Rep T P) (hPx : P.x < p) (hPy : P.y < p)
    (hRx : R.x < p) (hRy : R.y < p) (hc : isPoint T R = true) : P = R := by
  simp only [isPoint, Bool.and_eq_true, bne_iff_ne, beq_iff_eq] at hc
  obtain ⟨⟨hz, hx⟩, hy⟩ := hc
  have hz' := cast_ne_zero hz
  obtain ⟨ex, ey⟩ := h hz'
  have hx' := congrArg (fun n : Nat => (n : Fp)) hx
  have hy' := congrArg (fun n : Nat => (n : Fp)) hy
  simp only [cast_mod, cast_mul] at hx' hy'
  refine point_ext hPx hPy hRx hRy (mul_right_cancel₀ hz' ?_) (mul_right_cancel₀ hz' ?_)
  · rw [← ex, hx']
  · rw [← ey, hy']

def isPrecomp (T : PPoint) (v : Nat × Nat × Nat) : Bool :=
  T.Z % p != 0 && (Field25519.mul v.1 T.Z == Field25519.add T.Y T.X) &&
    (Field25519.mul v.2.1 T.Z == Field25519.sub T.Y T.X) &&
    (Field25519.mul v.2.2 (Field25519.mul T.Z T.Z) == Field25519.mul Field25519.edwardsD2 (Field25519.mul T.X T.Y))

theorem Rep.precomp_eq {T : PPoint} {P : Point} {v : Nat × Nat × Nat} (hT : Rep T P) (h1 : v.1 < p)
    (h2 : v.2.1 < p) (h3 : v.2.2 < p) (h : isPrecomp T v = true) : v = Edwards.precomp P := by
  simp only [isPrecomp, Bool.and_eq_true, bne_iff_ne, beq_iff_eq] at h
  obtain ⟨⟨⟨hz, c1⟩, c2⟩, c3⟩ := h
  have hz' := cast_ne_zero hz
  obtain ⟨ex, ey⟩ := hT hz'
  replace c1 := congrArg (fun n : Nat => (n : Fp)) c1
  replace c2 := congrArg (fun n : Nat => (n : Fp)) c2
  replace c3 := congrArg (fun n : Nat => (n : Fp)) c3
  simp only [cast_mul, cast_add, cast_sub, ex, ey] at c1 c2 c3
  unfold Edwards.precomp
  refine Prod.ext ?_ (Prod.ext ?_ ?_)
  · refine (cast_inj h1 (add_lt _ _)).1 (mul_right_cancel₀ hz' ?_)
    rw [c1, cast_add]; ring
  · refine (cast_inj h2 (sub_lt _ _)).1 (mul_right_cancel₀ hz' ?_)
    rw [c2, cast_sub]; ring
  · refine (cast_inj h3 (mul_lt _ _)).1 (mul_right_cancel₀ (mul_ne_zero hz' hz') ?_)
    rw [c3, cast_mul, cast_mul]; ring

end prime

theorem smulAux_lt : ∀ (f n : Nat) (P Q : Point), Q.x < p ∧ Q.y < p →
    (smulAux f n P Q).x < p ∧ (smulAux f n P Q).y < p
  | 0, _, _, _, h => h
  | f + 1, n, P, Q, h => by
    unfold smulAux
    split
    · exact h
    · refine smulAux_lt f _ _ _ ?_
      split
      · exact ⟨add_x_lt _ _, add_y_lt _ _⟩
      · exact h

theorem smul_lt (n : Nat) (P : Point) : (smul n P).x < p ∧ (smul n P).y < p :=
  smulAux_lt n n P zero zero_lt

end Cx.Proofs.EdProj
