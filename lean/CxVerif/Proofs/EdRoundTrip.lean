/-
  Proofs.EdRoundTrip — COMPLETENESS of point decoding (RFC 8032 §5.1.3) on edwards25519: every curve point is
  recovered from its §5.1.2 encoding by the lenient decoder the crate implements (`decode_encode`; the square-root step
  `recoverX_complete` also serves the strict decoder of the RFC, Props/C15/RoundTrip.lean `decodeStrict_encode`), and the
  round trips of the 64-bit `Ge::to_bytes` / `Ge::from_bytes`.  (Soundness — an accepted string yields a curve point — is
  Proofs/GeDecode.lean.)

  The classical argument for p ≡ 5 (mod 8): for a curve point (x, y) put u = y² − 1, v = d·y² + 1.  The curve
  equation says u = x²·v, and v ≠ 0 because d is not a square.  With w = u·v⁷ = (x·v⁴)² and the candidate
  β = u·v³·w^((p−5)/8) one has v·β² = u·w^((p−1)/4), and w^((p−1)/4) = (x·v⁴)^((p−1)/2) squares to 1 (Fermat), hence
  is ±1: so v·β² = ±u, the decoder takes β resp. β·√−1, whose square is x², i.e. the root is ±x, and the final
  parity selection returns the one with the parity of x — x itself (p is odd; for x = 0 both roots are 0).

  Only `Nat.Prime p` is used (instance `Fact`, a theorem: Proofs/Prime25519.lean).
-/
import CxVerif.Proofs.GeDecode
import CxVerif.Proofs.GeBytes
namespace Cx.Proofs.EdRoundTrip
open Cx.Spec Cx.Proofs.EdField Cx.Proofs.EdSpec Cx.Proofs.GeDecode
open Cx.Spec.Field25519 (p)

theorem p_lt_255 : p < 2 ^ 255 := by decide
theorem p_odd : p % 2 = 1 := by decide

theorem leNat_encode (P : Edwards.Point) (hx : P.x < p) (hy : P.y < p) :
    leNat (Edwards.encode P) = P.y + 2 ^ 255 * (P.x % 2) := by
  unfold Edwards.encode
  rw [Proofs.Bytes.leNat_natToLE, edp, Nat.mod_eq_of_lt hx, Nat.mod_eq_of_lt hy]
  have := p_lt_255
  have h2 : P.x % 2 < 2 := Nat.mod_lt _ (by decide)
  apply Nat.mod_eq_of_lt
  have e : (256 : Nat) ^ 32 = 2 ^ 255 * 2 := by decide
  rw [e]
  generalize (2 : Nat) ^ 255 = K at *
  have : K * (P.x % 2) ≤ K * 1 := Nat.mul_le_mul_left _ (by omega)
  omega

theorem splitEncoding_encode (P : Edwards.Point) (hx : P.x < p) (hy : P.y < p) :
    Edwards.splitEncoding (Edwards.encode P) = (P.y, P.x % 2 == 1) := by
  have hy' := Nat.lt_trans hy p_lt_255
  unfold Edwards.splitEncoding
  rw [leNat_encode P hx hy, Nat.add_mul_mod_self_left, Nat.mod_eq_of_lt hy',
    Nat.add_mul_div_left _ _ (by decide : 0 < 2 ^ 255), Nat.div_eq_of_lt hy', Nat.zero_add, Nat.mod_mod]

theorem neg_of_pos {x : Nat} (hx : x < p) (h0 : x ≠ 0) : Field25519.neg x = p - x := by
  unfold Field25519.neg
  rw [Nat.mod_eq_of_lt hx]
  apply Nat.mod_eq_of_lt
  omega

theorem neg_zero : Field25519.neg 0 = 0 := by decide

theorem exp_quarter : (p - 1) / 4 = (p - 5) / 8 * 2 + 1 := by decide

section prime
variable [hp : Fact (Nat.Prime p)]

theorem fixS_root (x r : Nat) (hx : x < p) (hr : r < p) (h : (r : Fp) ^ 2 = (x : Fp) ^ 2) :
    fixS (x % 2 == 1) r = some x := by
  have hfac : ((r : Fp) - (x : Fp)) * ((r : Fp) + (x : Fp)) = 0 := by linear_combination h
  have hsame : r = x → fixS (x % 2 == 1) r = some x := by
    intro e; subst e
    exact fixS_neg _ _ (by simp)
  rcases mul_eq_zero.1 hfac with h1 | h1
  · exact hsame ((cast_inj hr hx).1 (sub_eq_zero.1 h1))
  · have hneg : r = Field25519.neg x := by
      rw [← cast_inj hr (neg_lt _), cast_neg]
      exact eq_neg_of_add_eq_zero_left h1
    by_cases h0 : x = 0
    · subst h0; rw [neg_zero] at hneg; exact hsame hneg
    · rw [neg_of_pos hx h0] at hneg
      -- `r = p − x` with `p` odd: the parities differ, so `fixS` negates back
      have hodd := p_odd
      have hpar : ((r % 2 == 1) != (x % 2 == 1)) = true := by
        rcases Nat.mod_two_eq_zero_or_one x with a | a
        · rw [a, show r % 2 = 1 by omega]; rfl
        · rw [a, show r % 2 = 0 by omega]; rfl
      rw [fixS_pos _ _ hpar, neg_of_pos hr (by omega), hneg, Nat.sub_sub_self (Nat.le_of_lt hx)]

theorem candidate_sq {X U V β : Fp} (hU : U = X ^ 2 * V) (hV : V ≠ 0)
    (hβ : β = U * V ^ 3 * (U * V ^ 7) ^ ((p - 5) / 8)) : V * β ^ 2 = U ∨ V * β ^ 2 = -U := by
  by_cases hX : X = 0
  · left
    have : U = 0 := by rw [hU, hX]; ring
    rw [hβ, this]; ring
  · set w : Fp := U * V ^ 7 with hw
    set z : Fp := X * V ^ 4 with hz
    have hz0 : z ≠ 0 := mul_ne_zero hX (pow_ne_zero _ hV)
    have hwz : w = z ^ 2 := by rw [hw, hz, hU]; ring
    have ht2 : (w ^ ((p - 1) / 4)) ^ 2 = 1 := by
      rw [hwz, ← pow_mul, ← pow_mul, show 2 * ((p - 1) / 4 * 2) = p - 1 by decide]
      exact ZMod.pow_card_sub_one_eq_one hz0
    have hkey : V * β ^ 2 = U * w ^ ((p - 1) / 4) := by
      rw [hβ, exp_quarter, pow_succ w, pow_mul]
      generalize w ^ ((p - 5) / 8) = q
      rw [hw]; ring
    rw [hkey]
    have hfac : (w ^ ((p - 1) / 4) - 1) * (w ^ ((p - 1) / 4) + 1) = 0 := by linear_combination ht2
    rcases mul_eq_zero.1 hfac with h1 | h1
    · left; rw [sub_eq_zero.1 h1]; ring
    · right; rw [eq_neg_of_add_eq_zero_left h1]; ring

theorem v_ne_zero (Y : Fp) : dF * (Y * Y) + 1 ≠ 0 := by
  intro h
  have hY : Y ≠ 0 := by
    intro e; rw [e] at h
    have : (1 : Fp) = 0 := by linear_combination h
    exact one_ne_zero this
  apply d_nonsquare (((Field25519.sqrtM1 : Nat) : Fp) / Y)
  have : dF = -1 / (Y * Y) := by
    rw [eq_div_iff (mul_ne_zero hY hY)]; linear_combination h
  show _ = dF
  rw [this, div_pow, sqrtM1_sq]; ring

theorem recoverX_complete (P : Edwards.Point) (hP : OnCurve P) :
    Edwards.recoverX P.y (P.x % 2 == 1) = some P.x := by
  obtain ⟨hx, hy, hc⟩ := (onCurve_iff P).1 hP
  obtain ⟨x, y⟩ := P
  simp only at hx hy hc ⊢
  obtain ⟨u, hu⟩ : ∃ u, u = Field25519.sub (Field25519.mul y y) 1 := ⟨_, rfl⟩
  obtain ⟨v, hv⟩ : ∃ v, v = Field25519.add (Field25519.mul Edwards.d (Field25519.mul y y)) 1 := ⟨_, rfl⟩
  obtain ⟨x0, hx0⟩ : ∃ x0, x0 = Field25519.mul (Field25519.mul u (Field25519.mul (Field25519.mul v v) v))
      (Field25519.pow25523 (Field25519.mul u (Field25519.mul (Field25519.mul (Field25519.mul (Field25519.mul v v) v)
        (Field25519.mul (Field25519.mul v v) v)) v))) := ⟨_, rfl⟩
  obtain ⟨vxx, hvxx⟩ : ∃ vxx, vxx = Field25519.mul v (Field25519.mul x0 x0) := ⟨_, rfl⟩
  rw [recoverX_eq y (x % 2 == 1) u v x0 vxx hu hv hx0 hvxx]
  have cu : (u : Fp) = (y : Fp) * (y : Fp) - 1 := by rw [hu, cast_sub, cast_mul, Nat.cast_one]
  have cv : (v : Fp) = dF * ((y : Fp) * (y : Fp)) + 1 := by
    rw [hv, cast_add, cast_mul, cast_mul, Nat.cast_one]; rfl
  have cx0 : (x0 : Fp) = (u : Fp) * (v : Fp) ^ 3 * ((u : Fp) * (v : Fp) ^ 7) ^ ((p - 5) / 8) := by
    rw [hx0]; unfold Field25519.pow25523
    simp only [cast_mul, cast_pow]; ring
  have cvxx : (vxx : Fp) = (v : Fp) * (x0 : Fp) ^ 2 := by rw [hvxx, cast_mul, cast_mul, pow_two]
  have hvxx_lt : vxx < p := hvxx ▸ mul_lt _ _
  have hV : (v : Fp) ≠ 0 := by rw [cv]; exact v_ne_zero _
  have hU : (u : Fp) = (x : Fp) ^ 2 * (v : Fp) := by
    rw [cu, cv]; unfold EdAlg.OnCurve at hc; linear_combination hc
  -- a value whose square times `v` is `u = x²·v` is a square root of `x²`, and `fixS` picks `x` among the two
  have root : ∀ r : Nat, r < p → (v : Fp) * (r : Fp) ^ 2 = (u : Fp) → fixS (x % 2 == 1) r = some x := fun r hr h =>
    fixS_root x r hx hr (mul_left_cancel₀ hV (by rw [h, hU]; ring))
  by_cases e1 : vxx = u % p
  · rw [if_pos e1]
    exact root x0 (hx0 ▸ mul_lt _ _) (by rw [← cvxx, e1, cast_mod])
  · -- `v·β² = u` would take the first branch, so `v·β² = −u` and `β·√−1` is the root
    have h2 : (v : Fp) * (x0 : Fp) ^ 2 = -(u : Fp) := (candidate_sq hU hV cx0).resolve_left fun h1 =>
      e1 (by rw [Nat.mod_eq_of_lt (hu ▸ sub_lt _ _), ← cast_inj hvxx_lt (hu ▸ sub_lt _ _), cvxx, h1])
    have e2 : vxx = Field25519.neg u := by rw [← cast_inj hvxx_lt (neg_lt _), cast_neg, cvxx, h2]
    rw [if_neg e1, if_pos e2]
    refine root _ (mul_lt _ _) ?_
    rw [cast_mul, mul_pow, sqrtM1_sq]
    linear_combination -h2

theorem decode_encode (P : Edwards.Point) (hP : OnCurve P) : Edwards.decode (Edwards.encode P) = some P := by
  obtain ⟨hx, hy, _⟩ := (onCurve_iff P).1 hP
  unfold Edwards.decode
  rw [if_pos (show (Edwards.encode P).length = 32 from Proofs.Bytes.natToLE_length _ _), splitEncoding_encode P hx hy]
  dsimp only
  rw [Nat.mod_eq_of_lt (show P.y < Edwards.p from hy), recoverX_complete P hP]
  rfl

theorem encode_injective_on_curve (P Q : Edwards.Point) (hP : OnCurve P) (hQ : OnCurve Q)
    (h : Edwards.encode P = Edwards.encode Q) : P = Q := by
  have h1 := decode_encode P hP
  rw [h, decode_encode Q hQ] at h1
  exact (Option.some.inj h1).symm

open Cx.Impl.Ge Cx.Proofs.GeRefine

theorem from_bytes_of_decode (s : Bytes) (hs : s.length = 32) (P : Edwards.Point) (hd : Edwards.decode s = some P) :
    OnCurve P ∧ ∃ g, Ge.from_bytes s = some (some g) ∧ GeOk g P := by
  rcases from_bytes_cases s hs with ⟨hn, _⟩ | ⟨Q, g, hq, hQ, e, ok⟩
  · rw [hn] at hd; cases hd
  · cases hq.symm.trans hd; exact ⟨hQ, g, e, ok⟩

theorem from_bytes_of_decode_none (s : Bytes) (hs : s.length = 32) (hd : Edwards.decode s = none) :
    Ge.from_bytes s = some none := by
  rcases from_bytes_cases s hs with ⟨_, e⟩ | ⟨Q, g, hq, _⟩
  · exact e
  · rw [hd] at hq; cases hq

theorem from_bytes_to_bytes (g : Ge) (P : Edwards.Point) (h : GeOk g P) (hP : OnCurve P) :
    ∃ b g', g.to_bytes = some b ∧ b = Edwards.encode P ∧ Ge.from_bytes b = some (some g') ∧ GeOk g' P := by
  obtain ⟨hx, hy, _⟩ := (onCurve_iff P).1 hP
  obtain ⟨_, g', e, ok⟩ := from_bytes_of_decode (Edwards.encode P) (Proofs.Bytes.natToLE_length _ _) P (decode_encode P hP)
  exact ⟨Edwards.encode P, g', Proofs.GeBytes.ge_to_bytes_ok g P h hx hy, rfl, e, ok⟩

/-- `from_bytes` then `to_bytes`: an accepted 32-byte string `s` is re-encoded to the canonical encoding of the
    point it denotes (`= s` exactly when `s` is canonical) -/
theorem to_bytes_from_bytes (s : Bytes) (hs : s.length = 32) (g : Ge) (h : Ge.from_bytes s = some (some g)) :
    ∃ P, Edwards.decode s = some P ∧ OnCurve P ∧ GeOk g P ∧ g.to_bytes = some (Edwards.encode P) := by
  cases hd : Edwards.decode s with
  | none =>
    rw [from_bytes_of_decode_none s hs hd] at h; cases h
  | some P =>
    obtain ⟨hP, g', e, ok⟩ := from_bytes_of_decode s hs P hd
    rw [e] at h
    have : g' = g := Option.some.inj (Option.some.inj h)
    subst this
    obtain ⟨hx, hy, _⟩ := (onCurve_iff P).1 hP
    exact ⟨P, rfl, hP, ok, Proofs.GeBytes.ge_to_bytes_ok g' P ok hx hy⟩

end prime

end Cx.Proofs.EdRoundTrip
