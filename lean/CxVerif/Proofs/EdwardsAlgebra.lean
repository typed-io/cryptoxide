/-
  Proofs.EdwardsAlgebra — the algebra of the twisted Edwards curve −x² + y² = 1 + d·x²·y² over an arbitrary
  field `F`: the affine addition law, the projective representations used by ge.rs (extended `Ge`, completed
  `GeP1P1`, `GeCached`, `GePrecomp`) and the statement that the code's formulas compute the affine law on the
  represented points.  Pure field identities (`field_simp`/`ring`/`linear_combination`); no limbs here.

  Completeness (`denoms_ne_zero`): for points ON the curve the denominators 1 ± d·x1·x2·y1·y2 do not vanish when
  `d` is not a square and −1 is a square in `F` (Bernstein–Lange; both facts hold in GF(2^255−19) and are
  hypotheses here).
-/
import Mathlib.Tactic.Ring
import Mathlib.Tactic.FieldSimp
import Mathlib.Tactic.LinearCombination
namespace Cx.Proofs.EdAlg

variable {F : Type} [Field F]

def OnCurve (d x y : F) : Prop := -x^2 + y^2 = 1 + d * x^2 * y^2

def addX (d x1 y1 x2 y2 : F) : F := (x1 * y2 + x2 * y1) / (1 + d * x1 * x2 * y1 * y2)
def addY (d x1 y1 x2 y2 : F) : F := (y1 * y2 + x1 * x2) / (1 - d * x1 * x2 * y1 * y2)

/-- `(X : Y : Z : T)` represents the affine point `(x, y)` in extended coordinates -/
structure RepExt (X Y Z T x y : F) : Prop where
  z_ne : Z ≠ 0
  hx : X = x * Z
  hy : Y = y * Z
  ht : T = x * y * Z

/-- `(X : Y : Z)` represents `(x, y)` (a `GePartial`) -/
structure RepProj (X Y Z x y : F) : Prop where
  z_ne : Z ≠ 0
  hx : X = x * Z
  hy : Y = y * Z

/-- completed coordinates of `GeP1P1`: `x = X/Z`, `y = Y/T` -/
structure RepP1P1 (X Y Z T x y : F) : Prop where
  z_ne : Z ≠ 0
  t_ne : T ≠ 0
  hx : X = x * Z
  hy : Y = y * T

/-- `GeCached { y_plus_x, y_minus_x, z, t2d }` of `(x, y)` -/
structure RepCached (d YpX YmX Z T2d x y : F) : Prop where
  z_ne : Z ≠ 0
  hp : YpX = (y + x) * Z
  hm : YmX = (y - x) * Z
  ht : T2d = 2 * d * x * y * Z

/-- `GePrecomp { y_plus_x, y_minus_x, xy2d }` of `(x, y)` (affine: Z = 1) -/
structure RepPrecomp (d YpX YmX XY2d x y : F) : Prop where
  hp : YpX = y + x
  hm : YmX = y - x
  ht : XY2d = 2 * d * x * y

theorem RepExt.toProj {X Y Z T x y : F} (h : RepExt X Y Z T x y) : RepProj X Y Z x y := ⟨h.z_ne, h.hx, h.hy⟩

theorem p1p1_to_full {X Y Z T x y : F} (h : RepP1P1 X Y Z T x y) :
    RepExt (X * T) (Y * Z) (Z * T) (X * Y) x y := by
  obtain ⟨hz, ht, hx, hy⟩ := h
  refine ⟨mul_ne_zero hz ht, ?_, ?_, ?_⟩ <;> subst hx hy <;> ring

theorem p1p1_to_partial {X Y Z T x y : F} (h : RepP1P1 X Y Z T x y) :
    RepProj (X * T) (Y * Z) (Z * T) x y := (p1p1_to_full h).toProj

/-- `Ge::to_cached` (`D2 = 2d`) -/
theorem to_cached {d X Y Z T x y : F} (h : RepExt X Y Z T x y) :
    RepCached d (Y + X) (Y - X) Z (T * (2 * d)) x y := by
  obtain ⟨hz, hx, hy, ht⟩ := h
  refine ⟨hz, ?_, ?_, ?_⟩ <;> subst hx hy ht <;> ring

theorem precomp_as_cached {d a b c x y : F} (h : RepPrecomp d a b c x y) : RepCached d a b 1 c x y := by
  obtain ⟨hp, hm, ht⟩ := h
  exact ⟨one_ne_zero, by rw [hp]; ring, by rw [hm]; ring, by rw [ht]; ring⟩

theorem from_affine (x y : F) : RepExt x y 1 (x * y) x y := ⟨one_ne_zero, by ring, by ring, by ring⟩

theorem negate {X Y Z T x y : F} (h : RepExt X Y Z T x y) : RepExt (-X) Y Z (-T) (-x) y := by
  obtain ⟨hz, hx, hy, ht⟩ := h
  exact ⟨hz, by rw [hx]; ring, hy, by rw [ht]; ring⟩

/-- the negated precomputed entry built inside `GePrecomp::select` -/
theorem precomp_neg {d a b c x y : F} (h : RepPrecomp d a b c x y) : RepPrecomp d b a (-c) (-x) y := by
  obtain ⟨hp, hm, ht⟩ := h
  exact ⟨by rw [hm]; ring, by rw [hp]; ring, by rw [ht]; ring⟩

theorem precomp_zero (d : F) : RepPrecomp d 1 1 0 0 1 := ⟨by ring, by ring, by ring⟩

theorem ext_zero : RepExt (0 : F) 1 1 0 0 1 := ⟨one_ne_zero, by ring, by ring, by ring⟩

theorem scaled {num den c a : F} (h : den ≠ 0) (ha : a = c * num) : a = num / den * (c * den) := by
  rw [ha]; field_simp

/-- `impl Add<&GeCached> for &Ge`: the formulas `A = (Y1+X1)·ypx, B = (Y1−X1)·ymx, C = t2d·T1, D = 2·Z1·Z2`,
    `X3 = A−B, Y3 = A+B, Z3 = D+C, T3 = D−C` give the affine sum, when the two denominators do not vanish -/
theorem add_cached {d X1 Y1 Z1 T1 x1 y1 P M Z2 T2 x2 y2 : F} (h2 : (2 : F) ≠ 0)
    (h : RepExt X1 Y1 Z1 T1 x1 y1) (c : RepCached d P M Z2 T2 x2 y2)
    (hp : 1 + d * x1 * x2 * y1 * y2 ≠ 0) (hm : 1 - d * x1 * x2 * y1 * y2 ≠ 0) :
    RepP1P1 ((Y1 + X1) * P - (Y1 - X1) * M) ((Y1 + X1) * P + (Y1 - X1) * M)
      (Z1 * Z2 + Z1 * Z2 + T2 * T1) (Z1 * Z2 + Z1 * Z2 - T2 * T1)
      (addX d x1 y1 x2 y2) (addY d x1 y1 x2 y2) := by
  obtain ⟨hz1, hx1, hy1, ht1⟩ := h
  obtain ⟨hz2, hP, hM, hT2⟩ := c
  subst hx1 hy1 ht1 hP hM hT2
  have e1 : Z1 * Z2 + Z1 * Z2 + 2 * d * x2 * y2 * Z2 * (x1 * y1 * Z1) = 2 * Z1 * Z2 * (1 + d * x1 * x2 * y1 * y2) := by ring
  have e2 : Z1 * Z2 + Z1 * Z2 - 2 * d * x2 * y2 * Z2 * (x1 * y1 * Z1) = 2 * Z1 * Z2 * (1 - d * x1 * x2 * y1 * y2) := by ring
  refine ⟨?_, ?_, ?_, ?_⟩
  · rw [e1]; exact mul_ne_zero (mul_ne_zero (mul_ne_zero h2 hz1) hz2) hp
  · rw [e2]; exact mul_ne_zero (mul_ne_zero (mul_ne_zero h2 hz1) hz2) hm
  · rw [e1, addX]; exact scaled hp (by ring)
  · rw [e2, addY]; exact scaled hm (by ring)

/-- `impl Sub<&GeCached> for &Ge`: adds `(−x2, y2)` -/
theorem sub_cached {d X1 Y1 Z1 T1 x1 y1 P M Z2 T2 x2 y2 : F} (h2 : (2 : F) ≠ 0)
    (h : RepExt X1 Y1 Z1 T1 x1 y1) (c : RepCached d P M Z2 T2 x2 y2)
    (hp : 1 + d * x1 * (-x2) * y1 * y2 ≠ 0) (hm : 1 - d * x1 * (-x2) * y1 * y2 ≠ 0) :
    RepP1P1 ((Y1 + X1) * M - (Y1 - X1) * P) ((Y1 + X1) * M + (Y1 - X1) * P)
      (Z1 * Z2 + Z1 * Z2 - T2 * T1) (Z1 * Z2 + Z1 * Z2 + T2 * T1)
      (addX d x1 y1 (-x2) y2) (addY d x1 y1 (-x2) y2) := by
  have c' : RepCached d M P Z2 (-T2) (-x2) y2 := by
    obtain ⟨hz2, hP, hM, hT2⟩ := c
    exact ⟨hz2, by rw [hM]; ring, by rw [hP]; ring, by rw [hT2]; ring⟩
  have := add_cached h2 h c' hp hm
  have e1 : Z1 * Z2 + Z1 * Z2 + -T2 * T1 = Z1 * Z2 + Z1 * Z2 - T2 * T1 := by ring
  have e2 : Z1 * Z2 + Z1 * Z2 - -T2 * T1 = Z1 * Z2 + Z1 * Z2 + T2 * T1 := by ring
  rw [e1, e2] at this
  exact this

/-- `double_p1p1` (`XX = X², YY = Y², B = 2Z², AA = (X+Y)²`, `Y3 = YY+XX, Z3 = YY−XX, X3 = AA−Y3, T3 = B−Z3`)
    is the affine doubling for a point ON the curve -/
theorem double_p1p1 {d X Y Z x y : F} (h : RepProj X Y Z x y) (hc : OnCurve d x y)
    (hp : 1 + d * x * x * y * y ≠ 0) (hm : 1 - d * x * x * y * y ≠ 0) :
    RepP1P1 ((X + Y) * (X + Y) - (Y * Y + X * X)) (Y * Y + X * X) (Y * Y - X * X)
      (2 * (Z * Z) - (Y * Y - X * X)) (addX d x y x y) (addY d x y x y) := by
  obtain ⟨hz, hx, hy⟩ := h
  subst hx hy
  unfold OnCurve at hc
  have e1 : y * Z * (y * Z) - x * Z * (x * Z) = Z * Z * (1 + d * x * x * y * y) := by
    linear_combination (Z * Z) * hc
  have e2 : 2 * (Z * Z) - (y * Z * (y * Z) - x * Z * (x * Z)) = Z * Z * (1 - d * x * x * y * y) := by
    linear_combination (-(Z * Z)) * hc
  refine ⟨?_, ?_, ?_, ?_⟩
  · rw [e1]; exact mul_ne_zero (mul_ne_zero hz hz) hp
  · rw [e2]; exact mul_ne_zero (mul_ne_zero hz hz) hm
  · rw [e1, addX]; exact scaled hp (by ring)
  · rw [e2, addY]; exact scaled hm (by ring)

theorem denoms_ne_zero {d i x1 y1 x2 y2 : F} (h2ne : (2 : F) ≠ 0) (hi : i ^ 2 = -1) (hd : ∀ r : F, r ^ 2 ≠ d)
    (h1 : OnCurve d x1 y1) (h2 : OnCurve d x2 y2) :
    1 + d * x1 * x2 * y1 * y2 ≠ 0 ∧ 1 - d * x1 * x2 * y1 * y2 ≠ 0 := by
  unfold OnCurve at h1 h2
  -- ε := d·x1·x2·y1·y with ε² = 1 and i·x2 + y ≠ 0 would make d the square of (i·x1 + ε·y1)/(x1·y1·(i·x2 + y))
  have key : ∀ y e : F, -x2 ^ 2 + y ^ 2 = 1 + d * x2 ^ 2 * y ^ 2 → e = d * x1 * x2 * y1 * y → e ^ 2 = 1 →
      i * x2 + y ≠ 0 → False := by
    intro y e h2 he hee ha
    have hne : e ≠ 0 := by intro h0; rw [h0] at hee; simp at hee
    have hx1 : x1 ≠ 0 := by intro h0; apply hne; rw [he, h0]; ring
    have hy1 : y1 ≠ 0 := by intro h0; apply hne; rw [he, h0]; ring
    have k : d * (x1 * y1 * (i * x2 + y)) ^ 2 = (i * x1 + e * y1) ^ 2 := by
      subst he
      linear_combination (d * x1 ^ 2 * y1 ^ 2 * x2 ^ 2 - x1 ^ 2) * hi + (d * x1 ^ 2 * y1 ^ 2) * h2 + (1 - y1 ^ 2) * hee - h1
    have hq : x1 * y1 * (i * x2 + y) ≠ 0 := mul_ne_zero (mul_ne_zero hx1 hy1) ha
    apply hd ((i * x1 + e * y1) / (x1 * y1 * (i * x2 + y)))
    rw [div_pow, ← k]; field_simp
  -- one of (x2, y2), (x2, −y2) has i·x2 + y ≠ 0, unless y2 = 0 (and then ε = 0)
  have key' : ∀ e : F, e = d * x1 * x2 * y1 * y2 → e ^ 2 = 1 → False := by
    intro e he hee
    by_cases ha : i * x2 + y2 = 0
    · refine key (-y2) (-e) (by linear_combination h2) (by rw [he]; ring) (by linear_combination hee) fun hb => ?_
      have hy2 : y2 = 0 := (mul_eq_zero.mp (show (2 : F) * y2 = 0 by linear_combination ha - hb)).resolve_left h2ne
      rw [he, hy2] at hee; simp at hee
    · exact key y2 e h2 he hee ha
  exact ⟨fun h => key' (-1) (by linear_combination -h) (by ring), fun h => key' 1 (by linear_combination h) (by ring)⟩

end Cx.Proofs.EdAlg
