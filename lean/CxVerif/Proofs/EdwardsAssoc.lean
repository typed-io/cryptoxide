/-
  Proofs.EdwardsAssoc — GENERATED by tools/ed_assoc_cofactors.py (do not edit by hand; re-run the script).

  The three polynomial identities behind the group law of the twisted Edwards curve
      −x² + y² = 1 + d·x²·y²
  in an arbitrary commutative ring: with  A = x1·y2 + x2·y1,  B = y1·y2 + x1·x2,  T = d·x1·x2·y1·y2  (so that
  P1 + P2 = (A/(1+T), B/(1−T))) and the analogous A', B', T' for P2 + P3,

  * `closed_poly`   −(A(1−T))² + (B(1+T))² = ((1+T)(1−T))² + d·A²·B²           (the sum is on the curve)
  * `assoc_x_poly`  NxL · DxR = NxR · DxL     where x((P1+P2)+P3) = NxL/DxL, x(P1+(P2+P3)) = NxR/DxR
  * `assoc_y_poly`  NyL · DyR = NyR · DyL     the same for y
  hold modulo the curve equations of the points involved.  The right sides are written as `(P2 + P3) + P1` (the left sides
  with the roles of P1 and P3 exchanged), so that one set of fraction lemmas rewrites both sides in
  Proofs/EdwardsGroupLaw.lean.  Each identity is closed by `linear_combination` with explicit
  cofactor polynomials (computed by multivariate division in sympy; Lean checks the resulting ring identity).
-/
import Mathlib.Tactic.LinearCombination
namespace Cx.Proofs.EdAssoc

variable {R : Type} [CommRing R]

/-- closure: the cleared-denominator curve equation of `P1 + P2` -/
theorem closed_poly (d x1 y1 x2 y2 A B P M : R)
    (hA : A = x1 * y2 + x2 * y1) (hB : B = y1 * y2 + x1 * x2)
    (hP : P = 1 + d * x1 * x2 * y1 * y2) (hM : M = 1 - d * x1 * x2 * y1 * y2)
    (h1 : -x1^2 + y1^2 = 1 + d * x1^2 * y1^2) (h2 : -x2^2 + y2^2 = 1 + d * x2^2 * y2^2) :
    -(A * M)^2 + (B * P)^2 = (P * M)^2 + d * A^2 * B^2 := by
  subst hA hB hP hM
  linear_combination (exp := 1)
    (d^3*x1^2*x2^4*y1^2*y2^4 - d^2*x1^2*x2^4*y2^4 + d^2*x2^4*y1^2*y2^4 - d^2*x2^4*y2^4 - d*x1^2*x2^4*y2^2
      + d*x1^2*x2^2*y2^4 + d*x2^4*y1^2*y2^2 - 2*d*x2^4*y2^4 - d*x2^2*y1^2*y2^4 - 2*d*x2^2*y2^2 -
      2*x2^4*y2^2 + x2^4 + 2*x2^2*y2^4 - 4*x2^2*y2^2 + y2^4) * h1 +
    (d*x1^4*x2^2*y2^2 + 2*d*x1^2*x2^2*y2^2 + d*x2^2*y1^4*y2^2 - 2*d*x2^2*y1^2*y2^2 + d*x2^2*y2^2 +
      2*x1^2*x2^2*y2^2 - x1^2*x2^2 + x1^2*y2^2 - 2*x2^2*y1^2*y2^2 + x2^2*y1^2 + 2*x2^2*y2^2 - x2^2 -
      y1^2*y2^2 + y2^2 + 1) * h2

/-- associativity, x-coordinate (cross-multiplied) -/
theorem assoc_x_poly (d x1 y1 x2 y2 x3 y3 A B P M A' B' P' M' : R)
    (hA : A = x1 * y2 + x2 * y1) (hB : B = y1 * y2 + x1 * x2)
    (hP : P = 1 + d * x1 * x2 * y1 * y2) (hM : M = 1 - d * x1 * x2 * y1 * y2)
    (hA' : A' = x2 * y3 + x3 * y2) (hB' : B' = y2 * y3 + x2 * x3)
    (hP' : P' = 1 + d * x2 * x3 * y2 * y3) (hM' : M' = 1 - d * x2 * x3 * y2 * y3)
    (h1 : -x1^2 + y1^2 = 1 + d * x1^2 * y1^2) (h2 : -x2^2 + y2^2 = 1 + d * x2^2 * y2^2)
    (h3 : -x3^2 + y3^2 = 1 + d * x3^2 * y3^2) :
    (A * M * y3 + x3 * (B * P)) * (P' * M' + d * A' * x1 * B' * y1)
      = (A' * M' * y1 + x1 * (B' * P')) * (P * M + d * A * x3 * B * y3) := by
  subst hA hB hP hM hA' hB' hP' hM'
  linear_combination (exp := 1)
    (-d*x2*y2*(d*x1*x2^3*x3^2*y2^2*y3 + d*x1*x2^2*x3*y2^3*y3^2 - d*x2^3*x3*y1*y2^2*y3^2 -
      d*x2^2*x3^2*y1*y2^3*y3 + x1*x2^3*x3^2*y3 + x1*x2^2*x3^3*y2 + x1*x2^2*x3*y2 - x1*x2*y2^2*y3^3 +
      x1*x2*y2^2*y3 - x1*x3*y2^3*y3^2 - x2^3*x3*y1*y3^2 - x2^2*y1*y2*y3^3 + x2^2*y1*y2*y3 +
      x2*x3^3*y1*y2^2 + x2*x3*y1*y2^2 + x3^2*y1*y2^3*y3)) * h1 +
    (d*x2*y2*(x1^3*x2*x3^2*y3 + x1^3*x3*y2*y3^2 - x1^2*x2*x3^3*y1 - x1^2*x2*x3*y1 - x1^2*y1*y2*y3^3 +
      x1^2*y1*y2*y3 + x1*x2*x3^2*y3 - x1*x2*y1^2*y3^3 + x1*x2*y1^2*y3 - x1*x3^3*y1^2*y2 - x1*x3*y1^2*y2 +
      x1*x3*y2*y3^2 + x2*x3*y1^3*y3^2 - x2*x3*y1*y3^2 + x3^2*y1^3*y2*y3 - x3^2*y1*y2*y3)) * h2 +
    (d*x2*y2*(d*x1^2*x2^3*x3*y1*y2^2 - d*x1^2*x2^2*y1*y2^3*y3 - d*x1*x2^3*y1^2*y2^2*y3 +
      d*x1*x2^2*x3*y1^2*y2^3 + x1^3*x2^2*x3*y2 + x1^3*x2*y2^2*y3 + x1^2*x2^3*x3*y1 + x1^2*y1*y2^3*y3 -
      x1*x2^3*y1^2*y3 + x1*x2^2*x3*y2 + x1*x2*y2^2*y3 - x1*x3*y1^2*y2^3 - x2^2*y1^3*y2*y3 + x2^2*y1*y2*y3
      - x2*x3*y1^3*y2^2 + x2*x3*y1*y2^2)) * h3

/-- associativity, y-coordinate (cross-multiplied) -/
theorem assoc_y_poly (d x1 y1 x2 y2 x3 y3 A B P M A' B' P' M' : R)
    (hA : A = x1 * y2 + x2 * y1) (hB : B = y1 * y2 + x1 * x2)
    (hP : P = 1 + d * x1 * x2 * y1 * y2) (hM : M = 1 - d * x1 * x2 * y1 * y2)
    (hA' : A' = x2 * y3 + x3 * y2) (hB' : B' = y2 * y3 + x2 * x3)
    (hP' : P' = 1 + d * x2 * x3 * y2 * y3) (hM' : M' = 1 - d * x2 * x3 * y2 * y3)
    (h1 : -x1^2 + y1^2 = 1 + d * x1^2 * y1^2) (h2 : -x2^2 + y2^2 = 1 + d * x2^2 * y2^2)
    (h3 : -x3^2 + y3^2 = 1 + d * x3^2 * y3^2) :
    (B * P * y3 + A * M * x3) * (P' * M' - d * A' * x1 * B' * y1)
      = (B' * P' * y1 + A' * M' * x1) * (P * M - d * A * x3 * B * y3) := by
  subst hA hB hP hM hA' hB' hP' hM'
  linear_combination (exp := 1)
    (d*x2*y2*(d*x1*x2^3*x3*y2^2*y3^2 + d*x1*x2^2*x3^2*y2^3*y3 - d*x2^3*x3^2*y1*y2^2*y3 -
      d*x2^2*x3*y1*y2^3*y3^2 + x1*x2^3*x3*y3^2 + x1*x2^2*y2*y3^3 - x1*x2^2*y2*y3 - x1*x2*x3^3*y2^2 -
      x1*x2*x3*y2^2 - x1*x3^2*y2^3*y3 - x2^3*x3^2*y1*y3 - x2^2*x3^3*y1*y2 - x2^2*x3*y1*y2 +
      x2*y1*y2^2*y3^3 - x2*y1*y2^2*y3 + x3*y1*y2^3*y3^2)) * h1 +
    (-d*x2*y2*(x1^3*x2*x3*y3^2 + x1^3*x3^2*y2*y3 - x1^2*x2*y1*y3^3 + x1^2*x2*y1*y3 - x1^2*x3^3*y1*y2 -
      x1^2*x3*y1*y2 - x1*x2*x3^3*y1^2 - x1*x2*x3*y1^2 + x1*x2*x3*y3^2 + x1*x3^2*y2*y3 - x1*y1^2*y2*y3^3 +
      x1*y1^2*y2*y3 + x2*x3^2*y1^3*y3 - x2*x3^2*y1*y3 + x3*y1^3*y2*y3^2 - x3*y1*y2*y3^2)) * h2 +
    (d*x2*y2*(d*x1^2*x2^3*y1*y2^2*y3 - d*x1^2*x2^2*x3*y1*y2^3 - d*x1*x2^3*x3*y1^2*y2^2 +
      d*x1*x2^2*y1^2*y2^3*y3 + x1^3*x2^2*y2*y3 + x1^3*x2*x3*y2^2 + x1^2*x2^3*y1*y3 + x1^2*x3*y1*y2^3 -
      x1*x2^3*x3*y1^2 + x1*x2^2*y2*y3 + x1*x2*x3*y2^2 - x1*y1^2*y2^3*y3 - x2^2*x3*y1^3*y2 + x2^2*x3*y1*y2
      - x2*y1^3*y2^2*y3 + x2*y1*y2^2*y3)) * h3

end Cx.Proofs.EdAssoc
