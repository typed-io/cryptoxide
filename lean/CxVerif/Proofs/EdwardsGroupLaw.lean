/-
  Proofs.EdwardsGroupLaw — the group law of edwards25519, PROVED: the curve −x² + y² = 1 + d·x²·y² is closed
  under the affine addition law of RFC 8032 and the addition is associative on curve points.  This discharges
  the hypothesis `EdSpec.EdwardsGroupLaw` of Proofs/EdwardsSpec.lean (only `Nat.Prime p` remains, as an
  instance argument).

  Field level (any field `F`): closure for curve points whose two denominators do not vanish (`closed_field`), and
  associativity for ALL curve points of a complete curve — `d` not a square, −1 a square, so that no denominator
  vanishes (`EdAlg.denoms_ne_zero`) — (`add_assoc_field`), from the polynomial identities of Proofs/EdwardsAssoc.lean
  (cofactors computed by tools/ed_assoc_cofactors.py, checked by `ring1`).  Spec level (`Spec.Edwards.Point`, `Nat`
  coordinates mod p): the same with `d` of edwards25519 and `sqrtM1` (`EdField.d_nonsquare`, `sqrtM1_sq`).
-/
import CxVerif.Proofs.EdwardsSpec
import CxVerif.Proofs.EdwardsAssoc
namespace Cx.Proofs.EdGroup
open Cx.Proofs.EdField Cx.Proofs.EdSpec
open Cx.Spec.Edwards (Point add)
open Cx.Spec.Field25519 (p)
open Cx.Proofs.EdAlg (addX addY)

section field
variable {F : Type} [Field F]

/-! generic fraction bookkeeping (`P`, `M` stand for the denominators `1 ± d·x1·x2·y1·y2`) -/

theorem curve_frac {a b P M k : F} (hP : P ≠ 0) (hM : M ≠ 0)
    (h : -(a * M) ^ 2 + (b * P) ^ 2 = (P * M) ^ 2 + k * a ^ 2 * b ^ 2) :
    -(a / P) ^ 2 + (b / M) ^ 2 = 1 + k * (a / P) ^ 2 * (b / M) ^ 2 := by
  field_simp
  linear_combination h

theorem num_x {a b P M u v : F} (hP : P ≠ 0) (hM : M ≠ 0) :
    a / P * u + v * (b / M) = (a * M * u + v * (b * P)) / (P * M) := by field_simp
theorem num_y {a b P M u v : F} (hP : P ≠ 0) (hM : M ≠ 0) :
    b / M * u + a / P * v = (b * P * u + a * M * v) / (P * M) := by field_simp
theorem den_p {a b P M u v k : F} (hP : P ≠ 0) (hM : M ≠ 0) :
    1 + k * (a / P) * v * (b / M) * u = (P * M + k * a * v * b * u) / (P * M) := by field_simp
theorem den_m {a b P M u v k : F} (hP : P ≠ 0) (hM : M ≠ 0) :
    1 - k * (a / P) * v * (b / M) * u = (P * M - k * a * v * b * u) / (P * M) := by field_simp
theorem addX_comm (d x1 y1 x2 y2 : F) : addX d x1 y1 x2 y2 = addX d x2 y2 x1 y1 := by
  unfold addX; congr 1 <;> ring
theorem addY_comm (d x1 y1 x2 y2 : F) : addY d x1 y1 x2 y2 = addY d x2 y2 x1 y1 := by
  unfold addY; congr 1 <;> ring

theorem frac_eq {n1 d1 c1 n2 d2 c2 : F} (hc1 : c1 ≠ 0) (hc2 : c2 ≠ 0)
    (hd1 : d1 / c1 ≠ 0) (hd2 : d2 / c2 ≠ 0) (h : n1 * d2 = n2 * d1) :
    n1 / c1 / (d1 / c1) = n2 / c2 / (d2 / c2) := by
  have h1 : d1 ≠ 0 := (div_ne_zero_iff.1 hd1).1
  have h2 : d2 ≠ 0 := (div_ne_zero_iff.1 hd2).1
  rw [div_div_div_cancel_right₀ hc1, div_div_div_cancel_right₀ hc2, div_eq_div_iff h1 h2]
  exact h

theorem closed_field {d x1 y1 x2 y2 : F} (h1 : EdAlg.OnCurve d x1 y1) (h2 : EdAlg.OnCurve d x2 y2)
    (hp : 1 + d * x1 * x2 * y1 * y2 ≠ 0) (hm : 1 - d * x1 * x2 * y1 * y2 ≠ 0) :
    EdAlg.OnCurve d (addX d x1 y1 x2 y2) (addY d x1 y1 x2 y2) := by
  unfold EdAlg.OnCurve at *
  unfold addX addY
  exact curve_frac hp hm (EdAssoc.closed_poly d x1 y1 x2 y2 _ _ _ _ rfl rfl rfl rfl h1 h2)

/-- all eight denominators are nonzero because the two inner sums are curve points again -/
theorem add_assoc_field {d i x1 y1 x2 y2 x3 y3 : F} (h2ne : (2 : F) ≠ 0) (hi : i ^ 2 = -1) (hd : ∀ r : F, r ^ 2 ≠ d)
    (h1 : EdAlg.OnCurve d x1 y1) (h2 : EdAlg.OnCurve d x2 y2) (h3 : EdAlg.OnCurve d x3 y3) :
    addX d (addX d x1 y1 x2 y2) (addY d x1 y1 x2 y2) x3 y3
      = addX d x1 y1 (addX d x2 y2 x3 y3) (addY d x2 y2 x3 y3) ∧
    addY d (addX d x1 y1 x2 y2) (addY d x1 y1 x2 y2) x3 y3
      = addY d x1 y1 (addX d x2 y2 x3 y3) (addY d x2 y2 x3 y3) := by
  obtain ⟨hp12, hm12⟩ := EdAlg.denoms_ne_zero h2ne hi hd h1 h2
  obtain ⟨hp23, hm23⟩ := EdAlg.denoms_ne_zero h2ne hi hd h2 h3
  obtain ⟨hpL, hmL⟩ := EdAlg.denoms_ne_zero h2ne hi hd (closed_field h1 h2 hp12 hm12) h3
  obtain ⟨hpR, hmR⟩ := EdAlg.denoms_ne_zero h2ne hi hd h1 (closed_field h2 h3 hp23 hm23)
  -- the right side as `(P2 + P3) + P1`: both sides then have the shape of `num_x`, `den_p` (`num_y`, `den_m`)
  rw [addX_comm d x1 y1 (addX d x2 y2 x3 y3), addY_comm d x1 y1 (addX d x2 y2 x3 y3)]
  have hpR' : 1 + d * addX d x2 y2 x3 y3 * x1 * addY d x2 y2 x3 y3 * y1 ≠ 0 := fun h => hpR (by linear_combination h)
  have hmR' : 1 - d * addX d x2 y2 x3 y3 * x1 * addY d x2 y2 x3 y3 * y1 ≠ 0 := fun h => hmR (by linear_combination h)
  unfold addX addY at hpL hmL hpR' hmR' ⊢
  rw [den_p hp12 hm12] at hpL
  rw [den_m hp12 hm12] at hmL
  rw [den_p hp23 hm23] at hpR'
  rw [den_m hp23 hm23] at hmR'
  rw [num_x hp12 hm12, den_p hp12 hm12, num_x hp23 hm23, den_p hp23 hm23,
    num_y hp12 hm12, den_m hp12 hm12, num_y hp23 hm23, den_m hp23 hm23]
  exact ⟨frac_eq (mul_ne_zero hp12 hm12) (mul_ne_zero hp23 hm23) hpL hpR'
      (EdAssoc.assoc_x_poly d x1 y1 x2 y2 x3 y3 _ _ _ _ _ _ _ _ rfl rfl rfl rfl rfl rfl rfl rfl h1 h2 h3),
    frac_eq (mul_ne_zero hp12 hm12) (mul_ne_zero hp23 hm23) hmL hmR'
      (EdAssoc.assoc_y_poly d x1 y1 x2 y2 x3 y3 _ _ _ _ _ _ _ _ rfl rfl rfl rfl rfl rfl rfl rfl h1 h2 h3)⟩

end field

section spec
variable [hp : Fact (Nat.Prime p)]

theorem add_onCurve (P Q : Point) (hP : OnCurve P) (hQ : OnCurve Q) : OnCurve (add P Q) := by
  obtain ⟨_, _, h1⟩ := (onCurve_iff P).1 hP
  obtain ⟨_, _, h2⟩ := (onCurve_iff Q).1 hQ
  obtain ⟨hpd, hmd⟩ := denoms P Q hP hQ
  rw [onCurve_iff]
  refine ⟨add_x_lt _ _, add_y_lt _ _, ?_⟩
  rw [cast_add_x, cast_add_y]
  exact closed_field h1 h2 hpd hmd

theorem add_assoc' (P Q R : Point) (hP : OnCurve P) (hQ : OnCurve Q) (hR : OnCurve R) :
    add (add P Q) R = add P (add Q R) := by
  have h := add_assoc_field two_ne_zero sqrtM1_sq d_nonsquare ((onCurve_iff P).1 hP).2.2 ((onCurve_iff Q).1 hQ).2.2
    ((onCurve_iff R).1 hR).2.2
  apply point_ext (add_x_lt _ _) (add_y_lt _ _) (add_x_lt _ _) (add_y_lt _ _)
  · rw [cast_add_x (add P Q) R, cast_add_x P (add Q R), cast_add_x P Q, cast_add_y P Q, cast_add_x Q R,
      cast_add_y Q R]
    exact h.1
  · rw [cast_add_y (add P Q) R, cast_add_y P (add Q R), cast_add_x P Q, cast_add_y P Q, cast_add_x Q R,
      cast_add_y Q R]
    exact h.2

theorem edwardsGroupLaw : EdwardsGroupLaw := ⟨add_onCurve, add_assoc'⟩

end spec

end Cx.Proofs.EdGroup
