/-
  Proofs.EdwardsSpec — Spec/Edwards.lean (points with `Nat` coordinates) seen through `ZMod p`:
  `onCurve`, `add`, `neg`, `zero` correspond to the field-level notions of Proofs/EdwardsAlgebra.lean; the
  denominators of the addition law never vanish on curve points (completeness, from `d` non-square and
  `sqrtM1² = −1`); commutativity, neutral element and inverses of the affine law are PROVED here.

  Closure of the curve under `add` and associativity enter as the explicit hypothesis `EdwardsGroupLaw` (a theorem:
  Proofs/EdwardsGroupLaw.lean).
  From that hypothesis the curve points form a commutative group (`curveGroup`) and `Spec.Edwards.smul` is the
  `ℕ`-scalar multiplication of that group (`smul_eq_nsmul`).

  Everything that divides needs `Nat.Prime p` (as `[Fact (Nat.Prime p)]`).
-/
import CxVerif.Proofs.EdField
import CxVerif.Proofs.EdwardsAlgebra
import Mathlib.Algebra.Group.MinimalAxioms
namespace Cx.Proofs.EdSpec
open Cx.Spec Cx.Proofs.EdField
open Cx.Spec.Edwards (Point add neg zero onCurve smul smulAux)
open Cx.Spec.Field25519 (p)

noncomputable def dF : Fp := ((Edwards.d : Nat) : Fp)

def OnCurve (P : Point) : Prop := onCurve P = true

section prime0
variable [hp : Fact (Nat.Prime p)]

theorem onCurve_iff (P : Point) : OnCurve P ↔ P.x < p ∧ P.y < p ∧ EdAlg.OnCurve dF (P.x : Fp) (P.y : Fp) := by
  unfold OnCurve onCurve EdAlg.OnCurve dF
  simp only [Bool.and_eq_true, beq_iff_eq]
  constructor
  · rintro ⟨⟨hx, hy⟩, h⟩
    refine ⟨of_decide_eq_true hx, of_decide_eq_true hy, ?_⟩
    have := congrArg (fun n : Nat => (n : Fp)) h
    simp only [cast_sub, cast_add, cast_mul, Nat.cast_one] at this
    linear_combination this
  · rintro ⟨hx, hy, h⟩
    refine ⟨⟨decide_eq_true hx, decide_eq_true hy⟩, ?_⟩
    rw [← cast_inj (sub_lt _ _) (add_lt _ _)]
    simp only [cast_sub, cast_add, cast_mul, Nat.cast_one]
    linear_combination h

end prime0

theorem zero_lt : zero.x < p ∧ zero.y < p := by decide +kernel

theorem zero_onCurve : OnCurve zero := by unfold OnCurve; decide +kernel

theorem add_x_lt (P Q : Point) : (add P Q).x < p := mul_lt _ _
theorem add_y_lt (P Q : Point) : (add P Q).y < p := mul_lt _ _

theorem add_comm' (P Q : Point) : add P Q = add Q P := by
  unfold add
  rw [Field25519.fmul_comm Q.x P.x, Field25519.fmul_comm Q.y P.y,
    Field25519.fadd_comm (Field25519.mul Q.x P.y) (Field25519.mul P.x Q.y)]

theorem edp : Edwards.p = p := rfl

section prime
variable [hp : Fact (Nat.Prime p)]

theorem cast_add_x (P Q : Point) :
    ((add P Q).x : Fp) = EdAlg.addX dF (P.x : Fp) (P.y : Fp) (Q.x : Fp) (Q.y : Fp) := by
  unfold add EdAlg.addX dF
  simp only [cast_mul, cast_add, cast_inv, Nat.cast_one]
  rw [div_eq_mul_inv]; ring

theorem cast_add_y (P Q : Point) :
    ((add P Q).y : Fp) = EdAlg.addY dF (P.x : Fp) (P.y : Fp) (Q.x : Fp) (Q.y : Fp) := by
  unfold add EdAlg.addY dF
  simp only [cast_mul, cast_add, cast_sub, cast_inv, Nat.cast_one]
  rw [div_eq_mul_inv]; ring

theorem cast_neg_x (Q : Point) : ((Edwards.neg Q).x : Fp) = -(Q.x : Fp) := by
  unfold Edwards.neg; simp only [cast_neg]
theorem cast_neg_y (Q : Point) : ((Edwards.neg Q).y : Fp) = (Q.y : Fp) := by
  unfold Edwards.neg; simp only [edp, cast_mod]

theorem denoms (P Q : Point) (hP : OnCurve P) (hQ : OnCurve Q) :
    1 + dF * (P.x : Fp) * (Q.x : Fp) * (P.y : Fp) * (Q.y : Fp) ≠ 0 ∧
    1 - dF * (P.x : Fp) * (Q.x : Fp) * (P.y : Fp) * (Q.y : Fp) ≠ 0 :=
  EdAlg.denoms_ne_zero two_ne_zero sqrtM1_sq d_nonsquare ((onCurve_iff P).1 hP).2.2 ((onCurve_iff Q).1 hQ).2.2

theorem point_ext {P Q : Point} (hPx : P.x < p) (hPy : P.y < p) (hQx : Q.x < p) (hQy : Q.y < p)
    (hx : (P.x : Fp) = (Q.x : Fp)) (hy : (P.y : Fp) = (Q.y : Fp)) : P = Q := by
  obtain ⟨a, b⟩ := P; obtain ⟨c, e⟩ := Q
  simp only at *
  rw [(cast_inj hPx hQx).1 hx, (cast_inj hPy hQy).1 hy]

theorem add_zero' (P : Point) (hP : OnCurve P) : add P zero = P := by
  obtain ⟨hx, hy, _⟩ := (onCurve_iff P).1 hP
  apply point_ext (add_x_lt _ _) (add_y_lt _ _) hx hy
  · rw [cast_add_x]; unfold EdAlg.addX zero; simp
  · rw [cast_add_y]; unfold EdAlg.addY zero; simp

theorem neg_onCurve (P : Point) (hP : OnCurve P) : OnCurve (neg P) := by
  obtain ⟨hx, hy, h⟩ := (onCurve_iff P).1 hP
  rw [onCurve_iff]
  refine ⟨neg_lt _, Nat.mod_lt _ Field25519.p_pos, ?_⟩
  unfold neg
  simp only [cast_neg, edp, cast_mod]
  unfold EdAlg.OnCurve at *
  linear_combination h

theorem add_neg' (P : Point) (hP : OnCurve P) : add P (neg P) = zero := by
  obtain ⟨hx, hy, h⟩ := (onCurve_iff P).1 hP
  have hd := denoms P P hP hP
  apply point_ext (add_x_lt _ _) (add_y_lt _ _) zero_lt.1 zero_lt.2
  · rw [cast_add_x]; unfold EdAlg.addX neg zero; simp only [cast_neg, edp, cast_mod]
    rw [div_eq_iff]
    · push_cast; ring
    · have := hd.2
      intro h0; apply this; linear_combination h0
  · rw [cast_add_y]; unfold EdAlg.addY neg zero; simp only [cast_neg, edp, cast_mod]
    unfold EdAlg.OnCurve at h
    rw [div_eq_iff]
    · push_cast; linear_combination h
    · have := hd.1
      intro h0; apply this; linear_combination h0

end prime

/-- Closure of the curve under the affine addition and associativity on curve points, as a hypothesis of this file;
    it is the theorem `EdGroup.edwardsGroupLaw` of Proofs/EdwardsGroupLaw.lean. -/
structure EdwardsGroupLaw : Prop where
  closed : ∀ P Q : Point, OnCurve P → OnCurve Q → OnCurve (add P Q)
  assoc : ∀ P Q R : Point, OnCurve P → OnCurve Q → OnCurve R → add (add P Q) R = add P (add Q R)

def CurvePoint := { P : Point // OnCurve P }

section group
variable [hp : Fact (Nat.Prime p)] (G : EdwardsGroupLaw)

def cadd (P Q : CurvePoint) : CurvePoint := ⟨add P.1 Q.1, G.closed _ _ P.2 Q.2⟩
def czero : CurvePoint := ⟨zero, zero_onCurve⟩
def cneg (P : CurvePoint) : CurvePoint := ⟨neg P.1, neg_onCurve _ P.2⟩

theorem cadd_assoc (P Q R : CurvePoint) : cadd G (cadd G P Q) R = cadd G P (cadd G Q R) :=
  Subtype.ext (G.assoc _ _ _ P.2 Q.2 R.2)
theorem czero_cadd (P : CurvePoint) : cadd G czero P = P :=
  Subtype.ext (by unfold cadd czero; simp only; rw [add_comm', add_zero' _ P.2])
theorem cneg_cadd (P : CurvePoint) : cadd G (cneg P) P = czero :=
  Subtype.ext (by unfold cadd czero cneg; simp only; rw [add_comm', add_neg' _ P.2])
theorem cadd_comm (P Q : CurvePoint) : cadd G P Q = cadd G Q P := Subtype.ext (add_comm' _ _)

theorem cadd_czero (P : CurvePoint) : cadd G P czero = P := by rw [cadd_comm, czero_cadd]

set_option maxRecDepth 100000 in
noncomputable def curveGroup : AddCommGroup CurvePoint :=
  letI : Add CurvePoint := ⟨cadd G⟩
  letI : Zero CurvePoint := ⟨czero⟩
  letI : Neg CurvePoint := ⟨cneg⟩
  { AddGroup.ofLeftAxioms (cadd_assoc G) (czero_cadd G) (cneg_cadd G) with
    add_comm := cadd_comm G }

theorem val_add (P Q : CurvePoint) : (letI := curveGroup G; (P + Q : CurvePoint)).1 = add P.1 Q.1 := rfl
theorem val_zero : (letI := curveGroup G; (0 : CurvePoint)).1 = zero := rfl
theorem val_neg (P : CurvePoint) : (letI := curveGroup G; (-P : CurvePoint)).1 = neg P.1 := rfl

theorem smulAux_eq (f : Nat) : ∀ (n : Nat) (P Q : CurvePoint), n ≤ f →
    smulAux f n P.1 Q.1 = (letI := curveGroup G; (Q + n • P : CurvePoint)).1 := by
  let _ := curveGroup G
  induction f with
  | zero =>
    intro n P Q h
    rw [Nat.le_zero.1 h, zero_nsmul, add_zero]; rfl
  | succ f ih =>
    intro n P Q h
    rw [smulAux]
    split
    · next hn => rw [hn, zero_nsmul, add_zero]
    · -- `n • P = (n / 2) • (P + P) + (n % 2) • P`; the low bit decides whether `P` joins the accumulator
      have hn : n • P = (n / 2) • (P + P) + (n % 2) • P := by
        rw [← two_nsmul, ← mul_nsmul, ← add_nsmul, Nat.div_add_mod]
      rw [hn]
      rcases Nat.mod_two_eq_zero_or_one n with h0 | h1
      · rw [h0, if_neg (by decide), zero_nsmul, add_zero]
        exact ih (n / 2) (P + P) Q (by omega)
      · rw [h1, if_pos rfl, one_nsmul, add_comm _ P, ← add_assoc]
        exact ih (n / 2) (P + P) (Q + P) (by omega)

theorem smul_eq_nsmul (n : Nat) (P : CurvePoint) :
    smul n P.1 = (letI := curveGroup G; (n • P : CurvePoint)).1 := by
  let _ := curveGroup G
  have := smulAux_eq G n n P 0 (Nat.le_refl n)
  rw [val_zero G] at this
  unfold smul
  rw [this, zero_add]

include G in
theorem smul_onCurve (n : Nat) (P : Point) (hP : OnCurve P) : OnCurve (smul n P) := by
  rw [smul_eq_nsmul G n ⟨P, hP⟩]
  exact (letI := curveGroup G; (n • (show CurvePoint from ⟨P, hP⟩) : CurvePoint)).2

end group

end Cx.Proofs.EdSpec
