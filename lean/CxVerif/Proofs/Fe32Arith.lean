/-
  Proofs.Fe32Arith — Add / Sub / Neg of fe32: limb-wise, no carry; no i32 overflow while the weights stay ≤ 63,
  the value is the integer sum / difference / negation, the weight adds up.
-/
import CxVerif.Proofs.Fe32Basic
namespace Cx.Proofs.Fe32
open Cx Cx.Impl.Fe32
open Cx.Spec

theorem Within.neg {x a : Int} (h : Within x a) : Within (-x) a := by
  obtain ⟨_, _⟩ := h; constructor <;> omega

theorem Within.addW {x y a b c : Int} (hx : Within x (a * c)) (hy : Within y (b * c)) :
    Within (x + y) ((a + b) * c) := by
  rw [Int.add_mul]; exact hx.add hy

theorem W.add {a b : Int} {f g : Fe} (hf : W a f) (hg : W b g) :
    W (a + b) ⟨f.l0 + g.l0, f.l1 + g.l1, f.l2 + g.l2, f.l3 + g.l3, f.l4 + g.l4, f.l5 + g.l5, f.l6 + g.l6, f.l7 + g.l7,
      f.l8 + g.l8, f.l9 + g.l9⟩ :=
  ⟨Within.addW hf.1 hg.1, Within.addW hf.2.1 hg.2.1, Within.addW hf.2.2.1 hg.2.2.1, Within.addW hf.2.2.2.1 hg.2.2.2.1,
    Within.addW hf.2.2.2.2.1 hg.2.2.2.2.1, Within.addW hf.2.2.2.2.2.1 hg.2.2.2.2.2.1,
    Within.addW hf.2.2.2.2.2.2.1 hg.2.2.2.2.2.2.1, Within.addW hf.2.2.2.2.2.2.2.1 hg.2.2.2.2.2.2.2.1,
    Within.addW hf.2.2.2.2.2.2.2.2.1 hg.2.2.2.2.2.2.2.2.1, Within.addW hf.2.2.2.2.2.2.2.2.2 hg.2.2.2.2.2.2.2.2.2⟩

theorem W.neg {a : Int} {f : Fe} (hf : W a f) :
    W a ⟨-f.l0, -f.l1, -f.l2, -f.l3, -f.l4, -f.l5, -f.l6, -f.l7, -f.l8, -f.l9⟩ :=
  ⟨Within.neg hf.1, Within.neg hf.2.1, Within.neg hf.2.2.1, Within.neg hf.2.2.2.1, Within.neg hf.2.2.2.2.1,
    Within.neg hf.2.2.2.2.2.1, Within.neg hf.2.2.2.2.2.2.1, Within.neg hf.2.2.2.2.2.2.2.1,
    Within.neg hf.2.2.2.2.2.2.2.2.1, Within.neg hf.2.2.2.2.2.2.2.2.2⟩

/-- ten checked i32 operations whose results are the limbs of an `h` of weight ≤ 63 (`Add`, `Sub`, `Neg` are of this
    shape: `add32 x y` is `ck32 (x + y)`) -/
theorem W.run {k : Int} {h : Fe} (hw : W k h) (hk : k ≤ 63) {Q : Fe → Prop} (hq : Q h) :
    ∃ r, (ck32 h.l0 >>= fun h0 => ck32 h.l1 >>= fun h1 => ck32 h.l2 >>= fun h2 => ck32 h.l3 >>= fun h3 =>
      ck32 h.l4 >>= fun h4 => ck32 h.l5 >>= fun h5 => ck32 h.l6 >>= fun h6 => ck32 h.l7 >>= fun h7 =>
      ck32 h.l8 >>= fun h8 => ck32 h.l9 >>= fun h9 => pure ⟨h0, h1, h2, h3, h4, h5, h6, h7, h8, h9⟩) = some r ∧ Q r :=
  ck32_step (fits_even hw.1 hk) (ck32_step (fits_odd hw.2.1 hk) (ck32_step (fits_even hw.2.2.1 hk)
    (ck32_step (fits_odd hw.2.2.2.1 hk) (ck32_step (fits_even hw.2.2.2.2.1 hk) (ck32_step (fits_odd hw.2.2.2.2.2.1 hk)
    (ck32_step (fits_even hw.2.2.2.2.2.2.1 hk) (ck32_step (fits_odd hw.2.2.2.2.2.2.2.1 hk)
    (ck32_step (fits_even hw.2.2.2.2.2.2.2.2.1 hk) (ck32_step (fits_odd hw.2.2.2.2.2.2.2.2.2 hk) ⟨_, rfl, hq⟩)))))))))

theorem add_spec (f g : Fe) (a b : Int) (hf : W a f) (hg : W b g) (hab : a + b ≤ 63) :
    ∃ h, add f g = some h ∧ W (a + b) h ∧ val h = val f + val g ∧
      eval h = Field25519.add (eval f) (eval g) := by
  have hv : val ⟨f.l0 + g.l0, f.l1 + g.l1, f.l2 + g.l2, f.l3 + g.l3, f.l4 + g.l4, f.l5 + g.l5, f.l6 + g.l6, f.l7 + g.l7,
      f.l8 + g.l8, f.l9 + g.l9⟩ = val f + val g := by unfold val; simp only; ring
  exact (hf.add hg).run hab ⟨hf.add hg, hv, eval_add_of_val hv⟩

theorem sub_spec (f g : Fe) (a b : Int) (hf : W a f) (hg : W b g) (hab : a + b ≤ 63) :
    ∃ h, sub f g = some h ∧ W (a + b) h ∧ val h = val f - val g ∧
      eval h = Field25519.sub (eval f) (eval g) := by
  have hv : val ⟨f.l0 - g.l0, f.l1 - g.l1, f.l2 - g.l2, f.l3 - g.l3, f.l4 - g.l4, f.l5 - g.l5, f.l6 - g.l6, f.l7 - g.l7,
      f.l8 - g.l8, f.l9 - g.l9⟩ = val f - val g := by unfold val; simp only; ring
  exact (hf.add hg.neg).run hab ⟨hf.add hg.neg, hv, eval_sub_of_val hv⟩

theorem neg_spec (f : Fe) (a : Int) (hf : W a f) (ha : a ≤ 63) :
    ∃ h, neg f = some h ∧ W a h ∧ val h = -val f ∧ eval h = Field25519.neg (eval f) := by
  have hv : val ⟨-f.l0, -f.l1, -f.l2, -f.l3, -f.l4, -f.l5, -f.l6, -f.l7, -f.l8, -f.l9⟩ = -val f := by
    unfold val; simp only; ring
  exact hf.neg.run ha ⟨hf.neg, hv, eval_neg_of_val hv⟩

/-- `negate_mut`, the in-place negation, is `neg` in the model -/
theorem negate_mut_spec (f : Fe) (a : Int) (hf : W a f) (ha : a ≤ 63) :
    ∃ h, negate_mut f = some h ∧ W a h ∧ val h = -val f ∧ eval h = Field25519.neg (eval f) := neg_spec f a hf ha

theorem add_specN (f g : Fe) {a b : Int} (hf : W a f) (hg : W b g) (hab : a + b ≤ 63 := by decide) :
    ∃ h, add f g = some h ∧ W (a + b) h ∧ eval h = Cx.Spec.Field25519.add (eval f) (eval g) := by
  obtain ⟨h, e, t, _, v⟩ := add_spec f g a b hf hg hab
  exact ⟨h, e, t, v⟩
theorem sub_specN (f g : Fe) {a b : Int} (hf : W a f) (hg : W b g) (hab : a + b ≤ 63 := by decide) :
    ∃ h, sub f g = some h ∧ W (a + b) h ∧ eval h = Cx.Spec.Field25519.sub (eval f) (eval g) := by
  obtain ⟨h, e, t, _, v⟩ := sub_spec f g a b hf hg hab
  exact ⟨h, e, t, v⟩
theorem negate_mut_specN (f : Fe) {a : Int} (hf : W a f) (ha : a ≤ 63 := by decide) :
    ∃ h, negate_mut f = some h ∧ W a h ∧ eval h = Cx.Spec.Field25519.neg (eval f) := by
  obtain ⟨h, e, t, _, v⟩ := negate_mut_spec f a hf ha
  exact ⟨h, e, t, v⟩

end Cx.Proofs.Fe32
