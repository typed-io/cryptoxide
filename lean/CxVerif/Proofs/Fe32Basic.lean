/-
  Proofs.Fe32Basic — vocabulary of the Fe32 refinement library (32-bit field backend, ref10 representation).
  Every operator theorem of the library has the shape
  `W a f → W b g → ∃ h, op f g = some h ∧ W c h ∧ eval h = Field25519.op (eval f) (eval g)`.
-/
import CxVerif.Impl.Fe32
import CxVerif.Proofs.OptionSteps
import CxVerif.Spec.Field25519
import Mathlib.Tactic.Ring
import Mathlib.Tactic.NormNum
namespace Cx.Proofs.Fe32
open Cx Cx.Impl.Fe32
open Cx.Spec
open Cx.Spec.Field25519 (p)

/-- the integer denoted by the ten signed limbs (radix 2^25.5) -/
def val (f : Fe) : Int :=
  f.l0 + 2^26 * f.l1 + 2^51 * f.l2 + 2^77 * f.l3 + 2^102 * f.l4 + 2^128 * f.l5 + 2^153 * f.l6 + 2^179 * f.l7
    + 2^204 * f.l8 + 2^230 * f.l9

def eval (f : Fe) : Nat := (val f % (p : Int)).toNat

/-- limb bound of weight `k`: even limbs within ±k·2^25, odd limbs within ±k·(2^24 + 2^20).
    `W 1` is what every carrying operator returns (ref10: 1.01·2^25 / 1.01·2^24); `W 3` is inside the ref10
    operand bound of `Mul`/`square` (1.65·2^26 / 1.65·2^25); `W 6` is inside what `to_bytes` tolerates -/
def W (k : Int) (f : Fe) : Prop :=
  (-(k * 2^25) ≤ f.l0 ∧ f.l0 ≤ k * 2^25) ∧ (-(k * (2^24 + 2^20)) ≤ f.l1 ∧ f.l1 ≤ k * (2^24 + 2^20)) ∧
  (-(k * 2^25) ≤ f.l2 ∧ f.l2 ≤ k * 2^25) ∧ (-(k * (2^24 + 2^20)) ≤ f.l3 ∧ f.l3 ≤ k * (2^24 + 2^20)) ∧
  (-(k * 2^25) ≤ f.l4 ∧ f.l4 ≤ k * 2^25) ∧ (-(k * (2^24 + 2^20)) ≤ f.l5 ∧ f.l5 ≤ k * (2^24 + 2^20)) ∧
  (-(k * 2^25) ≤ f.l6 ∧ f.l6 ≤ k * 2^25) ∧ (-(k * (2^24 + 2^20)) ≤ f.l7 ∧ f.l7 ≤ k * (2^24 + 2^20)) ∧
  (-(k * 2^25) ≤ f.l8 ∧ f.l8 ≤ k * 2^25) ∧ (-(k * (2^24 + 2^20)) ≤ f.l9 ∧ f.l9 ≤ k * (2^24 + 2^20))

instance (k : Int) (f : Fe) : Decidable (W k f) := by unfold W; infer_instance

abbrev Red (f : Fe) : Prop := W 1 f

theorem W.mono {a b : Int} {f : Fe} (h : a ≤ b) (hf : W a f) : W b f := by
  unfold W at *
  omega

/-- weight ≤ 3: admissible operand of `Mul` / `square` / `invert` -/
theorem W.w3 {a : Int} {f : Fe} (h : W a f) (ha : a ≤ 3 := by decide) : W 3 f := W.mono ha h
/-- weight ≤ 6: admissible operand of `to_bytes` / `is_nonzero` / `is_negative` -/
theorem W.w6 {a : Int} {f : Fe} (h : W a f) (ha : a ≤ 6 := by decide) : W 6 f := W.mono ha h

theorem p_eq : (p : Int) = 2^255 - 19 := by decide
theorem p_pos : (0 : Int) < (p : Int) := by decide

theorem eval_lt (f : Fe) : eval f < p := by
  unfold eval
  have h := Int.emod_lt_of_pos (val f) p_pos
  have h0 := Int.emod_nonneg (val f) (by decide : (p : Int) ≠ 0)
  omega

theorem eval_mod (f : Fe) : eval f % p = eval f := Nat.mod_eq_of_lt (eval_lt f)

theorem eval_cast (f : Fe) : ((eval f : Nat) : Int) = val f % (p : Int) := by
  unfold eval
  exact Int.toNat_of_nonneg (Int.emod_nonneg _ (by decide))

theorem eval_congr {f g : Fe} (h : val f % (p : Int) = val g % (p : Int)) : eval f = eval g := by
  unfold eval; rw [h]

theorem eval_of_val {f : Fe} {n : Nat} (h : val f % (p : Int) = (n : Int) % (p : Int)) : eval f = n % p := by
  unfold eval; rw [h]
  have : ((n : Int) % (p : Int)) = ((n % p : Nat) : Int) := by norm_cast
  rw [this]; exact Int.toNat_natCast _

theorem pN_eq : p = 2^255 - 19 := rfl

theorem emod_nat (x : Int) : ∃ n : Nat, x % (p : Int) = (n : Int) ∧ n < p := by
  obtain ⟨n, hn⟩ := Int.eq_ofNat_of_zero_le (Int.emod_nonneg x (by decide : (p : Int) ≠ 0))
  have := Int.emod_lt_of_pos x p_pos
  exact ⟨n, hn, by omega⟩

theorem add_bridge (x y : Int) :
    ((x + y) % (p : Int)).toNat = Field25519.add ((x % (p : Int)).toNat) ((y % (p : Int)).toNat) := by
  unfold Field25519.add
  rw [Int.add_emod]
  obtain ⟨n, hn, _⟩ := emod_nat x
  obtain ⟨m, hm, _⟩ := emod_nat y
  rw [hn, hm]
  simp only [Int.toNat_natCast]
  have : ((n : Int) + (m : Int)) % (p : Int) = ((n + m) % p : Nat) := by norm_cast
  rw [this, Int.toNat_natCast]
theorem sub_bridge (x y : Int) :
    ((x - y) % (p : Int)).toNat = Field25519.sub ((x % (p : Int)).toNat) ((y % (p : Int)).toNat) := by
  unfold Field25519.sub
  rw [Int.sub_emod]
  obtain ⟨n, hn, _⟩ := emod_nat x
  obtain ⟨m, hm, hm'⟩ := emod_nat y
  rw [hn, hm]
  simp only [Int.toNat_natCast]
  rw [Nat.mod_eq_of_lt hm']
  have : ((n : Int) - (m : Int)) % (p : Int) = ((n + (p - m)) % p : Nat) := by
    rw [Int.natCast_mod, show ((n + (p - m) : Nat) : Int) = (n : Int) - m + p by omega, Int.add_emod_right]
  rw [this, Int.toNat_natCast]
theorem neg_bridge (x : Int) :
    ((-x) % (p : Int)).toNat = Field25519.neg ((x % (p : Int)).toNat) := by
  have := sub_bridge 0 x
  rwa [Int.zero_sub, Int.zero_emod, Int.toNat_zero, Field25519.sub, Nat.zero_add] at this
theorem mul_bridge (x y : Int) :
    ((x * y) % (p : Int)).toNat = Field25519.mul ((x % (p : Int)).toNat) ((y % (p : Int)).toNat) := by
  unfold Field25519.mul
  rw [Int.mul_emod]
  obtain ⟨n, hn, _⟩ := emod_nat x
  obtain ⟨m, hm, _⟩ := emod_nat y
  rw [hn, hm]
  simp only [Int.toNat_natCast]
  have : ((n : Int) * (m : Int)) % (p : Int) = ((n * m % p : Nat) : Int) := by norm_cast
  rw [this, Int.toNat_natCast]

theorem eval_add_of_val {f g h : Fe} (hv : val h = val f + val g) : eval h = Field25519.add (eval f) (eval g) := by
  unfold eval; rw [hv]; exact add_bridge _ _
theorem eval_sub_of_val {f g h : Fe} (hv : val h = val f - val g) : eval h = Field25519.sub (eval f) (eval g) := by
  unfold eval; rw [hv]; exact sub_bridge _ _
theorem eval_neg_of_val {f h : Fe} (hv : val h = -val f) : eval h = Field25519.neg (eval f) := by
  unfold eval; rw [hv]; exact neg_bridge _
theorem eval_mul_of_val {f g h : Fe} (hv : val h % (p : Int) = (val f * val g) % (p : Int)) :
    eval h = Field25519.mul (eval f) (eval g) := by
  unfold eval; rw [hv]; exact mul_bridge _ _

theorem ck32_some {v : Int} (h : -2^31 ≤ v ∧ v < 2^31) : ck32 v = some v := by simp only [ck32, if_pos h]
theorem ck64_some {v : Int} (h : -2^63 ≤ v ∧ v < 2^63) : ck64 v = some v := by simp only [ck64, if_pos h]

theorem add32_bind {β} (a b : Int) (f : Int → Option β) (h : -2^31 ≤ a + b ∧ a + b < 2^31) :
    (add32 a b >>= f) = f (a + b) := by simp only [add32, ck32_some h]; rfl
theorem sub32_bind {β} (a b : Int) (f : Int → Option β) (h : -2^31 ≤ a - b ∧ a - b < 2^31) :
    (sub32 a b >>= f) = f (a - b) := by simp only [sub32, ck32_some h]; rfl
theorem mul32_bind {β} (a b : Int) (f : Int → Option β) (h : -2^31 ≤ a * b ∧ a * b < 2^31) :
    (mul32 a b >>= f) = f (a * b) := by simp only [mul32, ck32_some h]; rfl
theorem neg32_bind {β} (a : Int) (f : Int → Option β) (h : -2^31 ≤ -a ∧ -a < 2^31) :
    (neg32 a >>= f) = f (-a) := by simp only [neg32, ck32_some h]; rfl
theorem add64_bind {β} (a b : Int) (f : Int → Option β) (h : -2^63 ≤ a + b ∧ a + b < 2^63) :
    (add64 a b >>= f) = f (a + b) := by simp only [add64, ck64_some h]; rfl
theorem sub64_bind {β} (a b : Int) (f : Int → Option β) (h : -2^63 ≤ a - b ∧ a - b < 2^63) :
    (sub64 a b >>= f) = f (a - b) := by simp only [sub64, ck64_some h]; rfl
theorem mul64_bind {β} (a b : Int) (f : Int → Option β) (h : -2^63 ≤ a * b ∧ a * b < 2^63) :
    (mul64 a b >>= f) = f (a * b) := by simp only [mul64, ck64_some h]; rfl

theorem wrap32_eq {v : Int} (h : -2^31 ≤ v ∧ v < 2^31) : wrap32 v = v := by unfold wrap32; omega
theorem wrap64_eq {v : Int} (h : -2^63 ≤ v ∧ v < 2^63) : wrap64 v = v := by unfold wrap64; omega

/-! ### bounds as terms, and the rule of sequential composition

  A program of the model is a chain `op₁ >>= fun x₁ => op₂ >>= …`.  It is walked from the front by rules of the shape
  `(… → ∃ b, f v = some b ∧ Q b) → ∃ b, (op >>= f) = some b ∧ Q b`: the operation succeeds with `v` and the rest of the
  program is run on `v`, with what is known about `v` handed on.  (Rewriting the operation inside the whole program
  instead makes every step as dear as the program is long.)  Bounds travel as `Within x B` with `B` a closed term, so
  a step's side conditions are `decide`d, not searched for. -/

abbrev Within (x b : Int) : Prop := -b ≤ x ∧ x ≤ b

theorem Within.mono {x a b : Int} (h : Within x a) (hab : a ≤ b) : Within x b := by
  obtain ⟨_, _⟩ := h; constructor <;> omega

theorem Within.add {x y a b : Int} (hx : Within x a) (hy : Within y b) : Within (x + y) (a + b) := by
  obtain ⟨_, _⟩ := hx; obtain ⟨_, _⟩ := hy; constructor <;> omega

theorem Within.scale {x b : Int} (h : Within x b) (k : Int) (hk : 0 ≤ k) : Within (k * x) (k * b) :=
  ⟨by rw [← Int.mul_neg]; exact Int.mul_le_mul_of_nonneg_left h.1 hk, Int.mul_le_mul_of_nonneg_left h.2 hk⟩

theorem Within.shl_add {x y a b : Int} (hx : Within x a) (n : Nat) (hy : Within y b) :
    Within (x + 2^n * y) (a + 2^n * b) := hx.add (hy.scale _ (Int.le_of_lt (Int.pow_pos (by decide))))

theorem Within.i32 {x b : Int} (h : Within x b) (hb : b < 2^31) : -2^31 ≤ x ∧ x < 2^31 := by
  obtain ⟨_, _⟩ := h; omega

theorem fits_even {x k : Int} (h : Within x (k * 2^25)) (hk : k ≤ 63) : -2^31 ≤ x ∧ x < 2^31 := by
  obtain ⟨_, _⟩ := h; omega
theorem fits_odd {x k : Int} (h : Within x (k * (2^24 + 2^20))) (hk : k ≤ 63) : -2^31 ≤ x ∧ x < 2^31 := by
  obtain ⟨_, _⟩ := h; omega

theorem Within.i64 {x b : Int} (h : Within x b) (hb : b < 2^63 := by decide) : -2^63 ≤ x ∧ x < 2^63 := by
  obtain ⟨_, _⟩ := h; omega

/-- a checked i32 operation (`add32`, `sub32`, `mul32`, `neg32` unfold to `ck32`) whose result fits -/
theorem ck32_step {β} {v : Int} {f : Int → Option β} {Q : β → Prop} (h : -2^31 ≤ v ∧ v < 2^31)
    (hf : ∃ b, f v = some b ∧ Q b) : ∃ b, (ck32 v >>= f) = some b ∧ Q b := bind_some (ck32_some h) hf

theorem ck64_step {β} {v : Int} {f : Int → Option β} {Q : β → Prop} (h : -2^63 ≤ v ∧ v < 2^63)
    (hf : ∃ b, f v = some b ∧ Q b) : ∃ b, (ck64 v >>= f) = some b ∧ Q b := bind_some (ck64_some h) hf

theorem carryR_eq {k : Nat} (hk : k = 25 ∨ k = 26) (h hn : Int) (hh : -2^62 ≤ h ∧ h ≤ 2^62)
    (hhn : -2^62 ≤ hn ∧ hn ≤ 2^62) :
    carryR k h hn = some (h - (h + 2^(k-1)) / 2^k * 2^k, hn + (h + 2^(k-1)) / 2^k) := by
  unfold carryR
  rcases hk with rfl | rfl
  all_goals
    rw [add64_bind _ _ _ (by omega)]
    simp only [shr]
    rw [add64_bind _ _ _ (by omega)]
    unfold shl64
    rw [wrap64_eq (by omega), sub64_bind _ _ _ (by omega)]
    rfl

/-- the wrap-around carry `h9 → h0` (2^255 = 19): succeeds for |h9|, |h0| ≤ 2^62 (the carry is then at most 2^37,
    so 19·carry fits) -/
theorem carryR19_eq (h9 h0 : Int) (hh : -2^62 ≤ h9 ∧ h9 ≤ 2^62) (hh0 : -2^62 ≤ h0 ∧ h0 ≤ 2^62) :
    carryR19 h9 h0 = some (h9 - (h9 + 2^24) / 2^25 * 2^25, h0 + (h9 + 2^24) / 2^25 * 19) := by
  unfold carryR19
  rw [add64_bind _ _ _ (by omega)]
  simp only [shr]
  rw [mul64_bind _ _ _ (by omega), add64_bind _ _ _ (by omega)]
  have hs : shl64 ((h9 + 2^24) / 2^25) 25 = (h9 + 2^24) / 2^25 * 2^25 := by
    unfold shl64; exact wrap64_eq (by omega)
  rw [hs, sub64_bind _ _ _ (by omega)]
  rfl

end Cx.Proofs.Fe32
