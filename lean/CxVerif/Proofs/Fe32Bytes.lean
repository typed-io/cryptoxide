/-
  Proofs.Fe32Bytes — `to_bytes` of fe32 is the canonical encoding: for every limb vector of weight ≤ 6
  (|even| ≤ 6·2^25, |odd| ≤ 6·(2^24 + 2^20)) no i32 operation overflows, the estimate `q` IS ⌊val/p⌋ (the classic
  ref10 argument: nested floors collapse, the rounding term 2^24 makes the estimate exact),
  the ten plain carries leave digits in [0, 2^26) / [0, 2^25) with value `val − p·q = val mod p`, and the 32
  shifted / OR-ed bytes are the little-endian bytes of that value.
-/
import CxVerif.Proofs.Fe32Carry
import CxVerif.Proofs.LimbBytes
namespace Cx.Proofs.Fe32
open Cx Cx.Impl.Fe32
open Cx.Spec
open Cx.Spec.Field25519 (p)
open Cx.Proofs.LimbBytes

theorem floor_floor (x h : Int) (a b : Nat) : (h + x / 2^a) / 2^b = (x + 2^a * h) / 2^(a + b) := by
  have ha : (0 : Int) < 2^a := Int.pow_pos (by decide)
  rw [Int.pow_add, ← Int.ediv_ediv_of_nonneg (Int.le_of_lt ha), Int.add_mul_ediv_left _ _ (Int.ne_of_gt ha), Int.add_comm]

/-- nested floors collapse: the chain `q = (h_i + q) >> k_i` computes `⌊(val + q0) / 2^255⌋` -/
theorem qchain (h0 h1 h2 h3 h4 h5 h6 h7 h8 h9 q0 : Int) :
    (h9 + (h8 + (h7 + (h6 + (h5 + (h4 + (h3 + (h2 + (h1 + (h0 + q0) / 2^26) / 2^25) / 2^26) / 2^25) / 2^26) / 2^25)
      / 2^26) / 2^25) / 2^26) / 2^25
    = (val ⟨h0, h1, h2, h3, h4, h5, h6, h7, h8, h9⟩ + q0) / 2^255 := by
  simp only [floor_floor, Nat.reduceAdd]
  congr 1
  simp only [val]; ring

/-- with `q0 = round(19·h9 / 2^25)` the estimate is exact: `q = ⌊V / p⌋`.  The ref10 argument: write `V = p·q' + r`
    with `0 ≤ r < p`.  As `19·V / 2^255 = 19·h9 / 2^25 + 19·low / 2^255`,
    `V + 19·h9 / 2^25 + 1/2 = 2^255·q' + (r + 19·r / 2^255) + y` with `y = 1/2 − (19·low + 361·q') / 2^255`.
    Here `0 < y < 1` because `|low| ≤ 2^240` and `q'` is small (`|h9| ≤ 2^27`), and `r + 19·r / 2^255 < 2^255 − 1`, so the
    floor of the left side over `2^255` is `q'`; that floor is `q`, `V` being an integer.  `omega` finds this -/
theorem qest (V h9 low q0 q : Int) (hlow : V = 2^230 * h9 + low) (hl : -2^240 ≤ low ∧ low ≤ 2^240)
    (hh9 : -2^27 ≤ h9 ∧ h9 ≤ 2^27)
    (hq0 : q0 = (19 * h9 + 2^24) / 2^25) (hq : q = (V + q0) / 2^255) :
    (2^255 - 19) * q ≤ V ∧ V < (2^255 - 19) * q + (2^255 - 19) := by
  omega

/-! ### i32 steps: a limb of weight ≤ 6 is within ±2^28, every `q` within ±2^20, a limb plus a carry within ±2^29 -/

theorem W.cols28 {f : Fe} (hf : W 6 f) : Cols (2^28) f := by
  unfold W at hf; unfold Cols; omega

abbrev Dig (k : Nat) (x : Int) : Prop := 0 ≤ x ∧ x < 2^k

theorem qstep_eq (k : Nat) (h q : Int) (hh : -2^31 ≤ h + q ∧ h + q < 2^31) : qstep k h q = some ((h + q) / 2^k) := by
  unfold qstep; rw [add32_bind _ _ _ hh]; rfl

theorem qstep_step {k : Nat} {h q : Int} (hk : k = 25 ∨ k = 26) (hh : Within h (2^28)) (hq : Within q (2^20))
    {β} {f : Int → Option β} {Q : β → Prop}
    (hf : Within ((h + q) / 2^k) (2^20) → ∃ b, f ((h + q) / 2^k) = some b ∧ Q b) :
    ∃ b, (qstep k h q >>= f) = some b ∧ Q b := by
  obtain ⟨_, _⟩ := hh
  obtain ⟨_, _⟩ := hq
  refine bind_some (qstep_eq k h q (by omega)) (hf ?_)
  rcases hk with rfl | rfl <;> omega

theorem carryF32_step {k : Nat} {h hn : Int} (hk : k = 25 ∨ k = 26) (hh : Within h (2^29)) (hhn : Within hn (2^28))
    {β} {f : Int × Int → Option β} {Q : β → Prop}
    (hf : ∀ c, Dig k (h - c * 2^k) → Within (hn + c) (2^29) →
      ∃ b, f (h - c * 2^k, hn + c) = some b ∧ Q b) : ∃ b, (carryF32 k h hn >>= f) = some b ∧ Q b := by
  obtain ⟨_, _⟩ := hh
  obtain ⟨_, _⟩ := hhn
  have hs : shl32 (h / 2^k) k = h / 2^k * 2^k := by
    unfold shl32; rcases hk with rfl | rfl <;> exact wrap32_eq (by omega)
  have e : carryF32 k h hn = some (h - h / 2^k * 2^k, hn + h / 2^k) := by
    unfold carryF32
    simp only [shr]
    rw [add32_bind _ _ _ (by rcases hk with rfl | rfl <;> omega), hs,
      sub32_bind _ _ _ (by rcases hk with rfl | rfl <;> omega)]
    rfl
  refine bind_some e (hf _ ?_ ?_) <;> rcases hk with rfl | rfl <;> omega

/-- the top limb: its carry is dropped -/
theorem carry_top {h : Int} (hh : Within h (2^29)) :
    ∃ c, sub32 h (shl32 (h / 2^25) 25) = some (h - c * 2^25) ∧ Dig 25 (h - c * 2^25) := by
  obtain ⟨_, _⟩ := hh
  refine ⟨h / 2^25, ?_, by omega⟩
  have hs : shl32 (h / 2^25) 25 = h / 2^25 * 2^25 := by unfold shl32; exact wrap32_eq (by omega)
  rw [hs]; unfold sub32; exact ck32_some (by omega)

def Digits (r : Fe) : Prop :=
  Dig 26 r.l0 ∧ Dig 25 r.l1 ∧ Dig 26 r.l2 ∧ Dig 25 r.l3 ∧ Dig 26 r.l4 ∧ Dig 25 r.l5 ∧ Dig 26 r.l6 ∧ Dig 25 r.l7 ∧
  Dig 26 r.l8 ∧ Dig 25 r.l9

theorem dig_add {a b : Int} {k m : Nat} (ha : Dig k a) (hb : Dig m b) : Dig (k + m) (a + 2^k * b) := by
  have hk : (0 : Int) < 2^k := Int.pow_pos (by decide)
  have h1 : 2^k * (b + 1) ≤ 2^k * 2^m := Int.mul_le_mul_of_nonneg_left (by omega) (Int.le_of_lt hk)
  have h2 : 0 ≤ 2^k * b := Int.mul_nonneg (Int.le_of_lt hk) hb.1
  unfold Dig
  rw [Int.pow_add]
  rw [Int.mul_add, Int.mul_one] at h1
  omega

theorem Digits.val_lt {r : Fe} (hr : Digits r) : 0 ≤ val r ∧ val r < 2^255 :=
  dig_add (dig_add (dig_add (dig_add (dig_add (dig_add (dig_add (dig_add (dig_add hr.1 hr.2.1) hr.2.2.1) hr.2.2.2.1)
    hr.2.2.2.2.1) hr.2.2.2.2.2.1) hr.2.2.2.2.2.2.1) hr.2.2.2.2.2.2.2.1) hr.2.2.2.2.2.2.2.2.1) hr.2.2.2.2.2.2.2.2.2

theorem canon {R V q c : Int} (hv : R = V + 19 * q - 2^255 * c) (hb : 0 ≤ R ∧ R < 2^255)
    (he : (2^255 - 19) * q ≤ V ∧ V < (2^255 - 19) * q + (2^255 - 19)) : R = V % (p : Int) := by
  rw [p_eq]; omega

/-- **to_bytes, arithmetic part**: digits of `val f mod p`.
    The carries telescope to `val r = val f + 19·q − 2^255·c` with `c` the carry out of the top limb; `val r` is a
    255-bit number and `q = ⌊val f / p⌋`, which leaves `c = q` and `val r = val f − p·q`. -/
theorem to_bytes_limbs_spec (f : Fe) (hf : W 6 f) :
    ∃ r, to_bytes_limbs f = some r ∧ Digits r ∧ val r = val f % (p : Int) := by
  have hq9 : Within f.l9 (6 * (2^24 + 2^20)) := hf.2.2.2.2.2.2.2.2.2
  refine ck32_step (by omega) (ck32_step (by omega) ?_)
  have s : Within ((19 * f.l9 + 2^24) / 2^25) (2^20) := by omega
  obtain ⟨b0, b1, b2, b3, b4, b5, b6, b7, b8, b9⟩ := hf.cols28
  clear hf
  have he := qest (val f) f.l9 _ ((19 * f.l9 + 2^24) / 2^25) _ (by simp only [val]; omega)
    (((((((((b0.shl_add 26 b1).shl_add 51 b2).shl_add 77 b3).shl_add 102 b4).shl_add 128 b5).shl_add 153 b6).shl_add 179
      b7).shl_add 204 b8).mono (by decide)) (hq9.mono (by decide)) rfl rfl
  clear hq9
  refine qstep_step (.inr rfl) b0 s fun s => ?_
  refine qstep_step (.inl rfl) b1 s fun s => ?_
  refine qstep_step (.inr rfl) b2 s fun s => ?_
  refine qstep_step (.inl rfl) b3 s fun s => ?_
  refine qstep_step (.inr rfl) b4 s fun s => ?_
  refine qstep_step (.inl rfl) b5 s fun s => ?_
  refine qstep_step (.inr rfl) b6 s fun s => ?_
  refine qstep_step (.inl rfl) b7 s fun s => ?_
  refine qstep_step (.inr rfl) b8 s fun s => ?_
  refine qstep_step (.inl rfl) b9 s fun s => ?_
  simp only [shr] at s ⊢
  rw [qchain] at s ⊢
  generalize ((val f + (19 * f.l9 + 2^24) / 2^25) / 2^255) = q at he s ⊢
  have s := s.scale 19 (by decide)
  have t := b0.add s
  refine ck32_step (s.i32 (by decide)) (ck32_step (t.i32 (by decide)) ?_)
  refine carryF32_step (.inr rfl) (t.mono (by decide)) b1 fun c0 d0 t => ?_
  refine carryF32_step (.inl rfl) t b2 fun c1 d1 t => ?_
  refine carryF32_step (.inr rfl) t b3 fun c2 d2 t => ?_
  refine carryF32_step (.inl rfl) t b4 fun c3 d3 t => ?_
  refine carryF32_step (.inr rfl) t b5 fun c4 d4 t => ?_
  refine carryF32_step (.inl rfl) t b6 fun c5 d5 t => ?_
  refine carryF32_step (.inr rfl) t b7 fun c6 d6 t => ?_
  refine carryF32_step (.inl rfl) t b8 fun c7 d7 t => ?_
  refine carryF32_step (.inr rfl) t b9 fun c8 d8 t => ?_
  obtain ⟨c9, e, d9⟩ := carry_top t
  refine bind_some e ⟨_, rfl, ?hr, canon (c := c9) ?_ (Digits.val_lt ?hr) he⟩
  case hr => exact ⟨d0, d1, d2, d3, d4, d5, d6, d7, d8, d9⟩
  simp only [val]; ring

theorem pack_eq (r : Fe) : pack r = packG shl32 32 0 [(26, r.l0), (25, r.l1), (26, r.l2), (25, r.l3), (26, r.l4), (25, r.l5),
    (26, r.l6), (25, r.l7), (26, r.l8), (25, r.l9)] := rfl

theorem pack_spec (r : Fe) (hr : Digits r) : pack r = natToLE 32 (val r).toNat := by
  rw [pack_eq, packG_zero u8or_shl32 32
    (by simp only [List.mem_cons, List.not_mem_nil, or_false, forall_eq_or_imp, forall_eq]; exact hr) rfl]
  refine congrArg (fun v => natToLE 32 (Int.toNat v)) ?_
  simp only [lval, val]
  ring

theorem to_bytes_spec (f : Fe) (hf : W 6 f) : to_bytes f = some (Field25519.encode (eval f)) := by
  obtain ⟨r, er, hr, vr⟩ := to_bytes_limbs_spec f hf
  unfold to_bytes
  rw [er, some_bind, pure_eq_some, pack_spec r hr, vr]
  unfold Field25519.encode
  rw [Nat.mod_eq_of_lt (eval_lt f)]
  rfl

end Cx.Proofs.Fe32
