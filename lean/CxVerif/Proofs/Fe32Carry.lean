/-
  Proofs.Fe32Carry — the two carry tails of fe32 (`carry_mul`: end of Mul / square / square_and_double;
  `carry_par`: end of from_bytes / mul_small): for i64 columns within ±3·2^60 (`carry_mul`) or ±2^45 (`carry_par`)
  no i64 operation overflows, the `as i32` casts lose nothing, the result is reduced (`W 1`) and denotes the same
  residue (2^255 ≡ 19).
  Each tail is walked carry by carry with `carryR_step` / `carryR19_step`: the bound a carry leaves on its two limbs
  is a closed term in the bounds it was given, so the carries may come in any order (ref10 interleaves two chains)
  and no step needs a bound chosen by hand.
-/
import CxVerif.Proofs.Fe32Basic
namespace Cx.Proofs.Fe32
open Cx Cx.Impl.Fe32
open Cx.Spec.Field25519 (p)

theorem carryR_step {k : Nat} (hk : k = 25 ∨ k = 26) {h hn H N : Int} (hh : Within h H) (hhn : Within hn N)
    {β} {f : Int × Int → Option β} {Q : β → Prop}
    (hf : ∀ c, Within (h - c * 2^k) (2^(k-1)) → Within (hn + c) (N + (H / 2^k + 1)) →
      ∃ b, f (h - c * 2^k, hn + c) = some b ∧ Q b)
    (hH : H ≤ 2^62 := by decide) (hN : N ≤ 2^62 := by decide) : ∃ b, (carryR k h hn >>= f) = some b ∧ Q b := by
  obtain ⟨_, _⟩ := hh
  obtain ⟨_, _⟩ := hhn
  refine bind_some (carryR_eq hk h hn (by omega) (by omega)) (hf _ ?_ ?_) <;>
    rcases hk with rfl | rfl <;> omega

theorem carryR19_step {h9 h0 H N : Int} (hh : Within h9 H) (hh0 : Within h0 N)
    {β} {f : Int × Int → Option β} {Q : β → Prop}
    (hf : ∀ c, Within (h9 - c * 2^25) (2^24) → Within (h0 + c * 19) (N + 19 * (H / 2^25 + 1)) →
      ∃ b, f (h9 - c * 2^25, h0 + c * 19) = some b ∧ Q b)
    (hH : H ≤ 2^62 := by decide) (hN : N ≤ 2^62 := by decide) : ∃ b, (carryR19 h9 h0 >>= f) = some b ∧ Q b := by
  obtain ⟨_, _⟩ := hh
  obtain ⟨_, _⟩ := hh0
  refine bind_some (carryR19_eq h9 h0 (by omega) (by omega)) (hf _ ?_ ?_) <;> omega

/-- the ten i64 columns within `±T`.  `3·2^60`: what `carry_mul` accepts (the columns of `Mul` for `W 3` operands reach
    2^60.2, those of `square` half of that, doubled in `square_and_double`); `2^45`: what `from_bytes` and
    `mul_small::<S0>` with `S0 ≤ 2^18` hand to `carry_par` -/
def Cols (T : Int) (h : Fe) : Prop :=
  Within h.l0 T ∧ Within h.l1 T ∧ Within h.l2 T ∧ Within h.l3 T ∧ Within h.l4 T ∧ Within h.l5 T ∧ Within h.l6 T ∧
  Within h.l7 T ∧ Within h.l8 T ∧ Within h.l9 T

theorem mod_p_of_eq {a b k : Int} (h : a = b + (p : Int) * k) : a % (p : Int) = b % (p : Int) := by
  rw [h, Int.add_mul_emod_self_left]

theorem castFe_of_W1 {h : Fe} (hw : W 1 h) : castFe h = h := by
  unfold castFe
  rw [wrap32_eq (fits_even hw.1 (by decide)), wrap32_eq (fits_odd hw.2.1 (by decide)),
    wrap32_eq (fits_even hw.2.2.1 (by decide)), wrap32_eq (fits_odd hw.2.2.2.1 (by decide)),
    wrap32_eq (fits_even hw.2.2.2.2.1 (by decide)), wrap32_eq (fits_odd hw.2.2.2.2.2.1 (by decide)),
    wrap32_eq (fits_even hw.2.2.2.2.2.2.1 (by decide)), wrap32_eq (fits_odd hw.2.2.2.2.2.2.2.1 (by decide)),
    wrap32_eq (fits_even hw.2.2.2.2.2.2.2.2.1 (by decide)), wrap32_eq (fits_odd hw.2.2.2.2.2.2.2.2.2 (by decide))]

theorem carry_par_spec (h : Fe) (hc : Cols (2^45) h) :
    ∃ r, carry_par h = some r ∧ W 1 r ∧ val r % (p : Int) = val h % (p : Int) := by
  obtain ⟨h0, h1, h2, h3, h4, h5, h6, h7, h8, h9⟩ := h
  obtain ⟨H0, H1, H2, H3, H4, H5, H6, H7, H8, H9⟩ := hc
  -- `lᵢ` bounds the remainder a carry leaves in limb i, `aᵢ` a column plus the carry into it, `bᵢ` a remainder plus a carry
  refine carryR19_step H9 H0 fun c9 l9 a0 => ?_
  refine carryR_step (.inl rfl) H1 H2 fun c1 l1 a2 => ?_
  refine carryR_step (.inl rfl) H3 H4 fun c3 l3 a4 => ?_
  refine carryR_step (.inl rfl) H5 H6 fun c5 l5 a6 => ?_
  refine carryR_step (.inl rfl) H7 H8 fun c7 l7 a8 => ?_
  refine carryR_step (.inr rfl) a0 l1 fun c0 l0 b1 => ?_
  refine carryR_step (.inr rfl) a2 l3 fun c2 l2 b3 => ?_
  refine carryR_step (.inr rfl) a4 l5 fun c4 l4 b5 => ?_
  refine carryR_step (.inr rfl) a6 l7 fun c6 l6 b7 => ?_
  refine carryR_step (.inr rfl) a8 l9 fun c8 l8 b9 => ?_
  refine ⟨_, congrArg some (castFe_of_W1 ?hw), ?hw, mod_p_of_eq (k := -c9) ?_⟩
  case hw =>
    exact ⟨l0.mono (by decide), b1.mono (by decide), l2.mono (by decide), b3.mono (by decide), l4.mono (by decide),
      b5.mono (by decide), l6.mono (by decide), b7.mono (by decide), l8.mono (by decide), b9.mono (by decide)⟩
  rw [p_eq]; unfold val; simp only; ring

theorem carry_mul_spec (h : Fe) (hc : Cols (3 * 2^60) h) :
    ∃ r, carry_mul h = some r ∧ W 1 r ∧ val r % (p : Int) = val h % (p : Int) := by
  obtain ⟨h0, h1, h2, h3, h4, h5, h6, h7, h8, h9⟩ := h
  obtain ⟨H0, H1, H2, H3, H4, H5, H6, H7, H8, H9⟩ := hc
  -- names as in `carry_par_spec`; limbs 4 and 0 are carried twice (`d4`, `d0` with remainders `m4`, `m0`)
  refine carryR_step (.inr rfl) H0 H1 fun c0 l0 a1 => ?_
  refine carryR_step (.inr rfl) H4 H5 fun c4 l4 a5 => ?_
  refine carryR_step (.inl rfl) a1 H2 fun c1 l1 a2 => ?_
  refine carryR_step (.inl rfl) a5 H6 fun c5 l5 a6 => ?_
  refine carryR_step (.inr rfl) a2 H3 fun c2 l2 a3 => ?_
  refine carryR_step (.inr rfl) a6 H7 fun c6 l6 a7 => ?_
  refine carryR_step (.inl rfl) a3 l4 fun c3 l3 b4 => ?_
  refine carryR_step (.inl rfl) a7 H8 fun c7 l7 a8 => ?_
  refine carryR_step (.inr rfl) b4 l5 fun d4 m4 b5 => ?_
  refine carryR_step (.inr rfl) a8 H9 fun c8 l8 a9 => ?_
  refine carryR19_step a9 l0 fun c9 l9 b0 => ?_
  refine carryR_step (.inr rfl) b0 l1 fun d0 m0 b1 => ?_
  refine ⟨_, congrArg some (castFe_of_W1 ?hw), ?hw, mod_p_of_eq (k := -c9) ?_⟩
  case hw =>
    exact ⟨m0.mono (by decide), b1.mono (by decide), l2.mono (by decide), l3.mono (by decide), m4.mono (by decide),
      b5.mono (by decide), l6.mono (by decide), l7.mono (by decide), l8.mono (by decide), l9.mono (by decide)⟩
  rw [p_eq]; unfold val; simp only; ring

end Cx.Proofs.Fe32
