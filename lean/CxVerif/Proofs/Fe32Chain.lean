/-
  Proofs.Fe32Chain — the remaining multiplicative operators of fe32: `square_and_double`, `mul_small`,
  `square_repeatdly`, and the addition chains of fe/mod.rs run on the 32-bit backend:
  `invert z = z^(p−2)`, `pow25523 z = z^((p−5)/8)` for every operand of weight ≤ 3.
-/
import CxVerif.Proofs.Fe32Mul
import CxVerif.Proofs.Field25519
import CxVerif.Proofs.PowChain
namespace Cx.Proofs.Fe32
open Cx Cx.Spec Cx.Impl.Fe32
open Cx.Spec.Field25519 (p)

theorem Cols.run {T : Int} {h : Fe} (hc : Cols T h) {tail : Fe → Option Fe} {Q : Fe → Prop}
    (ht : ∃ r, tail h = some r ∧ Q r) (hT : T < 2^63 := by decide) :
    ∃ r, (ck64 h.l0 >>= fun h0 => ck64 h.l1 >>= fun h1 => ck64 h.l2 >>= fun h2 => ck64 h.l3 >>= fun h3 =>
      ck64 h.l4 >>= fun h4 => ck64 h.l5 >>= fun h5 => ck64 h.l6 >>= fun h6 => ck64 h.l7 >>= fun h7 =>
      ck64 h.l8 >>= fun h8 => ck64 h.l9 >>= fun h9 => tail ⟨h0, h1, h2, h3, h4, h5, h6, h7, h8, h9⟩) = some r ∧ Q r :=
  ck64_step (hc.1.i64 hT) (ck64_step (hc.2.1.i64 hT) (ck64_step (hc.2.2.1.i64 hT) (ck64_step (hc.2.2.2.1.i64 hT)
    (ck64_step (hc.2.2.2.2.1.i64 hT) (ck64_step (hc.2.2.2.2.2.1.i64 hT) (ck64_step (hc.2.2.2.2.2.2.1.i64 hT)
    (ck64_step (hc.2.2.2.2.2.2.2.1.i64 hT) (ck64_step (hc.2.2.2.2.2.2.2.2.1.i64 hT)
    (ck64_step (hc.2.2.2.2.2.2.2.2.2.i64 hT) ht)))))))))

/-- the columns after `h_i += h_i` -/
def dbl (c : Fe) : Fe :=
  ⟨c.l0 + c.l0, c.l1 + c.l1, c.l2 + c.l2, c.l3 + c.l3, c.l4 + c.l4, c.l5 + c.l5, c.l6 + c.l6, c.l7 + c.l7, c.l8 + c.l8,
    c.l9 + c.l9⟩

theorem square_and_double_spec (f : Fe) (hf : W 3 f) :
    ∃ h, square_and_double f = some h ∧ W 1 h ∧ eval h = Field25519.mul 2 (Field25519.sq (eval f)) := by
  obtain ⟨c, ec, hc, vc⟩ := sq_cols_spec f hf
  have hd : Cols (3 * 2^60) (dbl c) := by unfold Cols dbl at *; simp only; omega
  obtain ⟨r, er, hr, vr⟩ := carry_mul_spec _ hd
  refine bind_some ec (hd.run ⟨r, er, hr, ?_⟩)
  have h2 : val (dbl c) = 2 * val c := by unfold val dbl; simp only; ring
  have hv : val r % (p : Int) = (2 * (val f * val f)) % (p : Int) := by
    rw [vr, h2, Int.mul_emod, vc, ← Int.mul_emod]
  unfold eval
  rw [hv, mul_bridge 2 (val f * val f), mul_bridge (val f) (val f)]
  rfl

theorem mul_small_spec (f : Fe) (s : Nat) (hf : W 3 f) (hs : s ≤ 2^18) :
    ∃ h, mul_small f s = some h ∧ W 1 h ∧ eval h = Field25519.mul (eval f) s := by
  have hs32 : s % 2^32 = s := Nat.mod_eq_of_lt (by omega)
  have S : Within (s : Int) (2^18) := by constructor <;> omega
  obtain ⟨F0, F1, F2, F3, F4, F5, F6, F7, F8, F9⟩ := hf
  have hc : Cols (2^45) ⟨f.l0 * s, f.l1 * s, f.l2 * s, f.l3 * s, f.l4 * s, f.l5 * s, f.l6 * s, f.l7 * s, f.l8 * s,
      f.l9 * s⟩ :=
    ⟨(emul_bnd F0 S).mono (by decide), (emul_bnd F1 S).mono (by decide), (emul_bnd F2 S).mono (by decide),
      (emul_bnd F3 S).mono (by decide), (emul_bnd F4 S).mono (by decide), (emul_bnd F5 S).mono (by decide),
      (emul_bnd F6 S).mono (by decide), (emul_bnd F7 S).mono (by decide), (emul_bnd F8 S).mono (by decide),
      (emul_bnd F9 S).mono (by decide)⟩
  obtain ⟨r, er, hr, vr⟩ := carry_par_spec _ hc
  unfold mul_small
  simp only [hs32]
  refine hc.run ⟨r, er, hr, ?_⟩
  have h2 : val ⟨f.l0 * s, f.l1 * s, f.l2 * s, f.l3 * s, f.l4 * s, f.l5 * s, f.l6 * s, f.l7 * s, f.l8 * s,
      f.l9 * s⟩ = val f * (s : Int) := by unfold val; simp only; ring
  unfold eval
  rw [vr, h2, mul_bridge]
  congr 1
  rw [← Int.natCast_mod, Int.toNat_natCast]
  exact Nat.mod_eq_of_lt (by rw [pN_eq]; omega)

theorem ops : PowChain.Ops mul square square_repeatdly eval (W 3) (W 1) where
  out_in h := h.w3
  ev_mod := eval_mod
  mul_ok := mul_spec
  sq_ok := square_spec
  rep_zero _ := rfl
  rep_succ f n := by rw [square_repeatdly]; cases square f <;> rfl

/-- `square_repeatdly(0)` returns its argument (fix k) -/
theorem square_repeatdly_spec (n : Nat) : ∀ (f : Fe), W 3 f →
    ∃ h, square_repeatdly f n = some h ∧ (0 < n → W 1 h) ∧ (n = 0 → h = f) ∧
      eval h = (eval f) ^ (2^n) % p := ops.sqrep_spec n

/-- the pre-fix loop (`for _ in 0..n` after one unconditional squaring) squared once for `n = 0`:
    the current model returns the argument itself -/
theorem square_repeatdly_zero (f : Fe) : square_repeatdly f 0 = some f := rfl

theorem pow25523_spec (z : Fe) (hz : W 3 z) :
    ∃ h, pow25523 z = some h ∧ W 1 h ∧ eval h = Field25519.pow25523 (eval z) := by
  obtain ⟨a, b, e, _, hb⟩ := ops.chain250 hz
  refine bind_some e ?_
  obtain ⟨d, e, ht, hv⟩ := ops.tail 2 (by decide) hb (ops.base hz)
  exact ⟨d, e, ht, by rw [hv, Cx.Proofs.Field25519.pow25523_eq]⟩

/-- `invert z = z^(p−2)` (including `z ≡ 0`, where the result is 0) -/
theorem invert_spec (z : Fe) (hz : W 3 z) :
    ∃ h, invert z = some h ∧ W 1 h ∧ eval h = Field25519.inv (eval z) := by
  obtain ⟨a, b, e, ha, hb⟩ := ops.chain250 hz
  refine bind_some e ?_
  obtain ⟨d, e, ht, hv⟩ := ops.tail 5 (by decide) hb ha
  exact ⟨d, e, ht, by rw [hv, Cx.Proofs.Field25519.inv_eq]; congr 2⟩

end Cx.Proofs.Fe32
