/-
  Proofs.Fe32FromBytes — `from_bytes` of fe32: for EVERY 32-byte string the ten loads and ten rounded carries do not
  overflow, the limbs are reduced (`W 1`) and the value is the little-endian integer with bit 255 ignored, modulo p
  (the wrap-around carry h9 → h0 may subtract p: the limbs are signed).  The ten loads are the consecutive fields of
  `le(b)` of widths 32, 24, 24, 24, 24, 32, 24, 24, 24, 23; consecutive fields of any widths tile the number (`tiled_fieldsOf`).
-/
import CxVerif.Proofs.Fe32Carry
import CxVerif.Proofs.Bits
namespace Cx.Proofs.Fe32
open Cx Cx.Spec Cx.Impl.Fe32
open Cx.Spec.Field25519 (p)
open Cx.Proofs.Bits (leNat_window_succ leNat_window_zero field_lt field_low tiled tiled_fieldsOf)

theorem load_3i_eq (b : Bytes) (h : b.length = 32) (o : Nat) (ho : o + 2 < 32) :
    load_3i b h o ho = ((leNat b / 2^(8*o) % 2^24 : Nat) : Int) := by
  rw [show (2:Nat)^24 = 2^(8*(2+1)) from rfl, leNat_window_succ b o 2 (by omega),
    leNat_window_succ b (o+1) 1 (by omega), leNat_window_succ b (o+2) 0 (by omega), leNat_window_zero]
  unfold load_3i
  rw [Bits.load3_sum _ _ _ (UInt8.toNat_lt _) (UInt8.toNat_lt _)]
  congr 1; omega

theorem load_4i_eq (b : Bytes) (h : b.length = 32) (o : Nat) (ho : o + 3 < 32) :
    load_4i b h o ho = ((leNat b / 2^(8*o) % 2^32 : Nat) : Int) := by
  rw [show (2:Nat)^32 = 2^(8*(3+1)) from rfl, leNat_window_succ b o 3 (by omega),
    leNat_window_succ b (o+1) 2 (by omega), leNat_window_succ b (o+2) 1 (by omega),
    leNat_window_succ b (o+3) 0 (by omega), leNat_window_zero]
  unfold load_4i
  rw [Bits.load4_sum _ _ _ _ (UInt8.toNat_lt _) (UInt8.toNat_lt _) (UInt8.toNat_lt _)]
  congr 1; omega

theorem shl64_small {x : Int} {k : Nat} (hx : -2^63 ≤ x * 2^k ∧ x * 2^k < 2^63) : shl64 x k = x * 2^k := by
  unfold shl64; exact wrap64_eq hx

theorem from_fields (f0 f1 f2 f3 f4 f5 f6 f7 f8 f9 N : Nat) (l0 : f0 < 2^32) (l1 : f1 < 2^24) (l2 : f2 < 2^24) (l3 : f3 < 2^24)
    (l4 : f4 < 2^24) (l5 : f5 < 2^32) (l6 : f6 < 2^24) (l7 : f7 < 2^24) (l8 : f8 < 2^24)
    (hN : N = tiled [(32, f0), (24, f1), (24, f2), (24, f3), (24, f4), (32, f5), (24, f6), (24, f7), (24, f8),
      (23, f9 % 2^23)]) :
    ∃ r, carry_par ⟨f0, shl64 f1 6, shl64 f2 5, shl64 f3 3, shl64 f4 2, f5, shl64 f6 7, shl64 f7 5, shl64 f8 4,
        shl64 ((f9 : Int) % 2^23) 2⟩ = some r ∧ W 1 r ∧ val r % (p : Int) = (N : Int) % (p : Int) ∧ eval r = N % Field25519.p := by
  have key : ∀ c : Fe, Cols (2^45) c → val c = (N : Int) → ∃ r, carry_par c = some r ∧ W 1 r ∧
      val r % (p : Int) = (N : Int) % (p : Int) ∧ eval r = N % Field25519.p := by
    intro c hc hv
    obtain ⟨r, er, hr, vr⟩ := carry_par_spec c hc
    rw [hv] at vr
    exact ⟨r, er, hr, vr, eval_of_val vr⟩
  have e9 : (f9 : Int) % 2^23 = ((f9 % 2^23 : Nat) : Int) := by omega
  rw [e9]
  have m9 : f9 % 2^23 < 2^23 := Nat.mod_lt _ (by decide)
  generalize f9 % 2^23 = g9 at hN m9 ⊢
  clear e9
  revert hN
  rw [shl64_small (by omega), shl64_small (by omega), shl64_small (by omega), shl64_small (by omega),
    shl64_small (by omega), shl64_small (by omega), shl64_small (by omega), shl64_small (by omega)]
  intro hN
  apply key
  · unfold Cols; simp only; clear hN; omega
  · rw [hN]; simp only [tiled, List.foldr, val]; push_cast; ring

theorem from_bytes_spec (b : Bytes) (h : b.length = 32) :
    ∃ r, from_bytes b h = some r ∧ W 1 r ∧ val r % (p : Int) = ((leNat b % 2^255 : Nat) : Int) % (p : Int) ∧
      eval r = Field25519.decode b := by
  unfold from_bytes Field25519.decode
  simp only [load_3i_eq, load_4i_eq, Nat.reduceMul]
  generalize leNat b = v
  refine from_fields _ _ _ _ _ _ _ _ _ _ _ (field_lt ..) (field_lt ..) (field_lt ..) (field_lt ..) (field_lt ..) (field_lt ..)
    (field_lt ..) (field_lt ..) (field_lt ..) ?_
  have h := tiled_fieldsOf v [32, 24, 24, 24, 24, 32, 24, 24, 24, 23] 0
  rw [Nat.pow_zero, Nat.div_one] at h
  rw [field_low v 232 24 23 (by decide)]
  exact h.symm
end Cx.Proofs.Fe32
