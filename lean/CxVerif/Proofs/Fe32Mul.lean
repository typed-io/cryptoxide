/-
  Proofs.Fe32Mul — Mul and square of fe32.  For operands of weight 3 (`W 3`: |even limb| ≤ 3·2^25, |odd limb| ≤
  3·(2^24 + 2^20), inside the ref10 bound 1.65·2^26 / 1.65·2^25) no i32 / i64 operation overflows, the result is
  reduced (`W 1`) and denotes the product mod p.
  Every product is `emul x y` of two factors that are a limb or a small multiple of a limb, so it is within the
  product of the factors' bounds (`emul_bnd`); a column is a checked sum of such terms (`sum64_bnd`); the columns
  are the product of the values up to a multiple of p (`ring`); the carries are `carry_mul_spec`.
-/
import CxVerif.Proofs.Fe32Carry
import CxVerif.Proofs.Limbs
import Mathlib.Tactic.Linarith
namespace Cx.Proofs.Fe32
open Cx Cx.Impl.Fe32
open Cx.Spec
open Cx.Spec.Field25519 (p)
open Cx.Proofs.Limbs (All₂)

theorem emul_bnd {x y X Y : Int} (hx : Within x X) (hy : Within y Y) : Within (emul x y) (X * Y) := by
  unfold emul
  constructor
  · nlinarith [mul_nonneg (sub_nonneg.2 hx.2) (sub_nonneg.2 hy.2), mul_nonneg (sub_nonneg.2 (neg_le.1 hx.1)) (sub_nonneg.2 (neg_le.1 hy.1))]
  · nlinarith [mul_nonneg (sub_nonneg.2 hx.2) (sub_nonneg.2 (neg_le.1 hy.1)), mul_nonneg (sub_nonneg.2 (neg_le.1 hx.1)) (sub_nonneg.2 hy.2)]

theorem Within.sum_nonneg : ∀ {xs bs : List Int}, All₂ Within xs bs → 0 ≤ bs.sum
  | _, _, .nil => by simp
  | _, _, .cons ⟨_, _⟩ t => by have := Within.sum_nonneg t; simp only [List.sum_cons]; omega

theorem foldlM_add64 : ∀ {xs bs : List Int} {acc B : Int} (T : Int), Within acc B → All₂ Within xs bs →
    B + bs.sum ≤ T → T ≤ 2^62 →
    xs.foldlM (fun a y => add64 a y) acc = some (xs.foldl (· + ·) acc) ∧ Within (xs.foldl (· + ·) acc) T
  | _, _, _, _, T, ⟨_, _⟩, .nil, hT, _ =>
    ⟨rfl, by simp only [List.sum_nil] at hT; simp only [List.foldl_nil, Within]; omega⟩
  | x :: xs, b :: bs, acc, B, T, ⟨_, _⟩, .cons ⟨_, _⟩ ht, hT, h62 => by
    have := Within.sum_nonneg ht
    simp only [List.sum_cons] at hT
    simp only [List.foldlM_cons, List.foldl_cons]
    rw [add64_bind _ _ _ (by omega)]
    exact foldlM_add64 (B := B + b) T ⟨by omega, by omega⟩ ht (by omega) h62

theorem sum64_bnd {x b : Int} {xs bs : List Int} (T : Int) (h : All₂ Within (x :: xs) (b :: bs))
    (hT : (b :: bs).sum ≤ T) (h62 : T ≤ 2^62) :
    sum64 (x :: xs) = some (xs.foldl (· + ·) x) ∧ Within (xs.foldl (· + ·) x) T := by
  cases h with
  | cons hx ht => exact foldlM_add64 T hx ht (by simpa using hT) h62

/-- what the folding `2^255 ↦ 19` drops from `val f · val g`: columns 10 … 18 of the schoolbook product
    (a factor 2 where both limbs are odd: their offsets are rounded up), as a number -/
def foldK (f g : Fe) : Int := val
   ⟨2 * f.l1 * g.l9 + f.l2 * g.l8 + 2 * f.l3 * g.l7 + f.l4 * g.l6 + 2 * f.l5 * g.l5 + f.l6 * g.l4 + 2 * f.l7 * g.l3 + f.l8 * g.l2 + 2 * f.l9 * g.l1,
    f.l2 * g.l9 + f.l3 * g.l8 + f.l4 * g.l7 + f.l5 * g.l6 + f.l6 * g.l5 + f.l7 * g.l4 + f.l8 * g.l3 + f.l9 * g.l2,
    2 * f.l3 * g.l9 + f.l4 * g.l8 + 2 * f.l5 * g.l7 + f.l6 * g.l6 + 2 * f.l7 * g.l5 + f.l8 * g.l4 + 2 * f.l9 * g.l3,
    f.l4 * g.l9 + f.l5 * g.l8 + f.l6 * g.l7 + f.l7 * g.l6 + f.l8 * g.l5 + f.l9 * g.l4,
    2 * f.l5 * g.l9 + f.l6 * g.l8 + 2 * f.l7 * g.l7 + f.l8 * g.l6 + 2 * f.l9 * g.l5,
    f.l6 * g.l9 + f.l7 * g.l8 + f.l8 * g.l7 + f.l9 * g.l6,
    2 * f.l7 * g.l9 + f.l8 * g.l8 + 2 * f.l9 * g.l7,
    f.l8 * g.l9 + f.l9 * g.l8,
    2 * f.l9 * g.l9,
    0⟩

theorem mul_cols_spec (f g : Fe) (hf : W 3 f) (hg : W 3 g) :
    ∃ c, mul_cols f g = some c ∧ Cols (3 * 2^60) c ∧ val c % (p : Int) = (val f * val g) % (p : Int) := by
  obtain ⟨F0, F1, F2, F3, F4, F5, F6, F7, F8, F9⟩ := hf
  obtain ⟨G0, G1, G2, G3, G4, G5, G6, G7, G8, G9⟩ := hg
  have G1_19 := Within.scale G1 19 (by decide)
  have G2_19 := Within.scale G2 19 (by decide)
  have G3_19 := Within.scale G3 19 (by decide)
  have G4_19 := Within.scale G4 19 (by decide)
  have G5_19 := Within.scale G5 19 (by decide)
  have G6_19 := Within.scale G6 19 (by decide)
  have G7_19 := Within.scale G7 19 (by decide)
  have G8_19 := Within.scale G8 19 (by decide)
  have G9_19 := Within.scale G9 19 (by decide)
  have F1_2 := Within.scale F1 2 (by decide)
  have F3_2 := Within.scale F3 2 (by decide)
  have F5_2 := Within.scale F5 2 (by decide)
  have F7_2 := Within.scale F7 2 (by decide)
  have F9_2 := Within.scale F9 2 (by decide)
  have c0 := sum64_bnd (3 * 2^60) (.cons (emul_bnd F0 G0) (.cons (emul_bnd F1_2 G9_19) (.cons (emul_bnd F2 G8_19) (.cons (emul_bnd F3_2 G7_19)
    (.cons (emul_bnd F4 G6_19) (.cons (emul_bnd F5_2 G5_19) (.cons (emul_bnd F6 G4_19) (.cons (emul_bnd F7_2 G3_19) (.cons (emul_bnd F8 G2_19)
    (.cons (emul_bnd F9_2 G1_19) .nil)))))))))) (by decide) (by decide)
  have c1 := sum64_bnd (3 * 2^60) (.cons (emul_bnd F0 G1) (.cons (emul_bnd F1 G0) (.cons (emul_bnd F2 G9_19) (.cons (emul_bnd F3 G8_19)
    (.cons (emul_bnd F4 G7_19) (.cons (emul_bnd F5 G6_19) (.cons (emul_bnd F6 G5_19) (.cons (emul_bnd F7 G4_19) (.cons (emul_bnd F8 G3_19)
    (.cons (emul_bnd F9 G2_19) .nil)))))))))) (by decide) (by decide)
  have c2 := sum64_bnd (3 * 2^60) (.cons (emul_bnd F0 G2) (.cons (emul_bnd F1_2 G1) (.cons (emul_bnd F2 G0) (.cons (emul_bnd F3_2 G9_19)
    (.cons (emul_bnd F4 G8_19) (.cons (emul_bnd F5_2 G7_19) (.cons (emul_bnd F6 G6_19) (.cons (emul_bnd F7_2 G5_19) (.cons (emul_bnd F8 G4_19)
    (.cons (emul_bnd F9_2 G3_19) .nil)))))))))) (by decide) (by decide)
  have c3 := sum64_bnd (3 * 2^60) (.cons (emul_bnd F0 G3) (.cons (emul_bnd F1 G2) (.cons (emul_bnd F2 G1) (.cons (emul_bnd F3 G0)
    (.cons (emul_bnd F4 G9_19) (.cons (emul_bnd F5 G8_19) (.cons (emul_bnd F6 G7_19) (.cons (emul_bnd F7 G6_19) (.cons (emul_bnd F8 G5_19)
    (.cons (emul_bnd F9 G4_19) .nil)))))))))) (by decide) (by decide)
  have c4 := sum64_bnd (3 * 2^60) (.cons (emul_bnd F0 G4) (.cons (emul_bnd F1_2 G3) (.cons (emul_bnd F2 G2) (.cons (emul_bnd F3_2 G1)
    (.cons (emul_bnd F4 G0) (.cons (emul_bnd F5_2 G9_19) (.cons (emul_bnd F6 G8_19) (.cons (emul_bnd F7_2 G7_19) (.cons (emul_bnd F8 G6_19)
    (.cons (emul_bnd F9_2 G5_19) .nil)))))))))) (by decide) (by decide)
  have c5 := sum64_bnd (3 * 2^60) (.cons (emul_bnd F0 G5) (.cons (emul_bnd F1 G4) (.cons (emul_bnd F2 G3) (.cons (emul_bnd F3 G2)
    (.cons (emul_bnd F4 G1) (.cons (emul_bnd F5 G0) (.cons (emul_bnd F6 G9_19) (.cons (emul_bnd F7 G8_19) (.cons (emul_bnd F8 G7_19)
    (.cons (emul_bnd F9 G6_19) .nil)))))))))) (by decide) (by decide)
  have c6 := sum64_bnd (3 * 2^60) (.cons (emul_bnd F0 G6) (.cons (emul_bnd F1_2 G5) (.cons (emul_bnd F2 G4) (.cons (emul_bnd F3_2 G3)
    (.cons (emul_bnd F4 G2) (.cons (emul_bnd F5_2 G1) (.cons (emul_bnd F6 G0) (.cons (emul_bnd F7_2 G9_19) (.cons (emul_bnd F8 G8_19)
    (.cons (emul_bnd F9_2 G7_19) .nil)))))))))) (by decide) (by decide)
  have c7 := sum64_bnd (3 * 2^60) (.cons (emul_bnd F0 G7) (.cons (emul_bnd F1 G6) (.cons (emul_bnd F2 G5) (.cons (emul_bnd F3 G4)
    (.cons (emul_bnd F4 G3) (.cons (emul_bnd F5 G2) (.cons (emul_bnd F6 G1) (.cons (emul_bnd F7 G0) (.cons (emul_bnd F8 G9_19)
    (.cons (emul_bnd F9 G8_19) .nil)))))))))) (by decide) (by decide)
  have c8 := sum64_bnd (3 * 2^60) (.cons (emul_bnd F0 G8) (.cons (emul_bnd F1_2 G7) (.cons (emul_bnd F2 G6) (.cons (emul_bnd F3_2 G5)
    (.cons (emul_bnd F4 G4) (.cons (emul_bnd F5_2 G3) (.cons (emul_bnd F6 G2) (.cons (emul_bnd F7_2 G1) (.cons (emul_bnd F8 G0)
    (.cons (emul_bnd F9_2 G9_19) .nil)))))))))) (by decide) (by decide)
  have c9 := sum64_bnd (3 * 2^60) (.cons (emul_bnd F0 G9) (.cons (emul_bnd F1 G8) (.cons (emul_bnd F2 G7) (.cons (emul_bnd F3 G6)
    (.cons (emul_bnd F4 G5) (.cons (emul_bnd F5 G4) (.cons (emul_bnd F6 G3) (.cons (emul_bnd F7 G2) (.cons (emul_bnd F8 G1)
    (.cons (emul_bnd F9 G0) .nil)))))))))) (by decide) (by decide)
  refine ck32_step (G1_19.i32 (by decide)) (ck32_step (G2_19.i32 (by decide)) (ck32_step (G3_19.i32 (by decide))
    (ck32_step (G4_19.i32 (by decide)) (ck32_step (G5_19.i32 (by decide)) (ck32_step (G6_19.i32 (by decide))
    (ck32_step (G7_19.i32 (by decide)) (ck32_step (G8_19.i32 (by decide)) (ck32_step (G9_19.i32 (by decide))
    (ck32_step (F1_2.i32 (by decide)) (ck32_step (F3_2.i32 (by decide)) (ck32_step (F5_2.i32 (by decide))
    (ck32_step (F7_2.i32 (by decide)) (ck32_step (F9_2.i32 (by decide)) (bind_some c0.1 (bind_some c1.1 (bind_some c2.1
    (bind_some c3.1 (bind_some c4.1 (bind_some c5.1 (bind_some c6.1 (bind_some c7.1 (bind_some c8.1 (bind_some c9.1
    ⟨_, rfl, ⟨c0.2, c1.2, c2.2, c3.2, c4.2, c5.2, c6.2, c7.2, c8.2, c9.2⟩, mod_p_of_eq (k := -foldK f g) ?_⟩)))))))))))))))))))))))
  simp only [val, foldK, emul, List.foldl, p_eq]
  ring

theorem sq_cols_spec (f : Fe) (hf : W 3 f) :
    ∃ c, sq_cols f = some c ∧ Cols (3 * 2^59) c ∧ val c % (p : Int) = (val f * val f) % (p : Int) := by
  obtain ⟨F0, F1, F2, F3, F4, F5, F6, F7, F8, F9⟩ := hf
  have F0_2 := Within.scale F0 2 (by decide)
  have F1_2 := Within.scale F1 2 (by decide)
  have F2_2 := Within.scale F2 2 (by decide)
  have F3_2 := Within.scale F3 2 (by decide)
  have F4_2 := Within.scale F4 2 (by decide)
  have F5_2 := Within.scale F5 2 (by decide)
  have F6_2 := Within.scale F6 2 (by decide)
  have F7_2 := Within.scale F7 2 (by decide)
  have F5_38 := Within.scale F5 38 (by decide)
  have F6_19 := Within.scale F6 19 (by decide)
  have F7_38 := Within.scale F7 38 (by decide)
  have F8_19 := Within.scale F8 19 (by decide)
  have F9_38 := Within.scale F9 38 (by decide)
  have c0 := sum64_bnd (3 * 2^59) (.cons (emul_bnd F0 F0) (.cons (emul_bnd F1_2 F9_38) (.cons (emul_bnd F2_2 F8_19) (.cons (emul_bnd F3_2 F7_38)
    (.cons (emul_bnd F4_2 F6_19) (.cons (emul_bnd F5 F5_38) .nil)))))) (by decide) (by decide)
  have c1 := sum64_bnd (3 * 2^59) (.cons (emul_bnd F0_2 F1) (.cons (emul_bnd F2 F9_38) (.cons (emul_bnd F3_2 F8_19) (.cons (emul_bnd F4 F7_38)
    (.cons (emul_bnd F5_2 F6_19) .nil))))) (by decide) (by decide)
  have c2 := sum64_bnd (3 * 2^59) (.cons (emul_bnd F0_2 F2) (.cons (emul_bnd F1_2 F1) (.cons (emul_bnd F3_2 F9_38) (.cons (emul_bnd F4_2 F8_19)
    (.cons (emul_bnd F5_2 F7_38) (.cons (emul_bnd F6 F6_19) .nil)))))) (by decide) (by decide)
  have c3 := sum64_bnd (3 * 2^59) (.cons (emul_bnd F0_2 F3) (.cons (emul_bnd F1_2 F2) (.cons (emul_bnd F4 F9_38) (.cons (emul_bnd F5_2 F8_19)
    (.cons (emul_bnd F6 F7_38) .nil))))) (by decide) (by decide)
  have c4 := sum64_bnd (3 * 2^59) (.cons (emul_bnd F0_2 F4) (.cons (emul_bnd F1_2 F3_2) (.cons (emul_bnd F2 F2) (.cons (emul_bnd F5_2 F9_38)
    (.cons (emul_bnd F6_2 F8_19) (.cons (emul_bnd F7 F7_38) .nil)))))) (by decide) (by decide)
  have c5 := sum64_bnd (3 * 2^59) (.cons (emul_bnd F0_2 F5) (.cons (emul_bnd F1_2 F4) (.cons (emul_bnd F2_2 F3) (.cons (emul_bnd F6 F9_38)
    (.cons (emul_bnd F7_2 F8_19) .nil))))) (by decide) (by decide)
  have c6 := sum64_bnd (3 * 2^59) (.cons (emul_bnd F0_2 F6) (.cons (emul_bnd F1_2 F5_2) (.cons (emul_bnd F2_2 F4) (.cons (emul_bnd F3_2 F3)
    (.cons (emul_bnd F7_2 F9_38) (.cons (emul_bnd F8 F8_19) .nil)))))) (by decide) (by decide)
  have c7 := sum64_bnd (3 * 2^59) (.cons (emul_bnd F0_2 F7) (.cons (emul_bnd F1_2 F6) (.cons (emul_bnd F2_2 F5) (.cons (emul_bnd F3_2 F4)
    (.cons (emul_bnd F8 F9_38) .nil))))) (by decide) (by decide)
  have c8 := sum64_bnd (3 * 2^59) (.cons (emul_bnd F0_2 F8) (.cons (emul_bnd F1_2 F7_2) (.cons (emul_bnd F2_2 F6) (.cons (emul_bnd F3_2 F5_2)
    (.cons (emul_bnd F4 F4) (.cons (emul_bnd F9 F9_38) .nil)))))) (by decide) (by decide)
  have c9 := sum64_bnd (3 * 2^59) (.cons (emul_bnd F0_2 F9) (.cons (emul_bnd F1_2 F8) (.cons (emul_bnd F2_2 F7) (.cons (emul_bnd F3_2 F6)
    (.cons (emul_bnd F4_2 F5) .nil))))) (by decide) (by decide)
  refine ck32_step (F0_2.i32 (by decide)) (ck32_step (F1_2.i32 (by decide)) (ck32_step (F2_2.i32 (by decide))
    (ck32_step (F3_2.i32 (by decide)) (ck32_step (F4_2.i32 (by decide)) (ck32_step (F5_2.i32 (by decide))
    (ck32_step (F6_2.i32 (by decide)) (ck32_step (F7_2.i32 (by decide)) (ck32_step (F5_38.i32 (by decide))
    (ck32_step (F6_19.i32 (by decide)) (ck32_step (F7_38.i32 (by decide)) (ck32_step (F8_19.i32 (by decide))
    (ck32_step (F9_38.i32 (by decide)) (bind_some c0.1 (bind_some c1.1 (bind_some c2.1 (bind_some c3.1 (bind_some c4.1
    (bind_some c5.1 (bind_some c6.1 (bind_some c7.1 (bind_some c8.1 (bind_some c9.1
    ⟨_, rfl, ⟨c0.2, c1.2, c2.2, c3.2, c4.2, c5.2, c6.2, c7.2, c8.2, c9.2⟩, mod_p_of_eq (k := -foldK f f) ?_⟩))))))))))))))))))))))
  simp only [val, foldK, emul, List.foldl, p_eq]
  ring

theorem mul_spec (f g : Fe) (hf : W 3 f) (hg : W 3 g) :
    ∃ h, mul f g = some h ∧ W 1 h ∧ eval h = Field25519.mul (eval f) (eval g) := by
  obtain ⟨c, ec, hc, vc⟩ := mul_cols_spec f g hf hg
  obtain ⟨r, er, hr, vr⟩ := carry_mul_spec c hc
  refine ⟨r, ?_, hr, eval_mul_of_val (by rw [vr, vc])⟩
  unfold mul; rw [ec, some_bind, er]

theorem square_spec (f : Fe) (hf : W 3 f) :
    ∃ h, square f = some h ∧ W 1 h ∧ eval h = Field25519.sq (eval f) := by
  obtain ⟨c, ec, hc, vc⟩ := sq_cols_spec f hf
  obtain ⟨r, er, hr, vr⟩ := carry_mul_spec c (by unfold Cols at hc ⊢; omega)
  refine ⟨r, ?_, hr, ?_⟩
  · unfold square; rw [ec, some_bind, er]
  · have := eval_mul_of_val (f := f) (g := f) (h := r) (by rw [vr, vc])
    rw [this]; rfl

end Cx.Proofs.Fe32
