/-
  Proofs.Fe32Pred — is_nonzero, is_negative, ct_eq / `==` (through the canonical encoding, after fix h),
  maybe_swap_with / maybe_set (C18 theorems on the u32 bit patterns) of fe32.  "fix h" is defect (h) of DESIGN.md section 12
  (found in /repo and repaired there): the original `==` compared limbs.
-/
import CxVerif.Proofs.Fe32Bytes
import CxVerif.Proofs.Field25519Encode
namespace Cx.Proofs.Fe32
open Cx Cx.Spec Cx.Impl.Fe32
open Cx.Spec.Field25519 (p)
open Cx.Proofs.Field25519 (p_lt_256_32 ct_ne_encode_zeros)
open Cx.Proofs.Bytes (natToLE_length)

theorem is_nonzero_spec (f : Fe) (hf : W 6 f) : is_nonzero f = some (Field25519.isNonzero (eval f)) := by
  simp only [is_nonzero]
  rw [to_bytes_spec f hf, some_bind, pure_eq_some, ct_ne_encode_zeros _ (eval_lt f)]

theorem is_negative_spec (f : Fe) (hf : W 6 f) : is_negative f = some (Field25519.isNegative (eval f)) := by
  simp only [is_negative]
  rw [to_bytes_spec f hf, some_bind]
  unfold Field25519.encode Field25519.isNegative
  rw [eval_mod]
  simp only [natToLE, pure_eq_some]
  congr 1
  have h1 : ((UInt8.ofNat (eval f % 256)) &&& 1).toNat = eval f % 2 := by
    rw [UInt8.toNat_and, UInt8.toNat_ofNat']
    have : (1 : UInt8).toNat = 1 := rfl
    rw [this, Nat.and_one_is_mod]
    omega
  rcases Nat.mod_two_eq_zero_or_one (eval f) with h | h
  · have : (UInt8.ofNat (eval f % 256)) &&& 1 = 0 := UInt8.toNat_inj.mp (by rw [h1, h]; rfl)
    rw [this, h]; rfl
  · have : (UInt8.ofNat (eval f % 256)) &&& 1 = 1 := UInt8.toNat_inj.mp (by rw [h1, h]; rfl)
    rw [this, h]; rfl

theorem ct_eq_spec (f g : Fe) (hf : W 6 f) (hg : W 6 g) :
    ∃ c, ct_eq f g = some c ∧ c.isTrue = decide (eval f = eval g) := by
  simp only [ct_eq]
  rw [to_bytes_spec f hf, some_bind, to_bytes_spec g hg, some_bind, pure_eq_some]
  refine ⟨_, rfl, ?_⟩
  rw [Cx.Props.C18.array_u8_ct_eq_spec _ _ (by simp [Field25519.encode, Bytes.natToLE_length])]
  unfold Field25519.encode
  rw [eval_mod, eval_mod]
  by_cases h : eval f = eval g
  · rw [h]; simp
  · have : natToLE 32 (eval f) ≠ natToLE 32 (eval g) := fun e =>
      h (Bytes.natToLE_inj (Nat.lt_trans (eval_lt f) p_lt_256_32) (Nat.lt_trans (eval_lt g) p_lt_256_32) e)
    rw [decide_eq_false this, decide_eq_false h]

theorem eq_spec (f g : Fe) (hf : W 6 f) (hg : W 6 g) : eq f g = some (decide (eval f = eval g)) := by
  obtain ⟨c, hc, hcv⟩ := ct_eq_spec f g hf hg
  simp only [eq]
  rw [hc, some_bind, pure_eq_some, hcv]

/-- the limb-wise `==` of the unfixed code is NOT value equality: two reduced representations of 2^25 -/
theorem original_eq_not_value_equality :
    ∃ f g, W 1 f ∧ W 1 g ∧ eval f = eval g ∧ eqOld f g = false ∧ eq f g = some true :=
  ⟨⟨2^25, 0, 0, 0, 0, 0, 0, 0, 0, 0⟩, ⟨-2^25, 1, 0, 0, 0, 0, 0, 0, 0, 0⟩, by decide, by decide, by decide,
    by decide, by decide +kernel⟩

def I32 (f : Fe) : Prop :=
  (-2^31 ≤ f.l0 ∧ f.l0 < 2^31) ∧ (-2^31 ≤ f.l1 ∧ f.l1 < 2^31) ∧ (-2^31 ≤ f.l2 ∧ f.l2 < 2^31) ∧
  (-2^31 ≤ f.l3 ∧ f.l3 < 2^31) ∧ (-2^31 ≤ f.l4 ∧ f.l4 < 2^31) ∧ (-2^31 ≤ f.l5 ∧ f.l5 < 2^31) ∧
  (-2^31 ≤ f.l6 ∧ f.l6 < 2^31) ∧ (-2^31 ≤ f.l7 ∧ f.l7 < 2^31) ∧ (-2^31 ≤ f.l8 ∧ f.l8 < 2^31) ∧
  (-2^31 ≤ f.l9 ∧ f.l9 < 2^31)

theorem ofU32_toU32 (x : Int) (h : -2^31 ≤ x ∧ x < 2^31) : ofU32 (toU32 x) = x := by
  unfold ofU32 toU32 wrap32
  rw [UInt32.toNat_ofNat']
  omega

theorem ofWords_toWords (f : Fe) (hf : I32 f) : Fe.ofWords f.toWords = f := by
  simp only [Fe.ofWords, Fe.toWords, Fe.toList, List.map_cons, List.map_nil, Fe.ofList]
  rw [ofU32_toU32 _ hf.1, ofU32_toU32 _ hf.2.1, ofU32_toU32 _ hf.2.2.1, ofU32_toU32 _ hf.2.2.2.1,
    ofU32_toU32 _ hf.2.2.2.2.1, ofU32_toU32 _ hf.2.2.2.2.2.1, ofU32_toU32 _ hf.2.2.2.2.2.2.1,
    ofU32_toU32 _ hf.2.2.2.2.2.2.2.1, ofU32_toU32 _ hf.2.2.2.2.2.2.2.2.1, ofU32_toU32 _ hf.2.2.2.2.2.2.2.2.2]

theorem maybe_swap_with_spec (f g : Fe) (hf : I32 f) (hg : I32 g) (c : Bool) :
    maybe_swap_with f g (Cx.Props.C18.Choice.ofBool c) = if c then (g, f) else (f, g) := by
  unfold maybe_swap_with
  rw [Cx.Props.C18.ct_array32_maybe_swap_spec _ _ (by simp [Fe.toWords, Fe.toList])]
  cases c <;> simp only [if_true, if_false, Bool.false_eq_true, ofWords_toWords _ hf, ofWords_toWords _ hg]

theorem maybe_set_spec (f g : Fe) (hf : I32 f) (hg : I32 g) (c : Bool) :
    maybe_set f g (Cx.Props.C18.Choice.ofBool c) = if c then g else f := by
  unfold maybe_set
  rw [Cx.Props.C18.ct_array32_maybe_set_spec _ _ (by simp [Fe.toWords, Fe.toList])]
  cases c <;> simp only [if_true, if_false, Bool.false_eq_true, ofWords_toWords _ hf, ofWords_toWords _ hg]

/-- weight ≤ 63: every limb is an `i32` (what the masked moves need) -/
theorem W.i32 {a : Int} {f : Fe} (h : W a f) (ha : a ≤ 63 := by decide) : I32 f :=
  ⟨fits_even h.1 ha, fits_odd h.2.1 ha, fits_even h.2.2.1 ha, fits_odd h.2.2.2.1 ha, fits_even h.2.2.2.2.1 ha,
    fits_odd h.2.2.2.2.2.1 ha, fits_even h.2.2.2.2.2.2.1 ha, fits_odd h.2.2.2.2.2.2.2.1 ha,
    fits_even h.2.2.2.2.2.2.2.2.1 ha, fits_odd h.2.2.2.2.2.2.2.2.2 ha⟩

end Cx.Proofs.Fe32
