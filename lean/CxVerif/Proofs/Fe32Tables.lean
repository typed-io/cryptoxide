/-
  Proofs.Fe32Tables — the constants of fe32/mod.rs and the precomputed tables of fe32/precomp.rs (re-extracted:
  Extracted/B32.lean, Extracted/B32Tables.lean) against the 64-bit backend's constants / tables and the Spec.
  Kernel evaluation over the COMPLETE tables (all 256 + 8 entries × 3 field elements, `decide +kernel`): both sides
  are converted limbs → residue mod p and compared; the limb bounds of every 32-bit entry are part of the check.
  The Spec-side statement (entry = the stated multiple of B) then follows from the 64-bit table theorem
  `Proofs.Ge.GE_BASE_entry` / `BI_entry` (which evaluated the 264 scalar multiplications).
-/
import CxVerif.Proofs.Fe32Basic
import CxVerif.Proofs.GeTables
import CxVerif.Proofs.Fe64Pred
import CxVerif.Extracted.B32Tables
namespace Cx.Proofs.Fe32
open Cx Cx.Impl.Fe32
open Cx.Spec

/-- `struct GePrecomp { y_plus_x, y_minus_x, xy2d }` of the 32-bit backend -/
structure Pre32 where
  y_plus_x : Fe
  y_minus_x : Fe
  xy2d : Fe
  deriving DecidableEq, Repr

def Pre32.ofLimbs : List (List Int) → Pre32
  | [a, b, c] => ⟨Fe.ofList a, Fe.ofList b, Fe.ofList c⟩
  | _ => ⟨Fe.ofList [], Fe.ofList [], Fe.ofList []⟩

/-- `pub(crate) const GE_BASE: [[GePrecomp; 8]; 32]` of fe32/precomp.rs -/
def GE_BASE32 : List (List Pre32) := Extracted.B32Tables.GE_BASE.map (·.map Pre32.ofLimbs)
/-- `pub(crate) const BI: [GePrecomp; 8]` of fe32/precomp.rs -/
def BI32 : List Pre32 := Extracted.B32Tables.BI.map Pre32.ofLimbs

def Pre32.vals (e : Pre32) : Nat × Nat × Nat := (eval e.y_plus_x, eval e.y_minus_x, eval e.xy2d)
/-- every limb of the entry inside the reduced range `W 1` (so it may feed `Mul` directly) -/
def Pre32.red (e : Pre32) : Bool := decide (W 1 e.y_plus_x) && decide (W 1 e.y_minus_x) && decide (W 1 e.xy2d)

def rowAgree (r : List Pre32) (s : List Impl.Ge.GePrecomp) : Bool :=
  (List.range 8).all fun j =>
    match r[j]?, s[j]? with
    | some a, some b => a.red && (a.vals == Proofs.Ge.precompVals b)
    | _, _ => false

def geRowsAgree (lo : Nat) : Bool :=
  (List.range 4).all fun i =>
    match GE_BASE32[lo + i]?, Impl.Ge.GE_BASE[lo + i]? with
    | some r, some s => rowAgree r s
    | _, _ => false

/-! the kernel's work on one evaluation grows faster than the number of rows in it: four rows at a time -/
theorem geRows0 : geRowsAgree 0 = true := by decide +kernel
theorem geRows4 : geRowsAgree 4 = true := by decide +kernel
theorem geRows8 : geRowsAgree 8 = true := by decide +kernel
theorem geRows12 : geRowsAgree 12 = true := by decide +kernel
theorem geRows16 : geRowsAgree 16 = true := by decide +kernel
theorem geRows20 : geRowsAgree 20 = true := by decide +kernel
theorem geRows24 : geRowsAgree 24 = true := by decide +kernel
theorem geRows28 : geRowsAgree 28 = true := by decide +kernel
theorem biAgree_true : rowAgree BI32 Impl.Ge.BI = true := by decide +kernel

theorem rowAgree_get {r : List Pre32} {s : List Impl.Ge.GePrecomp} (h : rowAgree r s = true) (j : Nat) (hj : j < 8) :
    ∃ a b, r[j]? = some a ∧ s[j]? = some b ∧ a.red = true ∧ a.vals = Proofs.Ge.precompVals b := by
  simp only [rowAgree, List.all_eq_true, List.mem_range] at h
  have := h j hj
  split at this
  · next a b ha hb =>
    simp only [Bool.and_eq_true, beq_iff_eq] at this
    exact ⟨a, b, ha, hb, this.1, this.2⟩
  · exact absurd this (by simp)

theorem GE_BASE_agree (i j : Nat) (hi : i < 32) (hj : j < 8) :
    ∃ a b, GE_BASE32[i]?.bind (·[j]?) = some a ∧ Impl.Ge.GE_BASE[i]?.bind (·[j]?) = some b ∧
      a.red = true ∧ a.vals = Proofs.Ge.precompVals b := by
  have h : geRowsAgree (4 * (i / 4)) = true := by
    have : i / 4 < 8 := by omega
    match i / 4, this with
    | 0, _ => exact geRows0
    | 1, _ => exact geRows4
    | 2, _ => exact geRows8
    | 3, _ => exact geRows12
    | 4, _ => exact geRows16
    | 5, _ => exact geRows20
    | 6, _ => exact geRows24
    | 7, _ => exact geRows28
  simp only [geRowsAgree, List.all_eq_true, List.mem_range] at h
  have := h (i % 4) (by omega)
  rw [show 4 * (i / 4) + i % 4 = i by omega] at this
  split at this
  · next r s hr hs =>
    rw [hr, hs]
    exact rowAgree_get this j hj
  · exact absurd this (by simp)

theorem BI_agree (k : Nat) (hk : k < 8) :
    ∃ a b, BI32[k]? = some a ∧ Impl.Ge.BI[k]? = some b ∧ a.red = true ∧ a.vals = Proofs.Ge.precompVals b :=
  rowAgree_get biAgree_true k hk

/-- every 32-bit `GE_BASE[i][j]` is `(y+x, y−x, 2dxy)` of `[(j+1)·256^i]B` -/
theorem GE_BASE32_entry (i j : Nat) (hi : i < 32) (hj : j < 8) :
    ∃ a, GE_BASE32[i]?.bind (·[j]?) = some a ∧ a.red = true ∧
      a.vals = Edwards.precomp (Edwards.smul ((j + 1) * 256 ^ i) Edwards.B) := by
  obtain ⟨a, b, ha, hb, hr, hv⟩ := GE_BASE_agree i j hi hj
  obtain ⟨row, e, hrow, he, _, hval⟩ := Proofs.Ge.GE_BASE_entry i j hi hj
  rw [hrow] at hb
  simp only [Option.bind_some] at hb
  rw [he] at hb
  cases hb
  exact ⟨a, ha, hr, by rw [hv, hval]⟩

/-- every 32-bit `BI[k]` is `(y+x, y−x, 2dxy)` of `[2k+1]B` -/
theorem BI32_entry (k : Nat) (hk : k < 8) :
    ∃ a, BI32[k]? = some a ∧ a.red = true ∧ a.vals = Edwards.precomp (Edwards.smul (2 * k + 1) Edwards.B) := by
  obtain ⟨a, b, ha, hb, hr, hv⟩ := BI_agree k hk
  obtain ⟨e, he, _, hval⟩ := Proofs.Ge.BI_entry k hk
  rw [he] at hb
  cases hb
  exact ⟨a, ha, hr, by rw [hv, hval]⟩

theorem consts_agree :
    eval Fe.ZERO = Proofs.Fe64.eval Impl.Fe64.Fe.ZERO ∧ eval Fe.ONE = Proofs.Fe64.eval Impl.Fe64.Fe.ONE ∧
    eval Fe.SQRTM1 = Proofs.Fe64.eval Impl.Fe64.Fe.SQRTM1 ∧ eval Fe.D = Proofs.Fe64.eval Impl.Fe64.Fe.D ∧
    eval Fe.D2 = Proofs.Fe64.eval Impl.Fe64.Fe.D2 := by decide +kernel

theorem consts_red : W 1 Fe.ZERO ∧ W 1 Fe.ONE ∧ W 1 Fe.SQRTM1 ∧ W 1 Fe.D ∧ W 1 Fe.D2 := by decide +kernel

theorem ZERO_spec : W 1 Fe.ZERO ∧ eval Fe.ZERO = 0 := ⟨consts_red.1, by rw [consts_agree.1, Proofs.Fe64.ZERO_spec.2]⟩
theorem ONE_spec : W 1 Fe.ONE ∧ eval Fe.ONE = 1 := ⟨consts_red.2.1, by rw [consts_agree.2.1, Proofs.Fe64.ONE_spec.2]⟩
theorem SQRTM1_spec : W 1 Fe.SQRTM1 ∧ eval Fe.SQRTM1 = Field25519.sqrtM1 :=
  ⟨consts_red.2.2.1, by rw [consts_agree.2.2.1, Proofs.Fe64.SQRTM1_spec.2]⟩
theorem D_spec : W 1 Fe.D ∧ eval Fe.D = Field25519.edwardsD :=
  ⟨consts_red.2.2.2.1, by rw [consts_agree.2.2.2.1, Proofs.Fe64.D_spec.2]⟩
theorem D2_spec : W 1 Fe.D2 ∧ eval Fe.D2 = Field25519.edwardsD2 :=
  ⟨consts_red.2.2.2.2, by rw [consts_agree.2.2.2.2, Proofs.Fe64.D2_spec.2]⟩

end Cx.Proofs.Fe32
