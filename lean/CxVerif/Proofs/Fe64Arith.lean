/-
  Proofs.Fe64Arith — Add, Sub, Neg, Mul, mul_small of fe64: no u64/u128 overflow under the limb
  invariant, output invariant, value modulo p.
  Add, Sub and Neg are one weak carry pass over limbs 1 … 4 and `19·carry` into limb 0 (`weak`, `weak_spec`); they differ in
  how a limb's sum is formed (`stA`, `stS`, `stN`), and Neg is Sub from zero (`neg_eq_sub`).  The tail of Mul and mul_small is such a pass on u128 columns
  (`carry128_spec`).  Such a pass writes the NUMBER `N` of its columns in digits (`Limbs.passM_digits`), so the result denotes
  `fold N = N % 2^255 + 19·(N / 2^255)`: no argument about limbs.  A column of Mul is a checked sum of a list of products
  (`sumM`), bounded by the sum of the products' bounds: as a step of the walk through `mul` (`col_step`, `add128_lt`) it
  hands its bound to the rest of the program, so `mul_spec` is one chain of rules over the model's text and every bound in it
  is a term.  `weak_spec` and `carry128_spec` are rules of the same form.  Carry passes: Proofs/Limbs.lean.
-/
import CxVerif.Proofs.Fe64Basic
import CxVerif.Proofs.OptionSteps
import CxVerif.Proofs.Limbs
namespace Cx.Proofs.Fe64
open Cx Cx.Spec Cx.Impl.Fe64
open Cx.Spec.Field25519 (p)
open Cx.Proofs.Limbs (All₂ Step passM on4 on4_eq pass passM_cons passM_nil passM_digits digits val_digits col_lt)

theorem val_mk (a b c d e : Nat) : val ⟨a, b, c, d, e⟩ = Limbs.val 51 [a, b, c, d, e] := by
  simp only [val, Limbs.val]; omega

/-- what Add, Sub and Neg do once limb 0 is formed as `s0`: a weak pass over limbs 1 … 4 (`sts` forms their sums), then
    `19·carry` into limb 0 -/
def weak (s0 : Nat) (sts : List (Nat → (Nat → Option Fe) → Option Fe)) : Option Fe :=
  passM (· &&& MASK) (· >>> 51) sts (s0 >>> 51) fun r c =>
    mul64 c 19 >>= fun c19 => add64 (s0 &&& MASK) c19 >>= fun h0 => on4 (fun h1 h2 h3 h4 => pure ⟨h0, h1, h2, h3, h4⟩) r

/-- the weak reduction of a number: what is above bit 255 comes back times 19 -/
def fold (N : Nat) : Nat := N % 2^255 + 19 * (N / 2^255)

theorem fold_mod (N : Nat) : fold N % p = N % p := by unfold fold; rw [p_eq]; omega

theorem val_digits5 (N : Nat) : N % 2^255 = Limbs.val 51 (digits 51 5 N) := (val_digits 51 5 N).symm

/-- limb sums up to `B`: the pass run on `B` itself bounds every sum (below 2^64) and the carry out (`19·carry < 2^17`, which
    is where the slack of `Tight` comes from); the pass writes the number `N` of the columns in digits, so the result is
    `fold N`.  `B = 2^55` for Add/Sub/Neg, `96·2^57` for the second pass of `square`, `2^54` for `carry_full` -/
theorem weak_spec (B : Nat) {s0 t1 t2 t3 t4 : Nat} {sts : List (Nat → (Nat → Option Fe) → Option Fe)} {Q : Fe → Prop}
    (h0 : s0 ≤ B) (hst : All₂ (Step (2^64)) sts [t1, t2, t3, t4]) (h1 : t1 ≤ B) (h2 : t2 ≤ B) (h3 : t3 ≤ B) (h4 : t4 ≤ B)
    (hQ : ∀ h, Tight h → val h = fold (Limbs.val 51 [s0, t1, t2, t3, t4]) → Q h)
    (hB : ∀ s ∈ Limbs.sums 51 (B / 2^51) [B, B, B, B], s < 2^64 := by decide)
    (hC : (pass 51 (B / 2^51) [B, B, B, B]).2 * 19 < 2^17 := by decide) : ∃ h, weak s0 sts = some h ∧ Q h := by
  obtain ⟨e, e0, hq⟩ := passM_digits (n := 4) (D := 2^255) (fun s _ => land_MASK s) (fun s _ => shr51 s) hst (.four h1 h2 h3 h4)
    (Nat.div_le_div_right h0) hB rfl fun r c => mul64 c 19 >>= fun c19 => add64 (s0 &&& MASK) c19 >>= fun h0 =>
      on4 (fun h1 h2 h3 h4 => pure ⟨h0, h1, h2, h3, h4⟩) r
  refine ⟨_, by
    rw [weak, shr51, e, mul64_bind _ _ _ (by omega), land_MASK, e0, add64_bind _ _ _ (by omega)]
    simp only [digits, on4_eq]; rfl, hQ _ ?_ ?_⟩
  · simp only [Tight, Bnd]; omega
  · rw [fold, val_digits5, val_mk, Nat.mul_comm 19]
    exact Nat.add_right_comm ..

def stA (a b : Nat) : Nat → (Nat → Option Fe) → Option Fe := fun c k => add64 a b >>= fun x => add64 x c >>= k
def stS (a b : Nat) : Nat → (Nat → Option Fe) → Option Fe :=
  fun c k => add64 a FOUR_P1234 >>= fun x => sub64 x b >>= fun x => add64 x c >>= k
def stN (b : Nat) : Nat → (Nat → Option Fe) → Option Fe := fun c k => sub64 FOUR_P1234 b >>= fun x => add64 x c >>= k

theorem stA_step (a b : Nat) : Step (2^64) (stA a b) (a + b) := fun c k hc => by
  unfold stA
  rw [add64_bind _ _ _ (by omega), add64_bind _ _ _ hc]

theorem stS_step (a b : Nat) (ha : a < 2^54) (hb : b ≤ 2^53 - 4) : Step (2^64) (stS a b) (a + (2^53 - 4) - b) := fun c k hc => by
  unfold stS
  rw [FOUR_P1234_eq, add64_bind _ _ _ (by omega), sub64_bind _ _ _ (by omega), add64_bind _ _ _ hc]

def stC (r : Nat) : Nat → (Nat → Option Fe) → Option Fe := fun c k => add64 r c >>= k

theorem stC_step (r : Nat) : Step (2^64) (stC r) r := fun c k hc => add64_bind r c k hc

theorem add_eq (f g : Fe) : add f g = add64 f.l0 g.l0 >>= fun s0 =>
    weak s0 [stA f.l1 g.l1, stA f.l2 g.l2, stA f.l3 g.l3, stA f.l4 g.l4] := by
  unfold add weak; simp only [passM_cons, passM_nil, on4_eq, stA]

theorem sub_eq (f g : Fe) : sub f g = add64 f.l0 FOUR_P0 >>= fun a => sub64 a g.l0 >>= fun s0 =>
    weak s0 [stS f.l1 g.l1, stS f.l2 g.l2, stS f.l3 g.l3, stS f.l4 g.l4] := by
  unfold sub weak; simp only [passM_cons, passM_nil, on4_eq, stS]

theorem neg_eq (g : Fe) : neg g = sub64 FOUR_P0 g.l0 >>= fun s0 => weak s0 [stN g.l1, stN g.l2, stN g.l3, stN g.l4] := by
  unfold neg weak; simp only [passM_cons, passM_nil, on4_eq, stN]

theorem sub_lemma {h g f : Nat} (e : h + g = f + 4 * p) :
    h % p = Field25519.sub (f % p) (g % p) := by
  rw [sub_mod]; unfold Field25519.sub
  simp only [p_eq] at *
  omega

theorem add_spec (f g : Fe) (hf : Loose f) (hg : Loose g) :
    ∃ h, add f g = some h ∧ Tight h ∧ eval h = Field25519.add (eval f) (eval g) := by
  obtain ⟨f0, f1, f2, f3, f4⟩ := hf
  obtain ⟨g0, g1, g2, g3, g4⟩ := hg
  rw [add_eq]
  refine add64_step (by omega) (weak_spec (2^55) (by omega)
    (.four (stA_step f.l1 g.l1) (stA_step f.l2 g.l2) (stA_step f.l3 g.l3) (stA_step f.l4 g.l4))
    (by omega) (by omega) (by omega) (by omega) fun h ht hv => ⟨ht, ?_⟩)
  simp only [eval]
  rw [add_mod, hv, fold_mod]
  unfold Field25519.add
  congr 1
  simp only [Limbs.val, val]; ring

theorem sub_spec (f g : Fe) (hf : Loose f) (hg : SubOk g) :
    ∃ h, sub f g = some h ∧ Tight h ∧ eval h = Field25519.sub (eval f) (eval g) := by
  obtain ⟨f0, f1, f2, f3, f4⟩ := hf
  obtain ⟨g0, g1, g2, g3, g4⟩ := hg
  rw [sub_eq, FOUR_P0_eq]
  refine add64_step (by omega) (sub64_step (by omega) (weak_spec (2^55) (by omega)
    (.four (stS_step f.l1 g.l1 f1 (by omega)) (stS_step f.l2 g.l2 f2 (by omega)) (stS_step f.l3 g.l3 f3 (by omega)) (stS_step f.l4 g.l4 f4 (by omega)))
    (by omega) (by omega) (by omega) (by omega) fun h ht hv => ⟨ht, ?_⟩))
  simp only [eval]
  rw [hv, fold_mod]
  refine sub_lemma ?_
  simp only [Limbs.val, val, p_eq]; omega

theorem add64_zero (a : Nat) (h : a < 2^64 := by decide) : add64 0 a = some a := by
  unfold add64; rw [Nat.zero_add, if_pos h]

theorem stS_zero (b : Nat) : stS 0 b = stN b := by
  unfold stS stN; rw [add64_zero FOUR_P1234]; rfl

/-- `Neg` is `Sub` from zero: the source forms `4p − g` where `Sub` forms `0 + 4p − g`.  Step by step through the two
    `weak` forms; `rfl` or one `simp` over the two unfolded programs makes the kernel run through both -/
theorem neg_eq_sub (g : Fe) : neg g = sub ⟨0, 0, 0, 0, 0⟩ g := by
  rw [neg_eq, sub_eq, stS_zero, stS_zero, stS_zero, stS_zero, add64_zero FOUR_P0, some_bind]

theorem neg_spec (g : Fe) (hg : SubOk g) :
    ∃ h, neg g = some h ∧ Tight h ∧ eval h = Field25519.neg (eval g) := by
  obtain ⟨h, e, t, v⟩ := sub_spec ⟨0, 0, 0, 0, 0⟩ g (by decide) hg
  refine ⟨h, neg_eq_sub g ▸ e, t, ?_⟩
  rw [v]; unfold Field25519.sub Field25519.neg
  rw [show eval ⟨0, 0, 0, 0, 0⟩ = 0 from rfl, Nat.zero_add]

theorem negate_mut_spec (g : Fe) (hg : SubOk g) :
    ∃ h, negate_mut g = some h ∧ Tight h ∧ eval h = Field25519.neg (eval g) := neg_spec g hg

def st128 (t : Nat) : Nat → (Nat → Option Fe) → Option Fe := fun c k => add128 t c >>= k

theorem st128_step (t : Nat) : Step (2^115) (st128 t) t := fun c k hc => add128_bind t c k (by omega)

theorem carry128_eq (t0 t1 t2 t3 t4 : Nat) : carry128 t0 t1 t2 t3 t4 =
    passM (fun s => (s % 2^64) &&& MASK) (fun s => (s >>> 51) % 2^64)
      [st128 t1, st128 t2, st128 t3, st128 t4]
      ((t0 >>> 51) % 2^64) fun r c => mul64 c 19 >>= fun c19 => add64 ((t0 % 2^64) &&& MASK) c19 >>= fun r0 =>
        on4 (fun r1 r2 r3 r4 => add64 r1 (r0 >>> 51) >>= fun r1 => pure ⟨r0 &&& MASK, r1, r2, r3, r4⟩) r := by
  unfold carry128; simp only [passM_cons, passM_nil, on4_eq, st128]

-- the bound is not needed here; `passM_eq` asks for `lo` and `hi` under the same hypothesis
theorem lo128 (s : Nat) (_ : s < 2^115) : (s % 2^64) &&& MASK = s % 2^51 := by rw [land_MASK, mod64_mod51]
theorem hi128 (s : Nat) (h : s < 2^115) : (s >>> 51) % 2^64 = s / 2^51 := by rw [shr51]; omega

theorem val_carry0 (r d1 d2 d3 d4 : Nat) : val ⟨r % 2^51, d1 + r / 2^51, d2, d3, d4⟩ = Limbs.val 51 [r, d1, d2, d3, d4] := by
  simp only [val, Limbs.val]; omega

/-- columns up to 77·2^108 (the last 5·2^108): every sum of the pass stays below 2^115, the carry into limb 0 below 5·2^57 + 2^13 -/
theorem carry128_spec {t0 t1 t2 t3 t4 : Nat} {Q : Fe → Prop} (h0 : t0 < 77 * 2^108) (h1 : t1 < 77 * 2^108)
    (h2 : t2 < 77 * 2^108) (h3 : t3 < 77 * 2^108) (h4 : t4 < 5 * 2^108)
    (hQ : ∀ h, Bnd (2^51 + 2^13) h → val h = fold (Limbs.val 51 [t0, t1, t2, t3, t4]) → Q h) :
    ∃ h, carry128 t0 t1 t2 t3 t4 = some h ∧ Q h := by
  obtain ⟨e, e0, hq⟩ := passM_digits (n := 4) (D := 2^255) (s0 := t0) (C := 77 * 2^57) lo128 hi128
    (.four (st128_step t1) (st128_step t2) (st128_step t3) (st128_step t4))
    (.four (Nat.le_of_lt h1) (Nat.le_of_lt h2) (Nat.le_of_lt h3) (Nat.le_of_lt h4)) (by omega) (by decide) rfl
    fun r c => mul64 c 19 >>= fun c19 => add64 (t0 % 2^51) c19 >>= fun r0 =>
      on4 (fun r1 r2 r3 r4 => add64 r1 (r0 >>> 51) >>= fun r1 => pure ⟨r0 &&& MASK, r1, r2, r3, r4⟩) r
  have hm : _ ≤ 5 * 2^57 + 2^13 := Nat.le_trans hq (by decide)
  refine ⟨_, by
    rw [carry128_eq, hi128 t0 (by omega), lo128 t0 (by omega), e, mul64_bind _ _ _ (by omega), e0, add64_bind _ _ _ (by omega)]
    simp only [digits, on4_eq, shr51, land_MASK]
    rw [add64_bind _ _ _ (by omega)]; rfl, hQ _ ?_ ?_⟩
  · simp only [Bnd]; omega
  · rw [val_carry0, fold, val_digits5, Nat.mul_comm 19]
    exact Nat.add_right_comm ..

def sumM {β} : Nat → List Nat → (Nat → Option β) → Option β
  | a, [], k => k a
  | a, q :: qs, k => add128 a q >>= fun a' => sumM a' qs k

theorem sumM_eq {β} : ∀ (qs : List Nat) (a : Nat) (k : Nat → Option β), a + qs.sum < 2^128 → sumM a qs k = k (a + qs.sum)
  | [], a, k, _ => rfl
  | q :: qs, a, k, h => by
    simp only [List.sum_cons] at h
    simp only [sumM, List.sum_cons]
    rw [add128_bind _ _ _ (by omega), sumM_eq qs _ k (by omega), Nat.add_assoc]

/-- a column of products inside u128, as a step of a program: the checked sum is the sum, and the rest of the program learns
    that it is below the numerals' sum.  A column written `add128 a q₁ >>= fun x => add128 x q₂ >>= …` in the model is
    `sumM a [q₁, q₂, …]` by unfolding, so the rule applies to the model's text as it stands -/
theorem col_step {β} {a A T : Nat} {qs Bs : List Nat} {k : Nat → Option β} {Q : β → Prop} (ha : a < A)
    (h : All₂ (· < ·) qs Bs) (hf : a + qs.sum < T → ∃ r, k (a + qs.sum) = some r ∧ Q r)
    (hB : A + Bs.sum ≤ T := by decide) (hT : T ≤ 2^128 := by decide) : ∃ r, sumM a qs k = some r ∧ Q r := by
  have hlt := col_lt ha h hB
  rw [sumM_eq qs a k (Nat.lt_of_lt_of_le hlt hT)]; exact hf hlt

theorem add128_lt {β} {a b A B T : Nat} {f : Nat → Option β} {Q : β → Prop} (ha : a < A) (hb : b < B)
    (hf : a + b < T → ∃ r, f (a + b) = some r ∧ Q r) (hB : A + B ≤ T := by decide) (hT : T ≤ 2^128 := by decide) :
    ∃ r, (add128 a b >>= f) = some r ∧ Q r :=
  have h := Nat.lt_of_lt_of_le (Nat.add_lt_add ha hb) hB
  add128_step (Nat.lt_of_lt_of_le h hT) (hf h)

theorem prod_lt {a b : Nat} (ha : a < 2^54) (hb : b < 2^54) : a * b < 2^108 :=
  Nat.lt_of_lt_of_le (Nat.mul_lt_mul'' ha hb) (by decide)
theorem prod19_lt {a b : Nat} (ha : a < 2^54) (hb : b < 2^54) : a * 19 * b < 19 * 2^108 := by
  have : a * b < 2^54 * 2^54 := Nat.mul_lt_mul'' ha hb
  rw [Nat.mul_right_comm]; omega

/-- the 25-product identity: the folded columns differ from the full product by a multiple of p -/
theorem mul_columns (f g : Fe) : val f * val g = Limbs.val 51
    [f.l0 * g.l0 + (f.l4 * 19 * g.l1 + [f.l1 * 19 * g.l4, f.l2 * 19 * g.l3, f.l3 * 19 * g.l2].sum),
     f.l0 * g.l1 + [f.l1 * g.l0].sum + (f.l4 * 19 * g.l2 + [f.l2 * 19 * g.l4, f.l3 * 19 * g.l3].sum),
     f.l0 * g.l2 + [f.l2 * g.l0, f.l1 * g.l1].sum + (f.l4 * 19 * g.l3 + [f.l3 * 19 * g.l4].sum),
     f.l0 * g.l3 + [f.l3 * g.l0, f.l1 * g.l2, f.l2 * g.l1].sum + f.l4 * 19 * g.l4,
     f.l0 * g.l4 + [f.l4 * g.l0, f.l3 * g.l1, f.l1 * g.l3, f.l2 * g.l2].sum]
    + p * (f.l4 * g.l1 + f.l1 * g.l4 + f.l2 * g.l3 + f.l3 * g.l2 + 2^51 * (f.l4 * g.l2 + f.l2 * g.l4 + f.l3 * g.l3)
        + 2^102 * (f.l4 * g.l3 + f.l3 * g.l4) + 2^153 * (f.l4 * g.l4)) := by
  simp only [val, Limbs.val, List.sum_cons, List.sum_nil, p_eq]; norm_num; ring

theorem mul19_lt {a : Nat} (h : a < 2^54) : a * 19 < 2^64 := by omega

theorem mul_spec (f g : Fe) (hf : Loose f) (hg : Loose g) :
    ∃ h, mul f g = some h ∧ Tight h ∧ eval h = Field25519.mul (eval f) (eval g) := by
  obtain ⟨f0, f1, f2, f3, f4⟩ := hf
  obtain ⟨g0, g1, g2, g3, g4⟩ := hg
  refine col_step (T := 2 * 2^108) (prod_lt f0 g1) (.cons (prod_lt f1 g0) .nil) fun b1 => ?_
  refine col_step (T := 3 * 2^108) (prod_lt f0 g2) (.cons (prod_lt f2 g0) (.cons (prod_lt f1 g1) .nil)) fun b2 => ?_
  refine col_step (T := 4 * 2^108) (prod_lt f0 g3) (.cons (prod_lt f3 g0) (.cons (prod_lt f1 g2) (.cons (prod_lt f2 g1) .nil))) fun b3 => ?_
  refine col_step (T := 5 * 2^108) (prod_lt f0 g4) (.four (prod_lt f4 g0) (prod_lt f3 g1) (prod_lt f1 g3) (prod_lt f2 g2)) fun b4 => ?_
  refine mul64_step (mul19_lt f1) (mul64_step (mul19_lt f2) (mul64_step (mul19_lt f3) (mul64_step (mul19_lt f4) ?_)))
  refine col_step (T := 76 * 2^108) (prod19_lt f4 g1) (.cons (prod19_lt f1 g4) (.cons (prod19_lt f2 g3) (.cons (prod19_lt f3 g2) .nil))) fun b5 => ?_
  refine add128_lt (T := 77 * 2^108) (prod_lt f0 g0) b5 fun c0 => ?_
  refine col_step (T := 57 * 2^108) (prod19_lt f4 g2) (.cons (prod19_lt f2 g4) (.cons (prod19_lt f3 g3) .nil)) fun b6 => ?_
  refine add128_lt (T := 77 * 2^108) b1 b6 fun c1 => ?_
  refine col_step (T := 38 * 2^108) (prod19_lt f4 g3) (.cons (prod19_lt f3 g4) .nil) fun b7 => ?_
  refine add128_lt (T := 77 * 2^108) b2 b7 fun c2 => ?_
  refine add128_lt (T := 77 * 2^108) b3 (prod19_lt f4 g4) fun c3 => ?_
  refine carry128_spec c0 c1 c2 c3 b4 fun h hb hv => ⟨Bnd.mono (by decide) hb, ?_⟩
  simp only [eval, mul_mod]
  unfold Field25519.mul
  rw [hv, fold_mod, mul128, mul128, mul_columns, Nat.add_mul_mod_self_left]

theorem small_lt {a s : Nat} (T : Nat) (ha : a < 2^54) (hs : s < 2^32) (hT : 2^54 * 2^32 ≤ T := by decide) : mul128 a s < T :=
  Nat.lt_of_lt_of_le (Nat.mul_lt_mul'' ha hs) hT

theorem mul_small_spec (f : Fe) (s : Nat) (hf : Loose f) (hs : s < 2^32) :
    ∃ h, mul_small f s = some h ∧ Tight h ∧ eval h = Field25519.mul (eval f) s := by
  obtain ⟨f0, f1, f2, f3, f4⟩ := hf
  rw [mul_small, Nat.mod_eq_of_lt hs]
  refine carry128_spec (small_lt _ f0 hs) (small_lt _ f1 hs) (small_lt _ f2 hs) (small_lt _ f3 hs) (small_lt _ f4 hs)
    fun h hb hv => ⟨Bnd.mono (by decide) hb, ?_⟩
  simp only [eval]
  rw [← mul_mod, Nat.mod_mod, mul_mod]
  unfold Field25519.mul
  rw [hv, fold_mod]
  congr 1
  simp only [val, Limbs.val, mul128]; ring

end Cx.Proofs.Fe64
