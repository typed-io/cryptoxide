/-
  Proofs.Fe64Basic — the vocabulary of the Fe64 refinement library.
  Every operator theorem of the library has the shape
  `Loose f → Loose g → ∃ h, op f g = some h ∧ Tight h ∧ eval h = Field25519.op (eval f) (eval g)`,
  and every spec of a part of a program the shape of a rule, `(∀ h, … → Q h) → ∃ h, part = some h ∧ Q h`, so that a
  proof is one chain of `refine rule … ?_` over the model's text as it stands.
-/
import CxVerif.Impl.Fe64
import CxVerif.Spec.Field25519
import Mathlib.Tactic.Ring
import Mathlib.Tactic.NormNum
namespace Cx.Proofs.Fe64
open Cx Cx.Impl.Fe64
open Cx.Spec
open Cx.Spec.Field25519 (p)

def val (f : Fe) : Nat := f.l0 + 2^51 * f.l1 + 2^102 * f.l2 + 2^153 * f.l3 + 2^204 * f.l4

def eval (f : Fe) : Nat := val f % p

def Bnd (b : Nat) (f : Fe) : Prop := f.l0 < b ∧ f.l1 < b ∧ f.l2 < b ∧ f.l3 < b ∧ f.l4 < b

instance (b : Nat) (f : Fe) : Decidable (Bnd b f) := by unfold Bnd; infer_instance

/-- result of every carrying operator (add, sub, neg, mul, square, square_repeatdly n>0, mul_small,
    invert, pow25523, from_bytes): limbs `< 2^51 + 2^17` -/
def Tight (f : Fe) : Prop := Bnd (2^51 + 2^17) f
/-- closed under the WHOLE public API (incl. the non-carrying `square_and_double`): `< 2^52 + 2^18` -/
def Pub (f : Fe) : Prop := Bnd (2^52 + 2^18) f
/-- admissible subtrahend of `Sub`/operand of `Neg`: limbs `≤ 2^53 − 76`, the smallest limb of the bias `4p` -/
def SubOk (f : Fe) : Prop := Bnd (2^53 - 75) f
/-- admissible operand of add / mul / square / mul_small / to_bytes: limbs `< 2^54` -/
def Loose (f : Fe) : Prop := Bnd (2^54) f

instance (f : Fe) : Decidable (Tight f) := inferInstanceAs (Decidable (Bnd _ f))
instance (f : Fe) : Decidable (Pub f) := inferInstanceAs (Decidable (Bnd _ f))
instance (f : Fe) : Decidable (SubOk f) := inferInstanceAs (Decidable (Bnd _ f))
instance (f : Fe) : Decidable (Loose f) := inferInstanceAs (Decidable (Bnd _ f))

theorem Bnd.mono {a b : Nat} {f : Fe} (h : a ≤ b) (hf : Bnd a f) : Bnd b f := by
  unfold Bnd at *; omega
theorem Tight.pub {f : Fe} (h : Tight f) : Pub f := Bnd.mono (by decide) h
theorem Pub.subOk {f : Fe} (h : Pub f) : SubOk f := Bnd.mono (by decide) h
theorem SubOk.loose {f : Fe} (h : SubOk f) : Loose f := Bnd.mono (by decide) h
theorem Pub.loose {f : Fe} (h : Pub f) : Loose f := h.subOk.loose
theorem Tight.loose {f : Fe} (h : Tight f) : Loose f := h.pub.loose
theorem Tight.subOk {f : Fe} (h : Tight f) : SubOk f := h.pub.subOk

theorem p_eq : p = 2^255 - 19 := rfl
theorem p_pos : 0 < p := by decide

theorem MASK_eq : MASK = 2^51 - 1 := by decide
theorem FOUR_P0_eq : FOUR_P0 = 2^53 - 76 := by decide
theorem FOUR_P1234_eq : FOUR_P1234 = 2^53 - 4 := by decide

theorem land_MASK (x : Nat) : x &&& MASK = x % 2^51 := Nat.and_two_pow_sub_one_eq_mod x 51
theorem shr51 (x : Nat) : x >>> 51 = x / 2^51 := Nat.shiftRight_eq_div_pow x 51
theorem mod64_mod51 (x : Nat) : x % 2^64 % 2^51 = x % 2^51 := Nat.mod_mod_of_dvd x ⟨2^13, by decide⟩

theorem mul128_fits {a b : Nat} (ha : a < 2^64) (hb : b < 2^64) : mul128 a b < 2^128 := by
  have := Nat.mul_lt_mul'' ha hb
  unfold mul128; omega

theorem add64_bind {β} (a b : Nat) (f : Nat → Option β) (h : a + b < 2^64) :
    (add64 a b >>= f) = f (a + b) := by simp only [add64, if_pos h]; rfl
theorem sub64_bind {β} (a b : Nat) (f : Nat → Option β) (h : b ≤ a) :
    (sub64 a b >>= f) = f (a - b) := by simp only [sub64, if_pos h]; rfl
theorem mul64_bind {β} (a b : Nat) (f : Nat → Option β) (h : a * b < 2^64) :
    (mul64 a b >>= f) = f (a * b) := by simp only [mul64, if_pos h]; rfl
theorem add128_bind {β} (a b : Nat) (f : Nat → Option β) (h : a + b < 2^128) :
    (add128 a b >>= f) = f (a + b) := by simp only [add128, if_pos h]; rfl

/-- the rules by which a straight-line program of the model is walked: a checked operation that fits hands its result to the
    rest of the program.  Applied as terms (`refine add64_step h ?_`), so a step costs what the step is, not what the
    rest of the program is long (rewriting inside the whole program does) -/
theorem add64_step {β} {a b : Nat} {f : Nat → Option β} {Q : β → Prop} (h : a + b < 2^64)
    (hf : ∃ r, f (a + b) = some r ∧ Q r) : ∃ r, (add64 a b >>= f) = some r ∧ Q r := by rw [add64_bind _ _ _ h]; exact hf
theorem sub64_step {β} {a b : Nat} {f : Nat → Option β} {Q : β → Prop} (h : b ≤ a)
    (hf : ∃ r, f (a - b) = some r ∧ Q r) : ∃ r, (sub64 a b >>= f) = some r ∧ Q r := by rw [sub64_bind _ _ _ h]; exact hf
theorem mul64_step {β} {a b : Nat} {f : Nat → Option β} {Q : β → Prop} (h : a * b < 2^64)
    (hf : ∃ r, f (a * b) = some r ∧ Q r) : ∃ r, (mul64 a b >>= f) = some r ∧ Q r := by rw [mul64_bind _ _ _ h]; exact hf
theorem add128_step {β} {a b : Nat} {f : Nat → Option β} {Q : β → Prop} (h : a + b < 2^128)
    (hf : ∃ r, f (a + b) = some r ∧ Q r) : ∃ r, (add128 a b >>= f) = some r ∧ Q r := by rw [add128_bind _ _ _ h]; exact hf

theorem eval_lt (f : Fe) : eval f < p := Nat.mod_lt _ p_pos
theorem eval_mod (f : Fe) : eval f % p = eval f := Nat.mod_eq_of_lt (eval_lt f)

theorem mod_p_of_add_mul {a b k : Nat} (h : a + p * k = b) : a % p = b % p := by
  rw [← h, Nat.add_mul_mod_self_left]

theorem add_mod (a b : Nat) : Field25519.add (a % p) (b % p) = Field25519.add a b := by
  unfold Field25519.add; exact (Nat.add_mod a b p).symm
theorem mul_mod (a b : Nat) : Field25519.mul (a % p) (b % p) = Field25519.mul a b := by
  unfold Field25519.mul; exact (Nat.mul_mod a b p).symm
theorem sq_mod (a : Nat) : Field25519.sq (a % p) = Field25519.sq a := by
  unfold Field25519.sq; exact (Nat.mul_mod a a p).symm
theorem neg_mod (a : Nat) : Field25519.neg (a % p) = Field25519.neg a := by
  unfold Field25519.neg; rw [Nat.mod_mod]
theorem sub_mod (a b : Nat) : Field25519.sub (a % p) (b % p) = Field25519.sub a b := by
  unfold Field25519.sub; rw [Nat.mod_mod, Nat.add_mod, Nat.mod_mod, ← Nat.add_mod]
theorem sq_eq_mul (a : Nat) : Field25519.sq a = Field25519.mul a a := rfl

end Cx.Proofs.Fe64
