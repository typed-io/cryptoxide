/-
  Proofs.Fe64Bytes — to_packed / to_bytes: canonical little-endian encoding of `val f mod p` for EVERY Loose input.
  `carry_full` is `weak` on limbs already formed, so the weak reduction `fold` of the NUMBER the limbs denote (`weak_spec`);
  `carry_final` keeps its low 255 bits: its pass writes the value in digits (`Limbs.passM_digits`).  Neither needs an
  argument about limbs.  That two reductions, `+ 19`, a third reduction, `+ p` and the cut at bit 255 leave `v mod p` is
  arithmetic on one number (`fold_lt`, `canon`, `fold_mod`).
-/
import CxVerif.Proofs.Fe64Arith
import CxVerif.Proofs.Bits
namespace Cx.Proofs.Fe64
open Cx Cx.Impl.Fe64
open Cx.Spec.Field25519 (p)
open Cx.Proofs.Limbs (passM passM_cons passM_nil passM_digits digits on4 on4_eq)
open Cx.Proofs.Bits (word_lo word_hi horner_mod horner_div shr_lt or_shl div_div_pow)

theorem Loose.val_lt {f : Fe} (h : Loose f) : val f < 2^259 := by
  obtain ⟨f0, f1, f2, f3, f4⟩ := f
  simp only [Loose, Bnd] at h; simp only [val]; omega

theorem mul64_comm (a b : Nat) : mul64 a b = mul64 b a := by unfold mul64; rw [Nat.mul_comm]

/-- the source writes `19 * c` here, `c * 19` in Add/Sub/Neg -/
theorem carry_full_eq (t : Fe) : carry_full t = weak t.l0 [stC t.l1, stC t.l2, stC t.l3, stC t.l4] := by
  unfold carry_full weak; simp only [passM_cons, passM_nil, on4_eq, stC, mul64_comm 19]

theorem carry_full_spec (t : Fe) (ht : Loose t) : ∃ h, carry_full t = some h ∧ Tight h ∧ val h = fold (val t) := by
  obtain ⟨t0, t1, t2, t3, t4⟩ := ht
  rw [carry_full_eq, show val t = Limbs.val 51 [t.l0, t.l1, t.l2, t.l3, t.l4] from val_mk ..]
  exact weak_spec (2^54) (Nat.le_of_lt t0) (.four (stC_step _) (stC_step _) (stC_step _) (stC_step _)) (Nat.le_of_lt t1)
    (Nat.le_of_lt t2) (Nat.le_of_lt t3) (Nat.le_of_lt t4) fun _ ht hv => ⟨ht, hv⟩

theorem carry_final_eq (t : Fe) : carry_final t =
    passM (· &&& MASK) (· >>> 51) [stC t.l1, stC t.l2, stC t.l3, stC t.l4] (t.l0 >>> 51) fun r _ =>
      on4 (fun h1 h2 h3 h4 => pure ⟨t.l0 &&& MASK, h1, h2, h3, h4⟩) r := by
  unfold carry_final; simp only [passM_cons, passM_nil, on4_eq, stC]

theorem carry_final_spec (t : Fe) (ht : Loose t) : ∃ h, carry_final t = some h ∧ Bnd (2^51) h ∧ val h = val t % 2^255 := by
  obtain ⟨t0, t1, t2, t3, t4⟩ := ht
  obtain ⟨e, e0, -⟩ := passM_digits (n := 4) (D := 2^255) (N := val t) (C := 2^54 / 2^51) (fun s _ => land_MASK s) (fun s _ => shr51 s)
    (.four (stC_step t.l1) (stC_step t.l2) (stC_step t.l3) (stC_step t.l4))
    (.four (Nat.le_of_lt t1) (Nat.le_of_lt t2) (Nat.le_of_lt t3) (Nat.le_of_lt t4)) (Nat.div_le_div_right (Nat.le_of_lt t0))
    (by decide) (val_mk ..).symm fun r _ => on4 (fun h1 h2 h3 h4 => pure ⟨t.l0 &&& MASK, h1, h2, h3, h4⟩) r
  refine ⟨_, by rw [carry_final_eq, shr51, e, land_MASK, e0]; simp only [digits, on4_eq]; rfl, ?_, ?_⟩
  · simp only [Bnd]; omega
  · rw [val_digits5, val_mk]; rfl

/-- one reduction of a Loose value leaves less than 2^255 + 2^9, the second nothing above bit 255 -/
theorem fold_lt {N : Nat} (h : N < 2^259) : fold (fold N) < 2^255 := by unfold fold; omega

theorem canon {v : Nat} (h : v < 2^255) : (fold (v + 19) + (2^255 - 19)) % 2^255 = v % p := by
  unfold fold; rw [p_eq]
  -- `v + 19` reaches bit 255 exactly when `v ≥ p`
  by_cases h1 : v < 2^255 - 19 <;> omega

/-- the four words are the 64-bit fields of the value: word by word off its Horner form (Proofs/Bits.lean) -/
theorem pack_spec (t : Fe) (ht : Bnd (2^51) t) :
    [t.l0 ||| ((t.l1 <<< 51) % 2^64), (t.l1 >>> 13) ||| ((t.l2 <<< 38) % 2^64),
      (t.l2 >>> 26) ||| ((t.l3 <<< 25) % 2^64), (t.l3 >>> 39) ||| ((t.l4 <<< 12) % 2^64)]
    = [val t % 2^64, val t / 2^64 % 2^64, val t / 2^128 % 2^64, val t / 2^192 % 2^64] := by
  obtain ⟨h0, h1, h2, h3, -⟩ := ht
  have a1 := shr_lt 13 38 h1
  have a2 := shr_lt 26 25 h2
  have a3 := shr_lt 39 12 h3
  have hv : val t = t.l0 + 2^51 * (t.l1 + 2^51 * (t.l2 + 2^51 * (t.l3 + 2^51 * t.l4))) := val_mk ..
  have d1 : val t / 2^64 = t.l1 / 2^13 + 2^38 * (t.l2 + 2^51 * (t.l3 + 2^51 * t.l4)) := by
    rw [hv, word_hi 51 13 64 _ h0, horner_div 38 13 51]
  have d2 : val t / 2^128 = t.l2 / 2^26 + 2^25 * (t.l3 + 2^51 * t.l4) := by
    rw [← div_div_pow _ 64 64, d1, word_hi 38 26 64 _ a1, horner_div 25 26 51]
  have d3 : val t / 2^192 = t.l3 / 2^39 + 2^12 * t.l4 := by
    rw [← div_div_pow _ 128 64, d2, word_hi 25 39 64 _ a2, horner_div 12 39 51]
  simp only [Nat.shiftRight_eq_div_pow]
  rw [d1, d2, d3, hv, word_lo 51 13 64 _ h0, horner_mod 38 13 51, word_lo 38 26 64 _ a1, horner_mod 25 26 51,
    word_lo 25 39 64 _ a2, horner_mod 12 39 51, word_lo 12 52 64 _ a3, or_shl 51 13 64 _ h0, or_shl 38 26 64 _ a1,
    or_shl 25 39 64 _ a2, or_shl 12 52 64 _ a3]

theorem val_add19 (b : Fe) : val ⟨b.l0 + 19, b.l1, b.l2, b.l3, b.l4⟩ = val b + 19 := by
  simp only [val]; omega

theorem val_add_p (c : Fe) :
    val ⟨c.l0 + (2^51 - 19), c.l1 + (2^51 - 1), c.l2 + (2^51 - 1), c.l3 + (2^51 - 1), c.l4 + (2^51 - 1)⟩
      = val c + (2^255 - 19) := by
  simp only [val]; omega

theorem to_packed_spec (f : Fe) (hf : Loose f) :
    to_packed f = some [eval f % 2^64, eval f / 2^64 % 2^64, eval f / 2^128 % 2^64, eval f / 2^192 % 2^64] := by
  unfold eval
  suffices h : ∃ w, to_packed f = some w ∧ w = [val f % p % 2^64, val f % p / 2^64 % 2^64, val f % p / 2^128 % 2^64,
      val f % p / 2^192 % 2^64] by obtain ⟨w, e, rfl⟩ := h; exact e
  refine bind_ok (carry_full_spec f hf) fun a ⟨ta, va⟩ => bind_ok (carry_full_spec a (Tight.loose ta)) fun b ⟨tb, vb⟩ => ?_
  have lb : val b < 2^255 := by rw [vb, va]; exact fold_lt hf.val_lt
  obtain ⟨b0, b1, b2, b3, b4⟩ := tb
  refine add64_step (by omega) (bind_ok (carry_full_spec ⟨b.l0 + 19, b.l1, b.l2, b.l3, b.l4⟩
    (by simp only [Loose, Bnd]; omega)) fun c ⟨tc, vc⟩ => ?_)
  obtain ⟨c0, c1, c2, c3, c4⟩ := tc
  simp only [MASK_eq, show (2:Nat)^51 - 1 + 1 - 19 = 2^51 - 19 by decide]
  refine add64_step (by omega) (add64_step (by omega) (add64_step (by omega) (add64_step (by omega) (add64_step (by omega)
    (bind_ok (carry_final_spec _ (by simp only [Loose, Bnd]; omega)) fun d ⟨db, vd⟩ => ⟨_, rfl, ?_⟩)))))
  rw [pack_spec d db, vd, val_add_p, vc, val_add19, canon lb, vb, fold_mod, va, fold_mod]

end Cx.Proofs.Fe64
