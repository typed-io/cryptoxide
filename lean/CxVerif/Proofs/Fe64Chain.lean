/-
  Proofs.Fe64Chain — the addition chains of fe/mod.rs: `invert z = z^(p−2)`, `pow25523 z = z^((p−5)/8)`.
-/
import CxVerif.Proofs.Fe64Square
import CxVerif.Proofs.PowChain
namespace Cx.Proofs.Fe64
open Cx Cx.Spec Cx.Impl.Fe64
open Cx.Spec.Field25519 (p)

theorem eval_lt' (f : Fe) : eval f < p := eval_lt f

theorem pow25523_spec (z : Fe) (hz : Loose z) :
    ∃ h, pow25523 z = some h ∧ Tight h ∧ eval h = Field25519.pow25523 (eval z) := by
  obtain ⟨a, b, e, _, hb⟩ := ops.chain250 hz
  refine bind_some e ?_
  obtain ⟨d, e, ht, hv⟩ := ops.tail 2 (by decide) hb (ops.base hz)
  exact ⟨d, e, ht, by rw [hv, Cx.Proofs.Field25519.pow25523_eq]⟩

/-- no `z ≢ 0` hypothesis: at `z ≡ 0` the result is 0 -/
theorem invert_spec (z : Fe) (hz : Loose z) :
    ∃ h, invert z = some h ∧ Tight h ∧ eval h = Field25519.inv (eval z) := by
  obtain ⟨a, b, e, ha, hb⟩ := ops.chain250 hz
  refine bind_some e ?_
  obtain ⟨d, e, ht, hv⟩ := ops.tail 5 (by decide) hb ha
  exact ⟨d, e, ht, by rw [hv, Cx.Proofs.Field25519.inv_eq]; congr 2⟩

end Cx.Proofs.Fe64
