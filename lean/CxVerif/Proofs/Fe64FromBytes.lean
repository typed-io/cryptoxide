/-
  Proofs.Fe64FromBytes — `from_bytes` decodes the little-endian value modulo 2^255 into carried limbs.
-/
import CxVerif.Proofs.Fe64Basic
import CxVerif.Proofs.Bits
namespace Cx.Proofs.Fe64
open Cx Cx.Spec Cx.Impl.Fe64
open Cx.Proofs.Bits (leNat_window8 or8 field_lt field_low field_field field_add)

theorem load_eq (b : Bytes) (h : b.length = 32) (o : Nat) (ho : o + 7 < 32) :
    load b h o ho = leNat b / 2^(8*o) % 2^64 := by
  rw [leNat_window8 b o (by omega)]
  exact or8 (UInt8.toNat_lt _) (UInt8.toNat_lt _) (UInt8.toNat_lt _) (UInt8.toNat_lt _) (UInt8.toNat_lt _) (UInt8.toNat_lt _)
    (UInt8.toNat_lt _)

/-- each limb is a 51-bit field of the number, read through one 64-bit load, and the five fields tile bits 0 … 254 -/
theorem from_bytes_spec (b : Bytes) (h : b.length = 32) :
    Bnd (2^51) (from_bytes b h) ∧ val (from_bytes b h) = leNat b % 2^255 := by
  simp only [from_bytes, load_eq, Nat.reduceMul, land_MASK, Nat.shiftRight_eq_div_pow, Bnd, val]
  generalize leNat b = v
  rw [field_low v 0 64 51 (by decide), field_field v 48 64 3 51 (by decide), field_field v 96 64 6 51 (by decide),
    field_field v 152 64 1 51 (by decide), field_field v 192 64 12 51 (by decide)]
  simp only [Nat.reduceAdd]
  refine ⟨⟨field_lt .., field_lt .., field_lt .., field_lt .., field_lt ..⟩, ?_⟩
  rw [show v % 2^255 = v / 2^0 % 2^(51 + 204) by rw [Nat.pow_zero, Nat.div_one], field_add v 0 51 204, field_add v 51 51 153,
    field_add v 102 51 102, field_add v 153 51 51]
  generalize v / 2^0 % 2^51 = f0
  generalize v / 2^51 % 2^51 = f1
  generalize v / 2^102 % 2^51 = f2
  generalize v / 2^153 % 2^51 = f3
  generalize v / 2^204 % 2^51 = f4
  omega

theorem from_bytes_tight (b : Bytes) (h : b.length = 32) : Tight (from_bytes b h) :=
  Bnd.mono (by decide) (from_bytes_spec b h).1

theorem from_bytes_eval (b : Bytes) (h : b.length = 32) : eval (from_bytes b h) = Field25519.decode b := by
  unfold eval Field25519.decode
  rw [(from_bytes_spec b h).2]

end Cx.Proofs.Fe64
