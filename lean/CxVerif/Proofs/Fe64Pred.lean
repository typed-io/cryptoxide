/-
  Proofs.Fe64Pred — to_bytes, is_nonzero, is_negative, ct_eq / ==, maybe_swap_with, maybe_set, constants
  of fe64, through the canonical encoding (`to_packed_spec`) and the C18 theorems.
-/
import CxVerif.Proofs.Fe64Bytes
import CxVerif.Proofs.Field25519Encode
import CxVerif.Props.C18
namespace Cx.Proofs.Fe64
open Cx Cx.Spec Cx.Impl.Fe64
open Cx.Spec.Field25519 (p)
open Cx.Proofs.Field25519 (p_lt_256_32 ct_ne_encode_zeros)

theorem words_to_bytes (v : Nat) :
    [v % 2^64, v / 2^64 % 2^64, v / 2^128 % 2^64, v / 2^192 % 2^64].flatMap (natToLE 8) = natToLE 32 v := by
  have e : (2:Nat)^64 = 256^8 := by decide
  have e2 : (2:Nat)^128 = 256^8 * 256^8 := by decide
  have e3 : (2:Nat)^192 = 256^8 * 256^8 * 256^8 := by decide
  simp only [List.flatMap_cons, List.flatMap_nil, List.append_nil]
  rw [e2, e3, e, Bytes.natToLE_mod, Bytes.natToLE_mod, Bytes.natToLE_mod, Bytes.natToLE_mod]
  rw [show (32:Nat) = 8 + (8 + (8 + 8)) from rfl, Bytes.natToLE_add, Bytes.natToLE_add, Bytes.natToLE_add]
  simp only [Nat.div_div_eq_div_mul]

theorem to_bytes_spec (f : Fe) (hf : Loose f) : to_bytes f = some (Field25519.encode (eval f)) := by
  simp only [to_bytes]
  rw [to_packed_spec f hf, some_bind, pure_eq_some, words_to_bytes]
  unfold Field25519.encode
  rw [eval_mod]

theorem to_bytes_length (f : Fe) (hf : Loose f) : ∃ b, to_bytes f = some b ∧ b.length = 32 :=
  ⟨_, to_bytes_spec f hf, Bytes.natToLE_length 32 _⟩

theorem is_nonzero_spec (f : Fe) (hf : Loose f) :
    is_nonzero f = some (Field25519.isNonzero (eval f)) := by
  simp only [is_nonzero]
  rw [to_bytes_spec f hf, some_bind, pure_eq_some, ct_ne_encode_zeros _ (eval_lt f)]

theorem is_negative_spec (f : Fe) (hf : Loose f) :
    is_negative f = some (Field25519.isNegative (eval f)) := by
  simp only [is_negative]
  rw [to_packed_spec f hf, some_bind]
  simp only [pure_eq_some]
  congr 1
  unfold Field25519.isNegative
  rw [eval_mod, Nat.and_one_is_mod]
  have : eval f % 2^64 % 2 = eval f % 2 := by omega
  rw [this]
  rcases Nat.mod_two_eq_zero_or_one (eval f) with h | h <;> simp [h]

/-- equal words give equal bytes (`words_to_bytes`), and `natToLE 32` is injective below 256^32 -/
theorem ct_eq_spec (f g : Fe) (hf : Loose f) (hg : Loose g) :
    ∃ c, ct_eq f g = some c ∧ c.isTrue = decide (eval f = eval g) := by
  simp only [ct_eq]
  rw [to_packed_spec f hf, some_bind, to_packed_spec g hg, some_bind, pure_eq_some]
  refine ⟨_, rfl, ?_⟩
  rw [Cx.Props.C18.array_u64_ct_eq_spec _ _ (by simp)]
  refine decide_eq_decide.2 ⟨fun e => ?_, fun e => by rw [e]⟩
  have e := congrArg (List.map UInt64.toNat) e
  simp only [List.map_cons, List.map_nil, UInt64.toNat_ofNat', Nat.mod_mod] at e
  have e := congrArg (List.flatMap (natToLE 8)) e
  rw [words_to_bytes, words_to_bytes] at e
  exact Bytes.natToLE_inj (Nat.lt_trans (eval_lt f) p_lt_256_32) (Nat.lt_trans (eval_lt g) p_lt_256_32) e

theorem eq_spec (f g : Fe) (hf : Loose f) (hg : Loose g) :
    eq f g = some (decide (eval f = eval g)) := by
  obtain ⟨c, hc, hcv⟩ := ct_eq_spec f g hf hg
  simp only [eq]
  rw [hc, some_bind, pure_eq_some, hcv]

theorem ofWords_toWords (f : Fe) (hf : Bnd (2^64) f) : Fe.ofWords f.toWords = f := by
  obtain ⟨f0, f1, f2, f3, f4⟩ := f
  simp only [Bnd] at hf
  simp only [Fe.ofWords, Fe.toWords, Fe.toList, List.map_cons, List.map_nil, Fe.ofList,
    UInt64.toNat_ofNat']
  congr 1 <;> omega

theorem maybe_swap_with_spec (f g : Fe) (hf : Bnd (2^64) f) (hg : Bnd (2^64) g) (c : Bool) :
    maybe_swap_with f g (Cx.Props.C18.Choice.ofBool c) = if c then (g, f) else (f, g) := by
  unfold maybe_swap_with
  rw [Cx.Props.C18.ct_array64_maybe_swap_spec _ _ (by simp [Fe.toWords, Fe.toList])]
  cases c <;> simp only [if_true, if_false, Bool.false_eq_true, ofWords_toWords _ hf, ofWords_toWords _ hg]

theorem maybe_set_spec (f g : Fe) (hf : Bnd (2^64) f) (hg : Bnd (2^64) g) (c : Bool) :
    maybe_set f g (Cx.Props.C18.Choice.ofBool c) = if c then g else f := by
  unfold maybe_set
  rw [Cx.Props.C18.ct_array64_maybe_set_spec _ _ (by simp [Fe.toWords, Fe.toList])]
  cases c <;> simp only [if_true, if_false, Bool.false_eq_true, ofWords_toWords _ hf, ofWords_toWords _ hg]

theorem ZERO_spec : Bnd (2^51) Fe.ZERO ∧ eval Fe.ZERO = 0 := by decide
theorem ONE_spec : Bnd (2^51) Fe.ONE ∧ eval Fe.ONE = 1 := by decide
/-- the extracted limbs of `Fe::D` denote `−121665/121666` (kernel evaluation of the Spec formula) -/
theorem D_spec : Bnd (2^51) Fe.D ∧ eval Fe.D = Field25519.edwardsD := by decide +kernel
theorem D2_spec : Bnd (2^51) Fe.D2 ∧ eval Fe.D2 = Field25519.edwardsD2 := by decide +kernel
/-- the extracted limbs of `Fe::SQRTM1` denote `2^((p−1)/4)` -/
theorem SQRTM1_spec : Bnd (2^51) Fe.SQRTM1 ∧ eval Fe.SQRTM1 = Field25519.sqrtM1 := by decide +kernel
theorem bnd51_tight {f : Fe} (h : Bnd (2^51) f) : Tight f := Bnd.mono (by decide) h

end Cx.Proofs.Fe64
