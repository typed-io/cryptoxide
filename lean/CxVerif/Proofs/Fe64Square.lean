/-
  Proofs.Fe64Square — square, square_repeatdly, square_and_double of fe64.  `square_spec` walks the model's text with the
  rules of Fe64Basic/Fe64Arith: every column is two checked additions of products bounded as terms, in the shape the source
  writes them.  After its five columns `square` moves the high part of every column one limb up in parallel (the top one
  times 19 into limb 0) and then runs the SAME weak pass as Add/Sub/Neg (`weak`, Fe64Arith), on limbs up to `96·2^57`.
-/
import CxVerif.Proofs.Fe64Arith
import CxVerif.Proofs.Field25519
import CxVerif.Proofs.PowChain
namespace Cx.Proofs.Fe64
open Cx Cx.Spec Cx.Impl.Fe64
open Cx.Spec.Field25519 (p)
open Cx.Proofs.Limbs (passM_cons passM_nil on4 on4_eq)

theorem shl128_13 {t : Nat} (h : t < 2^115) : shl128 t 13 = t / 2^51 := by
  unfold shl128
  rw [Nat.shiftLeft_eq, Nat.shiftRight_eq_div_pow]
  omega

/-- `square` after its five columns `t0 … t4`: the high parts go one limb up in parallel (the top one times 19 into limb 0),
    then one weak pass.  `square_spec` shows that the model's text is this by unfolding `weak` -/
def squareTail (t0 t1 t2 t3 t4 : Nat) : Option Fe :=
  add64 ((t1 % 2^64) &&& MASK) (shl128 t0 13) >>= fun r1 => add64 ((t2 % 2^64) &&& MASK) (shl128 t1 13) >>= fun r2 =>
  add64 ((t3 % 2^64) &&& MASK) (shl128 t2 13) >>= fun r3 => add64 ((t4 % 2^64) &&& MASK) (shl128 t3 13) >>= fun r4 =>
  mul64 (shl128 t4 13) 19 >>= fun c19 => add64 ((t0 % 2^64) &&& MASK) c19 >>= fun r0 =>
  weak r0 [stC r1, stC r2, stC r3, stC r4]

theorem up_step {β} {a b : Nat} {f : Nat → Option β} {Q : β → Prop} (ha : a < 77 * 2^108)
    (hf : b % 2^51 + a / 2^51 ≤ 96 * 2^57 → ∃ r, f (b % 2^51 + a / 2^51) = some r ∧ Q r) :
    ∃ r, (add64 ((b % 2^64) &&& MASK) (shl128 a 13) >>= f) = some r ∧ Q r := by
  rw [shl128_13 (Nat.lt_trans ha (by decide)), land_MASK, mod64_mod51]
  have u : b % 2^51 + a / 2^51 ≤ 96 * 2^57 := by omega
  exact add64_step (Nat.lt_of_le_of_lt u (by decide)) (hf u)

/-- `prog` is the model's text of the tail: the caller shows `e` by unfolding `squareTail` and `weak` -/
theorem squareTail_spec {prog : Option Fe} {t0 t1 t2 t3 t4 : Nat} {Q : Fe → Prop} (e : prog = squareTail t0 t1 t2 t3 t4)
    (h0 : t0 < 77 * 2^108) (h1 : t1 < 77 * 2^108) (h2 : t2 < 77 * 2^108) (h3 : t3 < 77 * 2^108) (h4 : t4 < 5 * 2^108)
    (hQ : ∀ h, Tight h → val h % p = Limbs.val 51 [t0, t1, t2, t3, t4] % p → Q h) : ∃ h, prog = some h ∧ Q h := by
  subst e
  unfold squareTail
  refine up_step h0 fun u1 => up_step h1 fun u2 => up_step h2 fun u3 => up_step h3 fun u4 => ?_
  rw [shl128_13 (Nat.lt_trans h4 (by decide)), land_MASK, mod64_mod51]
  refine mul64_step (by omega) (add64_step (by omega) ?_)
  refine weak_spec (96 * 2^57) (by omega) (.four (stC_step _) (stC_step _) (stC_step _) (stC_step _)) u1 u2 u3 u4
    fun h ht hv => hQ h ht ?_
  -- the high part of column 4 went to limb 0 times 19
  rw [hv, fold_mod]
  refine mod_p_of_add_mul (k := t4 / 2^51) ?_
  simp only [Limbs.val, p_eq]
  clear h0 h1 h2 h3 h4 ht hv u1 u2 u3 u4 hQ
  omega

/-- the products of `square` as the source writes them, a small factor (2, 19, 19·2) inside -/
theorem prodm_lt {a b : Nat} (c : Nat) (ha : a < 2^54) (hb : b < 2^54) (hc : 0 < c := by decide) : a * c * b < c * 2^108 := by
  rw [Nat.mul_right_comm, Nat.mul_comm]; exact Nat.mul_lt_mul_of_pos_left (prod_lt ha hb) hc
theorem prodmm_lt {a b : Nat} (c d : Nat) (ha : a < 2^54) (hb : b < 2^54) (hc : 0 < c * d := by decide) :
    a * c * d * b < c * d * 2^108 := by
  rw [Nat.mul_assoc a c d]; exact prodm_lt (c * d) ha hb hc
theorem prodr_lt {a b : Nat} (c : Nat) (ha : a < 2^54) (hb : b < 2^54) (hc : 0 < c := by decide) : a * (b * c) < c * 2^108 := by
  rw [← Nat.mul_assoc]; exact prodm_lt c ha hb hc |> fun h => by rwa [Nat.mul_right_comm] at h

theorem square_columns (f : Fe) :
    val f * val f = Limbs.val 51
      [f.l0 * f.l0 + f.l4 * 19 * 2 * f.l1 + f.l2 * 2 * 19 * f.l3, f.l0 * 2 * f.l1 + f.l4 * 19 * 2 * f.l2 + f.l3 * (f.l3 * 19),
       f.l0 * 2 * f.l2 + f.l1 * f.l1 + f.l4 * 19 * 2 * f.l3, f.l0 * 2 * f.l3 + f.l1 * 2 * f.l2 + f.l4 * (f.l4 * 19),
       f.l0 * 2 * f.l4 + f.l1 * 2 * f.l3 + f.l2 * f.l2]
      + p * (2 * (f.l4 * f.l1) + 2 * (f.l2 * f.l3) + 2^51 * (2 * (f.l4 * f.l2) + f.l3 * f.l3)
        + 2^102 * (2 * (f.l4 * f.l3)) + 2^153 * (f.l4 * f.l4)) := by
  simp only [val, Limbs.val, p_eq]; norm_num; ring

/-- every column is two checked additions of products bounded as terms (`add128_lt`); the `mul64 r3 19` that the source
    puts between the two additions of column 1 is a step like any other -/
theorem square_spec (f : Fe) (hf : Loose f) :
    ∃ h, square f = some h ∧ Tight h ∧ eval h = Field25519.sq (eval f) := by
  obtain ⟨hf0, hf1, hf2, hf3, hf4⟩ := hf
  refine mul64_step (by omega) (mul64_step (by omega) (mul64_step (by omega) (mul64_step (by omega) (mul64_step (by omega)
    (mul64_step (by omega) ?_)))))
  refine add128_lt (T := 39 * 2^108) (prod_lt hf0 hf0) (prodmm_lt 19 2 hf4 hf1) fun a0 => ?_
  refine add128_lt (T := 77 * 2^108) a0 (prodmm_lt 2 19 hf2 hf3) fun b0 => ?_
  refine add128_lt (T := 40 * 2^108) (prodm_lt 2 hf0 hf1) (prodmm_lt 19 2 hf4 hf2) fun a1 => mul64_step (by omega) ?_
  refine add128_lt (T := 77 * 2^108) a1 (prodr_lt 19 hf3 hf3) fun b1 => ?_
  refine add128_lt (T := 3 * 2^108) (prodm_lt 2 hf0 hf2) (prod_lt hf1 hf1) fun a2 => ?_
  refine add128_lt (T := 77 * 2^108) a2 (prodmm_lt 19 2 hf4 hf3) fun b2 => ?_
  refine add128_lt (T := 4 * 2^108) (prodm_lt 2 hf0 hf3) (prodm_lt 2 hf1 hf2) fun a3 => ?_
  refine add128_lt (T := 77 * 2^108) a3 (prodr_lt 19 hf4 hf4) fun b3 => ?_
  refine add128_lt (T := 4 * 2^108) (prodm_lt 2 hf0 hf4) (prodm_lt 2 hf1 hf3) fun a4 => ?_
  refine add128_lt (T := 5 * 2^108) a4 (prod_lt hf2 hf2) fun b4 => ?_
  refine squareTail_spec (by unfold squareTail weak; simp only [passM_cons, passM_nil, on4_eq, stC]) b0 b1 b2 b3 b4
    fun h hb hv => ⟨hb, ?_⟩
  simp only [eval, sq_mod]
  unfold Field25519.sq
  simp only [mul128] at hv
  rw [hv, square_columns, Nat.add_mul_mod_self_left]

theorem ops : PowChain.Ops mul square square_repeatdly eval Loose Tight where
  out_in := Tight.loose
  ev_mod := eval_mod
  mul_ok := mul_spec
  sq_ok := square_spec
  rep_zero _ := rfl
  rep_succ f n := by rw [square_repeatdly]; cases square f <;> rfl

theorem square_repeatdly_spec (n : Nat) : ∀ (f : Fe), Loose f →
    ∃ h, square_repeatdly f n = some h ∧ (0 < n → Tight h) ∧ (n = 0 → h = f) ∧
      eval h = (eval f) ^ (2^n) % p := ops.sqrep_spec n

theorem square_repeatdly_pos (n : Nat) (hn : 0 < n) (f : Fe) (hf : Loose f) :
    ∃ h, square_repeatdly f n = some h ∧ Tight h ∧ eval h = Field25519.pow (eval f) (2^n) := by
  obtain ⟨h, hh, ht, _, hv⟩ := square_repeatdly_spec n f hf
  exact ⟨h, hh, ht hn, by rw [hv, Cx.Proofs.Field25519.pow_eq]⟩

theorem square_and_double_spec (f : Fe) (hf : Loose f) :
    ∃ h, square_and_double f = some h ∧ Pub h ∧
      eval h = Field25519.mul 2 (Field25519.sq (eval f)) := by
  refine bind_ok (square_spec f hf) fun x ⟨⟨x0, x1, x2, x3, x4⟩, hxv⟩ => ?_
  refine mul64_step (by omega) (mul64_step (by omega) (mul64_step (by omega) (mul64_step (by omega) (mul64_step (by omega)
    ⟨_, rfl, ?_, ?_⟩))))
  · simp only [Pub, Bnd]; omega
  · rw [← hxv]
    simp only [eval]
    rw [← mul_mod, Nat.mod_mod, mul_mod]
    unfold Field25519.mul
    congr 1
    simp only [val]; ring

end Cx.Proofs.Fe64
