/-
  Proofs.Field25519 — facts about the Spec field: `pow` is exponentiation mod p (`pow_eq`; `inv`, `pow25523` as its instances), its
  values are residues and depend on the residue of the base only (`pow_lt`, `pow_mod`); `mul` and `add` commute.
-/
import CxVerif.Spec.Field25519
import CxVerif.Proofs.PowMod
namespace Cx.Proofs.Field25519
open Cx.Spec.Field25519

theorem p_pos : 0 < p := by decide

theorem fmul_comm (a b : Nat) : mul a b = mul b a := by unfold mul; rw [Nat.mul_comm]
theorem fadd_comm (a b : Nat) : add a b = add b a := by unfold add; rw [Nat.add_comm]

theorem powAux_eq_powModAux (a : Nat) : ∀ fuel e : Nat, powAux a fuel e = PowMod.powModAux p a fuel e
  | 0, _ => rfl
  | fuel + 1, e => by rw [powAux, PowMod.powModAux, powAux_eq_powModAux a fuel]

theorem powAux_eq (a : Nat) (fuel e : Nat) (h : e ≤ fuel) : powAux a fuel e = a ^ e % p := by
  rw [powAux_eq_powModAux, PowMod.powModAux_eq p a fuel e h]

theorem pow_eq (a e : Nat) : pow a e = a ^ e % p := powAux_eq a e e (Nat.le_refl e)

theorem pow_mod (a e : Nat) : pow (a % p) e = pow a e := by
  rw [pow_eq, pow_eq, ← Nat.pow_mod]

theorem pow_lt (a e : Nat) : pow a e < p := by rw [pow_eq]; exact Nat.mod_lt _ p_pos

theorem inv_eq (a : Nat) : inv a = a ^ (p - 2) % p := pow_eq a (p - 2)
theorem pow25523_eq (a : Nat) : pow25523 a = a ^ (2^252 - 3) % p := by
  unfold pow25523; rw [pow_eq]; rfl

end Cx.Proofs.Field25519
