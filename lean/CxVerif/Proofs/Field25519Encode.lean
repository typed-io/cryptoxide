/-
  Proofs.Field25519Encode — what both field backends need of the Spec's 32-byte encoding, free of limbs: `p < 256^32`, and the
  constant-time comparison of an encoding with 32 zero bytes is the Spec's `isNonzero` (through the C18 theorem).
-/
import CxVerif.Spec.Field25519
import CxVerif.Props.C18
namespace Cx.Proofs.Field25519
open Cx Cx.Spec
open Cx.Spec.Field25519 (p)

theorem p_lt_256_32 : p < 256^32 := by decide

theorem ct_ne_encode_zeros (a : Nat) (ha : a < p) :
    (Impl.CT.array_u8_ct_ne (Field25519.encode a) (zeros 32)).isTrue = Field25519.isNonzero a := by
  rw [Cx.Props.C18.array_u8_ct_ne_spec _ _ (by rw [Field25519.encode, Bytes.natToLE_length]; rfl)]
  unfold Field25519.isNonzero Field25519.encode
  rw [Nat.mod_eq_of_lt ha]
  have hz : zeros 32 = natToLE 32 0 := by decide
  by_cases h : a = 0
  · rw [h, hz]; decide
  · have : natToLE 32 a ≠ zeros 32 := by
      rw [hz]; intro e
      exact h (Bytes.natToLE_inj (Nat.lt_trans ha p_lt_256_32) (by decide) e)
    simp [this, h]

end Cx.Proofs.Field25519
