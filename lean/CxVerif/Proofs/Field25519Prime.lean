/-
  Proofs.Field25519Prime — facts that need primality of p = 2^255 − 19, which is NOT proved here:
  it is an explicit hypothesis `Nat.Prime p` of every statement in this file.
-/
import CxVerif.Proofs.Field25519
import Mathlib.FieldTheory.Finite.Basic
namespace Cx.Proofs.Field25519
open Cx.Spec.Field25519

/-- Fermat's little theorem (Euler's totient form from Mathlib) -/
theorem mul_inv_of_prime (hp : Nat.Prime p) (z : Nat) (hz : z % p ≠ 0) : mul z (inv z) = 1 := by
  have hcop : Nat.Coprime z p := by
    rw [Nat.coprime_comm, Nat.Prime.coprime_iff_not_dvd hp]
    intro hd; exact hz (Nat.mod_eq_zero_of_dvd hd)
  have h := Nat.ModEq.pow_totient hcop
  rw [Nat.totient_prime hp] at h
  unfold mul
  rw [inv_eq, Nat.mul_mod, Nat.mod_mod, ← Nat.mul_mod, ← Nat.pow_succ']
  have e : (p - 2).succ = p - 1 := by decide
  rw [e]
  have h1 : 1 % p = 1 := by decide
  rw [← h1]; exact h

end Cx.Proofs.Field25519
