/-
  Proofs.FixedBuffer — the generic Merkle–Damgård refinement: `cryptoutil::FixedBuffer<N>` (Impl/FixedBuffer.lean)
  + the finish sequence (Impl/MdEngine.lean) compute `Spec.MD.hash` (Spec/MerkleDamgard.lean) for EVERY message,
  EVERY chunking (empty chunks included), every block size `N > 0` and every length field that fits.

  HOW TO INSTANTIATE (SHA-1, RIPEMD-160, SHA-2 all do the same):
    1. `compress : σ → Bytes → σ` := your TOTAL one-block function (σ = chaining state, e.g. `[u32; 5]`).
    2. For the closure given to `FixedBuffer::input` (`digest_blocks`, loops over 64-byte chunks) prove
         hf  : FuncIsBlocks N func compress      -- on d with d.length % N = 0: `some (foldl compress s (fullBlocks N d))`
       (SHA-2's two reference drivers are fuel loops over `&block[i..i + N]`: `blockLoop_spec`, Proofs/BlockLoop.lean, serves
       exactly these, see Proofs/Sha2Engine.lean `digest_block256_total`; SHA-1 / RIPEMD-160 iterate over `chunks(N)`:
       Proofs/Sha1Stream.lean `digest_blocks_spec`.)  For the closure given to `standard_padding` and for the final
       call on `full_buffer()` prove
         hf1 : FuncOneBlock N funcFin compress   -- on d with d.length = N: `some (compress s d)`
       (`hf.one hN` if it is the same closure).
    3. Give the engine record as an instance of `Md.Eng` (Proofs/MdRefine.lean): projections to buffer / chaining value /
       counter, the callbacks with `hf`, `hf1`, the length field (`lenBytes`, `wr`: one `*next::<8>() = …` is
       `fun b => b.next_write 8 lenBytes` with `next_write_WritesLen`; RIPEMD's two `next::<4>()` are `next_write_twice 4 lo hi`
       with `next_write_twice_WritesLen`; `hlenc` from `lenField64` / `lenField128` / `len_le64_split_low`), and the two
       success-path equations `input_ok`, `fin_ok` (unfold your `update` / `finish` once).  `Md.Abs.input`, `Md.Abs.fin`,
       `Md.fin_any` are then the step lemmas of the state machine (see Proofs/Sha2Engine.lean `eng256`, `refines256`).
    4. For a bare buffer (no engine record) apply `Props.C01.Sha2.md_any_chunking_is_spec` with `b0 = FixedBuffer.new N`
       (`new_WF`, idx 0) or any reset buffer (`WF` + `buffer_idx = 0`; the stale array contents are irrelevant — that is part
       of the theorem).
-/
import CxVerif.Proofs.Blocks
import CxVerif.Impl.MdEngine
import CxVerif.Spec.MerkleDamgard
namespace Cx.Proofs.FB
open Cx.Impl

/-- the invariant between calls of `input` -/
def WF (N : Nat) (b : FixedBuffer) : Prop := b.buffer.length = N ∧ b.buffer_idx < N

/-- what a callback handed to `input` / `standard_padding` must do: on a whole number of blocks it does not panic
    and folds the one-block compression function over them -/
def FuncIsBlocks {σ : Type} (N : Nat) (func : σ → Bytes → Option σ) (compress : σ → Bytes → σ) : Prop :=
  ∀ s d, d.length % N = 0 → func s d = some ((fullBlocks N d).foldl compress s)

theorem slice_eq {b : Bytes} {lo hi : Nat} (h1 : lo ≤ hi) (h2 : hi ≤ b.length) :
    slice b lo hi = some ((b.drop lo).take (hi - lo)) := by
  simp [slice, h1, h2]

theorem copy_from_slice_eq {dst src : Bytes} {lo hi : Nat} (h1 : lo ≤ hi) (h2 : hi ≤ dst.length)
    (h3 : src.length = hi - lo) :
    copy_from_slice dst lo hi src = some (dst.take lo ++ src ++ dst.drop hi) := by
  simp [copy_from_slice, h1, h2, h3]

theorem FuncIsBlocks.single {σ : Type} {N : Nat} {func : σ → Bytes → Option σ} {compress : σ → Bytes → σ}
    (hf : FuncIsBlocks N func compress) (hN : 0 < N) (s : σ) {d : Bytes} (hd : d.length = N) :
    func s d = some (compress s d) := by
  rw [hf s d (by rw [hd]; exact Nat.mod_self N), fullBlocks_single hN hd]
  rfl

/-- what the callback of `standard_padding` / the final compression must do: one block, no panic -/
def FuncOneBlock {σ : Type} (N : Nat) (func : σ → Bytes → Option σ) (compress : σ → Bytes → σ) : Prop :=
  ∀ s d, d.length = N → func s d = some (compress s d)

theorem FuncIsBlocks.one {σ : Type} {N : Nat} {func : σ → Bytes → Option σ} {compress : σ → Bytes → σ}
    (hf : FuncIsBlocks N func compress) (hN : 0 < N) : FuncOneBlock N func compress :=
  fun s _ hd => hf.single hN s hd

def Holds (N : Nat) (b : FixedBuffer) (d : Bytes) : Prop :=
  b.buffer.length = N ∧ b.buffer_idx ≤ N ∧ b.data = d

theorem Holds.idx {N : Nat} {b : FixedBuffer} {d : Bytes} (h : Holds N b d) : b.buffer_idx = d.length := by
  obtain ⟨h1, h2, h3⟩ := h
  rw [← h3]; unfold FixedBuffer.data; rw [List.length_take]; omega

theorem WF.holds {N : Nat} {b : FixedBuffer} (h : WF N b) : Holds N b b.data :=
  ⟨h.1, Nat.le_of_lt h.2, rfl⟩

/-- every write into the buffer is a copy at the index: it appends `src` to the live bytes -/
theorem copy_at_idx {N : Nat} {b : FixedBuffer} {d : Bytes} (h : Holds N b d) (src : Bytes) (hi : Nat)
    (hhi : hi = d.length + src.length) (hfit : hi ≤ N) :
    ∃ buf, copy_from_slice b.buffer b.buffer_idx hi src = some buf ∧ Holds N ⟨buf, hi⟩ (d ++ src) := by
  have hidx := h.idx
  obtain ⟨h1, h2, h3⟩ := h
  rw [copy_from_slice_eq (by omega) (by omega) (by omega)]
  refine ⟨_, rfl, ?_, hfit, ?_⟩
  · simp; omega
  · simp only [FixedBuffer.data] at h3 ⊢
    have hl : (List.take b.buffer_idx b.buffer).length = b.buffer_idx := by simp; omega
    rw [List.take_left' (by simp [hl]; omega), h3]

theorem Holds.full {N : Nat} {b : FixedBuffer} {d : Bytes} (h : Holds N b d) (hfull : d.length = N) : b.buffer = d := by
  have hi := h.idx
  obtain ⟨h1, h2, h3⟩ := h
  rw [← h3]; unfold FixedBuffer.data; rw [List.take_of_length_le (by omega)]

theorem Holds.wf {N : Nat} {b : FixedBuffer} {d : Bytes} (h : Holds N b d) (hlt : d.length < N) : WF N b :=
  ⟨h.1, h.idx ▸ hlt⟩

theorem next_write_spec {N : Nat} {b : FixedBuffer} {d : Bytes} (h : Holds N b d) (I : Nat) (v : Bytes)
    (hv : v.length = I) (hfit : d.length + I ≤ N) :
    ∃ b', b.next_write I v = some b' ∧ Holds N b' (d ++ v) := by
  obtain ⟨buf, e, H⟩ := copy_at_idx h v (b.buffer_idx + I) (by rw [h.idx, hv]) (by rw [h.idx]; exact hfit)
  exact ⟨_, by simp only [FixedBuffer.next_write, hv, ne_eq, not_true_eq_false, if_false, e], H⟩

theorem zero_until_spec {N : Nat} {b : FixedBuffer} {d : Bytes} (h : Holds N b d) (idx : Nat)
    (hge : d.length ≤ idx) (hle : idx ≤ N) :
    ∃ b', b.zero_until idx = some b' ∧ Holds N b' (d ++ zeros (idx - d.length)) := by
  obtain ⟨buf, e, H⟩ := copy_at_idx h (zeros (idx - d.length)) idx (by simp [zeros]; omega) hle
  rw [← h.idx] at e
  exact ⟨_, by simp only [FixedBuffer.zero_until, Nat.not_lt.mpr (h.idx ▸ hge), if_false, e], H⟩

theorem input_rest_short {σ : Type} {N : Nat} (b : FixedBuffer) (inp : Bytes) (i : Nat)
    (func : σ → Bytes → Option σ) (st : σ)
    (hlen : b.buffer.length = N) (hidx : b.buffer_idx = 0) (hi : i ≤ inp.length) (hlt : inp.length - i < N) :
    ∃ b', FixedBuffer.input_rest N b inp i func st = some (b', st) ∧ WF N b' ∧ b'.data = inp.drop i := by
  have H0 : Holds N b [] := ⟨hlen, by omega, by simp [FixedBuffer.data, hidx]⟩
  obtain ⟨buf, e, H⟩ := copy_at_idx H0 (inp.drop i) (inp.length - i) (by simp) (by omega)
  rw [hidx] at e
  unfold FixedBuffer.input_rest
  simp only [Nat.not_lt.mpr hi, Nat.not_le.mpr hlt, if_false]
  rw [slice_eq hi (Nat.le_refl _), List.take_of_length_le (by simp)]
  simp only [e, hidx, Nat.zero_add]
  exact ⟨_, rfl, H.wf (by simpa using hlt), by simpa using H.2.2⟩

theorem input_rest_spec {σ : Type} {N : Nat} (hN : 0 < N) (b : FixedBuffer) (inp : Bytes) (i : Nat)
    (func : σ → Bytes → Option σ) (compress : σ → Bytes → σ) (st : σ)
    (hlen : b.buffer.length = N) (hidx : b.buffer_idx = 0) (hi : i ≤ inp.length)
    (hf : FuncIsBlocks N func compress) :
    ∃ b', FixedBuffer.input_rest N b inp i func st
        = some (b', (fullBlocks N (inp.drop i)).foldl compress st)
      ∧ WF N b' ∧ b'.data = blockTail N (inp.drop i) := by
  have hrl : (inp.drop i).length = inp.length - i := by simp
  by_cases hge : inp.length - i ≥ N
  · -- the whole blocks go to the callback; what is left is the short case at `i + block_bytes`
    have hbb : (inp.length - i) / N * N ≤ inp.length - i := Nat.div_mul_le_self _ _
    have hrest : inp.drop (i + (inp.length - i) / N * N) = blockTail N (inp.drop i) := by
      unfold blockTail; rw [List.drop_drop, hrl]
    have hrem : inp.length - (i + (inp.length - i) / N * N) < N := by
      have := blockTail_length_lt hN (inp.drop i); rw [← hrest] at this; simpa using this
    have hi' : i + (inp.length - i) / N * N ≤ inp.length := by omega
    have hfl : ((inp.drop i).take ((inp.length - i) / N * N)).length % N = 0 := by
      rw [List.length_take, hrl, Nat.min_eq_left hbb]; exact Nat.mul_mod_left _ _
    have e : FixedBuffer.input_rest N b inp i func st = FixedBuffer.input_rest N b inp
        (i + (inp.length - i) / N * N) func ((fullBlocks N (inp.drop i)).foldl compress st) := by
      have := fullBlocks_take hN (inp.drop i)
      rw [hrl] at this
      unfold FixedBuffer.input_rest
      simp only [Nat.not_lt.mpr hi, Nat.not_lt.mpr hi', Nat.not_le.mpr hrem, hge, if_true, if_false]
      rw [slice_eq (Nat.le_add_right _ _) hi']
      simp only [Nat.add_sub_cancel_left]
      rw [hf st _ hfl, this]
      simp only [Nat.not_lt.mpr hi', if_false]
    rw [e, ← hrest]
    exact input_rest_short b inp _ func _ hlen hidx hi' hrem
  · have hlt : (inp.drop i).length < N := by rw [hrl]; omega
    rw [fullBlocks_of_lt hlt, blockTail_of_lt hlt]
    exact input_rest_short b inp i func st hlen hidx hi (by omega)

theorem data_length {N : Nat} {b : FixedBuffer} (h : WF N b) : b.data.length = b.buffer_idx := h.holds.idx.symm

/-- **`FixedBuffer::input`, one call**: it never panics, hands exactly the full blocks of
    `data ++ input` to the compression function (in order) and keeps the tail. -/
theorem input_spec {σ : Type} {N : Nat} (hN : 0 < N) (b : FixedBuffer) (inp : Bytes)
    (func : σ → Bytes → Option σ) (compress : σ → Bytes → σ) (st : σ)
    (hwf : WF N b) (hf : FuncIsBlocks N func compress) :
    ∃ b', b.input N inp func st = some (b', (fullBlocks N (b.data ++ inp)).foldl compress st)
      ∧ WF N b' ∧ b'.data = blockTail N (b.data ++ inp) := by
  have hdl := data_length hwf
  obtain ⟨hlen, hidx⟩ := hwf
  unfold FixedBuffer.input
  by_cases h0 : b.buffer_idx = 0
  · have hd : b.data = [] := by simp [FixedBuffer.data, h0]
    simp only [h0, bne_self_eq_false, Bool.false_eq_true, if_false, hd, List.nil_append]
    simpa using input_rest_spec hN b inp 0 func compress st hlen h0 (Nat.zero_le _) hf
  · have hne : (b.buffer_idx != 0) = true := by simp [h0]
    simp only [hne, if_true, Nat.not_lt.mpr (Nat.le_of_lt hidx), if_false]
    by_cases hge : inp.length ≥ N - b.buffer_idx
    · -- fill the block, compress it, go on at `N - idx`
      have hbl : (b.data ++ inp.take (N - b.buffer_idx)).length = N := by rw [List.length_append, List.length_take]; omega
      obtain ⟨buf, e, H⟩ := copy_at_idx (WF.holds ⟨hlen, hidx⟩) (inp.take (N - b.buffer_idx)) N
        (List.length_append ▸ hbl.symm) (Nat.le_refl _)
      have hbuf := H.full hbl
      simp only at hbuf
      simp only [hge, if_true]
      rw [slice_eq (Nat.zero_le _) hge]
      simp only [List.drop_zero, Nat.sub_zero, e, hbuf, hf.single hN st hbl]
      obtain ⟨b', he, hw, hdat⟩ := input_rest_spec hN ⟨b.data ++ inp.take (N - b.buffer_idx), 0⟩ inp
        (N - b.buffer_idx) func compress (compress st (b.data ++ inp.take (N - b.buffer_idx))) hbl rfl hge hf
      have hsplit : b.data ++ inp = (b.data ++ inp.take (N - b.buffer_idx)) ++ inp.drop (N - b.buffer_idx) := by
        rw [List.append_assoc, List.take_append_drop]
      refine ⟨b', ?_, hw, ?_⟩
      · rw [he, hsplit, fullBlocks_cons hN hbl]; rfl
      · rw [hdat, hsplit, blockTail_cons hN hbl]
    · -- everything fits: appended, nothing compressed
      obtain ⟨buf, e, H⟩ := copy_at_idx (WF.holds ⟨hlen, hidx⟩) inp (b.buffer_idx + inp.length) (by omega) (by omega)
      have hsl : (b.data ++ inp).length < N := by rw [List.length_append]; omega
      simp only [hge, if_false, e]
      rw [fullBlocks_of_lt hsl, blockTail_of_lt hsl]
      exact ⟨_, rfl, H.wf hsl, H.2.2⟩

def inputMany {σ : Type} (N : Nat) (func : σ → Bytes → Option σ) :
    List Bytes → FixedBuffer → σ → Option (FixedBuffer × σ)
  | [], b, st => some (b, st)
  | c :: cs, b, st =>
    match b.input N c func st with
    | none => none
    | some (b', st') => inputMany N func cs b' st'

/-- **`FixedBuffer::input`, any sequence of calls** (every chunking, empty chunks included): the compression
    function has seen exactly the full blocks of the concatenation, the buffer holds its tail. -/
theorem inputMany_spec {σ : Type} {N : Nat} (hN : 0 < N) (func : σ → Bytes → Option σ)
    (compress : σ → Bytes → σ) (hf : FuncIsBlocks N func compress) (chunks : List Bytes) :
    ∀ (b : FixedBuffer) (st : σ), WF N b →
    ∃ b', inputMany N func chunks b st
        = some (b', (fullBlocks N (b.data ++ chunks.flatten)).foldl compress st)
      ∧ WF N b' ∧ b'.data = blockTail N (b.data ++ chunks.flatten) := by
  induction chunks with
  | nil =>
    intro b st hwf
    have hl : b.data.length < N := by rw [data_length hwf]; exact hwf.2
    refine ⟨b, ?_, hwf, ?_⟩
    · simp [inputMany, fullBlocks_of_lt hl]
    · simp [blockTail_of_lt hl]
  | cons c cs ih =>
    intro b st hwf
    obtain ⟨b1, h1, hw1, hd1⟩ := input_spec hN b c func compress st hwf hf
    obtain ⟨b2, h2, hw2, hd2⟩ := ih b1 ((fullBlocks N (b.data ++ c)).foldl compress st) hw1
    refine ⟨b2, ?_, hw2, ?_⟩
    · simp only [inputMany, h1, h2, List.flatten_cons]
      rw [hd1, ← List.append_assoc, fullBlocks_append hN (b.data ++ c), List.foldl_append]
    · rw [hd2, hd1, List.flatten_cons, ← List.append_assoc, ← blockTail_append hN]

theorem new_WF {N : Nat} (hN : 0 < N) : WF N (FixedBuffer.new N) := by
  simp [WF, FixedBuffer.new, zeros, hN]

theorem new_data (N : Nat) : (FixedBuffer.new N).data = [] := by
  simp [FixedBuffer.data, FixedBuffer.new]

theorem inputMany_from_empty {σ : Type} {N : Nat} (hN : 0 < N) (func : σ → Bytes → Option σ)
    (compress : σ → Bytes → σ) (hf : FuncIsBlocks N func compress) (chunks : List Bytes)
    (b : FixedBuffer) (st : σ) (hwf : WF N b) (h0 : b.buffer_idx = 0) :
    ∃ b', inputMany N func chunks b st = some (b', (fullBlocks N chunks.flatten).foldl compress st)
      ∧ WF N b' ∧ b'.data = blockTail N chunks.flatten := by
  have hd : b.data = [] := by simp [FixedBuffer.data, h0]
  have := inputMany_spec hN func compress hf chunks b st hwf
  simpa [hd] using this

theorem full_buffer_spec {N : Nat} {b : FixedBuffer} {d : Bytes} (h : Holds N b d) (hfull : d.length = N) :
    ∃ b', b.full_buffer N = some (b', d) ∧ Holds N b' [] ∧ b'.buffer_idx = 0 := by
  have this := h.full hfull
  unfold FixedBuffer.full_buffer
  simp only [h.idx, hfull, ne_eq, not_true_eq_false, if_false, this]
  refine ⟨_, rfl, ⟨?_, ?_, ?_⟩, rfl⟩
  · simp [← this, h.1]
  · simp
  · simp [FixedBuffer.data]

open Cx.Spec.MD (padZeros)

theorem padZeros_fit {N L a : Nat} (h : a + 1 + L ≤ N) : padZeros N L a = N - (a + 1 + L) := by
  unfold padZeros
  rcases Nat.lt_or_eq_of_le h with h | h
  · rw [Nat.mod_eq_of_lt h, Nat.mod_eq_of_lt (by omega)]
  · rw [h, Nat.mod_self, Nat.sub_zero, Nat.mod_self, Nat.sub_self]

theorem padZeros_wrap {N L a : Nat} (h1 : N < a + 1 + L) (h2 : a + 1 + L ≤ 2 * N) :
    padZeros N L a = 2 * N - (a + 1 + L) := by
  unfold padZeros
  rw [Nat.mod_eq_sub_mod (Nat.le_of_lt h1)]
  rcases Nat.lt_or_eq_of_le h2 with h | h
  · have e1 : (a + 1 + L - N) % N = a + 1 + L - N := Nat.mod_eq_of_lt (by omega)
    rw [e1, Nat.mod_eq_of_lt (by omega)]; omega
  · have : a + 1 + L - N = N := by omega
    rw [this, Nat.mod_self, Nat.sub_zero, Nat.mod_self]; omega

theorem padZeros_mod {N L a : Nat} : padZeros N L (a % N) = padZeros N L a := by
  unfold padZeros
  have : (a % N + 1 + L) % N = (a + 1 + L) % N := by
    rw [Nat.add_assoc, Nat.add_assoc, Nat.mod_add_mod]
  rw [this]

/-- what a length writer must do: append `lenBytes` to the live bytes when they fit -/
def WritesLen (N : Nat) (wr : FixedBuffer → Option FixedBuffer) (lenBytes : Bytes) : Prop :=
  ∀ (b : FixedBuffer) (d : Bytes), Holds N b d → d.length + lenBytes.length ≤ N →
    ∃ b', wr b = some b' ∧ Holds N b' (d ++ lenBytes)

theorem next_write_WritesLen (N rem : Nat) (lenBytes : Bytes) (hlb : lenBytes.length = rem) :
    WritesLen N (fun b => b.next_write rem lenBytes) lenBytes := by
  intro b d h hfit
  exact next_write_spec h rem lenBytes hlb (by omega)

theorem next_write_twice_WritesLen (N I : Nat) (lo hi : Bytes) (hlo : lo.length = I) (hhi : hi.length = I) :
    WritesLen N (next_write_twice I lo hi) (lo ++ hi) := by
  intro b d h hfit
  simp only [List.length_append] at hfit
  obtain ⟨b1, e1, H1⟩ := next_write_spec h I lo hlo (by omega)
  obtain ⟨b2, e2, H2⟩ := next_write_spec H1 I hi hhi (by simp; omega)
  refine ⟨b2, ?_, by simpa using H2⟩
  simp [next_write_twice, e1, e2]

/-- **`standard_padding`**: `0x80` and the zeros; if the length field no longer fits (`N - idx - 1 < rem`) the block is
    filled up and compressed first.  Either way the bytes written are `data ‖ 0x80 ‖ 0^z` with `z = Spec.MD.padZeros`:
    `pre` (nothing, or one block) has been compressed, `last` is in the buffer and leaves room for exactly `rem` bytes. -/
theorem standard_padding_spec {σ : Type} {N rem : Nat} (hN : 0 < N) (hrem : rem ≤ N) (b : FixedBuffer)
    (func : σ → Bytes → Option σ) (compress : σ → Bytes → σ) (st : σ)
    (hwf : WF N b) (hf : FuncOneBlock N func compress) :
    ∃ b' pre last, b.standard_padding N rem func st = some (b', (fullBlocks N pre).foldl compress st)
      ∧ Holds N b' last ∧ last.length + rem = N ∧ (∀ x, fullBlocks N (pre ++ x) = fullBlocks N pre ++ fullBlocks N x)
      ∧ pre ++ last = b.data ++ [(0x80 : UInt8)] ++ zeros (padZeros N rem b.data.length) := by
  have hlt : b.data.length < N := data_length hwf ▸ hwf.2
  obtain ⟨b1, e1, H1⟩ := next_write_spec hwf.holds 1 [(128 : UInt8)] rfl hlt
  -- the live bytes after the `0x80`, by name: the side conditions below are then linear in their length
  obtain ⟨d1, hd1, hl1⟩ : ∃ d1, b.data ++ [(128 : UInt8)] = d1 ∧ d1.length = b.data.length + 1 := ⟨_, rfl, by simp⟩
  rw [hd1] at H1
  have hi1 := H1.idx
  by_cases hbr : N - b1.buffer_idx < rem
  · -- not enough room for the length field: an extra block
    obtain ⟨b2, e2, H2⟩ := zero_until_spec H1 N (by omega) (Nat.le_refl _)
    have hb1 : (d1 ++ zeros (N - d1.length)).length = N := by rw [List.length_append, Bytes.zeros_length]; omega
    obtain ⟨b3, e3, H3, hz3⟩ := full_buffer_spec H2 hb1
    obtain ⟨b4, e4, H4⟩ := zero_until_spec H3 (N - rem) (Nat.zero_le _) (Nat.sub_le _ _)
    refine ⟨b4, _, _, ?_, H4, by rw [List.nil_append, Bytes.zeros_length, List.length_nil]; omega,
      fun x => by rw [fullBlocks_cons hN hb1, fullBlocks_single hN hb1]; rfl, ?_⟩
    · -- the statements of `standard_padding` in order, each with the value it returns
      simp only [FixedBuffer.standard_padding, e1, Nat.not_lt.mpr H1.2.1, hbr, e2, e3, hf st _ hb1, Nat.not_lt.mpr hrem, e4,
        if_true, if_false, fullBlocks_single hN hb1, List.foldl_cons, List.foldl_nil]
    · rw [padZeros_wrap (by omega) (by omega), List.nil_append, List.append_assoc, ← Bytes.zeros_add, hl1, ← hd1]
      exact congrArg (fun k => b.data ++ [(128 : UInt8)] ++ zeros k) (by rw [List.length_nil]; omega)
  · -- the length field fits into the current block
    obtain ⟨b4, e4, H4⟩ := zero_until_spec H1 (N - rem) (by omega) (Nat.sub_le _ _)
    refine ⟨b4, [], _, ?_, H4, by rw [List.length_append, Bytes.zeros_length]; omega,
      fun x => by rw [fullBlocks_of_lt (d := []) hN]; rfl, ?_⟩
    · simp only [FixedBuffer.standard_padding, e1, Nat.not_lt.mpr H1.2.1, hbr, Nat.not_lt.mpr hrem, e4, if_false,
        fullBlocks_of_lt (d := []) hN, List.foldl_nil]
    · rw [padZeros_fit (by omega), List.nil_append, hl1, ← hd1]
      exact congrArg (fun k => b.data ++ [(128 : UInt8)] ++ zeros k) (by omega)

theorem md_finish_stages {σ : Type} {N rem : Nat} (hN : 0 < N) (hrem : rem ≤ N) (b : FixedBuffer)
    (wr : FixedBuffer → Option FixedBuffer) (lenBytes : Bytes) (hlb : lenBytes.length = rem)
    (hwr : WritesLen N wr lenBytes) (func : σ → Bytes → Option σ) (compress : σ → Bytes → σ) (st : σ)
    (hwf : WF N b) (hf : FuncOneBlock N func compress) :
    ∃ b1 s1 b2 b3 blk, b.standard_padding N rem func st = some (b1, s1) ∧ wr b1 = some b2
      ∧ b2.full_buffer N = some (b3, blk)
      ∧ func s1 blk = some ((fullBlocks N (b.data ++ [(0x80 : UInt8)] ++ zeros (padZeros N rem b.data.length)
          ++ lenBytes)).foldl compress st)
      ∧ b3.buffer.length = N ∧ b3.buffer_idx = 0 := by
  obtain ⟨b1, pre, last, e1, H1, hl, hcut, hcat⟩ := standard_padding_spec hN hrem b func compress st hwf hf
  have hfull : (last ++ lenBytes).length = N := by simp [hlb]; omega
  obtain ⟨b2, e2, H2⟩ := hwr _ _ H1 (by omega)
  obtain ⟨b3, e3, H3, hz3⟩ := full_buffer_spec H2 hfull
  refine ⟨b1, _, b2, b3, _, e1, e2, e3, ?_, H3.1, hz3⟩
  rw [hf _ _ hfull, ← hcat, List.append_assoc pre, hcut, List.foldl_append, fullBlocks_single hN hfull]
  rfl

/-- **`standard_padding` followed by the length field and the last compression**: both branches
    (`N - idx - 1 < rem` or not) produce exactly `data ‖ 0x80 ‖ 0^z ‖ length field` cut into blocks, with
    `z = Spec.MD.padZeros`; it never panics; the buffer ends empty. -/
theorem md_finish_with_spec {σ : Type} {N rem : Nat} (hN : 0 < N) (hrem : rem ≤ N) (b : FixedBuffer)
    (wr : FixedBuffer → Option FixedBuffer) (lenBytes : Bytes) (hlb : lenBytes.length = rem)
    (hwr : WritesLen N wr lenBytes)
    (func : σ → Bytes → Option σ) (compress : σ → Bytes → σ) (st : σ)
    (hwf : WF N b) (hf : FuncOneBlock N func compress) :
    ∃ b', md_finish_with N rem wr b func st
        = some (b', (fullBlocks N (b.data ++ [(0x80 : UInt8)] ++ zeros (padZeros N rem b.data.length)
                      ++ lenBytes)).foldl compress st)
      ∧ WF N b' ∧ b'.buffer_idx = 0 := by
  obtain ⟨b1, s1, b2, b3, blk, e1, e2, e3, e4, hl, h0⟩ :=
    md_finish_stages hN hrem b wr lenBytes hlb hwr func compress st hwf hf
  exact ⟨b3, by simp only [md_finish_with, e1, e2, e3, e4], ⟨hl, h0 ▸ hN⟩, h0⟩

theorem md_finish_spec {σ : Type} {N rem : Nat} (hN : 0 < N) (hrem : rem ≤ N) (b : FixedBuffer)
    (lenBytes : Bytes) (hlb : lenBytes.length = rem)
    (func : σ → Bytes → Option σ) (compress : σ → Bytes → σ) (st : σ)
    (hwf : WF N b) (hf : FuncOneBlock N func compress) :
    ∃ b', md_finish N rem lenBytes b func st
        = some (b', (fullBlocks N (b.data ++ [(0x80 : UInt8)] ++ zeros (padZeros N rem b.data.length)
                      ++ lenBytes)).foldl compress st)
      ∧ WF N b' ∧ b'.buffer_idx = 0 :=
  md_finish_with_spec hN hrem b _ lenBytes hlb (next_write_WritesLen N rem lenBytes hlb) func compress st hwf hf

/-- FIPS 180-4 §5.1: `padZeros` IS "the smallest non-negative solution" (byte granularity) -/
theorem padZeros_spec {B L len : Nat} (hB : 0 < B) :
    (len + 1 + padZeros B L len + L) % B = 0
    ∧ ∀ z, z < padZeros B L len → (len + 1 + z + L) % B ≠ 0 := by
  unfold padZeros
  have hdm := Nat.div_add_mod (len + 1 + L) B
  have hr := Nat.mod_lt (len + 1 + L) hB
  generalize (len + 1 + L) % B = r at *
  generalize (len + 1 + L) / B = q at *
  by_cases h0 : r = 0
  · subst h0
    simp only [Nat.sub_zero, Nat.mod_self, Nat.add_zero]
    refine ⟨?_, fun z hz => by omega⟩
    have : len + 1 + L = B * q := by omega
    rw [this]; exact Nat.mul_mod_right _ _
  · have hz : (B - r) % B = B - r := Nat.mod_eq_of_lt (by omega)
    rw [hz]
    constructor
    · have : len + 1 + (B - r) + L = B * (q + 1) := by rw [Nat.mul_add]; omega
      rw [this]; exact Nat.mul_mod_right _ _
    · intro z hz'
      have : len + 1 + z + L = B * q + (r + z) := by omega
      rw [this, Nat.mul_add_mod, Nat.mod_eq_of_lt (by omega)]
      omega

/-- `(processed_bytes << 3).to_be_bytes()` with `processed_bytes = x mod 2^64`: the low 64 bits of `8·x` -/
theorem lenField64 (x : Nat) : len_be64 (x % 2 ^ 64) = Cx.Spec.MD.be64 ((8 * x) % 2 ^ (8 * 8)) := by
  unfold len_be64 Cx.Spec.MD.be64
  rw [Nat.mod_mul_mod, Nat.mul_comm]

theorem lenField128 (x : Nat) : len_be128 (x % 2 ^ 128) = Cx.Spec.MD.be128 ((8 * x) % 2 ^ (8 * 16)) := by
  unfold len_be128 Cx.Spec.MD.be128
  rw [Nat.mod_mul_mod, Nat.mul_comm]

theorem len_be64_eq {len : Nat} (h : len < 2 ^ 61) : len_be64 (len % 2 ^ 64) = Cx.Spec.MD.be64 (8 * len) := by
  rw [lenField64, Nat.mod_eq_of_lt (by omega)]

theorem len_be64_length (pb : Nat) : (len_be64 pb).length = 8 := Bytes.natToBE_length _ _
theorem len_be128_length (pb : Nat) : (len_be128 pb).length = 16 := Bytes.natToBE_length _ _

/-- RIPEMD-160's two little-endian words `(pb << 3) as u32`, `(pb >> 29) as u32`, with `pb = x mod 2^64`, are the
    64-bit little-endian encoding of the low 64 bits of `8·x`, for every `x` -/
theorem len_le64_split_low (x : Nat) :
    (len_le64_split (x % 2 ^ 64)).1 ++ (len_le64_split (x % 2 ^ 64)).2 = Cx.Spec.MD.le64 (8 * x % 2 ^ 64) := by
  unfold len_le64_split Cx.Spec.MD.le64
  rw [Bytes.natToLE_add 4 4, ← Bytes.natToLE_mod 4 (8 * x % 2 ^ 64), ← Bytes.natToLE_mod 4 (8 * x % 2 ^ 64 / 256 ^ 4)]
  congr 1
  · rw [Nat.mod_mul_mod, Nat.mul_comm]
  · exact congrArg (natToLE 4) (by omega)

theorem len_le64_split_eq {len : Nat} (h : len < 2 ^ 61) :
    (len_le64_split (len % 2 ^ 64)).1 ++ (len_le64_split (len % 2 ^ 64)).2 = Cx.Spec.MD.le64 (8 * len) := by
  rw [len_le64_split_low, Nat.mod_eq_of_lt (by omega)]

/-- the padding of the tail, folded after the full blocks of the message, is the whole `Spec.MD.hash`
    (the step lemma state machines use at a finalisation) -/
theorem md_hash_split {σ : Type} {N : Nat} (hN : 0 < N) (rem : Nat) (compress : σ → Bytes → σ) (iv : σ)
    (lenEnc : Nat → Bytes) (msg : Bytes) :
    (fullBlocks N (blockTail N msg ++ [(0x80 : UInt8)] ++ zeros (padZeros N rem (blockTail N msg).length)
        ++ lenEnc (8 * msg.length))).foldl compress ((fullBlocks N msg).foldl compress iv)
      = Cx.Spec.MD.hash N rem lenEnc compress iv msg := by
  unfold Cx.Spec.MD.hash Cx.Spec.MD.pad
  rw [blockTail_length, padZeros_mod]
  rw [List.append_assoc msg, List.append_assoc msg, fullBlocks_append hN msg, List.foldl_append]
  simp [List.append_assoc]

end Cx.Proofs.FB
