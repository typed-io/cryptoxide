/-
  Proofs.Ge32Agree — byte-level programs over the group API of ge.rs (decode, operate, encode), written once per backend
  (namespaces `B32` over Impl/Ge32.lean and `B64` over Impl/Ge.lean, same text and same proofs: the ten programs are what the
  agreement theorem of Props/C17 speaks of, so they stay two texts over the two models, and a third, generic text would need an
  equation to each of them — with a case split wherever a program matches on a decoded point — which is longer than the second copy of
  the five proofs), each proved equal to ONE Spec function
  for ALL 32-byte inputs: hence the two backends agree byte for byte (Props/C17/Group32.lean `group_ops_backends_agree`).
  The proofs only compose the refinement theorems of the two developments (Proofs/Ge32*.lean, Proofs/Ge*.lean).
-/
import CxVerif.Proofs.Ed25519_32Verify
import CxVerif.Proofs.GeDecode
import CxVerif.Proofs.GeDsm
import CxVerif.Proofs.Ed25519Inst
namespace Cx.Proofs.Ge32Agree
open Cx.Spec Cx.Proofs.EdSpec Cx.Proofs.EdField
open Cx.Spec.Field25519 (p)
open Cx.Proofs.GeComb (GroupLawFact)

def binopSpec (sub : Bool) (s t : Bytes) : Option Bytes :=
  match Edwards.decode s, Edwards.decode t with
  | some P, some Q => some (Edwards.encode (if sub then Edwards.sub P Q else Edwards.add P Q))
  | _, _ => none

def unopSpec (neg : Bool) (s : Bytes) : Option Bytes :=
  match Edwards.decode s with
  | some P => some (Edwards.encode (if neg then Edwards.neg P else Edwards.double P))
  | none => none

def dsmSpec (a s b : Bytes) : Option Bytes :=
  (Edwards.decode s).map fun P => Edwards.encode (Edwards.add (Edwards.smul (leNat a) P) (Edwards.smul (leNat b) Edwards.B))

namespace B32
open Cx.Impl.Ge32 Cx.Proofs.Ge32Refine
open Cx.Proofs.Ge32Decode (from_bytes_cases)

/-- decode two points, add / subtract them the way ge.rs offers it (`to_cached`, `Add/Sub<&GeCached>`, `to_full`),
    encode the result; inner `none` = one of the strings is not a point -/
def binop (sub : Bool) (s t : Bytes) : Option (Option Bytes) :=
  (Ge.from_bytes s).bind fun g? => (Ge.from_bytes t).bind fun h? =>
    match g?, h? with
    | some g, some h =>
      h.to_cached.bind fun c => (if sub then g.sub_cached c else g.add_cached c).bind fun r =>
        r.to_full.bind fun f => f.to_bytes.bind fun b => some (some b)
    | _, _ => some none

def unop (neg : Bool) (s : Bytes) : Option (Option Bytes) :=
  (Ge.from_bytes s).bind fun g? =>
    match g? with
    | some g => (if neg then g.negate else g.double).bind fun f => f.to_bytes.bind fun b => some (some b)
    | none => some none

def recode (s : Bytes) : Option (Option Bytes) :=
  (Ge.from_bytes s).bind fun g? =>
    match g? with
    | some g => g.to_bytes.bind fun b => some (some b)
    | none => some none

/-- `Ge::scalarmult_base(&Scalar::from_bytes(a)).to_bytes()` -/
def smulBase (a : Bytes) : Option Bytes :=
  (Impl.Scalar32.fromBytes a).bind fun x => (Ge.scalarmult_base x).bind fun g => g.to_bytes

/-- `GePartial::double_scalarmult_vartime(&Scalar::from_bytes(a), Ge::from_bytes(s)?, &Scalar::from_bytes(b)).to_bytes()` -/
def dsm (a s b : Bytes) : Option (Option Bytes) :=
  (Ge.from_bytes s).bind fun g? =>
    match g? with
    | some g =>
      (Impl.Scalar32.fromBytes a).bind fun x => (Impl.Scalar32.fromBytes b).bind fun y =>
        (GePartial.double_scalarmult_vartime x g y).bind fun r => r.to_bytes.bind fun o => some (some o)
    | none => some none

section
variable [hp : Fact (Nat.Prime p)]

theorem binop_eq (sub : Bool) (s t : Bytes) (hs : s.length = 32) (ht : t.length = 32) :
    binop sub s t = some (binopSpec sub s t) := by
  unfold binop binopSpec
  rcases from_bytes_cases s hs with ⟨hd1, e1⟩ | ⟨P, g, hd1, hP, e1, gok⟩ <;>
    rcases from_bytes_cases t ht with ⟨hd2, e2⟩ | ⟨Q, h, hd2, hQ, e2, hok⟩ <;>
    rw [hd1, hd2, e1, Option.bind_some, e2, Option.bind_some]
  -- the goal that is left: both strings are points
  dsimp only
  obtain ⟨c, ec, cok⟩ := to_cached_ok h Q hok
  obtain ⟨r, er, rok⟩ : ∃ r, (if sub then g.sub_cached c else g.add_cached c) = some r ∧
      P1P1Ok r (if sub then Edwards.sub P Q else Edwards.add P Q) := by
    cases sub
    · exact add_cached_ok g c P Q gok cok hP hQ
    · exact sub_cached_ok g c P Q gok cok hP hQ
  obtain ⟨f, ef, fok⟩ := to_full_ok r _ rok
  have hlt : (if sub then Edwards.sub P Q else Edwards.add P Q).x < p ∧
      (if sub then Edwards.sub P Q else Edwards.add P Q).y < p := by
    cases sub
    · exact ⟨add_x_lt P Q, add_y_lt P Q⟩
    · exact ⟨add_x_lt P _, add_y_lt P _⟩
  rw [ec, Option.bind_some, er, Option.bind_some, ef, Option.bind_some,
    Proofs.Ge32Bytes.ge_to_bytes_ok f _ fok hlt.1 hlt.2, Option.bind_some]

theorem unop_eq (neg : Bool) (s : Bytes) (hs : s.length = 32) : unop neg s = some (unopSpec neg s) := by
  unfold unop unopSpec
  rcases from_bytes_cases s hs with ⟨hd, e⟩ | ⟨P, g, hd, hP, e, gok⟩ <;> rw [hd, e, Option.bind_some]
  dsimp only
  obtain ⟨f, ef, fok, hx, hy⟩ : ∃ f, (if neg then g.negate else g.double) = some f ∧
      GeOk f (if neg then Edwards.neg P else Edwards.double P) ∧
      (if neg then Edwards.neg P else Edwards.double P).x < p ∧ (if neg then Edwards.neg P else Edwards.double P).y < p := by
    cases neg
    · obtain ⟨r, er, rok⟩ := ge_double_p1p1_ok g P gok hP
      obtain ⟨f, ef, fok⟩ := to_full_ok r _ rok
      exact ⟨f, by simp only [Ge.double]; rw [er, some_bind]; exact ef, fok, add_x_lt P P, add_y_lt P P⟩
    · obtain ⟨f, ef, fok⟩ := negate_ok g P gok
      exact ⟨f, ef, fok, neg_lt _, Nat.mod_lt _ Cx.Proofs.Field25519.p_pos⟩
  rw [ef, Option.bind_some, Proofs.Ge32Bytes.ge_to_bytes_ok f _ fok hx hy, Option.bind_some]

theorem recode_eq (s : Bytes) (hs : s.length = 32) : recode s = some ((Edwards.decode s).map Edwards.encode) := by
  unfold recode
  rcases from_bytes_cases s hs with ⟨hd, e⟩ | ⟨P, g, hd, hP, e, gok⟩ <;> rw [hd, e, Option.bind_some]
  · rfl
  · obtain ⟨hx, hy, _⟩ := (onCurve_iff P).1 hP
    dsimp only
    rw [Proofs.Ge32Bytes.ge_to_bytes_ok g P gok hx hy, Option.bind_some]
    rfl

variable [hG : GroupLawFact]

theorem smulBase_eq (a : Bytes) (ha : a.length = 32) (hlt : leNat a < 2 ^ 255) :
    smulBase a = some (Edwards.encode (Edwards.smul (leNat a) Edwards.B)) := by
  obtain ⟨x, g, ex, _, _, eg, eb⟩ :=
    Proofs.Ed25519G.base_mul_bytes Proofs.Ge32Comb.baseTable Proofs.Ed25519_32Sign.scalarSpec a ha hlt
  unfold smulBase
  rw [scalarmult_base_eq, ge_to_bytes_eq]
  exact Option.bind_eq_some_iff.2 ⟨x, ex, Option.bind_eq_some_iff.2 ⟨g, eg, eb⟩⟩

theorem dsm_eq (a s b : Bytes) (ha : a.length = 32) (hs : s.length = 32) (hb : b.length = 32)
    (hav : leNat a < 2 ^ 255) (hbv : leNat b < 2 ^ 255) : dsm a s b = some (dsmSpec a s b) := by
  unfold dsm dsmSpec
  rcases from_bytes_cases s hs with ⟨hd, e⟩ | ⟨P, g, hd, hP, e, gok⟩ <;> rw [hd, e, Option.bind_some]
  · rfl
  obtain ⟨x, ex, _, xv⟩ := Proofs.Ed25519_32Sign.fromBytes_ok a ha
  obtain ⟨y, ey, _, yv⟩ := Proofs.Ed25519_32Sign.fromBytes_ok b hb
  obtain ⟨r, er, rok⟩ := Proofs.Ge32Dsm.dsm_ok x y g P (xv.trans_lt hav) (yv.trans_lt hbv) gok hP
  rw [show Proofs.Ge32Dsm.sval x = leNat a from xv, show Proofs.Ge32Dsm.sval y = leNat b from yv] at rok
  dsimp only
  rw [ex, Option.bind_some, ey, Option.bind_some, er, Option.bind_some,
    Proofs.Ge32Bytes.partial_to_bytes_ok r _ rok (add_x_lt _ _) (add_y_lt _ _), Option.bind_some]
  rfl

end
end B32

namespace B64
open Cx.Impl.Ge Cx.Proofs.GeRefine
open Cx.Proofs.GeDecode (from_bytes_cases)

def binop (sub : Bool) (s t : Bytes) : Option (Option Bytes) :=
  (Ge.from_bytes s).bind fun g? => (Ge.from_bytes t).bind fun h? =>
    match g?, h? with
    | some g, some h =>
      h.to_cached.bind fun c => (if sub then g.sub_cached c else g.add_cached c).bind fun r =>
        r.to_full.bind fun f => f.to_bytes.bind fun b => some (some b)
    | _, _ => some none

def unop (neg : Bool) (s : Bytes) : Option (Option Bytes) :=
  (Ge.from_bytes s).bind fun g? =>
    match g? with
    | some g => (if neg then g.negate else g.double).bind fun f => f.to_bytes.bind fun b => some (some b)
    | none => some none

def recode (s : Bytes) : Option (Option Bytes) :=
  (Ge.from_bytes s).bind fun g? =>
    match g? with
    | some g => g.to_bytes.bind fun b => some (some b)
    | none => some none

def smulBase (a : Bytes) : Option Bytes :=
  (Impl.Scalar64.fromBytes a).bind fun x => (Ge.scalarmult_base x).bind fun g => g.to_bytes

def dsm (a s b : Bytes) : Option (Option Bytes) :=
  (Ge.from_bytes s).bind fun g? =>
    match g? with
    | some g =>
      (Impl.Scalar64.fromBytes a).bind fun x => (Impl.Scalar64.fromBytes b).bind fun y =>
        (GePartial.double_scalarmult_vartime x g y).bind fun r => r.to_bytes.bind fun o => some (some o)
    | none => some none

section
variable [hp : Fact (Nat.Prime p)]

theorem binop_eq (sub : Bool) (s t : Bytes) (hs : s.length = 32) (ht : t.length = 32) :
    binop sub s t = some (binopSpec sub s t) := by
  unfold binop binopSpec
  rcases from_bytes_cases s hs with ⟨hd1, e1⟩ | ⟨P, g, hd1, hP, e1, gok⟩ <;>
    rcases from_bytes_cases t ht with ⟨hd2, e2⟩ | ⟨Q, h, hd2, hQ, e2, hok⟩ <;>
    rw [hd1, hd2, e1, Option.bind_some, e2, Option.bind_some]
  -- the goal that is left: both strings are points
  dsimp only
  obtain ⟨c, ec, cok⟩ := to_cached_ok h Q hok
  obtain ⟨r, er, rok⟩ : ∃ r, (if sub then g.sub_cached c else g.add_cached c) = some r ∧
      P1P1Ok r (if sub then Edwards.sub P Q else Edwards.add P Q) := by
    cases sub
    · exact add_cached_ok g c P Q gok cok hP hQ
    · exact sub_cached_ok g c P Q gok cok hP hQ
  obtain ⟨f, ef, fok⟩ := to_full_ok r _ rok
  have hlt : (if sub then Edwards.sub P Q else Edwards.add P Q).x < p ∧
      (if sub then Edwards.sub P Q else Edwards.add P Q).y < p := by
    cases sub
    · exact ⟨add_x_lt P Q, add_y_lt P Q⟩
    · exact ⟨add_x_lt P _, add_y_lt P _⟩
  rw [ec, Option.bind_some, er, Option.bind_some, ef, Option.bind_some,
    Proofs.GeBytes.ge_to_bytes_ok f _ fok hlt.1 hlt.2, Option.bind_some]

theorem unop_eq (neg : Bool) (s : Bytes) (hs : s.length = 32) : unop neg s = some (unopSpec neg s) := by
  unfold unop unopSpec
  rcases from_bytes_cases s hs with ⟨hd, e⟩ | ⟨P, g, hd, hP, e, gok⟩ <;> rw [hd, e, Option.bind_some]
  dsimp only
  obtain ⟨f, ef, fok, hx, hy⟩ : ∃ f, (if neg then g.negate else g.double) = some f ∧
      GeOk f (if neg then Edwards.neg P else Edwards.double P) ∧
      (if neg then Edwards.neg P else Edwards.double P).x < p ∧ (if neg then Edwards.neg P else Edwards.double P).y < p := by
    cases neg
    · obtain ⟨r, er, rok⟩ := ge_double_p1p1_ok g P gok hP
      obtain ⟨f, ef, fok⟩ := to_full_ok r _ rok
      exact ⟨f, by simp only [Ge.double]; rw [er, some_bind]; exact ef, fok, add_x_lt P P, add_y_lt P P⟩
    · obtain ⟨f, ef, fok⟩ := negate_ok g P gok
      exact ⟨f, ef, fok, neg_lt _, Nat.mod_lt _ Cx.Proofs.Field25519.p_pos⟩
  rw [ef, Option.bind_some, Proofs.GeBytes.ge_to_bytes_ok f _ fok hx hy, Option.bind_some]

theorem recode_eq (s : Bytes) (hs : s.length = 32) : recode s = some ((Edwards.decode s).map Edwards.encode) := by
  unfold recode
  rcases from_bytes_cases s hs with ⟨hd, e⟩ | ⟨P, g, hd, hP, e, gok⟩ <;> rw [hd, e, Option.bind_some]
  · rfl
  · obtain ⟨hx, hy, _⟩ := (onCurve_iff P).1 hP
    dsimp only
    rw [Proofs.GeBytes.ge_to_bytes_ok g P gok hx hy, Option.bind_some]
    rfl

variable [hG : GroupLawFact]

theorem smulBase_eq (a : Bytes) (ha : a.length = 32) (hlt : leNat a < 2 ^ 255) :
    smulBase a = some (Edwards.encode (Edwards.smul (leNat a) Edwards.B)) := by
  obtain ⟨x, g, ex, _, _, eg, eb⟩ := Proofs.Ed25519G.base_mul_bytes Proofs.GeComb.baseTable
    (Proofs.Ed25519Sign.scalarSpec Proofs.Ed25519Inst.scalarFacts) a ha hlt
  unfold smulBase
  rw [scalarmult_base_eq, ge_to_bytes_eq]
  exact Option.bind_eq_some_iff.2 ⟨x, ex, Option.bind_eq_some_iff.2 ⟨g, eg, eb⟩⟩

theorem dsm_eq (a s b : Bytes) (ha : a.length = 32) (hs : s.length = 32) (hb : b.length = 32)
    (hav : leNat a < 2 ^ 255) (hbv : leNat b < 2 ^ 255) : dsm a s b = some (dsmSpec a s b) := by
  unfold dsm dsmSpec
  rcases from_bytes_cases s hs with ⟨hd, e⟩ | ⟨P, g, hd, hP, e, gok⟩ <;> rw [hd, e, Option.bind_some]
  · rfl
  obtain ⟨x, ex, xi, xv⟩ := Proofs.Ed25519Inst.scalarFacts.fromBytes a ha
  obtain ⟨y, ey, yi, yv⟩ := Proofs.Ed25519Inst.scalarFacts.fromBytes b hb
  obtain ⟨r, er, rok⟩ := Proofs.GeDsm.dsm_ok x y g P xi yi (xv.trans_lt hav) (yv.trans_lt hbv) gok hP
  rw [xv, yv] at rok
  dsimp only
  rw [ex, Option.bind_some, ey, Option.bind_some, er, Option.bind_some,
    Proofs.GeBytes.partial_to_bytes_ok r _ rok (add_x_lt _ _) (add_y_lt _ _), Option.bind_some]
  rfl

end
end B64

end Cx.Proofs.Ge32Agree
