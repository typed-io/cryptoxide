/-
  Proofs.Ge32Bytes — `Ge::to_bytes` / `GePartial::to_bytes` of the 32-bit backend return the RFC 8032 §5.1.2 encoding of the
  represented point: the instances of `GeG.ge_to_bytes_ok`, `GeG.partial_to_bytes_ok` (Proofs/GeBytes.lean) at `spec32`.
-/
import CxVerif.Proofs.Ge32Refine
import CxVerif.Proofs.GeBytes
namespace Cx.Proofs.Ge32Bytes
open Cx.Spec Cx.Impl.Ge32 Cx.Proofs.Ge32Refine
open Cx.Spec.Field25519 (p)

variable [hp : Fact (Nat.Prime p)]

theorem ge_to_bytes_ok (g : Ge) (P : Edwards.Point) (hg : GeOk g P) (hx : P.x < p) (hy : P.y < p) :
    g.to_bytes = some (Edwards.encode P) := by
  rw [ge_to_bytes_eq]; exact GeG.ge_to_bytes_ok (S := spec32) g P (geOk_iff.1 hg) hx hy

theorem partial_to_bytes_ok (g : GePartial) (P : Edwards.Point) (hg : PartialOk g P) (hx : P.x < p) (hy : P.y < p) :
    g.to_bytes = some (Edwards.encode P) := by
  rw [partial_to_bytes_eq]; exact GeG.partial_to_bytes_ok (S := spec32) g P (partialOk_iff.1 hg) hx hy

end Cx.Proofs.Ge32Bytes
