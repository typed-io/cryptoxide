/-
  Proofs.Ge32Comb — `Ge::scalarmult_base` of the 32-bit backend: what `GeG.scalarmult_base_ok` needs of it (Proofs/GeComb.lean,
  whose comb algebra, group structure on curve points and loop refinement are backend independent; the recoding theorem is
  Proofs/GeRecode.lean).  Specific to this backend are the table (`baseTable`, from Proofs/Fe32Tables.lean) and the nibble
  contract of `scalar32::Scalar::nibbles`.
-/
import CxVerif.Proofs.Ge32Refine
import CxVerif.Proofs.GeComb
import CxVerif.Proofs.Scalar32Digits
import CxVerif.Proofs.ScalarL
namespace Cx.Proofs.Ge32Comb
open Cx.Spec
open Cx.Impl.Ge32 Cx.Proofs.Ge32Refine
open Cx.Spec.Field25519 (p)

/-- forget the record type: `Impl.Ge32.GePrecomp` and `Proofs.Fe32.Pre32` are the same three limb vectors -/
def toPre (e : GePrecomp) : Proofs.Fe32.Pre32 := ⟨e.y_plus_x, e.y_minus_x, e.xy2d⟩

theorem toPre_ofLimbs (l : List (List Int)) : toPre (GePrecomp.ofLimbs l) = Proofs.Fe32.Pre32.ofLimbs l := by
  match l with
  | [] => rfl
  | [_] => rfl
  | [_, _] => rfl
  | [_, _, _] => rfl
  | _ :: _ :: _ :: _ :: _ => rfl

theorem GE_BASE32_eq : Proofs.Fe32.GE_BASE32 = GE_BASE.map (·.map toPre) := by
  simp only [Proofs.Fe32.GE_BASE32, GE_BASE, List.map_map, Function.comp_def, toPre_ofLimbs]

theorem BI32_eq : Proofs.Fe32.BI32 = BI.map toPre := by
  simp only [Proofs.Fe32.BI32, BI, List.map_map, Function.comp_def, toPre_ofLimbs]

theorem GE_BASE_rows8 : (GE_BASE.all fun row => row.length == 8) = true := by decide +kernel

section loop
variable [hp : Fact (Nat.Prime p)]

theorem precompOk_of_table (e : GePrecomp) (Q : Edwards.Point) (hb : (toPre e).red = true)
    (hv : (toPre e).vals = Edwards.precomp Q) : PrecompOk e Q := by
  simp only [Proofs.Fe32.Pre32.red, toPre, Bool.and_eq_true] at hb
  exact precompOk_iff.2 (GeG.precompOk_of_vals (S := spec32) e Q (of_decide_eq_true hb.1.1 :) (of_decide_eq_true hb.1.2 :)
    (of_decide_eq_true hb.2 :) hv)

theorem GE_BASE_row (i : Nat) (hi : i < 32) :
    ∃ row, GE_BASE[i]? = some row ∧
      ∀ j, j < 8 → ∃ e, row[j]? = some e ∧ PrecompOk e (Edwards.smul ((j + 1) * 256 ^ i) Edwards.B) := by
  have h := fun j hj => Proofs.Fe32.GE_BASE32_entry i j hi hj
  rw [GE_BASE32_eq, List.getElem?_map] at h
  cases hrow : GE_BASE[i]? with
  | none => rw [hrow] at h; obtain ⟨_, ha, _⟩ := h 0 (by decide); cases ha
  | some row =>
    refine ⟨row, rfl, fun j hj => ?_⟩
    obtain ⟨a, ha, hr, hv⟩ := h j hj
    rw [hrow, Option.map_some, Option.bind_some, List.getElem?_map] at ha
    obtain ⟨e, he, rfl⟩ := Option.map_eq_some_iff.1 ha
    exact ⟨e, he, precompOk_of_table e _ hr hv⟩

theorem BI_entry (k : Nat) (hk : k < 8) :
    ∃ e, BI[k]? = some e ∧ PrecompOk e (Edwards.smul (2 * k + 1) Edwards.B) := by
  obtain ⟨a, ha, hr, hv⟩ := Proofs.Fe32.BI32_entry k hk
  rw [BI32_eq, List.getElem?_map] at ha
  obtain ⟨e, he, rfl⟩ := Option.map_eq_some_iff.1 ha
  exact ⟨e, he, precompOk_of_table e _ hr hv⟩

theorem baseTable : GeG.BaseTable spec32 := fun j hj =>
  (GE_BASE_row j hj).imp fun _ h => ⟨h.1, fun k hk => (h.2 k hk).imp fun _ h => ⟨h.1, precompOk_iff.1 h.2⟩⟩

omit hp in
theorem nibblesOk (s : Impl.Scalar32.Scalar) (ha : leNat s.toList < 2 ^ 255) :
    GeG.NibblesOk (Impl.Scalar32.nibbles s) (leNat s.toList) := by
  rw [Proofs.Scalar32.nibbles_spec]; unfold Spec.ScalarL.radix16
  exact ⟨by rw [List.length_map, Proofs.ScalarL.digits_length], Proofs.ScalarL.radix16_nibbles _ ha⟩

end loop

end Cx.Proofs.Ge32Comb
