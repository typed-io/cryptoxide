/-
  Proofs.Ge32Decode — `Ge::from_bytes` (point decompression) of the 32-BIT backend refines `Spec.Edwards.decode`: the instance of
  `GeG.from_bytes_cases` (Proofs/GeDecode.lean) at `spec32`.
-/
import CxVerif.Proofs.Ge32Refine
import CxVerif.Proofs.GeDecode
namespace Cx.Proofs.Ge32Decode
open Cx.Spec Cx.Impl.Ge32 Cx.Proofs.EdSpec Cx.Proofs.Ge32Refine
open Cx.Spec.Field25519 (p)

variable [hp : Fact (Nat.Prime p)]

theorem from_bytes_cases (s : Bytes) (h : s.length = 32) :
    (Edwards.decode s = none ∧ Ge.from_bytes s = some none) ∨
      ∃ P g, Edwards.decode s = some P ∧ OnCurve P ∧ Ge.from_bytes s = some (some g) ∧ GeOk g P := by
  rw [ge_from_bytes_eq]
  exact (GeG.from_bytes_cases spec32 s h).imp_right fun ⟨P, g, hd, hP, e, ok⟩ => ⟨P, g, hd, hP, e, geOk_iff.2 ok⟩

theorem from_bytes_of_decode_none (s : Bytes) (hs : s.length = 32) (hd : Edwards.decode s = none) :
    Ge.from_bytes s = some none := by
  rcases from_bytes_cases s hs with ⟨_, e⟩ | ⟨Q, g, hq, _⟩
  · exact e
  · rw [hd] at hq; cases hq

end Cx.Proofs.Ge32Decode
