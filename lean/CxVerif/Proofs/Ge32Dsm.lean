/-
  Proofs.Ge32Dsm — `GePartial::double_scalarmult_vartime(a, A, b)` of the 32-bit backend represents `[a]A + [b]B`: the instance
  of `GeG.dsm_ok` (Proofs/GeDsm.lean).  Specific to this backend: `Scalar::slide` on `scalar32::bits` (the generic loops of
  scalar/mod.rs, whose contract Proofs/Scalar64Slide.lean proves for any `[i8; 256]` of bits) and the table `BI` of
  fe32/precomp.rs.
-/
import CxVerif.Proofs.Ge32Comb
import CxVerif.Proofs.GeDsm
namespace Cx.Proofs.Ge32Dsm
open Cx.Spec Cx.Impl.Ge32 Cx.Proofs.EdSpec Cx.Proofs.Ge32Refine Cx.Proofs.Ge32Comb
open Cx.Impl.Scalar32 (Scalar)
open Cx.Proofs.Scalar64.Slide (Dig)
open Cx.Spec.ScalarL (evalDigits)
open Cx.Spec.Field25519 (p)
open Cx.Proofs.GeComb (GroupLawFact instCurveGroup cval_nsmul Bc)

def sval (s : Scalar) : Nat := leNat s.toList

theorem bitsArr_toList (s : Scalar) : (bitsArr s).toList = Impl.Scalar32.bits s := by
  unfold bitsArr; simp [Vector.toList]

theorem bitsArr_get (s : Scalar) (j : Nat) (hj : j < 256) :
    (bitsArr s)[j] = ((sval s / 2 ^ j % 2 : Nat) : Int) := by
  have h1 : (bitsArr s)[j] = (bitsArr s).toList[j]'(by simpa using hj) := by rw [Vector.getElem_toList]
  rw [h1]
  have h2 : (bitsArr s).toList[j]? = some (((sval s / 2 ^ j % 2 : Nat) : Int)) := by
    rw [bitsArr_toList, Proofs.Scalar32.bits_spec]
    unfold Spec.ScalarL.bitsLE
    rw [List.getElem?_map, List.getElem?_eq_getElem (by rw [Proofs.ScalarL.digits_length]; exact hj),
      Proofs.ScalarL.digits_getElem]
    rfl
  rw [List.getElem?_eq_getElem (by simpa using hj)] at h2
  exact Option.some.inj h2

theorem slide_spec (s : Scalar) (ha : sval s < 2 ^ 255) :
    ∃ r, slide s = some r ∧ evalDigits 2 r.toList = (sval s : Int) ∧ ∀ d ∈ r.toList, Dig d :=
  Proofs.Scalar64.Slide.slideOuter_bits (bitsArr s) (sval s) ha (bitsArr_get s)

section loop
variable [hp : Fact (Nat.Prime p)] [hG : GroupLawFact]

theorem BI_table : GeG.BITable spec32 := fun k hk => by
  obtain ⟨e, he, hok⟩ := BI_entry k hk
  refine ⟨e, he, ?_⟩
  rw [cval_nsmul]
  exact precompOk_iff.1 hok

omit hp hG in
theorem slideOk (s : Scalar) (hv : sval s < 2 ^ 255) : GeG.SlideOk sig32 s (sval s) := by
  unfold GeG.SlideOk; rw [slide_eq]; exact slide_spec s hv

theorem dsm_ok (a b : Scalar) (g : Ge) (A : Edwards.Point) (hav : sval a < 2 ^ 255)
    (hbv : sval b < 2 ^ 255) (hg : GeOk g A) (hA : OnCurve A) :
    ∃ r, GePartial.double_scalarmult_vartime a g b = some r ∧
      PartialOk r (Edwards.add (Edwards.smul (sval a) A) (Edwards.smul (sval b) Edwards.B)) := by
  rw [dsm_eq]
  exact GeG.ok_imp (fun _ => partialOk_iff.2) (GeG.dsm_ok BI_table a b (sval a) (sval b) g A
    (slideOk a hav) (slideOk b hbv) (geOk_iff.1 hg) hA)

end loop

end Cx.Proofs.Ge32Dsm
