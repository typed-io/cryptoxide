/-
  Proofs.Ge32Refine — the 32-BIT backend as an instance of the generic group layer: Impl/Ge32.lean is the text of
  Proofs/GeGeneric.lean at `sig32` (equations by unfolding), Impl/Fe32.lean meets the contract of Proofs/GeGenericRefine.lean
  (`spec32`), and the representation predicates of this backend are the generic ones at `spec32` — the counterpart of
  Proofs/GeRefine.lean for `Fe = fe32::Fe`.

  The bound discipline of the ref10 representation is the contract's in its plain form.  fe32's `Add`/`Sub`/`Neg` do not
  carry: the limb weight of the result is the sum of the operand weights (`W a f → W b g → W (a+b) (f±g)`); `Mul`, `square`,
  `square_and_double`, `invert` accept weight ≤ 3 and return weight 1; `to_bytes` and the predicates accept weight ≤ 6.  So
      `GeOk`      x y z t           all of weight 1   (outputs of `Mul`; constants; `neg` of weight 1)
      `PartialOk` x y z             weight 1
      `P1P1Ok`    x y z t           weight ≤ 3        (x3 = aa − (yy+xx), t3 = b − (yy−xx), z3 = d ± c: three terms)
      `CachedOk`  y+x, y−x          weight 2;  z, t2d weight 1
      `PrecompOk` y+x, y−x, xy2d    weight 1          (table entries, `select`)
  Both sets of predicates exist because the statements of Props/C17 are written with the ones here (structures with named
  fields over `W`), while the proofs are about the generic ones; `geOk_iff` … `precompOk_iff` pass between them.
  Needs `Nat.Prime p` wherever a division occurs (instance argument, discharged in Props/C17/Group32.lean).
-/
import CxVerif.Proofs.GeGenericRefine
import CxVerif.Proofs.Fe32Chain
import CxVerif.Proofs.Fe32Pred
import CxVerif.Proofs.Fe32Arith
import CxVerif.Proofs.Fe32Tables
import CxVerif.Proofs.Fe32FromBytes
import CxVerif.Impl.Ge32

namespace Cx.Proofs.Ge32Refine
open Cx.Spec Cx.Impl.Fe32 Cx.Impl.Ge32 Cx.Proofs.EdField Cx.Proofs.EdSpec
open Cx.Proofs.Fe32 (eval W)
open Cx.Spec.Edwards (Point)
open Cx.Spec.Field25519 (p)

noncomputable def ev (f : Fe) : Fp := ((eval f : Nat) : Fp)

def sig32 : GeG.Sig where
  Fe := Fe
  add := add
  sub := sub
  mul := mul
  neg := neg
  square := square
  square_and_double := square_and_double
  invert := invert
  pow25523 := pow25523
  negate_mut := negate_mut
  from_bytes := from_bytes
  to_bytes := to_bytes
  is_nonzero := is_nonzero
  is_negative := is_negative
  maybe_set := maybe_set
  ZERO := Fe.ZERO
  ONE := Fe.ONE
  D := Fe.D
  D2 := Fe.D2
  SQRTM1 := Fe.SQRTM1
  aff := ⟨GeAffine, .mk, (·.x), (·.y), fun _ _ => rfl, fun _ _ => rfl⟩
  ge := ⟨Ge, .mk, (·.x), (·.y), (·.z), (·.t), fun _ _ _ _ => rfl, fun _ _ _ _ => rfl, fun _ _ _ _ => rfl, fun _ _ _ _ => rfl⟩
  p1p1 := ⟨GeP1P1, .mk, (·.x), (·.y), (·.z), (·.t), fun _ _ _ _ => rfl, fun _ _ _ _ => rfl, fun _ _ _ _ => rfl,
    fun _ _ _ _ => rfl⟩
  cached := ⟨GeCached, .mk, (·.y_plus_x), (·.y_minus_x), (·.z), (·.t2d), fun _ _ _ _ => rfl, fun _ _ _ _ => rfl,
    fun _ _ _ _ => rfl, fun _ _ _ _ => rfl⟩
  part := ⟨GePartial, .mk, (·.x), (·.y), (·.z), fun _ _ _ => rfl, fun _ _ _ => rfl, fun _ _ _ => rfl⟩
  precomp := ⟨GePrecomp, .mk, (·.y_plus_x), (·.y_minus_x), (·.xy2d), fun _ _ _ => rfl, fun _ _ _ => rfl, fun _ _ _ => rfl⟩
  GE_BASE := GE_BASE
  BI := BI
  Scalar := Impl.Scalar32.Scalar
  nibbles := Impl.Scalar32.nibbles
  slide := slide

/-! the equations: by `unfold f g sig32; with_reducible rfl`, bottom-up, and for use by `rw`/`▸` only — the three habits and their one reason
    (the unifier unfolds a field operation before the signature) are in Proofs/GeRefine.lean -/

theorem to_partial_eq : GeP1P1.to_partial = GeG.P1P1.to_partial sig32 := by unfold GeP1P1.to_partial GeG.P1P1.to_partial sig32; with_reducible rfl
theorem to_full_eq : GeP1P1.to_full = GeG.P1P1.to_full sig32 := by unfold GeP1P1.to_full GeG.P1P1.to_full sig32; with_reducible rfl
theorem double_p1p1_xyz_eq : double_p1p1_xyz = GeG.double_p1p1_xyz sig32 := by unfold double_p1p1_xyz GeG.double_p1p1_xyz sig32; with_reducible rfl
theorem select_eq : GePrecomp.select = GeG.Precomp.select sig32 := by
  unfold GePrecomp.select GePrecomp.maybe_set GePrecomp.ZERO GeG.Precomp.select GeG.Precomp.maybe_set GeG.Precomp.ZERO sig32
  with_reducible rfl
theorem add_cached_eq : Ge.add_cached = GeG.Ge.add_cached sig32 := by unfold Ge.add_cached GeG.Ge.add_cached sig32; with_reducible rfl
theorem sub_cached_eq : Ge.sub_cached = GeG.Ge.sub_cached sig32 := by unfold Ge.sub_cached GeG.Ge.sub_cached sig32; with_reducible rfl
theorem add_precomp_eq : Ge.add_precomp = GeG.Ge.add_precomp sig32 := by unfold Ge.add_precomp GeG.Ge.add_precomp sig32; with_reducible rfl
theorem sub_precomp_eq : Ge.sub_precomp = GeG.Ge.sub_precomp sig32 := by unfold Ge.sub_precomp GeG.Ge.sub_precomp sig32; with_reducible rfl
theorem partial_double_p1p1_eq : GePartial.double_p1p1 = GeG.Part.double_p1p1 sig32 := by
  unfold GePartial.double_p1p1 GeG.Part.double_p1p1; rw [double_p1p1_xyz_eq]; rfl

theorem ge_double_p1p1_eq : Ge.double_p1p1 = GeG.Ge.double_p1p1 sig32 := by unfold Ge.double_p1p1 GeG.Ge.double_p1p1; rw [double_p1p1_xyz_eq]; rfl

theorem combLoop_eq : combLoop = GeG.combLoop sig32 := by
  funext es off n j h
  induction n generalizing j h with
  | zero => rfl
  | succ n ih => simp only [combLoop, GeG.combLoop, ih, select_eq, add_precomp_eq, to_full_eq]; rfl

theorem scalarmult_base_eq : Ge.scalarmult_base = GeG.Ge.scalarmult_base sig32 := by
  unfold Ge.scalarmult_base Ge.ZERO Ge.double_partial GePartial.double GePartial.double_full GeG.Ge.scalarmult_base GeG.Ge.ZERO
    GeG.Ge.double_partial GeG.Part.double GeG.Part.double_full
  rw [combLoop_eq, ge_double_p1p1_eq, partial_double_p1p1_eq, to_partial_eq, to_full_eq]; rfl

theorem negate_eq : Ge.negate = GeG.Ge.negate sig32 := by unfold Ge.negate GeG.Ge.negate sig32; with_reducible rfl
theorem to_cached_eq : Ge.to_cached = GeG.Ge.to_cached sig32 := by unfold Ge.to_cached GeG.Ge.to_cached sig32; with_reducible rfl

theorem dsmLoop_eq : dsmLoop = GeG.dsmLoop sig32 := by
  funext ai al bl n r
  induction n generalizing r with
  | zero => rfl
  | succ n ih =>
    simp only [dsmLoop, GeG.dsmLoop, ih, dsmStep, GeG.dsmStep, partial_double_p1p1_eq, to_full_eq, add_cached_eq, sub_cached_eq,
      add_precomp_eq, sub_precomp_eq, to_partial_eq]
    rfl

theorem ge_to_bytes_eq : Ge.to_bytes = GeG.Ge.to_bytes sig32 := by
  unfold Ge.to_bytes Ge.to_affine GeAffine.to_bytes GeG.Ge.to_bytes GeG.Ge.to_affine GeG.Aff.to_bytes sig32; with_reducible rfl
theorem partial_to_bytes_eq : GePartial.to_bytes = GeG.Part.to_bytes sig32 := by unfold GePartial.to_bytes GeG.Part.to_bytes sig32; with_reducible rfl

theorem aff_from_bytes_eq : GeAffine.from_bytes = GeG.Aff.from_bytes sig32 := by unfold GeAffine.from_bytes GeG.Aff.from_bytes sig32; with_reducible rfl

theorem from_affine_eq : Ge.from_affine = GeG.Ge.from_affine sig32 := by unfold Ge.from_affine GeG.Ge.from_affine sig32; with_reducible rfl

/-- the two `match`es are on values of the signature's record types: the model's matcher and the generic one are not unfolded
    into each other, so the cases are split -/
theorem ge_from_bytes_eq : Ge.from_bytes = GeG.Ge.from_bytes sig32 := by
  funext s
  unfold Ge.from_bytes GeG.Ge.from_bytes
  rw [← aff_from_bytes_eq, ← from_affine_eq]
  split
  · rename_i h; simp only [h]; rfl
  · rename_i h; simp only [h]; rfl
  · rename_i h; simp only [h]; split <;> rename_i h2 <;> simp only [h2] <;> rfl

/-- `with_reducible`: at default transparency `rfl` brings both sides to weak head normal form, i.e. runs `slide` on a symbolic scalar -/
theorem slide_eq : sig32.slide = slide := by unfold sig32; with_reducible rfl

theorem dsm_eq : GePartial.double_scalarmult_vartime = GeG.Part.double_scalarmult_vartime sig32 := by
  unfold GePartial.double_scalarmult_vartime nextOdd GePartial.ZERO GeG.Part.double_scalarmult_vartime GeG.nextOdd GeG.Part.ZERO
  rw [to_cached_eq, ge_double_p1p1_eq, to_full_eq, add_cached_eq, dsmLoop_eq, slide_eq]; rfl

/-- weights are `W`; `Add`/`Sub`/`Neg` accept any weights with sum ≤ 63 and never carry -/
def spec32 : GeG.Contract sig32 where
  R k f := W k f
  eval := eval
  cap := 63
  sq := 1
  sq_le := by decide
  mono h := W.mono (by omega)
  add_spec f g hf hg h := (Proofs.Fe32.add_specN f g hf hg (by omega)).imp fun _ h => ⟨h.1, W.mono (by omega) h.2.1, h.2.2⟩
  sub_spec f g hf hg h := (Proofs.Fe32.sub_specN f g hf hg (by omega)).imp fun _ h => ⟨h.1, W.mono (by omega) h.2.1, h.2.2⟩
  neg_spec g hg h := by
    obtain ⟨r, e, t, _, v⟩ := Proofs.Fe32.neg_spec g _ hg (by omega)
    exact ⟨r, e, W.mono (by omega) t, v⟩
  mul_spec := Proofs.Fe32.mul_spec
  square_spec := Proofs.Fe32.square_spec
  sqd_spec := Proofs.Fe32.square_and_double_spec
  maybe_set_spec f g hf hg h := Proofs.Fe32.maybe_set_spec f g (hf.i32 (by omega)) (hg.i32 (by omega))
  ZERO_spec := Proofs.Fe32.ZERO_spec
  ONE_spec := Proofs.Fe32.ONE_spec
  D2_spec := Proofs.Fe32.D2_spec
  eval_lt := Proofs.Fe32.eval_lt
  invert_spec := Proofs.Fe32.invert_spec
  pow25523_spec := Proofs.Fe32.pow25523_spec
  negate_mut_spec g hg h := (Proofs.Fe32.negate_mut_specN g hg (by omega)).imp fun _ h => ⟨h.1, W.mono (by omega) h.2.1, h.2.2⟩
  from_bytes_spec b h := (Proofs.Fe32.from_bytes_spec b h).imp fun _ h => ⟨h.1, h.2.1, h.2.2.2⟩
  to_bytes_spec := Proofs.Fe32.to_bytes_spec
  is_nonzero_spec := Proofs.Fe32.is_nonzero_spec
  is_negative_spec := Proofs.Fe32.is_negative_spec
  D_spec := Proofs.Fe32.D_spec
  SQRTM1_spec := Proofs.Fe32.SQRTM1_spec

/-- the bridges below rewrite with this instead of letting the unifier unfold `eval` against a projection of `spec32` -/
theorem ev_eq : spec32.ev = ev := by unfold GeG.Contract.ev spec32 ev; rfl

theorem ev_D : ev Fe.D = dF := by unfold ev dF; rw [Proofs.Fe32.D_spec.2]; rfl

section prime
variable [hp : Fact (Nat.Prime p)]

structure GeOk (g : Ge) (P : Point) : Prop where
  tx : W 1 g.x
  ty : W 1 g.y
  tz : W 1 g.z
  tt : W 1 g.t
  rep : EdAlg.RepExt (ev g.x) (ev g.y) (ev g.z) (ev g.t) (P.x : Fp) (P.y : Fp)

structure PartialOk (g : GePartial) (P : Point) : Prop where
  tx : W 1 g.x
  ty : W 1 g.y
  tz : W 1 g.z
  rep : EdAlg.RepProj (ev g.x) (ev g.y) (ev g.z) (P.x : Fp) (P.y : Fp)

structure P1P1Ok (g : GeP1P1) (P : Point) : Prop where
  tx : W 3 g.x
  ty : W 3 g.y
  tz : W 3 g.z
  tt : W 3 g.t
  rep : EdAlg.RepP1P1 (ev g.x) (ev g.y) (ev g.z) (ev g.t) (P.x : Fp) (P.y : Fp)

structure CachedOk (c : GeCached) (P : Point) : Prop where
  tp : W 2 c.y_plus_x
  tm : W 2 c.y_minus_x
  tz : W 1 c.z
  tt : W 1 c.t2d
  rep : EdAlg.RepCached dF (ev c.y_plus_x) (ev c.y_minus_x) (ev c.z) (ev c.t2d) (P.x : Fp) (P.y : Fp)

structure PrecompOk (c : GePrecomp) (P : Point) : Prop where
  tp : W 1 c.y_plus_x
  tm : W 1 c.y_minus_x
  tt : W 1 c.xy2d
  rep : EdAlg.RepPrecomp dF (ev c.y_plus_x) (ev c.y_minus_x) (ev c.xy2d) (P.x : Fp) (P.y : Fp)

/-! they are the generic predicates at `spec32` (`min 2 63`, `min 3 63` evaluate) -/

theorem geOk_iff {g : Ge} {P : Point} : GeOk g P ↔ GeG.GeOk spec32 g P :=
  ⟨fun ⟨a, b, c, d, r⟩ => ⟨a, b, c, d, ev_eq ▸ r⟩, fun ⟨a, b, c, d, r⟩ => ⟨a, b, c, d, ev_eq ▸ r⟩⟩
theorem partialOk_iff {g : GePartial} {P : Point} : PartialOk g P ↔ GeG.PartialOk spec32 g P :=
  ⟨fun ⟨a, b, c, r⟩ => ⟨a, b, c, ev_eq ▸ r⟩, fun ⟨a, b, c, r⟩ => ⟨a, b, c, ev_eq ▸ r⟩⟩
theorem p1p1Ok_iff {g : GeP1P1} {P : Point} : P1P1Ok g P ↔ GeG.P1P1Ok spec32 g P :=
  ⟨fun ⟨a, b, c, d, r⟩ => ⟨a, b, c, d, ev_eq ▸ r⟩, fun ⟨a, b, c, d, r⟩ => ⟨a, b, c, d, ev_eq ▸ r⟩⟩
theorem cachedOk_iff {g : GeCached} {P : Point} : CachedOk g P ↔ GeG.CachedOk spec32 g P :=
  ⟨fun ⟨a, b, c, d, r⟩ => ⟨a, b, c, d, ev_eq ▸ r⟩, fun ⟨a, b, c, d, r⟩ => ⟨a, b, c, d, ev_eq ▸ r⟩⟩
theorem precompOk_iff {g : GePrecomp} {P : Point} : PrecompOk g P ↔ GeG.PrecompOk spec32 g P :=
  ⟨fun ⟨a, b, c, r⟩ => ⟨a, b, c, ev_eq ▸ r⟩, fun ⟨a, b, c, r⟩ => ⟨a, b, c, ev_eq ▸ r⟩⟩

theorem to_full_ok (r : GeP1P1) (P : Point) (h : P1P1Ok r P) : ∃ g, r.to_full = some g ∧ GeOk g P :=
  to_full_eq ▸ GeG.ok_imp (fun _ => geOk_iff.2) (GeG.to_full_ok (S := spec32) r P (p1p1Ok_iff.1 h))

theorem to_cached_ok (g : Ge) (P : Point) (h : GeOk g P) : ∃ c, g.to_cached = some c ∧ CachedOk c P :=
  to_cached_eq ▸ GeG.ok_imp (fun _ => cachedOk_iff.2) (GeG.to_cached_ok (S := spec32) g P (geOk_iff.1 h))

theorem add_cached_ok (g : Ge) (c : GeCached) (P Q : Point) (hg : GeOk g P) (hc : CachedOk c Q)
    (hP : OnCurve P) (hQ : OnCurve Q) :
    ∃ r, g.add_cached c = some r ∧ P1P1Ok r (Edwards.add P Q) :=
  add_cached_eq ▸ GeG.ok_imp (fun _ => p1p1Ok_iff.2) (GeG.add_cached_ok (S := spec32) g c P Q (geOk_iff.1 hg) (cachedOk_iff.1 hc) hP hQ)

theorem sub_cached_ok (g : Ge) (c : GeCached) (P Q : Point) (hg : GeOk g P) (hc : CachedOk c Q)
    (hP : OnCurve P) (hQ : OnCurve Q) :
    ∃ r, g.sub_cached c = some r ∧ P1P1Ok r (Edwards.sub P Q) :=
  sub_cached_eq ▸ GeG.ok_imp (fun _ => p1p1Ok_iff.2) (GeG.sub_cached_ok (S := spec32) g c P Q (geOk_iff.1 hg) (cachedOk_iff.1 hc) hP hQ)

theorem ge_double_p1p1_ok (g : Ge) (P : Point) (hg : GeOk g P) (hP : OnCurve P) :
    ∃ r, g.double_p1p1 = some r ∧ P1P1Ok r (Edwards.double P) :=
  ge_double_p1p1_eq ▸ GeG.ok_imp (fun _ => p1p1Ok_iff.2) (GeG.ge_double_p1p1_ok (S := spec32) g P (geOk_iff.1 hg) hP)

theorem negate_ok (g : Ge) (P : Point) (hg : GeOk g P) : ∃ r, g.negate = some r ∧ GeOk r (Edwards.neg P) :=
  negate_eq ▸ GeG.ok_imp (fun _ => geOk_iff.2) (GeG.negate_ok (S := spec32) g P (geOk_iff.1 hg))

theorem ZERO_ok : GeOk Ge.ZERO Edwards.zero := geOk_iff.2 GeG.ZERO_ok

end prime

end Cx.Proofs.Ge32Refine
