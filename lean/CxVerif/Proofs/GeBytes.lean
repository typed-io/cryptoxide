/-
  Proofs.GeBytes — `Ge::to_bytes` / `GePartial::to_bytes` return the RFC 8032 §5.1.2 encoding of the represented
  point (one inversion, canonical y, sign bit of x in bit 255), for any backend (`GeG.ge_to_bytes_ok`, `GeG.partial_to_bytes_ok`,
  over the contract of Proofs/GeGenericRefine.lean).  At the end the 64-bit instance.
-/
import CxVerif.Proofs.GeRefine
namespace Cx.Proofs.GeBytes
open Cx.Impl.Ge

theorem modify_append_len {α} (l : List α) (n : Nat) (hn : l.length = n) (x : α) (f : α → α) :
    (l ++ [x]).modify n f = l ++ [f x] := by
  subst hn
  induction l with
  | nil => rfl
  | cons a l ih => simp only [List.cons_append, List.length_cons, List.modify_succ_cons, ih]

theorem xor_top_bit : ∀ w : Fin 128, UInt8.ofNat w.val ^^^ ((1 : UInt8) <<< 7) = UInt8.ofNat (w.val + 128) := by
  decide

theorem setSign_natToLE (v : Nat) (hv : v < 2 ^ 255) (b : Bool) :
    setSign (natToLE 32 v) b = natToLE 32 (v + 2 ^ 255 * (if b then 1 else 0)) := by
  have split : ∀ u : Nat, natToLE 32 u = natToLE 31 u ++ [UInt8.ofNat (u / 256 ^ 31 % 256)] := by
    intro u
    rw [show (32 : Nat) = 31 + 1 from rfl, Proofs.Bytes.natToLE_add 31 1 u]
    rfl
  unfold setSign
  rw [split v]
  have hl : (natToLE 31 v).length = 31 := Proofs.Bytes.natToLE_length 31 v
  rw [modify_append_len _ 31 hl, split (v + 2 ^ 255 * (if b then 1 else 0))]
  have hw : v / 256 ^ 31 < 128 := by
    rw [Nat.div_lt_iff_lt_mul (by decide)]
    exact Nat.lt_of_lt_of_le hv (by decide)
  congr 1
  · rw [← Proofs.Bytes.natToLE_mod 31 (v + _), ← Proofs.Bytes.natToLE_mod 31 v]
    congr 1
    cases b
    · simp
    · simp only [if_true, Nat.mul_one]
      rw [show (2 : Nat) ^ 255 = 128 * 256 ^ 31 by decide, Nat.add_mul_mod_self_right]
  · congr 1
    cases b
    · simp only [Bool.false_eq_true, if_false, Nat.mul_zero, Nat.add_zero]
      rw [show ((0 : UInt8) <<< 7) = 0 by decide, UInt8.xor_zero]
    · simp only [if_true, Nat.mul_one]
      rw [Nat.mod_eq_of_lt (by omega)]
      have := xor_top_bit ⟨v / 256 ^ 31, hw⟩
      simp only at this
      rw [this]
      congr 1
      rw [show (2 : Nat) ^ 255 = 128 * 256 ^ 31 by decide, Nat.add_mul_div_right _ _ (by decide)]
      omega

end Cx.Proofs.GeBytes

namespace Cx.Proofs.GeG
open Cx.Spec Cx.Proofs.EdField Cx.Proofs.EdSpec
open Cx.Spec.Field25519 (p)
open Cx.Impl.Ge (setSign)
open Cx.Proofs.GeBytes (setSign_natToLE)

variable {O : Sig} {S : Contract O}

section prime
variable [hp : Fact (Nat.Prime p)]

/-- the shared core of `Ge::to_bytes` (through `to_affine`) and `GePartial::to_bytes` -/
theorem affine_core (x y z : O.Fe) (P : Edwards.Point) (tx : S.R 1 x) (ty : S.R 1 y) (tz : S.R 1 z)
    (rep : EdAlg.RepProj (S.ev x) (S.ev y) (S.ev z) (P.x : Fp) (P.y : Fp)) (hx : P.x < p) (hy : P.y < p) :
    ∃ recip x' y', O.invert z = some recip ∧ O.mul x recip = some x' ∧ O.mul y recip = some y' ∧
      S.R 1 x' ∧ S.R 1 y' ∧ S.eval x' = P.x ∧ S.eval y' = P.y := by
  obtain ⟨hz, hX, hY⟩ := rep
  obtain ⟨recip, e1, tr, vr⟩ := S.invert_ok z (w3 tz)
  obtain ⟨x', e2, tx', vx⟩ := S.mul_ok x recip (w3 tx) (w3 tr)
  obtain ⟨y', e3, ty', vy⟩ := S.mul_ok y recip (w3 ty) (w3 tr)
  refine ⟨recip, x', y', e1, e2, e3, tx', ty', ?_, ?_⟩
  · rw [← cast_inj (S.eval_lt x') hx]
    show S.ev x' = _
    rw [vx, vr, hX]; field_simp
  · rw [← cast_inj (S.eval_lt y') hy]
    show S.ev y' = _
    rw [vy, vr, hY]; field_simp

omit hp in
theorem encode_tail (x' y' : O.Fe) (P : Edwards.Point) (tx' : S.R 1 x') (ty' : S.R 1 y')
    (vx : S.eval x' = P.x) (vy : S.eval y' = P.y) :
    (do let bs ← O.to_bytes y'; let n ← O.is_negative x'; pure (setSign bs n)) = some (Edwards.encode P) := by
  rw [S.to_bytes_spec y' (w6 ty'), some_bind, S.is_negative_spec x' (w6 tx'), some_bind, pure_eq_some, vx, vy]
  unfold Field25519.encode Field25519.isNegative Edwards.encode
  rw [setSign_natToLE _ (Nat.lt_of_lt_of_le (Nat.mod_lt _ Proofs.Field25519.p_pos) (by decide)), edp]
  congr 3
  rcases Nat.mod_two_eq_zero_or_one (P.x % p) with h | h <;> simp [h]

theorem ge_to_bytes_ok (g : O.ge.T) (P : Edwards.Point) (hg : GeOk S g P) (hx : P.x < p) (hy : P.y < p) :
    Ge.to_bytes O g = some (Edwards.encode P) := by
  obtain ⟨recip, x', y', e1, e2, e3, tx', ty', vx, vy⟩ :=
    affine_core _ _ _ P hg.1 hg.2.1 hg.2.2.1 hg.2.2.2.2.toProj hx hy
  simp only [Ge.to_bytes, Ge.to_affine, Aff.to_bytes]
  rw [e1, some_bind, e2, some_bind, e3, some_bind, pure_eq_some, some_bind, O.aff.p1_mk, O.aff.p2_mk]
  exact encode_tail x' y' P tx' ty' vx vy

theorem partial_to_bytes_ok (g : O.part.T) (P : Edwards.Point) (hg : PartialOk S g P) (hx : P.x < p) (hy : P.y < p) :
    Part.to_bytes O g = some (Edwards.encode P) := by
  obtain ⟨recip, x', y', e1, e2, e3, tx', ty', vx, vy⟩ :=
    affine_core _ _ _ P hg.1 hg.2.1 hg.2.2.1 hg.2.2.2 hx hy
  simp only [Part.to_bytes]
  rw [e1, some_bind, e2, some_bind, e3, some_bind]
  exact encode_tail x' y' P tx' ty' vx vy

end prime

end Cx.Proofs.GeG

namespace Cx.Proofs.GeBytes
open Cx.Spec Cx.Impl.Ge Cx.Proofs.GeRefine
open Cx.Spec.Field25519 (p)

variable [hp : Fact (Nat.Prime p)]

theorem ge_to_bytes_ok (g : Ge) (P : Edwards.Point) (hg : GeOk g P) (hx : P.x < p) (hy : P.y < p) :
    g.to_bytes = some (Edwards.encode P) := by
  rw [ge_to_bytes_eq]; exact GeG.ge_to_bytes_ok (S := spec64) g P (geOk_iff.1 hg) hx hy

theorem partial_to_bytes_ok (g : GePartial) (P : Edwards.Point) (hg : PartialOk g P) (hx : P.x < p) (hy : P.y < p) :
    g.to_bytes = some (Edwards.encode P) := by
  rw [partial_to_bytes_eq]; exact GeG.partial_to_bytes_ok (S := spec64) g P (partialOk_iff.1 hg) hx hy

end Cx.Proofs.GeBytes
