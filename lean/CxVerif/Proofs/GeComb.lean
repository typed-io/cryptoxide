/-
  Proofs.GeComb — `Ge::scalarmult_base`: the signed radix-16 comb over the GE_BASE table computes `[a]B`.
  Part 1 is pure ℤ-module algebra in an arbitrary commutative group.  Part 2 is the loop refinement (select → add_precomp →
  to_full), for any backend (`GeG.combLoop_ok`, `GeG.scalarmult_base_ok`, over the contract of Proofs/GeGenericRefine.lean and
  the contract of the backend's table: row `j` represents `[(k+1)·256^j]B`); it needs the group-law hypothesis
  `EdwardsGroupLaw` (closure and associativity of the affine addition) to rearrange the sum: it enters as the class
  `GroupLawFact`.  Part 3 is what the 64-bit backend gives to it: the table of fe64/precomp.rs (Proofs/GeTables.lean) and the nibble
  contract `NibblesOf`.
-/
import CxVerif.Proofs.GeSelect
import CxVerif.Proofs.GeRefine
import CxVerif.Proofs.GeTables
import CxVerif.Proofs.GeRecode
import Mathlib.Tactic.Module
namespace Cx.Proofs.GeComb
open Cx.Spec
open Cx.Spec.ScalarL (evalDigits)

section algebra
variable {A : Type} [AddCommGroup A] (P : A)

def selA (j : Nat) (e : Int) : A := e • ((256 ^ j : Nat) • P)

/-- the sum accumulated by one pass of the comb: every second digit (`off = 0`: even, else odd positions) -/
def partSum (off : Nat) : Nat → List Int → Nat → A
  | 0, _, _ => 0
  | n + 1, e0 :: e1 :: rest, j => selA P j (if off = 0 then e0 else e1) + partSum off n rest (j + 1)
  | _ + 1, _, _ => 0

theorem comb_algebra (n : Nat) : ∀ (l : List Int) (j : Nat), 2 * n ≤ l.length →
    (16 : Nat) • partSum P 1 n l j + partSum P 0 n l j = (evalDigits 16 (l.take (2 * n)) * 256 ^ j) • P := by
  induction n with
  | zero => intro l j _; simp [partSum, evalDigits]
  | succ n ih =>
    intro l j hl
    match l, hl with
    | e0 :: e1 :: rest, hl =>
      have hr : 2 * n ≤ rest.length := by simp at hl; omega
      have h := ih rest (j + 1) hr
      have ht : (e0 :: e1 :: rest).take (2 * (n + 1)) = e0 :: e1 :: rest.take (2 * n) := by
        rw [show 2 * (n + 1) = 2 * n + 1 + 1 by omega]; rfl
      rw [ht]
      simp only [partSum, evalDigits, selA, if_true, if_false, one_ne_zero]
      have h' : partSum P 0 n rest (j + 1) = (evalDigits 16 (rest.take (2 * n)) * 256 ^ (j + 1)) • P
          - (16 : Nat) • partSum P 1 n rest (j + 1) := by rw [← h]; abel
      rw [h']
      push_cast
      module

end algebra

open Cx.Proofs.EdSpec Cx.Proofs.GeSelect
open Cx.Spec.Field25519 (p)

/-- the group-law hypothesis as a class, so that the group structure on curve points is found by instance search -/
class GroupLawFact : Prop where
  out : EdwardsGroupLaw

noncomputable instance instCurveGroup [Fact (Nat.Prime p)] [h : GroupLawFact] : AddCommGroup CurvePoint :=
  curveGroup h.out

section loop
variable [hp : Fact (Nat.Prime p)] [hG : GroupLawFact]

theorem cval_add (P Q : CurvePoint) : (P + Q).1 = Edwards.add P.1 Q.1 := rfl
theorem cval_zero : (0 : CurvePoint).1 = Edwards.zero := rfl
theorem cval_neg (P : CurvePoint) : (-P).1 = Edwards.neg P.1 := rfl
theorem cval_sub (P Q : CurvePoint) : Edwards.sub P.1 Q.1 = (P - Q).1 := by
  rw [sub_eq_add_neg, cval_add, cval_neg]; rfl
theorem cval_nsmul (n : Nat) (P : CurvePoint) : (n • P).1 = Edwards.smul n P.1 :=
  (smul_eq_nsmul hG.out n P).symm

def Bc : CurvePoint := ⟨Edwards.B, Proofs.Ge.B_spec.1⟩

theorem selPoint_eq (j : Nat) (e : Int) :
    (if e < 0 then Edwards.neg (pointOf (fun k => Edwards.smul ((k + 1) * 256 ^ j) Edwards.B) e.natAbs)
      else pointOf (fun k => Edwards.smul ((k + 1) * 256 ^ j) Edwards.B) e.natAbs) = (selA Bc j e).1 := by
  have key : ∀ m : Nat, pointOf (fun k => Edwards.smul ((k + 1) * 256 ^ j) Edwards.B) m
      = ((m : Int) • ((256 ^ j : Nat) • Bc) : CurvePoint).1 := by
    intro m
    unfold pointOf
    by_cases hm : m = 0
    · subst hm; simp only [if_true, Nat.cast_zero, zero_smul]; rfl
    · simp only [hm, if_false]
      rw [show m - 1 + 1 = m by omega, natCast_zsmul, ← mul_nsmul', cval_nsmul]; rfl
  unfold selA
  by_cases hneg : e < 0
  · simp only [hneg, if_true, key]
    rw [← cval_neg, ← neg_smul]
    congr 2; omega
  · simp only [hneg, if_false, key]
    congr 2; omega

theorem double_eq (P : CurvePoint) : Edwards.double P.1 = (P + P).1 := rfl

end loop

end Cx.Proofs.GeComb

namespace Cx.Proofs.GeG
open Cx.Spec Cx.Proofs.EdSpec
open Cx.Spec.ScalarL (evalDigits)
open Cx.Spec.Field25519 (p)
open Cx.Proofs.GeComb

variable {O : Sig} {S : Contract O} [hp : Fact (Nat.Prime p)] [hG : GroupLawFact]

def BaseTable (S : Contract O) : Prop :=
  ∀ j, j < 32 → ∃ row, O.GE_BASE[j]? = some row ∧
    ∀ k, k < 8 → ∃ e, row[k]? = some e ∧ PrecompOk S e (Edwards.smul ((k + 1) * 256 ^ j) Edwards.B)

omit hG in
/-- the hypotheses are what a backend's kernel-checked table facts say, in the contract's terms -/
theorem precompOk_of_vals (e : O.precomp.T) (Q : Edwards.Point) (t1 : S.R 1 (O.precomp.p1 e)) (t2 : S.R 1 (O.precomp.p2 e))
    (t3 : S.R 1 (O.precomp.p3 e))
    (hv : (S.eval (O.precomp.p1 e), S.eval (O.precomp.p2 e), S.eval (O.precomp.p3 e)) = Edwards.precomp Q) : PrecompOk S e Q := by
  simp only [Edwards.precomp, Prod.mk.injEq] at hv
  obtain ⟨v1, v2, v3⟩ := hv
  refine ⟨t1, t2, t3, ?_, ?_, ?_⟩
  · unfold Contract.ev; rw [v1, EdField.cast_add]
  · unfold Contract.ev; rw [v2, EdField.cast_sub]
  · unfold Contract.ev; rw [v3, EdField.cast_mul, EdField.cast_mul]
    unfold Field25519.edwardsD2 dF Edwards.d; rw [EdField.cast_mul, Nat.cast_ofNat]; ring

theorem combLoop_ok (hT : BaseTable S) (es : List Int) (hes : ∀ e ∈ es, -8 ≤ e ∧ e ≤ 8) (off : Nat) (hoff : off = 0 ∨ off = 1) :
    ∀ (n j : Nat) (h : O.ge.T) (H : CurvePoint), j + n ≤ 32 → 2 * (j + n) ≤ es.length → GeOk S h H.1 →
      ∃ h', combLoop O es off n j h = some h' ∧ GeOk S h' (H + partSum Bc off n (es.drop (2 * j)) j).1 := by
  intro n
  induction n with
  | zero => intro j h H _ _ hh; exact ⟨h, rfl, by simpa [partSum] using hh⟩
  | succ n ih =>
    intro j h H hj hlen hh
    have l0 : 2 * j < es.length := by omega
    have l1 : 2 * j + 1 < es.length := by omega
    -- the digit of row j this pass uses
    obtain ⟨e, hget, he⟩ : ∃ e, es[j * 2 + off]? = some e ∧ e = if off = 0 then es[2 * j] else es[2 * j + 1] := by
      rcases hoff with rfl | rfl
      · exact ⟨_, List.getElem?_eq_getElem (by omega), by simp only [Nat.mul_comm j 2, Nat.add_zero, if_true]⟩
      · exact ⟨_, List.getElem?_eq_getElem (by omega), by simp only [Nat.mul_comm j 2, one_ne_zero, if_false]⟩
    obtain ⟨row, hrow, hents⟩ := hT j (by omega)
    obtain ⟨t, ht, htok⟩ := select_ok j e (hes e (List.mem_of_getElem? hget)) row hrow _ hents
    rw [selPoint_eq] at htok
    obtain ⟨r, hr, hrok⟩ := add_precomp_ok h t H.1 (selA Bc j e).1 hh htok H.2 (selA Bc j e).2
    obtain ⟨h1, hh1, hh1ok⟩ := to_full_ok r _ hrok
    rw [← cval_add] at hh1ok
    obtain ⟨h', hh', hok'⟩ := ih (j + 1) h1 (H + selA Bc j e) (by omega) (by omega) hh1ok
    refine ⟨h', ?_, ?_⟩
    · rw [combLoop]
      exact bind_some_of hget (bind_some_of ht (bind_some_of hr (bind_some_of hh1 hh')))
    · rw [List.drop_eq_getElem_cons l0, List.drop_eq_getElem_cons l1, partSum, ← he, ← add_assoc]
      exact hok'

/-- the contract of `Scalar::nibbles` used by the comb -/
def NibblesOk (ns : List Int) (a : Nat) : Prop :=
  ns.length = 64 ∧ (∀ e ∈ ns, 0 ≤ e ∧ e ≤ 15) ∧ (∀ t, ns[63]? = some t → t ≤ 7) ∧ evalDigits 16 ns = a

theorem scalarmult_base_ok (hT : BaseTable S) (s : O.Scalar) (a : Nat) (hn : NibblesOk (O.nibbles s) a) :
    ∃ h, Ge.scalarmult_base O s = some h ∧ GeOk S h (Edwards.smul a Edwards.B) := by
  obtain ⟨hl, hr, htop, hval⟩ := hn
  obtain ⟨es, hes, hlen, hrange, hev⟩ := Proofs.GeRecode.recode_spec (O.nibbles s) hl hr htop
  simp only [Ge.scalarmult_base]
  refine bind_some hes ?_
  refine bind_ok (combLoop_ok hT es hrange 1 (Or.inr rfl) 32 0 (Ge.ZERO O) 0 (by omega) (by omega) ZERO_ok) fun h1 ok1 => ?_
  simp only [Nat.mul_zero, List.drop_zero, zero_add] at ok1
  generalize hS1 : partSum Bc 1 32 es 0 = S1 at ok1
  -- four doublings
  refine bind_ok (ge_double_partial_ok h1 _ ok1 S1.2) fun q2 ok2 => ?_
  rw [double_eq] at ok2
  refine bind_ok (partial_double_ok q2 _ ok2 (S1 + S1).2) fun q4 ok4 => ?_
  rw [double_eq] at ok4
  refine bind_ok (partial_double_ok q4 _ ok4 (S1 + S1 + (S1 + S1)).2) fun q8 ok8 => ?_
  rw [double_eq] at ok8
  refine bind_ok (partial_double_full_ok q8 _ ok8 (S1 + S1 + (S1 + S1) + (S1 + S1 + (S1 + S1))).2) fun g16 okg16 => ?_
  rw [double_eq] at okg16
  obtain ⟨h2, e, ok2⟩ := combLoop_ok hT es hrange 0 (Or.inl rfl) 32 0 g16 _ (by omega) (by omega) okg16
  refine ⟨h2, e, ?_⟩
  simp only [Nat.mul_zero, List.drop_zero] at ok2
  have halg := comb_algebra Bc 32 es 0 (by omega)
  rw [hS1] at halg
  have htake : es.take (2 * 32) = es := List.take_of_length_le (by omega)
  rw [htake, hev, hval, pow_zero, mul_one, natCast_zsmul] at halg
  have : S1 + S1 + (S1 + S1) + (S1 + S1 + (S1 + S1)) + (S1 + S1 + (S1 + S1) + (S1 + S1 + (S1 + S1)))
      + partSum Bc 0 32 es 0 = a • Bc := by
    rw [← halg]; module
  rw [this, cval_nsmul] at ok2
  exact ok2

end Cx.Proofs.GeG

namespace Cx.Proofs.GeComb
open Cx.Spec Cx.Impl.Ge Cx.Proofs.GeRefine
open Cx.Spec.ScalarL (evalDigits)
open Cx.Spec.Field25519 (p)

section loop
variable [hp : Fact (Nat.Prime p)]

theorem precompOk_of_table (e : GePrecomp) (Q : Edwards.Point) (hb : Proofs.Ge.precompBnd e = true)
    (hv : Proofs.Ge.precompVals e = Edwards.precomp Q) : GeG.PrecompOk spec64 e Q := by
  simp only [Proofs.Ge.precompBnd, Proofs.Ge.fbnd, Bool.and_eq_true, decide_eq_true_eq] at hb
  obtain ⟨⟨ha, hb'⟩, hc⟩ := hb
  exact GeG.precompOk_of_vals (S := spec64) e Q (Proofs.Fe64.bnd51_tight ⟨ha.1.1.1.1, ha.1.1.1.2, ha.1.1.2, ha.1.2, ha.2⟩)
    (Proofs.Fe64.bnd51_tight ⟨hb'.1.1.1.1, hb'.1.1.1.2, hb'.1.1.2, hb'.1.2, hb'.2⟩)
    (Proofs.Fe64.bnd51_tight ⟨hc.1.1.1.1, hc.1.1.1.2, hc.1.1.2, hc.1.2, hc.2⟩) hv

theorem baseTable : GeG.BaseTable spec64 := fun j hj => by
  obtain ⟨row, _, hrow, _, _, _⟩ := Proofs.Ge.GE_BASE_entry j 0 hj (by decide)
  refine ⟨row, hrow, fun k hk => ?_⟩
  obtain ⟨row', e, hrow', he, hb, hv⟩ := Proofs.Ge.GE_BASE_entry j k hj hk
  rw [hrow] at hrow'
  cases hrow'
  exact ⟨e, he, precompOk_of_table e _ hb hv⟩

/-- the `nibbles` clause of the interface `ScalarFacts` (Proofs/Ed25519Sign.lean), on the model's `Scalar` (the scalar unit owns its proof):
    the 64 nibbles of `s` are in [0,15], the top one is ≤ 7, and they denote `a` in radix 16 — i.e. `a < 2^255` is the value of `s`.
    `GeG.NibblesOk` above is the same on a list, with the length; `Ed25519Sign.scalarSpec` passes from this one to that -/
def NibblesOf (s : Impl.Scalar64.Scalar) (a : Nat) : Prop :=
  (∀ e ∈ (Impl.Scalar64.nibbles s).toList, 0 ≤ e ∧ e ≤ 15) ∧
  (∀ t, (Impl.Scalar64.nibbles s).toList[63]? = some t → t ≤ 7) ∧
  evalDigits 16 (Impl.Scalar64.nibbles s).toList = a

end loop

end Cx.Proofs.GeComb
