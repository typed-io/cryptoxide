/-
  Proofs.GeDecode — `Ge::from_bytes` (point decompression, ge.rs) refines `Spec.Edwards.decode`
  (RFC 8032 §5.1.3 as implemented: y reduced mod p, x = 0 tolerated with either sign bit), for any backend
  (`GeG.from_bytes_cases`, over the contract of Proofs/GeGenericRefine.lean):
  the chain  y = Fe::from_bytes(s), u = y²−1, v = d·y²+1, x = u·v³·(u·v⁷)^((p−5)/8), the two `is_nonzero`
  tests on v·x² ∓ u, the multiplication by SQRTM1, the sign fix-up and `from_affine` never panic, reject exactly
  the strings the Spec rejects and otherwise return a weight-1 extended representation of the decoded point.
  The first part is about the Spec only: `recoverX_chain` (what the fifteen operations compute, as `Nat` values, is
  `Spec.Edwards.recoverX`) and the soundness of the Spec decoder (`recoverX_sound`, `decode_onCurve`: what it accepts lies
  on the curve), which is where the refinement takes "a curve point" from.  At the end the 64-bit instance; the interface
  `DecodeFact` of Proofs/Ed25519Verify.lean is closed from it in Proofs/Ed25519Inst.lean.
-/
import CxVerif.Proofs.GeRefine
namespace Cx.Proofs.GeDecode
open Cx.Spec Cx.Proofs.EdField Cx.Proofs.EdSpec
open Cx.Spec.Field25519 (p)

theorem shr7_ne_zero (x : UInt8) : ((x >>> 7) != 0) = (x.toNat / 128 % 2 == 1) := by
  have hx := x.toNat_lt
  have h1 : (x >>> 7).toNat = x.toNat / 128 := by
    rw [UInt8.toNat_shiftRight]
    show x.toNat >>> 7 = _
    rw [Nat.shiftRight_eq_div_pow]
  by_cases h : x.toNat / 128 = 0
  · have : x >>> 7 = 0 := by
      apply UInt8.toNat_inj.1; rw [h1, h]; rfl
    rw [this, h]; rfl
  · have hne : x >>> 7 ≠ 0 := by
      intro e; apply h; rw [← h1, e]; rfl
    have h2 : x.toNat / 128 = 1 := by omega
    rw [h2]
    simpa using hne

theorem signbit_eq (s : Bytes) (h : s.length = 32) :
    (((s[31]'(by omega)) >>> 7) != 0) = (leNat s / 2 ^ 255 % 2 == 1) := by
  rw [shr7_ne_zero, Bits.leNat_bit s 255 (by omega)]

theorem mul_rearr (a b c : Nat) :
    Field25519.mul (Field25519.mul a b) c = Field25519.mul (Field25519.mul c b) a := by
  rw [← cast_inj (mul_lt _ _) (mul_lt _ _)]
  simp only [cast_mul]; ring

theorem isNonzero_of {c : Nat} {q : Prop} [Decidable q] (hc : c < p) (key : c = 0 ↔ q) :
    Field25519.isNonzero c = !decide q := by
  unfold Field25519.isNonzero
  have e : decide q = decide (c = 0) := decide_eq_decide.2 key.symm
  rw [Nat.mod_eq_of_lt hc, e]
  by_cases h : c = 0 <;> simp [h]

theorem isNonzero_sub (a b : Nat) (ha : a < p) :
    Field25519.isNonzero (Field25519.sub a b) = !decide (a = b % p) :=
  isNonzero_of (sub_lt _ _) (by
    rw [← cast_eq_zero (sub_lt _ _), cast_sub, sub_eq_zero, ← cast_mod b, cast_inj ha (Nat.mod_lt _ Field25519.p_pos)])

theorem isNonzero_add (a b : Nat) (ha : a < p) :
    Field25519.isNonzero (Field25519.add a b) = !decide (a = Field25519.neg b) :=
  isNonzero_of (add_lt _ _) (by
    rw [← cast_eq_zero (add_lt _ _), cast_add, ← cast_inj ha (neg_lt _), cast_neg, add_eq_zero_iff_eq_neg])

/-- `Spec.Edwards.recoverX`, verbatim.  (Stated as an equation of FUNCTIONS so that the kernel checks it by unfolding the
    left-hand side once; in an applied form it would weak-head-normalise the `match` on the square-root test, i.e. try to
    evaluate a symbolic `a^((p−5)/8)`.  For the same reason everything below manipulates `recoverX` by rewriting with
    equations only, never by `unfold`/`show`.  The right-hand side is the compiled body letter for letter — `have` binders,
    and the definition's own matcher by name, since a `match` here would make a second matcher and `rfl` would have to
    unfold both — so that the two sides are syntactically equal; Lean's linter `auxLemma` warns at the matcher's name, as expected.) -/
theorem recoverX_fun : Edwards.recoverX = fun (y : Nat) (sign : Bool) =>
  (have y2 := Field25519.mul y y
  have u := Field25519.sub y2 1
  have v := Field25519.add (Field25519.mul Edwards.d y2) 1
  have v3 := Field25519.mul (Field25519.mul v v) v
  have v7 := Field25519.mul (Field25519.mul v3 v3) v
  have x := Field25519.mul (Field25519.mul u v3) (Field25519.pow25523 (Field25519.mul u v7))
  have vxx := Field25519.mul v (Field25519.mul x x)
  have root : Option Nat :=
    if vxx = u % Edwards.p then some x
    else if vxx = Field25519.neg u then some (Field25519.mul x Field25519.sqrtM1)
    else none
  Edwards.recoverX.match_1 (fun _ => Option Nat) root (fun _ => none)
    fun x => if (x % 2 == 1) != sign then some (Field25519.neg x) else some x) := by
  delta Edwards.recoverX
  with_reducible rfl

def fixS (sign : Bool) (x : Nat) : Option Nat :=
  if (x % 2 == 1) != sign then some (Field25519.neg x) else some x

theorem fixS_pos (sign : Bool) (x : Nat) (h : ((x % 2 == 1) != sign) = true) :
    fixS sign x = some (Field25519.neg x) := by unfold fixS; rw [if_pos h]
theorem fixS_neg (sign : Bool) (x : Nat) (h : ¬ ((x % 2 == 1) != sign) = true) :
    fixS sign x = some x := by unfold fixS; rw [if_neg h]

theorem recoverX_eq (y : Nat) (sign : Bool) (u v x vxx : Nat)
    (hu : u = Field25519.sub (Field25519.mul y y) 1) (hv : v = Field25519.add (Field25519.mul Edwards.d (Field25519.mul y y)) 1)
    (hx : x = Field25519.mul (Field25519.mul u (Field25519.mul (Field25519.mul v v) v))
      (Field25519.pow25523 (Field25519.mul u (Field25519.mul
        (Field25519.mul (Field25519.mul (Field25519.mul v v) v) (Field25519.mul (Field25519.mul v v) v)) v))))
    (hvxx : vxx = Field25519.mul v (Field25519.mul x x)) :
    Edwards.recoverX y sign =
      if vxx = u % p then fixS sign x
      else if vxx = Field25519.neg u then fixS sign (Field25519.mul x Field25519.sqrtM1) else none := by
  rw [recoverX_fun]
  simp only []
  rw [← hu, ← hv, ← hx, ← hvxx]
  by_cases h1 : vxx = u % p
  · have h1' : vxx = u % Edwards.p := h1
    rw [if_pos h1, if_pos h1']
    rfl
  · have h1' : ¬ vxx = u % Edwards.p := h1
    rw [if_neg h1, if_neg h1']
    by_cases h2 : vxx = Field25519.neg u
    · rw [if_pos h2, if_pos h2]; rfl
    · rw [if_neg h2, if_neg h2]

theorem decode_eq (s : Bytes) (h : s.length = 32) :
    Edwards.decode s = (Edwards.recoverX (Field25519.decode s) (leNat s / 2 ^ 255 % 2 == 1)).map
      fun x => ⟨x, Field25519.decode s⟩ := by
  unfold Edwards.decode
  rw [if_pos h]
  rfl

theorem decode_length (s : Bytes) (P : Edwards.Point) (h : Edwards.decode s = some P) : s.length = 32 := by
  by_contra hl
  unfold Edwards.decode at h
  rw [if_neg hl] at h; cases h

theorem recoverX_chain (sign : Bool) (y y2 u yd v vsq v3 v3v3 v7 uv7 pw pv x xx vxx : Nat)
    (v2 : y2 = Field25519.sq y) (vu : u = Field25519.sub y2 1) (vyd : yd = Field25519.mul y2 Edwards.d)
    (vv : v = Field25519.add yd 1) (vvsq : vsq = Field25519.sq v) (vv3 : v3 = Field25519.mul vsq v)
    (vv3v3 : v3v3 = Field25519.sq v3) (vv7 : v7 = Field25519.mul v3v3 v) (vuv7 : uv7 = Field25519.mul v7 u)
    (vpw : pw = Field25519.pow25523 uv7) (vpv : pv = Field25519.mul pw v3) (vx : x = Field25519.mul pv u)
    (vxx' : xx = Field25519.sq x) (vvxx : vxx = Field25519.mul xx v) :
    Edwards.recoverX y sign =
      if vxx = u % p then fixS sign x
      else if vxx = Field25519.neg u then fixS sign (Field25519.mul x Field25519.sqrtM1) else none := by
  have hy2 : y2 = Field25519.mul y y := v2
  have hu : u = Field25519.sub (Field25519.mul y y) 1 := by rw [vu, hy2]
  have hv : v = Field25519.add (Field25519.mul Edwards.d (Field25519.mul y y)) 1 := by rw [vv, vyd, hy2, Field25519.fmul_comm]
  have hv3 : v3 = Field25519.mul (Field25519.mul v v) v := by rw [vv3, vvsq]; rfl
  have hv7 : v7 = Field25519.mul (Field25519.mul v3 v3) v := by rw [vv7, vv3v3]; rfl
  have hx : x = Field25519.mul (Field25519.mul u v3) (Field25519.pow25523 (Field25519.mul u v7)) := by
    rw [vx, vpv, vpw, vuv7, mul_rearr, Field25519.fmul_comm v7]
  have hvxx : vxx = Field25519.mul v (Field25519.mul x x) := by rw [vvxx, vxx', Field25519.fmul_comm]; rfl
  rw [hv7, hv3] at hx
  exact recoverX_eq y sign u v x vxx hu hv hx hvxx

theorem fixS_cases (sign : Bool) (r x : Nat) (h : fixS sign r = some x) : x = r ∨ x = Field25519.neg r := by
  unfold fixS at h
  split at h <;> cases h
  · exact Or.inr rfl
  · exact Or.inl rfl

variable [hp : Fact (Nat.Prime p)]

/-- A root `r` of `v·r² = u` is a reduced abscissa for `y` on the curve, and so is `−r`; the second candidate `x·√−1` is a root when
    `v·x² = −u`. -/
theorem recoverX_sound (y : Nat) (sign : Bool) (x : Nat) (h : Edwards.recoverX y sign = some x) :
    x < p ∧ EdAlg.OnCurve dF (x : Fp) (y : Fp) := by
  obtain ⟨u, hu⟩ : ∃ u, u = Field25519.sub (Field25519.mul y y) 1 := ⟨_, rfl⟩
  obtain ⟨v, hv⟩ : ∃ v, v = Field25519.add (Field25519.mul Edwards.d (Field25519.mul y y)) 1 := ⟨_, rfl⟩
  obtain ⟨x0, hx0⟩ : ∃ x0, x0 = Field25519.mul (Field25519.mul u (Field25519.mul (Field25519.mul v v) v))
      (Field25519.pow25523 (Field25519.mul u (Field25519.mul (Field25519.mul (Field25519.mul (Field25519.mul v v) v)
        (Field25519.mul (Field25519.mul v v) v)) v))) := ⟨_, rfl⟩
  obtain ⟨vxx, hvxx⟩ : ∃ vxx, vxx = Field25519.mul v (Field25519.mul x0 x0) := ⟨_, rfl⟩
  rw [recoverX_eq y sign u v x0 vxx hu hv hx0 hvxx] at h
  have cu : (u : Fp) = (y : Fp) * (y : Fp) - 1 := by rw [hu, cast_sub, cast_mul, Nat.cast_one]
  have cv : (v : Fp) = dF * ((y : Fp) * (y : Fp)) + 1 := by
    rw [hv, cast_add, cast_mul, cast_mul, Nat.cast_one]; rfl
  have cvxx : (vxx : Fp) = (v : Fp) * ((x0 : Fp) * (x0 : Fp)) := by rw [hvxx, cast_mul, cast_mul]
  have key : ∀ r : Nat, r < p → (v : Fp) * ((r : Fp) * (r : Fp)) = (u : Fp) → fixS sign r = some x →
      x < p ∧ EdAlg.OnCurve dF (x : Fp) (y : Fp) := fun r hr hr2 hf => by
    have hc : EdAlg.OnCurve dF (r : Fp) (y : Fp) := by
      unfold EdAlg.OnCurve; rw [cu, cv] at hr2; linear_combination -hr2
    rcases fixS_cases sign r x hf with rfl | rfl
    · exact ⟨hr, hc⟩
    · refine ⟨neg_lt _, ?_⟩
      rw [cast_neg]; unfold EdAlg.OnCurve at *; linear_combination hc
  split at h
  · next e1 => exact key x0 (hx0 ▸ mul_lt _ _) (by rw [← cvxx, e1, cast_mod]) h
  · split at h
    · next e2 =>
      refine key _ (mul_lt _ _) ?_ h
      have h2 := congrArg (fun n : Nat => (n : Fp)) e2
      simp only [cast_neg, cvxx] at h2
      rw [cast_mul]
      linear_combination (-1 : Fp) * h2 + ((v : Fp) * ((x0 : Fp) * (x0 : Fp))) * sqrtM1_sq
    · cases h

theorem decode_onCurve (s : Bytes) (P : Edwards.Point) (h : Edwards.decode s = some P) : OnCurve P := by
  rw [decode_eq s (decode_length s P h)] at h
  obtain ⟨x, hx, rfl⟩ := Option.map_eq_some_iff.1 h
  obtain ⟨hlt, hc⟩ := recoverX_sound _ _ _ hx
  exact (onCurve_iff _).2 ⟨hlt, Nat.mod_lt _ Field25519.p_pos, hc⟩

end Cx.Proofs.GeDecode

namespace Cx.Proofs.GeG
open Cx.Spec Cx.Proofs.EdField Cx.Proofs.EdSpec Cx.Proofs.GeDecode
open Cx.Spec.Field25519 (p)

variable {O : Sig} {S : Contract O}

/-- the sign fix-up at the end of `GeAffine::from_bytes` -/
def finishSign (O : Sig) (y : O.Fe) (signbit : Bool) (x : O.Fe) : Option (Option O.aff.T) := do
  let n ← O.is_negative x
  let x ← if n != signbit then O.negate_mut x else pure x
  pure (some (O.aff.make x y))

/-- the body of `GeAffine::from_bytes` after `y = Fe::from_bytes(s)` and with the sign bit read -/
def decompress (O : Sig) (y : O.Fe) (signbit : Bool) : Option (Option O.aff.T) := do
  let y2 ← O.square y
  let u ← O.sub y2 O.ONE
  let yd ← O.mul y2 O.D
  let v ← O.add yd O.ONE
  let vv ← O.square v
  let v3 ← O.mul vv v
  let v3v3 ← O.square v3
  let v7 ← O.mul v3v3 v
  let uv7 ← O.mul v7 u
  let pw ← O.pow25523 uv7
  let pv ← O.mul pw v3
  let x ← O.mul pv u
  let xx ← O.square x
  let vxx ← O.mul xx v
  let check ← O.sub vxx u
  if (← O.is_nonzero check) then
    let check2 ← O.add vxx u
    if (← O.is_nonzero check2) then pure none
    else
      let x ← O.mul x O.SQRTM1
      finishSign O y signbit x
  else finishSign O y signbit x

theorem from_bytes_eq (s : Bytes) (h : s.length = 32) :
    Aff.from_bytes O s = (O.from_bytes s h).bind fun y => decompress O y (leNat s / 2 ^ 255 % 2 == 1) := by
  rw [← signbit_eq s h]
  simp only [Aff.from_bytes, dif_pos h]
  rfl

/-- what `decompress` has to deliver for the Spec result `r`: the same refusal, or a weight-1 limb form of the same abscissa -/
def DecodeOut (S : Contract O) (yfe : O.Fe) (r : Option Nat) (o : Option O.aff.T) : Prop :=
  match r with
  | none => o = none
  | some x => ∃ xfe, o = some (O.aff.make xfe yfe) ∧ S.R 1 xfe ∧ S.eval xfe = x

theorem finish_ok (x0 yfe : O.Fe) (tx : S.R 1 x0) (sign : Bool) :
    ∃ o, finishSign O yfe sign x0 = some o ∧ DecodeOut S yfe (fixS sign (S.eval x0)) o := by
  unfold finishSign
  rw [S.is_negative_spec x0 (w6 tx), some_bind]
  unfold Field25519.isNegative
  rw [Nat.mod_eq_of_lt (S.eval_lt x0)]
  by_cases hs : ((S.eval x0 % 2 == 1) != sign) = true
  · rw [if_pos hs, fixS_pos _ _ hs]
    refine bind_ok (S.negate_mut_spec x0 tx (by decide)) fun x' ⟨tx', vx'⟩ => ?_
    exact ⟨_, rfl, x', rfl, cw tx', vx'⟩
  · rw [if_neg hs, fixS_neg _ _ hs]
    exact ⟨_, rfl, x0, rfl, tx, rfl⟩

/-- weights (uncapped): u = y² − 1 and v = d·y² + 1 have 2; the two tested values v·x² ∓ u have 3 -/
theorem decompress_ok (yfe : O.Fe) (ty : S.R 1 yfe) (sign : Bool) :
    ∃ o, decompress O yfe sign = some o ∧ DecodeOut S yfe (Edwards.recoverX (S.eval yfe) sign) o := by
  simp only [decompress]
  refine bind_ok (S.square_spec _ (w3 ty)) fun y2 ⟨t2, v2⟩ => ?_
  refine bind_ok (S.sub_spec y2 O.ONE t2 S.ONE_spec.1 (by decide)) fun u ⟨tu, vu⟩ => ?_
  refine bind_ok (S.mul_spec y2 O.D (w3 t2) (w3 S.D_spec.1)) fun yd ⟨tyd, vyd⟩ => ?_
  refine bind_ok (S.add_spec yd O.ONE tyd S.ONE_spec.1 (by decide)) fun v ⟨tv, vv⟩ => ?_
  refine bind_ok (S.square_spec v (cw tv)) fun vsq ⟨tvsq, vvsq⟩ => ?_
  refine bind_ok (S.mul_spec vsq v (w3 tvsq) (cw tv)) fun v3 ⟨tv3, vv3⟩ => ?_
  refine bind_ok (S.square_spec v3 (w3 tv3)) fun v3v3 ⟨tv3v3, vv3v3⟩ => ?_
  refine bind_ok (S.mul_spec v3v3 v (w3 tv3v3) (cw tv)) fun v7 ⟨tv7, vv7⟩ => ?_
  refine bind_ok (S.mul_spec v7 u (w3 tv7) (cw tu)) fun uv7 ⟨tuv7, vuv7⟩ => ?_
  refine bind_ok (S.pow25523_spec uv7 (w3 tuv7)) fun pw ⟨tpw, vpw⟩ => ?_
  refine bind_ok (S.mul_spec pw v3 (w3 tpw) (w3 tv3)) fun pv ⟨tpv, vpv⟩ => ?_
  refine bind_ok (S.mul_spec pv u (w3 tpv) (cw tu)) fun x ⟨tx, vx⟩ => ?_
  refine bind_ok (S.square_spec x (w3 tx)) fun xx ⟨txx, vxx'⟩ => ?_
  refine bind_ok (S.mul_spec xx v (w3 txx) (cw tv)) fun vxx ⟨tvxx, vvxx⟩ => ?_
  refine bind_ok (S.sub_spec vxx u tvxx (cw tu (b := 2)) (by decide)) fun check ⟨tcheck, vcheck⟩ => ?_
  rw [S.is_nonzero_spec check (cw tcheck), some_bind, vcheck, isNonzero_sub _ _ (S.eval_lt vxx)]
  have hrec := recoverX_chain sign (S.eval yfe) (S.eval y2) (S.eval u) (S.eval yd) (S.eval v) (S.eval vsq)
    (S.eval v3) (S.eval v3v3) (S.eval v7) (S.eval uv7) (S.eval pw) (S.eval pv) (S.eval x) (S.eval xx) (S.eval vxx) v2
    (by rw [vu, S.ONE_spec.2]) (by rw [vyd, S.D_spec.2]; rfl) (by rw [vv, S.ONE_spec.2]) vvsq vv3 vv3v3 vv7
    vuv7 vpw vpv vx vxx' vvxx
  rw [hrec]
  by_cases h1 : S.eval vxx = S.eval u % p
  · rw [if_pos h1, decide_eq_true h1, if_neg (by decide)]
    exact finish_ok x yfe tx sign
  · rw [if_neg h1, decide_eq_false h1, if_pos (by decide)]
    refine bind_ok (S.add_spec vxx u tvxx (cw tu (b := 2)) (by decide)) fun check2 ⟨tcheck2, vcheck2⟩ => ?_
    rw [S.is_nonzero_spec check2 (cw tcheck2), some_bind, vcheck2, isNonzero_add _ _ (S.eval_lt vxx)]
    by_cases h2 : S.eval vxx = Field25519.neg (S.eval u)
    · rw [if_pos h2, decide_eq_true h2, if_neg (by decide)]
      refine bind_ok (S.mul_spec x O.SQRTM1 (w3 tx) (w3 S.SQRTM1_spec.1)) fun x1 ⟨tx1, vx1⟩ => ?_
      rw [S.SQRTM1_spec.2] at vx1
      rw [← vx1]
      exact finish_ok x1 yfe tx1 sign
    · rw [if_neg h2, decide_eq_false h2, if_pos (by decide)]
      exact ⟨none, rfl, rfl⟩

variable [hp : Fact (Nat.Prime p)]

-- the proof elaborates without the option; the linter `constructorNameAsVariable` overflows on its info tree
set_option maxRecDepth 10000 in
/-- A disjunction and no `match`: a `match` on `Edwards.decode s` here would be the matcher that the statements of the protocol layer,
    which comes after this file, then reuse. -/
theorem from_bytes_cases (S : Contract O) (s : Bytes) (h : s.length = 32) :
    (Edwards.decode s = none ∧ Ge.from_bytes O s = some none) ∨
      ∃ P g, Edwards.decode s = some P ∧ OnCurve P ∧ Ge.from_bytes O s = some (some g) ∧ GeOk S g P := by
  obtain ⟨yfe, ey, ty, vy⟩ := S.from_bytes_spec s h
  obtain ⟨o, ho, hout⟩ := decompress_ok (S := S) yfe ty (leNat s / 2 ^ 255 % 2 == 1)
  have hfb : Aff.from_bytes O s = some o := by
    rw [from_bytes_eq s h, ey, Option.bind_some, ho]
  rw [decode_eq s h]
  cases hr : Edwards.recoverX (Field25519.decode s) (leNat s / 2 ^ 255 % 2 == 1) with
  | none =>
    rw [vy, hr] at hout
    exact .inl ⟨rfl, by rw [Ge.from_bytes, hfb, show o = none from hout]⟩
  | some x =>
    rw [vy, hr] at hout
    obtain ⟨xfe, rfl, tx, vx⟩ := hout
    obtain ⟨hx, hcv⟩ := recoverX_sound _ _ _ hr
    obtain ⟨t, et, tt, vt⟩ := S.mul_ok xfe yfe (w3 tx) (w3 ty)
    refine .inr ⟨_, _, rfl, (onCurve_iff _).2 ⟨hx, ?_, hcv⟩, ?_, GeOk.mk tx ty S.ONE_spec.1 tt ?_⟩
    · rw [← vy]; exact S.eval_lt _
    · rw [Ge.from_bytes, hfb]
      simp only [Ge.from_affine, O.aff.p1_mk, O.aff.p2_mk]
      rw [et, some_bind]
      rfl
    · show EdAlg.RepExt (S.ev xfe) (S.ev yfe) (S.ev O.ONE) (S.ev t) ((x : Nat) : Fp) ((Field25519.decode s : Nat) : Fp)
      rw [vt, S.ev_ONE, ← vx, ← vy]
      exact EdAlg.from_affine _ _

end Cx.Proofs.GeG

namespace Cx.Proofs.GeDecode
open Cx.Spec Cx.Impl.Ge Cx.Proofs.EdSpec Cx.Proofs.GeRefine
open Cx.Spec.Field25519 (p)

theorem from_bytes_cases [hp : Fact (Nat.Prime p)] (s : Bytes) (h : s.length = 32) :
    (Edwards.decode s = none ∧ Ge.from_bytes s = some none) ∨
      ∃ P g, Edwards.decode s = some P ∧ OnCurve P ∧ Ge.from_bytes s = some (some g) ∧ GeOk g P := by
  rw [ge_from_bytes_eq]
  exact (GeG.from_bytes_cases spec64 s h).imp_right fun ⟨P, g, hd, hP, e, ok⟩ => ⟨P, g, hd, hP, e, geOk_iff.2 ok⟩

end Cx.Proofs.GeDecode
