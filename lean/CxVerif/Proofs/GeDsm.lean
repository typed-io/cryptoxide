/-
  Proofs.GeDsm — `GePartial::double_scalarmult_vartime(a, A, b)` (ge.rs) represents `[a]A + [b]B`, for any backend (`GeG.dsm_ok`,
  over the contract of Proofs/GeGenericRefine.lean, the contract of the backend's table `BI[k] = [2k+1]B` and the contract of
  `Scalar::slide`: Σ r_i·2^i = a, every non-zero digit odd, |r_i| ≤ 15; proved for the shared loops in
  Proofs/Scalar64Slide.lean).  The table `ai[k] = [2k+1]A` is built by `A2 = 2A, ai[k+1] = A2 + ai[k]`, and the loop from the top
  non-zero index down to 0 doubles and adds/subtracts the selected odd multiples.  Loop invariant: after the iterations for
  indices `n-1 … 0` started from an accumulator representing `R`, the accumulator represents
  `2^n·R + Σ_{j<n} 2^j·(a_j·A + b_j·B)`.
  Needs `Nat.Prime p` and the group-law hypothesis (to rearrange multiples) — exactly like `scalarmult_base_ok`.
  At the end the 64-bit instance (from which Proofs/Ed25519Inst.lean discharges the interface `DsmFact` of the `verify` theorem).
-/
import CxVerif.Proofs.GeComb
import CxVerif.Proofs.Scalar64Slide
import CxVerif.Proofs.Digits
namespace Cx.Proofs.GeDsm
open Cx.Impl.Ge
open Cx.Impl.Scalar64 (ckI8)
open Cx.Proofs.Scalar64.Slide (Dig)

theorem dig_pos (d : Int) (hd : Dig d) (h : d > 0) :
    ∃ k : Nat, k < 8 ∧ (Int.tdiv d 2).toNat = k ∧ d = ((2 * k + 1 : Nat) : Int) := by
  rcases hd with h0 | ⟨h1, h2, h3⟩
  · omega
  · refine ⟨(d / 2).toNat, by omega, ?_, by omega⟩
    rw [Int.tdiv_eq_ediv_of_nonneg (by omega)]

theorem dig_neg (d : Int) (hd : Dig d) (h : d < 0) :
    ∃ k : Nat, k < 8 ∧ ckI8 (-d) = some (-d) ∧ (Int.tdiv (-d) 2).toNat = k ∧ d = -((2 * k + 1 : Nat) : Int) := by
  obtain ⟨k, hk, hidx, hdk⟩ := dig_pos (-d) (by unfold Dig at hd ⊢; omega) (by omega)
  exact ⟨k, hk, Proofs.Scalar64.Slide.ckI8_some _ (by omega) (by omega), hidx, by omega⟩

/-- what the first loop computes, as the number `m` of indices the second loop has to visit: `m` = top non-zero index + 1, or 0 when
    there is none; every digit from `m` on is zero -/
theorem topIndex_cut (al bl : List Int) : ∀ n, ∃ m, m ≤ n ∧ (∀ j, m ≤ j → j < n → al[j]? = some 0 ∧ bl[j]? = some 0) ∧
    (topIndex al bl n = none ∧ m = 0 ∨ ∃ i, topIndex al bl n = some i ∧ m = i + 1) := by
  intro n
  induction n with
  | zero => exact ⟨0, le_rfl, fun j _ hj => by omega, .inl ⟨rfl, rfl⟩⟩
  | succ n ih =>
    simp only [topIndex]
    by_cases hc : (al[n]? != some 0 || bl[n]? != some 0) = true
    · rw [if_pos hc]
      exact ⟨n + 1, le_rfl, fun j h1 h2 => by omega, .inr ⟨n, rfl, rfl⟩⟩
    · rw [if_neg hc]
      obtain ⟨m, hm, hz, ht⟩ := ih
      refine ⟨m, by omega, fun j h1 h2 => ?_, ht⟩
      by_cases hjn : j = n
      · subst hjn
        simp only [Bool.or_eq_true, bne_iff_ne, ne_eq, not_or, not_not] at hc
        exact hc
      · exact hz j h1 (by omega)

end Cx.Proofs.GeDsm

namespace Cx.Proofs.GeG
open Cx.Spec Cx.Proofs.EdSpec Cx.Proofs.GeComb Cx.Proofs.GeDsm
open Cx.Impl.Scalar64 (ckI8)
open Cx.Proofs.Scalar64.Slide (Dig)
open Cx.Spec.ScalarL (evalDigits)
open Cx.Spec.Field25519 (p)

variable {O : Sig} {S : Contract O} [hp : Fact (Nat.Prime p)] [hG : GroupLawFact]

def TableA (S : Contract O) (ai : List O.cached.T) (Ac : CurvePoint) : Prop :=
  ∀ k, k < 8 → ∃ c, ai[k]? = some c ∧ CachedOk S c (((2 * k + 1 : Nat) • Ac)).1

def BITable (S : Contract O) : Prop :=
  ∀ k, k < 8 → ∃ c, O.BI[k]? = some c ∧ PrecompOk S c (((2 * k + 1 : Nat) • Bc)).1

/-- one half of a loop pass, for either scalar: a window digit `d` adds `[d]X` from a table of the odd multiples of `X` (`ai` with
    the cached formulas for `A`, `BI` with the precomputed ones for `B`).  `K` is the rest of the pass, which the model's `do`
    block carries inside each of the three branches -/
theorem half_ok {C β : Type} (tbl : List C) (Ok : C → Edwards.Point → Prop) (addc subc : O.ge.T → C → Option O.p1p1.T)
    (X : CurvePoint) (hT : ∀ k, k < 8 → ∃ c, tbl[k]? = some c ∧ Ok c (((2 * k + 1 : Nat) • X)).1)
    (hadd : ∀ f c P Q, GeOk S f P → Ok c Q → OnCurve P → OnCurve Q → ∃ r, addc f c = some r ∧ P1P1Ok S r (Edwards.add P Q))
    (hsub : ∀ f c P Q, GeOk S f P → Ok c Q → OnCurve P → OnCurve Q → ∃ r, subc f c = some r ∧ P1P1Ok S r (Edwards.sub P Q))
    (t : O.p1p1.T) (R : CurvePoint) (ht : P1P1Ok S t R.1) (d : Int) (hd : Dig d) (K : O.p1p1.T → Option β) (Qf : β → Prop)
    (hK : ∀ t', P1P1Ok S t' (R + d • X).1 → ∃ r, K t' = some r ∧ Qf r) :
    ∃ r, (if d > 0 then do
          let c ← tbl[(Int.tdiv d 2).toNat]?
          let t' ← addc (← P1P1.to_full O t) c
          K t'
        else if d < 0 then do
          let nd ← ckI8 (-d)
          let c ← tbl[(Int.tdiv nd 2).toNat]?
          let t' ← subc (← P1P1.to_full O t) c
          K t'
        else do
          let t' ← pure t
          K t') = some r ∧ Qf r := by
  obtain ⟨f, ef, fok⟩ := to_full_ok t _ ht
  by_cases h1 : d > 0
  · obtain ⟨k, hk, hidx, hdk⟩ := dig_pos d hd h1
    obtain ⟨c, hc, cok⟩ := hT k hk
    obtain ⟨t', et', ok'⟩ := hadd f c _ _ fok cok R.2 (((2 * k + 1 : Nat) • X)).2
    rw [← cval_add, ← natCast_zsmul, ← hdk] at ok'
    rw [if_pos h1, hidx, hc, some_bind, ef, some_bind, et', some_bind]
    exact hK t' ok'
  · rw [if_neg h1]
    by_cases h2 : d < 0
    · obtain ⟨k, hk, hck, hidx, hdk⟩ := dig_neg d hd h2
      obtain ⟨c, hc, cok⟩ := hT k hk
      obtain ⟨t', et', ok'⟩ := hsub f c _ _ fok cok R.2 (((2 * k + 1 : Nat) • X)).2
      rw [cval_sub, sub_eq_add_neg, ← natCast_zsmul, ← neg_smul, ← hdk] at ok'
      rw [if_pos h2, hck, some_bind, hidx, hc, some_bind, ef, some_bind, et', some_bind]
      exact hK t' ok'
    · have h0 : d = 0 := by omega
      rw [if_neg h2, pure_eq_some, some_bind]
      refine hK t ?_
      rw [h0, zero_smul, add_zero]
      exact ht

theorem dsmStep_ok (hBI : BITable S) (ai : List O.cached.T) (Ac : CurvePoint) (hT : TableA S ai Ac) (al bl : List Int) (i : Nat)
    (da db : Int) (ha : al[i]? = some da) (hb : bl[i]? = some db) (hda : Dig da) (hdb : Dig db)
    (r : O.part.T) (R : CurvePoint) (hr : PartialOk S r R.1) :
    ∃ r', dsmStep O ai al bl r i = some r' ∧ PartialOk S r' (R + R + da • Ac + db • Bc).1 := by
  obtain ⟨t, et, tok⟩ := partial_double_p1p1_ok r _ hr R.2
  rw [double_eq] at tok
  rw [dsmStep, et, some_bind, ha, some_bind]
  dsimp only
  refine half_ok ai (CachedOk S) _ _ Ac hT add_cached_ok sub_cached_ok t _ tok da hda _ _ fun t1 ok1 => ?_
  rw [hb, some_bind]
  refine half_ok O.BI (PrecompOk S) _ _ Bc hBI add_precomp_ok sub_precomp_ok t1 _ ok1 db hdb _ _ fun t2 ok2 => ?_
  exact to_partial_ok t2 _ ok2

theorem dsmLoop_ok (hBI : BITable S) (ai : List O.cached.T) (Ac : CurvePoint) (hT : TableA S ai Ac) (al bl : List Int)
    (hal : ∀ j, j < 256 → ∃ d, al[j]? = some d ∧ Dig d) (hbl : ∀ j, j < 256 → ∃ d, bl[j]? = some d ∧ Dig d) :
    ∀ (n : Nat) (r : O.part.T) (R : CurvePoint), n ≤ 256 → PartialOk S r R.1 →
      ∃ r', dsmLoop O ai al bl n r = some r' ∧
        PartialOk S r' ((2 ^ n : Nat) • R + (evalDigits 2 (al.take n) • Ac + evalDigits 2 (bl.take n) • Bc)).1 := by
  intro n
  induction n with
  | zero =>
    intro r R _ hr
    refine ⟨r, rfl, ?_⟩
    simp only [List.take_zero, evalDigits, zero_smul, add_zero, pow_zero, one_smul]
    exact hr
  | succ n ih =>
    intro r R hn hr
    obtain ⟨da, ha, hda⟩ := hal n (by omega)
    obtain ⟨db, hb, hdb⟩ := hbl n (by omega)
    rw [dsmLoop]
    refine bind_ok (dsmStep_ok hBI ai Ac hT al bl n da db ha hb hda hdb r R hr) fun r1 ok1 => ?_
    obtain ⟨r', e', ok'⟩ := ih r1 _ (by omega) ok1
    refine ⟨r', e', ?_⟩
    rw [Digits.evalDigits_take_succ 2 al n da ha, Digits.evalDigits_take_succ 2 bl n db hb, Nat.cast_ofNat]
    have : (2 ^ n : Nat) • (R + R + da • Ac + db • Bc) +
        (evalDigits 2 (al.take n) • Ac + evalDigits 2 (bl.take n) • Bc)
        = (2 ^ (n + 1) : Nat) • R + ((evalDigits 2 (al.take n) + 2 ^ n * da) • Ac +
          (evalDigits 2 (bl.take n) + 2 ^ n * db) • Bc) := by
      rw [pow_succ]
      simp only [← natCast_zsmul]
      push_cast
      module
    rw [← this]
    exact ok'

theorem nextOdd_ok (a2 : O.ge.T) (ak : O.cached.T) (Ac : CurvePoint) (m : Nat) (h2 : GeOk S a2 ((2 : Nat) • Ac).1)
    (hk : CachedOk S ak ((m : Nat) • Ac).1) :
    ∃ c, nextOdd O a2 ak = some c ∧ CachedOk S c ((m + 2 : Nat) • Ac).1 := by
  refine bind_ok (add_cached_ok a2 ak _ _ h2 hk ((2 : Nat) • Ac).2 ((m : Nat) • Ac).2) fun s sok => ?_
  refine bind_ok (to_full_ok s _ sok) fun f fok => ?_
  rw [← cval_add, ← add_nsmul, Nat.add_comm] at fok
  exact to_cached_ok f _ fok

/-- the contract of `Scalar::slide` for a scalar of value `v` -/
def SlideOk (O : Sig) (s : O.Scalar) (v : Nat) : Prop :=
  ∃ r, O.slide s = some r ∧ evalDigits 2 r.toList = (v : Int) ∧ ∀ d ∈ r.toList, Dig d

theorem dsm_ok (hBI : BITable S) (a b : O.Scalar) (av bv : Nat) (g : O.ge.T) (A : Edwards.Point) (hsa : SlideOk O a av)
    (hsb : SlideOk O b bv) (hg : GeOk S g A) (hA : OnCurve A) :
    ∃ r, Part.double_scalarmult_vartime O a g b = some r ∧
      PartialOk S r (Edwards.add (Edwards.smul av A) (Edwards.smul bv Edwards.B)) := by
  let Ac : CurvePoint := ⟨A, hA⟩
  have hdig : ∀ (rv : Vector Int 256), (∀ d ∈ rv.toList, Dig d) → ∀ j, j < 256 → ∃ d, rv.toList[j]? = some d ∧ Dig d := by
    intro rv hd j hj
    have hl : j < rv.toList.length := by simpa using hj
    exact ⟨rv.toList[j], List.getElem?_eq_getElem hl, hd _ (List.getElem_mem hl)⟩
  simp only [Part.double_scalarmult_vartime]
  refine bind_ok hsa fun ra ⟨hva, hda⟩ => ?_
  refine bind_ok hsb fun rb ⟨hvb, hdb⟩ => ?_
  -- the target point, in the group
  have htarget : Edwards.add (Edwards.smul av A) (Edwards.smul bv Edwards.B)
      = (evalDigits 2 ra.toList • Ac + evalDigits 2 rb.toList • Bc).1 := by
    rw [hva, hvb, natCast_zsmul, natCast_zsmul, cval_add, cval_nsmul, cval_nsmul]; rfl
  rw [htarget]
  -- the table of odd multiples of A
  refine bind_ok (to_cached_ok g A hg) fun a1 ok1 => ?_
  refine bind_ok (ge_double_p1p1_ok g A hg hA) fun d2 okd2 => ?_
  refine bind_ok (to_full_ok d2 _ okd2) fun a2 ok2 => ?_
  have ok1' : CachedOk S a1 ((1 : Nat) • Ac).1 := by rw [one_nsmul]; exact ok1
  have ok2' : GeOk S a2 ((2 : Nat) • Ac).1 := by rw [two_nsmul]; exact ok2
  refine bind_ok (nextOdd_ok a2 a1 Ac 1 ok2' ok1') fun a3 ok3 => ?_
  refine bind_ok (nextOdd_ok a2 a3 Ac 3 ok2' ok3) fun a5 ok5 => ?_
  refine bind_ok (nextOdd_ok a2 a5 Ac 5 ok2' ok5) fun a7 ok7 => ?_
  refine bind_ok (nextOdd_ok a2 a7 Ac 7 ok2' ok7) fun a9 ok9 => ?_
  refine bind_ok (nextOdd_ok a2 a9 Ac 9 ok2' ok9) fun a11 ok11 => ?_
  refine bind_ok (nextOdd_ok a2 a11 Ac 11 ok2' ok11) fun a13 ok13 => ?_
  refine bind_ok (nextOdd_ok a2 a13 Ac 13 ok2' ok13) fun a15 ok15 => ?_
  have hT : TableA S [a1, a3, a5, a7, a9, a11, a13, a15] Ac :=
    GeSelect.row8 (P := fun k c => CachedOk S c (((2 * k + 1 : Nat) • Ac)).1) ok1' ok3 ok5 ok7 ok9 ok11 ok13 ok15
  -- the first loop leaves `m` indices to the second; the digits above them are zero
  obtain ⟨m, hm, hz, ht⟩ := topIndex_cut ra.toList rb.toList 256
  obtain ⟨r', er', ok'⟩ := dsmLoop_ok hBI _ Ac hT ra.toList rb.toList (hdig ra hda) (hdig rb hdb) m (Part.ZERO O) 0 hm
    (by rw [cval_zero]; exact partial_ZERO_ok)
  rw [Digits.evalDigits_take_top 2 ra.toList m (fun j h1 hj => (hz j h1 (by simpa using hj)).1),
    Digits.evalDigits_take_top 2 rb.toList m (fun j h1 hj => (hz j h1 (by simpa using hj)).2), smul_zero, zero_add] at ok'
  refine ⟨r', ?_, ok'⟩
  rcases ht with ⟨e, rfl⟩ | ⟨i, e, rfl⟩ <;> rw [e] <;> exact er'

end Cx.Proofs.GeG

namespace Cx.Proofs.GeDsm
open Cx.Spec Cx.Impl.Ge Cx.Proofs.EdSpec Cx.Proofs.GeRefine Cx.Proofs.GeComb
open Cx.Proofs.Scalar64 (Inv)
open Cx.Impl.Scalar64 (Scalar)
open Cx.Spec.Field25519 (p)

section loop
variable [hp : Fact (Nat.Prime p)] [hG : GroupLawFact]

theorem BI_table : GeG.BITable spec64 := fun k hk => by
  obtain ⟨e, he, hb, hv⟩ := Proofs.Ge.BI_entry k hk
  refine ⟨e, he, ?_⟩
  rw [cval_nsmul]
  exact precompOk_of_table e _ hb hv

omit hp hG in
theorem slideOk (s : Scalar) (h : Inv s) (hv : s.val < 2 ^ 255) : GeG.SlideOk sig64 s s.val := by
  unfold GeG.SlideOk; rw [slide_eq]; exact Proofs.Scalar64.Slide.slide_spec s h hv

theorem dsm_ok (a b : Scalar) (g : Ge) (A : Edwards.Point) (ha : Inv a) (hb : Inv b) (hav : a.val < 2 ^ 255)
    (hbv : b.val < 2 ^ 255) (hg : GeOk g A) (hA : OnCurve A) :
    ∃ r, GePartial.double_scalarmult_vartime a g b = some r ∧
      PartialOk r (Edwards.add (Edwards.smul a.val A) (Edwards.smul b.val Edwards.B)) := by
  rw [dsm_eq]
  exact GeG.ok_imp (fun _ => partialOk_iff.2) (GeG.dsm_ok BI_table a b a.val b.val g A
    (slideOk a ha hav) (slideOk b hb hbv) (geOk_iff.1 hg) hA)

end loop

end Cx.Proofs.GeDsm
