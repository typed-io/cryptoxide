/-
  Proofs.GeEncLen — the 64-bit backend's encodings have their length whenever the function returns at all (no range condition on
  the limbs): `to_packed` four words, `Fe64.to_bytes` / `GeAffine.to_bytes` / `Ge.to_bytes` 32 bytes.  The translator tie
  (Proofs/GlueCurve.lean) and the leak model (Proofs/LeakModelEd25519.lean) both walk buffers that hold these.  Core Lean only.
-/
import CxVerif.Impl.Ge
import CxVerif.Proofs.ByteLemmas
namespace Cx.Proofs.GeEncLen
open Cx.Impl Cx.Impl.Fe64 Cx.Impl.Ge

theorem to_packed_length (f : Fe) (w : List Nat) (h : to_packed f = some w) : w.length = 4 := by
  unfold to_packed at h
  iterate 10 obtain ⟨_, _, h⟩ := Option.bind_eq_some_iff.mp h
  cases h; rfl
theorem Fe.to_bytes_length (f : Fe) (b : Bytes) (h : Fe64.to_bytes f = some b) : b.length = 32 := by
  unfold Fe64.to_bytes at h
  obtain ⟨w, hw, h⟩ := Option.bind_eq_some_iff.mp h
  cases h
  have := to_packed_length f w hw
  match w, this with
  | [a, b, c, d], _ => simp [List.flatMap, Bytes.natToLE_length]
theorem GeAffine.to_bytes_length (a : GeAffine) (b : Bytes) (h : GeAffine.to_bytes a = some b) : b.length = 32 := by
  unfold GeAffine.to_bytes at h
  obtain ⟨bs, hbs, h⟩ := Option.bind_eq_some_iff.mp h
  obtain ⟨n, _, h⟩ := Option.bind_eq_some_iff.mp h
  cases h
  simp only [setSign, List.length_modify]
  exact Fe.to_bytes_length _ _ hbs
theorem Ge.to_bytes_length (g : Ge) (b : Bytes) (h : Ge.to_bytes g = some b) : b.length = 32 := by
  unfold Ge.to_bytes at h
  obtain ⟨a, _, h⟩ := Option.bind_eq_some_iff.mp h
  exact GeAffine.to_bytes_length a b h
end Cx.Proofs.GeEncLen
