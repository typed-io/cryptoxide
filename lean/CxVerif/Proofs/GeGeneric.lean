/-
  Proofs.GeGeneric — /repo/src/curve25519/ge.rs ONCE.  ge.rs is backend-generic Rust; Impl/Ge.lean and Impl/Ge32.lean are its
  text over the two field backends.  Here the same text (one `def` per Rust fn, same statement order) is written over a
  signature `Sig` of what ge.rs uses: the field type with its operations and constants, the six record types, the two
  tables of precomp.rs and the scalar type.  Both models are this text at an instance, function by function, by unfolding
  (Proofs/GeRefine.lean, Proofs/Ge32Refine.lean), so every theorem about the text (Proofs/GeGenericRefine.lean) is a theorem
  about both.

  The model's records are different structures per backend, so a record type enters as an interface `Rec2/Rec3/Rec4`:
  carrier, constructor, projections, and "projection of a constructed record".  Field order:
    ge, p1p1 : x y z t      cached : y_plus_x y_minus_x z t2d      part : x y z      precomp : y_plus_x y_minus_x xy2d      aff : x y
-/
import CxVerif.Impl.Ge
namespace Cx.Proofs.GeG
open Cx.Impl.Ge (setSign bnegativeOf babsOf recode topIndex)
open Cx.Impl.Scalar64 (ckI8)

structure Rec2 (F : Type) where
  T : Type
  make : F → F → T
  p1 : T → F
  p2 : T → F
  p1_mk : ∀ a b, p1 (make a b) = a
  p2_mk : ∀ a b, p2 (make a b) = b

structure Rec3 (F : Type) where
  T : Type
  make : F → F → F → T
  p1 : T → F
  p2 : T → F
  p3 : T → F
  p1_mk : ∀ a b c, p1 (make a b c) = a
  p2_mk : ∀ a b c, p2 (make a b c) = b
  p3_mk : ∀ a b c, p3 (make a b c) = c

structure Rec4 (F : Type) where
  T : Type
  make : F → F → F → F → T
  p1 : T → F
  p2 : T → F
  p3 : T → F
  p4 : T → F
  p1_mk : ∀ a b c d, p1 (make a b c d) = a
  p2_mk : ∀ a b c d, p2 (make a b c d) = b
  p3_mk : ∀ a b c d, p3 (make a b c d) = c
  p4_mk : ∀ a b c d, p4 (make a b c d) = d

/-- what ge.rs uses of a field backend, of precomp.rs and of the scalar type.
    `from_bytes` is checked in fe32 and total in fe64: the signature has the checked form -/
structure Sig where
  Fe : Type
  add : Fe → Fe → Option Fe
  sub : Fe → Fe → Option Fe
  mul : Fe → Fe → Option Fe
  neg : Fe → Option Fe
  square : Fe → Option Fe
  square_and_double : Fe → Option Fe
  invert : Fe → Option Fe
  pow25523 : Fe → Option Fe
  negate_mut : Fe → Option Fe
  from_bytes : (s : Bytes) → s.length = 32 → Option Fe
  to_bytes : Fe → Option Bytes
  is_nonzero : Fe → Option Bool
  is_negative : Fe → Option Bool
  maybe_set : Fe → Fe → Impl.CT.Choice → Fe
  ZERO : Fe
  ONE : Fe
  D : Fe
  D2 : Fe
  SQRTM1 : Fe
  aff : Rec2 Fe
  ge : Rec4 Fe
  p1p1 : Rec4 Fe
  cached : Rec4 Fe
  part : Rec3 Fe
  precomp : Rec3 Fe
  GE_BASE : List (List precomp.T)
  BI : List precomp.T
  Scalar : Type
  nibbles : Scalar → List Int
  slide : Scalar → Option (Vector Int 256)

variable (O : Sig)

/-! ### GeAffine -/

def Aff.to_bytes (self : O.aff.T) : Option Bytes := do
  let bs ← O.to_bytes (O.aff.p2 self)
  let n ← O.is_negative (O.aff.p1 self)
  pure (setSign bs n)

def Aff.from_bytes (s : Bytes) : Option (Option O.aff.T) :=
  if h : s.length = 32 then do
    let y ← O.from_bytes s h
    let y2 ← O.square y
    let u ← O.sub y2 O.ONE
    let yd ← O.mul y2 O.D
    let v ← O.add yd O.ONE
    let vv ← O.square v
    let v3 ← O.mul vv v
    let v3v3 ← O.square v3
    let v7 ← O.mul v3v3 v
    let uv7 ← O.mul v7 u
    let pw ← O.pow25523 uv7
    let pv ← O.mul pw v3
    let x ← O.mul pv u
    let xx ← O.square x
    let vxx ← O.mul xx v
    let check ← O.sub vxx u
    let signbit : Bool := ((s[31]'(h ▸ by decide)) >>> 7) != 0
    let finish (x : O.Fe) : Option (Option O.aff.T) := do
      let n ← O.is_negative x
      let x ← if n != signbit then O.negate_mut x else pure x
      pure (some (O.aff.make x y))
    if (← O.is_nonzero check) then
      let check2 ← O.add vxx u
      if (← O.is_nonzero check2) then pure none
      else
        let x ← O.mul x O.SQRTM1
        finish x
    else finish x
  else none

/-! ### GeP1P1 -/

def P1P1.to_partial (self : O.p1p1.T) : Option O.part.T := do
  let x ← O.mul (O.p1p1.p1 self) (O.p1p1.p4 self)
  let y ← O.mul (O.p1p1.p2 self) (O.p1p1.p3 self)
  let z ← O.mul (O.p1p1.p3 self) (O.p1p1.p4 self)
  pure (O.part.make x y z)

def P1P1.to_full (self : O.p1p1.T) : Option O.ge.T := do
  let x ← O.mul (O.p1p1.p1 self) (O.p1p1.p4 self)
  let y ← O.mul (O.p1p1.p2 self) (O.p1p1.p3 self)
  let z ← O.mul (O.p1p1.p3 self) (O.p1p1.p4 self)
  let t ← O.mul (O.p1p1.p1 self) (O.p1p1.p2 self)
  pure (O.ge.make x y z t)

def double_p1p1_xyz (x y z : O.Fe) : Option O.p1p1.T := do
  let xx ← O.square x
  let yy ← O.square y
  let b ← O.square_and_double z
  let a ← O.add x y
  let aa ← O.square a
  let y3 ← O.add yy xx
  let z3 ← O.sub yy xx
  let x3 ← O.sub aa y3
  let t3 ← O.sub b z3
  pure (O.p1p1.make x3 y3 z3 t3)

/-! ### GePrecomp -/

def Precomp.ZERO : O.precomp.T := O.precomp.make O.ONE O.ONE O.ZERO

def Precomp.maybe_set (self other : O.precomp.T) (do_swap : Impl.CT.Choice) : O.precomp.T :=
  O.precomp.make (O.maybe_set (O.precomp.p1 self) (O.precomp.p1 other) do_swap)
   (O.maybe_set (O.precomp.p2 self) (O.precomp.p2 other) do_swap)
   (O.maybe_set (O.precomp.p3 self) (O.precomp.p3 other) do_swap)

def Precomp.select (pos : Nat) (b : Int) : Option O.precomp.T := do
  if b < -8 ∨ b > 8 then none
  else
    let bnegative := bnegativeOf b
    let babs ← babsOf b
    let row ← O.GE_BASE[pos]?
    let babs8 := UInt8.ofNat babs
    let step (t : O.precomp.T) (k : Nat) : Option O.precomp.T := do
      let e ← row[k]?
      pure (Precomp.maybe_set O t e (Impl.CT.u8_ct_eq babs8 (UInt8.ofNat (k + 1))))
    let t := Precomp.ZERO O
    let t ← step t 0
    let t ← step t 1
    let t ← step t 2
    let t ← step t 3
    let t ← step t 4
    let t ← step t 5
    let t ← step t 6
    let t ← step t 7
    let nxy ← O.neg (O.precomp.p3 t)
    let minus_t : O.precomp.T := O.precomp.make (O.precomp.p2 t) (O.precomp.p1 t) nxy
    pure (Precomp.maybe_set O t minus_t (Impl.CT.u8_ct_nonzero (UInt8.ofNat bnegative)))

/-! ### Ge -/

def Ge.ZERO : O.ge.T := O.ge.make O.ZERO O.ONE O.ONE O.ZERO

def Ge.from_affine (affine : O.aff.T) : Option O.ge.T := do
  let t ← O.mul (O.aff.p1 affine) (O.aff.p2 affine)
  pure (O.ge.make (O.aff.p1 affine) (O.aff.p2 affine) O.ONE t)

def Ge.to_affine (self : O.ge.T) : Option O.aff.T := do
  let recip ← O.invert (O.ge.p3 self)
  let x ← O.mul (O.ge.p1 self) recip
  let y ← O.mul (O.ge.p2 self) recip
  pure (O.aff.make x y)

def Ge.from_bytes (s : Bytes) : Option (Option O.ge.T) :=
  match Aff.from_bytes O s with
  | none => none
  | some none => some none
  | some (some a) => match Ge.from_affine O a with
    | none => none
    | some g => some (some g)

def Ge.negate (self : O.ge.T) : Option O.ge.T := do
  let x ← O.neg (O.ge.p1 self)
  let t ← O.neg (O.ge.p4 self)
  pure (O.ge.make x (O.ge.p2 self) (O.ge.p3 self) t)

def Ge.to_partial (self : O.ge.T) : O.part.T := O.part.make (O.ge.p1 self) (O.ge.p2 self) (O.ge.p3 self)

def Ge.to_cached (self : O.ge.T) : Option O.cached.T := do
  let ypx ← O.add (O.ge.p2 self) (O.ge.p1 self)
  let ymx ← O.sub (O.ge.p2 self) (O.ge.p1 self)
  let t2d ← O.mul (O.ge.p4 self) O.D2
  pure (O.cached.make ypx ymx (O.ge.p3 self) t2d)

def Ge.double_p1p1 (self : O.ge.T) : Option O.p1p1.T :=
  double_p1p1_xyz O (O.ge.p1 self) (O.ge.p2 self) (O.ge.p3 self)

def Ge.double (self : O.ge.T) : Option O.ge.T := do P1P1.to_full O (← Ge.double_p1p1 O self)

def Ge.double_partial (self : O.ge.T) : Option O.part.T := do P1P1.to_partial O (← Ge.double_p1p1 O self)

def Ge.to_bytes (self : O.ge.T) : Option Bytes := do Aff.to_bytes O (← Ge.to_affine O self)

def Ge.add_cached (self : O.ge.T) (rhs : O.cached.T) : Option O.p1p1.T := do
  let y1_plus_x1 ← O.add (O.ge.p2 self) (O.ge.p1 self)
  let y1_minus_x1 ← O.sub (O.ge.p2 self) (O.ge.p1 self)
  let a ← O.mul y1_plus_x1 (O.cached.p1 rhs)
  let b ← O.mul y1_minus_x1 (O.cached.p2 rhs)
  let c ← O.mul (O.cached.p4 rhs) (O.ge.p4 self)
  let zz ← O.mul (O.ge.p3 self) (O.cached.p3 rhs)
  let d ← O.add zz zz
  let x3 ← O.sub a b
  let y3 ← O.add a b
  let z3 ← O.add d c
  let t3 ← O.sub d c
  pure (O.p1p1.make x3 y3 z3 t3)

def Ge.add_precomp (self : O.ge.T) (rhs : O.precomp.T) : Option O.p1p1.T := do
  let y1_plus_x1 ← O.add (O.ge.p2 self) (O.ge.p1 self)
  let y1_minus_x1 ← O.sub (O.ge.p2 self) (O.ge.p1 self)
  let a ← O.mul y1_plus_x1 (O.precomp.p1 rhs)
  let b ← O.mul y1_minus_x1 (O.precomp.p2 rhs)
  let c ← O.mul (O.precomp.p3 rhs) (O.ge.p4 self)
  let d ← O.add (O.ge.p3 self) (O.ge.p3 self)
  let x3 ← O.sub a b
  let y3 ← O.add a b
  let z3 ← O.add d c
  let t3 ← O.sub d c
  pure (O.p1p1.make x3 y3 z3 t3)

def Ge.sub_cached (self : O.ge.T) (rhs : O.cached.T) : Option O.p1p1.T := do
  let y1_plus_x1 ← O.add (O.ge.p2 self) (O.ge.p1 self)
  let y1_minus_x1 ← O.sub (O.ge.p2 self) (O.ge.p1 self)
  let a ← O.mul y1_plus_x1 (O.cached.p2 rhs)
  let b ← O.mul y1_minus_x1 (O.cached.p1 rhs)
  let c ← O.mul (O.cached.p4 rhs) (O.ge.p4 self)
  let zz ← O.mul (O.ge.p3 self) (O.cached.p3 rhs)
  let d ← O.add zz zz
  let x3 ← O.sub a b
  let y3 ← O.add a b
  let z3 ← O.sub d c
  let t3 ← O.add d c
  pure (O.p1p1.make x3 y3 z3 t3)

def Ge.sub_precomp (self : O.ge.T) (rhs : O.precomp.T) : Option O.p1p1.T := do
  let y1_plus_x1 ← O.add (O.ge.p2 self) (O.ge.p1 self)
  let y1_minus_x1 ← O.sub (O.ge.p2 self) (O.ge.p1 self)
  let a ← O.mul y1_plus_x1 (O.precomp.p2 rhs)
  let b ← O.mul y1_minus_x1 (O.precomp.p1 rhs)
  let c ← O.mul (O.precomp.p3 rhs) (O.ge.p4 self)
  let d ← O.add (O.ge.p3 self) (O.ge.p3 self)
  let x3 ← O.sub a b
  let y3 ← O.add a b
  let z3 ← O.sub d c
  let t3 ← O.add d c
  pure (O.p1p1.make x3 y3 z3 t3)

/-! ### GePartial -/

def Part.ZERO : O.part.T := O.part.make O.ZERO O.ONE O.ONE

def Part.to_bytes (self : O.part.T) : Option Bytes := do
  let recip ← O.invert (O.part.p3 self)
  let x ← O.mul (O.part.p1 self) recip
  let y ← O.mul (O.part.p2 self) recip
  let bs ← O.to_bytes y
  let n ← O.is_negative x
  pure (setSign bs n)

def Part.double_p1p1 (self : O.part.T) : Option O.p1p1.T :=
  double_p1p1_xyz O (O.part.p1 self) (O.part.p2 self) (O.part.p3 self)

def Part.double (self : O.part.T) : Option O.part.T := do P1P1.to_partial O (← Part.double_p1p1 O self)

def Part.double_full (self : O.part.T) : Option O.ge.T := do P1P1.to_full O (← Part.double_p1p1 O self)

/-! ### scalarmult_base -/

def combLoop (es : List Int) (off : Nat) : Nat → Nat → O.ge.T → Option O.ge.T
  | 0, _, h => some h
  | n + 1, j, h => do
    let e ← es[j * 2 + off]?
    let t ← Precomp.select O j e
    let r ← Ge.add_precomp O h t
    let h ← P1P1.to_full O r
    combLoop es off n (j + 1) h

def Ge.scalarmult_base (a : O.Scalar) : Option O.ge.T := do
  let es ← recode (O.nibbles a)
  let h ← combLoop O es 1 32 0 (Ge.ZERO O)
  let h ← Ge.double_partial O h
  let h ← Part.double O h
  let h ← Part.double O h
  let h ← Part.double_full O h
  combLoop O es 0 32 0 h

/-! ### double_scalarmult_vartime -/

def dsmStep (ai : List O.cached.T) (aslide bslide : List Int) (r : O.part.T) (i : Nat) : Option O.part.T := do
  let t ← Part.double_p1p1 O r
  let ad ← aslide[i]?
  let t ←
    if ad > 0 then do
      let c ← ai[(Int.tdiv ad 2).toNat]?
      Ge.add_cached O (← P1P1.to_full O t) c
    else if ad < 0 then do
      let nd ← ckI8 (-ad)
      let c ← ai[(Int.tdiv nd 2).toNat]?
      Ge.sub_cached O (← P1P1.to_full O t) c
    else pure t
  let bd ← bslide[i]?
  let t ←
    if bd > 0 then do
      let c ← O.BI[(Int.tdiv bd 2).toNat]?
      Ge.add_precomp O (← P1P1.to_full O t) c
    else if bd < 0 then do
      let nd ← ckI8 (-bd)
      let c ← O.BI[(Int.tdiv nd 2).toNat]?
      Ge.sub_precomp O (← P1P1.to_full O t) c
    else pure t
  P1P1.to_partial O t

def dsmLoop (ai : List O.cached.T) (aslide bslide : List Int) : Nat → O.part.T → Option O.part.T
  | 0, r => some r
  | n + 1, r => do
    let r ← dsmStep O ai aslide bslide r n
    dsmLoop ai aslide bslide n r

def nextOdd (a2 : O.ge.T) (ak : O.cached.T) : Option O.cached.T := do
  let s ← Ge.add_cached O a2 ak
  let f ← P1P1.to_full O s
  Ge.to_cached O f

def Part.double_scalarmult_vartime (a_scalar : O.Scalar) (a_point : O.ge.T) (b_scalar : O.Scalar) :
    Option O.part.T := do
  let aslide := (← O.slide a_scalar).toList
  let bslide := (← O.slide b_scalar).toList
  let a1 ← Ge.to_cached O a_point
  let a2 ← P1P1.to_full O (← Ge.double_p1p1 O a_point)
  let a3 ← nextOdd O a2 a1
  let a5 ← nextOdd O a2 a3
  let a7 ← nextOdd O a2 a5
  let a9 ← nextOdd O a2 a7
  let a11 ← nextOdd O a2 a9
  let a13 ← nextOdd O a2 a11
  let a15 ← nextOdd O a2 a13
  let ai := [a1, a3, a5, a7, a9, a11, a13, a15]
  let r := Part.ZERO O
  match topIndex aslide bslide 256 with
  | none => pure r
  | some i => dsmLoop O ai aslide bslide (i + 1) r

end Cx.Proofs.GeG
