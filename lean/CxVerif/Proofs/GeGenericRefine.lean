/-
  Proofs.GeGenericRefine — the formulas of ge.rs (Proofs/GeGeneric.lean) refine the field-level formulas of
  Proofs/EdwardsAlgebra.lean, hence the affine law of Spec/Edwards.lean, over ANY field backend that meets the contract
  `Contract`: every function returns `some` (no overflow panic), the output limbs are bounded again, and the output represents
  the Spec result.

  The contract is a bound discipline by WEIGHTS.  `R k f`: the limbs of `f` are within `k` times the bound of a carried
  value.  `Mul`, `square`, `square_and_double` accept weight ≤ 3 and return weight 1 (`square_and_double`: `sq`).  `Add`, `Sub`,
  `Neg` accept weights ≤ 3 and return weight `min (a + b) cap`: fe32 never carries there (`cap` = 63, the weight is the sum),
  fe64 always does (`cap` = 1).  The representation predicates fix the weight of every coordinate (`GeOk`, `PartialOk`,
  `PrecompOk`: 1; `CachedOk`: `min 2 cap` for y±x; `P1P1Ok`: `min 3 cap`), so at the two instances they are the predicates of
  Proofs/GeRefine.lean (`Tight` throughout) and of Proofs/Ge32Refine.lean (`W 1`, `W 2`, `W 3`).
  Side conditions on weights are closed numerals (`by decide`); `cw`/`cwc` take a capped weight to a numeral / a larger cap.
  Values are compared in `ZMod p`: the predicates and the theorems take `[Fact (Nat.Prime p)]` as an instance argument.
-/
import CxVerif.Proofs.GeGeneric
import CxVerif.Proofs.EdwardsSpec
import CxVerif.Proofs.OptionSteps
import CxVerif.Props.C18
namespace Cx.Proofs.GeG
open Cx.Spec Cx.Proofs.EdField Cx.Proofs.EdSpec
open Cx.Spec.Edwards (Point)
open Cx.Spec.Field25519 (p)
open Cx.Props.C18 (Choice.ofBool)

/-- what the group layer needs to know of a field backend (values in `Nat`, the form of the backends' `*_spec` theorems) -/
structure Contract (O : Sig) where
  R : Nat → O.Fe → Prop
  eval : O.Fe → Nat
  cap : Nat
  /-- weight of `square_and_double`'s result (fe64 doubles after the carry); the last fact is what doubling's `t3 = b − z3` needs -/
  sq : Nat
  sq_le : 1 ≤ sq ∧ sq ≤ 3 ∧ min (sq + 2) cap ≤ min 3 cap
  mono : ∀ {a b : Nat} {f : O.Fe}, a ≤ b → R a f → R b f
  add_spec : ∀ {a b : Nat} (f g : O.Fe), R a f → R b g → 1 ≤ a ∧ a ≤ 3 ∧ b ≤ 3 →
    ∃ h, O.add f g = some h ∧ R (min (a + b) cap) h ∧ eval h = Field25519.add (eval f) (eval g)
  sub_spec : ∀ {a b : Nat} (f g : O.Fe), R a f → R b g → 1 ≤ a ∧ a ≤ 3 ∧ b ≤ 3 →
    ∃ h, O.sub f g = some h ∧ R (min (a + b) cap) h ∧ eval h = Field25519.sub (eval f) (eval g)
  neg_spec : ∀ {a : Nat} (g : O.Fe), R a g → 1 ≤ a ∧ a ≤ 3 →
    ∃ h, O.neg g = some h ∧ R (min a cap) h ∧ eval h = Field25519.neg (eval g)
  mul_spec : ∀ (f g : O.Fe), R 3 f → R 3 g → ∃ h, O.mul f g = some h ∧ R 1 h ∧ eval h = Field25519.mul (eval f) (eval g)
  square_spec : ∀ (f : O.Fe), R 3 f → ∃ h, O.square f = some h ∧ R 1 h ∧ eval h = Field25519.sq (eval f)
  sqd_spec : ∀ (f : O.Fe), R 3 f →
    ∃ h, O.square_and_double f = some h ∧ R sq h ∧ eval h = Field25519.mul 2 (Field25519.sq (eval f))
  maybe_set_spec : ∀ {a : Nat} (f g : O.Fe), R a f → R a g → a ≤ 3 → ∀ c : Bool,
    O.maybe_set f g (Choice.ofBool c) = if c then g else f
  ZERO_spec : R 1 O.ZERO ∧ eval O.ZERO = 0
  ONE_spec : R 1 O.ONE ∧ eval O.ONE = 1
  D2_spec : R 1 O.D2 ∧ eval O.D2 = Field25519.edwardsD2
  -- what decoding and encoding a point use besides
  eval_lt : ∀ f : O.Fe, eval f < p
  invert_spec : ∀ (f : O.Fe), R 3 f → ∃ h, O.invert f = some h ∧ R 1 h ∧ eval h = Field25519.inv (eval f)
  pow25523_spec : ∀ (f : O.Fe), R 3 f → ∃ h, O.pow25523 f = some h ∧ R 1 h ∧ eval h = Field25519.pow25523 (eval f)
  negate_mut_spec : ∀ {a : Nat} (g : O.Fe), R a g → 1 ≤ a ∧ a ≤ 3 →
    ∃ h, O.negate_mut g = some h ∧ R (min a cap) h ∧ eval h = Field25519.neg (eval g)
  from_bytes_spec : ∀ (b : Bytes) (h : b.length = 32), ∃ r, O.from_bytes b h = some r ∧ R 1 r ∧ eval r = Field25519.decode b
  to_bytes_spec : ∀ (f : O.Fe), R 6 f → O.to_bytes f = some (Field25519.encode (eval f))
  is_nonzero_spec : ∀ (f : O.Fe), R 6 f → O.is_nonzero f = some (Field25519.isNonzero (eval f))
  is_negative_spec : ∀ (f : O.Fe), R 6 f → O.is_negative f = some (Field25519.isNegative (eval f))
  D_spec : R 1 O.D ∧ eval O.D = Field25519.edwardsD
  SQRTM1_spec : R 1 O.SQRTM1 ∧ eval O.SQRTM1 = Field25519.sqrtM1

variable {O : Sig} (S : Contract O)

namespace Contract

noncomputable def ev (f : O.Fe) : Fp := ((S.eval f : Nat) : Fp)

theorem add_ok {a b : Nat} (f g : O.Fe) (hf : S.R a f) (hg : S.R b g) (h : 1 ≤ a ∧ a ≤ 3 ∧ b ≤ 3 := by decide) :
    ∃ r, O.add f g = some r ∧ S.R (min (a + b) S.cap) r ∧ S.ev r = S.ev f + S.ev g :=
  (S.add_spec f g hf hg h).imp fun _ h => ⟨h.1, h.2.1, by unfold ev; rw [h.2.2, cast_add]⟩

theorem sub_ok {a b : Nat} (f g : O.Fe) (hf : S.R a f) (hg : S.R b g) (h : 1 ≤ a ∧ a ≤ 3 ∧ b ≤ 3 := by decide) :
    ∃ r, O.sub f g = some r ∧ S.R (min (a + b) S.cap) r ∧ S.ev r = S.ev f - S.ev g :=
  (S.sub_spec f g hf hg h).imp fun _ h => ⟨h.1, h.2.1, by unfold ev; rw [h.2.2, cast_sub]⟩

theorem neg_ok {a : Nat} (g : O.Fe) (hg : S.R a g) (h : 1 ≤ a ∧ a ≤ 3 := by decide) :
    ∃ r, O.neg g = some r ∧ S.R (min a S.cap) r ∧ S.ev r = - S.ev g :=
  (S.neg_spec g hg h).imp fun _ h => ⟨h.1, h.2.1, by unfold ev; rw [h.2.2, cast_neg]⟩

theorem mul_ok (f g : O.Fe) (hf : S.R 3 f) (hg : S.R 3 g) :
    ∃ r, O.mul f g = some r ∧ S.R 1 r ∧ S.ev r = S.ev f * S.ev g :=
  (S.mul_spec f g hf hg).imp fun _ h => ⟨h.1, h.2.1, by unfold ev; rw [h.2.2, cast_mul]⟩

theorem square_ok (f : O.Fe) (hf : S.R 3 f) : ∃ r, O.square f = some r ∧ S.R 1 r ∧ S.ev r = S.ev f * S.ev f :=
  (S.square_spec f hf).imp fun _ h => ⟨h.1, h.2.1, by unfold ev; rw [h.2.2, cast_sq]⟩

theorem sqd_ok (f : O.Fe) (hf : S.R 3 f) :
    ∃ r, O.square_and_double f = some r ∧ S.R S.sq r ∧ S.ev r = 2 * (S.ev f * S.ev f) :=
  (S.sqd_spec f hf).imp fun _ h => ⟨h.1, h.2.1, by unfold ev; rw [h.2.2, cast_mul, cast_sq]; norm_num⟩

theorem invert_ok [Fact (Nat.Prime p)] (f : O.Fe) (hf : S.R 3 f) :
    ∃ r, O.invert f = some r ∧ S.R 1 r ∧ S.ev r = (S.ev f)⁻¹ :=
  (S.invert_spec f hf).imp fun _ h => ⟨h.1, h.2.1, by unfold ev; rw [h.2.2, cast_inv]⟩

theorem ev_ZERO : S.ev O.ZERO = 0 := by unfold ev; rw [S.ZERO_spec.2]; exact Nat.cast_zero
theorem ev_ONE : S.ev O.ONE = 1 := by unfold ev; rw [S.ONE_spec.2]; exact Nat.cast_one
theorem ev_D2 : S.ev O.D2 = 2 * dF := by
  unfold ev dF; rw [S.D2_spec.2]; unfold Field25519.edwardsD2 Edwards.d; rw [cast_mul, Nat.cast_ofNat]

end Contract

variable {S}

/-- how an instance passes from the predicates here to its own -/
theorem ok_imp {α : Type} {o : Option α} {A B : α → Prop} (hab : ∀ r, A r → B r) (h : ∃ r, o = some r ∧ A r) :
    ∃ r, o = some r ∧ B r := h.imp fun r h => ⟨h.1, hab r h.2⟩

theorem w3 {a : Nat} {f : O.Fe} (h : S.R a f) (ha : a ≤ 3 := by decide) : S.R 3 f := S.mono ha h
theorem w6 {a : Nat} {f : O.Fe} (h : S.R a f) (ha : a ≤ 6 := by decide) : S.R 6 f := S.mono ha h
theorem cw {a b : Nat} {f : O.Fe} (h : S.R (min a S.cap) f) (hab : a ≤ b := by decide) : S.R b f :=
  S.mono (Nat.le_trans (Nat.min_le_left _ _) hab) h
theorem cwc {a b : Nat} {f : O.Fe} (h : S.R (min a S.cap) f) (hab : a ≤ b := by decide) : S.R (min b S.cap) f :=
  S.mono (by omega) h

section prime
variable [hp : Fact (Nat.Prime p)]
variable (S)

def GeOk (g : O.ge.T) (P : Point) : Prop :=
  S.R 1 (O.ge.p1 g) ∧ S.R 1 (O.ge.p2 g) ∧ S.R 1 (O.ge.p3 g) ∧ S.R 1 (O.ge.p4 g) ∧
    EdAlg.RepExt (S.ev (O.ge.p1 g)) (S.ev (O.ge.p2 g)) (S.ev (O.ge.p3 g)) (S.ev (O.ge.p4 g)) (P.x : Fp) (P.y : Fp)

def PartialOk (g : O.part.T) (P : Point) : Prop :=
  S.R 1 (O.part.p1 g) ∧ S.R 1 (O.part.p2 g) ∧ S.R 1 (O.part.p3 g) ∧
    EdAlg.RepProj (S.ev (O.part.p1 g)) (S.ev (O.part.p2 g)) (S.ev (O.part.p3 g)) (P.x : Fp) (P.y : Fp)

def P1P1Ok (g : O.p1p1.T) (P : Point) : Prop :=
  S.R (min 3 S.cap) (O.p1p1.p1 g) ∧ S.R (min 3 S.cap) (O.p1p1.p2 g) ∧ S.R (min 3 S.cap) (O.p1p1.p3 g) ∧
    S.R (min 3 S.cap) (O.p1p1.p4 g) ∧
    EdAlg.RepP1P1 (S.ev (O.p1p1.p1 g)) (S.ev (O.p1p1.p2 g)) (S.ev (O.p1p1.p3 g)) (S.ev (O.p1p1.p4 g)) (P.x : Fp) (P.y : Fp)

def CachedOk (c : O.cached.T) (P : Point) : Prop :=
  S.R (min 2 S.cap) (O.cached.p1 c) ∧ S.R (min 2 S.cap) (O.cached.p2 c) ∧ S.R 1 (O.cached.p3 c) ∧ S.R 1 (O.cached.p4 c) ∧
    EdAlg.RepCached dF (S.ev (O.cached.p1 c)) (S.ev (O.cached.p2 c)) (S.ev (O.cached.p3 c)) (S.ev (O.cached.p4 c))
      (P.x : Fp) (P.y : Fp)

def PrecompOk (c : O.precomp.T) (P : Point) : Prop :=
  S.R 1 (O.precomp.p1 c) ∧ S.R 1 (O.precomp.p2 c) ∧ S.R 1 (O.precomp.p3 c) ∧
    EdAlg.RepPrecomp dF (S.ev (O.precomp.p1 c)) (S.ev (O.precomp.p2 c)) (S.ev (O.precomp.p3 c)) (P.x : Fp) (P.y : Fp)

variable {S}

/-! the predicates of a constructed record: the only place where the record interfaces' equations are used -/

theorem GeOk.mk {x y z t : O.Fe} {P : Point} (hx : S.R 1 x) (hy : S.R 1 y) (hz : S.R 1 z) (ht : S.R 1 t)
    (rep : EdAlg.RepExt (S.ev x) (S.ev y) (S.ev z) (S.ev t) (P.x : Fp) (P.y : Fp)) : GeOk S (O.ge.make x y z t) P := by
  unfold GeOk; rw [O.ge.p1_mk, O.ge.p2_mk, O.ge.p3_mk, O.ge.p4_mk]; exact ⟨hx, hy, hz, ht, rep⟩

theorem PartialOk.mk {x y z : O.Fe} {P : Point} (hx : S.R 1 x) (hy : S.R 1 y) (hz : S.R 1 z)
    (rep : EdAlg.RepProj (S.ev x) (S.ev y) (S.ev z) (P.x : Fp) (P.y : Fp)) : PartialOk S (O.part.make x y z) P := by
  unfold PartialOk; rw [O.part.p1_mk, O.part.p2_mk, O.part.p3_mk]; exact ⟨hx, hy, hz, rep⟩

theorem P1P1Ok.mk {x y z t : O.Fe} {P : Point} (hx : S.R (min 3 S.cap) x) (hy : S.R (min 3 S.cap) y)
    (hz : S.R (min 3 S.cap) z) (ht : S.R (min 3 S.cap) t)
    (rep : EdAlg.RepP1P1 (S.ev x) (S.ev y) (S.ev z) (S.ev t) (P.x : Fp) (P.y : Fp)) : P1P1Ok S (O.p1p1.make x y z t) P := by
  unfold P1P1Ok; rw [O.p1p1.p1_mk, O.p1p1.p2_mk, O.p1p1.p3_mk, O.p1p1.p4_mk]; exact ⟨hx, hy, hz, ht, rep⟩

theorem CachedOk.mk {x y z t : O.Fe} {P : Point} (hx : S.R (min 2 S.cap) x) (hy : S.R (min 2 S.cap) y) (hz : S.R 1 z)
    (ht : S.R 1 t) (rep : EdAlg.RepCached dF (S.ev x) (S.ev y) (S.ev z) (S.ev t) (P.x : Fp) (P.y : Fp)) :
    CachedOk S (O.cached.make x y z t) P := by
  unfold CachedOk; rw [O.cached.p1_mk, O.cached.p2_mk, O.cached.p3_mk, O.cached.p4_mk]; exact ⟨hx, hy, hz, ht, rep⟩

theorem PrecompOk.mk {x y z : O.Fe} {P : Point} (hx : S.R 1 x) (hy : S.R 1 y) (hz : S.R 1 z)
    (rep : EdAlg.RepPrecomp dF (S.ev x) (S.ev y) (S.ev z) (P.x : Fp) (P.y : Fp)) : PrecompOk S (O.precomp.make x y z) P := by
  unfold PrecompOk; rw [O.precomp.p1_mk, O.precomp.p2_mk, O.precomp.p3_mk]; exact ⟨hx, hy, hz, rep⟩

theorem to_full_ok (r : O.p1p1.T) (P : Point) (h : P1P1Ok S r P) : ∃ g, P1P1.to_full O r = some g ∧ GeOk S g P := by
  obtain ⟨tx, ty, tz, tt, rep⟩ := h
  unfold P1P1.to_full
  refine bind_ok (S.mul_ok _ _ (cw tx) (cw tt)) fun x ⟨hx, vx⟩ => ?_
  refine bind_ok (S.mul_ok _ _ (cw ty) (cw tz)) fun y ⟨hy, vy⟩ => ?_
  refine bind_ok (S.mul_ok _ _ (cw tz) (cw tt)) fun z ⟨hz, vz⟩ => ?_
  refine bind_ok (S.mul_ok _ _ (cw tx) (cw ty)) fun t ⟨ht, vt⟩ => ?_
  refine ⟨_, rfl, GeOk.mk hx hy hz ht ?_⟩
  rw [vx, vy, vz, vt]
  exact EdAlg.p1p1_to_full rep

theorem to_partial_ok (r : O.p1p1.T) (P : Point) (h : P1P1Ok S r P) :
    ∃ g, P1P1.to_partial O r = some g ∧ PartialOk S g P := by
  obtain ⟨tx, ty, tz, tt, rep⟩ := h
  unfold P1P1.to_partial
  refine bind_ok (S.mul_ok _ _ (cw tx) (cw tt)) fun x ⟨hx, vx⟩ => ?_
  refine bind_ok (S.mul_ok _ _ (cw ty) (cw tz)) fun y ⟨hy, vy⟩ => ?_
  refine bind_ok (S.mul_ok _ _ (cw tz) (cw tt)) fun z ⟨hz, vz⟩ => ?_
  refine ⟨_, rfl, PartialOk.mk hx hy hz ?_⟩
  rw [vx, vy, vz]
  exact EdAlg.p1p1_to_partial rep

theorem to_cached_ok (g : O.ge.T) (P : Point) (h : GeOk S g P) : ∃ c, Ge.to_cached O g = some c ∧ CachedOk S c P := by
  obtain ⟨tx, ty, tz, tt, rep⟩ := h
  unfold Ge.to_cached
  refine bind_ok (S.add_ok _ _ ty tx) fun a ⟨ha, va⟩ => ?_
  refine bind_ok (S.sub_ok _ _ ty tx) fun b ⟨hb, vb⟩ => ?_
  refine bind_ok (S.mul_ok _ _ (w3 tt) (w3 S.D2_spec.1)) fun c ⟨hc, vc⟩ => ?_
  refine ⟨_, rfl, CachedOk.mk ha hb tz hc ?_⟩
  rw [va, vb, vc, S.ev_D2]
  exact EdAlg.to_cached rep

/-! The four addition formulas (`impl Add/Sub<&GeCached/&GePrecomp> for &Ge`) share their first five and their last four
    operations; they differ in which table field meets `y1+x1`, in `d` (`2·z1·z2` or `2·z1`) and in the sign of the last two lines.
    Weights (uncapped): y1±x1 2;  a, b, c 1;  d 2;  x3, y3 = a ∓ b 2;  z3, t3 = d ± c 3. -/

theorem addsub_head {β : Type} (g : O.ge.T) {P : Point} (hg : GeOk S g P) (m1 m2 tc : O.Fe) (h1 : S.R 3 m1) (h2 : S.R 3 m2)
    (hc : S.R 3 tc) (K : O.Fe → O.Fe → O.Fe → Option β) (Q : β → Prop)
    (hK : ∀ a b c, S.R 1 a → S.R 1 b → S.R 1 c → S.ev a = (S.ev (O.ge.p2 g) + S.ev (O.ge.p1 g)) * S.ev m1 →
      S.ev b = (S.ev (O.ge.p2 g) - S.ev (O.ge.p1 g)) * S.ev m2 → S.ev c = S.ev tc * S.ev (O.ge.p4 g) →
      ∃ r, K a b c = some r ∧ Q r) :
    ∃ r, (do
      let y1_plus_x1 ← O.add (O.ge.p2 g) (O.ge.p1 g)
      let y1_minus_x1 ← O.sub (O.ge.p2 g) (O.ge.p1 g)
      let a ← O.mul y1_plus_x1 m1
      let b ← O.mul y1_minus_x1 m2
      let c ← O.mul tc (O.ge.p4 g)
      K a b c) = some r ∧ Q r := by
  obtain ⟨tx, ty, _, tt, _⟩ := hg
  refine bind_ok (S.add_ok _ _ ty tx) fun s1 ⟨hs1, v1⟩ => ?_
  refine bind_ok (S.sub_ok _ _ ty tx) fun s2 ⟨hs2, v2⟩ => ?_
  refine bind_ok (S.mul_ok _ _ (cw hs1) h1) fun a ⟨ha, va⟩ => ?_
  refine bind_ok (S.mul_ok _ _ (cw hs2) h2) fun b ⟨hb, vb⟩ => ?_
  refine bind_ok (S.mul_ok _ _ hc (w3 tt)) fun c ⟨hcc, vc⟩ => ?_
  exact hK a b c ha hb hcc (by rw [va, v1]) (by rw [vb, v2]) vc

theorem addsub_tail (a b c d : O.Fe) (ha : S.R 1 a) (hb : S.R 1 b) (hc : S.R 1 c) (hd : S.R (min 2 S.cap) d) (sub : Bool)
    (Pt : Point) (rep : EdAlg.RepP1P1 (S.ev a - S.ev b) (S.ev a + S.ev b)
      (if sub then S.ev d - S.ev c else S.ev d + S.ev c) (if sub then S.ev d + S.ev c else S.ev d - S.ev c) (Pt.x : Fp) (Pt.y : Fp)) :
    ∃ r, (do
      let x3 ← O.sub a b
      let y3 ← O.add a b
      let z3 ← if sub then O.sub d c else O.add d c
      let t3 ← if sub then O.add d c else O.sub d c
      pure (O.p1p1.make x3 y3 z3 t3)) = some r ∧ P1P1Ok S r Pt := by
  refine bind_ok (S.sub_ok _ _ ha hb) fun x3 ⟨hx3, vx3⟩ => ?_
  refine bind_ok (S.add_ok _ _ ha hb) fun y3 ⟨hy3, vy3⟩ => ?_
  cases sub
  · refine bind_ok (S.add_ok _ _ (cw hd (b := 2)) hc) fun z3 ⟨hz3, vz3⟩ => ?_
    refine bind_ok (S.sub_ok _ _ (cw hd (b := 2)) hc) fun t3 ⟨ht3, vt3⟩ => ?_
    exact ⟨_, rfl, P1P1Ok.mk (cwc hx3) (cwc hy3) hz3 ht3 (by rw [vx3, vy3, vz3, vt3]; exact rep)⟩
  · refine bind_ok (S.sub_ok _ _ (cw hd (b := 2)) hc) fun z3 ⟨hz3, vz3⟩ => ?_
    refine bind_ok (S.add_ok _ _ (cw hd (b := 2)) hc) fun t3 ⟨ht3, vt3⟩ => ?_
    exact ⟨_, rfl, P1P1Ok.mk (cwc hx3) (cwc hy3) hz3 ht3 (by rw [vx3, vy3, vz3, vt3]; exact rep)⟩

theorem add_cached_ok (g : O.ge.T) (c : O.cached.T) (P Q : Point) (hg : GeOk S g P) (hc : CachedOk S c Q)
    (hP : OnCurve P) (hQ : OnCurve Q) :
    ∃ r, Ge.add_cached O g c = some r ∧ P1P1Ok S r (Edwards.add P Q) := by
  obtain ⟨cp, cm, cz, ct, crep⟩ := hc
  obtain ⟨dp, dm⟩ := denoms P Q hP hQ
  unfold Ge.add_cached
  refine addsub_head g hg _ _ _ (cw cp) (cw cm) (w3 ct) _ _ fun a b cc ha hb hcc va vb vc => ?_
  refine bind_ok (S.mul_ok _ _ (w3 hg.2.2.1) (w3 cz)) fun zz ⟨hzz, vzz⟩ => ?_
  refine bind_ok (S.add_ok _ _ hzz hzz) fun d ⟨hd, vd⟩ => ?_
  refine addsub_tail a b cc d ha hb hcc hd false _ ?_
  rw [va, vb, vc, vd, vzz, cast_add_x, cast_add_y]
  exact EdAlg.add_cached two_ne_zero hg.2.2.2.2 crep dp dm

theorem sub_cached_ok (g : O.ge.T) (c : O.cached.T) (P Q : Point) (hg : GeOk S g P) (hc : CachedOk S c Q)
    (hP : OnCurve P) (hQ : OnCurve Q) :
    ∃ r, Ge.sub_cached O g c = some r ∧ P1P1Ok S r (Edwards.sub P Q) := by
  obtain ⟨cp, cm, cz, ct, crep⟩ := hc
  obtain ⟨dp, dm⟩ := denoms P (Edwards.neg Q) hP (neg_onCurve Q hQ)
  rw [cast_neg_x, cast_neg_y] at dp dm
  unfold Ge.sub_cached
  refine addsub_head g hg _ _ _ (cw cm) (cw cp) (w3 ct) _ _ fun a b cc ha hb hcc va vb vc => ?_
  refine bind_ok (S.mul_ok _ _ (w3 hg.2.2.1) (w3 cz)) fun zz ⟨hzz, vzz⟩ => ?_
  refine bind_ok (S.add_ok _ _ hzz hzz) fun d ⟨hd, vd⟩ => ?_
  refine addsub_tail a b cc d ha hb hcc hd true _ ?_
  unfold Edwards.sub
  rw [va, vb, vc, vd, vzz, cast_add_x, cast_add_y, cast_neg_x, cast_neg_y]
  exact EdAlg.sub_cached two_ne_zero hg.2.2.2.2 crep dp dm

theorem add_precomp_ok (g : O.ge.T) (c : O.precomp.T) (P Q : Point) (hg : GeOk S g P) (hc : PrecompOk S c Q)
    (hP : OnCurve P) (hQ : OnCurve Q) :
    ∃ r, Ge.add_precomp O g c = some r ∧ P1P1Ok S r (Edwards.add P Q) := by
  obtain ⟨cp, cm, ct, crep⟩ := hc
  obtain ⟨dp, dm⟩ := denoms P Q hP hQ
  unfold Ge.add_precomp
  refine addsub_head g hg _ _ _ (w3 cp) (w3 cm) (w3 ct) _ _ fun a b cc ha hb hcc va vb vc => ?_
  refine bind_ok (S.add_ok _ _ hg.2.2.1 hg.2.2.1) fun d ⟨hd, vd⟩ => ?_
  refine addsub_tail a b cc d ha hb hcc hd false _ ?_
  rw [va, vb, vc, vd, cast_add_x, cast_add_y]
  have := EdAlg.add_cached two_ne_zero hg.2.2.2.2 (EdAlg.precomp_as_cached crep) dp dm
  simp only [mul_one] at this
  exact this

theorem sub_precomp_ok (g : O.ge.T) (c : O.precomp.T) (P Q : Point) (hg : GeOk S g P) (hc : PrecompOk S c Q)
    (hP : OnCurve P) (hQ : OnCurve Q) :
    ∃ r, Ge.sub_precomp O g c = some r ∧ P1P1Ok S r (Edwards.sub P Q) := by
  obtain ⟨cp, cm, ct, crep⟩ := hc
  obtain ⟨dp, dm⟩ := denoms P (Edwards.neg Q) hP (neg_onCurve Q hQ)
  rw [cast_neg_x, cast_neg_y] at dp dm
  unfold Ge.sub_precomp
  refine addsub_head g hg _ _ _ (w3 cm) (w3 cp) (w3 ct) _ _ fun a b cc ha hb hcc va vb vc => ?_
  refine bind_ok (S.add_ok _ _ hg.2.2.1 hg.2.2.1) fun d ⟨hd, vd⟩ => ?_
  refine addsub_tail a b cc d ha hb hcc hd true _ ?_
  unfold Edwards.sub
  rw [va, vb, vc, vd, cast_add_x, cast_add_y, cast_neg_x, cast_neg_y]
  have := EdAlg.sub_cached two_ne_zero hg.2.2.2.2 (EdAlg.precomp_as_cached crep) dp dm
  simp only [mul_one] at this
  exact this

/-- the doubling formulas shared by `Ge::double_p1p1` and `GePartial::double_p1p1`.
    Weights (uncapped): x3 = aa − (yy+xx) 3;  z3 = yy − xx 2;  t3 = b − z3: `sq` + 2 -/
theorem double_p1p1_xyz_ok (x y z : O.Fe) (P : Point) (tx : S.R 1 x) (ty : S.R 1 y) (tz : S.R 1 z)
    (rep : EdAlg.RepProj (S.ev x) (S.ev y) (S.ev z) (P.x : Fp) (P.y : Fp)) (hP : OnCurve P) :
    ∃ r, double_p1p1_xyz O x y z = some r ∧ P1P1Ok S r (Edwards.double P) := by
  obtain ⟨dp, dm⟩ := denoms P P hP hP
  unfold double_p1p1_xyz
  refine bind_ok (S.square_ok x (w3 tx)) fun xx ⟨hxx, vxx⟩ => ?_
  refine bind_ok (S.square_ok y (w3 ty)) fun yy ⟨hyy, vyy⟩ => ?_
  refine bind_ok (S.sqd_ok z (w3 tz)) fun b ⟨hb, vb⟩ => ?_
  refine bind_ok (S.add_ok x y tx ty) fun a ⟨ha, va⟩ => ?_
  refine bind_ok (S.square_ok a (cw ha)) fun aa ⟨haa, vaa⟩ => ?_
  refine bind_ok (S.add_ok yy xx hyy hxx) fun y3 ⟨hy3, vy3⟩ => ?_
  refine bind_ok (S.sub_ok yy xx hyy hxx) fun z3 ⟨hz3, vz3⟩ => ?_
  refine bind_ok (S.sub_ok aa y3 haa (cw hy3 (b := 2))) fun x3 ⟨hx3, vx3⟩ => ?_
  refine bind_ok (S.sub_ok b z3 hb (cw hz3 (b := 2)) ⟨S.sq_le.1, S.sq_le.2.1, by decide⟩) fun t3 ⟨ht3, vt3⟩ => ?_
  refine ⟨_, rfl, P1P1Ok.mk hx3 (cwc hy3) (cwc hz3) (S.mono S.sq_le.2.2 ht3) ?_⟩
  unfold Edwards.double
  rw [vx3, vt3, vy3, vz3, vaa, va, vb, vxx, vyy, cast_add_x, cast_add_y]
  exact EdAlg.double_p1p1 rep ((onCurve_iff P).1 hP).2.2 dp dm

theorem ge_double_p1p1_ok (g : O.ge.T) (P : Point) (hg : GeOk S g P) (hP : OnCurve P) :
    ∃ r, Ge.double_p1p1 O g = some r ∧ P1P1Ok S r (Edwards.double P) :=
  double_p1p1_xyz_ok _ _ _ P hg.1 hg.2.1 hg.2.2.1 hg.2.2.2.2.toProj hP

theorem partial_double_p1p1_ok (g : O.part.T) (P : Point) (hg : PartialOk S g P) (hP : OnCurve P) :
    ∃ r, Part.double_p1p1 O g = some r ∧ P1P1Ok S r (Edwards.double P) :=
  double_p1p1_xyz_ok _ _ _ P hg.1 hg.2.1 hg.2.2.1 hg.2.2.2 hP

theorem ge_double_partial_ok (g : O.ge.T) (P : Point) (hg : GeOk S g P) (hP : OnCurve P) :
    ∃ q, Ge.double_partial O g = some q ∧ PartialOk S q (Edwards.double P) :=
  bind_ok (ge_double_p1p1_ok g P hg hP) fun r hr => to_partial_ok r _ hr

theorem partial_double_ok (g : O.part.T) (P : Point) (hg : PartialOk S g P) (hP : OnCurve P) :
    ∃ q, Part.double O g = some q ∧ PartialOk S q (Edwards.double P) :=
  bind_ok (partial_double_p1p1_ok g P hg hP) fun r hr => to_partial_ok r _ hr

theorem partial_double_full_ok (g : O.part.T) (P : Point) (hg : PartialOk S g P) (hP : OnCurve P) :
    ∃ q, Part.double_full O g = some q ∧ GeOk S q (Edwards.double P) :=
  bind_ok (partial_double_p1p1_ok g P hg hP) fun r hr => to_full_ok r _ hr

theorem negate_ok (g : O.ge.T) (P : Point) (hg : GeOk S g P) : ∃ r, Ge.negate O g = some r ∧ GeOk S r (Edwards.neg P) := by
  obtain ⟨tx, ty, tz, tt, rep⟩ := hg
  unfold Ge.negate
  refine bind_ok (S.neg_ok _ tx) fun x ⟨hx, vx⟩ => ?_
  refine bind_ok (S.neg_ok _ tt) fun t ⟨ht, vt⟩ => ?_
  refine ⟨_, rfl, GeOk.mk (cw hx) ty tz (cw ht) ?_⟩
  rw [vx, vt, cast_neg_x, cast_neg_y]
  exact EdAlg.negate rep

theorem ZERO_ok : GeOk S (Ge.ZERO O) Edwards.zero :=
  GeOk.mk S.ZERO_spec.1 S.ONE_spec.1 S.ONE_spec.1 S.ZERO_spec.1 (by
    show EdAlg.RepExt (S.ev O.ZERO) (S.ev O.ONE) (S.ev O.ONE) (S.ev O.ZERO) ((0 : Nat) : Fp) ((1 : Nat) : Fp)
    rw [S.ev_ZERO, S.ev_ONE]; push_cast; exact EdAlg.ext_zero)

theorem partial_ZERO_ok : PartialOk S (Part.ZERO O) Edwards.zero :=
  PartialOk.mk S.ZERO_spec.1 S.ONE_spec.1 S.ONE_spec.1 (by
    show EdAlg.RepProj (S.ev O.ZERO) (S.ev O.ONE) (S.ev O.ONE) ((0 : Nat) : Fp) ((1 : Nat) : Fp)
    rw [S.ev_ZERO, S.ev_ONE]; push_cast; exact EdAlg.ext_zero.toProj)

end prime
end Cx.Proofs.GeG
