/-
  Proofs.GeRecode — the signed radix-16 recoding inside `Ge::scalarmult_base` (Impl.Ge.recode):
  for 64 nibbles in [0,15] with the top nibble ≤ 7 (i.e. a < 2^255) the carry loop never overflows `i8`, returns
  64 digits in [−8, 8] and preserves the value Σ e_i·16^i.
-/
import CxVerif.Impl.Ge
import CxVerif.Spec.ScalarL
import CxVerif.Proofs.Digits
import CxVerif.Proofs.OptionSteps
import Mathlib.Tactic.Ring
namespace Cx.Proofs.GeRecode
open Cx.Impl.Ge
open Cx.Impl.Scalar64 (ckI8 shlI8)
open Cx.Spec.ScalarL (evalDigits)
open Cx.Proofs.Digits (evalDigits_append)

theorem ckI8_some {v : Int} (h : -128 ≤ v ∧ v ≤ 127) : ckI8 v = some v := by
  unfold ckI8; rw [if_pos h]

theorem shlI8_4 {c : Int} (h : c = 0 ∨ c = 1) : shlI8 c 4 = 16 * c := by
  unfold shlI8; rcases h with h | h <;> subst h <;> decide

theorem recodeLoop_spec : ∀ (es : List Int) (c : Int), (∀ e ∈ es, 0 ≤ e ∧ e ≤ 15) → (c = 0 ∨ c = 1) →
    ∃ r c', recodeLoop es c = some (r, c') ∧ r.length = es.length ∧ (c' = 0 ∨ c' = 1) ∧
      (∀ e ∈ r, -8 ≤ e ∧ e ≤ 7) ∧
      evalDigits 16 r + 16 ^ es.length * c' = evalDigits 16 es + c := by
  intro es
  induction es with
  | nil => intro c _ hc; exact ⟨[], c, rfl, rfl, hc, by simp, by simp [evalDigits]⟩
  | cons e es ih =>
    intro c hes hc
    have he := hes e (by simp)
    have hc2 : (e + c + 8) / 16 = 0 ∨ (e + c + 8) / 16 = 1 := by omega
    obtain ⟨r, c', hr, hlen, hc', hrange, hval⟩ := ih ((e + c + 8) / 16) (fun x hx => hes x (by simp [hx])) hc2
    refine ⟨(e + c - 16 * ((e + c + 8) / 16)) :: r, c', ?_, by simp [hlen], hc', ?_, ?_⟩
    · rw [recodeLoop]
      refine bind_some_of (ckI8_some (by omega)) (bind_some_of (ckI8_some (by omega)) ?_)
      dsimp only; rw [shlI8_4 hc2]
      exact bind_some_of (ckI8_some (by omega)) (bind_some_of hr rfl)
    · intro x hx
      rcases List.mem_cons.1 hx with h | h
      · subst h; omega
      · exact hrange x h
    · simp only [evalDigits, List.length_cons, pow_succ]
      have : (16 : Int) ^ es.length * 16 * c' = 16 * (16 ^ es.length * c') := by ring
      rw [this]
      have hv : (16:Int) ^ es.length * c' = evalDigits 16 es + (e + c + 8) / 16 - evalDigits 16 r := by omega
      rw [hv]
      push_cast
      ring

theorem recode_spec (es : List Int) (hlen : es.length = 64) (hes : ∀ e ∈ es, 0 ≤ e ∧ e ≤ 15)
    (htop : ∀ t, es[63]? = some t → t ≤ 7) :
    ∃ r, recode es = some r ∧ r.length = 64 ∧ (∀ e ∈ r, -8 ≤ e ∧ e ≤ 8) ∧ evalDigits 16 r = evalDigits 16 es := by
  have ht : es[63]? = some es[63] := List.getElem?_eq_getElem (by omega)
  have ht7 := htop _ ht
  have htr := hes es[63] (List.getElem_mem _)
  have hsplit : es = es.take 63 ++ [es[63]] := by
    rw [← List.take_succ_eq_append_getElem (by omega), List.take_of_length_le (by omega)]
  obtain ⟨lo, c, hlo, hlolen, hc, hrange, hval⟩ :=
    recodeLoop_spec (es.take 63) 0 (fun x hx => hes x (List.mem_of_mem_take hx)) (Or.inl rfl)
  have hl63 : (es.take 63).length = 63 := by simp [hlen]
  refine ⟨lo ++ [es[63] + c], ?_, by simp [hlolen, hl63], ?_, ?_⟩
  · rw [recode]
    exact bind_some_of hlo (bind_some_of ht (bind_some_of (ckI8_some (by omega)) rfl))
  · intro x hx
    rcases List.mem_append.1 hx with h | h
    · have := hrange x h; omega
    · simp at h; subst h; omega
  · conv_rhs => rw [hsplit]
    rw [evalDigits_append, evalDigits_append, hlolen, hl63]
    rw [hl63] at hval
    simp only [evalDigits, Nat.cast_ofNat, mul_zero, add_zero] at hval ⊢
    generalize (16 : Int) ^ 63 = P at hval ⊢
    rw [← hval]; ring
end Cx.Proofs.GeRecode
