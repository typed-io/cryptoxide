/-
  Proofs.GeRefine — the 64-bit backend as an instance of the generic group layer: Impl/Ge.lean is the text of
  Proofs/GeGeneric.lean at `sig64` (equations by unfolding), Impl/Fe64.lean meets the contract of Proofs/GeGenericRefine.lean
  (`spec64`, from the Fe64 refinement library Proofs/Fe64*.lean), and the representation predicates of this backend
  (`GeOk`, `PartialOk`, `P1P1Ok`, `CachedOk`, `PrecompOk`: every limb `Tight`) are the generic ones at `spec64`.  The theorems about
  the formulas of Impl/Ge.lean are the generic theorems read through these three facts.
  Both sets of predicates exist because the statements of Props/C15 are written with the ones here (structures with named
  fields over `Tight`), while the proofs are about the generic ones; `geOk_iff` … `precompOk_iff` pass between them.
  The predicates compare values in the field `ZMod p`, so they and every theorem about them take `[Fact (Nat.Prime p)]` as
  an instance argument.
-/
import CxVerif.Proofs.GeGenericRefine
import CxVerif.Proofs.Fe64Chain
import CxVerif.Proofs.Fe64Pred
import CxVerif.Proofs.Fe64FromBytes
import CxVerif.Impl.Ge
namespace Cx.Proofs.GeRefine
open Cx.Spec Cx.Impl.Fe64 Cx.Impl.Ge Cx.Proofs.EdField Cx.Proofs.EdSpec
open Cx.Proofs.Fe64 (eval Tight Loose SubOk Pub Bnd)
open Cx.Spec.Edwards (Point)
open Cx.Spec.Field25519 (p)

noncomputable def ev (f : Fe) : Fp := ((eval f : Nat) : Fp)

def sig64 : GeG.Sig where
  Fe := Fe
  add := add
  sub := sub
  mul := mul
  neg := neg
  square := square
  square_and_double := square_and_double
  invert := invert
  pow25523 := pow25523
  negate_mut := negate_mut
  from_bytes s h := some (from_bytes s h)
  to_bytes := to_bytes
  is_nonzero := is_nonzero
  is_negative := is_negative
  maybe_set := maybe_set
  ZERO := Fe.ZERO
  ONE := Fe.ONE
  D := Fe.D
  D2 := Fe.D2
  SQRTM1 := Fe.SQRTM1
  aff := ⟨GeAffine, .mk, (·.x), (·.y), fun _ _ => rfl, fun _ _ => rfl⟩
  ge := ⟨Ge, .mk, (·.x), (·.y), (·.z), (·.t), fun _ _ _ _ => rfl, fun _ _ _ _ => rfl, fun _ _ _ _ => rfl, fun _ _ _ _ => rfl⟩
  p1p1 := ⟨GeP1P1, .mk, (·.x), (·.y), (·.z), (·.t), fun _ _ _ _ => rfl, fun _ _ _ _ => rfl, fun _ _ _ _ => rfl,
    fun _ _ _ _ => rfl⟩
  cached := ⟨GeCached, .mk, (·.y_plus_x), (·.y_minus_x), (·.z), (·.t2d), fun _ _ _ _ => rfl, fun _ _ _ _ => rfl,
    fun _ _ _ _ => rfl, fun _ _ _ _ => rfl⟩
  part := ⟨GePartial, .mk, (·.x), (·.y), (·.z), fun _ _ _ => rfl, fun _ _ _ => rfl, fun _ _ _ => rfl⟩
  precomp := ⟨GePrecomp, .mk, (·.y_plus_x), (·.y_minus_x), (·.xy2d), fun _ _ _ => rfl, fun _ _ _ => rfl, fun _ _ _ => rfl⟩
  GE_BASE := GE_BASE
  BI := BI
  Scalar := Impl.Scalar64.Scalar
  nibbles a := (Impl.Scalar64.nibbles a).toList
  slide := Impl.Scalar64.slide

/-! To compare `Fe64.mul a b` with `sig64.mul a' b'` the unifier unfolds the field operation before the signature and walks its body on
    symbolic limbs.  Hence three habits.  An equation `f = g sig64` for a function of the model that calls nothing of ge.rs is proved by
    `unfold f g sig64; with_reducible rfl`, not by `rfl`: with `sig64` unfolded to its structure literal the projections reduce without any
    unfolding, and `with_reducible` keeps the field operations closed.  The equations go bottom-up: a function that calls others is compared
    after its callees have been rewritten, so that the closing `rfl` meets two equal texts.  And they are used by `rw`/`▸` only, never left to
    `exact` or `simp only`. -/

theorem to_partial_eq : GeP1P1.to_partial = GeG.P1P1.to_partial sig64 := by unfold GeP1P1.to_partial GeG.P1P1.to_partial sig64; with_reducible rfl
theorem to_full_eq : GeP1P1.to_full = GeG.P1P1.to_full sig64 := by unfold GeP1P1.to_full GeG.P1P1.to_full sig64; with_reducible rfl
theorem double_p1p1_xyz_eq : double_p1p1_xyz = GeG.double_p1p1_xyz sig64 := by unfold double_p1p1_xyz GeG.double_p1p1_xyz sig64; with_reducible rfl
theorem select_eq : GePrecomp.select = GeG.Precomp.select sig64 := by
  unfold GePrecomp.select GePrecomp.maybe_set GePrecomp.ZERO GeG.Precomp.select GeG.Precomp.maybe_set GeG.Precomp.ZERO sig64
  with_reducible rfl
theorem add_cached_eq : Ge.add_cached = GeG.Ge.add_cached sig64 := by unfold Ge.add_cached GeG.Ge.add_cached sig64; with_reducible rfl
theorem sub_cached_eq : Ge.sub_cached = GeG.Ge.sub_cached sig64 := by unfold Ge.sub_cached GeG.Ge.sub_cached sig64; with_reducible rfl
theorem add_precomp_eq : Ge.add_precomp = GeG.Ge.add_precomp sig64 := by unfold Ge.add_precomp GeG.Ge.add_precomp sig64; with_reducible rfl
theorem sub_precomp_eq : Ge.sub_precomp = GeG.Ge.sub_precomp sig64 := by unfold Ge.sub_precomp GeG.Ge.sub_precomp sig64; with_reducible rfl
theorem partial_double_p1p1_eq : GePartial.double_p1p1 = GeG.Part.double_p1p1 sig64 := by
  unfold GePartial.double_p1p1 GeG.Part.double_p1p1; rw [double_p1p1_xyz_eq]; rfl

theorem ge_double_p1p1_eq : Ge.double_p1p1 = GeG.Ge.double_p1p1 sig64 := by unfold Ge.double_p1p1 GeG.Ge.double_p1p1; rw [double_p1p1_xyz_eq]; rfl

theorem combLoop_eq : combLoop = GeG.combLoop sig64 := by
  funext es off n j h
  induction n generalizing j h with
  | zero => rfl
  | succ n ih => simp only [combLoop, GeG.combLoop, ih, select_eq, add_precomp_eq, to_full_eq]; rfl

/-- `with_reducible`: at default transparency `rfl` brings both sides to weak head normal form and evaluates `nibbles` -/
theorem nibbles_eq : sig64.nibbles = fun a => (Impl.Scalar64.nibbles a).toList := by unfold sig64; with_reducible rfl

theorem scalarmult_base_eq : Ge.scalarmult_base = GeG.Ge.scalarmult_base sig64 := by
  unfold Ge.scalarmult_base Ge.ZERO Ge.double_partial GePartial.double GePartial.double_full GeG.Ge.scalarmult_base GeG.Ge.ZERO
    GeG.Ge.double_partial GeG.Part.double GeG.Part.double_full
  rw [combLoop_eq, ge_double_p1p1_eq, partial_double_p1p1_eq, to_partial_eq, to_full_eq, nibbles_eq]; rfl

theorem negate_eq : Ge.negate = GeG.Ge.negate sig64 := by unfold Ge.negate GeG.Ge.negate sig64; with_reducible rfl
theorem to_cached_eq : Ge.to_cached = GeG.Ge.to_cached sig64 := by unfold Ge.to_cached GeG.Ge.to_cached sig64; with_reducible rfl

theorem dsmLoop_eq : dsmLoop = GeG.dsmLoop sig64 := by
  funext ai al bl n r
  induction n generalizing r with
  | zero => rfl
  | succ n ih =>
    simp only [dsmLoop, GeG.dsmLoop, ih, dsmStep, GeG.dsmStep, partial_double_p1p1_eq, to_full_eq, add_cached_eq, sub_cached_eq,
      add_precomp_eq, sub_precomp_eq, to_partial_eq]
    rfl

theorem ge_to_bytes_eq : Ge.to_bytes = GeG.Ge.to_bytes sig64 := by
  unfold Ge.to_bytes Ge.to_affine GeAffine.to_bytes GeG.Ge.to_bytes GeG.Ge.to_affine GeG.Aff.to_bytes sig64; with_reducible rfl
theorem partial_to_bytes_eq : GePartial.to_bytes = GeG.Part.to_bytes sig64 := by unfold GePartial.to_bytes GeG.Part.to_bytes sig64; with_reducible rfl

theorem from_bytes_field_eq : sig64.from_bytes = fun s h => some (Impl.Fe64.from_bytes s h) := by
  unfold sig64; with_reducible rfl

/-- fe64's `from_bytes` is total, the signature's checked: the bind of the generic text goes by `some_bind`, not by `rfl` (which
    would compare `some (from_bytes s h)` with the next operation, i.e. evaluate it on symbolic limbs) -/
theorem aff_from_bytes_eq : GeAffine.from_bytes = GeG.Aff.from_bytes sig64 := by
  funext s
  unfold GeAffine.from_bytes GeG.Aff.from_bytes
  split
  · rw [from_bytes_field_eq]; exact (some_bind _ _).symm
  · rfl

theorem from_affine_eq : Ge.from_affine = GeG.Ge.from_affine sig64 := by unfold Ge.from_affine GeG.Ge.from_affine sig64; with_reducible rfl

/-- the two `match`es are on values of the signature's record types: the model's matcher and the generic one are not unfolded
    into each other, so the cases are split -/
theorem ge_from_bytes_eq : Ge.from_bytes = GeG.Ge.from_bytes sig64 := by
  funext s
  unfold Ge.from_bytes GeG.Ge.from_bytes
  rw [← aff_from_bytes_eq, ← from_affine_eq]
  split
  · rename_i h; simp only [h]; rfl
  · rename_i h; simp only [h]; rfl
  · rename_i h; simp only [h]; split <;> rename_i h2 <;> simp only [h2] <;> rfl

theorem slide_eq : sig64.slide = Impl.Scalar64.slide := by unfold sig64; with_reducible rfl

theorem dsm_eq : GePartial.double_scalarmult_vartime = GeG.Part.double_scalarmult_vartime sig64 := by
  unfold GePartial.double_scalarmult_vartime nextOdd GePartial.ZERO GeG.Part.double_scalarmult_vartime GeG.nextOdd GeG.Part.ZERO
  rw [to_cached_eq, ge_double_p1p1_eq, to_full_eq, add_cached_eq, dsmLoop_eq, slide_eq]; rfl

/-! The bound words of Proofs/Fe64Basic.lean are weights of ONE scale, the bound `2^51 + 2^17` of a carried limb: `Tight` is weight 1,
    `Pub` (`2^52 + 2^18`) exactly weight 2, weight 3 lies within `SubOk` (`2^53 − 75`) and weight 7 within `Loose` (`2^54`). -/

def Wt (k : Nat) (f : Fe) : Prop := Bnd (k * (2^51 + 2^17)) f

theorem Wt.loose {k : Nat} {f : Fe} (h : Wt k f) (hk : k ≤ 7) : Loose f := Bnd.mono (by omega) h
theorem Wt.subOk {k : Nat} {f : Fe} (h : Wt k f) (hk : k ≤ 3) : SubOk f := Bnd.mono (by omega) h
theorem Wt.bnd64 {k : Nat} {f : Fe} (h : Wt k f) (hk : k ≤ 3) : Bnd (2^64) f := Bnd.mono (by omega) h
theorem Wt.ofTight {k : Nat} {f : Fe} (h : Tight f) (hk : 1 ≤ k) : Wt k f := Bnd.mono (by omega) h
theorem Wt.ofPub {f : Fe} (h : Pub f) : Wt 2 f := h
theorem Wt.of51 {f : Fe} (h : Bnd (2^51) f) : Wt 1 f := Bnd.mono (by decide) h

/-- every operator of fe64 carries, so results have weight 1 (`cap`); only `square_and_double` doubles after its carry
    (`sq` = 2, its result is `Pub`) -/
def spec64 : GeG.Contract sig64 where
  R := Wt
  eval := eval
  cap := 1
  sq := 2
  sq_le := by decide
  mono h := Bnd.mono (Nat.mul_le_mul_right _ h)
  add_spec f g hf hg h := (Proofs.Fe64.add_spec f g (hf.loose (by omega)) (hg.loose (by omega))).imp
    fun _ r => ⟨r.1, .ofTight r.2.1 (by omega), r.2.2⟩
  sub_spec f g hf hg h := (Proofs.Fe64.sub_spec f g (hf.loose (by omega)) (hg.subOk h.2.2)).imp
    fun _ r => ⟨r.1, .ofTight r.2.1 (by omega), r.2.2⟩
  neg_spec g hg h := (Proofs.Fe64.neg_spec g (hg.subOk h.2)).imp fun _ r => ⟨r.1, .ofTight r.2.1 (by omega), r.2.2⟩
  mul_spec f g hf hg := (Proofs.Fe64.mul_spec f g (hf.loose (by decide)) (hg.loose (by decide))).imp
    fun _ r => ⟨r.1, .ofTight r.2.1 (by decide), r.2.2⟩
  square_spec f hf := (Proofs.Fe64.square_spec f (hf.loose (by decide))).imp fun _ r => ⟨r.1, .ofTight r.2.1 (by decide), r.2.2⟩
  sqd_spec f hf := (Proofs.Fe64.square_and_double_spec f (hf.loose (by decide))).imp fun _ r => ⟨r.1, .ofPub r.2.1, r.2.2⟩
  maybe_set_spec f g hf hg h := Proofs.Fe64.maybe_set_spec f g (hf.bnd64 h) (hg.bnd64 h)
  ZERO_spec := ⟨.of51 Proofs.Fe64.ZERO_spec.1, Proofs.Fe64.ZERO_spec.2⟩
  ONE_spec := ⟨.of51 Proofs.Fe64.ONE_spec.1, Proofs.Fe64.ONE_spec.2⟩
  D2_spec := ⟨.of51 Proofs.Fe64.D2_spec.1, Proofs.Fe64.D2_spec.2⟩
  eval_lt := Proofs.Fe64.eval_lt
  invert_spec f hf := (Proofs.Fe64.invert_spec f (hf.loose (by decide))).imp fun _ r => ⟨r.1, .ofTight r.2.1 (by decide), r.2.2⟩
  pow25523_spec f hf := (Proofs.Fe64.pow25523_spec f (hf.loose (by decide))).imp
    fun _ r => ⟨r.1, .ofTight r.2.1 (by decide), r.2.2⟩
  negate_mut_spec g hg h := (Proofs.Fe64.negate_mut_spec g (hg.subOk h.2)).imp
    fun _ r => ⟨r.1, .ofTight r.2.1 (by omega), r.2.2⟩
  from_bytes_spec b h := ⟨_, rfl, .of51 (Proofs.Fe64.from_bytes_spec b h).1, Proofs.Fe64.from_bytes_eval b h⟩
  to_bytes_spec f hf := Proofs.Fe64.to_bytes_spec f (hf.loose (by decide))
  is_nonzero_spec f hf := Proofs.Fe64.is_nonzero_spec f (hf.loose (by decide))
  is_negative_spec f hf := Proofs.Fe64.is_negative_spec f (hf.loose (by decide))
  D_spec := ⟨.of51 Proofs.Fe64.D_spec.1, Proofs.Fe64.D_spec.2⟩
  SQRTM1_spec := ⟨.of51 Proofs.Fe64.SQRTM1_spec.1, Proofs.Fe64.SQRTM1_spec.2⟩

/-- the bridges below rewrite with this instead of letting the unifier unfold `eval` against a projection of `spec64` -/
theorem ev_eq : spec64.ev = ev := by unfold GeG.Contract.ev spec64 ev; rfl

theorem ev_D : ev Fe.D = dF := by unfold ev dF; rw [Proofs.Fe64.D_spec.2]; rfl

section prime
variable [hp : Fact (Nat.Prime p)]

structure GeOk (g : Ge) (P : Point) : Prop where
  tx : Tight g.x
  ty : Tight g.y
  tz : Tight g.z
  tt : Tight g.t
  rep : EdAlg.RepExt (ev g.x) (ev g.y) (ev g.z) (ev g.t) (P.x : Fp) (P.y : Fp)

structure PartialOk (g : GePartial) (P : Point) : Prop where
  tx : Tight g.x
  ty : Tight g.y
  tz : Tight g.z
  rep : EdAlg.RepProj (ev g.x) (ev g.y) (ev g.z) (P.x : Fp) (P.y : Fp)

structure P1P1Ok (g : GeP1P1) (P : Point) : Prop where
  tx : Tight g.x
  ty : Tight g.y
  tz : Tight g.z
  tt : Tight g.t
  rep : EdAlg.RepP1P1 (ev g.x) (ev g.y) (ev g.z) (ev g.t) (P.x : Fp) (P.y : Fp)

structure CachedOk (c : GeCached) (P : Point) : Prop where
  tp : Tight c.y_plus_x
  tm : Tight c.y_minus_x
  tz : Tight c.z
  tt : Tight c.t2d
  rep : EdAlg.RepCached dF (ev c.y_plus_x) (ev c.y_minus_x) (ev c.z) (ev c.t2d) (P.x : Fp) (P.y : Fp)

structure PrecompOk (c : GePrecomp) (P : Point) : Prop where
  tp : Tight c.y_plus_x
  tm : Tight c.y_minus_x
  tt : Tight c.xy2d
  rep : EdAlg.RepPrecomp dF (ev c.y_plus_x) (ev c.y_minus_x) (ev c.xy2d) (P.x : Fp) (P.y : Fp)

/-! they are the generic predicates at `spec64` (weight 1 is `Tight`, `cap` = 1) -/

theorem geOk_iff {g : Ge} {P : Point} : GeOk g P ↔ GeG.GeOk spec64 g P :=
  ⟨fun ⟨a, b, c, d, r⟩ => ⟨a, b, c, d, ev_eq ▸ r⟩, fun ⟨a, b, c, d, r⟩ => ⟨a, b, c, d, ev_eq ▸ r⟩⟩
theorem partialOk_iff {g : GePartial} {P : Point} : PartialOk g P ↔ GeG.PartialOk spec64 g P :=
  ⟨fun ⟨a, b, c, r⟩ => ⟨a, b, c, ev_eq ▸ r⟩, fun ⟨a, b, c, r⟩ => ⟨a, b, c, ev_eq ▸ r⟩⟩
theorem p1p1Ok_iff {g : GeP1P1} {P : Point} : P1P1Ok g P ↔ GeG.P1P1Ok spec64 g P :=
  ⟨fun ⟨a, b, c, d, r⟩ => ⟨a, b, c, d, ev_eq ▸ r⟩, fun ⟨a, b, c, d, r⟩ => ⟨a, b, c, d, ev_eq ▸ r⟩⟩
theorem cachedOk_iff {g : GeCached} {P : Point} : CachedOk g P ↔ GeG.CachedOk spec64 g P :=
  ⟨fun ⟨a, b, c, d, r⟩ => ⟨a, b, c, d, ev_eq ▸ r⟩, fun ⟨a, b, c, d, r⟩ => ⟨a, b, c, d, ev_eq ▸ r⟩⟩
theorem precompOk_iff {g : GePrecomp} {P : Point} : PrecompOk g P ↔ GeG.PrecompOk spec64 g P :=
  ⟨fun ⟨a, b, c, r⟩ => ⟨a, b, c, ev_eq ▸ r⟩, fun ⟨a, b, c, r⟩ => ⟨a, b, c, ev_eq ▸ r⟩⟩

theorem to_full_ok (r : GeP1P1) (P : Point) (h : P1P1Ok r P) : ∃ g, r.to_full = some g ∧ GeOk g P :=
  to_full_eq ▸ GeG.ok_imp (fun _ => geOk_iff.2) (GeG.to_full_ok (S := spec64) r P (p1p1Ok_iff.1 h))

theorem to_cached_ok (g : Ge) (P : Point) (h : GeOk g P) : ∃ c, g.to_cached = some c ∧ CachedOk c P :=
  to_cached_eq ▸ GeG.ok_imp (fun _ => cachedOk_iff.2) (GeG.to_cached_ok (S := spec64) g P (geOk_iff.1 h))

theorem add_cached_ok (g : Ge) (c : GeCached) (P Q : Point) (hg : GeOk g P) (hc : CachedOk c Q)
    (hP : OnCurve P) (hQ : OnCurve Q) :
    ∃ r, g.add_cached c = some r ∧ P1P1Ok r (Edwards.add P Q) :=
  add_cached_eq ▸ GeG.ok_imp (fun _ => p1p1Ok_iff.2) (GeG.add_cached_ok (S := spec64) g c P Q (geOk_iff.1 hg) (cachedOk_iff.1 hc) hP hQ)

theorem sub_cached_ok (g : Ge) (c : GeCached) (P Q : Point) (hg : GeOk g P) (hc : CachedOk c Q)
    (hP : OnCurve P) (hQ : OnCurve Q) :
    ∃ r, g.sub_cached c = some r ∧ P1P1Ok r (Edwards.sub P Q) :=
  sub_cached_eq ▸ GeG.ok_imp (fun _ => p1p1Ok_iff.2) (GeG.sub_cached_ok (S := spec64) g c P Q (geOk_iff.1 hg) (cachedOk_iff.1 hc) hP hQ)

theorem ge_double_p1p1_ok (g : Ge) (P : Point) (hg : GeOk g P) (hP : OnCurve P) :
    ∃ r, g.double_p1p1 = some r ∧ P1P1Ok r (Edwards.double P) :=
  ge_double_p1p1_eq ▸ GeG.ok_imp (fun _ => p1p1Ok_iff.2) (GeG.ge_double_p1p1_ok (S := spec64) g P (geOk_iff.1 hg) hP)

theorem negate_ok (g : Ge) (P : Point) (hg : GeOk g P) : ∃ r, g.negate = some r ∧ GeOk r (Edwards.neg P) :=
  negate_eq ▸ GeG.ok_imp (fun _ => geOk_iff.2) (GeG.negate_ok (S := spec64) g P (geOk_iff.1 hg))

theorem ZERO_ok : GeOk Ge.ZERO Edwards.zero := geOk_iff.2 GeG.ZERO_ok

end prime

end Cx.Proofs.GeRefine
