/-
  Proofs.GeSelect — `GePrecomp::select(pos, b)` (constant-time table lookup with conditional negation), for any backend
  (`GeG.select_ok`, over the contract of Proofs/GeGenericRefine.lean): when the entries of row `pos` of GE_BASE represent
  the points `Q 0 … Q 7`, then for `−8 ≤ b ≤ 8` the result represents the identity (b = 0), `Q (|b|−1)` (b > 0) or its
  negation (b < 0).  The row is a variable; the eight masked sets are eight uses of one step whose statement is the loop
  invariant.  Which points the rows of a backend's table do represent is Proofs/GeTables.lean / Proofs/Fe32Tables.lean; the
  two meet in Proofs/GeComb.lean / Proofs/Ge32Comb.lean.  The masked sets are the theorems of Props/C18, through the contract.
-/
import CxVerif.Proofs.GeGenericRefine
namespace Cx.Proofs.GeSelect
open Cx.Spec Cx.Impl.Ge
open Cx.Props.C18 (Choice.ofBool)

theorem ct_eq_ofBool (a b : UInt8) : Impl.CT.u8_ct_eq a b = Choice.ofBool (decide (a = b)) := by
  rw [Cx.Props.C18.u8_ct_eq_spec]; unfold Choice.ofBool; by_cases h : a = b <;> simp [h]

theorem ct_nonzero_ofBool (a : UInt8) : Impl.CT.u8_ct_nonzero a = Choice.ofBool (decide (a ≠ 0)) := by
  rw [Cx.Props.C18.u8_ct_nonzero_spec]; unfold Choice.ofBool; by_cases h : a = 0 <;> simp [h]

theorem ofNat_eq_iff {a b : Nat} (ha : a < 256) (hb : b < 256) : UInt8.ofNat a = UInt8.ofNat b ↔ a = b := by
  constructor
  · intro h
    have := congrArg UInt8.toNat h
    simp only [UInt8.toNat_ofNat'] at this
    omega
  · intro h; rw [h]

def pointOf (Q : Nat → Edwards.Point) (m : Nat) : Edwards.Point := if m = 0 then Edwards.zero else Q (m - 1)

theorem babsOf_eq (b : Int) (hb : -8 ≤ b ∧ b ≤ 8) : babsOf b = some b.natAbs := by
  obtain ⟨h1, h2⟩ := hb
  interval_cases b <;> rfl

theorem bnegativeOf_eq (b : Int) (hb : -8 ≤ b ∧ b ≤ 8) : bnegativeOf b = if b < 0 then 1 else 0 := by
  obtain ⟨h1, h2⟩ := hb
  interval_cases b <;> rfl

theorem row8 {α : Type} {P : Nat → α → Prop} {x0 x1 x2 x3 x4 x5 x6 x7 : α} (h0 : P 0 x0) (h1 : P 1 x1) (h2 : P 2 x2) (h3 : P 3 x3)
    (h4 : P 4 x4) (h5 : P 5 x5) (h6 : P 6 x6) (h7 : P 7 x7) : ∀ k, k < 8 → ∃ e, [x0, x1, x2, x3, x4, x5, x6, x7][k]? = some e ∧ P k e
  | 0, _ => ⟨x0, rfl, h0⟩
  | 1, _ => ⟨x1, rfl, h1⟩
  | 2, _ => ⟨x2, rfl, h2⟩
  | 3, _ => ⟨x3, rfl, h3⟩
  | 4, _ => ⟨x4, rfl, h4⟩
  | 5, _ => ⟨x5, rfl, h5⟩
  | 6, _ => ⟨x6, rfl, h6⟩
  | 7, _ => ⟨x7, rfl, h7⟩
  | _ + 8, h => absurd h (by omega)

end Cx.Proofs.GeSelect

namespace Cx.Proofs.GeG
open Cx.Spec Cx.Proofs.EdField Cx.Proofs.EdSpec
open Cx.Props.C18 (Choice.ofBool)
open Cx.Proofs.GeSelect (ct_eq_ofBool ct_nonzero_ofBool ofNat_eq_iff pointOf babsOf_eq bnegativeOf_eq)

variable {O : Sig} {S : Contract O} [hp : Fact (Nat.Prime Field25519.p)]

/-- a masked set between two representations is the choice between them (the record interface has no eta rule; the
    predicate reads the projections only) -/
theorem maybe_set_ok {t e : O.precomp.T} {P Q : Edwards.Point} (ht : PrecompOk S t P) (he : PrecompOk S e Q)
    (c : Prop) [Decidable c] : PrecompOk S (Precomp.maybe_set O t e (Choice.ofBool (decide c))) (if c then Q else P) := by
  unfold Precomp.maybe_set
  rw [S.maybe_set_spec _ _ ht.1 he.1 (by decide), S.maybe_set_spec _ _ ht.2.1 he.2.1 (by decide),
    S.maybe_set_spec _ _ ht.2.2.1 he.2.2.1 (by decide)]
  by_cases h : c
  · simp only [if_pos h, decide_eq_true h]; exact PrecompOk.mk he.1 he.2.1 he.2.2.1 he.2.2.2
  · simp only [if_neg h, decide_eq_false h, Bool.false_eq_true, if_false]; exact PrecompOk.mk ht.1 ht.2.1 ht.2.2.1 ht.2.2.2

theorem precompZERO_ok : PrecompOk S (Precomp.ZERO O) Edwards.zero :=
  PrecompOk.mk S.ONE_spec.1 S.ONE_spec.1 S.ZERO_spec.1 (by
    show EdAlg.RepPrecomp dF (S.ev O.ONE) (S.ev O.ONE) (S.ev O.ZERO) ((0 : Nat) : Fp) ((1 : Nat) : Fp)
    rw [S.ev_ZERO, S.ev_ONE]; push_cast; exact EdAlg.precomp_zero dF)

/-- one pass of the lookup loop.  Invariant: after `k` passes the accumulator holds the entry for magnitude `m` if `m ≤ k`,
    and still the identity otherwise -/
theorem step_ok (row : List O.precomp.T) (Q : Nat → Edwards.Point)
    (hrow : ∀ k, k < 8 → ∃ e, row[k]? = some e ∧ PrecompOk S e (Q k)) (m k : Nat) (hm : m ≤ 8) (hk : k < 8)
    (t : O.precomp.T) (ht : PrecompOk S t (if m ≤ k then pointOf Q m else Edwards.zero)) :
    ∃ t', (row[k]? >>= fun e => pure (Precomp.maybe_set O t e (Impl.CT.u8_ct_eq (UInt8.ofNat m) (UInt8.ofNat (k + 1))))) =
        some t' ∧ PrecompOk S t' (if m ≤ k + 1 then pointOf Q m else Edwards.zero) := by
  obtain ⟨e, he, eok⟩ := hrow k hk
  refine ⟨_, by rw [he, some_bind, pure_eq_some], ?_⟩
  rw [ct_eq_ofBool, decide_eq_decide.2 (ofNat_eq_iff (by omega) (by omega))]
  have hpt : (if m = k + 1 then Q k else if m ≤ k then pointOf Q m else Edwards.zero)
      = if m ≤ k + 1 then pointOf Q m else Edwards.zero := by
    by_cases h : m = k + 1
    · rw [if_pos h, if_pos (by omega), h, pointOf, if_neg (by omega)]; rfl
    · by_cases h2 : m ≤ k
      · rw [if_neg h, if_pos h2, if_pos (by omega)]
      · rw [if_neg h, if_neg h2, if_neg (by omega)]
  rw [← hpt]
  exact maybe_set_ok ht eok (m = k + 1)

theorem select_ok (pos : Nat) (b : Int) (hb : -8 ≤ b ∧ b ≤ 8) (row : List O.precomp.T) (hpos : O.GE_BASE[pos]? = some row)
    (Q : Nat → Edwards.Point) (hrow : ∀ k, k < 8 → ∃ e, row[k]? = some e ∧ PrecompOk S e (Q k)) :
    ∃ t, Precomp.select O pos b = some t ∧
      PrecompOk S t (if b < 0 then Edwards.neg (pointOf Q b.natAbs) else pointOf Q b.natAbs) := by
  have hm : b.natAbs ≤ 8 := by omega
  have ok0 : PrecompOk S (Precomp.ZERO O) (if b.natAbs ≤ 0 then pointOf Q b.natAbs else Edwards.zero) := by
    by_cases h : b.natAbs ≤ 0
    · rw [if_pos h, Nat.le_zero.1 h, pointOf, if_pos rfl]; exact precompZERO_ok
    · rw [if_neg h]; exact precompZERO_ok
  simp only [Precomp.select]
  rw [if_neg (by omega), babsOf_eq b hb, some_bind, hpos, some_bind, bnegativeOf_eq b hb]
  refine bind_ok (step_ok row Q hrow b.natAbs 0 hm (by decide) _ ok0) fun t1 ok1 => ?_
  refine bind_ok (step_ok row Q hrow b.natAbs 1 hm (by decide) _ ok1) fun t2 ok2 => ?_
  refine bind_ok (step_ok row Q hrow b.natAbs 2 hm (by decide) _ ok2) fun t3 ok3 => ?_
  refine bind_ok (step_ok row Q hrow b.natAbs 3 hm (by decide) _ ok3) fun t4 ok4 => ?_
  refine bind_ok (step_ok row Q hrow b.natAbs 4 hm (by decide) _ ok4) fun t5 ok5 => ?_
  refine bind_ok (step_ok row Q hrow b.natAbs 5 hm (by decide) _ ok5) fun t6 ok6 => ?_
  refine bind_ok (step_ok row Q hrow b.natAbs 6 hm (by decide) _ ok6) fun t7 ok7 => ?_
  refine bind_ok (step_ok row Q hrow b.natAbs 7 hm (by decide) _ ok7) fun t ok => ?_
  rw [if_pos hm] at ok
  -- the conditional negation
  obtain ⟨n, e, hn, vn⟩ := S.neg_ok _ ok.2.2.1
  rw [e, some_bind, pure_eq_some, ct_nonzero_ofBool]
  have hminus : PrecompOk S (O.precomp.make (O.precomp.p2 t) (O.precomp.p1 t) n) (Edwards.neg (pointOf Q b.natAbs)) :=
    PrecompOk.mk ok.2.1 ok.1 (cw hn) (by
      simp only [vn, cast_neg_x, cast_neg_y]
      exact EdAlg.precomp_neg ok.2.2.2)
  refine ⟨_, rfl, ?_⟩
  by_cases hneg : b < 0
  · have := maybe_set_ok ok hminus (UInt8.ofNat 1 ≠ 0)
    rw [if_pos hneg, if_pos hneg]
    rwa [if_pos (by decide)] at this
  · have := maybe_set_ok ok hminus (UInt8.ofNat 0 ≠ 0)
    rw [if_neg hneg, if_neg hneg]
    rwa [if_neg (by decide)] at this

end Cx.Proofs.GeG
