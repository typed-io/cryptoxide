/-
  Proofs.GeTableVals — what a limb vector and a `GePrecomp` table entry denote, as plain `Nat` arithmetic that the
  kernel can evaluate (= `Proofs.Fe64.eval`, restated without any dependency on the limb-level field proofs), and the
  limb bound of a table entry.  The table theorems of Proofs/GeTables.lean (64-bit backend) and, through them, those of
  Proofs/Fe32Tables.lean (32-bit backend) are stated with these definitions.
-/
import CxVerif.Impl.Ge
import CxVerif.Spec.Field25519
namespace Cx.Proofs.Ge
open Cx
open Cx.Impl.Fe64 (Fe)

def fval (f : Fe) : Nat := (f.l0 + 2^51 * f.l1 + 2^102 * f.l2 + 2^153 * f.l3 + 2^204 * f.l4) % Cx.Spec.Field25519.p

def fbnd (b : Nat) (f : Fe) : Bool :=
  decide (f.l0 < b) && decide (f.l1 < b) && decide (f.l2 < b) && decide (f.l3 < b) && decide (f.l4 < b)

def precompVals (e : Impl.Ge.GePrecomp) : Nat × Nat × Nat := (fval e.y_plus_x, fval e.y_minus_x, fval e.xy2d)

def precompBnd (e : Impl.Ge.GePrecomp) : Bool :=
  fbnd (2^51) e.y_plus_x && fbnd (2^51) e.y_minus_x && fbnd (2^51) e.xy2d

end Cx.Proofs.Ge
