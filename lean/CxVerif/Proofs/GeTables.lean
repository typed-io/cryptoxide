/-
  Proofs.GeTables — the precomputed tables of fe64/precomp.rs (re-extracted: Extracted/Ed25519.lean) against the
  Spec: kernel evaluation over the COMPLETE tables (all 256 + 8 entries, `decide +kernel`, no sampling).

  Method.  `Spec.Edwards.smul` is the LSB-first double-and-add loop, so `smul (n·2^k) P = smul n (double^k P)`
  holds by the shape of the loop alone (no group law): row `i` of GE_BASE is checked against
  `smul (j+1) (double^(8i) B)`, the doublings are shared by walking down the rows.  The kernel runs the walk and
  the small multiples in projective coordinates (Proofs/EdProj.lean: no inversion anywhere) and compares each
  entry with the projective point by cross-multiplication.

  The same check covers the limb bounds of every entry (< 2^51; `precompBnd`, `precompVals` are defined in
  Proofs/GeTableVals.lean).  Also here: the RFC 8032 facts about the base point (`B_spec`).
-/
import CxVerif.Proofs.EdProj
import CxVerif.Proofs.Prime25519
import CxVerif.Proofs.GeTableVals
namespace Cx.Proofs.Ge
open Cx Cx.Spec.Edwards Cx.Proofs.EdProj
open Cx.Impl.Fe64 (Fe)

theorem smulAux_fuel_irrel : ∀ (f f' n : Nat) (P Q : Point), n ≤ f → n ≤ f' → smulAux f n P Q = smulAux f' n P Q := by
  intro f
  induction f with
  | zero =>
    intro f' n P Q h _
    have : n = 0 := by omega
    subst this
    cases f' <;> simp [smulAux]
  | succ f ih =>
    intro f' n P Q h h'
    cases f' with
    | zero =>
      have : n = 0 := by omega
      subst this
      simp [smulAux]
    | succ f' =>
      simp only [smulAux]
      by_cases hn : n = 0
      · simp [hn]
      · simp only [hn, if_false]
        exact ih f' (n / 2) _ _ (by omega) (by omega)

theorem smulAux_fuel (f n : Nat) (P Q : Point) (h : n ≤ f) : smulAux f n P Q = smulAux n n P Q :=
  smulAux_fuel_irrel f n n P Q h (Nat.le_refl n)

theorem smul_two_mul (n : Nat) (hn : 0 < n) (P : Point) : smul (2 * n) P = smul n (double P) := by
  unfold smul
  obtain ⟨m, hm⟩ : ∃ m, 2 * n = m + 1 := ⟨2 * n - 1, by omega⟩
  rw [hm]
  simp only [smulAux]
  rw [← hm]
  have h1 : 2 * n ≠ 0 := by omega
  have h2 : 2 * n / 2 = n := by omega
  have h3 : ¬ (2 * n % 2 = 1) := by omega
  simp only [h1, h2, h3, if_false]
  have : m = 2 * n - 1 := by omega
  rw [this, smulAux_fuel (2 * n - 1) n _ _ (by omega)]
  rfl

def doubleN : Nat → Point → Point
  | 0, P => P
  | k + 1, P => doubleN k (double P)

theorem smul_mul_two_pow (k : Nat) : ∀ (n : Nat) (P : Point), 0 < n → smul (n * 2 ^ k) P = smul n (doubleN k P) := by
  induction k with
  | zero => intro n P _; simp [doubleN]
  | succ k ih =>
    intro n P hn
    have : n * 2 ^ (k + 1) = 2 * (n * 2 ^ k) := by rw [Nat.pow_succ]; ac_rfl
    rw [this, smul_two_mul _ (Nat.mul_pos hn (Nat.pow_pos (by decide))), ih n _ hn]
    rfl

theorem doubleN_add (a b : Nat) (P : Point) : doubleN (a + b) P = doubleN b (doubleN a P) := by
  induction a generalizing P with
  | zero => simp [doubleN]
  | succ a ih => rw [Nat.succ_add]; simp only [doubleN]; exact ih _

theorem smul_row (i j : Nat) (P : Point) : smul ((j + 1) * 256 ^ i) P = smul (j + 1) (doubleN (8 * i) P) := by
  rw [show (256 : Nat) ^ i = 2 ^ (8 * i) by rw [Nat.pow_mul], smul_mul_two_pow _ _ _ (by omega)]

def pdoubleN : Nat → PPoint → PPoint
  | 0, T => T
  | k + 1, T => pdoubleN k (padd T T)

def entryOk (T : PPoint) (e : Impl.Ge.GePrecomp) : Bool := precompBnd e && isPrecomp T (precompVals e)

/-- eight entries against `[m j]D`, `j = 0..7` (limb bounds included): `m j = j + 1` for a row of GE_BASE, `2j + 1` for BI -/
def rowOk (m : Nat → Nat) (T : PPoint) (row : List Impl.Ge.GePrecomp) : Bool :=
  row.length == 8 &&
  (List.range 8).all fun j => match row[j]? with
    | some e => entryOk (psmul (m j) T) e
    | none => false

def rowsOk : List (List Impl.Ge.GePrecomp) → PPoint → Bool
  | [], _ => true
  | row :: rest, T => rowOk (· + 1) T row && rowsOk rest (pdoubleN 8 T)

section prime
variable [hp : Fact (Nat.Prime Spec.Field25519.p)]

theorem pdoubleN_rep : ∀ (k : Nat) {T : PPoint} {P : Point}, Rep T P → Rep (pdoubleN k T) (doubleN k P)
  | 0, _, _, h => h
  | k + 1, _, _, h => pdoubleN_rep k (padd_rep h h)

theorem entryOk_spec {T : PPoint} {P : Point} {e : Impl.Ge.GePrecomp} (hT : Rep T P) (h : entryOk T e = true) :
    precompBnd e = true ∧ precompVals e = precomp P := by
  simp only [entryOk, Bool.and_eq_true] at h
  have hlt : ∀ f, fval f < Spec.Field25519.p := fun f => Nat.mod_lt _ (by decide)
  exact ⟨h.1, hT.precomp_eq (hlt _) (hlt _) (hlt _) h.2⟩

theorem rowsOk_get : ∀ (tbl : List (List Impl.Ge.GePrecomp)) (T : PPoint) (D : Point), Rep T D →
    rowsOk tbl T = true → ∀ i row, tbl[i]? = some row → ∃ T', Rep T' (doubleN (8 * i) D) ∧ rowOk (· + 1) T' row = true
  | [], _, _, _, _, i, row, h => by simp at h
  | r :: rest, T, D, hT, h, i, row, hi => by
    simp only [rowsOk, Bool.and_eq_true] at h
    cases i with
    | zero => simp at hi; subst hi; exact ⟨T, hT, h.1⟩
    | succ i =>
      simp at hi
      obtain ⟨T', hT', hr⟩ := rowsOk_get rest _ _ (pdoubleN_rep 8 hT) h.2 i row hi
      rw [← doubleN_add, show 8 + 8 * i = 8 * (i + 1) by omega] at hT'
      exact ⟨T', hT', hr⟩

theorem rowOk_get {m : Nat → Nat} {T : PPoint} {D : Point} {row : List Impl.Ge.GePrecomp} (hT : Rep T D)
    (h : rowOk m T row = true) (j : Nat) (hj : j < 8) :
    ∃ e, row[j]? = some e ∧ precompBnd e = true ∧ precompVals e = precomp (smul (m j) D) := by
  simp only [rowOk, Bool.and_eq_true, List.all_eq_true, List.mem_range] at h
  have := h.2 j hj
  cases hr : row[j]? with
  | none => rw [hr] at this; exact absurd this (by simp)
  | some e =>
    rw [hr] at this
    exact ⟨e, rfl, entryOk_spec (psmul_rep (m j) hT) this⟩

end prime

/-- RFC 8032 §5.1: B is on the curve, its x is the even root recovered from y = 4/5, and its published encoding -/
theorem B_spec : onCurve B = true ∧ recoverX By false = some Bx ∧ Bx % 2 = 0 ∧
    By = 46316835694926478169428394003475163141307993866256225615783033603165251855960 ∧
    encode B = natToLE 32 0x6666666666666666666666666666666666666666666666666666666666666658 := by
  decide +kernel

theorem GE_BASE_rowsOk : rowsOk Impl.Ge.GE_BASE (ofAffine B) = true := by decide +kernel

theorem GE_BASE_length : Impl.Ge.GE_BASE.length = 32 := by decide +kernel

theorem BI_rowOk : rowOk (2 * · + 1) (ofAffine B) Impl.Ge.BI = true := by decide +kernel

/-- primality of p, which `psmul_rep` needs (inversion-free evaluation is compared with the affine Spec in `ZMod p`) -/
private theorem hp : Fact (Nat.Prime Spec.Field25519.p) := ⟨Prime25519.prime_p⟩
attribute [local instance] hp

/-- TABLE THEOREM, GE_BASE: entry `[i][j]` exists for `i < 32`, `j < 8`, its limbs are below 2^51 and it denotes
    `(y+x, y−x, 2dxy)` of `[(j+1)·256^i]B` -/
theorem GE_BASE_entry (i j : Nat) (hi : i < 32) (hj : j < 8) :
    ∃ row e, Impl.Ge.GE_BASE[i]? = some row ∧ row[j]? = some e ∧ precompBnd e = true ∧
      precompVals e = precomp (smul ((j + 1) * 256 ^ i) B) := by
  have hlen := GE_BASE_length
  obtain ⟨row, hrow⟩ : ∃ row, Impl.Ge.GE_BASE[i]? = some row := by
    rw [List.getElem?_eq_getElem (by omega)]; exact ⟨_, rfl⟩
  rw [smul_row]
  obtain ⟨T, hT, hr⟩ := rowsOk_get _ _ _ (ofAffine_rep B) GE_BASE_rowsOk i row hrow
  obtain ⟨e, he, hb, hv⟩ := rowOk_get hT hr j hj
  exact ⟨row, e, hrow, he, hb, hv⟩

/-- TABLE THEOREM, BI: entry `[k]`, `k < 8`, denotes `(y+x, y−x, 2dxy)` of `[2k+1]B`, limbs below 2^51 -/
theorem BI_entry (k : Nat) (hk : k < 8) :
    ∃ e, Impl.Ge.BI[k]? = some e ∧ precompBnd e = true ∧ precompVals e = precomp (smul (2 * k + 1) B) :=
  rowOk_get (ofAffine_rep B) BI_rowOk k hk

end Cx.Proofs.Ge
