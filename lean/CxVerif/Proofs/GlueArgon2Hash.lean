/-
  Proofs.GlueArgon2Hash — helper lemmas for the translator tie of src/kdf/argon2.rs (Props/C11/GlueTieArgon2.lean): the
  BLAKE2b-based functions `H0::new`, `hprime`, `hprime_block_init` of Extracted/GlueArgon2.lean against Impl/Argon2.lean.
  The source-level functions write into the caller's buffer; the models start from a zero buffer.  The loops are tied text to
  text (`hprime_loop1_eq` for every buffer, `hprime_block_init_loop1_eq` for every 1024-byte buffer); for the functions, both
  sides leave the RFC's H' in the buffer whatever it held: the characterisations of Proofs/Argon2Hash.lean
  (`hprime_block_init_loop_eq`, `hchain_written`) are stated for any buffer.
-/
import CxVerif.Extracted.GlueArgon2
import CxVerif.Proofs.Argon2Hash
import CxVerif.Proofs.GlueVocab
namespace Cx.Proofs.GlueArgon2
open Cx.Impl.Argon2 Cx.Extracted.GlueArgon2
open Cx.Impl.Blake2 (Context setSlice)
open Cx.Spec.Argon2 (H LE32 Hprime)
open Cx.Proofs.Argon2 (H_length ctx512_new ctx_update ctx512_finalize ctx512_finalize_at dyn_new dyn_update dyn_finalize_at chainW
  hprime_block_init_loop_eq hprime_loop_eq hchain_written LE32_mod last_bounds chainW_length)

/-- one `.update(d)` of the builder chain, seen from the `match` that follows it in the generated text; stated with the matcher
    that the generated `match`es on an `Option (Context UInt64)` compile to, so that it rewrites them -/
theorem upd_match {β : Type} (oc : Option (Context UInt64)) (d : Bytes) (K : Context UInt64 → Option β) :
    hprime_loop1_src.match_3 (fun _ => Option β) oc (fun _ => none) (fun c =>
      hprime_loop1_src.match_3 (fun _ => Option β) (Context.update Impl.Blake2.b .wrapping c d) (fun _ => none) K) =
    hprime_loop1_src.match_3 (fun _ => Option β) (H0.upd oc d) (fun _ => none) K := by
  cases oc <;> rfl

theorem H0_new_src_eq (params : Params) (password salt key aad : Bytes) (tag_length : Nat) :
    H0.new_src params password salt key aad tag_length = H0.new params password salt key aad tag_length := by
  unfold H0.new_src H0.new
  -- from the outside in (`↓`): each rewrite exposes the next `match` on an `.update`
  simp only [↓ upd_match]
  cases H0.upd _ aad <;> rfl

/-! ### writing at `pos`: the generated store `take ++ t ++ drop` is `GlueVocab.splice`, and the model's `setSlice` -/

theorem write_length (o t : Bytes) (pos n : Nat) (h1 : pos + n ≤ o.length) (h2 : t.length = n) :
    (o.take pos ++ t ++ o.drop (pos + n)).length = o.length := by
  subst h2; exact GlueVocab.splice_length h1

theorem write_setSlice (o t : Bytes) (pos n : Nat) (h : t.length = n) :
    o.take pos ++ t ++ o.drop (pos + n) = setSlice o pos t := by
  rw [setSlice, h]

theorem of_map_eq_some {α β : Type} {x : Option α} {f : α → β} {b : β} (g : β → α) (hg : ∀ a, g (f a) = a)
    (h : x.map f = some b) : x = some (g b) := by
  obtain ⟨a, rfl, rfl⟩ := Option.map_eq_some_iff.mp h
  rw [hg]

/-- the `for _ in 0..29` loop = the model's loop (state components permuted) on a 1024-byte buffer -/
theorem hprime_block_init_loop1_eq : ∀ (cnt : Nat) (output : Bytes) (pos : Nat) (v : Bytes), output.length = 1024 →
    (hprime_block_init_loop1_src cnt output pos v).map (fun r => (r.1, r.2.2, r.2.1)) = hprime_block_init_loop cnt output v pos := by
  intro cnt
  induction cnt with
  | zero => intro output pos v _; rfl
  | succ cnt ih =>
    intro output pos v hl
    simp only [hprime_block_init_loop1_src, hprime_block_init_loop]
    cases Context.new Impl.Blake2.b 512 with
    | none => rfl
    | some c =>
      dsimp only
      cases Context.update Impl.Blake2.b .wrapping c v with
      | none => rfl
      | some c' =>
        dsimp only
        cases Context.finalize_at Impl.Blake2.b .wrapping 512 c' v.length with
        | none => rfl
        | some v' =>
          rw [hl]
          by_cases h1 : pos + 32 ≤ 1024
          · by_cases h2 : 32 ≤ v'.length
            · simp only [h1, h2, and_self, not_true_eq_false, if_false]
              rw [← write_setSlice _ _ _ 32 (by simp; omega)]
              exact ih _ _ _ (by rw [write_length _ _ _ 32 (by omega) (by simp; omega), hl])
            · simp [h1, h2]
          · simp [h1]

/-- `hprime_block_init` for EVERY 1024-byte output buffer: like the model on its zero buffer it leaves the RFC's `H'^1024`
    there, whatever the buffer held (`Argon2.hprime_block_init_loop_eq`, `Argon2.hchain_written` hold for any buffer) -/
theorem hprime_block_init_src_eq (output h0 : Bytes) (col lane : Nat) (hl : output.length = 1024) :
    hprime_block_init_src output h0 col lane = hprime_block_init h0 col lane := by
  rw [Argon2.hprime_block_init_eq]
  unfold hprime_block_init_src Hprime
  rw [if_neg (by decide)]
  obtain ⟨c0, e0, r0⟩ := ctx512_new
  obtain ⟨c1, e1, r1⟩ := ctx_update 64 c0 [] (natToLE 4 0x400) r0
  obtain ⟨c2, e2, r2⟩ := ctx_update 64 c1 _ h0 r1
  obtain ⟨c3, e3, r3⟩ := ctx_update 64 c2 _ (natToLE 4 col) r2
  obtain ⟨c4, e4, r4⟩ := ctx_update 64 c3 _ (natToLE 4 lane) r3
  rw [e0]; simp only []; rw [e1]; simp only []; rw [e2]; simp only []; rw [e3]; simp only []; rw [e4]; simp only []
  rw [ctx512_finalize c4 _ r4]
  simp only [List.nil_append]
  have hin : natToLE 4 0x400 ++ h0 ++ natToLE 4 col ++ natToLE 4 lane = LE32 1024 ++ (h0 ++ LE32 col ++ LE32 lane) := by
    simp [LE32, List.append_assoc]
  rw [hin]
  generalize hV1 : H 64 (LE32 1024 ++ (h0 ++ LE32 col ++ LE32 lane)) = V1
  have hV : V1.length = 64 := by rw [← hV1]; exact H_length 64 (by decide) _
  have hrest : (output.drop 32).length = 32 * 29 + 64 := by rw [List.length_drop, hl]
  rw [if_neg (by simp [hV])]
  have hs := of_map_eq_some (fun r => (r.1, r.2.2, r.2.1)) (fun _ => rfl)
    ((hprime_block_init_loop1_eq 29 _ 32 V1 (by simp [hV, hl])).trans
      (hprime_block_init_loop_eq 29 (V1.take 32) (output.drop 32) V1 32 (by simp [hV]) (by omega) hV))
  rw [hs]
  simp only []
  obtain ⟨d1, f1, g1⟩ := ctx_update 64 c0 [] (chainW 29 V1).2 r0
  rw [f1]; simp only []
  rw [if_neg (by simp [hV]), ctx512_finalize_at d1 _ g1]
  simp only [List.nil_append]
  rw [write_setSlice _ _ _ 64 (H_length 64 (by decide) _), hchain_written 64 29 (by decide) V1 _ hV hrest _ (by simp [hV])]

theorem subU_32 (bytes : Nat) (h : bytes > 64) : subU bytes 32 = some (bytes - 32) := by
  simp only [subU]; rw [if_pos (by omega)]

/-- the `while bytes > 64` loop = the model's loop (state components permuted), for every buffer.  The generated loop FAILS when its
    fuel runs out, the model's loop stops silently; they agree whenever the fuel bounds the iterations (`bytes ≤ fuel`:
    every iteration takes 32 off `bytes`) — the generated call passes `bytes + 1`: one unit pays for the last, false, test -/
theorem hprime_loop1_eq : ∀ (fuel : Nat) (output : Bytes) (bytes pos : Nat) (v : Bytes), bytes ≤ fuel →
    (hprime_loop1_src (fuel + 1) output bytes pos v).map (fun r => (r.1, r.2.2.2, r.2.1, r.2.2.1)) = hprime_loop fuel output v bytes pos := by
  intro fuel
  induction fuel with
  | zero =>
    intro output bytes pos v hf
    have hb : ¬ bytes > 64 := by omega
    simp only [hprime_loop1_src, hprime_loop, hb, if_false]; rfl
  | succ fuel ih =>
    intro output bytes pos v hf
    unfold hprime_loop1_src hprime_loop
    by_cases hb : bytes > 64
    · simp only [hb, if_true]
      cases Context.new Impl.Blake2.b 512 with
      | none => rfl
      | some c =>
        dsimp only
        cases Context.update Impl.Blake2.b .wrapping c v with
        | none => rfl
        | some c' =>
          dsimp only
          cases Context.finalize_at Impl.Blake2.b .wrapping 512 c' v.length with
          | none => rfl
          | some v' =>
            by_cases h1 : pos + 32 ≤ output.length
            · by_cases h2 : 32 ≤ v'.length
              · simp only [h1, h2, and_self, not_true_eq_false, if_false, subU_32 bytes hb]
                rw [← write_setSlice _ _ _ 32 (by simp; omega)]
                exact ih _ (bytes - 32) _ _ (by omega)
              · simp [h1, h2]
            · simp [h1]
    · simp only [hb, if_false]; rfl

/-- `hprime` for EVERY output buffer (any length, any previous contents): up to 64 bytes the two texts coincide; beyond, both
    leave the RFC's `H'^T` in the buffer -/
theorem hprime_src_eq (output input : Bytes) : hprime_src output input = hprime output.length input := by
  by_cases h64 : output.length ≤ 64
  · unfold hprime_src hprime
    simp only [h64, if_true]; rfl
  · rw [Argon2.hprime_eq _ _ (by omega)]
    unfold hprime_src Hprime
    rw [if_neg h64, if_neg h64]
    simp only [LE32_mod]
    generalize hT : output.length = T at *
    obtain ⟨hr1, hl1, hl2, hb⟩ := last_bounds T (by omega)
    generalize hr : (T + 31) / 32 - 2 = r at *
    generalize hlast : T - 32 * r = last at *
    obtain ⟨c0, e0, r0⟩ := ctx512_new
    obtain ⟨c1, e1, r1⟩ := ctx_update 64 c0 [] (LE32 T) r0
    obtain ⟨c2, e2, r2⟩ := ctx_update 64 c1 _ input r1
    rw [e0]; simp only []; rw [e1]; simp only []; rw [e2]; simp only []
    rw [ctx512_finalize c2 _ r2]
    simp only [List.nil_append]
    generalize hV1 : H 64 (LE32 T ++ input) = V1
    have hV : V1.length = 64 := by rw [← hV1]; exact H_length 64 (by decide) _
    have hrest : (output.drop 32).length = 32 * (r - 1) + last := by rw [List.length_drop, hT]; omega
    rw [if_neg (by omega), if_neg (by simp [hV]), subU_32 T (by omega)]
    simp only []
    have hs := of_map_eq_some (fun r => (r.1, r.2.2.1, r.2.2.2, r.2.1)) (fun _ => rfl)
      ((hprime_loop1_eq (T - 32) _ (T - 32) 32 V1 (Nat.le_refl _)).trans (by
        rw [hb]
        exact hprime_loop_eq last ⟨hl1, hl2⟩ (r - 1) _ (V1.take 32) (output.drop 32) V1 32 (by simp [hV]) (by omega)
          (by omega) hV))
    rw [hs]
    simp only []
    obtain ⟨d0, f0, s0⟩ := dyn_new last ⟨by omega, hl2⟩
    obtain ⟨d1, f1, s1⟩ := dyn_update last d0 [] (chainW (r - 1) V1).2 s0
    rw [f0]; simp only []; rw [f1]; simp only []
    rw [if_neg (by simp [hV, chainW_length (r - 1) V1]; omega), dyn_finalize_at last hl2 d1 _ s1]
    simp only [List.nil_append]
    rw [write_setSlice _ _ _ last (H_length last hl2 _), hchain_written last (r - 1) hl2 V1 _ hV hrest _ (by simp [hV])]

end Cx.Proofs.GlueArgon2
