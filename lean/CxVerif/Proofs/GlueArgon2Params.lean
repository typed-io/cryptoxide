/-
  Proofs.GlueArgon2Params — helper lemmas for the translator tie of src/kdf/argon2.rs (Props/C11/GlueTieArgon2.lean):
  the u32 geometry of the `Params` builder and `Memory` of Extracted/GlueArgon2.lean against Impl/Argon2.lean.
-/
import CxVerif.Extracted.GlueArgon2
namespace Cx.Proofs.GlueArgon2
open Cx.Impl.Argon2 Cx.Extracted.GlueArgon2
open Cx.Spec.Argon2 (Block)

theorem parallelism_override_memory_src_eq (self : Params) :
    Params.parallelism_override_memory_src self = Params.parallelism_override_memory self := by
  simp only [Params.parallelism_override_memory_src, Params.parallelism_override_memory, SYNC_POINTS, Option.bind_eq_bind,
    Option.pure_def]
  cases h8 : mul32 8 self.parallelism with
  | none => rfl
  | some p8 =>
    simp only [Option.bind_some]
    by_cases hc : self.memory_kb < p8 <;> simp only [hc, if_true, if_false]
    -- the two arms hand on `p8` / `memory_kb` as `memory_blocks`; what follows is the same text
    all_goals
      cases mul32 self.parallelism 4 with
      | none => rfl
      | some t3 =>
        simp only [Option.bind_some]
        generalize divU _ t3 = o
        rcases o with _ | t4
        · rfl
        simp only [Option.bind_some]
        cases mul32 t4 t3 with
        | none => rfl
        | some t6 => cases mul32 t4 4 <;> rfl

theorem memory_new_src_eq (params : Params) : Memory.new_src params = Memory.new params := by
  simp only [Memory.new_src, Memory.new, Option.bind_eq_bind, Option.pure_def]
  cases mul64 params.parallelism params.lane_length <;> rfl

theorem mut_block_index_set_src_eq (self : Memory) (index : Nat) (b : Block) :
    Memory.mut_block_index_set_src self index b = self.set_block_index index b := by
  simp only [Memory.mut_block_index_set_src, Memory.set_block_index]
  split <;> simp_all

theorem mut_block_at_set_src_eq (self : Memory) (row col : Nat) (b : Block) :
    Memory.mut_block_at_set_src self row col b = self.set_block_at row col b := by
  simp only [Memory.mut_block_at_set_src, Memory.set_block_at, Option.bind_eq_bind]
  cases mul64 row self.lane_length with
  | none => rfl
  | some t1 =>
    simp only [Option.bind_some]
    cases add64 t1 col with
    | none => rfl
    | some pos =>
      exact mut_block_index_set_src_eq self pos b

theorem mut_block_at_get_isSome (self : Memory) (row col : Nat) (b : Block) :
    (Memory.mut_block_at_get_src self row col).isSome = (self.set_block_at row col b).isSome := by
  simp only [Memory.mut_block_at_get_src, Memory.set_block_at, Memory.set_block_index, Option.bind_eq_bind]
  cases mul64 row self.lane_length with
  | none => rfl
  | some t1 =>
    simp only [Option.bind_some]
    cases add64 t1 col with
    | none => rfl
    | some pos =>
      by_cases h : pos < self.blocks.size
      · simp [h]
      · simp [h]

end Cx.Proofs.GlueArgon2
