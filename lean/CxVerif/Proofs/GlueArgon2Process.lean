/-
  Proofs.GlueArgon2Process — helper lemmas for the translator tie of src/kdf/argon2.rs (Props/C11/GlueTieArgon2.lean):
  `process` (first two blocks of every lane, the three nested fill loops, the final xor) of Extracted/GlueArgon2.lean
  against Impl/Argon2.lean.
-/
import CxVerif.Proofs.GlueArgon2Hash
import CxVerif.Proofs.GlueArgon2Segment
namespace Cx.Proofs.GlueArgon2
open Cx.Impl.Argon2 Cx.Extracted.GlueArgon2
open Cx.Spec.Argon2 (Block)

theorem as_u8_length (b : Block) : (Block.as_u8 b).length = 1024 := by
  simp only [Block.as_u8, Bytes.length_flatMap_const _ 8 Bytes.u64le_length, Vector.length_toList]

theorem process_loop1_eq (h0 : Bytes) : ∀ (lanes : List Nat) (memory : Memory),
    process_loop1_src h0 lanes memory = process_init h0 lanes memory := by
  intro lanes
  induction lanes with
  | nil => intro memory; rfl
  | cons lane rest ih =>
    intro memory
    simp only [process_loop1_src, process_init, mut_block_at_set_src_eq]
    have half : ∀ (memory : Memory) (col : Nat) (k : Memory → Option Memory),
        (match Memory.mut_block_at_get_src memory lane col with
          | none => none
          | some t1 =>
            match hprime_block_init_src (Block.as_u8 t1) h0 col lane with
            | none => none
            | some t2 =>
              match memory.set_block_at lane col (Block.of_u8 t2) with
              | none => none
              | some memory => k memory)
        = (match hprime_block_init h0 col lane with
          | none => none
          | some b0 =>
            match memory.set_block_at lane col (Block.of_u8 b0) with
            | none => none
            | some memory => k memory) := by
      intro memory col k
      cases hg : Memory.mut_block_at_get_src memory lane col with
      | none =>
        cases hprime_block_init h0 col lane with
        | none => rfl
        | some b0 =>
          dsimp only
          have := mut_block_at_get_isSome memory lane col (Block.of_u8 b0)
          rw [hg] at this
          cases hs : memory.set_block_at lane col (Block.of_u8 b0) with
          | none => rfl
          | some m => rw [hs] at this; cases this
      | some t1 =>
        dsimp only
        rw [hprime_block_init_src_eq _ _ _ _ (as_u8_length t1)]
    refine (half memory 0 _).trans ?_
    cases hprime_block_init h0 0 lane with
    | none => rfl
    | some b0 =>
      dsimp only
      cases memory.set_block_at lane 0 (Block.of_u8 b0) with
      | none => rfl
      | some memory1 =>
        refine (half memory1 1 _).trans ?_
        cases hprime_block_init h0 1 lane with
        | none => rfl
        | some b1 =>
          dsimp only
          cases memory1.set_block_at lane 1 (Block.of_u8 b1) with
          | none => rfl
          | some memory2 => exact ih memory2

/-! ### `process`: the three nested fill loops = `process_fill` over `process_positions` -/

theorem process_loop4_eq (params : Params) (pass slice : Nat) : ∀ (lanes : List Nat) (memory : Memory),
    process_loop4_src params pass slice lanes memory
      = process_fill params (lanes.map fun lane => { pass := pass, lane := lane, slice := slice, index := 0 }) memory := by
  intro lanes
  induction lanes with
  | nil => intro memory; rfl
  | cons lane rest ih =>
    intro memory
    simp only [process_loop4_src, List.map_cons, process_fill, fill_segment_src_eq]
    cases fill_segment params { pass := pass, lane := lane, slice := slice, index := 0 } memory with
    | none => rfl
    | some m => exact ih m

theorem process_loop3_eq (params : Params) (pass : Nat) : ∀ (slices : List Nat) (memory : Memory),
    process_loop3_src params pass slices memory
      = process_fill params (slices.flatMap fun slice =>
          (List.range params.parallelism).map fun lane => { pass := pass, lane := lane, slice := slice, index := 0 }) memory := by
  intro slices
  induction slices with
  | nil => intro memory; rfl
  | cons slice rest ih =>
    intro memory
    simp only [process_loop3_src, List.flatMap_cons, Argon2.process_fill_append, process_loop4_eq]
    cases process_fill params ((List.range params.parallelism).map fun lane =>
        ({ pass := pass, lane := lane, slice := slice, index := 0 } : BlockPos)) memory with
    | none => rfl
    | some m => exact ih m

theorem process_loop2_eq (params : Params) : ∀ (passes : List Nat) (memory : Memory),
    process_loop2_src params passes memory
      = process_fill params (passes.flatMap fun pass => (List.range 4).flatMap fun slice =>
          (List.range params.parallelism).map fun lane => { pass := pass, lane := lane, slice := slice, index := 0 }) memory := by
  intro passes
  induction passes with
  | nil => intro memory; rfl
  | cons pass rest ih =>
    intro memory
    simp only [process_loop2_src, List.flatMap_cons, Argon2.process_fill_append, process_loop3_eq]
    cases process_fill params ((List.range 4).flatMap fun slice => (List.range params.parallelism).map fun lane =>
        ({ pass := pass, lane := lane, slice := slice, index := 0 } : BlockPos)) memory with
    | none => rfl
    | some m => exact ih m

theorem process_loop5_eq (memory : Memory) : ∀ (ls : List Nat) (blockhash : Block),
    process_loop5_src memory ls blockhash = process_final memory ls blockhash := by
  intro ls
  induction ls with
  | nil => intro blockhash; rfl
  | cons l rest ih =>
    intro blockhash
    simp only [process_loop5_src, process_final, Memory.stride_src, Memory.stride, Memory.block_index_src, Memory.block_index,
      Option.bind_eq_bind]
    cases mul32 l memory.lane_length with
    | none => rfl
    | some a =>
      cases subU memory.lane_length 1 with
      | none => rfl
      | some b =>
        simp only [Option.bind_some]
        cases add32 a b with
        | none => rfl
        | some i =>
          dsimp only
          cases memory.blocks[i]? with
          | none => rfl
          | some blk => exact ih _

theorem process_src_eq (params : Params) (h0 : Bytes) (memory : Memory) (out : Bytes) :
    (process_src params h0 memory out).map (·.2) = process params h0 memory out.length := by
  simp only [process_src, process, process_loop1_eq, process_loop2_eq, process_loop5_eq, process_positions, SYNC_POINTS,
    Memory.stride_src, Memory.stride, Memory.block_index_src, hprime_src_eq]
  cases process_init h0 (List.range params.parallelism) memory with
  | none => rfl
  | some m1 =>
    dsimp only
    cases process_fill params ((List.range params.iterations).flatMap fun pass => (List.range 4).flatMap fun slice =>
        (List.range params.parallelism).map fun lane => ({ pass := pass, lane := lane, slice := slice, index := 0 } : BlockPos)) m1 with
    | none => rfl
    | some m2 =>
      dsimp only
      cases subU m2.lane_length 1 with
      | none => rfl
      | some i =>
        simp only [Option.bind_some, Memory.block_index]
        cases m2.blocks[i]? with
        | none => rfl
        | some bh =>
          dsimp only
          cases process_final m2 (List.range' 1 (params.parallelism - 1)) bh with
          | none => rfl
          | some bh' =>
            dsimp only
            cases hprime out.length (Block.as_u8 bh') <;> rfl

end Cx.Proofs.GlueArgon2
