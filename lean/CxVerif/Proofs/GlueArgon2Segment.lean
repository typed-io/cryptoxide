/-
  Proofs.GlueArgon2Segment — helper lemmas for the translator tie of src/kdf/argon2.rs (Props/C11/GlueTieArgon2.lean):
  `next_addresses` and `fill_segment` (prologue, the block loop with the address refresh) of Extracted/GlueArgon2.lean against
  Impl/Argon2.lean.  The source-level loop carries `position` (its `index` field is assigned in every iteration); the model
  passes the segment's position and sets `index` locally.
-/
import CxVerif.Proofs.GlueArgon2Params
namespace Cx.Proofs.GlueArgon2
open Cx.Impl.Argon2 Cx.Extracted.GlueArgon2
open Cx.Spec.Argon2 (Block)

theorem next_addresses_src_eq (address_block input_block zero_block : Block) :
    next_addresses_src address_block input_block zero_block = next_addresses address_block input_block zero_block := by
  simp only [next_addresses_src, next_addresses, add64]
  generalize input_block[6] = x
  have hx := x.toNat_lt
  by_cases hm : x = 0xffffffffffffffff
  · subst hm; simp
  · have : x.toNat ≠ 18446744073709551615 := fun h => hm (UInt64.toNat_inj.mp h)
    have hlt : x.toNat + 1 < 2 ^ 64 := by omega
    have he : UInt64.ofNat (x.toNat + 1) = x + 1 := by
      rw [UInt64.ofNat_add, UInt64.ofNat_toNat]; rfl
    simp only [hlt, if_true, hm, if_false, he]

/-- the model's Bool test `!(version == 0x10 || pass == 0)` (Rust: `with_xor`) in the `decide` form the translator emits -/
theorem with_xor_eq (v p : Nat) : (!(decide (v = 16) || decide (p = 0))) = decide (¬ (v = 16 ∨ p = 0)) := by
  simp

/-- one step of the walk along two chains of `match`es (or binds) with the same head `t`: if `t` is `none` both sides are -/
syntax "opt_step " term : tactic
macro_rules
  | `(tactic| opt_step $t) => `(tactic| (generalize $t = o__; rcases o__ with _ | _; (· rfl); try dsimp only [Option.bind_some]))

theorem fill_segment_step (params : Params) (pos0 position : BlockPos) (dia : Bool) (zb : Block) (i : Nat) (rest : List Nat)
   (mem : Memory) (ib ab : Block) (co po : Nat)
   (h1 : position.pass = pos0.pass) (h2 : position.lane = pos0.lane) (h3 : position.slice = pos0.slice) :
   fill_segment_loop1_src params dia zb (i :: rest) position mem ib ab co po =
     match fill_segment_body params pos0 dia zb ⟨mem, ib, ab, co, po⟩ i with
     | none => none
     | some st => fill_segment_loop1_src params dia zb rest { position with index := i } st.memory st.input_block st.address_block
         st.curr_offset st.prev_offset := by
  simp only [fill_segment_loop1_src, fill_segment_body, fill_segment_body.rotate, fill_segment_body.ref_lane,
    fill_segment_body.new_block, Memory.stride_src, Memory.stride, next_addresses_src_eq, h1, h2, h3, Memory.block_index_src,
    Memory.block_index, Memory.block_index64_src, Memory.block_index64, mut_block_index_set_src_eq, Bool.beq_eq_decide_eq, with_xor_eq]
  opt_step (remU co mem.lane_length)
  rename_i t11
  opt_step (if t11 = 1 then subU co 1 else some po)
  rename_i po'
  -- the one place where the two texts differ: the source yields `(input_block, address_block, pseudo_rand)`, the model
  -- `(address_block, input_block, pseudo_rand)`; after it the two chains have the same heads
  generalize hX : (if dia = true then _ else _) = X
  have hX' : X = (fill_segment_body.pseudo_rand dia zb ⟨mem, ib, ab, co, po⟩ po' i).map fun r => (r.2.1, r.1, r.2.2) := by
    subst hX
    unfold fill_segment_body.pseudo_rand
    have hm : i % 128 < 128 := Nat.mod_lt i (by decide)
    cases dia with
    | false => simp only [Bool.false_eq_true, if_false, Memory.block_index]; cases mem.blocks[po']? <;> rfl
    | true =>
      simp only [if_true, Vector.getElem?_eq_getElem hm]
      by_cases hi : i % 128 = 0
      · simp only [hi, if_true]; cases next_addresses ab ib zb <;> rfl
      · simp only [hi, if_false]; rfl
  rw [hX']
  generalize fill_segment_body.pseudo_rand dia zb _ po' i = Y
  rcases Y with _ | ⟨ab', ib', pr⟩
  · rfl
  dsimp only [Option.map_some]
  opt_step (if pos0.pass = 0 ∧ pos0.slice = 0 then some pos0.lane else _)
  opt_step (index_alpha params _ _ _)
  opt_step (mul64 params.lane_length _)
  opt_step (add64 _ _)
  opt_step (mem.blocks[co]?)
  opt_step (mem.blocks[po']?)
  opt_step (mem.blocks[(_ : Nat)]?)
  opt_step (mem.set_block_index co _)
  opt_step (add32 co 1)
  opt_step (add32 po' 1)

theorem fill_segment_loop1_eq (params : Params) (pos0 : BlockPos) (dia : Bool) (zb : Block) :
    ∀ (is : List Nat) (position : BlockPos) (mem : Memory)
    (ib ab : Block) (co po : Nat), position.pass = pos0.pass → position.lane = pos0.lane → position.slice = pos0.slice →
    (fill_segment_loop1_src params dia zb is position mem ib ab co po).map (fun r => r.2.1)
      = (fill_segment_loop params pos0 dia zb is ⟨mem, ib, ab, co, po⟩).map (fun st => st.memory) := by
  intro is
  induction is with
  | nil => intro position mem ib ab co po _ _ _; rfl
  | cons i rest ih =>
    intro position mem ib ab co po h1 h2 h3
    rw [fill_segment_step params pos0 position dia zb i rest mem ib ab co po h1 h2 h3]
    simp only [fill_segment_loop]
    cases fill_segment_body params pos0 dia zb ⟨mem, ib, ab, co, po⟩ i with
    | none => rfl
    | some st => exact ih _ _ _ _ _ _ h1 h2 h3

theorem seg_finish (x : Option (BlockPos × Memory × Block × Block × Nat × Nat)) (y : Option SegState) :
    x.map (fun r => r.2.1) = y.map (fun st => st.memory) →
    (match x with
      | none => none
      | some (_, memory, _, _, _, _) => some memory) = y.bind fun st => some st.memory := by
  intro h
  cases x with
  | none => cases y with
    | none => rfl
    | some _ => cases h
  | some r => cases y with
    | none => cases h
    | some st =>
      obtain ⟨a, m, c⟩ := r
      simp only [Option.map_some, Option.some.injEq] at h
      simp [h]

theorem type_beq (t u : Type') : (t == u) = decide (t = u) := rfl

theorem dia_src_eq (params : Params) (position : BlockPos) :
    decide ((params.hash_type = Type'.Argon2i) ∨ (((params.hash_type = Type'.Argon2id) ∧ (position.pass = 0)) ∧ (position.slice < 2)))
      = data_independent_addressing params position := by
  simp only [data_independent_addressing, SYNC_POINTS, Bool.beq_eq_decide_eq, type_beq]
  cases params.hash_type <;> simp <;> rfl

theorem fill_segment_src_eq (params : Params) (position : BlockPos) (memory : Memory) :
    fill_segment_src params position memory = fill_segment params position memory := by
  unfold fill_segment
  conv => lhs; simp only [fill_segment_src, dia_src_eq, Block.new_src, next_addresses_src_eq, Memory.stride_src]
  simp (config := {zeta := false}) only [Block.new]
  generalize data_independent_addressing params position = dia
  generalize (Vector.replicate 128 (0 : UInt64)) = zb
  extract_lets d z ib jp
  -- the prologue: the source yields `(input_block, address_block, starting_index)`, the model calls its join point `jp` on
  -- `(starting_index, address_block, input_block)` (kept as one local definition by `extract_lets`: `simp` would copy it into
  -- the three branches); the suffix is compared with `jp`, the three prologue cases with `X.bind`
  generalize hX : (if position.pass = 0 ∧ position.slice = 0 then _ else _ : Option (Block × Block × Nat)) = X
  refine Eq.trans (b := X.bind fun r => jp (r.2.2, r.2.1, r.1)) ?_ ?_
  · rcases X with _ | ⟨i, a, s⟩
    · rfl
    clear hX
    simp only [jp, Option.bind_some, Memory.stride, Option.bind_eq_bind, Option.pure_def]
    opt_step (mul32 position.lane memory.lane_length)
    opt_step (mul32 position.slice params.segment_length)
    opt_step (add32 _ _)
    opt_step (add32 _ _)
    rename_i co
    opt_step (remU co memory.lane_length)
    rename_i t5
    by_cases h0 : t5 = 0
    · simp only [h0, if_true]
      opt_step (add32 co memory.lane_length)
      opt_step (subU _ 1)
      exact seg_finish _ _ (fill_segment_loop1_eq params position _ zb _ position memory _ _ _ _ rfl rfl rfl)
    · simp only [h0, if_false]
      opt_step (subU co 1)
      exact seg_finish _ _ (fill_segment_loop1_eq params position _ zb _ position memory _ _ _ _ rfl rfl rfl)
  · subst hX
    by_cases hps : position.pass = 0 ∧ position.slice = 0
    · rw [if_pos hps, if_pos hps]
      cases dia with
      | false => rfl
      | true =>
        show ((match next_addresses z ib z with
          | none => none
          | some (address_block, input_block) => some (input_block, address_block, 2)).bind _) = _
        cases next_addresses z ib z <;> rfl
    · rw [if_neg hps, if_neg hps]; rfl

end Cx.Proofs.GlueArgon2
