/-
  Proofs.GlueCurve — helper lemmas for the translator tie of the curve layer (Props/C15/GlueTieCurve.lean):
  facts about the AUXILIARY definitions the translator tools/ktx_glue_curve.py generates (join points `<f>_k<n>_src`,
  loop definitions `<f>_loop<n>_src`) and small `Option`-monad normalisation lemmas.  For each generated loop ONE unfolding is
  stated against the model's step (`dsm_loop1_step`, `dsm_loop2_step`, `ladderStep_bind`); the inductions then only count.
  Proofs/GlueCurve32.lean has the same proofs on the 32-bit field backend and takes from here what depends on no backend
  (`Scalar.slide_loop1`, `recode_src`, `select_digit`, the recoding and zero-test loops).
-/
import CxVerif.Extracted.GlueCurve
import CxVerif.Proofs.Bits
import CxVerif.Proofs.GlueVocab
import CxVerif.Proofs.GeEncLen
import CxVerif.Proofs.OptionSteps
namespace Cx.Proofs.GlueCurve
open Cx.Impl Cx.Impl.Fe64 Cx.Impl.Ge Cx.Extracted.GlueCurve Cx.Proofs.GeEncLen
open Cx.Impl.Scalar64 (ckI8 shlI8)

theorem ite_bind' {α β} (c : Prop) [Decidable c] (a b : Option α) (f : α → Option β) :
    (if c then a else b).bind f = if c then a.bind f else b.bind f := by split <;> rfl

/-! ### ge.rs -/

/-- the join point of `GeAffine::from_bytes` (sign adjustment + `Some(Self { x, y })`) is the model's local `finish`
    (written as Lean elaborates the model's `do` block) -/
theorem GeAffine.from_bytes_k1 (s : Bytes) (h : s.length = 32) (y X : Fe) :
    GeAffine.from_bytes_k1_src s y X = (do
        let n ← is_negative X
        if (n != ((s[31]'(by omega)) >>> 7 != 0)) = true then do
            let x ← negate_mut X
            pure (some { x := x, y := y })
          else do
            let x ← pure X
            pure (some { x := x, y := y })) := by
  have h31 : s[31]? = some (s[31]'(by omega)) := List.getElem?_eq_getElem (by omega)
  unfold GeAffine.from_bytes_k1_src
  rw [h31]
  generalize is_negative X = o
  generalize negate_mut X = o2
  cases o with
  | none => rfl
  | some n =>
    simp only [Option.bind_eq_bind, Option.bind_some, Option.pure_def]
    generalize (n != (s[31] >>> 7 != 0)) = c
    cases c <;> cases o2 <;> rfl

/-- the generated `select` with its `debug_assert!` marker removed.  The step `simp only [Glue.debugAssert_iff]` FAILS when the
    generated text carries no marker (i.e. when the source says `assert!`, or nothing): `assert!` ↔ `debug_assert!` breaks the tie -/
theorem GePrecomp.select_src_unmarked (pos : Nat) (b : Int) :
    GePrecomp.select_src pos b =
      (if (b ≥ (-8 : Int)) ∧ (b ≤ (8 : Int)) then GePrecomp.select_src pos b else none) := by
  by_cases h : b ≥ (-8 : Int) ∧ b ≤ (8 : Int)
  · rw [if_pos h]
  · rw [if_neg h]
    unfold GePrecomp.select_src
    rw [if_neg (mt (Glue.debugAssert_iff _).1 h)]

/-- `(x >>= pure ∘ f) >>= g = x >>= g ∘ f` in one step.  With the pair `Option.bind_assoc`, `Option.bind_some` the rewriting of the eight
    `step`s of `GePrecomp.select` on the 32-bit types (Proofs/GlueCurve32.lean uses the lemma too) leaves a term whose re-check by
    the kernel falls into a unary `Nat` evaluation and ends in "deep recursion"; with this lemma every step stays syntactic. -/
theorem bind_pure_bind {α β γ} (x : Option α) (f : α → β) (g : β → Option γ) :
    (x.bind fun a => some (f a)).bind g = x.bind fun a => g (f a) := by cases x <;> rfl

/-- the `i8`/`u8` bit tricks of `select` on the seventeen digits the `debug_assert!` allows: sign and magnitude as the model
    has them (evaluated) -/
theorem select_digit (b : Int) (h : -8 ≤ b ∧ b ≤ 8) :
    i8AsU8 b >>> 7 = UInt8.ofNat (bnegativeOf b) ∧
    (ckI8 (b - shlI8 (i8And (-(u8AsI8 (i8AsU8 b >>> 7))) b) 1)).map i8AsU8 = (babsOf b).map UInt8.ofNat := by
  have key : ∀ k : Fin 17,
      i8AsU8 ((k.val : Int) - (8 : Int)) >>> 7 = UInt8.ofNat (bnegativeOf ((k.val : Int) - (8 : Int))) ∧
      (ckI8 (((k.val : Int) - (8 : Int)) -
        shlI8 (i8And (-(u8AsI8 (i8AsU8 ((k.val : Int) - (8 : Int)) >>> 7))) ((k.val : Int) - (8 : Int))) 1)).map i8AsU8
        = (babsOf ((k.val : Int) - (8 : Int))).map UInt8.ofNat := by decide
  have := key ⟨(b + 8).toNat, by omega⟩
  have hb : (((b + 8).toNat : Nat) : Int) - 8 = b := by omega
  simp only [hb] at this
  exact this

/-- `GePrecomp::select` on those digits: beyond sign and magnitude the two texts differ only in the shape of the binds -/
theorem GePrecomp.select_in (pos : Nat) (b : Int) (h : -8 ≤ b ∧ b ≤ 8) : GePrecomp.select_src pos b = GePrecomp.select pos b := by
  obtain ⟨h1, h2⟩ := select_digit b h
  unfold GePrecomp.select_src GePrecomp.select
  rw [if_pos ⟨h⟩, if_neg (by omega)]
  generalize GE_BASE[pos]? = orow
  simp only [Option.bind_eq_bind, Option.pure_def, bind_pure_bind, h1]
  rw [h1] at h2
  generalize ckI8 _ = ot at h2 ⊢
  generalize babsOf b = on at h2 ⊢
  match ot, on, h2 with
  | none, none, _ => rfl
  | some t, some n, h2 =>
    have h3 : i8AsU8 t = UInt8.ofNat n := Option.some.inj h2
    simp only [Option.bind_some, h3]
    rfl

section geloops

theorem Ge.scalarmult_base_loop1 : ∀ (es : List Int) (c : Int), Ge.scalarmult_base_loop1_src es c = recodeLoop es c
  | [], _ => rfl
  | e :: es, c => by
    unfold Ge.scalarmult_base_loop1_src recodeLoop
    simp only [Ge.scalarmult_base_loop1 es]

theorem Ge.scalarmult_base_loop2 (es : List Int) : ∀ (n j : Nat) (h : Ge), Ge.scalarmult_base_loop2_src es n j h = combLoop es 1 n j h
  | 0, _, _ => rfl
  | n + 1, j, h => by
    unfold Ge.scalarmult_base_loop2_src combLoop
    simp only [Ge.scalarmult_base_loop2 es n]

theorem Ge.scalarmult_base_loop3 (es : List Int) : ∀ (n j : Nat) (h : Ge), Ge.scalarmult_base_loop3_src es n j h = combLoop es 0 n j h
  | 0, _, _ => rfl
  | n + 1, j, h => by
    unfold Ge.scalarmult_base_loop3_src combLoop
    simp only [Ge.scalarmult_base_loop3 es n, Nat.add_zero]

theorem recodeLoop_length : ∀ (es : List Int) (c : Int) (r : List Int) (c' : Int), recodeLoop es c = some (r, c') → r.length = es.length
  | [], _, r, c', h => by cases h; rfl
  | e :: es, c, r, c', h => by
    unfold recodeLoop at h
    obtain ⟨e1, _, h⟩ := Option.bind_eq_some_iff.mp h
    obtain ⟨c1, _, h⟩ := Option.bind_eq_some_iff.mp h
    obtain ⟨e2, _, h⟩ := Option.bind_eq_some_iff.mp h
    obtain ⟨⟨rest, cl⟩, hr, h⟩ := Option.bind_eq_some_iff.mp h
    cases h
    have := recodeLoop_length es _ rest _ hr
    simp only [List.length_cons, this]

/-- the signed recoding as the source writes it — the first 63 digits through the carry loop, then the last carry into `es[63]`
    by a checked read and a store on the reassembled list — is the model's `recode` (which appends the new top digit) -/
theorem recode_src (nib : List Int) (hl : nib.length = 64) :
    (do
      let (lo, carry) ← recodeLoop (nib.take 63) 0
      let es := lo ++ nib.drop 63
      let top ← es[63]?
      let t ← ckI8 (top + carry)
      pure (es.set 63 t)) = recode nib := by
  unfold recode
  have h63 : nib[63]? = some (nib[63]'(by omega)) := List.getElem?_eq_getElem (by omega)
  have hd : nib.drop 63 = [nib[63]'(by omega)] := by
    rw [List.drop_eq_getElem_cons (by omega), List.drop_of_length_le (by omega)]
  cases hr : recodeLoop (nib.take 63) 0 with
  | none => rfl
  | some p =>
    obtain ⟨lo, carry⟩ := p
    have hlo : lo.length = 63 := by
      rw [recodeLoop_length _ _ _ _ hr]; simp only [List.length_take]; omega
    have e1 : (lo ++ nib.drop 63)[63]? = some (nib[63]'(by omega)) := by
      rw [hd, List.getElem?_append_right (by omega), hlo]; rfl
    simp only [some_bind, e1, h63]
    refine bind_congr fun t => ?_
    rw [hd, List.set_append_right _ _ (by omega), hlo]
    rfl

theorem to_full_comm {β γ} (t : GeP1P1) (y : Option β) (f : Ge → β → Option γ) :
    (GeP1P1.to_full t >>= fun a => y >>= fun b => f a b) = (y >>= fun b => GeP1P1.to_full t >>= fun a => f a b) := by
  cases GeP1P1.to_full t <;> cases y <;> rfl

/-- `ite_bind'` in the `>>=` spelling of the generated text (`simp` does not match one spelling with the other); with it both sides
    of a loop step are normalised into the same tree -/
theorem ite_bind_seq {α β} (c : Prop) [Decidable c] (a b : Option α) (f : α → Option β) :
    ((if c then a else b) >>= f) = if c then a >>= f else b >>= f := ite_bind' c a b f

/-- one pass of the generated window loop is the model's `dsmStep` (the two texts differ in the order of `to_full` and the
    table lookup, and in where the binds are nested) -/
theorem GePartial.dsm_loop1_step (as bs : List Int) (ai : List GeCached) (fuel i : Nat) (r : GePartial) :
    GePartial.double_scalarmult_vartime_loop1_src as bs ai (fuel + 1) r i =
      dsmStep ai as bs r i >>= fun r' =>
        if i == 0 then pure r' else GePartial.double_scalarmult_vartime_loop1_src as bs ai fuel r' (i - 1) := by
  rw [GePartial.double_scalarmult_vartime_loop1_src]
  unfold dsmStep
  simp only [to_full_comm, bind_assoc, ite_bind_seq, pure_bind]

theorem GePartial.dsm_loop1 (as bs : List Int) (ai : List GeCached) : ∀ (i : Nat) (r : GePartial),
    GePartial.double_scalarmult_vartime_loop1_src as bs ai (i + 1) r i = dsmLoop ai as bs (i + 1) r
  | 0, r => by
    rw [GePartial.dsm_loop1_step, dsmLoop]
    rfl
  | j + 1, r => by
    rw [GePartial.dsm_loop1_step, dsmLoop]
    refine bind_congr fun r' => ?_
    rw [if_neg (by simp)]
    exact GePartial.dsm_loop1 as bs ai j r'

theorem topIndex_succ (as bs : List Int) (n : Nat) (a b : Int) (ha : as[n]? = some a) (hb : bs[n]? = some b) :
    topIndex as bs (n + 1) = if a != 0 || b != 0 then some n else topIndex as bs n := by
  rw [topIndex, ha, hb]
  rfl

theorem GePartial.dsm_loop2_step (as bs : List Int) (ai : List GeCached) (r : GePartial) (fuel i : Nat) (a b : Int)
    (ha : as[i]? = some a) (hb : bs[i]? = some b) :
    GePartial.double_scalarmult_vartime_loop2_src as bs ai r (fuel + 1) i =
      if a != 0 || b != 0 then dsmLoop ai as bs (i + 1) r
      else if i == 0 then pure r else GePartial.double_scalarmult_vartime_loop2_src as bs ai r fuel (i - 1) := by
  rw [GePartial.double_scalarmult_vartime_loop2_src, GePartial.double_scalarmult_vartime_k1_src, GePartial.dsm_loop1, ha, hb,
    some_bind, some_bind]
  cases a != 0 <;> cases b != 0 <;> rfl

/-- the search loop with `i` indices left to look at (entered at index `i - 1` with fuel `i`) is `topIndex` followed by the
    window loop -/
theorem GePartial.dsm_loop2 (as bs : List Int) (ai : List GeCached) (r : GePartial) (hla : as.length = 256) (hlb : bs.length = 256) :
    ∀ (i : Nat), i ≤ 256 →
      (if i == 0 then pure r else GePartial.double_scalarmult_vartime_loop2_src as bs ai r i (i - 1))
        = (match topIndex as bs i with
           | none => pure r
           | some k => dsmLoop ai as bs (k + 1) r)
  | 0, _ => rfl
  | i + 1, hi => by
    obtain ⟨a, ha⟩ : ∃ a, as[i]? = some a := ⟨_, List.getElem?_eq_getElem (by omega)⟩
    obtain ⟨b, hb⟩ : ∃ b, bs[i]? = some b := ⟨_, List.getElem?_eq_getElem (by omega)⟩
    rw [topIndex_succ as bs i a b ha hb]
    show GePartial.double_scalarmult_vartime_loop2_src as bs ai r (i + 1) i = _
    rw [GePartial.dsm_loop2_step as bs ai r i i a b ha hb]
    cases a != 0 || b != 0
    · exact GePartial.dsm_loop2 as bs ai r hla hlb i (by omega)
    · rfl

end geloops

/-! ### ed25519.rs -/

/-- the statements `signature` and `signature_extended` share after `public_key`, `az`, `nonce` are known, as the source has
    them (buffer `[0; 64]`, two `copy_from_slice`), are the model's `signature_tail` -/
theorem Ed25519.signature_tail_src (message public_key az : Bytes) (nonce : Scalar64.Scalar) :
    (do
      let r ← Ge.scalarmult_base nonce
      let signature := zeros 64
      let tmp6 ← Ge.to_bytes r
      let signature := tmp6 ++ signature.drop 32
      let signature := signature.take 32 ++ public_key
      let tmp7 ← Sha2.Ctx512.update (Sha2.Ctx512.new Sha2.Sha512) signature
      let tmp8 ← Sha2.Ctx512.update tmp7 message
      let hram ← Sha2.Ctx512.finalize Sha2.Sha512 tmp8
      let hram ← Scalar64.reduceFromWideBytes hram
      let tmp11 ← Ed25519.extended_scalar az
      let r ← Scalar64.muladd hram tmp11 nonce
      let tmp13 := Scalar64.to_bytes r
      pure (signature.take 32 ++ tmp13)) = Ed25519.signature_tail message public_key az nonce := by
  unfold Ed25519.signature_tail
  refine bind_congr fun r => ?_
  cases hb : Ge.to_bytes r with
  | none => rfl
  | some rb =>
    have hl := Ge.to_bytes_length r rb hb
    have e1 : (rb ++ List.drop 32 (zeros 64)).take 32 = rb := by
      rw [List.take_append_of_le_length (by omega), List.take_of_length_le (by omega)]
    simp only [some_bind, e1, Ed25519.sha512_2, bind_assoc]

theorem Ed25519.verify_loop1 (l : Bytes) (d : UInt8) : Ed25519.verify_loop1_src l d = l.foldl (· ||| ·) d := by
  induction l generalizing d with
  | nil => rfl
  | cons x l ih => simp only [Ed25519.verify_loop1_src, List.foldl_cons, ih]

/-! ### curve25519/mod.rs: the Montgomery ladder -/

section ladder
open Cx.Impl.X25519 (Ladder ladderLoop ladderStep ladderStepCore ladderArith z5Of bitChoice Z5 A24P1 A24P1_BASE NINE)

/-- the loop-carried variables `(x2, z2, x3, z3, swap)` of the generated loop = the model's `Ladder` record -/
def Ladder.toTuple (s : Ladder) : Fe × Fe × Fe × Fe × CT.Choice := (s.x2, s.z2, s.x3, s.z3, s.swap)

theorem toTuple_bind {β} (L : Option Ladder) (K : Fe × Fe × Fe × Fe × CT.Choice → Option β) :
    (L.map Ladder.toTuple >>= K) = L >>= fun s => K (s.x2, s.z2, s.x3, s.z3, s.swap) := by
  cases L <;> rfl

/-- one iteration of the model's loop followed by `F`, with the arithmetic as one flat `do` block: the shape of the generated
    loops, whose two copies differ only in the constants (`rfl` below evaluates `A24P1`, `A24P1_BASE`, `NINE`) -/
theorem ladderStep_bind {β} (e : Bytes) (he : e.length = 32) (a24p1 : Nat) (z5k : Z5) (s : Ladder) (k : Nat) (hk : k < 255)
    (F : Ladder → Option β) :
    (ladderStep e he a24p1 z5k s k hk).bind F =
      let b := bitChoice e he k hk
      let p := maybe_swap_with s.x2 s.x3 (s.swap.xor b)
      let q := maybe_swap_with s.z2 s.z3 (s.swap.xor b)
      (do
        let d ← sub p.2 q.2
        let b' ← sub p.1 q.1
        let a ← add p.1 q.1
        let c ← add p.2 q.2
        let da ← mul d a
        let cb ← mul c b'
        let bb ← square b'
        let aa ← square a
        let t0 ← add da cb
        let t1 ← sub da cb
        let x4 ← mul aa bb
        let e ← sub aa bb
        let t2 ← square t1
        let t3 ← mul_small e a24p1
        let x5 ← square t0
        let t4 ← add bb t3
        let z5 ← z5Of z5k t2
        let z4 ← mul e t4
        F ⟨x4, z4, x5, z5, b⟩) := by
  unfold ladderStep ladderStepCore ladderArith
  simp only [Option.bind_eq_bind, Option.map_bind, Option.bind_assoc, Option.pure_def, Option.map_some, Option.bind_some,
    Function.comp_def]

/-- `for pos in (0usize..255).rev()` of `curve25519` is the model's `ladderLoop` (every number of remaining iterations, every
    register contents) -/
theorem curve25519_loop1 (e : Bytes) (he : e.length = 32) (x1 : Fe) :
    ∀ (k : Nat) (hk : k ≤ 255) (x2 z2 x3 z3 : Fe) (sw : CT.Choice),
      curve25519_loop1_src e x1 k x2 z2 x3 z3 sw
        = (ladderLoop e he A24P1 (.mulX1 x1) k hk ⟨x2, z2, x3, z3, sw⟩).map Ladder.toTuple
  | 0, _, _, _, _, _, _ => rfl
  | k + 1, hk, x2, z2, x3, z3, sw => by
    have hi : e[k / 8]? = some (e[k / 8]'(by omega)) := List.getElem?_eq_getElem (by omega)
    rw [ladderLoop, Option.map_bind, ladderStep_bind, curve25519_loop1_src, hi, some_bind]
    simp only [Function.comp_def, ← curve25519_loop1 e he x1 k (by omega)]
    rfl

theorem curve25519_base_loop1 (e : Bytes) (he : e.length = 32) :
    ∀ (k : Nat) (hk : k ≤ 255) (x2 z2 x3 z3 : Fe) (sw : CT.Choice),
      curve25519_base_loop1_src e k x2 z2 x3 z3 sw
        = (ladderLoop e he A24P1_BASE (.small NINE) k hk ⟨x2, z2, x3, z3, sw⟩).map Ladder.toTuple
  | 0, _, _, _, _, _, _ => rfl
  | k + 1, hk, x2, z2, x3, z3, sw => by
    have hi : e[k / 8]? = some (e[k / 8]'(by omega)) := List.getElem?_eq_getElem (by omega)
    rw [ladderLoop, Option.map_bind, ladderStep_bind, curve25519_base_loop1_src, hi, some_bind]
    simp only [Function.comp_def, ← curve25519_base_loop1 e he k (by omega)]
    rfl

end ladder

/-- the loop of `square_repeatdly` around the limb kernel (one iteration is `square`: Props/C15/KernelTieFe64.lean, here by `rfl`) -/
theorem Fe.square_repeatdly_loop1 : ∀ (n : Nat) (f : Fe), Fe.square_repeatdly_loop1_src n f = square_repeatdly f n
  | 0, _ => rfl
  | n + 1, f => by
    unfold Fe.square_repeatdly_loop1_src square_repeatdly
    rw [show Extracted.KernelsFe64.square_repeatdly_body_src f = square f from rfl]
    cases square f with
    | none => rfl
    | some g => exact Fe.square_repeatdly_loop1 n g

section slide
open Cx.Impl.Scalar64 (slideCarry slideInner slideOuter)

theorem Vector.getElem?_toList256 (v : Vector Int 256) (k : Nat) (h : k < 256) : v.toList[k]? = some v[k] := by
  rw [Vector.getElem?_toList, Vector.getElem?_eq_getElem h]

theorem Scalar.slide_loop3 : ∀ (fuel k : Nat) (v : Vector Int 256), k + fuel ≤ 256 →
    Scalar.slide_loop3_src fuel k v.toList = some (slideCarry fuel k v).toList
  | 0, _, _, _ => rfl
  | fuel + 1, k, v, h => by
    have hk : k < 256 := by omega
    unfold Scalar.slide_loop3_src slideCarry
    rw [Vector.getElem?_toList256 v k hk, some_bind, dif_pos hk]
    by_cases h0 : (v[k] == 0) = true
    · rw [if_pos h0, if_pos h0, Vector.toList_set hk]; rfl
    · rw [if_neg h0, if_neg h0, ← Vector.toList_set hk]
      exact Scalar.slide_loop3 fuel (k + 1) _ (by omega)

theorem Scalar.slide_loop2 (i bound : Nat) (hi : i < 256) (hb256 : bound ≤ 256 - i) : ∀ (cnt b fuel : Nat) (v : Vector Int 256),
    b + cnt = bound → cnt ≤ fuel →
    Scalar.slide_loop2_src i cnt b v.toList = (slideInner i bound fuel b v).map Vector.toList
  | 0, b, fuel, v, hb, _ => by
    cases fuel with
    | zero => rfl
    | succ f =>
      unfold Scalar.slide_loop2_src slideInner
      rw [dif_neg (by omega)]; rfl
  | cnt + 1, b, fuel, v, hb, hf => by
    obtain ⟨f, rfl⟩ : ∃ f, fuel = f + 1 := ⟨fuel - 1, by omega⟩
    have hib : i + b < 256 := by omega
    have ih := fun v' => Scalar.slide_loop2 i bound hi hb256 cnt (b + 1) f v' (by omega) (by omega)
    have h3 := fun v' => Scalar.slide_loop3 (256 - (i + b)) (i + b) v' (by omega)
    have ts : ∀ (w : Vector Int 256) (k : Nat) (x : Int) (hk : k < 256), w.toList.set k x = (w.set k x hk).toList :=
      fun w k x hk => (Vector.toList_set hk).symm
    unfold Scalar.slide_loop2_src slideInner
    rw [dif_pos ⟨by omega, hib⟩]
    simp only [Vector.getElem?_toList256 v (i + b) hib, Vector.getElem?_toList256 v i hi, some_bind, ts _ i _ hi, ts _ (i + b) _ hib,
      ih, h3, Vector.length_toList, hib, if_true]
    split
    · cases ckI8 (v[i] + shlI8 v[i + b] b) with
      | none => rfl
      | some s =>
        simp only [some_bind]
        split
        · rfl
        · cases ckI8 (v[i] - shlI8 v[i + b] b) with
          | none => rfl
          | some d => simp only [some_bind]; split <;> rfl
    · rfl
theorem Scalar.slide_loop1 : ∀ (fuel i : Nat) (v : Vector Int 256), i + fuel ≤ 256 →
    Scalar.slide_loop1_src fuel i v.toList = (slideOuter fuel i v).map Vector.toList
  | 0, _, _, _ => rfl
  | fuel + 1, i, v, h => by
    have hi : i < 256 := by omega
    unfold Scalar.slide_loop1_src slideOuter
    rw [dif_pos hi, Vector.getElem?_toList256 v i hi, some_bind]
    by_cases hnz : (v[i] != 0) = true
    · rw [if_pos hnz, if_pos hnz]
      have hm : 1 + (min 7 (256 - i) - 1) = min 7 (256 - i) := by omega
      rw [Scalar.slide_loop2 i (min 7 (256 - i)) hi (by omega) (min 7 (256 - i) - 1) 1 7 v hm (by omega)]
      cases slideInner i (min 7 (256 - i)) 7 1 v with
      | none => rfl
      | some r' =>
        rw [Option.map_some, some_bind]
        exact Scalar.slide_loop1 fuel (i + 1) r' (by omega)
    · rw [if_neg hnz, if_neg hnz]
      exact Scalar.slide_loop1 fuel (i + 1) v (by omega)

end slide

section bytes
open Cx.Impl.Scalar64 (shl64 load32 load64)

theorem Fe.from_bytes_load (b : Bytes) (h : b.length = 32) (ofs : Nat) (ho : ofs + 7 < 32) :
    Fe.from_bytes_load_src b ofs = some (load b h ofs ho) := by
  unfold Fe.from_bytes_load_src load
  rw [if_pos h]
  simp (disch := omega) only [List.getElem?_eq_getElem, some_bind]
  rfl

theorem natToLE_8 (v : Nat) : ∃ b0 b1 b2 b3 b4 b5 b6 b7 : UInt8, natToLE 8 v = [b0, b1, b2, b3, b4, b5, b6, b7] := by
  simp [natToLE]

theorem shl64_byte (x : UInt8) (k : Nat) (hk : k ≤ 56) : shl64 x.toNat k = x.toNat <<< k :=
  Nat.mod_eq_of_lt (Bits.byte_shl_lt x hk)

theorem Scalar.from_bytes_load (b : Bytes) (h : b.length = 32) (ofs : Nat) (ho : ofs + 7 < 32) :
    Scalar.from_bytes_load_src b ofs = some (load32 ⟨b.toArray, by simp [h]⟩ ofs ho) := by
  unfold Scalar.from_bytes_load_src load32
  rw [if_pos h]
  simp (disch := omega) only [List.getElem?_eq_getElem, some_bind]
  simp (disch := omega) only [shl64_byte]
  rfl

theorem Scalar.reduce_from_wide_bytes_load (b : Bytes) (h : b.length = 64) (ofs : Nat) (ho : ofs + 7 < 64) :
    Scalar.reduce_from_wide_bytes_load_src b ofs = some (load64 ⟨b.toArray, by simp [h]⟩ ofs ho) := by
  unfold Scalar.reduce_from_wide_bytes_load_src load64
  rw [if_pos h]
  simp (disch := omega) only [List.getElem?_eq_getElem, some_bind]
  simp (disch := omega) only [shl64_byte]
  rfl

def Scalar.bitF (cl : List Nat) (j : Nat) : Int := Int.ofNat (1 &&& ((cl[j >>> 6]?.getD 0) >>> (j &&& 63)))

open GlueVocab (splice setRange setRange_eq_splice)

/-- the `for i in lo..hi` loop of `bits` stores `bitF cl i` at `i`: `cnt` rounds from `i` fill that window -/
theorem Scalar.bits_loop1 (cl : List Nat) (hcl : cl.length = 4) : ∀ (cnt i : Nat) (r : List Int), i + cnt ≤ 256 → i + cnt ≤ r.length →
    Scalar.bits_loop1_src cl cnt i r = some (splice r i ((List.range cnt).map fun k => Scalar.bitF cl (i + k)))
  | 0, i, r, _, _ => by simp [Scalar.bits_loop1_src, GlueVocab.splice_nil]
  | cnt + 1, i, r, hi, hr => by
    have hc : cl[i >>> 6]? = some (cl[i >>> 6]'(by rw [Nat.shiftRight_eq_div_pow]; omega)) :=
      List.getElem?_eq_getElem (by rw [Nat.shiftRight_eq_div_pow]; omega)
    have hv : Int.ofNat (1 &&& (cl[i >>> 6]'(by rw [Nat.shiftRight_eq_div_pow]; omega)) >>> (i &&& 63)) = Scalar.bitF cl i := by
      unfold Scalar.bitF; rw [hc]; rfl
    unfold Scalar.bits_loop1_src
    rw [hc, some_bind, hv, Scalar.bits_loop1 cl hcl cnt (i + 1) _ (by omega) (by rw [List.length_set]; omega),
      GlueVocab.set_eq_splice (by omega), List.range_succ_eq_map, List.map_cons, List.map_map, Nat.add_zero,
      show ((fun k => Scalar.bitF cl (i + k)) ∘ Nat.succ) = fun k => Scalar.bitF cl (i + 1 + k) from
        funext fun k => by rw [Function.comp, Nat.add_right_comm, Nat.add_succ]]
    exact congrArg some (GlueVocab.splice_splice (a := [Scalar.bitF cl i]) (by simp; omega))

def Scalar.nibF (cl : List Nat) (j : Nat) : Int := Int.ofNat (((cl[j / 16]?.getD 0) >>> (4 * (j % 16))) &&& 15)

/-- one pass of the `for b in 0..4` loop of `nibbles` stores the sixteen nibbles of word `b`: `cnt` passes from `b` fill that window -/
theorem Scalar.nibbles_loop1 (cl : List Nat) (hcl : cl.length = 4) : ∀ (cnt b : Nat) (es : List Int), b + cnt ≤ 4 → 16 * (b + cnt) ≤ es.length →
    Scalar.nibbles_loop1_src cl cnt b es = some (splice es (16 * b) ((List.range (16 * cnt)).map fun k => Scalar.nibF cl (16 * b + k)))
  | 0, b, es, _, _ => by simp [Scalar.nibbles_loop1_src, GlueVocab.splice_nil]
  | cnt + 1, b, es, hb, hes => by
    have hc : cl[b]? = some (cl[b]'(by omega)) := List.getElem?_eq_getElem (by omega)
    have h16 : (List.range 16).map (fun k => Int.ofNat ((cl[b]'(by omega)) >>> (4 * k) &&& 15)) =
        (List.range 16).map fun k => Scalar.nibF cl (16 * b + k) :=
      List.map_congr_left fun k hk => by
        have hk : k < 16 := List.mem_range.mp hk
        rw [Scalar.nibF, show (16 * b + k) / 16 = b by omega, hc, show (16 * b + k) % 16 = k by omega]; rfl
    have hl : 16 * b + ((List.range 16).map fun k => Scalar.nibF cl (16 * b + k)).length ≤ es.length := by simp; omega
    unfold Scalar.nibbles_loop1_src
    rw [hc, some_bind]
    show Scalar.nibbles_loop1_src cl cnt (b + 1) (setRange (fun k => Int.ofNat ((cl[b]'(by omega)) >>> (4 * k) &&& 15)) (16 * b) 16 es) = _
    rw [setRange_eq_splice _ _ _ 16 (by omega), h16,
      Scalar.nibbles_loop1 cl hcl cnt (b + 1) _ (by omega) (by rw [GlueVocab.splice_length hl]; omega),
      show 16 * (cnt + 1) = 16 + 16 * cnt by omega, List.range_add, List.map_append, List.map_map]
    have e := GlueVocab.splice_splice (b := (List.range (16 * cnt)).map fun k => Scalar.nibF cl (16 * b + 16 + k)) hl
    rw [List.length_map, List.length_range] at e
    rw [show 16 * (b + 1) = 16 * b + 16 by omega, e]
    rw [show (fun k => Scalar.nibF cl (16 * b + 16 + k)) = (fun k => Scalar.nibF cl (16 * b + k)) ∘ fun x => 16 + x from
      funext fun k => by rw [Function.comp_apply, Nat.add_assoc]]

end bytes

end Cx.Proofs.GlueCurve
