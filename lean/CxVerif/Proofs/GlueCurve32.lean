/-
  Proofs.GlueCurve32 — helper lemmas for the translator tie of the curve layer on the 32-bit backend
  (Props/C17/GlueTieCurve32.lean): facts about the AUXILIARY definitions tools/ktx_glue_curve.py generates for the
  `force-32bits` configuration (specs tools/kernels/glue_curve32.py: join points `<f>_k<n>_src`, loop definitions
  `<f>_loop<n>_src`) and small `Option`-monad normalisation lemmas.  For each generated loop ONE unfolding is stated against
  the model's step (`dsm_loop1_step`, `dsm_loop2_step`, `ladderStep_bind`); the inductions then only count.  Counterpart of
  Proofs/GlueCurve.lean.  ge.rs, scalar/mod.rs and ed25519.rs are backend-generic: the generated loops that mention neither `Fe`
  nor `Scalar` (`Scalar::slide`, the recoding loop of `scalarmult_base`, the zero test of `verify`) are the same term in both
  configurations and their models are shared constants, so their ties are those of Proofs/GlueCurve.lean carried along the
  conversion `@f_src = @Extracted.GlueCurve.f_src`; what is proved here is what depends on the field backend.  Those lemmas are the
  scripts of Proofs/GlueCurve.lean once more over the other backend's types: `Ge`, `GePartial`, `GeP1P1`, `GePrecomp`, `GeCached`,
  `GeAffine`, `Ladder`, `Z5` are separate inductive types per backend and the generated functions separate constants, so one statement
  for both would have to take the unfolding equations of the generated and of the model functions as hypotheses, and those are the
  program text — longer than the second copy of a script that only walks along it.
-/
import CxVerif.Extracted.GlueCurve32
import CxVerif.Proofs.GlueCurve
import CxVerif.Proofs.KernelRfl
namespace Cx.Proofs.GlueCurve32
open Cx Cx.Impl Cx.Impl.Fe32 Cx.Impl.Ge32 Cx.Extracted.GlueCurve32
open Cx.Impl.Ge (setSign bnegativeOf babsOf recodeLoop topIndex)
open Cx.Impl.Scalar64 (ckI8 shlI8)
open Cx.Proofs.GlueCurve (bind_pure_bind ite_bind_seq topIndex_succ)

theorem ite_bind' {α β} (c : Prop) [Decidable c] (a b : Option α) (f : α → Option β) :
    (if c then a else b).bind f = if c then a.bind f else b.bind f :=
  GlueCurve.ite_bind' c a b f

/-! ### ge.rs -/

/-- the join point of `GeAffine::from_bytes` (sign adjustment + `Some(Self { x, y })`) is the model's local `finish`
    (written as Lean elaborates the model's `do` block) -/
theorem GeAffine.from_bytes_k1 (s : Bytes) (h : s.length = 32) (y X : Fe) :
    GeAffine.from_bytes_k1_src s y X = (do
        let n ← is_negative X
        if (n != ((s[31]'(by omega)) >>> 7 != 0)) = true then do
            let x ← negate_mut X
            pure (some { x := x, y := y })
          else do
            let x ← pure X
            pure (some { x := x, y := y })) := by
  have h31 : s[31]? = some (s[31]'(by omega)) := List.getElem?_eq_getElem (by omega)
  unfold GeAffine.from_bytes_k1_src
  rw [h31]
  generalize is_negative X = o
  generalize negate_mut X = o2
  cases o with
  | none => rfl
  | some n =>
    simp only [Option.bind_eq_bind, Option.bind_some, Option.pure_def]
    generalize (n != (s[31] >>> 7 != 0)) = c
    cases c <;> cases o2 <;> rfl

/-- the generated `select` with its `debug_assert!` marker removed.  `Glue.debugAssert_iff` does not apply when the generated
    text carries no marker (i.e. when the source says `assert!`, or nothing): `assert!` ↔ `debug_assert!` breaks the tie -/
theorem GePrecomp.select_src_unmarked (pos : Nat) (b : Int) :
    GePrecomp.select_src pos b =
      (if (b ≥ (-8 : Int)) ∧ (b ≤ (8 : Int)) then GePrecomp.select_src pos b else none) := by
  by_cases h : b ≥ (-8 : Int) ∧ b ≤ (8 : Int)
  · rw [if_pos h]
  · rw [if_neg h]
    unfold GePrecomp.select_src
    rw [if_neg (mt (Glue.debugAssert_iff _).1 h)]

/-- the `i8`/`u8` bit tricks of `select` on the seventeen digits the `debug_assert!` allows: sign and magnitude as the model
    has them; the helpers `i8AsU8`, `u8AsI8`, `i8And` are those of the 64-bit build -/
theorem select_digit (b : Int) (h : -8 ≤ b ∧ b ≤ 8) :
    i8AsU8 b >>> 7 = UInt8.ofNat (bnegativeOf b) ∧
    (ckI8 (b - shlI8 (i8And (-(u8AsI8 (i8AsU8 b >>> 7))) b) 1)).map i8AsU8 = (babsOf b).map UInt8.ofNat :=
  (GlueCurve.select_digit b h :)

/-- `GePrecomp::select` on those digits: beyond sign and magnitude the two texts differ only in the shape of the binds -/
theorem GePrecomp.select_in (pos : Nat) (b : Int) (h : -8 ≤ b ∧ b ≤ 8) : GePrecomp.select_src pos b = GePrecomp.select pos b := by
  obtain ⟨h1, h2⟩ := select_digit b h
  unfold GePrecomp.select_src GePrecomp.select
  rw [if_pos ⟨h⟩, if_neg (by omega)]
  generalize GE_BASE[pos]? = orow
  simp only [Option.bind_eq_bind, Option.pure_def, bind_pure_bind, h1]
  rw [h1] at h2
  generalize ckI8 _ = ot at h2 ⊢
  generalize babsOf b = on at h2 ⊢
  match ot, on, h2 with
  | none, none, _ => rfl
  | some t, some n, h2 =>
    have h3 : i8AsU8 t = UInt8.ofNat n := Option.some.inj h2
    simp only [Option.bind_some, h3]
    rfl

section geloops

theorem Scalar.nibbles_length (s : Scalar32.Scalar) : (Scalar32.nibbles s).length = 64 := by
  rw [Scalar32.nibbles, Bytes.length_flatMap_const _ 2 (fun _ => rfl), Vector.length_toList]

theorem Ge.scalarmult_base_loop1 (es : List Int) (c : Int) : Ge.scalarmult_base_loop1_src es c = recodeLoop es c :=
  (show @Ge.scalarmult_base_loop1_src = @Extracted.GlueCurve.Ge.scalarmult_base_loop1_src by kernel_rfl) ▸ GlueCurve.Ge.scalarmult_base_loop1 es c

theorem Ge.scalarmult_base_loop2 (es : List Int) : ∀ (n j : Nat) (h : Ge), Ge.scalarmult_base_loop2_src es n j h = combLoop es 1 n j h
  | 0, _, _ => rfl
  | n + 1, j, h => by
    unfold Ge.scalarmult_base_loop2_src combLoop
    simp only [Ge.scalarmult_base_loop2 es n]

theorem Ge.scalarmult_base_loop3 (es : List Int) : ∀ (n j : Nat) (h : Ge), Ge.scalarmult_base_loop3_src es n j h = combLoop es 0 n j h
  | 0, _, _ => rfl
  | n + 1, j, h => by
    unfold Ge.scalarmult_base_loop3_src combLoop
    simp only [Ge.scalarmult_base_loop3 es n, Nat.add_zero]

theorem to_full_comm {β γ} (t : GeP1P1) (y : Option β) (f : Ge → β → Option γ) :
    (GeP1P1.to_full t >>= fun a => y >>= fun b => f a b) = (y >>= fun b => GeP1P1.to_full t >>= fun a => f a b) := by
  cases GeP1P1.to_full t <;> cases y <;> rfl

/-- one pass of the generated window loop is the model's `dsmStep` (the two texts differ in the order of `to_full` and the
    table lookup, and in where the binds are nested) -/
theorem GePartial.dsm_loop1_step (as bs : List Int) (ai : List GeCached) (fuel i : Nat) (r : GePartial) :
    GePartial.double_scalarmult_vartime_loop1_src as bs ai (fuel + 1) r i =
      dsmStep ai as bs r i >>= fun r' =>
        if i == 0 then pure r' else GePartial.double_scalarmult_vartime_loop1_src as bs ai fuel r' (i - 1) := by
  rw [GePartial.double_scalarmult_vartime_loop1_src]
  unfold dsmStep
  simp only [to_full_comm, bind_assoc, ite_bind_seq, pure_bind]

theorem GePartial.dsm_loop1 (as bs : List Int) (ai : List GeCached) : ∀ (i : Nat) (r : GePartial),
    GePartial.double_scalarmult_vartime_loop1_src as bs ai (i + 1) r i = dsmLoop ai as bs (i + 1) r
  | 0, r => by
    rw [GePartial.dsm_loop1_step, dsmLoop]
    rfl
  | j + 1, r => by
    rw [GePartial.dsm_loop1_step, dsmLoop]
    refine bind_congr fun r' => ?_
    rw [if_neg (by simp)]
    exact GePartial.dsm_loop1 as bs ai j r'

theorem GePartial.dsm_loop2_step (as bs : List Int) (ai : List GeCached) (r : GePartial) (fuel i : Nat) (a b : Int)
    (ha : as[i]? = some a) (hb : bs[i]? = some b) :
    GePartial.double_scalarmult_vartime_loop2_src as bs ai r (fuel + 1) i =
      if a != 0 || b != 0 then dsmLoop ai as bs (i + 1) r
      else if i == 0 then pure r else GePartial.double_scalarmult_vartime_loop2_src as bs ai r fuel (i - 1) := by
  rw [GePartial.double_scalarmult_vartime_loop2_src, GePartial.double_scalarmult_vartime_k1_src, GePartial.dsm_loop1, ha, hb,
    some_bind, some_bind]
  cases a != 0 <;> cases b != 0 <;> rfl

/-- the search loop with `i` indices left to look at (entered at index `i - 1` with fuel `i`) is `topIndex` followed by the
    window loop -/
theorem GePartial.dsm_loop2 (as bs : List Int) (ai : List GeCached) (r : GePartial) (hla : as.length = 256) (hlb : bs.length = 256) :
    ∀ (i : Nat), i ≤ 256 →
      (if i == 0 then pure r else GePartial.double_scalarmult_vartime_loop2_src as bs ai r i (i - 1))
        = (match topIndex as bs i with
           | none => pure r
           | some k => dsmLoop ai as bs (k + 1) r)
  | 0, _ => rfl
  | i + 1, hi => by
    obtain ⟨a, ha⟩ : ∃ a, as[i]? = some a := ⟨_, List.getElem?_eq_getElem (by omega)⟩
    obtain ⟨b, hb⟩ : ∃ b, bs[i]? = some b := ⟨_, List.getElem?_eq_getElem (by omega)⟩
    rw [topIndex_succ as bs i a b ha hb]
    show GePartial.double_scalarmult_vartime_loop2_src as bs ai r (i + 1) i = _
    rw [GePartial.dsm_loop2_step as bs ai r i i a b ha hb]
    cases a != 0 || b != 0
    · exact GePartial.dsm_loop2 as bs ai r hla hlb i (by omega)
    · rfl

end geloops

theorem Fe.to_bytes_length (f : Fe) (b : Bytes) (h : Fe32.to_bytes f = some b) : b.length = 32 := by
  unfold Fe32.to_bytes at h
  obtain ⟨w, _, h⟩ := Option.bind_eq_some_iff.mp h
  cases h
  rfl
theorem GeAffine.to_bytes_length (a : GeAffine) (b : Bytes) (h : GeAffine.to_bytes a = some b) : b.length = 32 := by
  unfold GeAffine.to_bytes at h
  obtain ⟨bs, hbs, h⟩ := Option.bind_eq_some_iff.mp h
  obtain ⟨n, _, h⟩ := Option.bind_eq_some_iff.mp h
  cases h
  simp only [setSign, List.length_modify]
  exact Fe.to_bytes_length _ _ hbs
theorem Ge.to_bytes_length (g : Ge) (b : Bytes) (h : Ge.to_bytes g = some b) : b.length = 32 := by
  unfold Ge.to_bytes at h
  obtain ⟨a, _, h⟩ := Option.bind_eq_some_iff.mp h
  exact GeAffine.to_bytes_length a b h

/-! ### ed25519.rs -/

/-- the statements `signature` and `signature_extended` share after `public_key`, `az`, `nonce` are known, as the source has
    them (buffer `[0; 64]`, two `copy_from_slice`), are the model's `signature_tail` -/
theorem Ed25519_32.signature_tail_src (message public_key az : Bytes) (nonce : Scalar32.Scalar) :
    (do
      let r ← Ge.scalarmult_base nonce
      let signature := zeros 64
      let tmp6 ← Ge.to_bytes r
      let signature := tmp6 ++ signature.drop 32
      let signature := signature.take 32 ++ public_key
      let tmp7 ← Sha2.Ctx512.update (Sha2.Ctx512.new Sha2.Sha512) signature
      let tmp8 ← Sha2.Ctx512.update tmp7 message
      let hram ← Sha2.Ctx512.finalize Sha2.Sha512 tmp8
      let hram ← (Scalar32.reduceFromWideBytes hram).bind id
      let tmp11 ← Ed25519_32.extended_scalar az
      let r ← Scalar32.muladd hram tmp11 nonce
      let tmp13 := Scalar32.to_bytes r
      pure (signature.take 32 ++ tmp13)) = Ed25519_32.signature_tail message public_key az nonce := by
  unfold Ed25519_32.signature_tail
  refine bind_congr fun r => ?_
  cases hb : Ge.to_bytes r with
  | none => rfl
  | some rb =>
    have hl := Ge.to_bytes_length r rb hb
    have e1 : (rb ++ List.drop 32 (zeros 64)).take 32 = rb := by
      rw [List.take_append_of_le_length (by omega), List.take_of_length_le (by omega)]
    simp only [some_bind, e1, Ed25519.sha512_2, Ed25519_32.reduceWide, bind_assoc]

theorem Ed25519.verify_loop1 (l : Bytes) (d : UInt8) : Ed25519.verify_loop1_src l d = l.foldl (· ||| ·) d :=
  (show @Ed25519.verify_loop1_src = @Extracted.GlueCurve.Ed25519.verify_loop1_src by kernel_rfl) ▸ GlueCurve.Ed25519.verify_loop1 l d

/-! ### curve25519/mod.rs: the Montgomery ladder -/

section ladder
open Cx.Impl.X25519 (bitChoice A24P1 A24P1_BASE NINE)
open Cx.Impl.X25519_32 (Ladder ladderLoop ladderStep ladderStepCore ladderArith z5Of Z5)

/-- the loop-carried variables `(x2, z2, x3, z3, swap)` of the generated loop = the model's `Ladder` record -/
def Ladder.toTuple (s : Ladder) : Fe × Fe × Fe × Fe × CT.Choice := (s.x2, s.z2, s.x3, s.z3, s.swap)

theorem toTuple_bind {β} (L : Option Ladder) (K : Fe × Fe × Fe × Fe × CT.Choice → Option β) :
    (L.map Ladder.toTuple >>= K) = L >>= fun s => K (s.x2, s.z2, s.x3, s.z3, s.swap) := by
  cases L <;> rfl

/-- one iteration of the model's loop followed by `F`, with the arithmetic as one flat `do` block: the shape of the generated
    loops, whose two copies differ only in the constants (`rfl` below evaluates `A24P1`, `A24P1_BASE`, `NINE`) -/
theorem ladderStep_bind {β} (e : Bytes) (he : e.length = 32) (a24p1 : Nat) (z5k : Z5) (s : Ladder) (k : Nat) (hk : k < 255)
    (F : Ladder → Option β) :
    (ladderStep e he a24p1 z5k s k hk).bind F =
      let b := bitChoice e he k hk
      let p := maybe_swap_with s.x2 s.x3 (s.swap.xor b)
      let q := maybe_swap_with s.z2 s.z3 (s.swap.xor b)
      (do
        let d ← sub p.2 q.2
        let b' ← sub p.1 q.1
        let a ← add p.1 q.1
        let c ← add p.2 q.2
        let da ← mul d a
        let cb ← mul c b'
        let bb ← square b'
        let aa ← square a
        let t0 ← add da cb
        let t1 ← sub da cb
        let x4 ← mul aa bb
        let e ← sub aa bb
        let t2 ← square t1
        let t3 ← mul_small e a24p1
        let x5 ← square t0
        let t4 ← add bb t3
        let z5 ← z5Of z5k t2
        let z4 ← mul e t4
        F ⟨x4, z4, x5, z5, b⟩) := by
  unfold ladderStep ladderStepCore ladderArith
  simp only [Option.bind_eq_bind, Option.map_bind, Option.bind_assoc, Option.pure_def, Option.map_some, Option.bind_some,
    Function.comp_def]

/-- `for pos in (0usize..255).rev()` of `curve25519` is the model's `ladderLoop` (every number of remaining iterations, every
    register contents) -/
theorem curve25519_loop1 (e : Bytes) (he : e.length = 32) (x1 : Fe) :
    ∀ (k : Nat) (hk : k ≤ 255) (x2 z2 x3 z3 : Fe) (sw : CT.Choice),
      curve25519_loop1_src e x1 k x2 z2 x3 z3 sw
        = (ladderLoop e he A24P1 (.mulX1 x1) k hk ⟨x2, z2, x3, z3, sw⟩).map Ladder.toTuple
  | 0, _, _, _, _, _, _ => rfl
  | k + 1, hk, x2, z2, x3, z3, sw => by
    have hi : e[k / 8]? = some (e[k / 8]'(by omega)) := List.getElem?_eq_getElem (by omega)
    rw [ladderLoop, Option.map_bind, ladderStep_bind, curve25519_loop1_src, hi, some_bind]
    simp only [Function.comp_def, ← curve25519_loop1 e he x1 k (by omega)]
    rfl

theorem curve25519_base_loop1 (e : Bytes) (he : e.length = 32) :
    ∀ (k : Nat) (hk : k ≤ 255) (x2 z2 x3 z3 : Fe) (sw : CT.Choice),
      curve25519_base_loop1_src e k x2 z2 x3 z3 sw
        = (ladderLoop e he A24P1_BASE (.small NINE) k hk ⟨x2, z2, x3, z3, sw⟩).map Ladder.toTuple
  | 0, _, _, _, _, _, _ => rfl
  | k + 1, hk, x2, z2, x3, z3, sw => by
    have hi : e[k / 8]? = some (e[k / 8]'(by omega)) := List.getElem?_eq_getElem (by omega)
    rw [ladderLoop, Option.map_bind, ladderStep_bind, curve25519_base_loop1_src, hi, some_bind]
    simp only [Function.comp_def, ← curve25519_base_loop1 e he k (by omega)]
    rfl

end ladder

/-! ### scalar/mod.rs: `Scalar::slide` -/

section slide
open Cx.Impl.Scalar64 (slideOuter)

/-- the three loops of `Scalar::slide` see only the `[i8; 256]`: the generated text is that of the 64-bit build (a conversion: two
    recursions with the same body), and so is the tie -/
theorem Scalar.slide_loop1_src_eq : @Scalar.slide_loop1_src = @Extracted.GlueCurve.Scalar.slide_loop1_src := by kernel_rfl

theorem Scalar.slide_loop1 (fuel i : Nat) (v : Vector Int 256) (h : i + fuel ≤ 256) :
    Scalar.slide_loop1_src fuel i v.toList = (slideOuter fuel i v).map Vector.toList :=
  Scalar.slide_loop1_src_eq ▸ GlueCurve.Scalar.slide_loop1 fuel i v h

end slide

end Cx.Proofs.GlueCurve32
