/-
  Proofs.GlueDigest — what the translator tie of the legacy `Digest` objects and of the hash contexts
  (Props/C09/GlueTieDigest.lean) needs besides case analysis.  The `digest!` macros of the crate generate the same text many
  times over (16 wrappers `{ ctx, computed }`, six SHA-2 contexts, 20 one-shot functions): the shape of each generated method
  is stated here once per family of the model (generic in the context model, or in the algorithm for each engine width, or at
  `b` and `s`), against the hand model (Impl/Digest.lean,
  Impl/Sha2.lean), so that a copy is tied by matching it against its shape.
-/
import CxVerif.Extracted.GlueDigest
namespace Cx.Proofs.GlueDigest
open Cx.Impl.Digest Cx.Extracted.GlueDigest

section legacy
variable {γ : Type} (M : CtxModel γ)

theorem legacy_input (self : Legacy γ) (msg : Bytes) :
    (if self.computed then none else
      match M.update_mut self.ctx msg with
      | none => none
      | some t1 => some { self with ctx := t1 }) = Legacy.input M self msg := rfl

/-- the generated text of `result`: the flag is set BEFORE `finalize_reset`, the digest is stored by `copy_from_slice`
    (which compares the two lengths) -/
theorem legacy_result (self : Legacy γ) (slice : Bytes) :
    (if self.computed then none else
      match M.finalize_reset ({ self with computed := true } : Legacy γ).ctx with
      | none => none
      | some (t1, t2) =>
        if t2.length = slice.length then some (({ ({ self with computed := true } : Legacy γ) with ctx := t1 } : Legacy γ), t2)
        else none) = Legacy.result M self slice.length := by
  unfold Legacy.result
  cases hc : self.computed
  · simp only [Bool.false_eq_true, if_false]
    cases hf : M.finalize_reset self.ctx with
    | none => rfl
    | some p =>
      obtain ⟨c, d⟩ := p
      by_cases hl : d.length = slice.length
      · simp [hl]
      · have : ¬ slice.length = d.length := fun h => hl h.symm
        simp [hl, this]
  · rfl

end legacy

/-- `const CHARS: &'static [u8; 16] = b"0123456789abcdef"` as the translator emits it -/
def CHARS : Bytes := [48, 49, 50, 51, 52, 53, 54, 55, 56, 57, 97, 98, 99, 100, 101, 102]

def hexNibble (n : UInt8) : UInt8 := if n < 10 then 48 + n else 87 + n

/-- the model of `result_str`'s loop: two lowercase hex digits per byte, high nibble first (the UTF-8 bytes of the `String`) -/
def hexAscii (d : Bytes) : Bytes := d.flatMap fun (b : UInt8) => [hexNibble (b >>> 4), hexNibble (b &&& 15)]

theorem nib_all : ∀ n : Fin 256,
    ((UInt8.ofNat n) >>> 4).toNat < 16 ∧ CHARS[((UInt8.ofNat n) >>> 4).toNat]? = some (hexNibble ((UInt8.ofNat n) >>> 4)) ∧
    ((UInt8.ofNat n) &&& 15).toNat < 16 ∧ CHARS[((UInt8.ofNat n) &&& 15).toNat]? = some (hexNibble ((UInt8.ofNat n) &&& 15)) ∧
    Char.ofNat (hexNibble ((UInt8.ofNat n) >>> 4)).toNat = Hex.digit (n.val / 16) ∧
    Char.ofNat (hexNibble ((UInt8.ofNat n) &&& 15)).toNat = Hex.digit (n.val % 16) := by
  decide +kernel

theorem nib (b : UInt8) :
    (b >>> 4).toNat < 16 ∧ CHARS[(b >>> 4).toNat]? = some (hexNibble (b >>> 4)) ∧
    (b &&& 15).toNat < 16 ∧ CHARS[(b &&& 15).toNat]? = some (hexNibble (b &&& 15)) ∧
    Char.ofNat (hexNibble (b >>> 4)).toNat = Hex.digit (b.toNat / 16) ∧
    Char.ofNat (hexNibble (b &&& 15)).toNat = Hex.digit (b.toNat % 16) := by
  have h := nib_all ⟨b.toNat, b.toNat_lt⟩
  simpa using h

/-- the loop `for &byte in buf.iter() { v.push(CHARS[byte >> 4]); v.push(CHARS[byte & 0xf]); }` never panics and appends the
    hex digits -/
theorem result_str_loop {δ : Type} (D : DigestModel δ) (buf : Bytes) : ∀ v : Bytes,
    Digest.result_str_loop1_src D buf v = some (v ++ hexAscii buf) := by
  induction buf with
  | nil => intro v; simp [Digest.result_str_loop1_src, hexAscii]
  | cons b bs ih =>
    intro v
    obtain ⟨h1, h2, h3, h4, _, _⟩ := nib b
    have e2 : ([48, 49, 50, 51, 52, 53, 54, 55, 56, 57, 97, 98, 99, 100, 101, 102] : Bytes) = CHARS := rfl
    unfold Digest.result_str_loop1_src
    simp only [e2, h1, h2, h3, h4, if_true, ih]
    simp [hexAscii]

/-! ### the legacy BLAKE2 objects (src/blake2b.rs, src/blake2s.rs)

  The Rust struct keeps `key: [u8; N]` and `keylen`; the hand model `Impl.Digest.Blake2` keeps `key[..keylen]`: `abs`.
  `Inv` is the typing invariant of the array plus `keylen ≤ N` (established by the constructors, preserved by every method).
  The two files are the same text up to b/s, `u64`/`u32` and `N` = 64 / 32 (the `assert!(key.len() <= 64)` of `new_keyed` is 64
  in both). -/

section keylen
open Cx.Impl.Blake2 (ContextDyn)
variable {W : Type} [Spec.Blake2.Word W] (P : Spec.Blake2.Params W) {c c' : ContextDyn W} {key : Bytes}

/-- a context that accepted a key was given one that fits: the copy into `key: [u8; N]` cannot fail -/
theorem rekeyed_len (h : ContextDyn.reset_with_key P c key = some c') : key.length ≤ P.maxKey := by
  unfold ContextDyn.reset_with_key Impl.Blake2.Ctx.reset_with_key at h
  by_cases hk : key.length ≤ P.maxKey
  · exact hk
  · simp [hk] at h

theorem keyed_len {outlen : Nat} (h : ContextDyn.new_keyed P outlen key = some c') : key.length ≤ P.maxKey := by
  unfold ContextDyn.new_keyed Impl.Blake2.Ctx.new_keyed at h
  by_cases hk : key.length ≤ P.maxKey
  · exact hk
  · by_cases ho : (outlen > 0 ∧ outlen ≤ P.maxOut) <;> simp [hk, ho] at h

end keylen

namespace B2b

def abs (s : Blake2b.Obj) : Impl.Digest.Blake2 UInt64 := { ctx := s.ctx, computed := s.computed, key := s.key.take s.keylen }

def Inv (s : Blake2b.Obj) : Prop := s.key.length = 64 ∧ s.keylen ≤ 64

theorem digest_output_bits_src_eq (s : Blake2b.Obj) :
    Blake2b.Digest.output_bits_src s = (blake2bDigest codeVariant).output_bits (abs s) := rfl

theorem digest_block_size_src_eq (s : Blake2b.Obj) :
    Blake2b.Digest.block_size_src s = (blake2bDigest codeVariant).block_size (abs s) := rfl

theorem mac_output_bytes_src_eq (s : Blake2b.Obj) :
    Blake2b.Mac.output_bytes_src s = (blake2bMac codeVariant).output_bytes (abs s) := rfl
end B2b

namespace B2s

def abs (s : Blake2s.Obj) : Impl.Digest.Blake2 UInt32 := { ctx := s.ctx, computed := s.computed, key := s.key.take s.keylen }

def Inv (s : Blake2s.Obj) : Prop := s.key.length = 32 ∧ s.keylen ≤ 32

theorem digest_output_bits_src_eq (s : Blake2s.Obj) :
    Blake2s.Digest.output_bits_src s = (blake2sDigest codeVariant).output_bits (abs s) := rfl

theorem digest_block_size_src_eq (s : Blake2s.Obj) :
    Blake2s.Digest.block_size_src s = (blake2sDigest codeVariant).block_size (abs s) := rfl

theorem mac_output_bytes_src_eq (s : Blake2s.Obj) :
    Blake2s.Mac.output_bytes_src s = (blake2sMac codeVariant).output_bytes (abs s) := rfl
end B2s

/-! ### src/hashing/sha1.rs, src/hashing/ripemd160.rs, src/hashing/sha2/mod.rs, src/hashing/mod.rs -/

theorem store_word (pre rest w : Bytes) (k : Nat) (hp : pre.length = k) :
    (pre ++ rest).take k ++ w ++ (pre ++ rest).drop (k + 4) = (pre ++ w) ++ rest.drop 4 := by
  subst hp
  simp [List.drop_append]

theorem five_stores (rs a b c d e : Bytes) (hr : rs.length = 20) (ha : a.length = 4) (hb : b.length = 4) (hc : c.length = 4)
    (hd : d.length = 4) :
    (let rs := a ++ rs.drop 4
     let rs := rs.take 4 ++ b ++ rs.drop 8
     let rs := rs.take 8 ++ c ++ rs.drop 12
     let rs := rs.take 12 ++ d ++ rs.drop 16
     let rs := rs.take 16 ++ e ++ rs.drop 20
     rs) = a ++ b ++ c ++ d ++ e := by
  simp only
  have h1 := store_word a (rs.drop 4) b 4 ha
  rw [h1]
  have h2 := store_word (a ++ b) ((rs.drop 4).drop 4) c 8 (by simp [ha, hb])
  rw [h2]
  have h3 := store_word (a ++ b ++ c) (((rs.drop 4).drop 4).drop 4) d 12 (by simp [ha, hb, hc])
  rw [h3]
  have h4 := store_word (a ++ b ++ c ++ d) ((((rs.drop 4).drop 4).drop 4).drop 4) e 16 (by simp [ha, hb, hc, hd])
  rw [h4]
  have : ((((rs.drop 4).drop 4).drop 4).drop 4).drop 4 = [] := by
    apply List.eq_nil_of_length_eq_zero; simp [hr]
  rw [this]; simp

namespace HS1
open Cx.Impl.Sha1
theorem new_src_eq : HSha1.Context.new_src = Context.new := rfl
theorem reset_src_eq (self : Context) : HSha1.Context.reset_src self = Context.reset self := rfl
end HS1

namespace HRmd
open Cx.Impl.Ripemd160
theorem new_src_eq : HRipemd160.Context.new_src = Context.new := rfl
theorem reset_src_eq (self : Context) : HRipemd160.Context.reset_src self = Context.reset self := rfl
end HRmd

namespace HS2
open Cx.Impl.Sha2

theorem Context512.new_src_eq : HSha2.Context512.new_src = Ctx512.new Sha512 := rfl
theorem Context512.reset_src_eq (self : Ctx512) : HSha2.Context512.reset_src self = Ctx512.reset Sha512 self := rfl
theorem Context384.new_src_eq : HSha2.Context384.new_src = Ctx512.new Sha384 := rfl
theorem Context384.reset_src_eq (self : Ctx512) : HSha2.Context384.reset_src self = Ctx512.reset Sha384 self := rfl
theorem Context512_256.new_src_eq : HSha2.Context512_256.new_src = Ctx512.new Sha512Trunc256 := rfl
theorem Context512_256.reset_src_eq (self : Ctx512) : HSha2.Context512_256.reset_src self = Ctx512.reset Sha512Trunc256 self := rfl
theorem Sha512Trunc256.new_src_eq : HSha2.Sha512Trunc256.new_src = Ctx512.new Sha512Trunc256 := rfl
theorem Context512_224.new_src_eq : HSha2.Context512_224.new_src = Ctx512.new Sha512Trunc224 := rfl
theorem Context512_224.reset_src_eq (self : Ctx512) : HSha2.Context512_224.reset_src self = Ctx512.reset Sha512Trunc224 self := rfl
theorem Sha512Trunc224.new_src_eq : HSha2.Sha512Trunc224.new_src = Ctx512.new Sha512Trunc224 := rfl
theorem Context256.new_src_eq : HSha2.Context256.new_src = Ctx256.new Sha256 := rfl
theorem Context256.reset_src_eq (self : Ctx256) : HSha2.Context256.reset_src self = Ctx256.reset Sha256 self := rfl
theorem Context224.new_src_eq : HSha2.Context224.new_src = Ctx256.new Sha224 := rfl
theorem Context224.reset_src_eq (self : Ctx256) : HSha2.Context224.reset_src self = Ctx256.reset Sha224 self := rfl

/- The six contexts are six copies of one generated text; each copy is the `Ctx256` / `Ctx512` method of the model up to
   an `Option` match that passes its argument on (stated per engine width, as the model has two structure families). -/

/-- the text `digest!(512 …)` generates for `update` / `update_mut` -/
theorem update_shape512 (self : Ctx512) (input : Bytes) :
    (match Engine512.input self.engine input with
      | none => none
      | some t1 => some ({ self with engine := t1 } : Ctx512)) = Ctx512.update_mut self input := by
  unfold Ctx512.update_mut
  cases Engine512.input self.engine input <;> rfl

theorem finalize_shape512 (A : Alg512) (self : Ctx512) :
    (match Engine512.finish self.engine with
      | none => none
      | some t1 =>
        match A.output_fn t1.state (zeros (A.output_bits / 8)) with
        | none => none
        | some out => some out) = Ctx512.finalize A self := by
  unfold Ctx512.finalize
  cases Engine512.finish self.engine with
  | none => rfl
  | some e => dsimp only; cases A.output_fn e.state (zeros (A.output_bits / 8)) <;> rfl

theorem finalize_reset_shape512 (A : Alg512) (self : Ctx512) :
    (match Engine512.finish self.engine with
      | none => none
      | some t1 =>
        match A.output_fn t1.state (zeros (A.output_bits / 8)) with
        | none => none
        | some out => some (Ctx512.reset A ⟨t1⟩, out)) = Ctx512.finalize_reset A self := by
  unfold Ctx512.finalize_reset
  cases Engine512.finish self.engine with
  | none => rfl
  | some e => dsimp only; cases A.output_fn e.state (zeros (A.output_bits / 8)) <;> rfl

theorem oneshot_shape512 (A : Alg512) (input : Bytes) :
    (match Ctx512.update (Ctx512.new A) input with
      | none => none
      | some c =>
        match Ctx512.finalize A c with
        | none => none
        | some out => some out) = oneShot512 A input := by
  unfold oneShot512
  cases Ctx512.update (Ctx512.new A) input with
  | none => rfl
  | some c => dsimp only; cases Ctx512.finalize A c <;> rfl

/-- the text `digest!(256 …)` generates for `update` / `update_mut` -/
theorem update_shape256 (self : Ctx256) (input : Bytes) :
    (match Engine256.input self.engine input with
      | none => none
      | some t1 => some ({ self with engine := t1 } : Ctx256)) = Ctx256.update_mut self input := by
  unfold Ctx256.update_mut
  cases Engine256.input self.engine input <;> rfl

theorem finalize_shape256 (A : Alg256) (self : Ctx256) :
    (match Engine256.finish self.engine with
      | none => none
      | some t1 =>
        match A.output_fn t1.state (zeros (A.output_bits / 8)) with
        | none => none
        | some out => some out) = Ctx256.finalize A self := by
  unfold Ctx256.finalize
  cases Engine256.finish self.engine with
  | none => rfl
  | some e => dsimp only; cases A.output_fn e.state (zeros (A.output_bits / 8)) <;> rfl

theorem finalize_reset_shape256 (A : Alg256) (self : Ctx256) :
    (match Engine256.finish self.engine with
      | none => none
      | some t1 =>
        match A.output_fn t1.state (zeros (A.output_bits / 8)) with
        | none => none
        | some out => some (Ctx256.reset A ⟨t1⟩, out)) = Ctx256.finalize_reset A self := by
  unfold Ctx256.finalize_reset
  cases Engine256.finish self.engine with
  | none => rfl
  | some e => dsimp only; cases A.output_fn e.state (zeros (A.output_bits / 8)) <;> rfl

theorem oneshot_shape256 (A : Alg256) (input : Bytes) :
    (match Ctx256.update (Ctx256.new A) input with
      | none => none
      | some c =>
        match Ctx256.finalize A c with
        | none => none
        | some out => some out) = oneShot256 A input := by
  unfold oneShot256
  cases Ctx256.update (Ctx256.new A) input with
  | none => rfl
  | some c => dsimp only; cases Ctx256.finalize A c <;> rfl
end HS2

namespace HOne

/- the 14 sponge / BLAKE2 one-shots of hashing/mod.rs are copies of two generated texts (the BLAKE2 one at `b` and at `s`) -/

theorem sponge_shape (dl ds : Nat) (input : Bytes) :
    (match Impl.Sha3.Context.update dl Impl.Sha3.Context.new input with
      | none => none
      | some c =>
        match Impl.Sha3.Context.finalize dl ds c with
        | none => none
        | some t => some t) = Impl.Sha3.hash dl ds input := by
  unfold Impl.Sha3.hash
  cases Impl.Sha3.Context.update dl Impl.Sha3.Context.new input with
  | none => rfl
  | some c => cases h : Impl.Sha3.Context.finalize dl ds c <;> simp [h]

theorem blake2b_shape (bits : Nat) (input : Bytes) :
    (match Impl.Blake2.Context.new Impl.Blake2.b bits with
      | none => none
      | some c =>
        match Impl.Blake2.Context.update Impl.Blake2.b Impl.Digest.blakeProfile c input with
        | none => none
        | some c =>
          match Impl.Blake2.Context.finalize Impl.Blake2.b Impl.Digest.blakeProfile bits c with
          | none => none
          | some t => some t) = Impl.Blake2.hashing_blake2 Impl.Blake2.b Impl.Digest.blakeProfile bits input := by
  unfold Impl.Blake2.hashing_blake2
  cases Impl.Blake2.Context.new Impl.Blake2.b bits with
  | none => rfl
  | some c =>
    dsimp only
    cases Impl.Blake2.Context.update Impl.Blake2.b Impl.Digest.blakeProfile c input with
    | none => rfl
    | some c => dsimp only; cases Impl.Blake2.Context.finalize Impl.Blake2.b Impl.Digest.blakeProfile bits c <;> rfl

theorem blake2s_shape (bits : Nat) (input : Bytes) :
    (match Impl.Blake2.Context.new Impl.Blake2.s bits with
      | none => none
      | some c =>
        match Impl.Blake2.Context.update Impl.Blake2.s Impl.Digest.blakeProfile c input with
        | none => none
        | some c =>
          match Impl.Blake2.Context.finalize Impl.Blake2.s Impl.Digest.blakeProfile bits c with
          | none => none
          | some t => some t) = Impl.Blake2.hashing_blake2 Impl.Blake2.s Impl.Digest.blakeProfile bits input := by
  unfold Impl.Blake2.hashing_blake2
  cases Impl.Blake2.Context.new Impl.Blake2.s bits with
  | none => rfl
  | some c =>
    dsimp only
    cases Impl.Blake2.Context.update Impl.Blake2.s Impl.Digest.blakeProfile c input with
    | none => rfl
    | some c => dsimp only; cases Impl.Blake2.Context.finalize Impl.Blake2.s Impl.Digest.blakeProfile bits c <;> rfl
end HOne

end Cx.Proofs.GlueDigest
