/-
  Proofs.GlueKdf — helper lemmas for the translator tie of the KDF glue (Props/C10/GlueTieKdf.lean):
  `Extracted/GlueKdf.lean` (regenerated from src/hkdf.rs, src/pbkdf2.rs, src/scrypt.rs by tools/ktx_glue_kdf.py) against the
  hand models of Impl/Kdf.lean.
-/
import CxVerif.Extracted.GlueKdf
import CxVerif.Proofs.KdfPbkdf2
import CxVerif.Proofs.GlueVocab
namespace Cx.Proofs.GlueKdf
open Cx.Impl.Digest Cx.Impl.Hmac Cx.Impl.Kdf Cx.Extracted.GlueKdf
open Cx.Proofs.KdfPbkdf2 (chunkLens_zero chunkLens_small chunkLens_step)

theorem chunks_lengths (n : Nat) (hn : 0 < n) (bs : Bytes) : (chunks n bs).map List.length = chunkLens n bs.length := by
  refine Bytes.chunks_induction n hn (P := fun bs cs => cs.map List.length = chunkLens n bs.length) (by simp [chunkLens_zero]) (fun bs he ih => ?_) bs
  have hpos : 0 < bs.length := List.length_pos_iff.mpr he
  rw [List.map_cons, ih, List.length_take, List.length_drop]
  by_cases hlt : bs.length < n
  · rw [chunkLens_small n bs.length hpos hlt, Nat.min_eq_right (Nat.le_of_lt hlt), Nat.sub_eq_zero_of_le (Nat.le_of_lt hlt), chunkLens_zero]
  · have hge : n ≤ bs.length := Nat.le_of_not_lt hlt
    rw [chunkLens_step n bs.length hn hge, Nat.min_eq_left hge]

theorem checkedAdd_some (bits a b : Nat) (h : a + b < 2 ^ bits) : checkedAdd bits a b = some (a + b) :=
  GlueVocab.chk_of_lt h

theorem checkedAdd_none (bits a b : Nat) (h : ¬ a + b < 2 ^ bits) : checkedAdd bits a b = none := if_neg h

theorem zipMut2_xor : ∀ (block scratch : Bytes), zipMut2 (fun o i => o ^^^ i) block scratch = xor_into block scratch := by
  intro block
  induction block with
  | nil => intro s; cases s <;> simp [zipMut2, xor_into]
  | cons o dst ih =>
    intro s
    cases s with
    | nil => simp [zipMut2, xor_into]
    | cons i src =>
      have := ih src
      simp only [xor_into] at this ⊢
      simp [zipMut2, this]

section hkdf
variable {δ : Type} (D : DigestModel δ)

theorem hkdf_expand_loop1_eq (info : Bytes) : ∀ (cs : List Bytes) (mac : Hmac δ) (t : Bytes) (n : Nat) (acc : Bytes),
    (hkdf_expand_loop1_src D info cs mac t n acc).map (·.2.2.2) = hkdf_expand_loop D info (cs.map List.length) mac t n acc := by
  intro cs
  induction cs with
  | nil => intro mac t n acc; rfl
  | cons chunk rest ih =>
    intro mac t n acc
    simp only [hkdf_expand_loop1_src, List.map_cons, hkdf_expand_loop]
    by_cases hn : n + 1 ≤ 255
    · rw [checkedAdd_some 8 n 1 (by omega)]
      simp only [hn, not_true_eq_false, if_false]
      cases h1 : (if n + 1 ≠ 1 then Hmac.input D mac t else some mac) with
      | none => rfl
      | some mac1 =>
        simp only []
        cases h2 : Hmac.input D mac1 info with
        | none => rfl
        | some mac2 =>
          simp only []
          cases h3 : Hmac.input D mac2 [UInt8.ofNat (n + 1)] with
          | none => rfl
          | some mac3 =>
            simp only []
            cases h4 : Hmac.raw_result D mac3 t.length with
            | none => rfl
            | some r =>
              obtain ⟨mac4, t'⟩ := r
              simp only []
              cases h5 : Hmac.reset D mac4 with
              | none => rfl
              | some mac5 =>
                simp only [Nat.le_refl, not_true_eq_false, if_false]
                by_cases hl : chunk.length ≤ t'.length
                · simp only [hl, not_true_eq_false, if_false, List.drop_length, List.append_nil]
                  exact ih mac5 t' (n + 1) _
                · simp [hl]
    · rw [checkedAdd_none 8 n 1 (by omega)]
      simp [hn]

end hkdf

section pbkdf2
variable {μ : Type} (M : MacModel μ)

theorem calculate_block_loop1_eq : ∀ (k : Nat) (mac : μ) (scratch block : Bytes),
    calculate_block_loop1_src M k mac scratch block = calculate_block_loop M k mac scratch block := by
  intro k
  induction k with
  | zero => intro mac scratch block; rfl
  | succ k ih =>
    intro mac scratch block
    -- with the zip and the recursive call rewritten the two chains of matches coincide
    simp only [calculate_block_loop1_src, calculate_block_loop, zipMut2_xor, ih]
    rfl

theorem calculate_block_src_eq (mac : μ) (salt : Bytes) (c idx : Nat) (scratch block : Bytes) :
    calculate_block_src M mac salt c idx scratch block = calculate_block M mac salt c idx scratch block.length := by
  simp only [calculate_block_src, calculate_block, zipMut2_xor, calculate_block_loop1_eq]
  rfl

theorem pbkdf2_loop1_eq (salt : Bytes) (c os : Nat) : ∀ (cs : List Bytes) (mac : μ) (scratch : Bytes) (idx : Nat) (acc : Bytes),
    (pbkdf2_loop1_src M salt c os cs mac scratch idx acc).map (fun r => (r.1, r.2.2.2))
      = pbkdf2_loop M salt c os (cs.map List.length) mac scratch idx acc := by
  intro cs
  induction cs with
  | nil => intro mac scratch idx acc; rfl
  | cons chunk rest ih =>
    intro mac scratch idx acc
    simp only [pbkdf2_loop1_src, List.map_cons, pbkdf2_loop]
    by_cases hi : idx + 1 < 2 ^ 32
    · rw [checkedAdd_some 32 idx 1 hi]
      simp only [hi, not_true_eq_false, if_false, calculate_block_src_eq]
      by_cases hc : chunk.length = os
      · subst hc
        simp only [if_true]
        cases calculate_block M mac salt c (idx + 1) scratch chunk.length with
        | none => rfl
        | some r => obtain ⟨mac1, scratch1, chunk1⟩ := r; exact ih _ _ _ _
      · simp only [hc, if_false]
        have hz : (zeros os).length = os := by simp [zeros]
        rw [hz]
        cases calculate_block M mac salt c (idx + 1) scratch os with
        | none => rfl
        | some r =>
          obtain ⟨mac1, scratch1, tmp⟩ := r
          simp only [Nat.le_refl, not_true_eq_false, if_false]
          by_cases hl : chunk.length ≤ tmp.length
          · simp only [hl, not_true_eq_false, if_false, List.drop_length, List.append_nil]
            exact ih _ _ _ _
          · simp [hl]
    · rw [checkedAdd_none 32 idx 1 hi]
      simp [hi]

theorem pbkdf2_src_eq (mac : μ) (salt : Bytes) (c : Nat) (output : Bytes) :
    pbkdf2_src M mac salt c output = pbkdf2 M mac salt c output.length := by
  simp only [pbkdf2_src, pbkdf2]
  by_cases hc : c > 0
  · simp only [hc, not_true_eq_false, if_false]
    by_cases hos : M.output_bytes mac = 0
    · simp [hos]
    · simp only [ne_eq, hos, not_false_eq_true, not_true_eq_false, if_false]
      rw [← chunks_lengths _ (Nat.pos_of_ne_zero hos), ← pbkdf2_loop1_eq]
      cases pbkdf2_loop1_src M salt c (M.output_bytes mac) (chunks (M.output_bytes mac) output) mac (zeros (M.output_bytes mac)) 0 [] with
      | none => rfl
      | some r => obtain ⟨a, b, c, d⟩ := r; rfl
  · simp [hc]

end pbkdf2
end Cx.Proofs.GlueKdf
