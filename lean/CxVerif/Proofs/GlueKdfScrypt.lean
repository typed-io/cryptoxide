/-
  Proofs.GlueKdfScrypt — helper lemmas for the translator tie of src/scrypt.rs (Props/C10/GlueTieKdf.lean):
  the generated `xor_src`, `scrypt_block_mix_src`, `integerify_src`, `scrypt_ro_mix_src` and the chunk loop of `scrypt_src`
  of Extracted/GlueKdf.lean against the hand model of Impl/Kdf.lean (`ScryptParams.new_src` and `scrypt_src` themselves are tied
  in the Props file).
-/
import CxVerif.Extracted.GlueKdf
import CxVerif.Proofs.KdfScryptMix
import CxVerif.Proofs.Blocks
namespace Cx.Proofs.GlueKdfScrypt
open Cx.Impl.Hmac Cx.Impl.Kdf Cx.Extracted.GlueKdf
open Cx.Proofs.KdfScryptMix (uniform_flatten_length salsa20_8_length block_mix_length)

theorem chunks_takeBlocks (n : Nat) (hn : 0 < n) (bs : Bytes) (h : bs.length % n = 0) :
    chunks n bs = takeBlocks n (bs.length / n) bs := Cx.Proofs.FB.chunks_eq_fullBlocks hn bs h

theorem xor_src_eq : ∀ (output x y : Bytes), xor_src x y output = Impl.Kdf.xor x y output := by
  intro output
  induction output with
  | nil => intro x y; cases x <;> cases y <;> simp [xor_src, zipMut3, Impl.Kdf.xor]
  | cons o out ih =>
    intro x y
    cases x with
    | nil => simp [xor_src, zipMut3, Impl.Kdf.xor]
    | cons a x =>
      cases y with
      | nil => simp [xor_src, zipMut3, Impl.Kdf.xor]
      | cons b y =>
        have := ih x y
        simp only [xor_src, Impl.Kdf.xor] at this ⊢
        simp [zipMut3, this]

theorem block_mix_loop1_eq (input : Bytes) : ∀ (cs : List Bytes) (i : Nat) (output x t : Bytes),
    (scrypt_block_mix_loop1_src input cs i output x t).map (·.2.1) = scrypt_block_mix_loop input.length cs i x t output := by
  intro cs
  induction cs with
  | nil => intro i output x t; rfl
  | cons chunk rest ih =>
    intro i output x t
    simp only [scrypt_block_mix_loop1_src, scrypt_block_mix_loop, xor_src_eq]
    cases hs : salsa20_8 (Impl.Kdf.xor x chunk t) with
    | none => rfl
    | some x' =>
      have hx := salsa20_8_length _ _ hs
      simp only [write_at, hx]
      generalize (if i % 2 = 0 then i / 2 * 64 else i / 2 * 64 + input.length / 2) = pos
      by_cases hl : pos + 64 ≤ output.length
      · simp only [hl, not_true_eq_false, if_false, if_true]
        exact ih _ _ _ _
      · simp [hl]

theorem scrypt_block_mix_src_eq (input output : Bytes) : scrypt_block_mix_src input output = scrypt_block_mix input output := by
  simp only [scrypt_block_mix_src, scrypt_block_mix]
  by_cases h1 : input.length < 64
  · have h2 : ¬ 64 ≤ input.length := by omega
    simp only [h1, h2, if_true, not_false_eq_true, ite_self]
  · have h2 : 64 ≤ input.length := by omega
    by_cases h3 : input.length % 64 > 0
    · -- `h4`: the length check of `x[0..left_over].copy_from_slice(&input[len - 64..])` (64 bytes into `left_over < 64`) always fails
      have h4 : ¬ (input.length - (input.length - 64) = input.length % 64) := by omega
      simp [h1, h2, h3, h4]
    · have h4 : input.length - (input.length - 64) = 64 := by omega
      have h5 : input.length % 64 = 0 := by omega
      simp only [h1, h2, h3, h4, if_false, not_true_eq_false]
      rw [chunks_takeBlocks 64 (by omega) input h5, ← block_mix_loop1_eq]
      cases scrypt_block_mix_loop1_src input (takeBlocks 64 (input.length / 64) input) 0 output
          (input.drop (input.length - 64)) (zeros 64) with
      | none => rfl
      | some r => obtain ⟨a, b, c, d⟩ := r; rfl

theorem integerify_src_eq (x : Bytes) (n : Nat) : integerify_src x n = integerify x n := by
  simp only [integerify_src, integerify]
  by_cases hn : n = 0
  · simp [hn]
  · have h1 : 1 ≤ n := by omega
    by_cases hx : x.length < 64
    · have : ¬ 64 ≤ x.length := by omega
      simp [hn, h1, hx, this]
    · have h2 : 64 ≤ x.length := by omega
      have h3 : 60 ≤ x.length := by omega
      have h4 : x.length - 64 ≤ x.length - 60 := by omega
      have h5 : x.length - 60 - (x.length - 64) = 4 := by omega
      simp only [hn, h1, hx, h2, h3, h4, h5, if_false, not_true_eq_false, Cx.Proofs.KdfScryptMix.leU32_toNat]

theorem ro_mix_fill_done : ∀ (cs : List Bytes) (b : Bytes) (done : List Bytes),
    ro_mix_fill cs b done = (ro_mix_fill cs b []).map (fun r => (r.1, r.2 ++ done)) := by
  intro cs
  induction cs with
  | nil => intro b done; simp [ro_mix_fill]
  | cons c rest ih =>
    intro b done
    simp only [ro_mix_fill]
    split
    · rfl
    · cases scrypt_block_mix (copy_prefix c b) b with
      | none => rfl
      | some b' =>
        simp only []
        rw [ih b' (copy_prefix c b :: done), ih b' [copy_prefix c b]]
        cases ro_mix_fill rest b' [] with
        | none => rfl
        | some r => simp

/-- one chunk of the fill loop: the guard `chunk[0..b.len()]`, the mix, the rest -/
theorem ro_mix_fill_cons (c : Bytes) (rest : List Bytes) (b : Bytes) (r : Bytes × List Bytes)
    (h : ro_mix_fill (c :: rest) b [] = some r) :
    b.length ≤ c.length ∧ ∃ b1 r1, scrypt_block_mix (copy_prefix c b) b = some b1 ∧ ro_mix_fill rest b1 [] = some r1 ∧
      r = (r1.1, r1.2 ++ [copy_prefix c b]) := by
  simp only [ro_mix_fill] at h
  split at h
  · cases h
  · rename_i hle
    refine ⟨Decidable.not_not.mp hle, ?_⟩
    cases hm : scrypt_block_mix (copy_prefix c b) b with
    | none => rw [hm] at h; cases h
    | some b1 =>
      rw [hm] at h
      simp only [] at h
      rw [ro_mix_fill_done] at h
      cases hr : ro_mix_fill rest b1 [] with
      | none => rw [hr] at h; cases h
      | some r1 => rw [hr] at h; exact ⟨b1, r1, rfl, hr, (Option.some.inj h).symm⟩

theorem ro_mix_fill_facts (len : Nat) : ∀ (cs : List Bytes) (b b' : Bytes) (vrev : List Bytes), b.length = len →
    ro_mix_fill cs b [] = some (b', vrev) →
    (∀ c ∈ cs, len ≤ c.length) ∧ ((∀ c ∈ cs, c.length ≤ len) → ∀ c ∈ vrev, c.length = len) := by
  intro cs
  induction cs with
  | nil =>
    intro b b' vrev hb h
    simp only [ro_mix_fill] at h
    cases h; simp
  | cons c rest ih =>
    intro b b' vrev hb h
    obtain ⟨hle, b1, ⟨b2, v2⟩, hm, hr, e⟩ := ro_mix_fill_cons c rest b _ h
    cases e
    obtain ⟨f3, f4⟩ := ih b1 b2 v2 (by rw [block_mix_length _ _ _ hm, hb]) hr
    refine ⟨?_, ?_⟩
    · intro x hx
      rcases List.mem_cons.mp hx with rfl | hx
      · omega
      · exact f3 x hx
    · intro hcs x hx
      rcases List.mem_append.mp hx with hx | hx
      · exact f4 (fun c hc => hcs c (List.mem_cons_of_mem _ hc)) x hx
      · have hc := hcs c (List.mem_cons_self ..)
        simp only [List.mem_singleton] at hx
        subst hx
        simp [copy_prefix]; omega

theorem ro_mix_loop1_eq : ∀ (cs : List Bytes) (b acc : Bytes),
    scrypt_ro_mix_loop1_src cs b acc = (ro_mix_fill cs b []).map (fun r => (r.1, acc ++ r.2.reverse.flatten)) := by
  intro cs
  induction cs with
  | nil => intro b acc; simp [scrypt_ro_mix_loop1_src, ro_mix_fill]
  | cons c rest ih =>
    intro b acc
    simp only [scrypt_ro_mix_loop1_src, ro_mix_fill, scrypt_block_mix_src_eq]
    split
    · rfl
    · have hcp : b ++ c.drop b.length = copy_prefix c b := rfl
      rw [hcp]
      cases scrypt_block_mix (copy_prefix c b) b with
      | none => rfl
      | some b' =>
        simp only []
        rw [ih, ro_mix_fill_done rest b' [copy_prefix c b]]
        cases ro_mix_fill rest b' [] with
        | none => rfl
        | some r => simp

theorem uniform_slice (len : Nat) : ∀ (vs : List Bytes) (j : Nat), (∀ c ∈ vs, c.length = len) →
    (vs.flatten.drop (j * len)).take len = (vs[j]?).getD [] := by
  intro vs
  induction vs with
  | nil => intro j _; simp
  | cons c rest ih =>
    intro j h
    have hc : c.length = len := h c (List.mem_cons_self ..)
    cases j with
    | zero => simp [hc]
    | succ j =>
      have := ih j (fun c hc => h c (List.mem_cons_of_mem _ hc))
      simp only [List.flatten_cons, List.getElem?_cons_succ]
      rw [show (j + 1) * len = c.length + j * len by rw [hc, Nat.succ_mul]; omega, List.drop_append,
        List.drop_eq_nil_of_le (Nat.le_add_right ..), Nat.add_sub_cancel_left, List.nil_append]
      exact this

theorem chunks_uniform (len : Nat) (hl : 0 < len) (vs : List Bytes) (h : ∀ c ∈ vs, c.length = len) :
    chunks len vs.flatten = vs := by
  have := FB.chunks_blocks hl vs [] h hl
  simpa using this

theorem chunks_mem_le (n : Nat) (hn : 0 < n) (bs : Bytes) : ∀ c ∈ chunks n bs, c.length ≤ n :=
  Bytes.chunks_induction n hn (P := fun _ cs => ∀ c ∈ cs, c.length ≤ n) (fun _ h => nomatch h) (fun bs _ ih c hc => by
    rcases List.mem_cons.mp hc with hc | hc
    · rw [hc, List.length_take]; exact Nat.min_le_left ..
    · exact ih c hc) bs

theorem ro_mix_loop2_eq (len : Nat) (hl : 0 < len) (vs : List Bytes) (hvs : ∀ c ∈ vs, c.length = len) (n : Nat) :
    ∀ (cnt : Nat) (b t : Bytes), scrypt_ro_mix_loop2_src vs.flatten n len cnt b t = ro_mix_walk vs n cnt b t := by
  intro cnt
  induction cnt with
  | zero => intro b t; rfl
  | succ cnt ih =>
    intro b t
    simp only [scrypt_ro_mix_loop2_src, ro_mix_walk, integerify_src_eq, xor_src_eq, scrypt_block_mix_src_eq]
    cases integerify b n with
    | none => rfl
    | some j =>
      have h1 : j * len ≤ (j + 1) * len := Nat.mul_le_mul_right _ (Nat.le_succ j)
      have h2 : (j + 1) * len - j * len = len := by rw [Nat.succ_mul]; omega
      simp only [h1, h2, not_true_eq_false, if_false, uniform_flatten_length len vs hvs, uniform_slice len vs j hvs]
      by_cases hj : j < vs.length
      · have h3 : (j + 1) * len ≤ vs.length * len := Nat.mul_le_mul_right _ hj
        simp only [h3, not_true_eq_false, if_false, List.getElem?_eq_getElem hj, Option.getD_some]
        cases scrypt_block_mix (Impl.Kdf.xor b vs[j] t) b with
        | none => rfl
        | some b' => exact ih _ _
      · have h3 : ¬ (j + 1) * len ≤ vs.length * len := by
          intro hc
          have := Nat.le_of_mul_le_mul_right hc hl
          omega
        have h4 : vs[j]? = none := List.getElem?_eq_none (by omega)
        simp [h3, h4]

/-- `scrypt_ro_mix` on a scratch vector given as the list `vs` of its `b.len()`-byte chunks -/
theorem scrypt_ro_mix_src_eq (b : Bytes) (vs : List Bytes) (t : Bytes) (n : Nat) (hb : b.length ≠ 0)
    (hvs : ∀ c ∈ vs, c.length = b.length) :
    scrypt_ro_mix_src b vs.flatten t n = (scrypt_ro_mix b vs t n).map (fun r => (r.1, r.2.1.flatten, r.2.2)) := by
  have hl : 0 < b.length := Nat.pos_of_ne_zero hb
  simp only [scrypt_ro_mix_src, scrypt_ro_mix, ne_eq, hb, not_false_eq_true, not_true_eq_false, if_false,
    chunks_uniform b.length hl vs hvs, ro_mix_loop1_eq, List.nil_append]
  cases hf : ro_mix_fill vs b [] with
  | none => rfl
  | some r =>
    obtain ⟨b1, vrev⟩ := r
    obtain ⟨_, f3⟩ := ro_mix_fill_facts b.length vs b b1 vrev rfl hf
    have f3 := f3 fun c hc => Nat.le_of_eq (hvs c hc)
    simp only [Option.map_some]
    rw [ro_mix_loop2_eq b.length hl vrev.reverse (fun c hc => f3 c (List.mem_reverse.mp hc))]
    cases ro_mix_walk vrev.reverse n n b1 t with
    | none => rfl
    | some r => obtain ⟨b2, t2⟩ := r; rfl

theorem scrypt_ro_mix_facts (b : Bytes) (vs : List Bytes) (t : Bytes) (n : Nat) (b' : Bytes) (vs' : List Bytes) (t' : Bytes)
    (hvs : ∀ c ∈ vs, c.length = b.length) (h : scrypt_ro_mix b vs t n = some (b', vs', t')) :
    ∀ c ∈ vs', c.length = b.length := by
  simp only [scrypt_ro_mix] at h
  cases hf : ro_mix_fill vs b [] with
  | none => rw [hf] at h; cases h
  | some r =>
    obtain ⟨b1, vrev⟩ := r
    rw [hf] at h
    simp only [] at h
    obtain ⟨_, f3⟩ := ro_mix_fill_facts b.length vs b b1 vrev rfl hf
    have f3 := f3 fun c hc => Nat.le_of_eq (hvs c hc)
    cases hw : ro_mix_walk vrev.reverse n n b1 t with
    | none => rw [hw] at h; cases h
    | some r =>
      obtain ⟨b2, t2⟩ := r
      rw [hw] at h
      simp only [Option.some.injEq, Prod.mk.injEq] at h
      obtain ⟨_, h2, _⟩ := h
      subst h2
      intro c hc
      exact f3 c (List.mem_reverse.mp hc)

theorem scrypt_loop1_eq (n L : Nat) (hL : L ≠ 0) : ∀ (cs vs : List Bytes) (t acc : Bytes), (∀ c ∈ cs, c.length = L) →
    (∀ x ∈ vs, x.length = L) → (scrypt_loop1_src n cs vs.flatten t acc).map (·.2.2) = scrypt_chunks n cs vs t acc := by
  intro cs
  induction cs with
  | nil => intro vs t acc _ _; rfl
  | cons c rest ih =>
    intro vs t acc hcs hvs
    have hc : c.length = L := hcs c (List.mem_cons_self ..)
    have hvs' : ∀ x ∈ vs, x.length = c.length := fun x hx => by rw [hvs x hx, hc]
    simp only [scrypt_loop1_src, scrypt_chunks]
    rw [scrypt_ro_mix_src_eq c vs t n (by omega) hvs']
    cases hm : scrypt_ro_mix c vs t n with
    | none => rfl
    | some r =>
      obtain ⟨b', vs', t'⟩ := r
      have hf := scrypt_ro_mix_facts c vs t n b' vs' t' hvs' hm
      exact ih vs' t' _ (fun c hc => hcs c (List.mem_cons_of_mem _ hc)) (fun x hx => by rw [hf x hx, hc])

theorem zeros_flatten (k L : Nat) : zeros (k * L) = (List.replicate k (zeros L)).flatten := by
  induction k with
  | zero => simp [zeros]
  | succ k ih =>
    rw [List.replicate_succ, List.flatten_cons, ← ih, Nat.succ_mul]
    simp only [zeros]
    rw [Nat.add_comm, List.replicate_append_replicate]

theorem chunks_flatten (n : Nat) (hn : 0 < n) (bs : Bytes) : (chunks n bs).flatten = bs :=
  Bytes.chunks_induction n hn (P := fun bs cs => cs.flatten = bs) rfl
    (fun bs _ ih => by rw [List.flatten_cons, ih, List.take_append_drop]) bs

end Cx.Proofs.GlueKdfScrypt
