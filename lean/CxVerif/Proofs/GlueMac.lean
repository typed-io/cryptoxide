/-
  Proofs.GlueMac — helper lemmas for the translator tie of the MAC glue (Props/C05/GlueTieMac.lean).
  src/poly1305.rs: the loops / join points that tools/ktx_glue_mac.py generates (Extracted/GlueMac.lean) against the
  corresponding pieces of the hand model Impl/Poly1305.lean (`copyInto`, `blocks`, `inputTail`, `padBuffer`, `finishTail`), frame
  lemmas of the model (`block` touches only `h`), the data-structure invariant `st.buffer.length = 16` (a typing fact of the Rust
  struct: `buffer: [u8; 16]`) and its preservation; the definitions the tie statements are written with (`withRest`,
  `asMacResult`, `inputsSrc`, `macSrc`: a user's run composed of generated functions).
  src/hmac.rs, src/mac.rs (`section hmac`, generic in the digest dictionary): `ResultLen`, the ties `hmac_*_eq_at` (with the
  length fact at the one object where the generated text measures a written buffer), `asMacResultO`, `legacy_resultLen`.
-/
import CxVerif.Extracted.GlueMac
import CxVerif.Props.C05.KernelTie
import CxVerif.Proofs.ByteLemmas
import CxVerif.Proofs.MacLegacy
namespace Cx.Proofs.GlueMac
open Cx.Impl.Poly1305 Cx.Extracted.GlueMac

theorem block_src_eq (st : State) (m : Bytes) : Poly1305.block_src st m = block st m := by
  unfold Poly1305.block_src Poly1305.blockKernel block
  simp only [Cx.Props.C05.block_src_eq_model]
  generalize (if st.finalized = true then 0 else 1 <<< 24) = hibit
  by_cases h1 : m.length < 16
  · simp only [if_pos h1]
  · simp only [if_neg h1]
    by_cases h2 : (blockArith st.r st.h (loadBlock m hibit)).Ok
    · simp only [if_pos h2]
    · simp only [if_neg h2]

theorem block_frame {st st' : State} {m : Bytes} (h : block st m = .ok st') : ∃ h', st' = { st with h := h' } := by
  simp only [block] at h
  repeat' split at h
  all_goals cases h
  all_goals exact ⟨_, rfl⟩

theorem finish_k1_eq (st : State) :
    Poly1305.finish_k1_src st = finishTail { st with finalized := true } := by
  unfold Poly1305.finish_k1_src Poly1305.finishKernel finishTail
  simp only [Cx.Props.C05.finish_src_eq_model]
  by_cases h2 : (finishArith st.h st.pad).Ok
  · simp only [if_pos h2]
  · simp only [if_neg h2]

/-- the zero-fill loop `for i in self.leftover+1..16 { self.buffer[i] = 0; }` -/
theorem finish_loop1_eq (cnt : Nat) : ∀ (i : Nat) (st : State), i + cnt = 16 → st.buffer.length = 16 →
    Poly1305.finish_loop1_src cnt i st = .ok { st with buffer := st.buffer.take i ++ zeros cnt } := by
  induction cnt with
  | zero =>
    intro i st hi hb
    have : st.buffer.take i = st.buffer := List.take_of_length_le (by omega)
    simp [Poly1305.finish_loop1_src, zeros, this]
  | succ n ih =>
    intro i st hi hb
    have hlt : i < 16 := by omega
    unfold Poly1305.finish_loop1_src
    simp only [if_pos hlt]
    rw [ih (i + 1) _ (by omega) (by simpa using hb)]
    have e : (st.buffer.set i 0).take (i + 1) ++ zeros n = st.buffer.take i ++ zeros (n + 1) := by
      have hl : i < st.buffer.length := by omega
      rw [List.take_set, List.take_succ_eq_append_getElem hl, List.set_append]
      simp [zeros, List.replicate_succ, List.length_take, Nat.min_eq_left (Nat.le_of_lt hl)]
    simp [e]

theorem padBuffer_eq (buf : Bytes) (l : Nat) (hl : l < buf.length) :
    (buf.set l 1).take (l + 1) ++ zeros (16 - (l + 1)) = padBuffer buf l := by
  unfold padBuffer
  rw [List.take_set, List.take_succ_eq_append_getElem hl, List.set_append]
  simp [List.length_take, Nat.min_eq_left (Nat.le_of_lt hl)]

theorem finish_src_eq (st : State) (hb : st.buffer.length = 16) :
    Poly1305.finish_src st = finish .repaired st := by
  unfold Poly1305.finish_src finish
  by_cases h0 : st.leftover > 0
  · simp only [if_pos h0]
    by_cases h1 : st.leftover < 16
    · simp only [if_pos h1]
      rw [finish_loop1_eq _ _ _ (by omega) (by simpa using hb)]
      simp only [block_src_eq, padBuffer_eq st.buffer st.leftover (by omega)]
      cases hblk : block { st with buffer := padBuffer st.buffer st.leftover, finalized := true }
          (padBuffer st.buffer st.leftover) with
      | error e => rfl
      | ok st' =>
        obtain ⟨h', rfl⟩ := block_frame hblk
        simp only [finish_k1_eq]
    · simp only [if_neg h1]
  · simp only [if_neg h0, finish_k1_eq]

/-- the whole-block `while` loop = the model's `blocks` (the two redundant slice checks of the source never fire).  The generated
    loop FAILS (`.diverge`) when its fuel runs out, the model's `blocks` stops silently; they agree whenever the fuel bounds the
    iterations (`m.length ≤ fuel`: every iteration consumes 16 bytes) — the generated call passes `m.length + 1`: one unit pays for
    the last, false, test of the condition -/
theorem input_loop1_eq (fuel : Nat) : ∀ (st : State) (m : Bytes), m.length ≤ fuel →
    Poly1305.input_loop1_src (fuel + 1) st m = blocks fuel st m := by
  induction fuel with
  | zero =>
    intro st m hm
    have h : ¬ m.length ≥ 16 := by omega
    simp only [Poly1305.input_loop1_src, blocks, if_neg h]
  | succ n ih =>
    intro st m hm
    unfold Poly1305.input_loop1_src blocks
    by_cases h : m.length ≥ 16
    · simp only [if_pos h, block_src_eq]
      cases block st (m.take 16) with
      | error e => rfl
      | ok st' =>
        have hd : (m.drop 16).length ≤ n := by simp only [List.length_drop]; omega
        simp only [ih st' (m.drop 16) hd]
    · simp only [if_neg h]

theorem blocks_exit (fuel : Nat) : ∀ (st st' : State) (m m' : Bytes), m.length ≤ fuel →
    blocks fuel st m = .ok (st', m') → m'.length < 16 := by
  induction fuel with
  | zero =>
    intro st st' m m' hf h
    cases h; omega
  | succ n ih =>
    intro st st' m m' hf h
    unfold blocks at h
    split at h
    · split at h
      · cases h
      · exact ih _ st' (m.drop 16) m' (by rw [List.length_drop]; omega) h
    · cases h; omega

/-- the hand models never produce `.diverge` (it exists only for exhausted fuel of generated loops) -/
theorem block_ne_diverge (st : State) (m : Bytes) : block st m ≠ .error .diverge := by
  intro h
  simp only [block] at h
  repeat' split at h
  all_goals cases h

theorem blocks_ne_diverge (fuel : Nat) : ∀ (st : State) (m : Bytes), blocks fuel st m ≠ .error .diverge := by
  induction fuel with
  | zero => intro st m h; cases h
  | succ n ih =>
    intro st m h
    unfold blocks at h
    split at h
    · split at h
      · rename_i e hb
        cases h
        exact block_ne_diverge st (m.take 16) hb
      · exact ih _ _ h
    · cases h

theorem blocks_frame (fuel : Nat) : ∀ (st st' : State) (m m' : Bytes),
    blocks fuel st m = .ok (st', m') → ∃ h', st' = { st with h := h' } := by
  induction fuel with
  | zero =>
    intro st st' m m' h
    cases h; exact ⟨st.h, rfl⟩
  | succ n ih =>
    intro st st' m m' h
    unfold blocks at h
    split at h
    · split at h
      · cases h
      · rename_i s1 hb
        obtain ⟨h1, rfl⟩ := block_frame hb
        obtain ⟨h2, e2⟩ := ih _ st' _ m' h
        exact ⟨h2, e2⟩
    · cases h; exact ⟨st.h, rfl⟩

/-- the join point after `if self.leftover > 0 { … }` = the model's `inputTail` -/
theorem input_k1_eq (st : State) (m : Bytes) (hb : st.buffer.length = 16) :
    Poly1305.input_k1_src st m = inputTail st m := by
  unfold Poly1305.input_k1_src inputTail
  rw [input_loop1_eq m.length st m (Nat.le_refl _)]
  cases hbl : blocks m.length st m with
  | error e => rfl
  | ok p =>
    obtain ⟨st', m'⟩ := p
    obtain ⟨h', rfl⟩ := blocks_frame _ _ _ _ _ hbl
    simp only [hb]

/-- the top-up loop `for i in 0..want { self.buffer[self.leftover + i] = m[i]; }` = the model's `copyInto` -/
theorem input_loop2_eq (m : Bytes) (cnt : Nat) : ∀ (i : Nat) (st : State), i + cnt ≤ m.length → st.buffer.length = 16 →
    Poly1305.input_loop2_src m cnt i st =
      match copyInto st.buffer (st.leftover + i) ((m.drop i).take cnt) with
      | none => .error .index
      | some buf => .ok { st with buffer := buf } := by
  induction cnt with
  | zero => intro i st _ _; simp [Poly1305.input_loop2_src, copyInto]
  | succ n ih =>
    intro i st hi hb
    have hlt : i < m.length := by omega
    unfold Poly1305.input_loop2_src
    have e1 : m[i]? = some m[i] := List.getElem?_eq_getElem hlt
    have e2 : (m.drop i).take (n + 1) = m[i] :: (m.drop (i + 1)).take n := by
      rw [List.drop_eq_getElem_cons hlt, List.take_succ_cons]
    rw [e1, e2]
    simp only [copyInto, hb]
    by_cases h16 : st.leftover + i < 16
    · simp only [if_pos h16]
      rw [ih (i + 1) _ (by omega) (by simpa using hb)]
      simp only [Nat.add_assoc]
    · simp only [if_neg h16]

theorem copyInto_length : ∀ (src buf : Bytes) (off : Nat) (res : Bytes), copyInto buf off src = some res →
    res.length = buf.length := by
  intro src
  induction src with
  | nil => intro buf off res h; cases h; rfl
  | cons x xs ih =>
    intro buf off res h
    unfold copyInto at h
    split at h
    · rw [ih _ _ _ h, List.length_set]
    · cases h

theorem input_src_eq (st : State) (data : Bytes) (hb : st.buffer.length = 16) :
    Poly1305.input_src st data = input st data := by
  unfold Poly1305.input_src input
  by_cases hf : st.finalized = true
  · simp only [hf, if_true]
  · simp only [if_neg hf]
    by_cases h0 : st.leftover > 0
    · simp only [if_pos h0]
      by_cases h16 : 16 < st.leftover
      · simp only [if_pos h16]
      · simp only [if_neg h16]
        have hw : min (16 - st.leftover) data.length ≤ data.length := Nat.min_le_right _ _
        rw [input_loop2_eq data _ 0 st (by omega) hb]
        simp only [Nat.add_zero, List.drop_zero]
        cases hc : copyInto st.buffer st.leftover (data.take (min (16 - st.leftover) data.length)) with
        | none => rfl
        | some buf =>
          have hbl : buf.length = 16 := by rw [copyInto_length _ _ _ _ hc, hb]
          simp only [if_pos hw]
          by_cases hl : st.leftover + min (16 - st.leftover) data.length < 16
          · simp only [if_pos hl]
          · simp only [if_neg hl, block_src_eq]
            cases hblk : block { st with buffer := buf, leftover := st.leftover + min (16 - st.leftover) data.length } buf with
            | error e => rfl
            | ok st' =>
              obtain ⟨h', rfl⟩ := block_frame hblk
              simp only []
              rw [input_k1_eq _ _ hbl]
    · simp only [if_neg h0]
      rw [input_k1_eq _ _ hb]

/-- one `write_u32_le(&mut output[k..k+4], w)` when the first `k` bytes have been written already (`p`): the bounds check
    passes and the written prefix grows by `w`, the rest of `out` stays -/
theorem store_step (p w out : Bytes) (k m : Nat) (hp : p.length = k) (hm : m = k + 4) (hk : m ≤ out.length) :
    m ≤ (p ++ out.drop k).length ∧
      (p ++ out.drop k).take k ++ w ++ (p ++ out.drop k).drop m = p ++ w ++ out.drop m := by
  subst hm hp
  refine ⟨by rw [List.length_append, List.length_drop]; omega, ?_⟩
  rw [List.take_left, List.drop_append, List.drop_drop, List.drop_of_length_le (Nat.le_add_right _ 4), List.nil_append,
    Nat.add_sub_cancel_left]

/-- the four stores of `raw_result`: the first 16 bytes of `output` become the tag, the rest is untouched -/
theorem raw_result_k1_eq (st : State) (out : Bytes) (ho : 16 ≤ out.length) :
    Poly1305.raw_result_k1_src st out = .ok (st, tagBytes st.h ++ out.drop 16) := by
  have l := Bytes.natToLE_length 4
  obtain ⟨g2, e2⟩ := store_step _ (natToLE 4 st.h.l1) out 4 8 (l st.h.l0) rfl (by omega)
  obtain ⟨g3, e3⟩ := store_step _ (natToLE 4 st.h.l2) out 8 12
    (by rw [List.length_append, l, l] : (natToLE 4 st.h.l0 ++ natToLE 4 st.h.l1).length = 8) rfl (by omega)
  obtain ⟨g4, e4⟩ := store_step _ (natToLE 4 st.h.l3) out 12 16
    (by rw [List.length_append, List.length_append, l, l, l] :
      (natToLE 4 st.h.l0 ++ natToLE 4 st.h.l1 ++ natToLE 4 st.h.l2).length = 12) rfl ho
  unfold Poly1305.raw_result_k1_src
  have g1 : 4 ≤ out.length := by omega
  simp only [if_pos g1, if_pos g2, e2, if_pos g3, e3, if_pos g4, e4]
  rfl

/-- what the caller of `raw_result(&mut output)` sees: the model's answer (first 16 bytes) followed by the untouched
    rest of `output` -/
def withRest (out : Bytes) (r : Except Panic (State × Bytes)) : Except Panic (State × Bytes) :=
  match r with
  | .error e => .error e
  | .ok (st, tag) => .ok (st, tag ++ out.drop 16)

theorem raw_result_src_eq (st : State) (out : Bytes) (hb : st.buffer.length = 16) :
    Poly1305.raw_result_src st out = withRest out (raw_result .repaired st out.length) := by
  unfold Poly1305.raw_result_src raw_result withRest
  by_cases ho : out.length ≥ 16
  · have ho' : ¬ out.length < 16 := by omega
    simp only [if_pos ho, if_neg ho']
    by_cases hf : (!st.finalized) = true
    · simp only [if_pos hf, finish_src_eq st hb]
      cases finish .repaired st with
      | error e => rfl
      | ok st' => simp only [raw_result_k1_eq _ _ ho]
    · simp only [if_neg hf, raw_result_k1_eq _ _ ho]
  · have ho' : out.length < 16 := by omega
    simp only [if_neg ho, if_pos ho']

/-- `result()` wraps the 16 tag bytes into a `MacResult` -/
def asMacResult (r : Except Panic (State × Bytes)) : Except Panic (State × MacResult) :=
  match r with
  | .error e => .error e
  | .ok (st, tag) => .ok (st, ⟨tag⟩)

/-! ### the invariant `buffer.length = 16` (Rust: `buffer: [u8; 16]`) is established by `new` and preserved -/

theorem new_wf (key : Bytes) : (new key).buffer.length = 16 := by simp [new, zeros]

theorem block_wf {st st' : State} {m : Bytes} (hb : st.buffer.length = 16) (h : block st m = .ok st') :
    st'.buffer.length = 16 := by
  obtain ⟨h', rfl⟩ := block_frame h; exact hb

theorem inputTail_wf {st st' : State} {m : Bytes} (hb : st.buffer.length = 16) (h : inputTail st m = .ok st') :
    st'.buffer.length = 16 := by
  simp only [inputTail] at h
  repeat' split at h
  all_goals cases h
  rename_i s1 m1 hbl hm
  obtain ⟨h', rfl⟩ := blocks_frame _ _ _ _ _ hbl
  simp only [List.length_append, List.length_drop] at hm ⊢
  omega

theorem input_wf {st st' : State} {data : Bytes} (hb : st.buffer.length = 16) (h : input st data = .ok st') :
    st'.buffer.length = 16 := by
  -- three branches return: the early return after the top-up, and `inputTail` after a flush or without a top-up
  simp only [input] at h
  repeat' split at h
  all_goals try cases h
  · rename_i buf hc _
    rw [copyInto_length _ _ _ _ hc, hb]
  · rename_i _ buf hc _ _ s1 hblk
    obtain ⟨h', rfl⟩ := block_frame hblk
    exact inputTail_wf (st := { st with buffer := buf, leftover := 0, h := h' }) (by rw [copyInto_length _ _ _ _ hc, hb]) h
  · exact inputTail_wf hb h

theorem finishTail_wf {s s' : State} (hs : s.buffer.length = 16) (h : finishTail s = .ok s') : s'.buffer.length = 16 := by
  simp only [finishTail] at h
  split at h <;> cases h
  exact hs

theorem finish_wf {v : Variant} {st st' : State} (hb : st.buffer.length = 16) (h : finish v st = .ok st') :
    st'.buffer.length = 16 := by
  simp only [finish] at h
  repeat' split at h
  all_goals try cases h
  · rename_i s1 hblk
    exact finishTail_wf (block_wf (st := { st with buffer := padBuffer st.buffer st.leftover, finalized := true })
      (by simp [padBuffer, zeros, List.length_take]; omega) hblk) h
  · exact finishTail_wf hb h
  · exact finishTail_wf (s := { st with finalized := true }) hb h

theorem raw_result_wf {v : Variant} {st st' : State} {n : Nat} {tag : Bytes} (hb : st.buffer.length = 16)
    (h : raw_result v st n = .ok (st', tag)) : st'.buffer.length = 16 := by
  simp only [raw_result] at h
  repeat' split at h
  all_goals cases h
  · rename_i s1 hfin
    exact finish_wf hb hfin
  · exact hb

def inputsSrc : State → List Bytes → Except Panic State
  | st, [] => .ok st
  | st, c :: cs =>
    match Poly1305.input_src st c with
    | .error e => .error e
    | .ok st' => inputsSrc st' cs

/-- GENERATED `Poly1305::new(key)`, one `input` per chunk, `raw_result(&mut output)`; answers `output` -/
def macSrc (key : Bytes) (chunks : List Bytes) (output : Bytes) : Except Panic Bytes :=
  match inputsSrc (Poly1305.new_src key) chunks with
  | .error e => .error e
  | .ok st =>
    match Poly1305.raw_result_src st output with
    | .error e => .error e
    | .ok (_, out) => .ok out

theorem inputsSrc_eq (chunks : List Bytes) : ∀ (st : State), st.buffer.length = 16 →
    inputsSrc st chunks = inputs st chunks := by
  induction chunks with
  | nil => intro st _; rfl
  | cons c cs ih =>
    intro st hb
    unfold inputsSrc inputs
    rw [input_src_eq st c hb]
    cases hi : input st c with
    | error e => rfl
    | ok st' => exact ih st' (input_wf hb hi)

theorem inputs_wf (chunks : List Bytes) : ∀ (st st' : State), st.buffer.length = 16 →
    inputs st chunks = .ok st' → st'.buffer.length = 16 := by
  induction chunks with
  | nil => intro st st' hb h; cases h; exact hb
  | cons c cs ih =>
    intro st st' hb h
    unfold inputs at h
    split at h
    · cases h
    · rename_i s1 hi
      exact ih s1 st' (input_wf hb hi) h

/-- `raw_result` looks at `output.len()` only through its assertion -/
theorem raw_result_len (v : Variant) (st : State) (n : Nat) (hn : 16 ≤ n) : raw_result v st n = raw_result v st 16 := by
  unfold raw_result
  have h1 : ¬ n < 16 := by omega
  have h2 : ¬ (16 : Nat) < 16 := by omega
  simp only [if_neg h1, if_neg h2]

section hmac
open Cx.Impl.Digest Cx.Impl.Hmac
variable {δ : Type} (D : DigestModel δ)

/-- the typing fact behind `result(&mut self, out: &mut [u8])` in the `DigestModel` convention (the model takes the LENGTH
    of `out` and returns its new contents): a `&mut [u8]` keeps its length.  The digest model of Impl/Digest.lean
    satisfies it for the 16 macro-generated wrappers (`legacy_resultLen` below). -/
def ResultLen : Prop := ∀ (d d' : δ) (n : Nat) (out : Bytes), D.result d n = some (d', out) → out.length = n

theorem hmac_derive_key_eq (key : Bytes) (mask : UInt8) : Hmac.derive_key_src D key mask = derive_key key mask := rfl

/-! The generated functions differ from the hand models only where a buffer that `D.result` has written is measured
    again: `ResultLen` is needed at exactly those objects, so the ties are stated with the fact at that one object
    (`…_at`) and the `ResultLen D` forms follow. -/

/-- `expand_key`: the fact is needed of the digest after `input(key)`, and only for a key longer than a block -/
theorem hmac_expand_key_eq_at (digest : δ) (key : Bytes)
    (hD : ¬ key.length ≤ D.block_size digest → ∀ d1, D.input digest key = some d1 →
      ∀ d' n out, D.result d1 n = some (d', out) → out.length = n) :
    Hmac.expand_key_src D digest key = expand_key D digest key := by
  unfold Hmac.expand_key_src expand_key copy_prefix
  have hz : (zeros (D.block_size digest)).length = D.block_size digest := by simp [zeros]
  by_cases hk : key.length ≤ D.block_size digest
  · simp only [if_pos hk, hz]
  · simp only [if_neg hk, hz]
    cases hi : D.input digest key with
    | none => rfl
    | some d1 =>
      by_cases ho : D.output_bytes digest ≤ D.block_size digest
      · have hno : ¬ ¬ D.output_bytes digest ≤ D.block_size digest := fun h => h ho
        simp only [if_pos ho, if_neg hno]
        cases hr : D.result d1 (D.output_bytes digest) with
        | none => rfl
        | some p =>
          obtain ⟨d2, out⟩ := p
          simp only [hD hk d1 hi _ _ _ hr]
          cases D.reset d2 with
          | none => rfl
          | some d3 => rfl
      · simp only [if_neg ho, if_pos ho]

theorem hmac_create_keys_eq_at (digest : δ) (key : Bytes)
    (hD : ¬ key.length ≤ D.block_size digest → ∀ d1, D.input digest key = some d1 →
      ∀ d' n out, D.result d1 n = some (d', out) → out.length = n) :
    Hmac.create_keys_src D digest key = create_keys D digest key := by
  unfold Hmac.create_keys_src create_keys
  rw [hmac_expand_key_eq_at D digest key hD]
  cases expand_key D digest key with
  | none => rfl
  | some p => rfl

theorem hmac_new_eq_at (digest : δ) (key : Bytes)
    (hD : ¬ key.length ≤ D.block_size digest → ∀ d1, D.input digest key = some d1 →
      ∀ d' n out, D.result d1 n = some (d', out) → out.length = n) :
    Hmac.new_src D digest key = Hmac.new D digest key := by
  unfold Hmac.new_src Hmac.new
  rw [hmac_create_keys_eq_at D digest key hD]
  cases create_keys D digest key with
  | none => rfl
  | some p => rfl

theorem hmac_new_eq (hD : ResultLen D) (digest : δ) (key : Bytes) :
    Hmac.new_src D digest key = Hmac.new D digest key :=
  hmac_new_eq_at D digest key fun _ d1 _ => hD d1

theorem hmac_input_eq (self : Hmac δ) (data : Bytes) : Hmac.input_src D self data = Hmac.input D self data := rfl

theorem hmac_output_bytes_eq (self : Hmac δ) : Hmac.output_bytes_src D self = Hmac.output_bytes D self := rfl

/-- `raw_result`: the fact is needed of the wrapped digest object (its result is fed back as `input`) -/
theorem hmac_raw_result_eq_at (self : Hmac δ) (output : Bytes)
    (hD : ∀ d' n out, D.result self.digest n = some (d', out) → out.length = n) :
    Hmac.raw_result_src D self output = Hmac.raw_result D self output.length := by
  unfold Hmac.raw_result_src Hmac.raw_result Hmac.raw_result_k1_src
  by_cases hf : (!self.finished) = true
  · simp only [if_pos hf]
    cases hr : D.result self.digest output.length with
    | none => rfl
    | some p =>
      obtain ⟨d1, out1⟩ := p
      simp only
      cases D.reset d1 with
      | none => rfl
      | some d2 =>
        simp only
        cases D.input d2 self.o_key with
        | none => rfl
        | some d3 =>
          simp only
          cases D.input d3 out1 with
          | none => rfl
          | some d4 =>
            simp only [hD _ _ _ hr]
            cases D.result d4 output.length with
            | none => rfl
            | some p => obtain ⟨a, b⟩ := p; rfl
  · simp only [if_neg hf]
    cases D.result self.digest output.length with
    | none => rfl
    | some p => obtain ⟨a, b⟩ := p; rfl

/-- `result()` wraps the code bytes into a `MacResult` -/
def asMacResultO {σ : Type} (r : Option (σ × Bytes)) : Option (σ × MacResult) :=
  match r with
  | none => none
  | some (s, code) => some (s, ⟨code⟩)

theorem hmac_result_eq_at (self : Hmac δ)
    (hD : ∀ d' n out, D.result self.digest n = some (d', out) → out.length = n) :
    Hmac.result_src D self = asMacResultO (Hmac.result D self) := by
  unfold Hmac.result_src Hmac.result asMacResultO
  simp only [hmac_raw_result_eq_at D self _ hD]
  have hz : (zeros (D.output_bytes self.digest)).length = D.output_bytes self.digest := by simp [zeros]
  rw [hz]
  cases Hmac.raw_result D self (D.output_bytes self.digest) with
  | none => rfl
  | some p => rfl

theorem hmac_result_eq (hD : ResultLen D) (self : Hmac δ) :
    Hmac.result_src D self = asMacResultO (Hmac.result D self) :=
  hmac_result_eq_at D self (hD _)

theorem legacy_resultLen {γ : Type} (M : CtxModel γ) : ResultLen (legacyDigest M) :=
  MacLegacy.legacy_result_length M

end hmac

end Cx.Proofs.GlueMac
