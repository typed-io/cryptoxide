/-
  Proofs.GlueMd — helper lemmas for the translator tie of the Merkle–Damgård glue (Props/C01/GlueTieMd.lean):
  the run-time library of tools/ktx_glue.py (Util/GlueRt.lean; its facts are in Proofs/GlueVocab.lean) against the primitives
  of the hand models (Impl/FixedBuffer.lean), and the generic texts `writeLoop` / `readLoop` of the loops that
  `write_array_type!` / `read_array_type!` expand to, with their closed forms: the generated loops are copies of them at an
  encoder / decoder.
-/
import CxVerif.Impl.FixedBuffer
import CxVerif.Proofs.GlueVocab
import CxVerif.Proofs.Blocks
namespace Cx.Proofs.GlueMd
open Cx.Proofs.GlueVocab
open Cx.Proofs.FB (chunks_eq_fullBlocks takeBlocks_length)

theorem slice_eq (b : Bytes) (lo hi : Nat) : Glue.slice b lo hi = Cx.Impl.slice b lo hi := rfl

theorem copy_from_slice_eq (d : Bytes) (lo hi : Nat) (s : Bytes) :
    Glue.copy_from_slice d lo hi s = Cx.Impl.copy_from_slice d lo hi s := rfl

theorem fill_zero (n : Nat) : Glue.fill n (0 : UInt8) = zeros n := rfl

theorem slice_length {α : Type} {b t : List α} {lo hi : Nat} (h : Glue.slice b lo hi = some t) :
    t.length = hi - lo := GlueVocab.slice_length h

theorem slice_some_iff {α : Type} (b : List α) (lo hi : Nat) :
    (Glue.slice b lo hi).isSome ↔ (lo ≤ hi ∧ hi ≤ b.length) := by
  unfold Glue.slice; split <;> simp_all

/-- the loop the translator emits for `for v in input.iter() { match try_from(&mut dst[offset..offset + SZ]) { Ok(t) =>
    *t = enc(v), … }; offset += SZ }` — the four generated loops are this one at `enc = u32be | u32le | u64be | u64le`.
    The `try_from` length test `t.length ≠ SZ` is in the text because the source has it; it never fires. -/
def writeLoop {α : Type} (enc : α → Bytes) (SZ : Nat) : List α → Bytes → Nat → Option (Bytes × Nat)
  | [], dst, off => some (dst, off)
  | v :: rest, dst, off =>
    match Glue.slice dst off (off + SZ) with
    | none => none
    | some t =>
      if t.length ≠ SZ then none else
      match Glue.copy_from_slice dst off (off + SZ) (enc v) with
      | none => none
      | some dst2 => writeLoop enc SZ rest dst2 (off + SZ)

theorem writeLoop_spec {α : Type} (enc : α → Bytes) (SZ : Nat) (henc : ∀ v, (enc v).length = SZ) :
    ∀ (xs : List α) (dst : Bytes) (off : Nat), off + SZ * xs.length ≤ dst.length →
      writeLoop enc SZ xs dst off = some (splice dst off (xs.flatMap enc), off + SZ * xs.length) := by
  intro xs
  induction xs with
  | nil => intro dst off _; simp [writeLoop, splice_nil]
  | cons v rest ih =>
    intro dst off h
    rw [List.length_cons, Nat.mul_succ] at h
    have h1 : off + (enc v).length ≤ dst.length := by rw [henc]; omega
    rw [writeLoop, slice_at (by omega), copy_splice (by rw [henc]) (by omega)]
    simp only [List.length_take, List.length_drop, show min SZ (dst.length - off) = SZ by omega, ne_eq, not_true_eq_false, ite_false]
    rw [ih _ _ (by rw [splice_length h1]; omega), ← henc v, splice_splice h1, henc, List.flatMap_cons, List.length_cons, Nat.mul_succ]
    congr 2; omega

theorem writeLoop_full {α : Type} (enc : α → Bytes) (SZ : Nat) (henc : ∀ v, (enc v).length = SZ)
    (xs : List α) (dst : Bytes) (h : dst.length = SZ * xs.length) :
    writeLoop enc SZ xs dst 0 = some (xs.flatMap enc, SZ * xs.length) := by
  rw [writeLoop_spec enc SZ henc xs dst 0 (by omega), splice_all (by rw [Bytes.length_flatMap_const enc SZ henc, h]), Nat.zero_add]

/-- the loop the translator emits for the `unsafe` cursor loop of `read_array_type!` (x walks `dst`, y walks `input`).
    The counter `i` and the scratch `tmp` are never read: they are here because the generated text has them, which is what
    lets the generated loops be this text by conversion. -/
def readLoop {α : Type} (dec : Bytes → α) (input : Bytes) (SZ : Nat) : Nat → Nat → List α → Nat → Nat → Option (List α × Nat × Nat)
  | 0, _, dst, x, y => some (dst, x, y)
  | cnt + 1, i, dst, x, y =>
    let tmp := Glue.fill SZ (0 : UInt8)
    match Glue.slice input y (y + SZ) with
    | none => none
    | some t =>
      if tmp.length ≠ SZ then none else
      match Glue.set_index dst x (dec t) with
      | none => none
      | some dst2 => readLoop dec input SZ cnt (i + 1) dst2 (x + 1) (y + SZ)

theorem readLoop_spec {α : Type} (dec : Bytes → α) (input : Bytes) (SZ : Nat) :
    ∀ (cnt i : Nat) (dst : List α) (x y : Nat), x + cnt ≤ dst.length → y + SZ * cnt = input.length →
      readLoop dec input SZ cnt i dst x y
        = some (splice dst x ((takeBlocks SZ cnt (input.drop y)).map dec), x + cnt, y + SZ * cnt) := by
  intro cnt
  induction cnt with
  | zero => intro i dst x y _ _; simp [readLoop, takeBlocks, splice_nil]
  | succ c ih =>
    intro i dst x y hx hy
    rw [Nat.mul_succ] at hy
    have hxl : x < dst.length := by omega
    rw [readLoop]
    simp only [fill_length, ne_eq, not_true_eq_false, ite_false]
    rw [slice_at (by omega)]
    simp only [set_index_ok hxl]
    rw [ih (i + 1) _ (x + 1) (y + SZ) (by rw [List.length_set]; omega) (by omega), set_splice hxl, takeBlocks, List.map_cons,
      List.drop_drop, Nat.mul_succ]
    simp only [Option.some.injEq, Prod.mk.injEq, true_and]
    omega

theorem readLoop_words {α : Type} (dec : Bytes → α) (SZ : Nat) (hSZ : 0 < SZ) (dst : List α) (input : Bytes)
    (h : dst.length * SZ = input.length) :
    readLoop dec input SZ (dst.length - 0) 0 dst 0 0 = some ((chunks SZ input).map dec, dst.length, input.length) := by
  have h' : input.length = SZ * dst.length := by rw [← h, Nat.mul_comm]
  rw [Nat.sub_zero, readLoop_spec dec input SZ dst.length 0 dst 0 0 (by omega) (by omega),
    chunks_eq_fullBlocks hSZ input (by rw [h']; exact Nat.mul_mod_right ..), fullBlocks, h', Nat.mul_div_cancel_left _ hSZ,
    splice_all (by rw [List.length_map, takeBlocks_length]), List.drop_zero, Nat.zero_add, Nat.zero_add]

end Cx.Proofs.GlueMd
