/-
  Proofs.GlueRest — the proofs behind Props/C20/GlueTieRest.lean (the tie of Extracted/GlueRest.lean, generated by
  tools/ktx_glue_rest.py, to the hand models), one section per source function that needs more than unfolding:
  `fe/load.rs` (the loads as numbers, on a list head and on a window); scalar32.rs `check_s_lt_l` (the `loop` from byte 31 down to 0
  against the model's fold); the counted loops — `isForRange` puts the generated `forRange` under `GlueVocab.foldlM_range'_slots`,
  whence `forRange_slots` (the `i`-th pass stores a window `g i` at `w * i`: the windows side by side, as a `splice`) and
  `forRange_fill` (the `i`-th pass sets cell `i`: a `map`), used for scalar32.rs `bits` / `nibbles` and for the feed-forward of
  scrypt.rs `salsa20_8`; fe32 `square_repeatdly` and the double rounds of `salsa20_8` (loops that are the model's recursion); argon2
  `Block`; chacha/reference.rs `output_ad_bytes`.
-/
import CxVerif.Extracted.GlueRest
import CxVerif.Proofs.KernelRfl
import CxVerif.Proofs.GlueVocab
import CxVerif.Proofs.Bits
import CxVerif.Proofs.Scalar32Canon
namespace Cx.Proofs.GlueRest
open Cx.Extracted.GlueRest
open GlueVocab (splice)

theorem chk_of_lt {w v : Nat} (h : v < 2 ^ w) : chk w v = some v := GlueVocab.chk_of_lt h

/-! ## fe/load.rs -/
section Loads
open Cx.Extracted.GlueRest.Load
theorem wrapI64_small (x : Nat) (h : x < 2 ^ 63) : wrapI 64 x = (x : Int) := by
  have h1 : x % 2 ^ 64 = x := Nat.mod_eq_of_lt (by omega)
  simp [wrapI, h1, h]

theorem byte_shl (b : UInt8) (k : UInt64) (hk : k.toNat ≤ 56) : (b.toUInt64 <<< k).toNat = b.toNat <<< k.toNat := by
  rw [UInt64.toNat_shiftLeft, UInt8.toNat_toUInt64, Nat.mod_eq_of_lt (by omega : k.toNat < 64), Nat.mod_eq_of_lt (Bits.byte_shl_lt b hk)]

theorem load3_nat (a b c : UInt8) :
    ((a.toUInt64) ||| ((b.toUInt64) <<< (8 : UInt64)) ||| ((c.toUInt64) <<< (16 : UInt64))).toNat
      = a.toNat ||| (b.toNat <<< 8) ||| (c.toNat <<< 16) := by
  rw [UInt64.toNat_or, UInt64.toNat_or, byte_shl b 8 (by decide), byte_shl c 16 (by decide), UInt8.toNat_toUInt64]
  rfl

theorem load_3u_src_cons (a b c : UInt8) (rest : Bytes) :
    load_3u_src (a :: b :: c :: rest) = some ((a.toUInt64) ||| ((b.toUInt64) <<< (8 : UInt64)) ||| ((c.toUInt64) <<< (16 : UInt64))) := by
  simp [load_3u_src, idx]

theorem load4_nat (a b c d : UInt8) :
    ((a.toUInt64) ||| ((b.toUInt64) <<< (8 : UInt64)) ||| ((c.toUInt64) <<< (16 : UInt64)) ||| ((d.toUInt64) <<< (24 : UInt64))).toNat
      = a.toNat ||| (b.toNat <<< 8) ||| (c.toNat <<< 16) ||| (d.toNat <<< 24) := by
  rw [UInt64.toNat_or, load3_nat, byte_shl d 24 (by decide)]
  rfl

theorem or3_lt (a b c : UInt8) : a.toNat ||| (b.toNat <<< 8) ||| (c.toNat <<< 16) < 2 ^ 24 := by
  have ha := a.toNat_lt; have hb := b.toNat_lt; have hc := c.toNat_lt
  apply Nat.or_lt_two_pow
  · apply Nat.or_lt_two_pow
    · omega
    · rw [Nat.shiftLeft_eq]; omega
  · rw [Nat.shiftLeft_eq]; omega

theorem or4_lt (a b c d : UInt8) : a.toNat ||| (b.toNat <<< 8) ||| (c.toNat <<< 16) ||| (d.toNat <<< 24) < 2 ^ 32 := by
  have hd := d.toNat_lt
  have := or3_lt a b c
  apply Nat.or_lt_two_pow
  · omega
  · rw [Nat.shiftLeft_eq]; omega

theorem load_3i_src_cons (a b c : UInt8) (rest : Bytes) :
    load_3i_src (a :: b :: c :: rest) = some ((a.toNat ||| (b.toNat <<< 8) ||| (c.toNat <<< 16) : Nat) : Int) := by
  have := or3_lt a b c
  simp only [load_3i_src, load_3u_src_cons, Option.bind_eq_bind, Option.bind_some, Option.pure_def, load3_nat]
  rw [wrapI64_small _ (by omega)]

theorem load_4u_src_cons (a b c d : UInt8) (rest : Bytes) :
    load_4u_src (a :: b :: c :: d :: rest) =
      some ((a.toUInt64) ||| ((b.toUInt64) <<< (8 : UInt64)) ||| ((c.toUInt64) <<< (16 : UInt64)) ||| ((d.toUInt64) <<< (24 : UInt64))) := by
  simp [load_4u_src, idx]

theorem load_4i_src_cons (a b c d : UInt8) (rest : Bytes) :
    load_4i_src (a :: b :: c :: d :: rest) = some ((a.toNat ||| (b.toNat <<< 8) ||| (c.toNat <<< 16) ||| (d.toNat <<< 24) : Nat) : Int) := by
  have := or4_lt a b c d
  simp only [load_4i_src, load_4u_src_cons, Option.bind_eq_bind, Option.bind_some, Option.pure_def, load4_nat]
  rw [wrapI64_small _ (by omega)]

theorem drop_eq_cons3 (l : Bytes) (i : Nat) (h : i + 2 < l.length) :
    l.drop i = l[i] :: l[i + 1] :: l[i + 2] :: l.drop (i + 3) := by
  rw [List.drop_eq_getElem_cons (by omega), List.drop_eq_getElem_cons (by omega), List.drop_eq_getElem_cons (by omega)]

theorem drop_eq_cons4 (l : Bytes) (i : Nat) (h : i + 3 < l.length) :
    l.drop i = l[i] :: l[i + 1] :: l[i + 2] :: l[i + 3] :: l.drop (i + 4) := by
  rw [drop_eq_cons3 l i (by omega), List.drop_eq_getElem_cons (by omega)]

theorem load_3i_src_window (l : Bytes) (i : Nat) (h : i + 2 < l.length) :
    load_3i_src ((l.drop i).take 3) = some ((l[i].toNat ||| (l[i + 1].toNat <<< 8) ||| (l[i + 2].toNat <<< 16) : Nat) : Int) := by
  rw [drop_eq_cons3 l i h]; simp only [List.take_succ_cons, List.take_zero]; exact load_3i_src_cons _ _ _ _

theorem load_4i_src_window (l : Bytes) (i : Nat) (h : i + 3 < l.length) :
    load_4i_src ((l.drop i).take 4) = some ((l[i].toNat ||| (l[i + 1].toNat <<< 8) ||| (l[i + 2].toNat <<< 16) ||| (l[i + 3].toNat <<< 24) : Nat) : Int) := by
  rw [drop_eq_cons4 l i h]; simp only [List.take_succ_cons, List.take_zero]; exact load_4i_src_cons _ _ _ _ _

end Loads

/-! ## scalar32.rs: `check_s_lt_l` -/
section Check
open Cx.Extracted.GlueRest.Scalar32
open Cx.Impl.Scalar32 (checkStep L)
open Cx.Proofs.Scalar32 (L_length)
theorem ick32_small (v : Int) (h1 : -256 ≤ v) (h2 : v ≤ 256) : ick 32 v = some v := by
  unfold ick
  have e : (2 : Int) ^ (32 - 1) = 2147483648 := by decide
  rw [if_pos]
  rw [e]; omega

/-- the loop body on machine bytes -/
def stepW (c n x l : UInt8) : UInt8 × UInt8 :=
  (c ||| ((wordOfInt8 (((x.toNat : Int) - (l.toNat : Int)) / 2 ^ 8)) &&& n),
   n &&& (wordOfInt8 ((((x ^^^ l).toNat : Int) - (1 : Int)) / 2 ^ 8)))

theorem wordOfInt8_toNat (v : Int) : (wordOfInt8 v).toNat = (v % 256).toNat := by
  unfold wordOfInt8
  rw [UInt8.toNat_ofNat']
  omega

theorem stepW_toNat (c n x l : UInt8) :
    ((stepW c n x l).1.toNat, (stepW c n x l).2.toNat) = checkStep (c.toNat, n.toNat) x l := by
  simp [stepW, checkStep, UInt8.toNat_or, UInt8.toNat_and, wordOfInt8_toNat]

theorem loop1_step (s : Vector UInt8 32) (c n : UInt8) (i : Nat) (hi : i < 32) :
    check_s_lt_l_src_loop1 s (c, n, i) =
      some (((stepW c n s[i] (L[i]'(by rw [L_length]; exact hi))).1, (stepW c n s[i] (L[i]'(by rw [L_length]; exact hi))).2,
             if i = 0 then i else i - 1), decide (i ≠ 0)) := by
  have hL : i < L.length := by rw [L_length]; exact hi
  have hx : ∀ (a b : UInt8), ick 32 ((a.toNat : Int) - (b.toNat : Int)) = some ((a.toNat : Int) - (b.toNat : Int)) := by
    intro a b; have := a.toNat_lt; have := b.toNat_lt; exact ick32_small _ (by omega) (by omega)
  have hy : ∀ (a : UInt8), ick 32 ((a.toNat : Int) - (1 : Int)) = some ((a.toNat : Int) - 1) := by
    intro a; have := a.toNat_lt; exact ick32_small _ (by omega) (by omega)
  unfold check_s_lt_l_src_loop1
  simp only [idx, Vector.getElem?_eq_getElem hi, List.getElem?_eq_getElem hL, Option.bind_eq_bind, Option.bind_some, Option.pure_def, hx, hy, stepW]
  by_cases h0 : i = 0
  · subst h0; simp
  · have : 1 ≤ i := by omega
    simp [h0, usub, this]

theorem take_succ_reverse {α} (l : List α) (j : Nat) (h : j < l.length) : (l.take (j + 1)).reverse = l[j] :: (l.take j).reverse := by
  rw [List.take_add_one, List.getElem?_eq_getElem h, Option.toList_some, List.reverse_append]; rfl

/-- the `loop` entered at index `k` with fuel `k + 1` runs down to index 0 without exhausting the fuel; the two bytes it leaves are, as
    numbers, the model's fold over the byte pairs `k … 0` -/
theorem loop_run (s : Vector UInt8 32) : ∀ (k : Nat), k < 32 → ∀ (c n : UInt8),
    ∃ c' n', whileLoop (check_s_lt_l_src_loop1 s) (k + 1) (c, n, k) = some (c', n', 0) ∧
      (c'.toNat, n'.toNat) = ((s.toList.take (k + 1)).reverse.zip (L.take (k + 1)).reverse).foldl
        (fun cn p => checkStep cn p.1 p.2) (c.toNat, n.toNat) := by
  intro k
  induction k with
  | zero =>
    intro hk c n
    refine ⟨_, _, by rw [whileLoop, loop1_step s c n 0 hk]; rfl, ?_⟩
    rw [take_succ_reverse _ 0 (by simp), take_succ_reverse _ 0 (by rw [L_length]; omega)]
    exact stepW_toNat c n _ _
  | succ k ih =>
    intro hk c n
    obtain ⟨c', n', e, hf⟩ := ih (by omega) (stepW c n s[k + 1] (L[k + 1]'(by rw [L_length]; exact hk))).1
      (stepW c n s[k + 1] (L[k + 1]'(by rw [L_length]; exact hk))).2
    refine ⟨c', n', ?_, ?_⟩
    · rw [whileLoop, loop1_step s c n (k + 1) hk]
      simpa using e
    · rw [hf, take_succ_reverse _ (k + 1) (by simpa using hk), take_succ_reverse _ (k + 1) (by rw [L_length]; exact hk),
        List.zip_cons_cons, List.foldl_cons, stepW_toNat]
      rfl

end Check

/-! ## `for` loops: invariants; scalar32.rs `bits`, `nibbles` -/
section Digits
open Cx.Extracted.GlueRest.Scalar32
theorem isForRange {σ : Type} : GlueVocab.IsForRange (σ := σ) forRange :=
  fun body lo st => ⟨rfl, fun n => by rw [forRange]; cases body lo st <;> rfl⟩

theorem forRange_slots {α : Type} (w n : Nat) (body : Nat → List α → Option (List α)) (g : Nat → List α) (hg : ∀ i, (g i).length = w)
    (r : List α) (hr : w * n ≤ r.length) (hb : ∀ i out, i < n → out.length = r.length → body i out = some (splice out (w * i) (g i))) :
    forRange body n 0 r = some (splice r 0 ((List.range n).flatMap g)) :=
  (isForRange.eq_foldlM ..).trans (GlueVocab.foldlM_range'_slots w n body g hg r hr hb)

theorem wrapI8_small (x : Nat) (h : x < 128) : wrapI 8 x = (x : Int) := by
  have h1 : x % 2 ^ 8 = x := Nat.mod_eq_of_lt (by omega)
  simp [wrapI, h1, h]

def bitAt (s : Vector UInt8 32) (i : Nat) : Int :=
  ((((1 : UInt8) &&& ((s.toList.getD (i >>> 3) 0) >>> (UInt8.ofNat (i &&& 7)))).toNat : Nat) : Int)

theorem and1_le (y : UInt8) : ((1 : UInt8) &&& y).toNat ≤ 1 := by
  rw [UInt8.toNat_and]; exact Nat.and_le_left

theorem bits_body (a : Vector UInt8 32) (i : Nat) (r : List Int) (hi : i < 256) (hr : r.length = 256) :
    bits_src_for1 a i r = some (r.set i (bitAt a i)) := by
  have h3 : i >>> 3 < 32 := by rw [Nat.shiftRight_eq_div_pow]; omega
  have h7 : i &&& 7 < 8 := by
    have : i &&& 7 ≤ 7 := Nat.and_le_right; omega
  unfold bits_src_for1
  simp only [Vector.getElem?_eq_getElem h3, shrW8, h7, if_true, upd, hr, hi, Option.bind_eq_bind, Option.bind_some, Option.pure_def]
  rw [wrapI8_small _ (by have := and1_le (a[i >>> 3] >>> UInt8.ofNat (i &&& 7)); omega)]
  simp [bitAt, List.getD_eq_getElem?_getD, h3]

theorem forRange_fill {α : Type} (body : Nat → List α → Option (List α)) (g : Nat → α) (n : Nat) (r : List α) (hr : r.length = n)
    (hb : ∀ i r', i < n → r'.length = n → body i r' = some (r'.set i (g i))) :
    forRange body n 0 r = some ((List.range n).map g) := by
  rw [forRange_slots 1 n body (fun i => [g i]) (fun _ => rfl) r (by omega) fun i out hi hl => by
      rw [hb i out hi (by omega), Nat.one_mul, GlueVocab.set_eq_splice (by omega)],
    ← List.map_eq_flatMap, GlueVocab.splice_all (by rw [List.length_map, List.length_range, hr])]

def nibLo (a : UInt8) : Int := ((((a >>> (0 : UInt8)) &&& (0b1111 : UInt8)).toNat : Nat) : Int)
def nibHi (a : UInt8) : Int := ((((a >>> (4 : UInt8)) &&& (0b1111 : UInt8)).toNat : Nat) : Int)

theorem and15_lt (y : UInt8) : (y &&& (15 : UInt8)).toNat < 128 := by
  rw [UInt8.toNat_and]
  have : y.toNat &&& (15 : UInt8).toNat ≤ (15 : UInt8).toNat := Nat.and_le_right
  have e : (15 : UInt8).toNat = 15 := rfl
  omega

theorem nibbles_body (a : Vector UInt8 32) (i : Nat) (es : List Int) (hi : i < 32) (he : es.length = 64) :
    nibbles_src_for1 a i es = some ((es.set (2 * i) (nibLo a[i])).set (2 * i + 1) (nibHi a[i])) := by
  have c1 : chk 64 (2 * i) = some (2 * i) := chk_of_lt (by omega)
  have c2 : chk 64 (2 * i + 0) = some (2 * i) := c1
  have c3 : chk 64 (2 * i + 1) = some (2 * i + 1) := chk_of_lt (by omega)
  have l1 : 2 * i < es.length := by omega
  have l2 : 2 * i + 1 < (es.set (2 * i) (nibLo a[i])).length := by simp; omega
  unfold nibbles_src_for1
  simp only [Vector.getElem?_eq_getElem hi, c1, c2, c3, upd, Option.bind_eq_bind, Option.bind_some, Option.pure_def]
  rw [wrapI8_small _ (and15_lt _), wrapI8_small _ (and15_lt _)]
  simp only [l1, if_true, Option.bind_some]
  rw [if_pos (by simpa using l2)]
  rfl

theorem set_set_eq_slot {α : Type} (l : List α) (i : Nat) (a b : α) (h : 2 * i + 1 < l.length) :
    (l.set (2 * i) a).set (2 * i + 1) b = splice l (2 * i) [a, b] := by
  rw [GlueVocab.set_eq_splice (by rw [List.length_set]; exact h), GlueVocab.set_splice (by omega)]

theorem range_flatMap_getD {α β : Type} (l : List α) (d : α) (f : α → List β) :
    (List.range l.length).flatMap (fun i => f (l[i]?.getD d)) = l.flatMap f := by
  conv => rhs; rw [show l = (List.range l.length).map (fun i => l[i]?.getD d) from
    List.ext_getElem (by simp) (by intros; simp [*])]
  rw [List.flatMap_map]

end Digits

/-! ## fe32 `square_repeatdly` -/
section Fe32
open Cx.Extracted.GlueRest.Fe32
open Cx.Impl.Fe32 (Fe)
theorem square_loop (n : Nat) : ∀ (lo : Nat) (f : Fe), forRange square_repeatdly_src_for1 n lo f = Impl.Fe32.square_repeatdly f n := by
  induction n with
  | zero => intro lo f; rfl
  | succ n ih =>
    intro lo f
    simp only [forRange, square_repeatdly_src_for1, Impl.Fe32.square_repeatdly, Option.bind_eq_bind, Option.pure_def]
    cases Impl.Fe32.square f with
    | none => rfl
    | some g => exact ih (lo + 1) g
end Fe32

/-! ## scrypt.rs `salsa20_8` -/
section Salsa
open Cx.Extracted.GlueRest.Scrypt
open Cx.Impl.Kdf
theorem salsa_for1_eq (i : Nat) (x : Vector UInt32 16) : salsa20_8_src_for1 i x = run_round x := by
  kernel_rfl

theorem salsa_rounds_loop (n : Nat) : ∀ (lo : Nat) (x : Vector UInt32 16), forRange salsa20_8_src_for1 n lo x = salsa_rounds n x := by
  induction n with
  | zero => intro lo x; rfl
  | succ n ih =>
    intro lo x
    simp only [forRange, salsa_rounds, salsa_for1_eq]
    cases run_round x with
    | none => rfl
    | some y => exact ih (lo + 1) y

/-- the word the feed-forward writes at position `k` -/
def ffWord (input : Bytes) (x : Vector UInt32 16) (k : Nat) : Bytes := u32le ((x[k]?.getD 0) + leU32 (input.drop (4 * k)))

theorem leU32_take4 (l : Bytes) : leU32 (l.take 4) = leU32 l := by
  simp [leU32, List.take_take]

theorem ffWord_length (input : Bytes) (x : Vector UInt32 16) (k : Nat) : (ffWord input x k).length = 4 := Bytes.u32le_length _

theorem ff_flat_length (input : Bytes) (x : Vector UInt32 16) (i : Nat) : ((List.range i).flatMap (ffWord input x)).length = 4 * i := by
  rw [Bytes.length_flatMap_const _ 4 (ffWord_length input x), List.length_range]

theorem salsa_for2_step (input : Bytes) (x : Vector UInt32 16) (hin : input.length = 64) (i : Nat) (hi : i < 16) (out : Bytes)
    (ho : 64 ≤ out.length) : salsa20_8_src_for2 input x i out = some (splice out (4 * i) (ffWord input x i)) := by
  have c1 : chk 64 (i * 4) = some (4 * i) := by simp [chk]; constructor <;> omega
  have c2 : chk 64 (i + 1) = some (i + 1) := chk_of_lt (by omega)
  have c3 : chk 64 ((i + 1) * 4) = some (4 * i + 4) := by simp [chk]; constructor <;> omega
  have s1 : slice out (4 * i) (4 * i + 4) = some ((out.drop (4 * i)).take 4) := GlueVocab.slice_at (by omega)
  have s2 : slice input (4 * i) (4 * i + 4) = some ((input.drop (4 * i)).take 4) := GlueVocab.slice_at (by omega)
  have l1 : ((out.drop (4 * i)).take 4).length = 4 := by simp; omega
  have l2 : ((input.drop (4 * i)).take 4).length = 4 := by simp; omega
  unfold salsa20_8_src_for2
  simp only [c1, c2, c3, s1, s2, Option.bind_eq_bind, Option.bind_some, Option.pure_def, Vector.getElem?_eq_getElem hi, read_u32_le, l2, if_true,
    write_u32_le, l1, leU32_take4]
  have l3 := Bytes.u32le_length (x[i] + leU32 (List.drop (4 * i) input))
  simp [copyInto, l3, ffWord, splice, Vector.getElem?_eq_getElem hi]
  omega

theorem salsa_for2_loop (input : Bytes) (x : Vector UInt32 16) (hin : input.length = 64) (output : Bytes) (ho : 64 ≤ output.length) :
    forRange (salsa20_8_src_for2 input x) 16 0 output = some ((List.range 16).flatMap (ffWord input x) ++ output.drop 64) := by
  rw [forRange_slots 4 16 _ _ (ffWord_length input x) output ho fun i out hi hl => salsa_for2_step input x hin i hi out (by omega),
    GlueVocab.splice_zero, ff_flat_length]

theorem map_val_finRange (n : Nat) : (List.finRange n).map Fin.val = List.range n := by
  apply List.ext_getElem
  · simp
  · intro i h1 h2; simp

theorem finRange_flatMap {β : Type} (n : Nat) (g : Nat → List β) :
    (List.finRange n).flatMap (fun i => g i.val) = (List.range n).flatMap g := by
  rw [← map_val_finRange, List.flatMap_map]

end Salsa

/-! ## argon2 `Block`, cryptoutil `xor_array64_mut` -/
section Block
open Cx.Extracted.GlueRest.Argon2Block Cx.Extracted.GlueRest.CryptoUtil
open Cx.Spec.Argon2
theorem block_as_u8_mut_set_src_bad_len (b : Block) (v : Bytes) (hv : v.length ≠ 1024) : as_u8_mut_set_src b v = none := by
  simp [as_u8_mut_set_src, unviewLE64, hv]
theorem cu_xor_array64_mut_src_eq_model (a b : List UInt64) : xor_array64_mut_src a b = List.zipWith (· ^^^ ·) a b := rfl
end Block

/-! ## chacha/reference.rs `output_ad_bytes` -/
section ChaChaRef
theorem take_drop_16 (A B r : Bytes) (hA : A.length = 16) (hr : r.length = 16) :
    List.take 16 (A ++ r) ++ (B ++ List.drop 32 (A ++ r)) = A ++ B := by
  rw [List.take_left' hA, List.drop_eq_nil_of_le (by simp [hA, hr])]
  simp

end ChaChaRef

end Cx.Proofs.GlueRest
