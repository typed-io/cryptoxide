/-
  Proofs.GlueRestMuladd — lemmas for the tie of `scalar32::muladd` (sc_muladd, 32-bit backend), translated in three stages by
  tools/ktx_misc.py (kernel specs tools/kernels/glue_rest.py: `muladd_cols_src`, `muladd_carry_src`, `muladd_tail_src`, composed into
  `muladd_src`), to the hand model `Impl.Scalar32.muladd` (Props/C20/GlueTieRest.lean walks the composition against the model with
  `bind_walk`, Proofs/BindWalk.lean).  Here: the generated tail is `reduce_limbs` followed by `pack` (also the tie of
  `reduce_from_wide_bytes`, Props/C17/KernelTieB32.lean), and `sum64o` as the chain of binds it is.
-/
import CxVerif.Extracted.GlueRest
import CxVerif.Proofs.BindWalk
namespace Cx.Proofs.GlueRestMuladd
open Cx.Impl.Scalar32 Cx.Extracted.GlueRest.Scalar32Muladd
open Cx.Impl.Fe32 (add64)

set_option maxRecDepth 100000 in
theorem tail_src_eq (s0 s1 s2 s3 s4 s5 s6 s7 s8 s9 s10 s11 s12 s13 s14 s15 s16 s17 s18 s19 s20 s21 s22 s23 : Int) :
    muladd_tail_src s0 s1 s2 s3 s4 s5 s6 s7 s8 s9 s10 s11 s12 s13 s14 s15 s16 s17 s18 s19 s20 s21 s22 s23 =
      (reduce_limbs s0 s1 s2 s3 s4 s5 s6 s7 s8 s9 s10 s11 s12 s13 s14 s15 s16 s17 s18 s19 s20 s21 s22 s23).bind fun t => some (pack t) := by
  unfold muladd_tail_src
  bind_walk [reduce_limbs, mac, msc, carryR, carryF, pack]

/-- `x + y + z + …` of `sum64o` as the chain of binds it is -/
def sumChain : Int → List (Option Int) → Option Int
  | acc, [] => some acc
  | acc, y :: ys => y.bind fun t => (add64 acc t).bind fun s => sumChain s ys

theorem foldlM_eq_sumChain (xs : List (Option Int)) : ∀ v : Int, xs.foldlM (fun acc y => y.bind (add64 acc)) v = sumChain v xs := by
  induction xs with
  | nil => intro v; rfl
  | cons y ys ih =>
    intro v
    simp only [List.foldlM_cons, sumChain]
    cases y with
    | none => rfl
    | some t =>
      simp only [Option.bind_eq_bind, Option.bind_some]
      cases add64 v t with
      | none => rfl
      | some s => exact ih s

theorem sum64o_cons (x : Option Int) (xs : List (Option Int)) : sum64o (x :: xs) = x.bind fun v => sumChain v xs := by
  cases x with
  | none => rfl
  | some v => exact foldlM_eq_sumChain xs v

end Cx.Proofs.GlueRestMuladd
