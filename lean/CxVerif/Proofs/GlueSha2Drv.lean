/-
  Proofs.GlueSha2Drv — helper lemmas for the translator tie of the SHA-2 multi-block drivers (Props/C01/GlueTieSha2Drv.lean):
  the generated loops of `impl256::reference::digest_block` / `impl512::reference::digest_block` (Extracted/GlueSha2Drv.lean)
  against the hand models `Impl.Sha2.Impl256.digest_block_loop` / `Impl512.digest_block_loop`, for ANY pair of fuels that is
  adequate for the remaining input — so the main theorems also say that neither loop ever runs out of fuel — and this file's own
  copy of the `read_array_type!` readers against the models `read_u64v_be` / the little-endian words.
-/
import CxVerif.Extracted.GlueSha2Drv
import CxVerif.Proofs.GlueMd
import CxVerif.Proofs.KernelTieWords
import CxVerif.Proofs.KernelRfl
namespace Cx.Proofs.GlueSha2Drv
open Cx.Impl Cx.Proofs.GlueMd Cx.Proofs.GlueVocab Cx.Extracted.GlueSha2Drv

/-! ### the readers: the generated loops are `readLoop` of Proofs/GlueMd.lean at their decoders, the same recursion -/

theorem read_u64v_be_loop (input : Bytes) (SZ : Nat) : ∀ (cnt i : Nat) (dst : List UInt64) (x y : Nat),
    read_u64v_be_src_loop1 input SZ cnt i dst x y = readLoop beU64 input SZ cnt i dst x y := by
  intros; kernel_rfl

theorem read_u64v_be_src_eq_model (dst : List UInt64) (input : Bytes) :
    read_u64v_be_src dst input = read_u64v_be dst.length input := by
  unfold read_u64v_be_src read_u64v_be
  by_cases h : dst.length * 8 = input.length
  · simp only [read_u64v_be_loop, readLoop_words beU64 8 (by decide) dst input h, h, ne_eq, not_true_eq_false, ite_false, wordsBE64]
  · simp only [h, ne_eq, not_false_eq_true, ite_true]

theorem read_u64v_le_loop (input : Bytes) (SZ : Nat) : ∀ (cnt i : Nat) (dst : List UInt64) (x y : Nat),
    read_u64v_le_src_loop1 input SZ cnt i dst x y = readLoop leU64 input SZ cnt i dst x y := by
  intros; kernel_rfl

/-- a slice at offset `i` is a slice at 0 of the rest (the generated SHA-256 loop indexes, the model re-slices) -/
theorem slice_drop (b : Bytes) (i n : Nat) (hi : i ≤ b.length) :
    Glue.slice b i (i + n) = Cx.Impl.slice (b.drop i) 0 n := by
  unfold Glue.slice Cx.Impl.slice
  simp only [List.length_drop, Nat.le_add_right, true_and, Nat.zero_le, Nat.sub_zero, List.drop_zero, Nat.add_sub_cancel_left]
  by_cases h : i + n ≤ b.length
  · rw [if_pos h, if_pos (by omega)]
  · rw [if_neg h, if_neg (by omega)]

/-! ### SHA-256: `while i < block.len() { digest_block_u32(state, &block[i..i + 64]); i += 64; }` -/

/-- the generated loop at offset `i` with fuel `fg` = the model loop on `block[i..]` with fuel `fm`, whenever both fuels cover the
    remaining `block.len() - i` bytes (64 bytes per unit; the model's test comes one step later).  The bare `simp only []`
    between the steps reduce the `match` whose scrutinee the step before has turned into `some _`, and the `let`s of the
    generated text. -/
theorem loop256 (block : Bytes) : ∀ (fm fg : Nat) (state : Spec.Sha2.W8 UInt32) (i : Nat),
    i ≤ block.length → block.length - i ≤ 64 * fg → block.length - i < 64 * fm →
    (Impl256.reference_digest_block_src_loop1 block fg state i).map Prod.fst
      = Impl.Sha2.Impl256.digest_block_loop fm state (block.drop i) := by
  intro fm
  induction fm with
  | zero => intro fg state i _ _ h; omega
  | succ m ih =>
    intro fg state i hi hg hm
    rw [Impl256.reference_digest_block_src_loop1.eq_def, Impl.Sha2.Impl256.digest_block_loop, List.length_drop]
    by_cases hlt : i < block.length
    · rw [if_pos hlt, if_neg (by omega)]
      cases fg with
      | zero => omega
      | succ g =>
        simp only []
        rw [slice_drop _ _ _ hi]
        cases hs : Cx.Impl.slice (block.drop i) 0 64 with
        | none => rfl
        | some t =>
          have hb : i + 64 ≤ block.length := by
            have := (slice_eq_some_iff.mp hs).2.1
            rw [List.length_drop] at this; omega
          simp only []
          cases Impl.Sha2.Impl256.digest_block_u32 state t with
          | none => rfl
          | some st2 =>
            simp only []
            rw [ih g st2 (i + 64) hb (by omega) (by omega), List.drop_drop]
    · have : i = block.length := by omega
      rw [if_neg hlt, if_pos (by omega)]; rfl

/-! ### SHA-512: `while !block.is_empty() { read_u64v_be(&mut block2[..], &block[0..128]); digest_block_u64(state, &block2);
    block = &block[128..]; }` -/

/-- the same for the SHA-512 loop, which re-slices `block` like the model; the scratch array `block2` is any sixteen words: every
    round overwrites it before it is read -/
theorem loop512 : ∀ (fm fg : Nat) (block2 : List UInt64) (state : Spec.Sha2.W8 UInt64) (block : Bytes),
    block2.length = 16 → block.length ≤ 128 * fg → block.length < 128 * fm →
    (Impl512.reference_digest_block_src_loop1 fg block2 state block).map (fun r => r.2.1)
      = Impl.Sha2.Impl512.digest_block_loop fm state block := by
  intro fm
  induction fm with
  | zero => intro fg block2 state block _ _ h; omega
  | succ m ih =>
    intro fg block2 state block h2 hg hm
    rw [Impl512.reference_digest_block_src_loop1.eq_def, Impl.Sha2.Impl512.digest_block_loop]
    by_cases hz : block.length = 0
    · rw [if_neg (by simp [hz]), if_pos hz]; rfl
    · rw [if_pos (by simpa using hz), if_neg hz]
      cases fg with
      | zero => omega
      | succ g =>
        simp only []
        rw [slice_suffix (Nat.zero_le _), List.drop_zero, slice_eq]
        simp only []
        cases hs : Cx.Impl.slice block 0 128 with
        | none => rfl
        | some blk =>
          have hb : 128 ≤ block.length := (slice_eq_some_iff.mp hs).2.1
          simp only []
          rw [read_u64v_be_src_eq_model, h2]
          cases hr : read_u64v_be 16 blk with
          | none => rfl
          | some w =>
            have hw : w.length = 16 := Cx.Proofs.KernelTieWords.read_u64v_be_length hr
            simp only []
            have hc := copy_full (d := block2) (s := w) (by rw [hw, h2])
            rw [h2] at hc
            rw [hc]
            simp only []
            cases Impl.Sha2.Impl512.digest_block_u64 state w with
            | none => rfl
            | some st2 =>
              simp only []
              rw [slice_suffix hb]
              simp only []
              exact ih g w st2 (block.drop 128) hw (by rw [List.length_drop]; omega) (by rw [List.length_drop]; omega)

/-- with ANY fuel that covers the input (one unit per 64 bytes suffices; the translator passes `block.len()`) the generated SHA-256 loop
    computes the model's `digest_block`: the generated `none` on fuel 0 is never reached -/
theorem loop256_any_fuel (state : Spec.Sha2.W8 UInt32) (block : Bytes) (fg : Nat) (hf : block.length ≤ 64 * fg) :
    (Impl256.reference_digest_block_src_loop1 block fg state 0).map Prod.fst = Impl.Sha2.Impl256.digest_block state block := by
  have h := loop256 block (block.length / 64 + 1) fg state 0 (Nat.zero_le _) (by omega) (by omega)
  rw [List.drop_zero] at h
  exact h

theorem reference256_eq_model (state : Spec.Sha2.W8 UInt32) (block : Bytes) :
    Impl256.reference_digest_block_src state block = Impl.Sha2.Impl256.digest_block state block := by
  rw [← loop256_any_fuel state block block.length (by omega)]
  unfold Impl256.reference_digest_block_src
  dsimp only
  cases Impl256.reference_digest_block_src_loop1 block block.length state 0 with
  | none => rfl
  | some r => rfl

theorem loop512_any_fuel (state : Spec.Sha2.W8 UInt64) (block : Bytes) (fg : Nat) (hf : block.length ≤ 128 * fg)
    (block2 : List UInt64) (h2 : block2.length = 16) :
    (Impl512.reference_digest_block_src_loop1 fg block2 state block).map (fun r => r.2.1)
      = Impl.Sha2.Impl512.digest_block state block :=
  loop512 (block.length / 128 + 1) fg block2 state block h2 hf (by omega)

theorem reference512_eq_model (state : Spec.Sha2.W8 UInt64) (block : Bytes) :
    Impl512.reference_digest_block_src state block = Impl.Sha2.Impl512.digest_block state block := by
  rw [← loop512_any_fuel state block block.length (by omega) (Glue.fill 16 (0 : UInt64)) (fill_length _ _)]
  unfold Impl512.reference_digest_block_src
  dsimp only
  cases Impl512.reference_digest_block_src_loop1 block.length (Glue.fill 16 (0 : UInt64)) state block with
  | none => rfl
  | some r => rfl

theorem dispatch256_baseline_eq_model (state : Spec.Sha2.W8 UInt32) (block : Bytes) :
    Impl256.digest_block_baseline_src state block = Impl.Sha2.Impl256.digest_block state block :=
  reference256_eq_model state block

theorem dispatch512_baseline_eq_model (state : Spec.Sha2.W8 UInt64) (block : Bytes) :
    Impl512.digest_block_baseline_src state block = Impl.Sha2.Impl512.digest_block state block :=
  reference512_eq_model state block

end Cx.Proofs.GlueSha2Drv
