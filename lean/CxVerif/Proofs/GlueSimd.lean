/-
  Proofs.GlueSimd — helper lemmas of the SIMD glue tie (Props/C16/GlueTieSimd*.lean): the generated definitions of
  Extracted/GlueSimd.lean (tools/ktx_glue_simd.py; intrinsics of Util/Intrinsics.lean) against the hand lane models.

    bytes          `ofBytes32` / `bytes32` / `ld32` of Util/Intrinsics.lean = the little-endian codecs of Util/Bytes.lean
                   (through Proofs/SimdBits.lean)
    memory         a 16-byte store into `pre ++ rest` at offset `|pre|`; any number of stores in a row (`storesK_eq`)
    ChaCha         the abstraction `toM : M128i → Sse2.M128`, `toS : State → Sse2.State` (structure isomorphisms)
-/
import CxVerif.Extracted.GlueSimd
import CxVerif.Impl.ChaCha
import CxVerif.Proofs.SimdBits
namespace Cx.Proofs.GlueSimd
open Cx.Intrinsics Cx.Impl Cx.Impl.ChaCha

/-! ### bytes: Util/Intrinsics.lean and Impl/SimdLanes.lean define the same dword codecs -/

theorem ofBytes32_eq : Intrinsics.ofBytes32 = Simd.ofBytes32 := rfl
theorem bytes32_eq : Intrinsics.bytes32 = Simd.bytes32 := rfl

theorem ld32_eq (mem : Bytes) (off : Nat) : ld32 mem off = Cx.Impl.read_u32_le mem off := by
  apply UInt32.toNat_inj.mp
  have hlen : ((mem.drop off).take 4).length ≤ 4 := by rw [List.length_take]; omega
  rw [ld32, ofBytes32_eq, SimdBits.ofBytes32_toNat _ hlen, Cx.Impl.read_u32_le, leU32, UInt32.toNat_ofNat', List.take_take, Nat.min_self,
    Nat.mod_eq_of_lt (Nat.lt_of_lt_of_le (Bytes.leNat_lt _) (Nat.pow_le_pow_right (by decide) hlen))]

theorem bytes32_eq_u32le (x : UInt32) : bytes32 x = u32le x := SimdBits.bytes32_eq x

theorem bytes_length (v : M128i) : v.bytes.length = 16 := rfl

theorem storeu_append (pre rest : Bytes) (off : Nat) (v : M128i) (ho : pre.length = off) (h : 16 ≤ rest.length) :
    _mm_storeu_si128 (pre ++ rest) off v = .ok ((pre ++ v.bytes) ++ rest.drop 16) := by
  subst ho
  unfold _mm_storeu_si128
  rw [if_pos (by rw [List.length_append]; omega)]
  have h1 : (pre ++ rest).take pre.length = pre := List.take_left' rfl
  have h2 : (pre ++ rest).drop (pre.length + 16) = rest.drop 16 := by
    rw [List.drop_append]
    simp
  rw [h1, h2]

theorem storeu_fail (mem : Bytes) (off : Nat) (v : M128i) (h : ¬ off + 16 ≤ mem.length) :
    _mm_storeu_si128 mem off v = .error "UB" := by
  unfold _mm_storeu_si128; rw [if_neg h]

/-- `_mm_storeu_si128(p.add(off), v0); _mm_storeu_si128(p.add(off + 16), v1); …` as the generated code chains them -/
def storesK (mem : Bytes) (off : Nat) : List M128i → Except String Bytes
  | [] => .ok mem
  | v :: vs =>
    match _mm_storeu_si128 mem off v with
    | .error e => .error e
    | .ok m => storesK m (off + 16) vs

theorem storesK_eq (vs : List M128i) : ∀ (pre rest : Bytes) (off : Nat), pre.length = off →
    storesK (pre ++ rest) off vs =
      if 16 * vs.length ≤ rest.length then .ok (pre ++ vs.flatMap M128i.bytes ++ rest.drop (16 * vs.length)) else .error "UB" := by
  induction vs with
  | nil => intro pre rest off _; simp [storesK]
  | cons v vs ih =>
    intro pre rest off ho
    rw [storesK]
    by_cases h : 16 ≤ rest.length
    · rw [storeu_append pre rest off v ho h]
      dsimp only
      rw [ih (pre ++ v.bytes) (rest.drop 16) (off + 16) (by rw [List.length_append, bytes_length, ho])]
      have e : 16 * vs.length ≤ (rest.drop 16).length ↔ 16 * (v :: vs).length ≤ rest.length := by
        rw [List.length_drop, List.length_cons]; omega
      simp only [e, List.flatMap_cons, List.drop_drop, List.append_assoc, List.length_cons, Nat.mul_succ, Nat.add_comm 16]
    · rw [storeu_fail _ _ _ (by rw [List.length_append]; omega), if_neg (by simp only [List.length_cons]; omega)]

def toM (v : M128i) : Sse2.M128 := ⟨v.d0, v.d1, v.d2, v.d3⟩
def ofM (v : Sse2.M128) : M128i := ⟨v.l0, v.l1, v.l2, v.l3⟩
open Cx.Extracted.GlueSimd.ChaChaSse2 in
def toS (s : State) : Sse2.State := ⟨toM s.a, toM s.b, toM s.c, toM s.d⟩
open Cx.Extracted.GlueSimd.ChaChaSse2 in
def ofS (s : Sse2.State) : State := ⟨ofM s.a, ofM s.b, ofM s.c, ofM s.d⟩
def ofM3 (t : Sse2.M128 × Sse2.M128 × Sse2.M128) : M128i × M128i × M128i := (ofM t.1, ofM t.2.1, ofM t.2.2)

theorem toM_ofM (v : Sse2.M128) : toM (ofM v) = v := rfl
theorem ofM_toM (v : M128i) : ofM (toM v) = v := rfl
theorem toS_ofS (s : Sse2.State) : toS (ofS s) = s := rfl
open Cx.Extracted.GlueSimd.ChaChaSse2 in
theorem ofS_toS (s : State) : ofS (toS s) = s := rfl

theorem loadu_eq (mem : Bytes) (off : Nat) :
    _mm_loadu_si128 mem off = if off + 16 ≤ mem.length then .ok (ofM (Sse2._mm_loadu_si128 mem off)) else .error "UB" := by
  unfold _mm_loadu_si128 Sse2._mm_loadu_si128 ofM
  simp only [ld32_eq]

theorem bytes_eq_storeu (v : M128i) : v.bytes = Sse2._mm_storeu_si128 (toM v) := by
  simp [M128i.bytes, Sse2._mm_storeu_si128, toM, bytes32_eq_u32le]

end Cx.Proofs.GlueSimd
