/-
  Proofs.GlueSimdSha — helper lemmas of the SIMD glue tie for SHA-256 (Props/C16/GlueTieSimdSha.lean): the generated
  `message_schedule_Nways_src`, `compress_Nways_src`, `digest_block_src` of Extracted/GlueSimd.lean (namespaces Sha256Sse41,
  Sha256Avx) against the lane model Impl/SimdSha256.lean.

  Both halves work through GENERIC TEXT: a definition over a register type `V` that spells what the translator emits, with the
  per-file parts as parameters; the generated function is that text at its parameters by conversion (`kernel_rfl`: nothing is
  evaluated, both sides are open terms), and the theorems are about the generic text.
  * Schedule (sixteen `gather`s, a `while` loop of sixteen `SCHEDULE_ROUND_INC!`, sixteen tail rounds with explicit stores): the
    model is an INTERPRETER of the re-extracted macro-argument tables; `loadK`, `whileK`, `tailK`, `schedK` are that interpreter in
    continuation-passing style over the GENERATED step functions (`SCHEDULE_ROUND_INC_src`, `SCHEDULE_ROUND_src`, `gather_src`),
    run on the extracted tables.  Wherever the model's interpreter (at the intrinsic register algebra) succeeds the CPS one takes
    the same steps (`whileK_sim`, `tailK_sim`), so the register-algebra-generic schedule theorem of Proofs/SimdSha256Sched.lean
    applies; `LaneView` (a register type packing `n` lanes on which the generated functions act lane-wise) carries the result to
    `Lanes n`.
  * Compression: `compress_Nways` expands `compress_once!(j)` once per lane, each expansion with its own `round!`, loop and
    wrapper; `roundG`, `loopG`, `onceG` are that text with the lane extractor a variable, `compressG` the sequence over a lane list.
  Instances: `__m128i` (namespace `Sse41I`, here) and `__m256i` (Proofs/GlueSimdShaAvx.lean).
-/
import CxVerif.Extracted.GlueSimd
import CxVerif.Impl.SimdSha256
import CxVerif.Proofs.SimdSha256Sched
import CxVerif.Proofs.SimdSha256Lanes
import CxVerif.Proofs.SimdBits
import CxVerif.Proofs.GlueSha2Drv
namespace Cx.Proofs.GlueSimdSha
open Cx.Intrinsics Cx.Impl Cx.Impl.SimdSha256 Cx.Impl.Sha2 Cx.Spec.Sha2 Cx.Proofs.SimdSha256

section generic
variable {V : Type}

/-- type of the generated `SCHEDULE_ROUND_INC_src` -/
abbrev IncF (V : Type) := List V → Nat → V → V → V → V → Except String (List V × Nat × V)
/-- type of the generated `SCHEDULE_ROUND_src` -/
abbrev RndF (V : Type) := List V → Nat → V → V → V → V → Except String (List V × V)
/-- the tuple of variables of the generated `while` loop: schedule, w0 … w15, i -/
abbrev St18 (V : Type) := List V × V × V × V × V × V × V × V × V × V × V × V × V × V × V × V × V × Nat

/-- the statements of the loop body over the generated `SCHEDULE_ROUND_INC_src`, then `k` -/
def bodyK {R : Type} (incF : IncF V) : Sched V → List (List Nat) → (Sched V → Except String R) → Except String R
  | s, [], k => k s
  | s, [r1, r2, r3, r4] :: rs, k =>
    match s.w[r1]?, s.w[r2]?, s.w[r3]?, s.w[r4]? with
    | some w1, some w2, some w3, some w4 =>
      match incF s.schedule s.i w1 w2 w3 w4 with
      | .error e => .error e
      | .ok r =>
        match r with
        | (sched', i', w3') => bodyK incF ⟨s.w.set r3 w3', sched', i'⟩ rs k
    | _, _, _, _ => .error "BAD"
  | _, _ :: _, _ => .error "BAD"

/-- the sixteen registers back into variables -/
def back {R : Type} (s : Sched V) (k : St18 V → Except String R) : Except String R :=
  match s.w with
  | [a0, a1, a2, a3, a4, a5, a6, a7, a8, a9, a10, a11, a12, a13, a14, a15] =>
    k (s.schedule, a0, a1, a2, a3, a4, a5, a6, a7, a8, a9, a10, a11, a12, a13, a14, a15, s.i)
  | _ => .error "BAD"

def toSched : St18 V → Sched V
  | (sched, a0, a1, a2, a3, a4, a5, a6, a7, a8, a9, a10, a11, a12, a13, a14, a15, i) =>
    ⟨[a0, a1, a2, a3, a4, a5, a6, a7, a8, a9, a10, a11, a12, a13, a14, a15], sched, i⟩

/-- `while i < BOUND { sixteen SCHEDULE_ROUND_INC! }` as the generated loop function spells it -/
def whileK (incF : IncF V) (bound : Nat) (table : List (List Nat)) : Nat → St18 V → Except String (St18 V)
  | 0, st => if (toSched st).i < bound then .error "DIVERGE" else .ok st
  | fuel + 1, st =>
    if (toSched st).i < bound then bodyK incF (toSched st) table (fun s => back s (whileK incF bound table fuel)) else .ok st

/-- `schedule[k] = add(w, set1(K[k]))` of the tail, as the generated code writes it -/
def storeK {R : Type} (A : RegAlg V) (K : List UInt32) (s : Sched V) (k wk : Nat) (cont : Sched V → Except String R) : Except String R :=
  match s.w[wk]? with
  | some w =>
    match Glue.index K k with
    | none => .error "PANIC"
    | some x =>
      match Glue.set_index s.schedule k (A.sh.add w (A.set1 x)) with
      | none => .error "PANIC"
      | some sched' => cont { s with schedule := sched' }
  | none => .error "BAD"

/-- the tail statements: round (with increment except the last), then the store -/
def tailK {R : Type} (A : RegAlg V) (K : List UInt32) (incF : IncF V) (rndF : RndF V) :
    Sched V → List (List Nat) → (Sched V → Except String R) → Except String R
  | s, [], k => k s
  | s, [r1, r2, r3, r4, kk, wk] :: rest, k =>
    match s.w[r1]?, s.w[r2]?, s.w[r3]?, s.w[r4]? with
    | some w1, some w2, some w3, some w4 =>
      if rest.isEmpty then
        match rndF s.schedule s.i w1 w2 w3 w4 with
        | .error e => .error e
        | .ok r =>
          match r with
          | (sched', w3') => storeK A K ⟨s.w.set r3 w3', sched', s.i⟩ kk wk fun s' => tailK A K incF rndF s' rest k
      else
        match incF s.schedule s.i w1 w2 w3 w4 with
        | .error e => .error e
        | .ok r =>
          match r with
          | (sched', i', w3') => storeK A K ⟨s.w.set r3 w3', sched', i'⟩ kk wk fun s' => tailK A K incF rndF s' rest k
    | _, _, _, _ => .error "BAD"
  | _, _ :: _, _ => .error "BAD"

/-- the sixteen `gather` calls -/
def loadK {R : Type} (gatherF : Bytes → Nat → Except String V) (msg : Bytes) : List Nat → List V → (List V → Except String R) → Except String R
  | [], acc, k => k acc
  | off :: offs, acc, k =>
    match gatherF msg off with
    | .error e => .error e
    | .ok r => loadK gatherF msg offs (acc ++ [r]) k

def schedK (A : RegAlg V) (K : List UInt32) (incF : IncF V) (rndF : RndF V)
    (bound : Nat) (body tail : List (List Nat)) (sched : List V) (ws : List V) : Except String (List V) :=
  back ⟨ws, sched, 0⟩ fun st =>
    match whileK incF bound body bound st with
    | .error e => .error e
    | .ok st' => tailK A K incF rndF (toSched st') tail fun s => .ok s.schedule

variable (A : RegAlg V) (C : Cfg) (σ0 σ1 : V → V) (K : List UInt32) (incF : IncF V) (rndF : RndF V)

/-- what the tie needs to know about the generated step functions (closed forms, proved by unfolding them) -/
structure StepOk : Prop where
  hK : K = Impl256.K32
  h0 : ∀ v, sigma0 A C v = some (σ0 v)
  h1 : ∀ v, sigma1 A C v = some (σ1 v)
  inc : ∀ (sched : List V) (i : Nat) (w1 w2 w3 w4 : V) (kk : UInt32), Impl256.K32[i]? = some kk → i < sched.length →
    incF sched i w1 w2 w3 w4
      = .ok (sched.set i (A.sh.add w3 (A.set1 kk)), i + 1, A.sh.add (A.sh.add w3 w4) (A.sh.add (σ0 w1) (σ1 w2)))
  rnd : ∀ (sched : List V) (i : Nat) (w1 w2 w3 w4 : V) (kk : UInt32), Impl256.K32[i]? = some kk → i < sched.length →
    rndF sched i w1 w2 w3 w4
      = .ok (sched.set i (A.sh.add w3 (A.set1 kk)), A.sh.add (A.sh.add w3 w4) (A.sh.add (σ0 w1) (σ1 w2)))

variable {A C σ0 σ1 K incF rndF}

theorem round_inv (H : StepOk A C σ0 σ1 K incF rndF) (s s1 : Sched V) (regs : List Nat)
    (h : SCHEDULE_ROUND A C s regs = some s1) :
    ∃ r1 r2 r3 r4 w1 w2 w3 w4 kk, regs = [r1, r2, r3, r4] ∧
      s.w[r1]? = some w1 ∧ s.w[r2]? = some w2 ∧ s.w[r3]? = some w3 ∧ s.w[r4]? = some w4 ∧
      Impl256.K32[s.i]? = some kk ∧ s.i < s.schedule.length ∧
      s1 = ⟨s.w.set r3 (A.sh.add (A.sh.add w3 w4) (A.sh.add (σ0 w1) (σ1 w2))), s.schedule.set s.i (A.sh.add w3 (A.set1 kk)), s.i⟩ := by
  unfold SCHEDULE_ROUND at h
  split at h
  next r1 r2 r3 r4 =>
    split at h
    next w1 w2 w3 w4 e1 e2 e3 e4 =>
      simp only [H.h0, H.h1, storeSchedule, e3] at h
      cases ek : Impl256.K32[s.i]? with
      | none => simp [ek] at h
      | some kk =>
        simp only [ek] at h
        by_cases hl : s.i < s.schedule.length
        · rw [if_pos hl, Option.some.injEq] at h
          exact ⟨r1, r2, r3, r4, w1, w2, w3, w4, kk, rfl, e1, e2, e3, e4, rfl, hl, h.symm⟩
        · rw [if_neg hl] at h
          cases h
    next => cases h
  next => cases h

theorem bodyK_sim {R : Type} (H : StepOk A C σ0 σ1 K incF rndF) :
    ∀ (table : List (List Nat)) (s s' : Sched V), loopBody A C s table = some s' →
      s'.w.length = s.w.length ∧ ∀ k : Sched V → Except String R, bodyK incF s table k = k s' := by
  intro table
  induction table with
  | nil => intro s s' h; cases h; exact ⟨rfl, fun _ => rfl⟩
  | cons r rs ih =>
    intro s s' h
    unfold loopBody SCHEDULE_ROUND_INC at h
    cases e' : SCHEDULE_ROUND A C s r with
    | none => simp [e'] at h
    | some s0 =>
      obtain ⟨r1, r2, r3, r4, w1, w2, w3, w4, kk, rfl, h1, h2, h3, h4, hk, hl, rfl⟩ := round_inv H s s0 r e'
      simp only [e'] at h
      obtain ⟨hlen, hk'⟩ := ih _ _ h
      refine ⟨by rw [hlen, List.length_set], fun k => ?_⟩
      unfold bodyK
      simp only [h1, h2, h3, h4, H.inc _ _ _ _ _ _ kk hk hl]
      exact hk' k

theorem storeK_sim {R : Type} (H : StepOk A C σ0 σ1 K incF rndF) (s s' : Sched V) (k wk : Nat) (cont : Sched V → Except String R)
    (h : storeSchedule A s k wk = some s') : storeK A K s k wk cont = cont s' := by
  unfold storeSchedule at h
  unfold storeK
  cases e1 : s.w[wk]? with
  | none => simp [e1] at h
  | some w =>
  cases e2 : Impl256.K32[k]? with
  | none => simp [e1, e2] at h
  | some kk =>
  simp only [e1, e2] at h
  by_cases hl : k < s.schedule.length
  · rw [if_pos hl, Option.some.injEq] at h
    subst h
    simp only [Glue.index, Glue.set_index, H.hK, e2, if_pos hl]
  · rw [if_neg hl] at h; cases h

theorem tailK_sim {R : Type} (H : StepOk A C σ0 σ1 K incF rndF) :
    ∀ (table : List (List Nat)) (s s' : Sched V) (k : Sched V → Except String R),
      tailLoop A C s table = some s' → tailK A K incF rndF s table k = k s' := by
  intro table
  induction table with
  | nil => intro s s' k h; cases h; rfl
  | cons r rest ih =>
    intro s s' k h
    unfold tailLoop at h
    split at h
    · rename_i heq; cases heq
    · rename_i s _ _ r1 r2 r3 r4 kk wk rest' heq
      obtain ⟨rfl, rfl⟩ := List.cons.inj heq
      -- with or without the increment, the model runs `SCHEDULE_ROUND!`
      cases e' : SCHEDULE_ROUND A C s [r1, r2, r3, r4] with
      | none => simp [SCHEDULE_ROUND_INC, e'] at h
      | some s0 =>
        obtain ⟨_, _, _, _, w1, w2, w3, w4, kv, hr, h1, h2, h3, h4, hk, hl, rfl⟩ := round_inv H s s0 _ e'
        obtain ⟨rfl, rfl, rfl, rfl⟩ : r1 = _ ∧ r2 = _ ∧ r3 = _ ∧ r4 = _ := by simpa using hr
        unfold tailK
        simp only [SCHEDULE_ROUND_INC, e', h1, h2, h3, h4, H.rnd _ _ _ _ _ _ kv hk hl, H.inc _ _ _ _ _ _ kv hk hl] at h ⊢
        have step : ∀ s1 : Sched V, (match storeSchedule A s1 kk wk with | none => none | some s => tailLoop A C s rest) = some s' →
            storeK A K s1 kk wk (fun s' => tailK A K incF rndF s' rest k) = k s' := by
          intro s1 h
          cases es : storeSchedule A s1 kk wk with
          | none => rw [es] at h; cases h
          | some s2 =>
            rw [es] at h
            rw [storeK_sim H _ s2 kk wk _ es]
            exact ih _ _ _ h
        by_cases hr : rest.isEmpty = true
        · simp only [hr, if_true] at h ⊢
          exact step _ h
        · simp only [hr, if_false, Bool.false_eq_true] at h ⊢
          exact step _ h
    · cases h

theorem toSched_wlen (st : St18 V) : (toSched st).w.length = 16 := by
  obtain ⟨sched, w0, w1, w2, w3, w4, w5, w6, w7, w8, w9, w10, w11, w12, w13, w14, w15, i⟩ := st
  rfl

theorem back_eq (s : Sched V) (hw : s.w.length = 16) :
    ∃ st : St18 V, toSched st = s ∧ ∀ {R : Type} (k : St18 V → Except String R), back s k = k st := by
  obtain ⟨w, sched, i⟩ := s
  match w, hw with
  | [a0, a1, a2, a3, a4, a5, a6, a7, a8, a9, a10, a11, a12, a13, a14, a15], _ =>
    exact ⟨(sched, a0, a1, a2, a3, a4, a5, a6, a7, a8, a9, a10, a11, a12, a13, a14, a15, i), rfl, fun _ => rfl⟩

/-- `ofL` packs `n` lanes into a generated register, `toL` unpacks; the generated functions act lane-wise -/
structure LaneView (A : RegAlg V) (C : Cfg) (σ0 σ1 : V → V) (gatherF : Bytes → Nat → Except String V) (bswapF : V → V)
    (toL : V → Lanes C.n) (ofL : Lanes C.n → V) : Prop where
  to_of : ∀ x, toL (ofL x) = x
  add : ∀ x y, A.sh.add (ofL x) (ofL y) = ofL (Lanes.add x y)
  set1 : ∀ k, A.set1 k = ofL (Lanes.set1 k)
  sig0 : ∀ x, σ0 (ofL x) = ofL (x.map smallSigma0_256)
  sig1 : ∀ x, σ1 (ofL x) = ofL (x.map smallSigma1_256)
  bswap : ∀ x, bswapF (ofL x) = ofL (x.map bswap32)
  /-- `gather` inside the message: lane `j` is the unaligned little-endian word 64·j bytes further on -/
  gather : ∀ msg off, off + 64 * C.n ≤ msg.length + 60 →
    gatherF msg off = .ok (ofL (Vector.ofFn fun j : Fin C.n => Simd.ofBytes32 ((msg.drop (off + 64 * j.val)).take 4)))

theorem loadK_ok {R : Type} (gatherF : Bytes → Nat → Except String V) (msg : Bytes) (f : Nat → V) :
    ∀ (offs : List Nat) (acc : List V) (k : List V → Except String R), (∀ off ∈ offs, gatherF msg off = .ok (f off)) →
      loadK gatherF msg offs acc k = k (acc ++ offs.map f) := by
  intro offs
  induction offs with
  | nil => intro acc k _; rw [loadK, List.map_nil, List.append_nil]
  | cons off offs ih =>
    intro acc k h
    rw [loadK, h off List.mem_cons_self]
    dsimp only
    rw [ih _ k fun o ho => h o (List.mem_cons_of_mem _ ho), List.map_cons, List.append_assoc]
    rfl

theorem whileK_sim (H : StepOk A C σ0 σ1 K incF rndF) :
    ∀ (fuel : Nat) (st : St18 V) (s' : Sched V), whileLoop A C fuel (toSched st) = some s' →
      ∃ st', toSched st' = s' ∧ whileK incF C.loopBound C.loopBody fuel st = .ok st' := by
  intro fuel
  induction fuel with
  | zero =>
    intro st s' h
    rw [whileK]
    unfold whileLoop at h
    by_cases hc : (toSched st).i < C.loopBound
    · rw [if_pos hc] at h; cases h
    · rw [if_neg hc] at h ⊢
      exact ⟨st, Option.some.inj h, rfl⟩
  | succ fuel ih =>
    intro st s' h
    rw [whileK]
    unfold whileLoop at h
    by_cases hc : (toSched st).i < C.loopBound
    · rw [if_pos hc] at h ⊢
      cases e : loopBody A C (toSched st) C.loopBody with
      | none => simp [e] at h
      | some s1 =>
        simp only [e] at h
        obtain ⟨hlen, hb⟩ := bodyK_sim (R := St18 V) H _ _ _ e
        obtain ⟨st1, rfl, hst1⟩ := back_eq s1 (hlen.trans (toSched_wlen st))
        rw [hb, hst1]
        exact ih st1 s' h
    · rw [if_neg hc] at h ⊢
      exact ⟨st, Option.some.inj h, rfl⟩

/-- **the generated schedule over any register algebra**: `schedK` on registers `val 0 … val 15` and ANY initial 64-entry array
    returns the array `kw A val` (`schedule[k] = add (val k) (set1 K32[k])`) — no panic, no `DIVERGE` -/
theorem schedK_spec (H : StepOk A C σ0 σ1 K incF rndF) (hT : StdTables C) (val : Nat → V)
    (hrec : ∀ t, A.sh.add (A.sh.add (val t) (val (t + 9))) (A.sh.add (σ0 (val (t + 1))) (σ1 (val (t + 14)))) = val (t + 16))
    (sched : List V) (hs : sched.length = 64) :
    schedK A K incF rndF C.loopBound C.loopBody C.tail sched ((List.range 16).map val) = .ok (kw A val) := by
  obtain ⟨s2, s3, hw, ht, hk⟩ := whileLoop_tail_spec A C val σ0 σ1 H.h0 H.h1 hrec hT sched hs
  obtain ⟨st0, hst0, hb⟩ := back_eq ⟨(List.range 16).map val, sched, 0⟩ (by simp)
  rw [← hst0] at hw
  obtain ⟨st2, rfl, hloop⟩ := whileK_sim H C.loopBound st0 s2 hw
  rw [schedK, hb, hloop, ← hk]
  exact tailK_sim H _ _ _ _ ht

/-- **`message_schedule_Nways`** of the translated source (sixteen gathers and byte swaps, then `schedK`) on a message holding a
    whole batch and ANY 64-entry `schedule` array: no UB, no panic, and its lane view is the model's schedule -/
theorem message_schedule_sim (H : StepOk A C σ0 σ1 K incF rndF) (hC : GoodCfg C) {gatherF : Bytes → Nat → Except String V}
    {bswapF : V → V} {toL : V → Lanes C.n} {ofL : Lanes C.n → V} (L : LaneView A C σ0 σ1 gatherF bswapF toL ofL)
    (sched : List V) (msg : Bytes) (hs : sched.length = 64) (hm : 64 * C.n ≤ msg.length) :
    ∃ out, loadK gatherF msg C.msgOffsets [] (fun ws =>
        schedK A K incF rndF C.loopBound C.loopBody C.tail sched (ws.map bswapF)) = .ok out ∧ out.length = 64 ∧
      message_schedule C msg = some (out.map toL) := by
  have hrec : ∀ t, A.sh.add (A.sh.add (ofL (laneW C msg t)) (ofL (laneW C msg (t + 9))))
      (A.sh.add (σ0 (ofL (laneW C msg (t + 1)))) (σ1 (ofL (laneW C msg (t + 14))))) = ofL (laneW C msg (t + 16)) := fun t => by
    rw [L.sig0, L.sig1, L.add, L.add, L.add, laneW_rec]
  refine ⟨kw A fun t => ofL (laneW C msg t), ?_, kw_length .., ?_⟩
  · rw [hC.offs, loadK_ok gatherF msg _ _ _ _ fun off ho => L.gather msg off (by
      obtain ⟨k, hk, rfl⟩ := List.mem_map.mp ho
      have := List.mem_range.mp hk
      omega)]
    rw [List.nil_append, List.map_map, List.map_map, ← schedK_spec H hC.std (fun t => ofL (laneW C msg t)) hrec sched hs]
    congr 1
    apply List.map_congr_left
    intro t ht
    show bswapF (ofL _) = _
    rw [L.bswap, gather_bswap_laneW C msg hm t (List.mem_range.mp ht)]
  · -- the lane view of `add (ofL x) (set1 kk)` is `Lanes.add x (Lanes.set1 kk)`
    rw [message_schedule_kw hC msg hm, map_kw]
    simp only [L.set1, L.add, L.to_of]
    rfl

end generic

section compress
variable {V : Type} (ext : V → UInt32)

abbrev St9 := UInt32 × UInt32 × UInt32 × UInt32 × UInt32 × UInt32 × UInt32 × UInt32 × Nat

/-- macro `round!($a … $h, $i, j)`: `kwi = extract_epi32(schedule[$i], j)` -/
def roundG (a b c d e f g h : UInt32) (i : Nat) (sched : List V) : Except String (UInt32 × UInt32) :=
  match Glue.index sched i with
  | none => .error "UB"
  | some x => .ok (SimdSha256.round a b c d e f g h (ext x))

/-- `while i != 64 { round!(a, …, i + 0, j); …; round!(b, …, i + 7, j); i += 8 }` -/
def loopG (sched : List V) : Nat → St9 → Except String St9
  | 0, (a, b, c, d, e, f, g, h, i) => if i ≠ 64 then .error "DIVERGE" else .ok (a, b, c, d, e, f, g, h, i)
  | fuel + 1, (a, b, c, d, e, f, g, h, i) =>
    if i ≠ 64 then do
      let (d, h) ← roundG ext a b c d e f g h (i + 0) sched
      let (c, g) ← roundG ext h a b c d e f g (i + 1) sched
      let (b, f) ← roundG ext g h a b c d e f (i + 2) sched
      let (a, e) ← roundG ext f g h a b c d e (i + 3) sched
      let (h, d) ← roundG ext e f g h a b c d (i + 4) sched
      let (g, c) ← roundG ext d e f g h a b c (i + 5) sched
      let (f, b) ← roundG ext c d e f g h a b (i + 6) sched
      let (e, a) ← roundG ext b c d e f g h a (i + 7) sched
      loopG sched fuel (a, b, c, d, e, f, g, h, i + 8)
    else .ok (a, b, c, d, e, f, g, h, i)

/-- macro `compress_once!(j)` -/
def onceG (state : W8 UInt32) (sched : List V) : Except String (W8 UInt32) := do
  let (a, b, c, d, e, f, g, h, _) ← loopG ext sched 8 (state.a, state.b, state.c, state.d, state.e, state.f, state.g, state.h, 0)
  pure ⟨state.a + a, state.b + b, state.c + c, state.d + d, state.e + e, state.f + f, state.g + g, state.h + h⟩

theorem loop_sim (sched : List V) :
    ∀ (fuel i : Nat) (s : W8 UInt32), i + 8 * fuel = 64 → i + 8 * fuel ≤ sched.length →
      ∃ r, rounds_loop s ((sched.drop i).map ext |>.take (8 * fuel)) = some r ∧
        loopG ext sched fuel (s.a, s.b, s.c, s.d, s.e, s.f, s.g, s.h, i) = .ok (r.a, r.b, r.c, r.d, r.e, r.f, r.g, r.h, 64) := by
  intro fuel
  induction fuel with
  | zero =>
    intro i s hi _
    have : i = 64 := by omega
    subst this
    exact ⟨s, by simp [rounds_loop], rfl⟩
  | succ fuel ih =>
    intro i s hi hl
    obtain ⟨x0, x1, x2, x3, x4, x5, x6, x7, rest, hd⟩ := Cx.Proofs.Bytes.exists8 (sched.drop i) (by rw [List.length_drop]; omega)
    have hx : ∀ t, sched[i + t]? = (x0 :: x1 :: x2 :: x3 :: x4 :: x5 :: x6 :: x7 :: rest)[t]? := fun t => by
      rw [← hd, List.getElem?_drop]
    have hrest : sched.drop (i + 8) = rest := by rw [← List.drop_drop, hd]; rfl
    obtain ⟨r, hr, hlo⟩ := ih (i + 8) (rounds8 s (ext x0) (ext x1) (ext x2) (ext x3) (ext x4) (ext x5) (ext x6) (ext x7)) (by omega) (by omega)
    refine ⟨r, ?_, ?_⟩
    · rw [hd, show 8 * (fuel + 1) = 8 * fuel + 8 by omega]
      simp only [List.map_cons, List.take_succ_cons, rounds_loop]
      rw [← hrest]
      exact hr
    · rw [loopG, if_pos (by omega)]
      simp only [roundG, Glue.index, hx 0, hx 1, hx 2, hx 3, hx 4, hx 5, hx 6, hx 7]
      exact hlo

theorem once_sim {n : Nat} (toL : V → Lanes n) (j : Nat)
    (hext : ∀ x, extract_epi32 (toL x) j = some (ext x)) (state : W8 UInt32) (sched : List V) (hl : sched.length = 64) :
    ∃ r, compress_once state (sched.map toL) j = some r ∧ onceG ext state sched = .ok r := by
  obtain ⟨r, hr, hlo⟩ := loop_sim ext sched 8 0 state (by decide) (by omega)
  have htake : ((sched.drop 0).map ext).take (8 * 8) = sched.map ext := by
    rw [List.drop_zero, List.take_of_length_le (by simp [hl])]
  rw [htake] at hr
  have hm : (sched.map toL).mapM (fun v => extract_epi32 v j) = some (sched.map ext) :=
    Bytes.mapM_some_map sched toL (fun v => extract_epi32 v j) ext (fun x _ => hext x)
  refine ⟨⟨state.a + r.a, state.b + r.b, state.c + r.c, state.d + r.d, state.e + r.e, state.f + r.f, state.g + r.g,
    state.h + r.h⟩, ?_, ?_⟩
  · unfold compress_once
    simp only [hm, List.length_map, hl, hr]
    rfl
  · rw [onceG, hlo]; rfl

/-- `compress_once!(0); compress_once!(1); …` -/
def compressG (sched : List V) : List (V → UInt32) → W8 UInt32 → Except String (W8 UInt32)
  | [], state => .ok state
  | ext :: exts, state => do
    let r ← onceG ext state sched
    compressG sched exts r

/-- **`compress_Nways`** on a 64-entry schedule: `lanes` pairs each lane number with its extractor -/
theorem compressG_sim {n : Nat} (toL : V → Lanes n) (sched : List V) (hl : sched.length = 64) :
    ∀ (lanes : List (Nat × (V → UInt32))), (∀ p ∈ lanes, ∀ x, extract_epi32 (toL x) p.1 = some (p.2 x)) → ∀ state,
      ∃ r, compress_nways (sched.map toL) state (lanes.map Prod.fst) = some r ∧
        compressG sched (lanes.map Prod.snd) state = .ok r := by
  intro lanes
  induction lanes with
  | nil => exact fun _ state => ⟨state, rfl, rfl⟩
  | cons p ps ih =>
    intro h state
    obtain ⟨r0, m0, s0⟩ := once_sim p.2 toL p.1 (h p List.mem_cons_self) state sched hl
    obtain ⟨r, m, s⟩ := ih (fun q hq => h q (List.mem_cons_of_mem _ hq)) r0
    exact ⟨r, by simp only [List.map_cons, compress_nways, m0, m], by simp only [List.map_cons, compressG, s0]; exact s⟩

end compress

namespace Sse41I
open Cx.Extracted.GlueSimd Cx.Proofs.SimdBits
open Sha256Sse41

def A4 : RegAlg M128i := ⟨⟨_mm_srli_epi32, _mm_slli_epi32, _mm_add_epi32, _mm_xor_si128, _mm_or_si128⟩, _mm_set1_epi32⟩

theorem xor128_assoc (a b c : M128i) : _mm_xor_si128 (_mm_xor_si128 a b) c = _mm_xor_si128 a (_mm_xor_si128 b c) := by
  simp [_mm_xor_si128, M128i.zipWith, UInt32.xor_assoc]

theorem sigma0_sse41 (v : M128i) : sigma0 A4 Sse41.cfg v = some (sigma0_src v) := by
  rw [good_sse41.sig0]
  -- the model folds the five terms from the left, the source pairs the third with the fourth
  exact congrArg (fun x => some (_mm_xor_si128 x _)) (xor128_assoc _ _ _)

theorem sigma1_sse41 (v : M128i) : sigma1 A4 Sse41.cfg v = some (sigma1_src v) := by
  rw [good_sse41.sig1]
  exact congrArg (fun x => some (_mm_xor_si128 x _)) (xor128_assoc _ _ _)

theorem K32_sse41 : Sha256Sse41.K32 = Impl256.K32 := by decide

theorem stepOk_sse41 : StepOk A4 Sse41.cfg sigma0_src sigma1_src Sha256Sse41.K32 SCHEDULE_ROUND_INC_src SCHEDULE_ROUND_src where
  hK := K32_sse41
  h0 := sigma0_sse41
  h1 := sigma1_sse41
  inc := by
    intro sched i w1 w2 w3 w4 kk hk hi
    simp only [SCHEDULE_ROUND_INC_src, SCHEDULE_ROUND_src, Glue.index, Glue.set_index, K32_sse41, hk, if_pos hi]
    rfl
  rnd := by
    intro sched i w1 w2 w3 w4 kk hk hi
    simp only [SCHEDULE_ROUND_src, Glue.index, Glue.set_index, K32_sse41, hk, if_pos hi]
    rfl

/-- the generated loop function IS `whileK` at its macro function and tables (as functions, fuel a variable: conversion only) -/
theorem while_sse41 : message_schedule_4ways_loop1_src = whileK SCHEDULE_ROUND_INC_src Sse41.cfg.loopBound Sse41.cfg.loopBody := by
  kernel_rfl

/-- `wK = _mm_shuffle_epi8(wK, bswap_mask)` -/
def bswap128 (w : M128i) : M128i := _mm_shuffle_epi8 w (_mm_set_epi8 12 13 14 15 8 9 10 11 4 5 6 7 0 1 2 3)

theorem prog_sse41 (sched : List M128i) (msg : Bytes) : message_schedule_4ways_src sched msg
    = loadK gather_src msg Sse41.cfg.msgOffsets [] (fun ws =>
        schedK A4 Sha256Sse41.K32 SCHEDULE_ROUND_INC_src SCHEDULE_ROUND_src Sse41.cfg.loopBound Sse41.cfg.loopBody
          Sse41.cfg.tail sched (ws.map bswap128)) := by
  unfold schedK
  -- name the loop by its generated constant first: left as `whileK … 32 st`, the kernel compares it with the generated loop by
  -- unfolding both 32 levels of fuel deep
  rw [← while_sse41]
  kernel_rfl

theorem shuffle_bswap128 (w : M128i) : bswap128 w = w.map bswap32 := by
  obtain ⟨d0, d1, d2, d3⟩ := w
  rfl

theorem sigma0_lanes (v : M128i) : sigma0_src v = v.map smallSigma0_256 := by
  obtain ⟨d0, d1, d2, d3⟩ := v
  simp only [sigma0_src, _mm_xor_si128, _mm_srli_epi32, _mm_slli_epi32, M128i.map, M128i.zipWith, ← s0_eq, ← sigma0_shifts,
    UInt32.xor_assoc]
  rfl

theorem sigma1_lanes (v : M128i) : sigma1_src v = v.map smallSigma1_256 := by
  obtain ⟨d0, d1, d2, d3⟩ := v
  simp only [sigma1_src, _mm_xor_si128, _mm_srli_epi32, _mm_slli_epi32, M128i.map, M128i.zipWith, ← s1_eq, ← sigma1_shifts,
    UInt32.xor_assoc]
  rfl

theorem gather_ok (msg : Bytes) (off : Nat) (h : off + 196 ≤ msg.length) :
    Sha256Sse41.gather_src msg off = .ok ⟨ld32 msg off, ld32 msg (off + 64), ld32 msg (off + 128), ld32 msg (off + 192)⟩ := by
  unfold Sha256Sse41.gather_src read_i32
  rw [if_pos (by omega), if_pos (by omega), if_pos (by omega), if_pos (by omega)]
  rfl

def toL4 (v : M128i) : Lanes Sse41.cfg.n := (#v[v.d0, v.d1, v.d2, v.d3] : Vector UInt32 4)
def ofL4 (x : Lanes 4) : M128i := ⟨x[0]'(by decide), x[1]'(by decide), x[2]'(by decide), x[3]'(by decide)⟩

theorem ofL4_map (f : UInt32 → UInt32) (x : Lanes 4) : (ofL4 x).map f = ofL4 (x.map f) := by
  simp only [ofL4, Vector.getElem_map]
  rfl

theorem ofL4_add (x y : Lanes 4) : _mm_add_epi32 (ofL4 x) (ofL4 y) = ofL4 (Lanes.add x y) := by
  simp only [ofL4, getElem_add]
  rfl

theorem ofL4_set1 (k : UInt32) : _mm_set1_epi32 k = ofL4 (Lanes.set1 k) := by
  simp only [ofL4, getElem_set1]
  rfl

theorem ofL4_gather (msg : Bytes) (off : Nat) (h : off + 64 * 4 ≤ msg.length + 60) : gather_src msg off
    = .ok (ofL4 (Vector.ofFn fun j : Fin 4 => Simd.ofBytes32 ((msg.drop (off + 64 * j.val)).take 4))) := by
  rw [gather_ok msg off (by omega)]
  simp only [ofL4, Vector.getElem_ofFn]
  rfl

theorem laneView_sse41 : LaneView A4 Sse41.cfg sigma0_src sigma1_src gather_src bswap128 toL4 ofL4 where
  to_of x := by obtain ⟨a0, a1, a2, a3, rfl⟩ := vec4 x; rfl
  add := ofL4_add
  set1 := ofL4_set1
  sig0 x := (sigma0_lanes _).trans (ofL4_map _ x)
  sig1 x := (sigma1_lanes _).trans (ofL4_map _ x)
  bswap x := (shuffle_bswap128 _).trans (ofL4_map _ x)
  gather := ofL4_gather

/-- the lanes of `compress_4ways` with their `_mm_extract_epi32(·, j)` -/
def lanes4 : List (Nat × (M128i → UInt32)) := [(0, (·.d0)), (1, (·.d1)), (2, (·.d2)), (3, (·.d3))]

/-- the twelve generated functions of `compress_4ways` (`round_j`, `loop(j+1)`, `compress_once_j`) are the generic text at lane `j` -/
theorem compress_4ways_eq (state : W8 UInt32) (sched : List M128i) :
    compress_4ways_src state sched = compressG sched (lanes4.map Prod.snd) state := by kernel_rfl

theorem compress_src_spec (state : W8 UInt32) (sched : List M128i) (hl : sched.length = 64) :
    ∃ r, compress_nways (sched.map toL4) state Sse41.cfg.compressLanes = some r ∧ compress_4ways_src state sched = .ok r := by
  rw [compress_4ways_eq]
  exact compressG_sim toL4 sched hl lanes4
    (by simp only [lanes4, List.forall_mem_cons]; exact ⟨fun _ => rfl, fun _ => rfl, fun _ => rfl, fun _ => rfl, nofun⟩) state

theorem message_schedule_src_eq_model (sched : List M128i) (msg : Bytes) (hs : sched.length = 64) (hm : 256 ≤ msg.length) :
    ∃ out, message_schedule_4ways_src sched msg = .ok out ∧ out.length = 64 ∧
      message_schedule Sse41.cfg msg = some (out.map toL4) := by
  rw [prog_sse41]
  exact message_schedule_sim stepOk_sse41 good_sse41 laneView_sse41 sched msg hs hm

theorem batch_sim : ∀ (fuel : Nat) (state : W8 UInt32) (block : Bytes) (sched : List M128i), sched.length = 64 →
    (digest_block_loop1_src fuel (state, block, sched)).toOption.map (fun st => (st.1, st.2.1))
      = batch_loop Sse41.cfg fuel state block := by
  intro fuel
  have hb : Sse41.cfg.batchBytes = 256 := by decide
  induction fuel with
  | zero =>
    intro state block sched _
    show (if block.length ≥ 256 then (Except.error "DIVERGE" : Except String _) else .ok (state, block, sched)).toOption.map _ = _
    unfold batch_loop
    rw [hb]
    by_cases h : block.length ≥ 256
    · rw [if_pos h, if_pos h]; rfl
    · rw [if_neg h, if_neg h]; rfl
  | succ fuel ih =>
    intro state block sched hs
    show (if block.length ≥ 256 then _ else (Except.ok (state, block, sched) : Except String _)).toOption.map _ = _
    unfold batch_loop
    rw [hb]
    by_cases h : block.length ≥ 256
    · rw [if_pos h, if_pos h]
      obtain ⟨out, h1, h2, h3⟩ := message_schedule_src_eq_model sched block hs h
      obtain ⟨r, c1, c2⟩ := compress_src_spec state out h2
      rw [h1, h3]; dsimp only
      rw [c2, c1]; dsimp only
      rw [GlueVocab.slice_suffix h]; dsimp only
      exact ih r (block.drop 256) out h2
    · rw [if_neg h, if_neg h]; rfl

end Sse41I

end Cx.Proofs.GlueSimdSha
