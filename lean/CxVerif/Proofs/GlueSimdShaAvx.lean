/-
  Proofs.GlueSimdShaAvx — the AVX instance (`__m256i` = eight lanes, src/hashing/sha2/impl256/avx.rs, generated namespace
  Sha256Avx) of the generic development of Proofs/GlueSimdSha.lean; same structure as its section `Sse41I`.
-/
import CxVerif.Proofs.GlueSimdSha
namespace Cx.Proofs.GlueSimdSha.AvxI
open Cx.Intrinsics Cx.Impl Cx.Impl.SimdSha256 Cx.Impl.Sha2 Cx.Spec.Sha2 Cx.Proofs.SimdSha256
open Cx.Extracted.GlueSimd Cx.Proofs.SimdBits Cx.Proofs.GlueSimdSha.Sse41I
open Sha256Avx

def A8 : RegAlg M256i := ⟨⟨_mm256_srli_epi32, _mm256_slli_epi32, _mm256_add_epi32, _mm256_xor_si256, _mm256_or_si256⟩, _mm256_set1_epi32⟩

def map256 (f : UInt32 → UInt32) (v : M256i) : M256i := ⟨v.lo.map f, v.hi.map f⟩

theorem xor256_assoc (a b c : M256i) : _mm256_xor_si256 (_mm256_xor_si256 a b) c = _mm256_xor_si256 a (_mm256_xor_si256 b c) := by
  simp [_mm256_xor_si256, M256i.lanewise2, xor128_assoc]

theorem sigma0_avx (v : M256i) : sigma0 A8 Avx.cfg v = some (sigma0_src v) := by
  rw [good_avx.sig0]
  exact congrArg (fun x => some (_mm256_xor_si256 x _)) (xor256_assoc _ _ _)

theorem sigma1_avx (v : M256i) : sigma1 A8 Avx.cfg v = some (sigma1_src v) := by
  rw [good_avx.sig1]
  exact congrArg (fun x => some (_mm256_xor_si256 x _)) (xor256_assoc _ _ _)

theorem K32_avx : Sha256Avx.K32 = Impl256.K32 := by decide

theorem stepOk_avx : StepOk A8 Avx.cfg sigma0_src sigma1_src Sha256Avx.K32 SCHEDULE_ROUND_INC_src SCHEDULE_ROUND_src where
  hK := K32_avx
  h0 := sigma0_avx
  h1 := sigma1_avx
  inc := by
    intro sched i w1 w2 w3 w4 kk hk hi
    simp only [SCHEDULE_ROUND_INC_src, SCHEDULE_ROUND_src, Glue.index, Glue.set_index, K32_avx, hk, if_pos hi]
    rfl
  rnd := by
    intro sched i w1 w2 w3 w4 kk hk hi
    simp only [SCHEDULE_ROUND_src, Glue.index, Glue.set_index, K32_avx, hk, if_pos hi]
    rfl

theorem while_avx : message_schedule_8ways_loop1_src = whileK SCHEDULE_ROUND_INC_src Avx.cfg.loopBound Avx.cfg.loopBody := by
  kernel_rfl

/-- `wK = _mm256_shuffle_epi8(wK, bswap_mask)` -/
def bswap256 (w : M256i) : M256i := _mm256_shuffle_epi8 w
  (_mm256_set_epi8 28 29 30 31 24 25 26 27 20 21 22 23 16 17 18 19 12 13 14 15 8 9 10 11 4 5 6 7 0 1 2 3)

theorem prog_avx (sched : List M256i) (msg : Bytes) : message_schedule_8ways_src sched msg
    = loadK gather_src msg Avx.cfg.msgOffsets [] (fun ws =>
        schedK A8 Sha256Avx.K32 SCHEDULE_ROUND_INC_src SCHEDULE_ROUND_src Avx.cfg.loopBound Avx.cfg.loopBody
          Avx.cfg.tail sched (ws.map bswap256)) := by
  unfold schedK
  rw [← while_avx]   -- see `prog_sse41`
  kernel_rfl

theorem shuffle_bswap256 (w : M256i) : bswap256 w = map256 bswap32 w := by
  obtain ⟨⟨a0, a1, a2, a3⟩, ⟨b0, b1, b2, b3⟩⟩ := w
  rfl

theorem sigma0_lanes8 (v : M256i) : sigma0_src v = map256 smallSigma0_256 v := by
  obtain ⟨⟨a0, a1, a2, a3⟩, ⟨b0, b1, b2, b3⟩⟩ := v
  simp only [sigma0_src, _mm256_xor_si256, _mm256_srli_epi32, _mm256_slli_epi32, M256i.lanewise, M256i.lanewise2, map256,
    _mm_xor_si128, _mm_srli_epi32, _mm_slli_epi32, M128i.map, M128i.zipWith, ← s0_eq, ← sigma0_shifts, UInt32.xor_assoc]
  rfl

theorem sigma1_lanes8 (v : M256i) : sigma1_src v = map256 smallSigma1_256 v := by
  obtain ⟨⟨a0, a1, a2, a3⟩, ⟨b0, b1, b2, b3⟩⟩ := v
  simp only [sigma1_src, _mm256_xor_si256, _mm256_srli_epi32, _mm256_slli_epi32, M256i.lanewise, M256i.lanewise2, map256,
    _mm_xor_si128, _mm_srli_epi32, _mm_slli_epi32, M128i.map, M128i.zipWith, ← s1_eq, ← sigma1_shifts, UInt32.xor_assoc]
  rfl

theorem gather_ok8 (msg : Bytes) (off : Nat) (h : off + 452 ≤ msg.length) :
    Sha256Avx.gather_src msg off = .ok ⟨⟨ld32 msg off, ld32 msg (off + 64), ld32 msg (off + 128), ld32 msg (off + 192)⟩,
      ⟨ld32 msg (off + 256), ld32 msg (off + 320), ld32 msg (off + 384), ld32 msg (off + 448)⟩⟩ := by
  unfold Sha256Avx.gather_src read_i32
  rw [if_pos (by omega), if_pos (by omega), if_pos (by omega), if_pos (by omega), if_pos (by omega), if_pos (by omega),
    if_pos (by omega), if_pos (by omega)]
  rfl

def toL8 (v : M256i) : Lanes Avx.cfg.n :=
  (#v[v.lo.d0, v.lo.d1, v.lo.d2, v.lo.d3, v.hi.d0, v.hi.d1, v.hi.d2, v.hi.d3] : Vector UInt32 8)
def ofL8 (x : Lanes 8) : M256i :=
  ⟨⟨x[0]'(by decide), x[1]'(by decide), x[2]'(by decide), x[3]'(by decide)⟩,
   ⟨x[4]'(by decide), x[5]'(by decide), x[6]'(by decide), x[7]'(by decide)⟩⟩

theorem ofL8_map (f : UInt32 → UInt32) (x : Lanes 8) : map256 f (ofL8 x) = ofL8 (x.map f) := by
  simp only [ofL8, Vector.getElem_map]
  rfl

theorem ofL8_add (x y : Lanes 8) : _mm256_add_epi32 (ofL8 x) (ofL8 y) = ofL8 (Lanes.add x y) := by
  simp only [ofL8, getElem_add]
  rfl

theorem ofL8_set1 (k : UInt32) : _mm256_set1_epi32 k = ofL8 (Lanes.set1 k) := by
  simp only [ofL8, getElem_set1]
  rfl

theorem ofL8_gather (msg : Bytes) (off : Nat) (h : off + 64 * 8 ≤ msg.length + 60) : gather_src msg off
    = .ok (ofL8 (Vector.ofFn fun j : Fin 8 => Simd.ofBytes32 ((msg.drop (off + 64 * j.val)).take 4))) := by
  rw [gather_ok8 msg off (by omega)]
  simp only [ofL8, Vector.getElem_ofFn]
  rfl

theorem laneView_avx : LaneView A8 Avx.cfg sigma0_src sigma1_src gather_src bswap256 toL8 ofL8 where
  to_of x := by obtain ⟨a0, a1, a2, a3, a4, a5, a6, a7, rfl⟩ := Cx.Proofs.Bytes.vec8 x; rfl
  add := ofL8_add
  set1 := ofL8_set1
  sig0 x := (sigma0_lanes8 _).trans (ofL8_map _ x)
  sig1 x := (sigma1_lanes8 _).trans (ofL8_map _ x)
  bswap x := (shuffle_bswap256 _).trans (ofL8_map _ x)
  gather := ofL8_gather

def lanes8 : List (Nat × (M256i → UInt32)) :=
  [(0, (·.lo.d0)), (1, (·.lo.d1)), (2, (·.lo.d2)), (3, (·.lo.d3)), (4, (·.hi.d0)), (5, (·.hi.d1)), (6, (·.hi.d2)), (7, (·.hi.d3))]

theorem compress_8ways_eq (state : W8 UInt32) (sched : List M256i) :
    compress_8ways_src state sched = compressG sched (lanes8.map Prod.snd) state := by kernel_rfl

theorem compress_src_spec8 (state : W8 UInt32) (sched : List M256i) (hl : sched.length = 64) :
    ∃ r, compress_nways (sched.map toL8) state Avx.cfg.compressLanes = some r ∧ compress_8ways_src state sched = .ok r := by
  rw [compress_8ways_eq]
  exact compressG_sim toL8 sched hl lanes8 (by
    simp only [lanes8, List.forall_mem_cons]
    exact ⟨fun _ => rfl, fun _ => rfl, fun _ => rfl, fun _ => rfl, fun _ => rfl, fun _ => rfl, fun _ => rfl, fun _ => rfl, nofun⟩) state

theorem message_schedule_src_eq_model8 (sched : List M256i) (msg : Bytes) (hs : sched.length = 64) (hm : 512 ≤ msg.length) :
    ∃ out, message_schedule_8ways_src sched msg = .ok out ∧ out.length = 64 ∧
      message_schedule Avx.cfg msg = some (out.map toL8) := by
  rw [prog_avx]
  exact message_schedule_sim stepOk_avx good_avx laneView_avx sched msg hs hm

/-- the batch loop of the translated `avx::digest_block` = the model's `batch_loop`; the script of `Sse41I.batch_sim` once more: one statement
    for both would spell the generated loop as generic text and take the two per-file ties as hypotheses, which is longer than the two copies -/
theorem batch_sim8 : ∀ (fuel : Nat) (state : W8 UInt32) (block : Bytes) (sched : List M256i), sched.length = 64 →
    (digest_block_loop1_src fuel (state, block, sched)).toOption.map (fun st => (st.1, st.2.1))
      = batch_loop Avx.cfg fuel state block := by
  intro fuel
  have hb : Avx.cfg.batchBytes = 512 := by decide
  induction fuel with
  | zero =>
    intro state block sched _
    show (if block.length ≥ 512 then (Except.error "DIVERGE" : Except String _) else .ok (state, block, sched)).toOption.map _ = _
    unfold batch_loop
    rw [hb]
    by_cases h : block.length ≥ 512
    · rw [if_pos h, if_pos h]; rfl
    · rw [if_neg h, if_neg h]; rfl
  | succ fuel ih =>
    intro state block sched hs
    show (if block.length ≥ 512 then _ else (Except.ok (state, block, sched) : Except String _)).toOption.map _ = _
    unfold batch_loop
    rw [hb]
    by_cases h : block.length ≥ 512
    · rw [if_pos h, if_pos h]
      obtain ⟨out, h1, h2, h3⟩ := message_schedule_src_eq_model8 sched block hs h
      obtain ⟨r, c1, c2⟩ := compress_src_spec8 state out h2
      rw [h1, h3]; dsimp only
      rw [c2, c1]; dsimp only
      rw [GlueVocab.slice_suffix h]; dsimp only
      exact ih r (block.drop 512) out h2
    · rw [if_neg h, if_neg h]; rfl

end Cx.Proofs.GlueSimdSha.AvxI
