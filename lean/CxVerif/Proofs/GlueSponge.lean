/-
  Proofs.GlueSponge — the translated sponge engine of src/hashing/sha3.rs (Extracted/GlueSponge.lean, namespace `Sha3`) against
  the hand model Impl/Sha3.lean.  First the primitives of that file's dialect (`slice`, `sliceFrom`, `copyInto`, `idx`, `upd`,
  `usizechk`, `usub`, `forRange`, `whileLoop`) as rewriting rules with their bounds as hypotheses: they are the `Cx.Glue`
  operations, so the rules are those of Proofs/GlueVocab.lean in this file's spelling; a store in range is `setSlice` /
  `zeroFrom` of the BLAKE2 model (used by the BLAKE2 contexts, Proofs/GlueSpongeBlake2.lean).  Then the loop combinators
  against the recursions and folds of the model (`xor_in`, `absorb_loop`, `clear_bits`, `squeeze_loop`) and what the model's
  operations preserve (`…_length`); the engine ties `rate` … `output` themselves are proved under their statements in
  Props/C02/GlueTieSponge.lean.  A straight-line tie is a walk of two `bind` chains with the same operations:
  `Option.bind_congr` steps under a common head and keeps `head = some a`, from which the bounds come that discharge the
  next check of the source (`upd_length`, `idx_lt`, `…_length`).  `fn output` writes into
  the caller's buffer while the model's `Engine.output` starts from zeros: `outputOn` is the model's text with the buffer as
  an argument, and the tie of `output` is stated against it.
-/
import CxVerif.Extracted.GlueSponge
import CxVerif.Proofs.SpongePad
import CxVerif.Proofs.GlueVocab
namespace Cx.Proofs.GlueSponge
open Cx.Extracted.GlueSponge

/-! ## the primitives (`sliceFrom` has no `Cx.Glue` form, `zeroFrom` is the BLAKE2 model's: their two rules are proved here;
  `usizechk_of_lt` is Proofs/SpongePad.lean's) -/

section Prims
open Cx.Impl.Sha3 (usizechk idx upd)
open Cx.Impl.Blake2 (setSlice zeroFrom)
variable {α : Type} {a a' : List α} {dst src buf : Bytes} {i lo n v w : Nat}

theorem forRange_succ {σ : Type} (body : Nat → σ → Option σ) (n lo : Nat) (st : σ) :
    forRange body (n + 1) lo st = (body lo st).bind (forRange body n (lo + 1)) := by
  rw [forRange]; cases body lo st <;> rfl

theorem whileLoop_succ {σ : Type} (step : σ → Option (σ × Bool)) (fuel : Nat) (st : σ) :
    whileLoop step (fuel + 1) st = (step st).bind fun p => if p.2 = true then whileLoop step fuel p.1 else some p.1 := by
  rw [whileLoop]
  cases step st with
  | none => rfl
  | some p => obtain ⟨s, g⟩ := p; cases g <;> rfl

theorem upd_length {x : α} (h : upd a i x = some a') : a'.length = a.length := GlueVocab.set_index_length h

theorem idx_lt {x : α} (h : idx a i = some x) : i < a.length := GlueVocab.index_lt h

theorem usizechk_some (h : usizechk v = some w) : w = v ∧ v < 2 ^ 64 := GlueVocab.chk_eq_some_iff.mp h

theorem usub_of_le {a b : Nat} (h : b ≤ a) : usub a b = some (a - b) := GlueVocab.usub_of_le h

theorem slice_len {a : Bytes} (h : n + lo ≤ a.length) : slice a lo (n + lo) = some ((a.drop lo).take n) := by
  rw [Nat.add_comm]; exact GlueVocab.slice_at (by omega)

theorem slice_none {a : Bytes} (h : a.length < n + lo) : slice a lo (n + lo) = none := GlueVocab.slice_none h

theorem slice_take {a : Bytes} (h : n ≤ a.length) : slice a 0 n = some (a.take n) := GlueVocab.slice_prefix h

theorem slice_to_end {a : Bytes} (h : lo ≤ a.length) : slice a lo a.length = some (a.drop lo) := GlueVocab.slice_suffix h

theorem sliceFrom_eq {a : Bytes} (h : lo ≤ a.length) : sliceFrom a lo = some (a.drop lo) := if_pos h

theorem copyInto_len (h : n + lo ≤ dst.length) (hs : src.length = n) :
    copyInto dst lo (n + lo) src = some (dst.take lo ++ src ++ dst.drop (lo + n)) := by
  rw [Nat.add_comm n lo]; exact GlueVocab.copy_ok (by omega) (by omega) (by omega)

theorem copyInto_none (h : dst.length < n + lo) : copyInto dst lo (n + lo) src = none := GlueVocab.copy_none (.inl h)

theorem copyInto_all (h : src.length = dst.length) : copyInto dst 0 dst.length src = some src := GlueVocab.copy_full h

theorem copyInto_all_none {dst src : Bytes} (h : src.length ≠ dst.length) : copyInto dst 0 dst.length src = none :=
  GlueVocab.copy_none (.inr (by omega))

theorem copyInto_setSlice {off hi : Nat} (hhi : hi = off + src.length) (h : off + src.length ≤ buf.length) :
    copyInto buf off hi src = some (setSlice buf off src) := GlueVocab.copy_splice hhi (hhi ▸ h)

theorem copyInto_zeroFrom (h : lo ≤ buf.length) (hn : n = (buf.drop lo).length) :
    copyInto buf lo buf.length (zeros n) = some (zeroFrom buf lo) := by
  subst hn
  unfold copyInto zeroFrom
  rw [if_pos ⟨h, Nat.le_refl _, by simp [zeros]⟩]
  simp

/-- the wipe of a whole buffer, `for b in buf[..].iter_mut() { *b = 0 }`, as it appears after `slice_to_end` -/
theorem wipe_all (buf : Bytes) : copyInto buf 0 buf.length (zeros (buf.drop 0).length) = some (zeroFrom buf 0) :=
  copyInto_zeroFrom (Nat.zero_le _) rfl

end Prims

section Sha3Part
open Cx.Impl.Sha3 Cx.Extracted.GlueSponge.Sha3

theorem filter_le_range8 (lo : Nat) (h : lo < 8) :
    (List.range 8).filter (fun i => decide (lo ≤ i)) = lo :: (List.range 8).filter (fun i => decide (lo + 1 ≤ i)) := by
  have : lo = 0 ∨ lo = 1 ∨ lo = 2 ∨ lo = 3 ∨ lo = 4 ∨ lo = 5 ∨ lo = 6 ∨ lo = 7 := by omega
  rcases this with h | h | h | h | h | h | h | h <;> subst h <;> rfl

theorem forRange_clear_bits (D off s bl : Nat) : ∀ (n lo : Nat) (buf : Bytes), lo + n = 8 →
    forRange (set_pad_src_for1 D off s bl) n lo buf = clear_bits buf s lo := by
  intro n
  induction n with
  | zero =>
    intro lo buf h
    have : lo = 8 := by omega
    subst this
    rfl
  | succ n ih =>
    intro lo buf h
    have hlo : lo < 8 := by omega
    unfold clear_bits
    rw [filter_le_range8 lo hlo, List.foldlM_cons, forRange_succ]
    simp only [set_pad_src_for1, shlU8, hlo, if_true, Option.bind_eq_bind, Option.bind_some, Option.bind_assoc]
    exact Option.bind_congr fun v _ => Option.bind_congr fun b' _ => ih (lo + 1) b' (by omega)

theorem mapM_zero (l : Bytes) : l.mapM (fun _ => (some (0 : UInt8))) = some (zeros l.length) := by
  induction l with
  | nil => rfl
  | cons a t ih => simp [List.mapM_cons, ih, zeros, List.replicate_succ]

theorem foldlM_upd_length (s : Nat) (f : UInt8 → Nat → UInt8) (l : List Nat) : ∀ (a a' : Bytes),
    l.foldlM (fun buf i => do upd buf s (f (← idx buf s) i)) a = some a' → a'.length = a.length := by
  induction l with
  | nil => intro a a' h; cases h; rfl
  | cons i l ih =>
    intro a a' h
    rw [List.foldlM_cons] at h
    simp only [Option.bind_eq_bind] at h
    obtain ⟨b, hb, h⟩ := Option.bind_eq_some_iff.mp h
    obtain ⟨v, _, hu⟩ := Option.bind_eq_some_iff.mp hb
    rw [ih b a' h, upd_length hu]

theorem clear_bits_length {a a' : Bytes} {s lo : Nat} (h : clear_bits a s lo = some a') : a'.length = a.length := by
  unfold clear_bits at h
  exact foldlM_upd_length s (fun v i => v &&& ~~~((1 : UInt8) <<< UInt8.ofNat i)) _ a a' h

/-- the result is `b2 / 8` for a value `b2` that passed `usizechk`, hence below `2^64 / 8` -/
theorem pad_len_lt {ds o r n : Nat} (h : pad_len ds o r = some n) : n < 2 ^ 61 := by
  unfold pad_len at h
  split at h
  · cases h
  · simp only [Option.bind_eq_bind, Option.bind_eq_some_iff, Option.pure_def] at h
    obtain ⟨_, _, _, _, _, _, _, _, _, _, _, _, _, _, _, _, h⟩ := h
    split at h
    · cases h
    · simp only [Option.bind_eq_some_iff] at h
      obtain ⟨b1, _, b2, hb2, h⟩ := h
      have := usizechk_some hb2
      cases h
      omega

theorem set_domain_sep_length {n : Nat} {buf buf' : Bytes} (h : set_domain_sep n buf = some buf') : buf'.length = buf.length := by
  unfold set_domain_sep at h
  split at h
  · cases h
  · split at h
    · simp only [Option.bind_eq_bind, Option.bind_eq_some_iff] at h
      obtain ⟨_, _, b1, h1, _, _, h2⟩ := h
      rw [upd_length h2, upd_length h1]
    · simp only [Option.bind_eq_bind, Option.bind_eq_some_iff] at h
      obtain ⟨_, _, h2⟩ := h
      rw [upd_length h2]

theorem set_pad_length {ds : Nat} {buf buf' : Bytes} (h : set_pad ds buf = some buf') : buf'.length = buf.length := by
  unfold set_pad at h
  simp only [Option.bind_eq_bind, Option.bind_eq_some_iff] at h
  obtain ⟨_, _, b1, h1, b2, h2, h⟩ := h
  have l1 := upd_length h1
  have l2 := clear_bits_length h2
  split at h
  · cases h
  · split at h
    · cases h
    · simp only [Option.bind_eq_some_iff] at h
      obtain ⟨_, _, h3⟩ := h
      rw [upd_length h3]
      simp [zeros]
      omega

theorem xor_in_nil (st : Bytes) (k : Nat) : xor_in st k [] = some st := by
  cases st <;> cases k <;> rfl

/-- the model's one-pass list walk `xor_in`, one byte at a time, is the source's indexed read / xor / store -/
theorem xor_in_cons_step (d : UInt8) (ds : Bytes) : ∀ (st : Bytes) (k : Nat),
    xor_in st k (d :: ds) = (idx st k).bind fun v => (upd st k (v ^^^ d)).bind fun st' => xor_in st' (k + 1) ds := by
  intro st
  induction st with
  | nil => intro k; cases k <;> rfl
  | cons b t ih =>
    intro k
    cases k with
    | zero =>
      simp only [xor_in, idx, upd, List.getElem?_cons_zero, Option.bind_some, List.length_cons, Nat.zero_lt_succ, if_true,
        List.set_cons_zero]
      cases ds with
      | nil => simp [xor_in_nil]
      | cons d' ds' => simp [xor_in]
    | succ k =>
      simp only [xor_in, ih k]
      simp only [idx, upd, List.getElem?_cons_succ, List.length_cons, Nat.add_lt_add_iff_right, List.set_cons_succ]
      cases h1 : t[k]? with
      | none => simp
      | some v =>
        simp only [Option.bind_some]
        by_cases h2 : k < t.length
        · simp only [h2, if_true, Option.bind_some]
          cases ds with
          | nil => simp [xor_in_nil]
          | cons d' ds' => simp [xor_in]
        · simp [h2]

/-- one byte of the absorb loop -/
theorem process_for2_eq (dl ds : Nat) (data : Bytes) (r in_len in_pos offset nread i : Nat) (e : Engine)
    (h1 : offset + i < 2 ^ 64) (h2 : in_pos + i < 2 ^ 64) :
    Engine.process_src_for2 dl ds data r in_len in_pos offset nread i e =
      (idx e.state (offset + i)).bind fun v => (idx data (in_pos + i)).bind fun d =>
        (upd e.state (offset + i) (v ^^^ d)).bind fun st => some { e with state := st } := by
  simp only [Engine.process_src_for2, Sponge.usizechk_of_lt h1, Sponge.usizechk_of_lt h2, Option.bind_eq_bind, Option.bind_some, Option.pure_def]

theorem process_forRange_eq (dl ds : Nat) (data : Bytes) (r in_len in_pos offset nread : Nat) (hd : data.length < 2 ^ 64) :
    ∀ (n lo : Nat) (e : Engine), in_pos + lo + n ≤ data.length → offset + lo + n < 2 ^ 64 →
    forRange (Engine.process_src_for2 dl ds data r in_len in_pos offset nread) n lo e =
      (xor_in e.state (offset + lo) ((data.drop (in_pos + lo)).take n)).bind fun st => some { e with state := st } := by
  intro n
  induction n with
  | zero => intro lo e _ _; simp [forRange, xor_in_nil]
  | succ n ih =>
    intro lo e h1 h2
    have hlt : in_pos + lo < data.length := by omega
    have hdrop : (data.drop (in_pos + lo)).take (n + 1) = data[in_pos + lo] :: (data.drop (in_pos + (lo + 1))).take n := by
      rw [List.drop_eq_getElem_cons hlt, List.take_succ_cons]; rfl
    rw [hdrop, xor_in_cons_step, forRange_succ, process_for2_eq dl ds data r in_len in_pos offset nread lo e (by omega) (by omega),
      show idx data (in_pos + lo) = some data[in_pos + lo] from GlueVocab.index_ok hlt]
    simp only [Option.bind_assoc, Option.bind_some]
    exact Option.bind_congr fun v _ => Option.bind_congr fun st _ => ih (lo + 1) _ (by omega) (by omega)

/-- one iteration of the absorb loop (loop condition true) -/
theorem process_while1_eq (dl ds : Nat) (data : Bytes) (r in_pos : Nat) (e : Engine) (hd : data.length < 2 ^ 64)
    (hr : r < 2 ^ 63) (ho : e.offset < r) (hp : in_pos < data.length) :
    Engine.process_src_while1 dl ds data r data.length (e, in_pos) =
      (xor_in e.state e.offset ((data.drop in_pos).take (min (r - e.offset) (data.length - in_pos)))).bind fun st' =>
        if e.offset + min (r - e.offset) (data.length - in_pos) = r then
          (keccak_f st').bind fun st'' =>
            some (({ e with state := st'', offset := 0 }, in_pos + min (r - e.offset) (data.length - in_pos)), true)
        else some (({ e with state := st', offset := e.offset + min (r - e.offset) (data.length - in_pos) },
                    in_pos + min (r - e.offset) (data.length - in_pos)), false) := by
  generalize hn : min (r - e.offset) (data.length - in_pos) = nread
  simp only [Engine.process_src_while1, hp, if_true, usub_of_le (Nat.le_of_lt ho), usub_of_le (Nat.le_of_lt hp), Option.bind_eq_bind,
    Option.bind_some, Option.pure_def, hn, Nat.sub_zero,
    process_forRange_eq dl ds data r data.length in_pos e.offset nread hd nread 0 e (by omega) (by omega), Nat.add_zero, Option.bind_assoc,
    Sponge.usizechk_of_lt (show in_pos + nread < 2 ^ 64 by omega), Sponge.usizechk_of_lt (show e.offset + nread < 2 ^ 64 by omega)]
  refine Option.bind_congr fun st' _ => ?_
  by_cases h2 : e.offset + nread = r <;> simp [h2]

theorem absorb_whileLoop_eq (dl ds : Nat) (data : Bytes) (r : Nat) (hd : data.length < 2 ^ 64) (hr : r < 2 ^ 63) :
    ∀ (fuel : Nat) (e : Engine) (in_pos : Nat), in_pos ≤ data.length → data.length - in_pos < fuel → e.offset < r →
    (whileLoop (Engine.process_src_while1 dl ds data r data.length) fuel (e, in_pos)).bind (fun p => some p.1) =
      (absorb_loop r e.state e.offset (data.drop in_pos)).bind fun p => some { e with state := p.1, offset := p.2 } := by
  intro fuel
  induction fuel with
  | zero => intro e in_pos _ h; omega
  | succ fuel ih =>
    intro e in_pos hle hf ho
    rw [whileLoop_succ, absorb_loop]
    by_cases hp : in_pos < data.length
    · have hne : data.drop in_pos ≠ [] := fun h => by have := congrArg List.length h; simp at this; omega
      simp only [process_while1_eq dl ds data r in_pos e hd hr ho hp, hne, dite_false, ho, dite_true, List.length_drop, Option.bind_assoc]
      cases xor_in e.state e.offset ((data.drop in_pos).take (min (r - e.offset) (data.length - in_pos))) with
      | none => rfl
      | some st' =>
        simp only [Option.bind_some]
        split
        · cases keccak_f st' with
          | none => rfl
          | some st'' =>
            simp only [Option.bind_some, if_true]
            rw [ih _ _ (by omega) (by omega) (show 0 < r by omega), List.drop_drop]
        · rfl
    · have : in_pos = data.length := by omega
      subst this
      simp [Engine.process_src_while1]

/-- the `nread` of one squeeze iteration as the source computes it (checked `usize` subtraction) is the model's `squeeze_nread` -/
theorem nread_src_eq (D r off in_len in_pos : Nat) :
    (if D ≠ 0 then (usub D off).bind fun t10 => some (min (min (r - off % r) (in_len - in_pos)) t10)
      else some (min (r - off % r) (in_len - in_pos))) = squeeze_nread D r off in_len in_pos := by
  unfold squeeze_nread usub
  by_cases hD : D = 0
  · simp [hD]
  · by_cases h : D < off
    · simp [hD, h, Nat.not_le_of_lt h]
    · simp [hD, h, Nat.le_of_not_lt h]

theorem squeeze_nread_le {D r off in_len in_pos N : Nat} (h : squeeze_nread D r off in_len in_pos = some N) :
    N ≤ r - off % r ∧ N ≤ in_len - in_pos ∧ (D ≠ 0 → off + N ≤ D) := by
  unfold squeeze_nread at h
  split at h
  · split at h
    · cases h
    · cases h; omega
  · cases h; exact ⟨Nat.min_le_left _ _, Nat.min_le_right _ _, fun h => absurd h ‹_›⟩

/-- one iteration of the squeeze loop (loop condition true, `r ≠ 0`): the checks of the source in the order of the model -/
theorem output_while1_eq (D ds r in_len : Nat) (hr : r < 2 ^ 63) (hD : D < 2 ^ 63) (hl : in_len < 2 ^ 64) (e : Engine)
    (in_pos : Nat) (out : Bytes) (hp : in_pos < in_len) (hr0 : r ≠ 0) (hD0 : D = 0 → e.offset < r) :
    Engine.output_src_while1 D ds r in_len (out, in_pos, e) =
      (squeeze_nread D r e.offset in_len in_pos).bind fun N =>
        if e.state.length < N + e.offset % r ∨ out.length < N + in_pos then none else
        if e.offset % r + N = r then
          (keccak_f e.state).bind fun st => some ((out.take in_pos ++ (e.state.drop (e.offset % r)).take N
            ++ out.drop (in_pos + N), in_pos + N, { e with state := st, offset := if D = 0 then 0 else e.offset + N }), true)
        else some ((out.take in_pos ++ (e.state.drop (e.offset % r)).take N ++ out.drop (in_pos + N), in_pos + N,
          { e with offset := e.offset + N }), false) := by
  have hmod : e.offset % r < r := Nat.mod_lt _ (Nat.pos_of_ne_zero hr0)
  simp only [Engine.output_src_while1, hp, if_true, hr0, urem, if_false, Option.bind_eq_bind, Option.pure_def,
    Option.bind_some, usub_of_le (Nat.le_of_lt hmod), usub_of_le (Nat.le_of_lt hp)]
  rw [nread_src_eq]
  refine Option.bind_congr fun N hN => ?_
  obtain ⟨hN1, hN2, hN4⟩ := squeeze_nread_le hN
  have hoff : e.offset + N < 2 ^ 63 := by
    by_cases hD1 : D = 0
    · have := Nat.mod_eq_of_lt (hD0 hD1); omega
    · have := hN4 hD1; omega
  simp (disch := omega) only [Sponge.usizechk_of_lt, Option.bind_some]
  by_cases hs : e.state.length < N + e.offset % r
  · simp [hs, slice_none hs]
  · by_cases ho : out.length < N + in_pos
    · simp [ho, slice_len (Nat.le_of_not_lt hs), copyInto_none ho]
    · have hlen : ((e.state.drop (e.offset % r)).take N).length = N := by simp; omega
      simp only [slice_len (Nat.le_of_not_lt hs), copyInto_len (Nat.le_of_not_lt ho) hlen, Option.bind_some, hs, ho, or_self,
        if_false]
      by_cases hfull : e.offset % r + N = r
      · by_cases hD1 : D = 0 <;> simp [hfull, hD1]
      · simp [hfull]

theorem squeeze_whileLoop_eq (D ds r in_len : Nat) (hr : r < 2 ^ 63) (hD : D < 2 ^ 63) (hl : in_len < 2 ^ 64) :
    ∀ (fuel : Nat) (e : Engine) (in_pos : Nat) (out : Bytes), in_pos ≤ in_len → in_len - in_pos < fuel →
      (D = 0 → e.offset < r) →
    (whileLoop (Engine.output_src_while1 D ds r in_len) fuel (out, in_pos, e)).bind (fun p => some (p.2.2, p.1)) =
      squeeze_loop D r e in_len in_pos out := by
  intro fuel
  induction fuel with
  | zero => intro e in_pos out _ h; omega
  | succ fuel ih =>
    intro e in_pos out hle hf hD0
    rw [whileLoop_succ, squeeze_loop]
    by_cases hp : in_pos < in_len
    · rw [dif_pos hp]
      by_cases hr0 : r = 0
      · rw [dif_pos hr0]
        simp only [Engine.output_src_while1, hp, hr0, urem, if_true, Option.bind_eq_bind, Option.bind_none]
      · rw [dif_neg hr0, output_while1_eq D ds r in_len hr hD hl e in_pos out hp hr0 hD0]
        cases hN : squeeze_nread D r e.offset in_len in_pos with
        | none => rfl
        | some N =>
          obtain ⟨hN1, hN2, _⟩ := squeeze_nread_le hN
          have hmod : e.offset % r < r := Nat.mod_lt _ (Nat.pos_of_ne_zero hr0)
          simp only [Option.bind_some]
          split
          · rfl
          · split
            · cases keccak_f e.state with
              | none => rfl
              | some st =>
                simp only [Option.bind_some, if_true]
                exact ih _ _ _ (by omega) (by omega) (fun h0 => by simp only [h0, if_true]; omega)
            · rfl
    · have : in_pos = in_len := by omega
      subst this
      simp [Engine.output_src_while1]

/-- `Engine.output` writing into a caller-supplied buffer `out` (the hand model `Engine.output` fixes `out = zeros out_len`;
    everything else is its text) -/
def outputOn (DIGESTLEN DSLEN : Nat) (e : Engine) (out : Bytes) : Option (Engine × Bytes) := do
  if !e.can_squeeze then none else
  let e ← if e.can_absorb then e.finalize DIGESTLEN DSLEN else pure e
  let r ← rate DIGESTLEN
  if ¬ (if DIGESTLEN != 0 then e.offset < DIGESTLEN else e.offset < r) then none else
  let (e, out) ← squeeze_loop DIGESTLEN r e out.length 0 out
  let e := if DIGESTLEN != 0 && DIGESTLEN == e.offset then { e with can_squeeze := false } else e
  pure (e, out)

theorem rate_dl_le {dl r : Nat} (h : rate dl = some r) : dl * 2 ≤ 200 := by
  unfold rate at h; split at h
  · simpa [Cx.Extracted.Sha3.B] using ‹_›
  · cases h

/-- when `rate` panics (`DIGESTLEN * 2 > B`) so does the model's `output` -/
theorem outputOn_none_of_rate (D ds : Nat) (e : Engine) (out : Bytes) (h : rate D = none) : outputOn D ds e out = none := by
  unfold outputOn Engine.finalize
  cases e.can_squeeze <;> cases e.can_absorb <;> simp [h]

end Sha3Part

end Cx.Proofs.GlueSponge
