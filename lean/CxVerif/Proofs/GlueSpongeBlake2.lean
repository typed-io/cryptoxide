/-
  Proofs.GlueSpongeBlake2 — what the ties of the translated BLAKE2 contexts (Extracted/GlueSponge.lean, namespaces `Blake2b`,
  `Blake2s`; stated and proved in Props/C02/GlueTieSponge.lean) share: the buffer invariant of the model for every parameter
  set (the part that speaks of `new_keyed`, `reset`, `reset_with_key` and of `ContextDyn`; `update_mut_inv`, `internal_final_inv`
  are in Proofs/Blake2.lean), and what the ties share.  `update_mut` is the same argument for `Context<BITS>` and `ContextDyn`, b
  and s: it is stated once over a state type `σ` with its `Ctx` field as a lens, with the text of the translated function as a
  hypothesis (`hf`, `hstep`) that each instance discharges by `rfl`.  Where only a part of the text is shared that part is
  stated once: `new_keyed_core` and `finalize_prefix` with a continuation (`K`, `k`) for what the function does afterwards,
  `internal_final_core` with the word writer as a parameter.  (`reset_with_key` and the residue of the `finalize*_at` after
  `finalize_prefix` are written out per context type and parameter set in Props.)  The namespaces `B` and `S` at the end hold
  the block size as a rewriting rule and the invariant `DynInv` of `ContextDyn` that the statements in Props use.
-/
import CxVerif.Proofs.GlueSponge
import CxVerif.Proofs.Blake2
namespace Cx.Proofs.GlueSponge
open Cx.Extracted.GlueSponge
open Cx.Impl.Blake2
open Cx.Impl.Sha3 (usizechk)
open Cx.Proofs.Blake2 (Inv setSlice_length zeroFrom_length hbytes_length update_loop_rest update_mut_inv internal_final_inv)

/-! ### the invariant `Inv` (`buf` is the whole block array, `buflen ≤ BLOCK_BYTES`): established by `new_keyed`, preserved by every
  operation, for every parameter set whose key and digest fit a block.  The constructors and resets have closed forms in
  Proofs/Blake2.lean (`new_keyed_ite`, `reset_eq`, `reset_with_key_eq`): their result is `newState`, which has the invariant -/

section inv
variable {W : Type} [Cx.Spec.Blake2.Word W] (P : Cx.Spec.Blake2.Params W)

theorem new_keyed_inv (hk : P.maxKey ≤ P.bb) (n : Nat) (key : Bytes) (c : Ctx W) (h : Ctx.new_keyed P n key = some c) : Inv P c := by
  rw [Blake2.new_keyed_ite] at h
  split at h <;> cases h
  exact Blake2.newState_inv P n key (by omega)

theorem reset_inv (c : Ctx W) (n : Nat) (hi : Inv P c) : Inv P (Ctx.reset P c n) :=
  Blake2.reset_eq P c hi n ▸ Blake2.newState_inv P n [] (Nat.zero_le _)

theorem reset_with_key_inv (hk : P.maxKey ≤ P.bb) (c c' : Ctx W) (n : Nat) (key : Bytes) (hi : Inv P c)
    (h : Ctx.reset_with_key P c n key = some c') : Inv P c' := by
  by_cases hl : key.length ≤ P.maxKey
  · rw [Blake2.reset_with_key_eq P c hi n key hl] at h; cases h; exact Blake2.newState_inv P n key (by omega)
  · rw [Blake2.reset_with_key_none P c n key hl] at h; cases h

/-! the same for `ContextDyn`, whose invariant (`B.DynInv`, `S.DynInv` below) adds `outlen ≤ MAX_OUTLEN` (asserted by
  `new_keyed`, never changed) -/

theorem dyn_new_keyed_inv (hk : P.maxKey ≤ P.bb) (n : Nat) (key : Bytes) (d : ContextDyn W)
    (h : ContextDyn.new_keyed P n key = some d) : Inv P d.ctx ∧ d.outlen ≤ P.maxOut := by
  rw [Blake2.contextDyn_new_keyed_eq, Blake2.new_keyed_ite] at h
  split at h <;> cases h
  rename_i hc; exact ⟨Blake2.newState_inv P n key (by omega), hc.2.1⟩

theorem dyn_update_mut_inv (pr : Profile) (hbb : 0 < P.bb) (d d' : ContextDyn W) (input : Bytes)
    (hi : Inv P d.ctx ∧ d.outlen ≤ P.maxOut) (h : ContextDyn.update_mut P pr d input = some d') :
    Inv P d'.ctx ∧ d'.outlen ≤ P.maxOut := by
  unfold ContextDyn.update_mut at h
  split at h
  · cases h
  · rename_i c hc
    cases h
    exact ⟨update_mut_inv P pr hbb d.ctx c input hi.1 hc, hi.2⟩

theorem dyn_reset_with_key_inv (hk : P.maxKey ≤ P.bb) (d d' : ContextDyn W) (key : Bytes)
    (hi : Inv P d.ctx ∧ d.outlen ≤ P.maxOut) (h : ContextDyn.reset_with_key P d key = some d') :
    Inv P d'.ctx ∧ d'.outlen ≤ P.maxOut := by
  unfold ContextDyn.reset_with_key at h
  split at h
  · cases h
  · rename_i c hc
    cases h
    exact ⟨reset_with_key_inv P hk d.ctx c d.outlen key hi.1 hc, hi.2⟩

end inv

/-- the common text of `new_keyed` (both context types, b and s: four users) once the output length `o` is known to be in range: the key assert, `Engine::new`, the
    key block or the empty buffer; `K` is what the function does with the context -/
theorem new_keyed_core {α W : Type} [Cx.Spec.Blake2.Word W] (P : Cx.Spec.Blake2.Params W) (hk : P.maxKey ≤ P.bb) (o : Nat) (key : Bytes)
    (ho : o > 0 ∧ o ≤ P.maxOut) (K : Ctx W → Option α) :
    (if ¬ key.length ≤ P.maxKey then none else
      (Engine.new P o key.length).bind fun eng =>
        (if ¬ key.isEmpty = true then (copyInto (zeros P.bb) 0 key.length key).bind fun buf => some (buf, P.bb)
          else some (zeros P.bb, 0)).bind fun t4 => K { eng := eng, buf := t4.1, buflen := t4.2 }) =
      (Ctx.new_keyed P o key).bind K := by
  unfold Ctx.new_keyed
  rw [if_neg (not_not_intro ho)]
  split
  · rfl
  · rename_i h
    rw [copyInto_setSlice (Nat.zero_add _).symm (by rw [Bytes.zeros_length]; have := Decidable.not_not.mp h; omega)]
    cases Engine.new P o key.length with
    | none => rfl
    | some eng => dsimp only [Option.bind_some]; split <;> rfl

/-- the text of `internal_final` (both context types, b and s) after the constants and `increment_counter` are the model's: the
    counter, the wipe of `buf[buflen..]`, the last block, `h` written over the head of the buffer by `wr` = `write_u64v_le` /
    `write_u32v_le` -/
theorem internal_final_core {W : Type} [Cx.Spec.Blake2.Word W] (P : Cx.Spec.Blake2.Params W)
    (hw : 8 * Cx.Spec.Blake2.wbytes W ≤ P.bb) (c : Ctx W) (hi : Inv P c)
    (wr : Bytes → List W → Option Bytes)
    (hwr : ∀ t ws, wr t ws = if t.length = Cx.Spec.Blake2.wbytes W * ws.length then some (ws.flatMap Cx.Spec.Blake2.toLE) else none) :
    ((Engine.increment_counter .wrapping c.eng (c.buflen % 2 ^ Cx.Spec.Blake2.Word.bits W)).bind fun t1 =>
      (slice c.buf c.buflen c.buf.length).bind fun t2 =>
        (copyInto c.buf c.buflen c.buf.length (zeros t2.length)).bind fun t4 =>
          (slice t4 0 P.bb).bind fun t5 =>
            (slice t4 0 (8 * Cx.Spec.Blake2.wbytes W)).bind fun t7 =>
              (wr t7 (Engine.compress P t1 t5 .Yes).h.toList).bind fun t8 =>
                (copyInto t4 0 (8 * Cx.Spec.Blake2.wbytes W) t8).bind fun t9 =>
                  some ({ eng := Engine.compress P t1 t5 .Yes, buf := t9, buflen := c.buflen } : Ctx W)) =
      Ctx.internal_final P .wrapping c := by
  obtain ⟨hbl, hle⟩ := hi
  have hzl : (zeroFrom c.buf c.buflen).length = c.buf.length := zeroFrom_length _ _ (by omega)
  unfold Ctx.internal_final
  cases Engine.increment_counter Profile.wrapping c.eng (c.buflen % 2 ^ Cx.Spec.Blake2.Word.bits W) with
  | none => rfl
  | some e1 =>
    simp only [Option.bind_some, slice_to_end (show c.buflen ≤ c.buf.length by omega),
      copyInto_zeroFrom (show c.buflen ≤ c.buf.length by omega) rfl,
      slice_take (show P.bb ≤ (zeroFrom c.buf c.buflen).length by omega),
      slice_take (show 8 * Cx.Spec.Blake2.wbytes W ≤ (zeroFrom c.buf c.buflen).length by omega), hwr]
    rw [if_pos (by simp; omega), Option.bind_some, copyInto_setSlice (by rw [hbytes_length, Nat.zero_add]) (by rw [hbytes_length]; omega)]
    rfl

/-- the common part of the `finalize_*_at` (three per context type; twelve users): the length assert, `internal_final`, the digest copied out of the head of the
    buffer into the whole of `out`; `k` is what the function does afterwards with the context and the digest -/
theorem finalize_prefix {α W : Type} [Cx.Spec.Blake2.Word W] (P : Cx.Spec.Blake2.Params W) (hw : 8 * Cx.Spec.Blake2.wbytes W ≤ P.bb)
    (hmo : P.maxOut ≤ P.bb) (c : Ctx W) (out : Bytes) (n : Nat) (hi : Inv P c) (hn : n ≤ P.maxOut) (k : Ctx W → Bytes → Option α) :
    (if ¬ out.length = n then none else
      (Ctx.internal_final P .wrapping c).bind fun c' =>
        (slice c'.buf 0 out.length).bind fun t3 => (copyInto out 0 out.length t3).bind fun o => k c' o) =
    if out.length ≠ n then none else (Ctx.internal_final P .wrapping c).bind fun c' => k c' (c'.buf.take out.length) := by
  by_cases hl : out.length = n
  · rw [if_neg (not_not_intro hl), if_neg (not_not_intro hl)]
    cases hf : Ctx.internal_final P .wrapping c with
    | none => rfl
    | some c' =>
      have hi' := internal_final_inv P .wrapping hw c c' hi hf
      rw [Option.bind_some, Option.bind_some, slice_take (by rw [hi'.1]; omega), Option.bind_some,
        copyInto_all (by rw [List.length_take, hi'.1]; omega), Option.bind_some]
  · rw [if_pos hl, if_pos hl]

/-- the `while input.len() > BLOCK_BYTES` loop of `update_mut` against the model's fuel recursion, for any state type `σ`
    that holds an engine (`Context<BITS>`, `ContextDyn`, b or s): `hstep` is the text of the loop body -/
theorem update_loop_tie {σ W : Type} [Cx.Spec.Blake2.Word W] (P : Cx.Spec.Blake2.Params W) (hbb : 0 < P.bb)
    (eng : σ → Engine W) (setEng : σ → Engine W → σ)
    (step : σ × Bytes → Option ((σ × Bytes) × Bool))
    (hstep : ∀ s input, step (s, input) =
      if input.length > P.bb then
        (Engine.increment_counter .wrapping (eng s) P.bb).bind fun e => (slice input 0 P.bb).bind fun t =>
          (sliceFrom input P.bb).bind fun input' => some ((setEng s (e.compress P t .No), input'), true)
      else some ((s, input), false))
    (heng : ∀ s e, eng (setEng s e) = e) (hset : ∀ s e e', setEng (setEng s e) e' = setEng s e') (hself : ∀ s, setEng s (eng s) = s) :
    ∀ (m n : Nat) (s : σ) (input : Bytes), input.length < m → input.length ≤ n →
      whileLoop step m (s, input) = (Ctx.update_loop P .wrapping n (eng s) input).bind fun p => some (setEng s p.1, p.2) := by
  intro m
  induction m with
  | zero => intro n s input h; omega
  | succ m ih =>
    intro n s input hm hn
    rw [whileLoop, hstep]
    by_cases hlen : input.length > P.bb
    · rw [if_pos hlen]
      cases n with
      | zero => omega
      | succ n =>
        rw [Ctx.update_loop, if_pos hlen]
        cases Engine.increment_counter .wrapping (eng s) P.bb with
        | none => rfl
        | some e1 =>
          rw [Option.bind_some, slice_take (Nat.le_of_lt hlen), Option.bind_some, sliceFrom_eq (Nat.le_of_lt hlen), Option.bind_some]
          show whileLoop step m _ = _
          rw [ih n _ _ (by rw [List.length_drop]; omega) (by rw [List.length_drop]; omega), heng]
          simp only [hset]
    · rw [if_neg hlen]
      cases n with
      | zero => simp [Ctx.update_loop, hself]
      | succ n => simp [Ctx.update_loop, hlen, hself]

/-- `update_mut` of `Context<BITS>` and of `ContextDyn` (b or s) against the model: `σ` is the context type, `get`/`set` its
    `Ctx` field, `hf` the text of the function, `hstep` the text of its loop body -/
theorem update_mut_tie {σ W : Type} [Cx.Spec.Blake2.Word W] (P : Cx.Spec.Blake2.Params W) (hbb : 0 < P.bb) (h63 : P.bb < 2 ^ 63)
    (get : σ → Ctx W) (set : σ → Ctx W → σ)
    (hgs : ∀ s c, get (set s c) = c) (hss : ∀ s c c', set (set s c) c' = set s c') (hsg : ∀ s, set s (get s) = s)
    (step : Nat → σ × Bytes → Option ((σ × Bytes) × Bool)) (f : σ → Bytes → Option σ)
    (hstep : ∀ fill s input, step fill (s, input) =
      if input.length > P.bb then
        (Engine.increment_counter .wrapping (get s).eng P.bb).bind fun e => (slice input 0 P.bb).bind fun t =>
          (sliceFrom input P.bb).bind fun input' => some ((set s { get s with eng := e.compress P t .No }, input'), true)
      else some ((s, input), false))
    (hf : ∀ self input, f self input = do
      if input.isEmpty = true then pure self else
      let fill ← usub P.bb (get self).buflen
      let t2 ← (if input.length > fill then do
          let t3 ← slice input 0 fill
          let t4 ← usizechk ((get self).buflen + fill)
          let t5 ← copyInto (get self).buf (get self).buflen t4 t3
          let self := set self { get self with buf := t5 }
          let self := set self { get self with buflen := 0 }
          let t6 ← Engine.increment_counter .wrapping (get self).eng P.bb
          let self := set self { get self with eng := t6 }
          let t7 ← slice (get self).buf 0 P.bb
          let t8 := Engine.compress P (get self).eng t7 LastBlock.No
          let self := set self { get self with eng := t8 }
          let input ← sliceFrom input fill
          let t10 ← whileLoop (step fill) (input.length + 1) (self, input)
          let self := t10.1
          let input := t10.2
          pure (self, input)
        else do
          pure (self, input))
      let self := t2.1
      let input := t2.2
      let t15 ← usizechk ((get self).buflen + input.length)
      let t16 ← copyInto (get self).buf (get self).buflen t15 input
      let self := set self { get self with buf := t16 }
      let t17 ← usizechk ((get self).buflen + input.length)
      let self := set self { get self with buflen := t17 }
      pure self)
    (s : σ) (input : Bytes) (hi : Inv P (get s)) :
    f s input = (Ctx.update_mut P .wrapping (get s) input).bind fun c => some (set s c) := by
  obtain ⟨hbl, hle⟩ := hi
  have hloop := fun fill => update_loop_tie P hbb (fun s => (get s).eng) (fun s e => set s { get s with eng := e }) (step fill)
    (hstep fill) (by simp [hgs]) (by simp [hgs, hss]) (by simp [hsg])
  rw [hf]
  unfold Ctx.update_mut
  simp only [Option.bind_eq_bind, Option.pure_def]
  by_cases he : input.isEmpty = true
  · simp [he, hsg]
  · simp only [he, if_false, usub_of_le hle, Option.bind_some, Bool.false_eq_true]
    by_cases hfill : input.length > P.bb - (get s).buflen
    · simp only [hfill, if_true]
      rw [slice_take (Nat.le_of_lt hfill), Option.bind_some, Sponge.usizechk_of_lt (by omega), Option.bind_some,
        copyInto_setSlice (by rw [List.length_take]; omega) (by rw [List.length_take]; omega), Option.bind_some]
      simp only [hgs, hss]
      cases hinc : Engine.increment_counter Profile.wrapping (get s).eng P.bb with
      | none => simp
      | some e1 =>
        have hsl := setSlice_length (get s).buf (get s).buflen (input.take (P.bb - (get s).buflen)) (by rw [List.length_take]; omega)
        simp only [Option.bind_some, slice_take (show P.bb ≤ _ by rw [hsl]; omega), sliceFrom_eq (Nat.le_of_lt hfill)]
        rw [hloop _ _ (input.drop (P.bb - (get s).buflen)).length _ _ (by omega) (Nat.le_refl _)]
        simp only [hgs, hss]
        split
        · rename_i hl
          rw [hl]
          rfl
        · rename_i e2 rest hl
          have hrest := update_loop_rest P Profile.wrapping hbb _ _ _ _ _ (Nat.le_refl _) hl
          rw [hl]
          simp only [Option.bind_some, hgs, hss]
          rw [Sponge.usizechk_of_lt (by omega), Option.bind_some, copyInto_setSlice rfl (by omega)]
          simp
    · simp only [hfill, if_false, Option.bind_some, hgs]
      rw [Sponge.usizechk_of_lt (by omega), Option.bind_some, copyInto_setSlice rfl (by omega)]
      simp [hss]

namespace B

theorem bb_eq : b.bb = 128 := rfl

/-- invariant of `ContextDyn`: the buffer invariant and `outlen ≤ MAX_OUTLEN` (asserted by `new`/`new_keyed`, never changed) -/
def DynInv (d : ContextDyn UInt64) : Prop := Inv b d.ctx ∧ d.outlen ≤ b.maxOut

end B

namespace S

theorem bb_eq : s.bb = 64 := rfl

def DynInv (d : ContextDyn UInt32) : Prop := Inv s d.ctx ∧ d.outlen ≤ s.maxOut

end S

end Cx.Proofs.GlueSponge
