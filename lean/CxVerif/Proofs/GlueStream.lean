/-
  Proofs.GlueStream — helper lemmas for the translator tie of the stateful glue (Props/C04/GlueTieStream.lean):
  * the raw-pointer loop of `cryptoutil::xor_keystream_mut` (index loop over `isize`, `getUB`/`setUB`) is the bytewise xor of the
    model and never leaves the buffers;
  * the `while i < len` loop of `process_mut` (index `i` into the whole buffer, checked usize arithmetic, slice bounds tests,
    write-back of the processed sub-slice) is the model's recursion on the unprocessed rest of the data, for every context, every
    buffer shorter than 2^64 and every offset (also the out-of-invariant offsets > 64, where both panic);
  * asserts as generated against the model's tests (`guard_eq`, `guard_not_eq`, `guard_pos`, `assert_eq_len`), `ite_bool_id`, and the
    length block of the AEAD (`len_block`).
  `condG`/`bodyG` are the loop condition / body that the five context types share textually (over the type's `update`); the
  Props file proves `<T>.process_mut_loop1_body_src = bodyG (StreamCtx.update (<T>.gen …))` by `rfl` for each type (the generated text
  calls `<T>.update_src`, which is the model's `update` by `rfl`), so a source change in one copy breaks that copy's tie.
-/
import CxVerif.Extracted.GlueStream
import CxVerif.Proofs.StreamCtx
namespace Cx.Proofs.GlueStream
open Cx.Impl Cx.Impl.StreamCtx Cx.Extracted.GlueStream Cx.Proofs.Stream

theorem addChk_ok {a b : Nat} (h : a + b < 2 ^ 64) : addChk a b = .ok (a + b) := if_pos h
theorem subChk_ok {a b : Nat} (h : b ≤ a) : subChk a b = .ok (a - b) := if_pos h
theorem addChk_eq_addU64 (a b : Nat) : addChk a b = Impl.Aead.addU64 a b := rfl

theorem xor_loop (ks : Bytes) : ∀ (n i : Nat) (buf : Bytes), i + n = buf.length → buf.length ≤ ks.length →
    forN (xor_keystream_mut_loop1_body_src ks) n (i : Int) buf
      = .ok (buf.take i ++ List.zipWith (· ^^^ ·) (buf.drop i) (ks.drop i)) := by
  intro n
  induction n with
  | zero =>
    intro i buf h1 h2
    have : i = buf.length := by omega
    subst this
    simp [forN]
  | succ n ih =>
    intro i buf h1 h2
    have hi : i < buf.length := by omega
    have hk : i < ks.length := by omega
    have hb : xor_keystream_mut_loop1_body_src ks (i : Int) buf = .ok (buf.set i (buf[i] ^^^ ks[i])) := by
      simp [xor_keystream_mut_loop1_body_src, getUB, setUB, hi, hk]
    rw [forN, hb]
    simp only []
    have := ih (i + 1) (buf.set i (buf[i] ^^^ ks[i])) (by simp; omega) (by simpa using h2)
    rw [show ((i : Int) + 1) = ((i + 1 : Nat) : Int) by simp, this]
    congr 1
    -- the byte just written moves from the rest to the finished part
    rw [List.drop_eq_getElem_cons hi, List.drop_eq_getElem_cons hk, List.zipWith_cons_cons, List.drop_set_of_lt (by omega),
      List.take_add_one, List.take_set_of_le (Nat.le_refl i)]
    simp [hi]

theorem xor_keystream_mut_src_eq (buf ks : Bytes) (h : buf.length < 2 ^ 63) :
    xor_keystream_mut_src buf ks = StreamCtx.xor_keystream_mut buf ks := by
  unfold xor_keystream_mut_src StreamCtx.xor_keystream_mut
  by_cases hle : buf.length ≤ ks.length
  · simp only [hle, not_true_eq_false, if_false, if_true]
    have hu : usizeToIsize buf.length = (buf.length : Int) := by
      rw [usizeToIsize, Nat.mod_eq_of_lt (by omega), if_pos h]
    rw [forRangeI, hu]
    have := xor_loop ks buf.length 0 buf (by simp) hle
    simp only [Int.sub_zero, Int.toNat_natCast]
    simp only [List.take_zero, List.nil_append, List.drop_zero, Int.cast_ofNat_Int] at this
    rw [this]
  · simp [hle]

variable {σ : Type}

def condG (len : Nat) (st : Ctx σ × Bytes × Nat) : Bool :=
  match st with
  | (_, _, i) =>
  decide (i < len)

def bodyG (upd : Ctx σ → Ctx σ) (len : Nat) (st : Ctx σ × Bytes × Nat) : Except String (Ctx σ × Bytes × Nat) :=
  match st with
  | (self, data, i) =>
  let self :=
    if self.offset = 64 then
      let self := upd self
      self
    else
      self
  match subChk 64 self.offset with
  | .error e => .error e
  | .ok t1 =>
  match subChk len i with
  | .error e => .error e
  | .ok t2 =>
  let count := min t1 t2
  match addChk i count with
  | .error e => .error e
  | .ok t3 =>
  if ¬ (i ≤ t3 ∧ t3 ≤ data.length) then .error "PANIC" else
  if ¬ (self.offset ≤ 64) then .error "PANIC" else
  match xor_keystream_mut_src ((data.drop i).take (t3 - i)) (self.output.drop self.offset) with
  | .error e => .error e
  | .ok t4 =>
  let data := data.take i ++ t4 ++ data.drop t3
  match addChk i count with
  | .error e => .error e
  | .ok t5 =>
  let i := t5
  match addChk self.offset count with
  | .error e => .error e
  | .ok t6 =>
  let self := { self with offset := t6 }
  .ok (self, data, i)

theorem xor_ok_length (buf ks out : Bytes) (h : xor_keystream_mut buf ks = .ok out) : out.length = buf.length := by
  unfold xor_keystream_mut at h
  split at h
  · cases h; simp; omega
  · cases h

/-- one iteration in closed form.  The buffer is `pre ++ rest` with the index at `pre.length`; `c1` is the context after the
    optional refill, `cnt` the number of bytes this iteration handles. -/
theorem bodyG_step (g : BlockGen σ) (c : Ctx σ) (pre rest : Bytes) (L : Nat) (hL : L = pre.length + rest.length) (hlen : L < 2 ^ 64)
    (c1 : Ctx σ) (hc1 : c1 = if c.offset = 64 then update g c else c) (hlt : c1.offset < 64)
    (cnt : Nat) (hcnt : cnt = min (64 - c1.offset) rest.length) :
    bodyG (update g) L (c, pre ++ rest, pre.length) =
      (match xor_keystream_mut (rest.take cnt) (c1.output.drop c1.offset) with
       | .error e => .error e
       | .ok out => .ok ({ c1 with offset := c1.offset + cnt }, pre ++ out ++ rest.drop cnt, pre.length + cnt)) := by
  have h1 : min (64 - c1.offset) (L - pre.length) = cnt := by omega
  have e1 : c1.offset ≤ 64 := by omega
  have e2 : pre.length ≤ L := by omega
  have e3 : pre.length + cnt < 2 ^ 64 := by omega
  have e4 : pre.length ≤ pre.length + cnt ∧ pre.length + cnt ≤ (pre ++ rest).length := by
    rw [List.length_append]; omega
  have e5 : c1.offset + cnt < 2 ^ 64 := by omega
  have hd : (pre ++ rest).drop (pre.length + cnt) = rest.drop cnt := by rw [← List.drop_drop, List.drop_left]
  have hx := xor_keystream_mut_src_eq (rest.take cnt) (c1.output.drop c1.offset) (by rw [List.length_take]; omega)
  -- every checked operation and bounds test of the body succeeds (`e1`–`e5`)
  simp only [bodyG, ← hc1, subChk_ok e1, subChk_ok e2, h1, addChk_ok e3, addChk_ok e5, e1, e4, and_self, not_true_eq_false,
    if_false, hd, List.drop_left, List.take_left, Nat.add_sub_cancel_left, hx]

/-- **the `while` loop of `process_mut` is the model's recursion on the unprocessed rest**: with the buffer `pre ++ rest` and
    the index at `pre.length`, the loop leaves `pre` alone and handles `rest` as `process_mut` does -/
theorem loop_eq (g : BlockGen σ) (L : Nat) (hlen : L < 2 ^ 64) : ∀ (n : Nat) (c : Ctx σ) (pre rest : Bytes),
    rest.length ≤ n → L = pre.length + rest.length →
    whileFuel (condG L) (bodyG (update g) L) n (c, pre ++ rest, pre.length) =
      (match process_mut g c rest with
       | .error e => .error e
       | .ok (c', out) => .ok (c', pre ++ out, L)) := by
  intro n
  induction n with
  | zero =>
    intro c pre rest h1 hL
    have : rest = [] := List.eq_nil_of_length_eq_zero (by omega)
    subst this
    simp [whileFuel, condG, process_mut_nil, hL]
  | succ n ih =>
    intro c pre rest h1 hL
    cases rest with
    | nil => simp [whileFuel, condG, process_mut_nil, hL]
    | cons d ds =>
      have hc : condG L (c, pre ++ d :: ds, pre.length) = true := by simp [condG, hL]
      rw [whileFuel, if_pos hc]
      obtain ⟨c1, hc1⟩ : ∃ c1, c1 = if c.offset = 64 then update g c else c := ⟨_, rfl⟩
      by_cases hlt : c1.offset < 64
      · rw [List.length_cons] at hL h1
        obtain ⟨cnt, hcnt⟩ : ∃ cnt, cnt = min (64 - c1.offset) (ds.length + 1) := ⟨_, rfl⟩
        rw [bodyG_step g c pre (d :: ds) L (by rw [List.length_cons]; exact hL) hlen c1 hc1 hlt cnt hcnt,
          process_mut_cons g c d ds c1 hc1 hlt, ← hcnt]
        cases hx : xor_keystream_mut ((d :: ds).take cnt) (c1.output.drop c1.offset) with
        | error e => rfl
        | ok out =>
          have hol : out.length = cnt := by
            rw [xor_ok_length _ _ _ hx, List.length_take, List.length_cons]; omega
          have hi : pre.length + cnt = (pre ++ out).length := by rw [List.length_append, hol]
          simp only []
          have hr : ((d :: ds).drop cnt).length = ds.length + 1 - cnt := by rw [List.length_drop, List.length_cons]
          rw [hi, ih _ (pre ++ out) ((d :: ds).drop cnt) (by omega) (by omega)]
          cases process_mut g { c1 with offset := c1.offset + cnt } ((d :: ds).drop cnt) with
          | error e => rfl
          | ok r => simp only [List.append_assoc]
      · have hne : c1.offset ≠ 64 := by
          rw [hc1]
          split
          · simp [update]
          · assumption
        -- an out-of-range offset panics in both
        have hp : bodyG (update g) L (c, pre ++ d :: ds, pre.length) = .error "PANIC" := by
          simp only [bodyG, ← hc1, subChk]
          rw [if_neg (by omega)]
        rw [hp, process_mut]
        simp only [← hc1, hlt, dite_false]

/-- the whole loop of `process_mut` as generated (fuel `len - 0`, from index 0) -/
theorem loop0 (g : BlockGen σ) (c : Ctx σ) (data : Bytes) (h : data.length < 2 ^ 64) :
    whileFuel (condG data.length) (bodyG (update g) data.length) (data.length - 0) (c, data, 0) =
      (match process_mut g c data with
       | .error e => .error e
       | .ok (c', out) => .ok (c', out, data.length)) :=
  loop_eq g data.length h _ c [] data (by omega) (by simp)

/-- an `assert!(p)` as generated, against the same test in the model: what follows is compared under `p` -/
theorem guard_eq {α : Type} {p : Prop} [Decidable p] {x y : Except String α} (h : p → x = y) :
    (if ¬ p then .error "PANIC" else x) = (if ¬ p then .error "PANIC" else y) := by
  by_cases hp : p
  · rw [if_neg (not_not_intro hp), if_neg (not_not_intro hp), h hp]
  · rw [if_pos hp, if_pos hp]
/-- an `assert!(!p)` as generated, against `if p then panic` in the model -/
theorem guard_not_eq {α : Type} {p : Prop} [Decidable p] {x y : Except String α} (h : ¬ p → x = y) :
    (if ¬ ¬ p then .error "PANIC" else x) = (if p then .error "PANIC" else y) := by
  by_cases hp : p
  · rw [if_pos (not_not_intro hp), if_pos hp]
  · rw [if_neg (not_not_intro hp), if_neg hp, h hp]
theorem guard_pos {α : Type} {p : Prop} [Decidable p] (h : p) (msg : String) (x : Except String α) :
    (if ¬ p then .error msg else x) = x := by simp [h]

/-- `assert_eq!(input.len(), output.len())` as generated (both orientations are tested) -/
theorem assert_eq_len {α : Type} (a b : Nat) (x : Except String α) :
    (if ¬ (a = b) then .error "PANIC" else if ¬ (b = a) then .error "PANIC" else x) = if a = b then x else .error "PANIC" := by
  by_cases h : a = b
  · rw [if_neg (not_not_intro h), if_neg (not_not_intro h.symm), if_pos h]
  · rw [if_pos h, if_neg h]

/-- `if a == b { Match } else { MisMatch }` as generated -/
theorem ite_bool_id (b : Bool) : (if b = true then true else false) = b := by cases b <;> rfl

/-- the length block of `finalize_raw` as generated: two 8-byte writes into a zeroed 16-byte array -/
theorem len_block (a d : Nat) :
    (natToLE 8 a ++ (zeros 16).drop 8).take 8 ++ natToLE 8 d = natToLE 8 a ++ natToLE 8 d := by
  rw [List.take_left' (Bytes.natToLE_length 8 a)]

end Cx.Proofs.GlueStream
