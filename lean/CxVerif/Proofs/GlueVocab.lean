/-
  Proofs.GlueVocab — the vocabulary of the glue translators, once.  The generated files spell the Rust slice operations
  with several constants of the same text (`Cx.Glue.*` of Util/GlueRt.lean, `Cx.Impl.slice`/`copy_from_slice`,
  `Extracted.GlueSponge.slice`/`copyInto`, `Extracted.GlueRest.*`, `Impl.Sha3.idx`/`upd`); each of them is `rfl`-equal to its
  `Cx.Glue` form, so the facts are stated here about `Cx.Glue.*` only and an area keeps its one-line bridges.  The checked
  arithmetic (`usizechk`, `wordchk w`, `chk w`, `usub`) is `if v < M then some v else none` / `if b ≤ a then some (a - b) else none`
  under every name, and is spoken of in that form.  `splice` is the total operation behind every store into a window
  (`copy_from_slice` in range, `set_index`, the hand models' `setSlice`); `setRange` is a run of single stores that the source
  wrote out one by one (the loops of Proofs/GlueMd.lean, GlueRest.lean, GlueCurve.lean are stated with them).  A counted loop
  `forRange` is a `foldlM` over `range'`: `IsForRange` says that a function has the two unfolding equations of the generated
  combinator, and the Hoare rule and the closed form of a loop of stores are proved about the `foldlM`.  Proofs/GlueRest.lean
  instantiates it; the loops of Proofs/GlueSponge.lean run against recursions of the hand model and use the unfolding equation
  (`forRange_succ`) directly.  One shape of `Option` text is here too: the optional call, `bind_ite_some`.
-/
import CxVerif.Util.GlueRt
import CxVerif.Proofs.ByteLemmas
namespace Cx.Proofs.GlueVocab

section prims
variable {α : Type} {a d s t : List α} {lo hi n i : Nat} {v : α}

/-! ### `&a[lo..hi]` -/

theorem slice_eq_some_iff : Glue.slice a lo hi = some t ↔ lo ≤ hi ∧ hi ≤ a.length ∧ t = (a.drop lo).take (hi - lo) := by
  unfold Glue.slice
  split
  · simp_all [eq_comm]
  · rename_i h; simp only [reduceCtorEq, false_iff]; exact fun ⟨h1, h2, _⟩ => h ⟨h1, h2⟩

theorem slice_ok (h1 : lo ≤ hi) (h2 : hi ≤ a.length) : Glue.slice a lo hi = some ((a.drop lo).take (hi - lo)) :=
  if_pos ⟨h1, h2⟩

theorem slice_none (h : a.length < hi) : Glue.slice a lo hi = none := if_neg (by omega)

theorem slice_length (h : Glue.slice a lo hi = some t) : t.length = hi - lo := by
  obtain ⟨_, _, rfl⟩ := slice_eq_some_iff.mp h
  rw [List.length_take, List.length_drop]; omega

theorem slice_at (h : lo + n ≤ a.length) : Glue.slice a lo (lo + n) = some ((a.drop lo).take n) := by
  rw [slice_ok (Nat.le_add_right _ _) h, Nat.add_sub_cancel_left]

theorem slice_prefix (h : n ≤ a.length) : Glue.slice a 0 n = some (a.take n) := slice_ok (Nat.zero_le _) h

theorem slice_suffix (h : lo ≤ a.length) : Glue.slice a lo a.length = some (a.drop lo) := by
  rw [slice_ok h (Nat.le_refl _), List.take_of_length_le (by rw [List.length_drop]; omega)]

/-! ### `d[lo..hi].copy_from_slice(s)` -/

theorem copy_eq_some_iff {d' : List α} : Glue.copy_from_slice d lo hi s = some d' ↔
    lo ≤ hi ∧ hi ≤ d.length ∧ s.length = hi - lo ∧ d' = d.take lo ++ s ++ d.drop hi := by
  unfold Glue.copy_from_slice; split <;> simp_all [eq_comm]

theorem copy_ok (h1 : lo ≤ hi) (h2 : hi ≤ d.length) (h3 : s.length = hi - lo) :
    Glue.copy_from_slice d lo hi s = some (d.take lo ++ s ++ d.drop hi) := if_pos ⟨h1, h2, h3⟩

theorem copy_none (h : d.length < hi ∨ s.length ≠ hi - lo) : Glue.copy_from_slice d lo hi s = none := if_neg (by omega)

theorem copy_full (h : s.length = d.length) : Glue.copy_from_slice d 0 d.length s = some s := by
  rw [copy_ok (Nat.zero_le _) (Nat.le_refl _) h]; simp

/-! ### `a[i]`, `a[i] = v` -/

theorem index_lt (h : Glue.index a i = some v) : i < a.length := (List.getElem?_eq_some_iff.mp h).1

theorem index_ok (h : i < a.length) : Glue.index a i = some a[i] := List.getElem?_eq_getElem h

theorem set_index_ok (h : i < a.length) : Glue.set_index a i v = some (a.set i v) := if_pos h

theorem set_index_length {a' : List α} (h : Glue.set_index a i v = some a') : a'.length = a.length := by
  unfold Glue.set_index at h; split at h <;> cases h; exact List.length_set ..

/-! ### `[c; n]` -/

theorem fill_length (n : Nat) (c : α) : (Glue.fill n c).length = n := List.length_replicate

end prims

theorem chk_of_lt {M v : Nat} (h : v < M) : (if v < M then some v else none) = some v := if_pos h

theorem chk_eq_some_iff {M v w : Nat} : (if v < M then some v else none) = some w ↔ w = v ∧ v < M := by
  split
  · simp_all [eq_comm]
  · rename_i h; simp only [reduceCtorEq, false_iff]; exact fun ⟨_, h'⟩ => h h'

theorem usub_of_le {a b : Nat} (h : b ≤ a) : (if b ≤ a then some (a - b) else none) = some (a - b) := if_pos h

/-- `if c { x = f(x) }`: the hand models repeat what follows in both branches, the source binds the result of the
    branch -/
theorem bind_ite_some {α β : Type} (c : Prop) [Decidable c] (x : Option α) (e : α) (K : α → Option β) :
    (if c then x.bind K else K e) = (if c then x else some e).bind K := by split <;> rfl

section splice
variable {α : Type}

def splice (l : List α) (lo : Nat) (w : List α) : List α := l.take lo ++ w ++ l.drop (lo + w.length)

theorem splice_length {l w : List α} {lo : Nat} (h : lo + w.length ≤ l.length) : (splice l lo w).length = l.length := by
  simp only [splice, List.length_append, List.length_take, List.length_drop]; omega

theorem splice_nil (l : List α) (lo : Nat) : splice l lo [] = l := by
  simp [splice]

theorem splice_all {l w : List α} (h : w.length = l.length) : splice l 0 w = w := by
  simp [splice, h]

theorem copy_splice {d s : List α} {lo hi : Nat} (hhi : hi = lo + s.length) (h : hi ≤ d.length) :
    Glue.copy_from_slice d lo hi s = some (splice d lo s) := by
  subst hhi; exact copy_ok (Nat.le_add_right _ _) h (by omega)

theorem set_eq_splice {l : List α} {i : Nat} {v : α} (h : i < l.length) : l.set i v = splice l i [v] := by
  rw [splice, List.set_eq_take_append_cons_drop, if_pos h]; simp

theorem splice_splice {l a b : List α} {lo : Nat} (h : lo + a.length ≤ l.length) :
    splice (splice l lo a) (lo + a.length) b = splice l lo (a ++ b) := by
  have h1 : (l.take lo).length = lo := by rw [List.length_take]; omega
  have h2 : (l.take lo ++ a).length = lo + a.length := by rw [List.length_append, h1]
  unfold splice
  rw [List.take_left' h2, List.drop_append, h2, List.drop_of_length_le (by rw [h2]; omega), List.nil_append, List.drop_drop,
    List.length_append, List.append_assoc _ a b,
    show lo + a.length + (lo + a.length + b.length - (lo + a.length)) = lo + (a.length + b.length) by omega]

theorem set_splice {l b : List α} {i : Nat} {v : α} (h : i < l.length) : splice (l.set i v) (i + 1) b = splice l i (v :: b) := by
  rw [set_eq_splice h]; exact splice_splice (a := [v]) h

theorem splice_zero (l w : List α) : splice l 0 w = w ++ l.drop w.length := by
  simp [splice]

/-- the stores `l[base + k] = f k` for `k = 0 .. n-1`, in this order (an unrolled loop of the source) -/
def setRange (f : Nat → α) (base : Nat) : Nat → List α → List α
  | 0, l => l
  | n + 1, l => (setRange f base n l).set (base + n) (f n)

theorem setRange_eq_splice (f : Nat → α) (base : Nat) (l : List α) : ∀ n, base + n ≤ l.length →
    setRange f base n l = splice l base ((List.range n).map f)
  | 0, _ => by simp [setRange, splice_nil]
  | n + 1, h => by
    have hl : base + ((List.range n).map f).length ≤ l.length := by simp; omega
    rw [setRange, setRange_eq_splice f base l n (by omega), set_eq_splice (by rw [splice_length hl]; omega),
      List.range_succ, List.map_append, List.map_singleton]
    have e := splice_splice (b := [f n]) hl
    rwa [List.length_map, List.length_range] at e

/-- the closed forms speak of `(List.range n).map g`; a model that builds a `Vector.ofFn` meets them through this -/
theorem map_range_eq_ofFn (g : Nat → α) (n : Nat) : (List.range n).map g = List.ofFn fun k : Fin n => g k :=
  List.ext_getElem (by simp) fun j h1 h2 => by simp

end splice

/-! ### `for i in lo..lo+n` -/

section loops
variable {σ : Type}

def IsForRange (fr : (Nat → σ → Option σ) → Nat → Nat → σ → Option σ) : Prop :=
  ∀ body lo st, fr body 0 lo st = some st ∧ ∀ n, fr body (n + 1) lo st = (body lo st).bind (fr body n (lo + 1))

theorem IsForRange.eq_foldlM {fr} (h : IsForRange (σ := σ) fr) (body : Nat → σ → Option σ) :
    ∀ (n lo : Nat) (st : σ), fr body n lo st = (List.range' lo n).foldlM (fun s i => body i s) st := by
  intro n
  induction n with
  | zero => intro lo st; exact (h body lo st).1
  | succ n ih =>
    intro lo st
    rw [(h body lo st).2, List.range'_succ, List.foldlM_cons]
    exact Option.bind_congr fun s _ => ih (lo + 1) s

/-- Hoare rule of the counted loop: `P i` holds of the state before round `i` -/
theorem foldlM_range'_inv (body : Nat → σ → Option σ) (P : Nat → σ → Prop) :
    ∀ (n lo : Nat) (st : σ), P lo st →
      (∀ i s, lo ≤ i → i < lo + n → P i s → ∃ s', body i s = some s' ∧ P (i + 1) s') →
      ∃ s', (List.range' lo n).foldlM (fun s i => body i s) st = some s' ∧ P (lo + n) s' := by
  intro n
  induction n with
  | zero => intro lo st h _; exact ⟨st, rfl, h⟩
  | succ n ih =>
    intro lo st h hb
    obtain ⟨s1, e1, p1⟩ := hb lo st (Nat.le_refl _) (by omega) h
    obtain ⟨s2, e2, p2⟩ := ih (lo + 1) s1 p1 fun i s h1 h2 hp => hb i s (by omega) (by omega) hp
    refine ⟨s2, ?_, by rwa [show lo + (n + 1) = lo + 1 + n by omega]⟩
    rw [List.range'_succ, List.foldlM_cons, e1]; exact e2

/-- a counted loop that stores the window `g i` (of width `w`) at `w * i` in round `i` leaves the windows side by side -/
theorem foldlM_range'_slots {α : Type} (w n : Nat) (body : Nat → List α → Option (List α)) (g : Nat → List α)
    (hg : ∀ i, (g i).length = w) (r : List α) (hr : w * n ≤ r.length)
    (hb : ∀ i out, i < n → out.length = r.length → body i out = some (splice out (w * i) (g i))) :
    (List.range' 0 n).foldlM (fun s i => body i s) r = some (splice r 0 ((List.range n).flatMap g)) := by
  have hlen : ∀ k, ((List.range k).flatMap g).length = w * k := fun k => by
    rw [Bytes.length_flatMap_const g w hg, List.length_range]
  obtain ⟨r', e, _, ht⟩ := foldlM_range'_inv body
    (fun i out => out.length = r.length ∧ out = splice r 0 ((List.range i).flatMap g)) n 0 r ⟨rfl, by simp [splice_nil]⟩
    (by
      intro i out _ hi ⟨hl, ho⟩
      have hwi : w * i + w ≤ r.length := by
        have := Nat.mul_le_mul_left w (show i + 1 ≤ n by omega)
        rw [Nat.mul_succ] at this; omega
      refine ⟨_, hb i out (by omega) hl, ?_, ?_⟩
      · rw [splice_length (by rw [hg, hl]; exact hwi), hl]
      · rw [ho, List.range_succ, List.flatMap_append, List.flatMap_singleton]
        have := splice_splice (l := r) (lo := 0) (a := (List.range i).flatMap g) (b := g i) (by rw [hlen]; omega)
        rwa [Nat.zero_add, hlen] at this)
  rw [e, ht, Nat.zero_add]

end loops

end Cx.Proofs.GlueVocab
