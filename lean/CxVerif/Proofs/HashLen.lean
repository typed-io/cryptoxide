/-
  Proofs.HashLen — unit `hashlen`: the Merkle–Damgård contexts with the byte counter preset to a block-aligned `N`
  (the verification hook `verif_set_processed_bytes`), then `update(m)` and `finalize`, compute the Spec's tail digest.

  `eng_tail` is that run for ANY Merkle–Damgård engine (`Md.Eng`, Proofs/MdRefine.lean), from any live state with an empty
  buffer and a counter congruent to a block-aligned `N0`: one `input`, then the finish, give the Spec's tail chain for the TOTAL
  length from the chaining value the engine holds.  The length fields are characterised for EVERY counter value (`hlenc`: the
  low 64 / 128 bits of `8·x`), so nothing depends on the counter not wrapping.  The four context families instantiate it.
  `tailHash_append` says what the tail digest means: after the chain over a block-aligned prefix it finishes `MD.hash` of the
  whole.  Core Lean only.
-/
import CxVerif.Proofs.Sha2Engine
import CxVerif.Proofs.Sha1Stream
import CxVerif.Proofs.Ripemd160Stream
import CxVerif.Impl.HashLen
namespace Cx.Proofs.HashLen
open Cx.Impl Cx.Proofs.FB Cx.Spec.HashLen
open Cx.Spec.MD (padZeros)

/-- **what `tailHash` means**: started from the chaining value reached after a block-aligned prefix `P`, it
    finishes the standard hash of `P ‖ m` — provided the total bit length fits the length field (the standard's
    domain), where the reduction `% 2^(8·L)` of the Spec is the identity -/
theorem tailHash_append {σ : Type} {B : Nat} (hB : 0 < B) (L : Nat) (lenEnc : Nat → Bytes)
    (compress : σ → Bytes → σ) (iv : σ) (P m : Bytes) (hP : P.length % B = 0)
    (hdom : 8 * (P.length + m.length) < 2 ^ (8 * L)) :
    tailHash B L lenEnc compress ((fullBlocks B P).foldl compress iv) P.length m
      = Cx.Spec.MD.hash B L lenEnc compress iv (P ++ m) := by
  unfold tailHash tailPad Cx.Spec.MD.hash Cx.Spec.MD.pad
  rw [Nat.mod_eq_of_lt hdom, List.length_append]
  have e : P ++ m ++ [(0x80 : UInt8)] ++ zeros (padZeros B L (P.length + m.length))
        ++ lenEnc (8 * (P.length + m.length))
      = P ++ (m ++ [(0x80 : UInt8)] ++ zeros (padZeros B L (P.length + m.length))
        ++ lenEnc (8 * (P.length + m.length))) := by simp [List.append_assoc]
  rw [e, fullBlocks_append hB P, List.foldl_append, List.eq_nil_of_length_eq_zero ((blockTail_length P).trans hP),
    List.nil_append]

theorem tailHash_zero {σ : Type} {B : Nat} (hB : 0 < B) (L : Nat) (lenEnc : Nat → Bytes) (compress : σ → Bytes → σ)
    (iv : σ) (m : Bytes) (hdom : 8 * m.length < 2 ^ (8 * L)) :
    tailHash B L lenEnc compress iv 0 m = Cx.Spec.MD.hash B L lenEnc compress iv m := by
  have := tailHash_append hB L lenEnc compress iv [] m rfl (by simpa using hdom)
  simpa [fullBlocks, takeBlocks] using this

/-- a big-endian length field of `n` bytes, as the code computes it (`(pb << 3).to_be_bytes()`): inside the standard's
    domain it is the encoding of `8·pb`, `n` bytes, and decodes to `8·pb` -/
theorem lenField_be_exact (n pb : Nat) (h : 8 * pb < 2 ^ (8 * n)) :
    natToBE n (pb * 8 % 2 ^ (8 * n)) = natToBE n (8 * pb) ∧ (natToBE n (pb * 8 % 2 ^ (8 * n))).length = n
    ∧ beNat (natToBE n (pb * 8 % 2 ^ (8 * n))) = 8 * pb := by
  have e : pb * 8 % 2 ^ (8 * n) = 8 * pb := by rw [Nat.mul_comm]; exact Nat.mod_eq_of_lt h
  rw [e, Bytes.beNat_natToBE, show (256 : Nat) ^ n = 2 ^ (8 * n) by rw [Nat.pow_mul]]
  exact ⟨rfl, Bytes.natToBE_length _ _, Nat.mod_eq_of_lt h⟩

theorem eng_tail {ε σ τ : Type} (E : Md.Eng ε σ τ) {e : ε} (N0 : Nat) (m : Bytes)
    (hl : (E.buf e).buffer.length = E.N) (hi : (E.buf e).buffer_idx = 0) (hv : E.live e) (hc : E.cnt e = N0 % E.M) (hN0 : N0 % E.N = 0) :
    ∃ e' b', E.input e m = some e'
      ∧ E.fin e' = some (E.pack e' b' (tailHash E.N E.rem E.lenEnc E.compress (E.st e) N0 m)) := by
  have hd0 : (E.buf e).data = [] := by simp [FixedBuffer.data, hi]
  obtain ⟨e', he, hw', hd', hs', hc', hv'⟩ := Md.input_any E m ⟨hl, hi ▸ E.hN⟩ hv
  obtain ⟨b', eq, _⟩ := Md.fin_any E hw' hv'
  refine ⟨e', b', he, ?_⟩
  rw [hd0, List.nil_append] at hd' hs'
  rw [eq, hd', hs', hc', hc, Nat.mod_add_mod, E.hlenc]
  -- the length field is that of the TOTAL `N0 + |m|`, not of the bytes absorbed: `md_hash_split` with a constant encoder
  have h := md_hash_split E.hN E.rem E.compress (E.st e) (fun _ => E.lenEnc (8 * (N0 + m.length) % 2 ^ (8 * E.rem))) m
  rw [h, tailHash, tailPad, ← padZeros_mod (a := N0 + m.length), Nat.add_mod, hN0, Nat.zero_add, Nat.mod_mod,
    padZeros_mod]
  rfl

open Cx.Impl.HashLen

section sha2
open Cx.Spec.Sha2 Cx.Impl.Sha2 Cx.Proofs.Sha2Engine

theorem hlen256_eq (A : Alg256) (trunc : Bytes → Bytes) (hout : OutOK256 A trunc) (N : Nat) (hN : N % 64 = 0)
    (m : Bytes) : hlen256 A N m = some (trunc (wordsToBytes32 (tail256 A.state N m))) := by
  -- the hook takes a u128 and the engine keeps a u64: the counter starts at `N % 2^128 % 2^64`
  obtain ⟨e', b', he, hf⟩ := eng_tail eng256 (e := (Ctx256.verif_set_processed_bytes (Ctx256.new A) N).engine) N m rfl rfl
    rfl (show N % 2 ^ 128 % 2 ^ 64 = N % 2 ^ 64 by omega) hN
  dsimp only at he hf
  simp only [hlen256, Ctx256.update, he, Ctx256.finalize, hf, hout _, tailHash, foldl_compressE256]
  rfl

theorem hlen512_eq (A : Alg512) (n : Nat) (hout : OutOK512 A n) (N : Nat) (hN : N % 128 = 0)
    (m : Bytes) : hlen512 A N m = some ((wordsToBytes64 (tail512 A.state N m)).take n) := by
  obtain ⟨e', b', he, hf⟩ := eng_tail eng512 (e := (Ctx512.verif_set_processed_bytes (Ctx512.new A) N).engine) N m rfl rfl
    trivial rfl hN
  dsimp only at he hf
  simp only [hlen512, Ctx512.update, he, Ctx512.finalize, hf, hout _, tailHash, foldl_compressE512]
  rfl

end sha2

theorem hlenSha1_eq (N : Nat) (hN : N % 64 = 0) (m : Bytes) :
    hlenSha1 (UInt64.ofNat N) m
      = some ((tailHash 64 8 Cx.Spec.MD.be64 Spec.Sha1.compressBytes Spec.Sha1.H0 N m).toBytes) := by
  open Cx.Impl.Sha1 in
  obtain ⟨e', b', he, hf⟩ := eng_tail Sha1Stream.eng (e := Sha1Ctx.verif_set_processed_bytes Context.new (UInt64.ofNat N))
    N m rfl rfl trivial (by simp [Sha1Ctx.verif_set_processed_bytes]) hN
  dsimp only at he hf
  simp only [hlenSha1, Context.update, he, Context.finalize, hf]
  simp [Sha1Ctx.verif_set_processed_bytes, Context.new, Cx.Proofs.Sha1.H_eq]

theorem hlenRipemd160_eq (N : Nat) (hN : N % 64 = 0) (m : Bytes) :
    hlenRipemd160 (UInt64.ofNat N) m
      = some ((tailHash 64 8 Cx.Spec.MD.le64 Spec.Ripemd160.compressBytes Spec.Ripemd160.H0 N m).toBytes) := by
  open Cx.Impl.Ripemd160 in
  obtain ⟨e', b', he, hf⟩ := eng_tail Ripemd160Stream.eng
    (e := RipemdCtx.verif_set_processed_bytes Context.new (UInt64.ofNat N)) N m rfl rfl trivial
    (by simp [RipemdCtx.verif_set_processed_bytes]) hN
  dsimp only at he hf
  simp only [hlenRipemd160, Context.update, he, Context.finalize, hf]
  simp [RipemdCtx.verif_set_processed_bytes, Context.new, Cx.Proofs.Ripemd160.H_eq]

end Cx.Proofs.HashLen
