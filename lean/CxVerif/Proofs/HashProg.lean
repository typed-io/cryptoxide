/-
  Proofs.HashProg — generic simulation lemma for the operation-history machine `Cx.HashProg.runProg`
  (the function the `hctx.<alg>` driver ops run).  A context family `F` refines the abstract family
  `famSpec hash` (state = bytes since the last reset) as soon as its five methods respect an abstraction
  relation `R ctx msg`; the lemma lifts that to EVERY op history (induction over the op list), including
  clone/fork (`c`), swapping the two copies (`x`), reset, finalize_reset and finalize-of-a-clone.
  `ok msg` is the standard's domain guard (e.g. `msg.length < 2^61`), required only where a digest is produced.

  Core Lean only.
-/
import CxVerif.Impl.HashProg
namespace Cx.Proofs.HashProg
open Cx.HashProg

def StackRel {γ : Type} (R : γ → Bytes → Prop) : List γ → List Bytes → Prop
  | [], [] => True
  | c :: cs, m :: ms => R c m ∧ StackRel R cs ms
  | _, _ => False

/-- every digest of the history is taken inside the domain `ok` (checked on the abstract run) -/
def Guard (ok : Bytes → Prop) : List Op → Bytes → List Bytes → Prop
  | [], _, _ => True
  | .update b :: ops, m, ms => Guard ok ops (m ++ b) ms
  | .update_mut b :: ops, m, ms => Guard ok ops (m ++ b) ms
  | .clone :: ops, m, ms => Guard ok ops m (m :: ms)
  | .swap :: ops, m, [] => Guard ok ops m []
  | .swap :: ops, m, t :: ms => Guard ok ops t (m :: ms)
  | .reset :: ops, _, ms => Guard ok ops [] ms
  | .finalize_reset :: ops, m, ms => ok m ∧ Guard ok ops [] ms
  | .finalize :: ops, m, ms => ok m ∧ Guard ok ops m ms

/-- family `F` refines the abstract family `famSpec hash` under the relation `R ctx msg` ("`ctx` has absorbed `msg` since the last
    reset"): each method keeps `R` and does not panic; a digest is `hash msg`, required only where `ok msg` (the standard's length
    domain) holds.  Instantiated by the SHA-2, SHA-1, RIPEMD-160 contexts; `runProg_sim` lifts it to every operation history. -/
structure Refines {γ : Type} (F : Family γ) (hash : Bytes → Bytes) (R : γ → Bytes → Prop) (ok : Bytes → Prop) : Prop where
  new : R F.new []
  update : ∀ c m b, R c m → ∃ c', F.update c b = some c' ∧ R c' (m ++ b)
  update_mut : ∀ c m b, R c m → ∃ c', F.update_mut c b = some c' ∧ R c' (m ++ b)
  reset : ∀ c m, R c m → R (F.reset c) []
  finalize_reset : ∀ c m, R c m → ok m → ∃ c', F.finalize_reset c = some (c', hash m) ∧ R c' []
  finalize : ∀ c m, R c m → ok m → F.finalize c = some (hash m)

theorem runProg_sim {γ : Type} {F : Family γ} {hash : Bytes → Bytes} {R : γ → Bytes → Prop} {ok : Bytes → Prop}
    (h : Refines F hash R ok) :
    ∀ (ops : List Op) (cur : γ) (stack : List γ) (out : List Bytes) (m : Bytes) (ms : List Bytes),
      R cur m → StackRel R stack ms → Guard ok ops m ms →
      runProg F ops cur stack out = runProg (famSpec hash) ops m ms out := by
  intro ops
  induction ops with
  | nil => intro cur stack out m ms _ _ _; rfl
  | cons op ops ih =>
    intro cur stack out m ms hR hS hG
    cases op with
    | update b =>
      obtain ⟨c', e, hR'⟩ := h.update cur m b hR
      simp only [runProg, e, famSpec]
      exact ih c' stack out (m ++ b) ms hR' hS hG
    | update_mut b =>
      obtain ⟨c', e, hR'⟩ := h.update_mut cur m b hR
      simp only [runProg, e, famSpec]
      exact ih c' stack out (m ++ b) ms hR' hS hG
    | clone =>
      simp only [runProg]
      exact ih cur (cur :: stack) out m (m :: ms) hR ⟨hR, hS⟩ hG
    | swap =>
      match stack, ms, hS with
      | [], [], hS => exact ih cur [] out m [] hR hS hG
      | c :: cs, t :: ms, hS => exact ih c (cur :: cs) out t (m :: ms) hS.1 ⟨hR, hS.2⟩ hG
    | reset =>
      simp only [runProg, famSpec]
      exact ih (F.reset cur) stack out [] ms (h.reset cur m hR) hS hG
    | finalize_reset =>
      obtain ⟨c', e, hR'⟩ := h.finalize_reset cur m hR hG.1
      simp only [runProg, e, famSpec]
      exact ih c' stack (hash m :: out) [] ms hR' hS hG.2
    | finalize =>
      have e := h.finalize cur m hR hG.1
      simp only [runProg, e, famSpec]
      exact ih cur stack (hash m :: out) m ms hR hS hG.2

theorem runProg_new {γ : Type} {F : Family γ} {hash : Bytes → Bytes} {R : γ → Bytes → Prop} {ok : Bytes → Prop}
    (h : Refines F hash R ok) (ops : List Op) (hG : Guard ok ops [] []) :
    runProg F ops F.new [] [] = runProg (famSpec hash) ops [] [] [] :=
  runProg_sim h ops F.new [] [] [] [] h.new trivial hG

theorem Refines.of_iff {γ : Type} {F : Family γ} {hash : Bytes → Bytes} {R R' : γ → Bytes → Prop} {ok : Bytes → Prop}
    (h : Refines F hash R ok) (hR : ∀ c m, R' c m ↔ R c m) : Refines F hash R' ok :=
  (funext fun c => funext fun m => propext (hR c m) : R' = R) ▸ h

/-- one `update` on a fresh context, then `finalize`: the one-shot functions of the crate -/
theorem Refines.oneShot {γ : Type} {F : Family γ} {hash : Bytes → Bytes} {R : γ → Bytes → Prop} {ok : Bytes → Prop}
    (h : Refines F hash R ok) (m : Bytes) (hok : ok m) :
    ∃ c, F.update F.new m = some c ∧ F.finalize c = some (hash m) :=
  have ⟨c, hc, hA⟩ := h.update _ [] m h.new
  ⟨c, hc, h.finalize c _ hA hok⟩

/-- reuse after `reset`: from any reachable context, `reset` followed by ANY history emits what the same history
    emits from `new` -/
theorem reset_then_history {γ : Type} {F : Family γ} {hash : Bytes → Bytes} {R : γ → Bytes → Prop} {ok : Bytes → Prop}
    (h : Refines F hash R ok) (c : γ) (m : Bytes) (hR : R c m) (ops : List Op) (hG : Guard ok ops [] []) :
    runProg F (Op.reset :: ops) c [] [] = runProg F ops F.new [] [] := by
  rw [runProg_new h ops hG]
  exact runProg_sim h (Op.reset :: ops) c [] [] m [] hR trivial hG

def chunkOp (c : Bool × Bytes) : Op := if c.1 then Op.update_mut c.2 else Op.update c.2

def chunkBytes (cs : List (Bool × Bytes)) : Bytes := (cs.map (·.2)).flatten

theorem guard_chunkOp (ok : Bytes → Prop) (c : Bool × Bytes) (ops : List Op) (m : Bytes) (ms : List Bytes) :
    Guard ok (chunkOp c :: ops) m ms = Guard ok ops (m ++ c.2) ms := by
  obtain ⟨f, b⟩ := c; cases f <;> rfl

theorem famSpec_chunkOp (hash : Bytes → Bytes) (c : Bool × Bytes) (ops : List Op) (m : Bytes) (ms out : List Bytes) :
    runProg (famSpec hash) (chunkOp c :: ops) m ms out = runProg (famSpec hash) ops (m ++ c.2) ms out := by
  obtain ⟨f, b⟩ := c; cases f <;> rfl

theorem chunkBytes_cons (c : Bool × Bytes) (cs : List (Bool × Bytes)) (m : Bytes) :
    m ++ chunkBytes (c :: cs) = (m ++ c.2) ++ chunkBytes cs := by simp [chunkBytes, List.append_assoc]

theorem guard_chunks (ok : Bytes → Prop) (cs : List (Bool × Bytes)) : ∀ (m : Bytes) (ms : List Bytes),
    ok (m ++ chunkBytes cs) → Guard ok (cs.map chunkOp ++ [Op.finalize]) m ms := by
  induction cs with
  | nil => intro m ms h; simpa [Guard, chunkBytes] using h
  | cons c cs ih =>
    intro m ms h
    rw [List.map_cons, List.cons_append, guard_chunkOp]
    exact ih _ ms (chunkBytes_cons c cs m ▸ h)

theorem famSpec_chunks (hash : Bytes → Bytes) (cs : List (Bool × Bytes)) : ∀ (m : Bytes) (ms out : List Bytes),
    runProg (famSpec hash) (cs.map chunkOp ++ [Op.finalize]) m ms out
      = some ((hash (m ++ chunkBytes cs) :: out).reverse) := by
  induction cs with
  | nil => intro m ms out; simp [runProg, famSpec, chunkBytes]
  | cons c cs ih =>
    intro m ms out
    rw [List.map_cons, List.cons_append, famSpec_chunkOp, ih, chunkBytes_cons]

/-- **split independence**: any sequence of `update`/`update_mut` calls (empty pieces included) followed by a
    finalisation emits the digest of the concatenation -/
theorem split_independence {γ : Type} {F : Family γ} {hash : Bytes → Bytes} {R : γ → Bytes → Prop}
    {ok : Bytes → Prop} (h : Refines F hash R ok) (cs : List (Bool × Bytes)) (hok : ok (chunkBytes cs)) :
    runProg F (cs.map chunkOp ++ [Op.finalize]) F.new [] [] = some [hash (chunkBytes cs)] := by
  rw [runProg_new h _ (guard_chunks ok cs [] [] (by simpa using hok)), famSpec_chunks]
  simp

end Cx.Proofs.HashProg
