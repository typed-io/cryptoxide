/-
  Proofs.KdfHkdf — `hkdf_extract` / `hkdf_expand` (Impl.Kdf, the model of src/hkdf.rs) over ANY digest object
  satisfying the digest-object contract equal RFC 5869: Extract = HMAC-Hash(salt, IKM); Expand = the first L octets of
  T(1) ‖ T(2) ‖ …, T(i) = HMAC-Hash(PRK, T(i−1) ‖ info ‖ i), for every PRK of at least HashLen octets and every
  L ≤ 255·HashLen, and a refusal for every shorter PRK (`assert!(prk.len() >= digest.output_bytes())`) and every larger L
  (the one-byte counter's `checked_add`).  `hkdf_expand_old_spec`: the function before that assert computed the same value
  for EVERY PRK length (witness of the repaired finding).  Induction over the chunk list.  Core Lean only.
-/
import CxVerif.Proofs.MacHmac
import CxVerif.Proofs.KdfPbkdf2
namespace Cx.Proofs.KdfHkdf
open Cx.Impl.Digest Cx.Impl.Hmac Cx.Impl.Kdf Cx.Proofs.MacObj Cx.Proofs.MacHmac Cx.Proofs.KdfPbkdf2

theorem hkdfTs_length (f : Fn) (info : Bytes) : ∀ (k i : Nat) (prev : Bytes), (Spec.Kdf.hkdfTs f info k i prev).length = k := by
  intro k
  induction k with
  | zero => intros; rfl
  | succ k ih => intro i prev; simp [Spec.Kdf.hkdfTs, ih]

section
variable {δ : Type} (D : DigestModel δ) {L : Nat} {sizes : List Nat} {fk : Bytes → Option Fn} {ok : Fn → Bytes → Prop}
  {Rel : Hmac δ → Fn → Bytes → Prop} {Fin : Hmac δ → Fn → Prop}

/-- the chunk loop of `hkdf_expand` with `n` blocks done and `t` = T(n) (unused for n = 0): it appends T(n+1), T(n+2), … (cut to the
    chunk lengths) as long as the one-byte block counter does not overflow, and refuses otherwise -/
theorem expand_loop_spec (hC : Contract (macFam (hmacMac D)) L sizes fk ok Rel Fin) (f : Fn) (info : Bytes)
    (hok : ∀ x : Bytes, x.length ≤ L + info.length + 1 → ok f x) :
    ∀ (cls : List Nat) (mac : Hmac δ) (t : Bytes) (n : Nat) (acc : Bytes),
      Rel mac f [] → t.length = L → (∀ cl ∈ cls, cl ≤ L) → n ≤ 255 →
      hkdf_expand_loop D info cls mac t n acc
          = (if n + cls.length ≤ 255 then
              some (acc ++ cutTs (Spec.Kdf.hkdfTs f info cls.length (n + 1) (if n = 0 then [] else t)) cls)
            else none) ∧
        (n + cls.length ≤ 255 → ∀ x ∈ Spec.Kdf.hkdfTs f info cls.length (n + 1) (if n = 0 then [] else t), x.length = L) := by
  intro cls
  induction cls with
  | nil => intro mac t n acc _ _ _ hn; simp [hkdf_expand_loop, Spec.Kdf.hkdfTs, cutTs, hn]
  | cons cl rest ih =>
    intro mac t n acc hr ht hcl hn
    simp only [List.length_cons]
    by_cases hn1 : n + 1 ≤ 255
    · -- the optional `mac.input(&t)`
      obtain ⟨m1, e1, hr1⟩ : ∃ m1, (if n + 1 ≠ 1 then Hmac.input D mac t else some mac) = some m1 ∧
          Rel m1 f (if n = 0 then [] else t) := by
        by_cases h0 : n = 0
        · subst h0; exact ⟨mac, by simp, by simpa using hr⟩
        · obtain ⟨m1, e, hr1⟩ := hC.input mac f [] t hr
          -- the contract speaks of the field `(macFam (hmacMac D)).input`, the model text of `Hmac.input D`: the same term
          -- (by unfolding), restated in the model's spelling so that `simp` finds it in the goal; likewise `e2'` … below
          have e' : Hmac.input D mac t = some m1 := e
          exact ⟨m1, by simp [h0, e'], by simpa [h0] using hr1⟩
      generalize hprev : (if n = 0 then ([] : Bytes) else t) = prev at hr1 ⊢
      have hpl : prev.length ≤ L := by subst hprev; split <;> simp [ht]
      obtain ⟨m2, e2, hr2⟩ := hC.input m1 f prev info hr1
      obtain ⟨m3, m4, m5, e3, e4, e5, hr5, hlen⟩ := prf_call (hmacMac D) hC f m2 _ [UInt8.ofNat (n + 1)] hr2
        (hok _ (by simp; omega))
      have e2' : Hmac.input D m1 info = some m2 := e2
      have e3' : Hmac.input D m2 [UInt8.ofNat (n + 1)] = some m3 := e3
      have e4' : Hmac.raw_result D m3 L = some (m4, f (prev ++ info ++ [UInt8.ofNat (n + 1)])) := e4
      have e5' : Hmac.reset D m4 = some m5 := e5
      have hcl' : cl ≤ L := hcl cl (List.mem_cons_self ..)
      obtain ⟨ihe, ihl⟩ := ih m5 (f (prev ++ info ++ [UInt8.ofNat (n + 1)])) (n + 1)
        (acc ++ (f (prev ++ info ++ [UInt8.ofNat (n + 1)])).take cl) hr5 hlen
        (fun x hx => hcl x (List.mem_cons_of_mem _ hx)) hn1
      simp only [Nat.add_eq_zero_iff, Nat.succ_ne_self, and_false, if_false, Nat.add_right_comm n 1] at ihe ihl
      constructor
      · simp only [hkdf_expand_loop, hn1, not_true_eq_false, if_false, e1, e2', e3', ht, e4', e5']
        rw [if_neg (not_not_intro (by rw [hlen]; exact hcl')), ihe, ← Nat.add_assoc]
        simp only [Spec.Kdf.hkdfTs, cutTs, List.append_assoc]
      · intro hle x hx
        simp only [Spec.Kdf.hkdfTs, List.mem_cons] at hx
        rcases hx with rfl | hx
        · exact hlen
        · exact ihl (by omega) x hx
    · rw [if_neg (by omega)]
      exact ⟨by simp [hkdf_expand_loop, hn1], fun h => absurd h (by omega)⟩

end

section
variable {δ : Type} (D : DigestModel δ) (H : Fn) (B : Nat) {L bits : Nat} {okD : Fn → Bytes → Prop}
  (RelD : δ → Fn → Bytes → Prop) (FinD : δ → Fn → Prop)

theorem reset_any (hD : Contract (digestFam D) L [L, bits, B] (fun _ => none) okD RelD FinD) (d : δ) (m0 : Bytes)
    (hd : RelD d H m0 ∨ FinD d H) : ∃ d1, D.reset d = some d1 ∧ RelD d1 H [] := by
  rcases hd with h | h
  · exact hD.reset d H m0 h
  · exact hD.reset_fin d H h

/-- **HKDF-Extract = RFC 5869 §2.2**, generic in the digest object (in any state: the function resets it first):
    `prk.len()` must be HashLen (else refusal), and then PRK = HMAC-Hash(salt, IKM) for every salt (any length, the
    empty salt included) and IKM. -/
theorem hkdf_extract_spec (hD : Contract (digestFam D) L [L, bits, B] (fun _ => none) okD RelD FinD) (hLB : L ≤ B)
    (d : δ) (m0 : Bytes) (hd : RelD d H m0 ∨ FinD d H) (salt ikm : Bytes) (prkLen : Nat)
    (hk : salt.length ≤ B ∨ okD H salt) (hok : okH H B salt okD (Spec.Hmac.hmac H B salt) ikm) :
    hkdf_extract D d salt ikm prkLen
      = if prkLen = L then some (Spec.Kdf.hkdfExtract H B salt ikm) else none := by
  have hob : D.output_bytes d = L := by
    rcases hd with h | h
    · exact hD.out_rel d H m0 h
    · exact hD.out_fin d H h
  by_cases hp : prkLen = L
  · subst hp
    obtain ⟨d1, e1, hr1⟩ := reset_any D H B RelD FinD hD d m0 hd
    obtain ⟨h, e2, hrh⟩ := hmac_new D H B salt RelD FinD hD hLB d1 hr1 hk
    have hC := hmac_contract D H B salt RelD FinD hD
    obtain ⟨h1, e3, hr3⟩ := hC.input h _ [] ikm hrh
    have hr3' : RelH H B salt RelD h1 (Spec.Hmac.hmac H B salt) ikm := by simpa using hr3
    obtain ⟨h2, e4, hf4⟩ := hC.raw_result h1 _ ikm hr3' hok
    obtain ⟨h3, e5, _⟩ := hC.reset_fin h2 _ hf4
    have e3' : Hmac.input D h ikm = some h1 := e3
    have e4' : Hmac.raw_result D h1 prkLen = some (h2, Spec.Hmac.hmac H B salt ikm) := e4
    have e5' : Hmac.reset D h2 = some h3 := e5
    simp [hkdf_extract, hob, e1, e2, e3', e4', e5', Spec.Kdf.hkdfExtract]
  · simp [hkdf_extract, hob, hp]

/-- the loop part of `hkdf_expand` (everything after `Hmac::new`), i.e. the function as it was BEFORE
    `assert!(prk.len() >= digest.output_bytes())` was added: for every PRK (of any length), info and L it returns the first
    L octets of T(1) ‖ T(2) ‖ … when L ≤ 255·HashLen and refuses (`none`: the checked increment of the one-byte block
    counter) when L > 255·HashLen. -/
theorem hkdf_expand_old_spec (hD : Contract (digestFam D) L [L, bits, B] (fun _ => none) okD RelD FinD) (hLB : L ≤ B)
    (hL : 0 < L) (d : δ) (m0 : Bytes) (hd : RelD d H m0 ∨ FinD d H) (prk info : Bytes) (okmLen : Nat)
    (hk : prk.length ≤ B ∨ okD H prk)
    (hok : ∀ x : Bytes, x.length ≤ L + info.length + 1 → okH H B prk okD (Spec.Hmac.hmac H B prk) x) :
    hkdf_expand_old D d prk info okmLen
      = if okmLen ≤ 255 * L then some (Spec.Kdf.hkdfOkm (Spec.Hmac.hmac H B) L prk info okmLen) else none := by
  obtain ⟨d1, e1, hr1⟩ := reset_any D H B RelD FinD hD d m0 hd
  obtain ⟨h, e2, hrh⟩ := hmac_new D H B prk RelD FinD hD hLB d1 hr1 hk
  have hC := hmac_contract D H B prk RelD FinD hD
  have hob : Hmac.output_bytes D h = L := hC.out_rel h _ _ hrh
  obtain ⟨e, hl⟩ := expand_loop_spec D hC (Spec.Hmac.hmac H B prk) info hok (chunkLens L okmLen) h (zeros L) 0 []
    hrh (by simp [zeros]) (chunkLens_le L okmLen hL) (by decide)
  simp only [Nat.zero_add, if_true, List.nil_append, chunkLens_count_le L okmLen 255 hL] at e hl
  simp only [hkdf_expand_old, e1, e2, hob, Nat.ne_of_gt hL, if_false, e]
  by_cases hle : okmLen ≤ 255 * L
  · rw [if_pos hle, if_pos hle, cutTs_chunkLens L hL _ okmLen (hl hle) (by rw [hkdfTs_length]), chunkLens_length L okmLen hL]
    rfl
  · rw [if_neg hle, if_neg hle]

/-- the repaired function = the assert in front of the old one: a PRK shorter than `digest.output_bytes()` (read after
    `digest.reset()`) is refused before the HMAC object is built -/
theorem hkdf_expand_eq_assert_old (d d1 : δ) (e1 : D.reset d = some d1) (prk info : Bytes) (okmLen : Nat) :
    hkdf_expand D d prk info okmLen
      = if prk.length < D.output_bytes d1 then none else hkdf_expand_old D d prk info okmLen := by
  simp only [hkdf_expand, hkdf_expand_old, e1, ge_iff_le, Nat.not_le]

/-- **HKDF-Expand = RFC 5869 §2.3**, generic in the digest object: for every PRK, info and L the model of
    `hkdf_expand(digest, prk, info, okm[L])` refuses (`none`: `assert!(prk.len() >= digest.output_bytes())`) a PRK shorter
    than HashLen, returns the first L octets of T(1) ‖ T(2) ‖ … when |PRK| ≥ HashLen and L ≤ 255·HashLen, and refuses
    (`none`: the checked increment of the one-byte block counter) when L > 255·HashLen. -/
theorem hkdf_expand_spec (hD : Contract (digestFam D) L [L, bits, B] (fun _ => none) okD RelD FinD) (hLB : L ≤ B)
    (hL : 0 < L) (d : δ) (m0 : Bytes) (hd : RelD d H m0 ∨ FinD d H) (prk info : Bytes) (okmLen : Nat)
    (hk : prk.length ≤ B ∨ okD H prk)
    (hok : ∀ x : Bytes, x.length ≤ L + info.length + 1 → okH H B prk okD (Spec.Hmac.hmac H B prk) x) :
    hkdf_expand D d prk info okmLen = Spec.Kdf.hkdfExpand H B L prk info okmLen := by
  obtain ⟨d1, e1, hr1⟩ := reset_any D H B RelD FinD hD d m0 hd
  have hob : D.output_bytes d1 = L := hD.out_rel d1 H [] hr1
  rw [hkdf_expand_eq_assert_old D d d1 e1, hob, hkdf_expand_old_spec D H B RelD FinD hD hLB hL d m0 hd prk info okmLen hk hok]
  rfl

end
end Cx.Proofs.KdfHkdf
