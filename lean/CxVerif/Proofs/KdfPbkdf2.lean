/-
  Proofs.KdfPbkdf2 — `pbkdf2` (Impl.Kdf, the model of src/pbkdf2.rs) over ANY MAC object satisfying the object
  contract with function `f` (= PRF(P, ·)) equals RFC 8018 PBKDF2: `calculate_block` = U_1 ⊕ … ⊕ U_c by induction on
  the iteration count (the code's c = 1 / c = 2 / `for _ in 2..c` structure), the block loop by induction on the chunk
  list (partial last block), refusal exactly for c = 0 and for more than 2^32 − 1 blocks.  The facts about `chunkLens` and about
  blocks cut to the chunk lengths (`cutTs`) are here for HKDF-expand (Proofs.KdfHkdf) as well.  At the end: `pbkdf2` returns
  `dkLen` bytes for ANY MAC object whose `raw_result` keeps the length of its slice (`MacResultLen`; no contract, no bound on
  the salt): what the translator tie of `scrypt` needs of it.  Core Lean only.
-/
import CxVerif.Impl.Kdf
import CxVerif.Spec.Kdf
import CxVerif.Proofs.MacLegacy
import CxVerif.Proofs.ByteLemmas
namespace Cx.Proofs.KdfPbkdf2
open Cx.Impl.Digest Cx.Impl.Kdf Cx.Proofs.MacObj

theorem xor_into_eq (a b : Bytes) (h : a.length = b.length) : xor_into a b = xorBytes a b := by
  simp [xor_into, xorBytes, h]

theorem Fiter_U (prf : Fn) (S : Bytes) (i : Nat) : ∀ (k j : Nat) (acc : Bytes),
    Spec.Kdf.Fiter prf k (Spec.Kdf.U prf S i j) acc
      = ((List.range k).map fun t => Spec.Kdf.U prf S i (j + 1 + t)).foldl xorBytes acc := by
  intro k
  induction k with
  | zero => intro j acc; rfl
  | succ k ih =>
    intro j acc
    have := ih (j + 1) (xorBytes acc (Spec.Kdf.U prf S i (j + 1)))
    simp only [Spec.Kdf.Fiter]
    rw [show prf (Spec.Kdf.U prf S i j) = Spec.Kdf.U prf S i (j + 1) from rfl, this, List.range_succ_eq_map]
    simp only [List.map_cons, List.foldl_cons, List.map_map]
    congr 2
    funext t
    congr 1
    omega

/-- the Spec's `F` is U_1 ⊕ U_2 ⊕ … ⊕ U_c of RFC 8018 -/
theorem F_eq_Fxor (prf : Fn) (S : Bytes) (c i : Nat) : Spec.Kdf.F prf S c i = Spec.Kdf.Fxor prf S c i := by
  have := Fiter_U prf S i (c - 1) 0 (Spec.Kdf.U prf S i 0)
  simp only [Spec.Kdf.F, Spec.Kdf.Fxor]
  rw [show prf (S ++ Spec.Kdf.INT i) = Spec.Kdf.U prf S i 0 from rfl, this]
  congr 2
  funext t
  simp [Nat.add_comm]

/-! ### `chunks_mut(L)` of an `n`-byte buffer: the chunk lengths, and blocks of length `L` cut to them -/

theorem chunkLens_zero (L : Nat) : chunkLens L 0 = [] := by simp [chunkLens]

theorem chunkLens_small (L n : Nat) (h0 : 0 < n) (h : n < L) : chunkLens L n = [n] := by
  simp [chunkLens, Nat.div_eq_of_lt h, Nat.mod_eq_of_lt h, Nat.ne_of_gt h0]

theorem chunkLens_step (L n : Nat) (hL : 0 < L) (h : L ≤ n) : chunkLens L n = L :: chunkLens L (n - L) := by
  have h1 : n / L = (n - L) / L + 1 := by
    rw [Nat.div_eq_sub_div hL h]
  have h2 : n % L = (n - L) % L := Nat.mod_eq_sub_mod h
  simp [chunkLens, h1, h2, List.replicate_succ]

theorem chunkLens_le (os len : Nat) (hos : 0 < os) : ∀ cl ∈ chunkLens os len, cl ≤ os := by
  intro cl h
  simp only [chunkLens, List.mem_append, List.mem_replicate] at h
  rcases h with ⟨_, rfl⟩ | h
  · exact Nat.le_refl _
  · split at h
    · cases h
    · simp only [List.mem_singleton] at h; subst h; exact Nat.le_of_lt (Nat.mod_lt _ hos)

theorem chunkLens_length (os len : Nat) (hos : 0 < os) : (chunkLens os len).length = Spec.Kdf.ceilDiv len os := by
  simp only [chunkLens, List.length_append, List.length_replicate, Spec.Kdf.ceilDiv]
  have h1 := Nat.div_add_mod len os
  have hm := Nat.mod_lt len hos
  generalize hq : len / os = q at h1 ⊢
  generalize hr : len % os = r at h1 hm ⊢
  split
  · rename_i h0
    subst h0
    rw [show len + os - 1 = (os - 1) + os * q by omega, Nat.add_mul_div_left _ _ hos,
      Nat.div_eq_of_lt (by omega)]
    simp
  · rename_i h0
    rw [show len + os - 1 = (r - 1) + os * (q + 1) by rw [Nat.mul_add]; omega,
      Nat.add_mul_div_left _ _ hos, Nat.div_eq_of_lt (by omega)]
    simp

def cutTs : List Bytes → List Nat → Bytes
  | t :: ts, cl :: cls => t.take cl ++ cutTs ts cls
  | _, _ => []

theorem cutTs_chunkLens (L : Nat) (hL : 0 < L) : ∀ (Ts : List Bytes) (n : Nat),
    (∀ t ∈ Ts, t.length = L) → Ts.length = (chunkLens L n).length → cutTs Ts (chunkLens L n) = Ts.flatten.take n := by
  intro Ts
  induction Ts with
  | nil =>
    intro n _ hc
    cases hcl : chunkLens L n with
    | nil => simp [cutTs]
    | cons a b => rw [hcl] at hc; simp at hc
  | cons t ts ih =>
    intro n hl hc
    have ht : t.length = L := hl t (List.mem_cons_self ..)
    by_cases h0 : n = 0
    · subst h0; rw [chunkLens_zero] at hc; simp at hc
    · by_cases hlt : n < L
      · rw [chunkLens_small L n (Nat.pos_of_ne_zero h0) hlt] at hc ⊢
        have : ts = [] := by
          cases ts with
          | nil => rfl
          | cons a b => simp at hc
        subst this
        simp [cutTs]
      · have hge : L ≤ n := Nat.le_of_not_lt hlt
        rw [chunkLens_step L n hL hge] at hc ⊢
        simp only [List.length_cons, Nat.add_right_cancel_iff] at hc
        rw [cutTs, ih (n - L) (fun x hx => hl x (List.mem_cons_of_mem _ hx)) hc, List.flatten_cons, List.take_append,
          List.take_of_length_le (by omega : t.length ≤ L), List.take_of_length_le (by omega : t.length ≤ n), ht]

theorem chunkLens_count_le (L n k : Nat) (hL : 0 < L) : (chunkLens L n).length ≤ k ↔ n ≤ k * L := by
  rw [chunkLens_length L n hL, Spec.Kdf.ceilDiv, ← Nat.lt_succ_iff, Nat.div_lt_iff_lt_mul hL, Nat.succ_mul]
  omega

theorem cutTs_map_chunkLens (L : Nat) (hL : 0 < L) (g : Nat → Bytes) (hg : ∀ i, (g i).length = L) (n : Nat) :
    cutTs ((List.range' 1 (chunkLens L n).length).map g) (chunkLens L n)
      = ((List.range (Spec.Kdf.ceilDiv n L)).flatMap fun i => g (i + 1)).take n := by
  rw [cutTs_chunkLens L hL _ n (fun t ht => by obtain ⟨i, _, rfl⟩ := List.mem_map.mp ht; exact hg i) (by simp),
    chunkLens_length L n hL, List.range'_eq_map_range, List.map_map,
    List.flatMap_def]
  congr 3
  funext i
  exact congrArg g (Nat.add_comm 1 i)

section
variable {μ : Type} (M : MacModel μ) {L : Nat} {sizes : List Nat} {fk : Bytes → Option Fn} {ok : Fn → Bytes → Prop}
  {Rel : μ → Fn → Bytes → Prop} {Fin : μ → Fn → Prop}

theorem prf_call (hM : Contract (macFam M) L sizes fk ok Rel Fin) (f : Fn) (s : μ) (m x : Bytes) (hr : Rel s f m)
    (hok : ok f (m ++ x)) :
    ∃ s1 s2 s3, M.input s x = some s1 ∧ M.raw_result s1 L = some (s2, f (m ++ x)) ∧ M.reset s2 = some s3 ∧
      Rel s3 f [] ∧ (f (m ++ x)).length = L := by
  obtain ⟨s1, e1, hr1⟩ := hM.input s f m x hr
  obtain ⟨s2, e2, hf2⟩ := hM.raw_result s1 f _ hr1 hok
  obtain ⟨s3, e3, hr3⟩ := hM.reset_fin s2 f hf2
  exact ⟨s1, s2, s3, e1, e2, e3, hr3, hM.len s1 f _ hr1 hok⟩

/-- the `for _ in 2..c` loop: `k` more iterations -/
theorem calculate_block_loop_spec (hM : Contract (macFam M) L sizes fk ok Rel Fin) (f : Fn)
    (hU : ∀ u : Bytes, u.length = L → ok f u) :
    ∀ (k : Nat) (mac : μ) (scratch block : Bytes), Rel mac f [] → scratch.length = L → block.length = L →
      ∃ mac' scratch', calculate_block_loop M k mac scratch block = some (mac', scratch', Spec.Kdf.Fiter f k scratch block) ∧
        Rel mac' f [] ∧ scratch'.length = L ∧ (Spec.Kdf.Fiter f k scratch block).length = L := by
  intro k
  induction k with
  | zero => intro mac scratch block hr hs hb; exact ⟨mac, scratch, rfl, hr, hs, hb⟩
  | succ k ih =>
    intro mac scratch block hr hs hb
    obtain ⟨s1, s2, s3, e1, e2, e3, hr3, hl⟩ := prf_call M hM f mac [] scratch hr (by simpa using hU scratch hs)
    simp only [List.nil_append] at e2 hl
    have hb' : (xor_into block (f scratch)).length = L := by
      rw [xor_into_eq _ _ (by rw [hb, hl]), Bytes.xorBytes_length, hb, hl, Nat.min_self]
    obtain ⟨mac', scratch', e, hr', hs', hl'⟩ := ih s3 (f scratch) (xor_into block (f scratch)) hr3 hl hb'
    refine ⟨mac', scratch', ?_, hr', hs', ?_⟩
    · simp only [calculate_block_loop, e1, hs, e2, e3, e, Spec.Kdf.Fiter]
      rw [xor_into_eq _ _ (by rw [hb, hl])]
    · simp only [Spec.Kdf.Fiter]
      rw [← xor_into_eq _ _ (by rw [hb, hl])]; exact hl'

theorem calculate_block_spec (hM : Contract (macFam M) L sizes fk ok Rel Fin) (f : Fn) (salt : Bytes)
    (hS : ∀ i, ok f (salt ++ natToBE 4 i)) (hU : ∀ u : Bytes, u.length = L → ok f u)
    (c idx : Nat) (hc : 0 < c) (mac : μ) (scratch : Bytes) (hr : Rel mac f []) (hs : scratch.length = L) :
    ∃ mac' scratch', calculate_block M mac salt c idx scratch L = some (mac', scratch', Spec.Kdf.F f salt c idx) ∧
      Rel mac' f [] ∧ scratch'.length = L ∧ (Spec.Kdf.F f salt c idx).length = L := by
  obtain ⟨s1, e1, hr1⟩ := hM.input mac f [] salt hr
  -- the contract's field `(macFam M).input` in the model's spelling, for `simp` (as in Proofs/KdfHkdf.lean)
  have e1' : M.input mac salt = some s1 := e1
  simp only [List.nil_append] at hr1
  obtain ⟨s2, s3, s4, e2, e3, e4, hr4, hl⟩ := prf_call M hM f s1 salt (natToBE 4 idx) hr1 (hS idx)
  by_cases hc1 : c > 1
  · -- second iteration, then the loop
    obtain ⟨t1, t2, t3, f1, f2, f3, hrt, hlt⟩ :=
      prf_call M hM f s4 [] (f (salt ++ natToBE 4 idx)) hr4 (by simpa using hU _ hl)
    simp only [List.nil_append] at f2 hlt
    have hbl : (xor_into (f (salt ++ natToBE 4 idx)) (f (f (salt ++ natToBE 4 idx)))).length = L := by
      rw [xor_into_eq _ _ (by rw [hl, hlt]), Bytes.xorBytes_length, hl, hlt, Nat.min_self]
    obtain ⟨mac', scratch', e, hr', hs', hl'⟩ :=
      calculate_block_loop_spec M hM f hU (c - 2) t3 (f (f (salt ++ natToBE 4 idx)))
        (xor_into (f (salt ++ natToBE 4 idx)) (f (f (salt ++ natToBE 4 idx)))) hrt hlt hbl
    have hF : Spec.Kdf.F f salt c idx
        = Spec.Kdf.Fiter f (c - 2) (f (f (salt ++ natToBE 4 idx)))
            (xor_into (f (salt ++ natToBE 4 idx)) (f (f (salt ++ natToBE 4 idx)))) := by
      obtain ⟨k, rfl⟩ : ∃ k, c = k + 2 := ⟨c - 2, by omega⟩
      simp only [Spec.Kdf.F, Spec.Kdf.INT, Nat.add_sub_cancel, show k + 2 - 1 = k + 1 by omega, Spec.Kdf.Fiter]
      rw [xor_into_eq _ _ (by rw [hl, hlt])]
    refine ⟨mac', scratch', ?_, hr', hs', by rw [hF]; exact hl'⟩
    simp only [calculate_block, e1', e2, e3, e4, hc1, if_true, f1, hs, f2, f3, e, hF]
  · have hc' : c = 1 := by omega
    subst hc'
    refine ⟨s4, scratch, ?_, hr4, hs, ?_⟩
    · simp [calculate_block, e1', e2, e3, e4, calculate_block_loop, Spec.Kdf.F, Spec.Kdf.Fiter, Spec.Kdf.INT]
    · simpa [Spec.Kdf.F, Spec.Kdf.Fiter, Spec.Kdf.INT] using hl

theorem pbkdf2_loop_spec (hM : Contract (macFam M) L sizes fk ok Rel Fin) (f : Fn) (salt : Bytes)
    (hS : ∀ i, ok f (salt ++ natToBE 4 i)) (hU : ∀ u : Bytes, u.length = L → ok f u) (c : Nat) (hc : 0 < c) :
    ∀ (cls : List Nat) (mac : μ) (scratch : Bytes) (idx : Nat) (acc : Bytes),
      Rel mac f [] → scratch.length = L → (∀ cl ∈ cls, cl ≤ L) → idx < 2 ^ 32 →
      ∃ mac', Rel mac' f [] ∧ pbkdf2_loop M salt c L cls mac scratch idx acc =
        if idx + cls.length < 2 ^ 32 then
          some (mac', acc ++ cutTs ((List.range' (idx + 1) cls.length).map (Spec.Kdf.F f salt c)) cls)
        else none := by
  intro cls
  induction cls with
  | nil => intro mac scratch idx acc hr _ _ hi; exact ⟨mac, hr, by simp [pbkdf2_loop, cutTs, hi]⟩
  | cons cl rest ih =>
    intro mac scratch idx acc hr hs hcl hi
    by_cases hlt : idx + 1 < 2 ^ 32
    · obtain ⟨mac1, scratch1, e, hr1, hs1, hl1⟩ :=
        calculate_block_spec M hM f salt hS hU c (idx + 1) hc mac scratch hr hs
      have hcl' : cl ≤ L := hcl cl (List.mem_cons_self ..)
      obtain ⟨mac', hr', e'⟩ := ih mac1 scratch1 (idx + 1) (acc ++ (Spec.Kdf.F f salt c (idx + 1)).take cl) hr1 hs1
        (fun x hx => hcl x (List.mem_cons_of_mem _ hx)) hlt
      have hstep : pbkdf2_loop M salt c L (cl :: rest) mac scratch idx acc
          = pbkdf2_loop M salt c L rest mac1 scratch1 (idx + 1) (acc ++ (Spec.Kdf.F f salt c (idx + 1)).take cl) := by
        by_cases hfull : cl = L
        · subst hfull
          simp only [pbkdf2_loop, hlt, not_true_eq_false, if_false, if_true, e]
          rw [List.take_of_length_le (Nat.le_of_eq hl1)]
        · simp only [pbkdf2_loop, hlt, not_true_eq_false, if_false, hfull, e, hl1, hcl']
      refine ⟨mac', hr', ?_⟩
      rw [hstep, e', List.length_cons, List.range'_succ, List.map_cons, cutTs, List.append_assoc,
        Nat.add_right_comm idx 1, Nat.add_assoc idx]
    · refine ⟨mac, hr, ?_⟩
      rw [if_neg (by simp only [List.length_cons]; omega)]
      simp [pbkdf2_loop, hlt]

/-- every block `F(P, S, c, i)` has the PRF's output length (read off `calculate_block`, which computes it) -/
theorem F_length (hM : Contract (macFam M) L sizes fk ok Rel Fin) (f : Fn) (salt : Bytes)
    (hS : ∀ i, ok f (salt ++ natToBE 4 i)) (hU : ∀ u : Bytes, u.length = L → ok f u) (c : Nat) (hc : 0 < c)
    (mac : μ) (hr : Rel mac f []) (i : Nat) : (Spec.Kdf.F f salt c i).length = L := by
  obtain ⟨_, _, _, _, _, h⟩ := calculate_block_spec M hM f salt hS hU c i hc mac (zeros L) hr (by simp [zeros])
  exact h

/-- **PBKDF2 = RFC 8018 §5.2**, generic in the PRF object: for every salt, iteration count and output length the
    model of `pbkdf2(&mut mac, salt, c, output)` returns exactly what the RFC defines — the derived key, or the refusal
    (`none`; RFC: c is a positive integer, "derived key too long" iff dkLen > (2^32 − 1)·hLen) — and, with a key, the MAC
    object reset (`scrypt` uses it again). -/
theorem pbkdf2_run (hM : Contract (macFam M) L sizes fk ok Rel Fin) (hL : 0 < L) (prf : Bytes → Bytes → Bytes) (P : Bytes)
    (salt : Bytes) (hS : ∀ i, ok (prf P) (salt ++ natToBE 4 i)) (hU : ∀ u : Bytes, u.length = L → ok (prf P) u)
    (mac : μ) (hr : Rel mac (prf P) []) (c dkLen : Nat) :
    ∃ mac', Rel mac' (prf P) [] ∧
      pbkdf2 M mac salt c dkLen = (Spec.Kdf.pbkdf2 prf L P salt c dkLen).map fun out => (mac', out) := by
  have hob : M.output_bytes mac = L := hM.out_rel mac _ _ hr
  by_cases hc : c = 0
  · exact ⟨mac, hr, by simp [pbkdf2, Spec.Kdf.pbkdf2, hc]⟩
  · have hc' : 0 < c := Nat.pos_of_ne_zero hc
    obtain ⟨mac', hr', e⟩ := pbkdf2_loop_spec M hM (prf P) salt hS hU c hc' (chunkLens L dkLen) mac (zeros L) 0 [] hr
      (by simp [zeros]) (chunkLens_le L dkLen hL) (by decide)
    have hcnt : (chunkLens L dkLen).length < 2 ^ 32 ↔ ¬ dkLen > (2 ^ 32 - 1) * L := by
      rw [Nat.not_lt, ← chunkLens_count_le L dkLen _ hL]; omega
    simp only [Nat.zero_add, hcnt, List.nil_append,
      cutTs_map_chunkLens L hL _ (F_length M hM (prf P) salt hS hU c hc' mac hr)] at e
    refine ⟨mac', hr', ?_⟩
    simp only [pbkdf2, Spec.Kdf.pbkdf2, hc, hc', hob, Nat.ne_of_gt hL, e, not_true_eq_false, if_false]
    by_cases hbig : dkLen > (2 ^ 32 - 1) * L <;> simp [hbig]

end

/-- the typing fact behind `raw_result(&mut self, output: &mut [u8])` in the `MacModel` convention: a `&mut [u8]` keeps its length -/
def MacResultLen {μ : Type} (M : MacModel μ) : Prop :=
  ∀ (m m' : μ) (n : Nat) (out : Bytes), M.raw_result m n = some (m', out) → out.length = n

open Cx.Impl.Hmac in
theorem hmac_legacy_resultLen {γ : Type} (C : CtxModel γ) : MacResultLen (hmacMac (legacyDigest C)) := by
  intro m m' n out h
  simp only [hmacMac, Hmac.raw_result] at h
  split at h
  · cases h
  · split at h
    · cases h
    · rename_i hr
      cases h
      exact MacLegacy.legacy_result_length C _ _ _ _ hr

theorem xor_into_length (a b : Bytes) : (xor_into a b).length = a.length := by
  simp [xor_into]; omega

section
variable {μ : Type} (M : MacModel μ)

theorem calculate_block_loop_length : ∀ (k : Nat) (mac : μ) (scratch block : Bytes) (mac' : μ) (s' b' : Bytes),
    calculate_block_loop M k mac scratch block = some (mac', s', b') → b'.length = block.length := by
  intro k
  induction k with
  | zero => intro mac scratch block mac' s' b' h; simp only [calculate_block_loop] at h; cases h; rfl
  | succ k ih =>
    intro mac scratch block mac' s' b' h
    simp only [calculate_block_loop] at h
    split at h
    · cases h
    · split at h
      · cases h
      · split at h
        · cases h
        · rw [ih _ _ _ _ _ _ h, xor_into_length]

theorem calculate_block_length (hM : MacResultLen M) (mac : μ) (salt : Bytes) (c idx : Nat) (scratch : Bytes) (blockLen : Nat)
    (mac' : μ) (s' b' : Bytes) (h : calculate_block M mac salt c idx scratch blockLen = some (mac', s', b')) :
    b'.length = blockLen := by
  simp only [calculate_block] at h
  split at h
  · cases h
  · split at h
    · cases h
    · split at h
      · cases h
      · rename_i mac3 block hr
        have hb : block.length = blockLen := hM _ _ _ _ hr
        split at h
        · cases h
        · split at h
          · cases h
          · rename_i mac5 s5 b5 hsec
            rw [calculate_block_loop_length M _ _ _ _ _ _ _ h]
            split at hsec
            · split at hsec
              · cases hsec
              · split at hsec
                · cases hsec
                · split at hsec
                  · cases hsec
                  · cases hsec; rw [xor_into_length, hb]
            · cases hsec; exact hb

theorem pbkdf2_loop_length (hM : MacResultLen M) (salt : Bytes) (c os : Nat) : ∀ (cls : List Nat) (mac : μ) (scratch : Bytes)
    (idx : Nat) (acc : Bytes) (mac' : μ) (out : Bytes),
    pbkdf2_loop M salt c os cls mac scratch idx acc = some (mac', out) → out.length = acc.length + cls.sum := by
  intro cls
  induction cls with
  | nil => intro mac scratch idx acc mac' out h; simp only [pbkdf2_loop] at h; cases h; simp
  | cons cl rest ih =>
    intro mac scratch idx acc mac' out h
    simp only [pbkdf2_loop] at h
    split at h
    · cases h
    · split at h
      · split at h
        · cases h
        · rename_i hcb
          rw [ih _ _ _ _ _ _ h, List.length_append, calculate_block_length M hM _ _ _ _ _ _ _ _ _ hcb, List.sum_cons]; omega
      · split at h
        · cases h
        · split at h
          · cases h
          · rename_i hle
            have hle' := Decidable.not_not.mp hle
            rw [ih _ _ _ _ _ _ h, List.length_append, List.length_take, Nat.min_eq_left hle', List.sum_cons]; omega

theorem chunkLens_sum (os len : Nat) : (chunkLens os len).sum = len := by
  simp only [chunkLens, List.sum_append, List.sum_replicate_nat]
  have := Nat.div_add_mod len os
  rw [Nat.mul_comm] at this
  split
  · simp; omega
  · simp; omega

theorem pbkdf2_length (hM : MacResultLen M) (mac : μ) (salt : Bytes) (c outputLen : Nat) (mac' : μ) (out : Bytes)
    (h : pbkdf2 M mac salt c outputLen = some (mac', out)) : out.length = outputLen := by
  simp only [pbkdf2] at h
  split at h
  · cases h
  · split at h
    · cases h
    · rw [pbkdf2_loop_length M hM _ _ _ _ _ _ _ _ _ _ h, chunkLens_sum]; simp

end

end Cx.Proofs.KdfPbkdf2
