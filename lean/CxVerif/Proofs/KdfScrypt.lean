/-
  Proofs.KdfScrypt — decision logic of `ScryptParams::new` (Impl.Kdf) against the parameter constraints of RFC 7914
  (Spec.Kdf.scryptValid), for every (log_n, r, p).  Core Lean only.
-/
import CxVerif.Impl.Kdf
import CxVerif.Spec.Kdf
namespace Cx.Proofs.KdfScrypt
open Cx.Impl.Kdf

theorem guard_isSome {α : Type} {c : Prop} [Decidable c] (x : Option α) :
    (if ¬ c then none else x).isSome ↔ c ∧ x.isSome := by
  by_cases h : c <;> simp [h]

/-- what the chain of `assert!`s and `checked_mul`s of `ScryptParams::new` accepts (usize = 64 bits): each `assert!` adds
    its condition (`guard_isSome`), each `checked_mul` its bound -/
theorem new_iff (log_n r p : Nat) :
    (ScryptParams.new log_n r p).isSome ↔
      (0 < r ∧ 0 < p ∧ 0 < log_n ∧ log_n < 64 ∧ r * 128 < 2 ^ 64 ∧ r * 128 * 2 ^ log_n < 2 ^ 64 ∧ r * 128 * p < 2 ^ 64 ∧
        log_n < r * 16 ∧ r * p < 2 ^ 30) := by
  unfold ScryptParams.new checked_mul USIZE_BITS
  simp only [guard_isSome, Nat.one_shiftLeft]
  by_cases h5 : r * 128 < 2 ^ 64
  · rw [if_pos h5]
    -- reduces the `match some _ with …` that the rewrite leaves (no lemma: iota only); the same step follows the
    -- rewrite of a call's result throughout the KDF and Argon2 proofs
    simp only []
    by_cases h6 : r * 128 * 2 ^ log_n < 2 ^ 64
    · rw [if_pos h6]
      simp only []
      by_cases h7 : r * 128 * p < 2 ^ 64
      · rw [if_pos h7]
        simp only [guard_isSome, h5, h6, h7, true_and, Option.isSome_some, and_true]
      · rw [if_neg h7]; simp [h7]
    · rw [if_neg h6]; simp [h6]
  · rw [if_neg h5]; simp [h5]

theorem new_eq_some (log_n r p : Nat) (h : (ScryptParams.new log_n r p).isSome) :
    ScryptParams.new log_n r p = some ⟨log_n, r, p⟩ := by
  obtain ⟨h1, h2, h3, h4, h5, h6, h7, h8, h9⟩ := (new_iff log_n r p).mp h
  simp only [ScryptParams.new, checked_mul, USIZE_BITS, Nat.one_shiftLeft, h1, h2, h3, h4, h5, h6, h7, h8, not_true_eq_false,
    if_false, if_true, Nat.lt_of_lt_of_eq h9 (by decide : 2 ^ 30 = 0x40000000)]

theorem isPow2_pow (k : Nat) : Spec.Kdf.isPow2 (2 ^ k) = true := by
  simp only [Spec.Kdf.isPow2, Bool.and_eq_true, decide_eq_true_eq, List.any_eq_true, List.mem_range, beq_iff_eq]
  exact ⟨Nat.two_pow_pos k, k, by rw [Nat.log2_two_pow]; omega, rfl⟩

theorem valid_iff (k r p dkLen : Nat) :
    Spec.Kdf.scryptValid (2 ^ k) r p dkLen = true ↔
      (1 ≤ k ∧ 0 < r ∧ k < 16 * r ∧ 0 < p ∧ r * p < 2 ^ 30 ∧ 0 < dkLen ∧ dkLen ≤ (2 ^ 32 - 1) * 32) := by
  simp only [Spec.Kdf.scryptValid, isPow2_pow, Nat.log2_two_pow, Bool.and_eq_true, decide_eq_true_eq, Bool.and_true]
  have h1 : 2 ^ k > 1 ↔ 1 ≤ k := by
    constructor
    · intro h; cases k with
      | zero => simp at h
      | succ k => omega
    · intro h; exact Nat.one_lt_two_pow (by omega)
  by_cases hr : 0 < r
  · have h2 : p ≤ (2 ^ 32 - 1) * 32 / (128 * r) ↔ r * p < 2 ^ 30 := by
      rw [Nat.le_div_iff_mul_le (by omega)]
      have : p * (128 * r) = 128 * (r * p) := by rw [Nat.mul_comm r p, Nat.mul_left_comm]
      rw [this]
      generalize r * p = x
      omega
    rw [h1, h2]
    constructor
    · rintro ⟨⟨⟨⟨⟨⟨a, b⟩, c⟩, d⟩, e⟩, f⟩, g⟩; exact ⟨a, b, by omega, d, e, f, g⟩
    · rintro ⟨a, b, c, d, e, f, g⟩; exact ⟨⟨⟨⟨⟨⟨a, b⟩, by omega⟩, d⟩, e⟩, f⟩, g⟩
  · constructor
    · rintro ⟨⟨⟨⟨⟨⟨a, b⟩, c⟩, d⟩, e⟩, f⟩, g⟩; exact absurd b hr
    · rintro ⟨a, b, c, d, e, f, g⟩; exact absurd b hr

theorem new_iff_valid (log_n r p : Nat) :
    (ScryptParams.new log_n r p).isSome ↔
      (Spec.Kdf.scryptValid (2 ^ log_n) r p 1 = true ∧
        log_n < 64 ∧ 128 * r * 2 ^ log_n < 2 ^ 64 ∧ 128 * r * p < 2 ^ 64) := by
  rw [new_iff, valid_iff]
  have e1 : 128 * r * 2 ^ log_n = r * 128 * 2 ^ log_n := by rw [Nat.mul_comm 128 r]
  have e2 : 128 * r * p = r * 128 * p := by rw [Nat.mul_comm 128 r]
  rw [e1, e2]
  have key : 0 < p → r ≤ r * p := fun hp => Nat.le_mul_of_pos_right r hp
  generalize r * 128 * 2 ^ log_n = a
  generalize r * 128 * p = b
  generalize r * p = c at key ⊢
  constructor
  · rintro ⟨h1, h2, h3, h4, h5, h6, h7, h8, h9⟩
    exact ⟨⟨by omega, h1, by omega, h2, h9, by decide, by decide⟩, h4, h6, h7⟩
  · rintro ⟨⟨h1, h2, h3, h4, h5, _, _⟩, h6, h7, h8⟩
    have : r * 128 < 2 ^ 64 := by
      have := key h4
      omega
    exact ⟨h2, h4, by omega, h6, this, h7, h8, by omega, h5⟩

/-- inside the address space (`log_n ≤ 32`, the scratch vector fits) the RFC's constraints are: accepted by `ScryptParams::new`, and the two on dkLen -/
theorem valid_iff_new (log_n r p dkLen : Nat) (hlog : log_n ≤ 32) (hmem : 128 * r * 2 ^ log_n < 2 ^ 64) :
    Spec.Kdf.scryptValid (2 ^ log_n) r p dkLen = true ↔
      ((ScryptParams.new log_n r p).isSome ∧ 0 < dkLen ∧ dkLen ≤ (2 ^ 32 - 1) * 32) := by
  rw [new_iff_valid, valid_iff, valid_iff]
  have e : 128 * r * p = 128 * (r * p) := Nat.mul_assoc ..
  rw [e]
  generalize r * p = c
  constructor
  · rintro ⟨h1, h2, h3, h4, h5, h6, h7⟩
    exact ⟨⟨⟨h1, h2, h3, h4, h5, by decide, by decide⟩, by omega, hmem, by omega⟩, h6, h7⟩
  · rintro ⟨⟨⟨h1, h2, h3, h4, h5, _, _⟩, _⟩, h6, h7⟩
    exact ⟨h1, h2, h3, h4, h5, h6, h7⟩
end Cx.Proofs.KdfScrypt
