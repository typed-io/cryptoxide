/-
  Proofs.KdfScryptMF — what the top level of src/scrypt.rs (`scrypt` of Impl.Kdf; RFC 7914 §6 in Props.C10.scrypt_spec)
  needs beyond ROMix: PBKDF2 (c = 1) over an `Hmac` object that is kept and used again (the first `pbkdf2` call leaves
  it reset), and the loop over the chunks of `B` (`scrypt_chunks_eq`).  `RelM` names the abstraction relation of the
  HMAC-SHA256 object `scrypt` builds.  Uses the generic PBKDF2 theorem (Proofs.KdfPbkdf2).
-/
import CxVerif.Proofs.KdfScryptMix
import CxVerif.Proofs.KdfPbkdf2
import CxVerif.Proofs.MacInst
namespace Cx.Proofs.KdfScryptMF
open Cx.Impl.Digest Cx.Impl.Kdf Cx.Proofs.MacObj Cx.Proofs.MacHmac Cx.Proofs.MacLegacy
open Cx.Proofs.KdfPbkdf2 Cx.Proofs.KdfScryptMix

section
variable {μ : Type} (M : MacModel μ) {L : Nat} {sizes : List Nat} {fk : Bytes → Option Fn} {ok : Fn → Bytes → Prop}
  {Rel : μ → Fn → Bytes → Prop} {Fin : μ → Fn → Prop}

theorem flatMap_F_length (f : Fn) (salt : Bytes) (c L : Nat) (hF : ∀ i, (Spec.Kdf.F f salt c i).length = L) (n : Nat) :
    ((List.range n).flatMap fun i => Spec.Kdf.F f salt c (i + 1)).length = n * L := by
  induction n with
  | zero => simp
  | succ n ih => rw [List.range_succ, List.flatMap_append, List.length_append, ih]; simp [hF, Nat.succ_mul]

theorem ceilDiv_mul_ge (a b : Nat) (hb : 0 < b) : a ≤ Spec.Kdf.ceilDiv a b * b :=
  (chunkLens_count_le b a _ hb).mp (Nat.le_of_eq (chunkLens_length b a hb))

theorem pbkdf2_some (hM : Contract (macFam M) L sizes fk ok Rel Fin) (hL : 0 < L) (prf : Bytes → Bytes → Bytes)
    (P salt : Bytes) (hS : ∀ i, ok (prf P) (salt ++ natToBE 4 i)) (hU : ∀ u : Bytes, u.length = L → ok (prf P) u)
    (mac : μ) (hr : Rel mac (prf P) []) (c dkLen : Nat) (hc : 0 < c) (hlen : dkLen ≤ (2 ^ 32 - 1) * L) :
    ∃ mac' out, pbkdf2 M mac salt c dkLen = some (mac', out) ∧ Rel mac' (prf P) [] ∧
      Spec.Kdf.pbkdf2 prf L P salt c dkLen = some out ∧ out.length = dkLen := by
  obtain ⟨mac', hr', e⟩ := pbkdf2_run M hM hL prf P salt hS hU mac hr c dkLen
  simp only [Spec.Kdf.pbkdf2, Nat.ne_of_gt hc, Nat.not_lt.mpr hlen, if_false] at e ⊢
  refine ⟨mac', _, e, hr', rfl, ?_⟩
  rw [List.length_take, flatMap_F_length _ _ _ _ (F_length M hM (prf P) salt hS hU c hc mac hr)]
  have := ceilDiv_mul_ge dkLen L hL
  omega

end


abbrev RelM (P : Bytes) := RelH Spec.Sha2.sha256 64 P (RelL Spec.Sha2.sha256 (fun (c : Impl.Sha2.Ctx256) m =>
  Cx.Proofs.Sha2Engine.Abs256 Impl.Sha2.Sha256.state c.engine m))

/-- `for chunk in b.chunks_mut(r128) { scrypt_ro_mix(chunk, &mut v, &mut t, n) }`: ROMix on every chunk; the scratch
    buffers are reused (their contents do not matter, only their shapes, which every call preserves) -/
theorem scrypt_chunks_eq (r : Nat) (hr : 0 < r) (k : Nat) (hk : k ≤ 32) : ∀ (blocks : List Bytes) (v : List Bytes)
    (t acc : Bytes), (∀ c ∈ blocks, c.length = 128 * r) → v.length = 2 ^ k → (∀ c ∈ v, c.length = 128 * r) →
    t.length = 128 * r →
    scrypt_chunks (2 ^ k) blocks v t acc = some (acc ++ (blocks.map (Spec.Kdf.roMix r (2 ^ k))).flatten) := by
  intro blocks
  induction blocks with
  | nil => intro v t acc _ _ _ _; simp [scrypt_chunks]
  | cons b blocks ih =>
    intro v t acc hb hv hvl ht
    obtain ⟨t', e, ht'⟩ := scrypt_ro_mix_eq r hr k hk b v t (hb b (by simp)) hv hvl ht
    simp only [scrypt_chunks, e]
    rw [ih _ t' _ (fun c h => hb c (by simp [h])) (Spec.Kdf.iterates_length ..)
      (iterates_mem_length r _ b (hb b (by simp))) ht']
    simp [List.append_assoc]

end Cx.Proofs.KdfScryptMF
