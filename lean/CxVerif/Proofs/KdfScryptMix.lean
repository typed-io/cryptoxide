/-
  Proofs.KdfScryptMix — `scrypt_block_mix`, `integerify`, `scrypt_ro_mix` of src/scrypt.rs (Impl.Kdf) against
  scryptBlockMix / Integerify / scryptROMix of RFC 7914 §4, §5 (Spec.Kdf).

  The chunk loop of `scrypt_block_mix` interleaves its output (even blocks to the first half of `output`, odd blocks to
  the second half); it is `Spec.Kdf.blockMix r` by induction over PAIRS of 64-byte chunks with the buffer invariant
  `output = E ‖ G1 ‖ O ‖ G2` (E, O = the even/odd blocks written so far; G1, G2 = not yet written).  `integerify` reads
  4 bytes little-endian and masks with N − 1; for N = 2^k, k ≤ 32 that is the little-endian integer of the whole last
  64-byte block mod N.  At the end: the output lengths of `salsa20_8` and `scrypt_block_mix` whenever they return at all
  (no hypothesis on the input; the translator tie needs them for every input).  Core Lean only.
-/
import CxVerif.Proofs.KdfScryptSalsa
import CxVerif.Proofs.Blocks
namespace Cx.Proofs.KdfScryptMix
open Cx.Impl.Kdf Cx.Proofs.KdfScryptSalsa

theorem xor_eq (x y out : Bytes) (n : Nat) (hx : x.length = n) (hy : y.length = n) (ho : out.length = n) :
    Impl.Kdf.xor x y out = xorBytes x y := by
  subst hx
  have h1 : (List.zipWith (fun a b : UInt8 => a ^^^ b) x y).length = x.length := by simp [hy]
  simp only [Impl.Kdf.xor, xorBytes, ho]
  rw [List.take_of_length_le (by omega), h1, List.drop_of_length_le (by omega), List.append_nil]

theorem write_at_mid (dst A B C src : Bytes) (pos : Nat) (hd : dst = A ++ B ++ C) (hp : pos = A.length)
    (hs : src.length ≤ B.length) : write_at dst pos src = some (A ++ src ++ B.drop src.length ++ C) := by
  subst hd hp
  have h1 : A.length + src.length ≤ (A ++ B ++ C).length := by simp; omega
  simp only [write_at, h1, if_true, Option.some.injEq]
  rw [List.append_assoc A B C, List.take_left, List.drop_append, List.drop_of_length_le (by omega)]
  simp only [List.nil_append, Nat.add_sub_cancel_left]
  rw [List.drop_append]
  by_cases h : src.length = B.length
  · simp [h]
  · rw [show src.length - B.length = 0 by omega]; simp

theorem uniform_flatten_length (len : Nat) : ∀ (vs : List Bytes), (∀ c ∈ vs, c.length = len) →
    vs.flatten.length = vs.length * len := by
  intro vs
  induction vs with
  | nil => intro _; simp
  | cons c rest ih =>
    intro h
    simp only [List.flatten_cons, List.length_append, List.length_cons]
    rw [ih (fun c hc => h c (List.mem_cons_of_mem _ hc)), h c (List.mem_cons_self ..), Nat.succ_mul]; omega

theorem takeBlocks_flatten (n : Nat) : ∀ (k : Nat) (d : Bytes), d.length = n * k → (takeBlocks n k d).flatten = d := by
  intro k d h
  rw [FB.takeBlocks_flatten, List.take_of_length_le (by rw [h, Nat.mul_comm]; exact Nat.le_refl _)]

theorem blockMixYs_length : ∀ (bs : List Bytes) (X : Bytes), (Spec.Kdf.blockMixYs X bs).length = bs.length := by
  intro bs
  induction bs with
  | nil => intro X; rfl
  | cons b bs ih => intro X; simp [Spec.Kdf.blockMixYs, ih]

theorem blockMixYs_mem_length : ∀ (bs : List Bytes) (X : Bytes), ∀ y ∈ Spec.Kdf.blockMixYs X bs, y.length = 64 := by
  intro bs
  induction bs with
  | nil => intro X y hy; simp [Spec.Kdf.blockMixYs] at hy
  | cons b bs ih =>
    intro X y hy
    simp only [Spec.Kdf.blockMixYs, List.mem_cons] at hy
    -- no `rfl` pattern here: unifying `y` with the Salsa value would evaluate the core on symbolic words
    rcases hy with hy | hy
    · exact hy ▸ spec_salsa20_8_length _
    · exact ih _ y hy

theorem evens_odds_flatten_length : ∀ (Y : List Bytes), (∀ y ∈ Y, y.length = 64) →
    (Spec.Kdf.evens Y).flatten.length + (Spec.Kdf.odds Y).flatten.length = 64 * Y.length := by
  intro Y
  induction Y using Spec.Kdf.evens.induct with
  | case1 => intro _; rfl
  | case2 a => intro h; simp [Spec.Kdf.evens, Spec.Kdf.odds, h a (List.mem_singleton.mpr rfl)]
  | case3 a b t ih =>
    intro h
    have ha := h a (by simp)
    have hb := h b (by simp)
    have := ih (fun y hy => h y (by simp [hy]))
    simp only [Spec.Kdf.evens, Spec.Kdf.odds, List.flatten_cons, List.length_append, List.length_cons, ha, hb]
    omega

theorem blockMix_length (r : Nat) (B : Bytes) : (Spec.Kdf.blockMix r B).length = 128 * r := by
  simp only [Spec.Kdf.blockMix, List.length_append]
  rw [evens_odds_flatten_length _ (blockMixYs_mem_length _ _), blockMixYs_length, FB.takeBlocks_length]
  omega

/-- the chunk loop, two chunks (one even, one odd block index) at a time; buffer invariant E ‖ G1 ‖ O ‖ G2 -/
theorem block_mix_loop_pairs (half : Nat) : ∀ (k : Nat) (chunks : List Bytes) (m : Nat) (x t E G1 O G2 : Bytes),
    chunks.length = 2 * k → (∀ c ∈ chunks, c.length = 64) → x.length = 64 → t.length = 64 →
    E.length = 64 * m → O.length = 64 * m → G1.length = 64 * k → G2.length = 64 * k → half = 64 * (m + k) →
    scrypt_block_mix_loop (2 * half) chunks (2 * m) x t (E ++ G1 ++ O ++ G2)
      = some (E ++ (Spec.Kdf.evens (Spec.Kdf.blockMixYs x chunks)).flatten
              ++ O ++ (Spec.Kdf.odds (Spec.Kdf.blockMixYs x chunks)).flatten) := by
  intro k
  induction k with
  | zero =>
    intro chunks m x t E G1 O G2 hc _ _ _ _ _ h1 h2 _
    have : chunks = [] := List.eq_nil_of_length_eq_zero (by omega)
    subst this
    have e1 : G1 = [] := List.eq_nil_of_length_eq_zero (by omega)
    have e2 : G2 = [] := List.eq_nil_of_length_eq_zero (by omega)
    subst e1 e2
    simp [scrypt_block_mix_loop, Spec.Kdf.blockMixYs, Spec.Kdf.evens, Spec.Kdf.odds]
  | succ k ih =>
    intro chunks m x t E G1 O G2 hc hcl hx ht hE hO hG1 hG2 hhalf
    match chunks, hc, hcl with
    | c0 :: c1 :: rest, hc, hcl =>
      have hc0 : c0.length = 64 := hcl c0 (by simp)
      have hc1 : c1.length = 64 := hcl c1 (by simp)
      have hrest : ∀ c ∈ rest, c.length = 64 := fun c h => hcl c (by simp [h])
      have hrl : rest.length = 2 * k := by simp only [List.length_cons] at hc; omega
      -- first chunk: even index 2m
      have ht1 : (xorBytes x c0).length = 64 := by rw [Bytes.xorBytes_length, hx, hc0]; rfl
      have hY0 := spec_salsa20_8_length (xorBytes x c0)
      generalize hY0d : Spec.Kdf.salsa20_8 (xorBytes x c0) = Y0 at hY0
      have ht2 : (xorBytes Y0 c1).length = 64 := by rw [Bytes.xorBytes_length, hY0, hc1]; rfl
      have hY1 := spec_salsa20_8_length (xorBytes Y0 c1)
      generalize hY1d : Spec.Kdf.salsa20_8 (xorBytes Y0 c1) = Y1 at hY1
      have w1 : write_at (E ++ G1 ++ O ++ G2) (2 * m / 2 * 64) Y0 = some (E ++ Y0 ++ G1.drop 64 ++ (O ++ G2)) := by
        have := write_at_mid (E ++ G1 ++ O ++ G2) E G1 (O ++ G2) Y0 (2 * m / 2 * 64) (by simp) (by omega) (by omega)
        rw [this, hY0]
      have w2 : write_at (E ++ Y0 ++ G1.drop 64 ++ (O ++ G2)) ((2 * m + 1) / 2 * 64 + 2 * half / 2) Y1
          = some ((E ++ Y0) ++ G1.drop 64 ++ (O ++ Y1) ++ G2.drop 64) := by
        have := write_at_mid (E ++ Y0 ++ G1.drop 64 ++ (O ++ G2)) (E ++ Y0 ++ G1.drop 64 ++ O) G2 [] Y1
          ((2 * m + 1) / 2 * 64 + 2 * half / 2) (by simp) (by simp; omega) (by omega)
        rw [this, hY1]; simp
      have step := ih rest (m + 1) Y1 (xorBytes Y0 c1) (E ++ Y0) (G1.drop 64) (O ++ Y1) (G2.drop 64) hrl hrest hY1 ht2
        (by simp; omega) (by simp; omega) (by simp; omega) (by simp; omega) (by omega)
      have e0 : (2 * m) % 2 = 0 := by omega
      have e1 : ¬ (2 * m + 1) % 2 = 0 := by omega
      simp only [scrypt_block_mix_loop, xor_eq x c0 t 64 hx hc0 ht, salsa20_8_eq _ ht1, hY0d, e0, if_true, w1,
        xor_eq Y0 c1 (xorBytes x c0) 64 hY0 hc1 ht1, salsa20_8_eq _ ht2, hY1d, e1, if_false, w2,
        show 2 * m + 1 + 1 = 2 * (m + 1) by omega, step, Spec.Kdf.blockMixYs, Spec.Kdf.evens, Spec.Kdf.odds,
        List.flatten_cons]
      simp only [List.append_assoc]

/-- **`scrypt_block_mix` = scryptBlockMix (RFC 7914 §4)** for every input of 2r 64-byte blocks (r > 0) and an output
    buffer of the same length: every byte of `output` is overwritten, even blocks first, then odd blocks. -/
theorem scrypt_block_mix_eq (r : Nat) (hr : 0 < r) (input output : Bytes) (hi : input.length = 128 * r)
    (ho : output.length = 128 * r) : scrypt_block_mix input output = some (Spec.Kdf.blockMix r input) := by
  have h1 : ¬ input.length < 64 := by omega
  have h2 : ¬ input.length % 64 > 0 := by omega
  have hq : input.length / 64 = 2 * r := by omega
  have hx : (input.drop (input.length - 64)).length = 64 := by simp; omega
  have hX : (input.drop (64 * (2 * r - 1))).take 64 = input.drop (input.length - 64) := by
    rw [show 64 * (2 * r - 1) = input.length - 64 by omega, List.take_of_length_le (by omega)]
  have := block_mix_loop_pairs (64 * r) r (takeBlocks 64 (2 * r) input) 0 (input.drop (input.length - 64)) (zeros 64)
    [] (output.take (64 * r)) [] (output.drop (64 * r)) (FB.takeBlocks_length ..)
    (FB.takeBlocks_all_len (2 * r) input (by omega)) hx (by simp [zeros]) rfl rfl (by simp; omega) (by simp; omega)
    (by omega)
  simp only [List.nil_append, List.append_nil, List.take_append_drop] at this
  simp only [scrypt_block_mix, h1, h2, if_false, hq, Spec.Kdf.blockMix, hX]
  generalize input.length - 64 = d at this ⊢
  rw [show input.length = 2 * (64 * r) by omega]
  exact this

theorem leU32_toNat (bs : Bytes) : (leU32 bs).toNat = leNat (bs.take 4) := by
  have h := Bytes.leNat_lt (bs.take 4)
  have h4 : (bs.take 4).length ≤ 4 := by simp; omega
  have : 256 ^ (bs.take 4).length ≤ 256 ^ 4 := Nat.pow_le_pow_right (by decide) h4
  simp only [leU32, UInt32.toNat_ofNat']
  exact Nat.mod_eq_of_lt (by omega)

/-- **`integerify`: the code reads the first 4 bytes of the last 64-byte block little-endian and masks with N − 1;
    for N = 2^k, k ≤ 32, this is Integerify(X) mod N of RFC 7914 (the whole block as a little-endian integer).**
    (For k > 32 it is NOT: the code never produces an index ≥ 2^32 — see `integerify_differs_above_32`.) -/
theorem integerify_eq (r : Nat) (hr : 0 < r) (x : Bytes) (hx : x.length = 128 * r) (n k : Nat) (hn : n = 2 ^ k)
    (hk : k ≤ 32) : integerify x n = some (Spec.Kdf.integerify r x % n) := by
  have hpos : 0 < 2 ^ k := Nat.two_pow_pos k
  have h1 : ¬ n = 0 := by omega
  have h2 : ¬ x.length < 64 := by omega
  simp only [integerify, h1, h2, if_false, Spec.Kdf.integerify, Option.some.injEq]
  rw [show 64 * (2 * r - 1) = x.length - 64 by omega, List.take_of_length_le (by simp; omega), leU32_toNat, hn,
    Nat.and_two_pow_sub_one_eq_mod, Bytes.leNat_split 4 (x.drop (x.length - 64))]
  obtain ⟨d, hd⟩ : ∃ d, k + d = 32 := ⟨32 - k, by omega⟩
  rw [show (256 : Nat) ^ 4 = 2 ^ k * 2 ^ d by rw [← Nat.pow_add, hd], Nat.mul_assoc, Nat.add_mul_mod_self_left]

set_option maxRecDepth 100000 in
/-- beyond 2^32 the 4-byte read is not Integerify mod N: a block whose little-endian value is 2^32 -/
theorem integerify_differs_above_32 :
    let x : Bytes := zeros 64 ++ ([0, 0, 0, 0, 1] ++ zeros 59)
    integerify x (2 ^ 33) = some 0 ∧ Spec.Kdf.integerify 1 x % 2 ^ 33 = 2 ^ 32 := by decide

theorem iter_pred {α : Type} (P : α → Prop) (f : α → α) (hf : ∀ y, P (f y)) : ∀ (n : Nat) (x : α), P x →
    P (Spec.Stream.iter f n x) := by
  intro n
  induction n with
  | zero => intro x hx; exact hx
  | succ n ih => intro x _; exact ih _ (hf x)

theorem iterates_mem_length (r : Nat) : ∀ (n : Nat) (b : Bytes), b.length = 128 * r →
    ∀ c ∈ Spec.Kdf.iterates (Spec.Kdf.blockMix r) n b, c.length = 128 * r := by
  intro n
  induction n with
  | zero => intro b _ c hc; simp [Spec.Kdf.iterates] at hc
  | succ n ih =>
    intro b hb c hc
    simp only [Spec.Kdf.iterates, List.mem_cons] at hc
    rcases hc with rfl | hc
    · exact hb
    · exact ih _ (blockMix_length r b) c hc

theorem roMixStep_length (r : Nat) (V : List Bytes) (hV : V ≠ []) (X : Bytes) :
    (Spec.Kdf.roMixStep r V hV X).length = 128 * r := blockMix_length _ _

theorem roMix_length (r N : Nat) (B : Bytes) (hB : B.length = 128 * r) : (Spec.Kdf.roMix r N B).length = 128 * r := by
  unfold Spec.Kdf.roMix
  split
  · exact hB
  · exact iter_pred (fun y : Bytes => y.length = 128 * r) _ (roMixStep_length r _ _) N _
      (iter_pred (fun y : Bytes => y.length = 128 * r) _ (blockMix_length r) N B hB)

/-- first loop: V[i] = X; X = scryptBlockMix(X), over the chunks of `v` -/
theorem ro_mix_fill_eq (r : Nat) (hr : 0 < r) : ∀ (v : List Bytes) (b : Bytes) (done : List Bytes),
    b.length = 128 * r → (∀ c ∈ v, c.length = 128 * r) →
    ro_mix_fill v b done = some (Spec.Stream.iter (Spec.Kdf.blockMix r) v.length b,
      (Spec.Kdf.iterates (Spec.Kdf.blockMix r) v.length b).reverse ++ done) := by
  intro v
  induction v with
  | nil => intro b done _ _; simp [ro_mix_fill, Spec.Stream.iter, Spec.Kdf.iterates]
  | cons c v ih =>
    intro b done hb hv
    have hc : c.length = 128 * r := hv c (by simp)
    have h1 : ¬ ¬ b.length ≤ c.length := by omega
    have hcp : Impl.Hmac.copy_prefix c b = b := by
      simp only [Impl.Hmac.copy_prefix]
      rw [List.drop_of_length_le (by omega), List.append_nil]
    simp only [ro_mix_fill, h1, if_false, hcp, scrypt_block_mix_eq r hr b b hb hb]
    rw [ih _ _ (blockMix_length r b) (fun c' h => hv c' (by simp [h]))]
    simp [Spec.Stream.iter, Spec.Kdf.iterates]

/-- second loop: j = Integerify(X) mod N; X = scryptBlockMix(X ⊕ V[j]) -/
theorem ro_mix_walk_eq (r : Nat) (hr : 0 < r) (V : List Bytes) (hV : V ≠ []) (kk : Nat) (hn : V.length = 2 ^ kk)
    (hkk : kk ≤ 32) (hVl : ∀ c ∈ V, c.length = 128 * r) : ∀ (k : Nat) (b t : Bytes),
    b.length = 128 * r → t.length = 128 * r →
    ∃ t', ro_mix_walk V V.length k b t = some (Spec.Stream.iter (Spec.Kdf.roMixStep r V hV) k b, t') ∧
      t'.length = 128 * r := by
  intro k
  induction k with
  | zero => intro b t _ ht; exact ⟨t, rfl, ht⟩
  | succ k ih =>
    intro b t hb ht
    have hj : Spec.Kdf.integerify r b % V.length < V.length := Nat.mod_lt _ (List.length_pos_iff.mpr hV)
    have hvj : (V[Spec.Kdf.integerify r b % V.length]'hj).length = 128 * r := hVl _ (List.getElem_mem _)
    have ht1 : (xorBytes b (V[Spec.Kdf.integerify r b % V.length]'hj)).length = 128 * r := by
      rw [Bytes.xorBytes_length, hb, hvj]; exact Nat.min_self _
    obtain ⟨t', e, ht'⟩ := ih (Spec.Kdf.roMixStep r V hV b) (xorBytes b (V[Spec.Kdf.integerify r b % V.length]'hj))
      (roMixStep_length r V hV b) ht1
    refine ⟨t', ?_, ht'⟩
    simp only [ro_mix_walk, integerify_eq r hr b hb V.length kk hn hkk, List.getElem?_eq_getElem hj,
      xor_eq b _ t (128 * r) hb hvj ht, scrypt_block_mix_eq r hr _ b ht1 hb, Spec.Stream.iter]
    exact e

/-- **`scrypt_ro_mix` = scryptROMix (RFC 7914 §5)** for N = 2^k, k ≤ 32: `b` ← ROMix(b), the scratch vector `v`
    ends as V = [B, BlockMix B, …, BlockMix^{N−1} B], `t` keeps its length. -/
theorem scrypt_ro_mix_eq (r : Nat) (hr : 0 < r) (k : Nat) (hk : k ≤ 32) (b : Bytes) (v : List Bytes) (t : Bytes)
    (hb : b.length = 128 * r) (hv : v.length = 2 ^ k) (hvl : ∀ c ∈ v, c.length = 128 * r) (ht : t.length = 128 * r) :
    ∃ t', scrypt_ro_mix b v t (2 ^ k)
        = some (Spec.Kdf.roMix r (2 ^ k) b, Spec.Kdf.iterates (Spec.Kdf.blockMix r) (2 ^ k) b, t') ∧
      t'.length = 128 * r := by
  have hN : ¬ 2 ^ k = 0 := Nat.ne_of_gt (Nat.two_pow_pos k)
  have hVlen : (Spec.Kdf.iterates (Spec.Kdf.blockMix r) (2 ^ k) b).length = 2 ^ k := Spec.Kdf.iterates_length ..
  have hV : Spec.Kdf.iterates (Spec.Kdf.blockMix r) (2 ^ k) b ≠ [] := by
    intro h; rw [h] at hVlen; exact hN hVlen.symm
  obtain ⟨t', e, ht'⟩ := ro_mix_walk_eq r hr _ hV k hVlen hk (iterates_mem_length r _ b hb) (2 ^ k)
    (Spec.Stream.iter (Spec.Kdf.blockMix r) (2 ^ k) b) t
    (iter_pred (fun y : Bytes => y.length = 128 * r) _ (blockMix_length r) _ b hb) ht
  rw [hVlen] at e
  refine ⟨t', ?_, ht'⟩
  simp only [scrypt_ro_mix, ro_mix_fill_eq r hr v b [] hb hvl, hv, List.append_nil, List.reverse_reverse, e,
    Spec.Kdf.roMix, hN, dite_false]

theorem salsa20_8_length (t x : Bytes) (h : salsa20_8 t = some x) : x.length = 64 := by
  by_cases ht : t.length = 64
  · rw [Cx.Proofs.KdfScryptSalsa.salsa20_8_eq t ht] at h
    exact Option.some.inj h ▸ Cx.Proofs.KdfScryptSalsa.spec_salsa20_8_length t
  · rw [Cx.Proofs.KdfScryptSalsa.salsa20_8_refuses t ht] at h; cases h

theorem write_at_length (dst src out : Bytes) (pos : Nat) (h : write_at dst pos src = some out) : out.length = dst.length := by
  simp only [write_at] at h
  split at h
  · cases h; simp; omega
  · cases h

theorem block_mix_loop_length (L : Nat) : ∀ (cs : List Bytes) (i : Nat) (x t output out : Bytes),
    scrypt_block_mix_loop L cs i x t output = some out → out.length = output.length := by
  intro cs
  induction cs with
  | nil => intro i x t output out h; simp only [scrypt_block_mix_loop] at h; cases h; rfl
  | cons c rest ih =>
    intro i x t output out h
    simp only [scrypt_block_mix_loop] at h
    split at h
    · cases h
    · split at h
      · cases h
      · rename_i o' ho
        rw [ih _ _ _ _ _ h, write_at_length _ _ _ _ ho]

theorem block_mix_length (input output out : Bytes) (h : scrypt_block_mix input output = some out) :
    out.length = output.length := by
  simp only [scrypt_block_mix] at h
  split at h
  · cases h
  · split at h
    · cases h
    · exact block_mix_loop_length _ _ _ _ _ _ _ h

end Cx.Proofs.KdfScryptMix
