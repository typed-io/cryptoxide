/-
  Proofs.KdfScryptSalsa — the `salsa20_8` of src/scrypt.rs (Impl.Kdf: the 32 extracted `run_round!` rows, applied
  `rounds / 2` times, plus the feed-forward) equals the Salsa20/8 Core of RFC 7914 §3 (Spec.Kdf.salsa20_8 =
  Bernstein's x + doubleround^4(x)).

  Nothing is evaluated on symbolic words: the four `run_round!` rows that Bernstein's quarterround expands to are
  interpreted once (= `Spec.Salsa.qround`, for pairwise distinct indices); the extracted 32-row table is, by `decide`, the
  table generated from the index quadruples of columnround / rowround; interpreting a generated table is folding
  quarterrounds, by induction over the table.  Core Lean only.
-/
import CxVerif.Impl.Kdf
import CxVerif.Spec.Kdf
import CxVerif.Proofs.ByteLemmas
namespace Cx.Proofs.KdfScryptSalsa
open Cx.Impl.Kdf Cx.Spec.Salsa

abbrev Quad := Fin 16 × Fin 16 × Fin 16 × Fin 16

/-- the `run_round!` rows `[set_idx, idx_a, idx_b, rot]` of quarterround(y_i, y_j, y_k, y_l):
    z_j = y_j ⊕ ((y_i + y_l) <<< 7), z_k = y_k ⊕ ((z_j + y_i) <<< 9), z_l = y_l ⊕ ((z_k + z_j) <<< 13),
    z_i = y_i ⊕ ((z_l + z_k) <<< 18) -/
def qrows (q : Quad) : List (List Nat) :=
  match q with
  | (i, j, k, l) => [[j.val, i.val, l.val, 7], [k.val, j.val, i.val, 9], [l.val, k.val, j.val, 13], [i.val, l.val, k.val, 18]]

def distinct (q : Quad) : Prop :=
  match q with
  | (i, j, k, l) => i ≠ j ∧ i ≠ k ∧ i ≠ l ∧ j ≠ k ∧ j ≠ l ∧ k ≠ l

instance (q : Quad) : Decidable (distinct q) := by
  obtain ⟨i, j, k, l⟩ := q
  unfold distinct
  exact inferInstance

def qroundQ (s : State) (q : Quad) : State :=
  match q with
  | (i, j, k, l) => qround s i j k l

theorem run_round_row_eq (x : State) (s a b : Fin 16) (rot : Nat) :
    run_round_row x [s.val, a.val, b.val, rot] = some (x.set s.val (x[s] ^^^ rotl32 (x[a] + x[b]) rot) s.isLt) :=
  dif_pos (c := s.val < 16 ∧ a.val < 16 ∧ b.val < 16) ⟨s.isLt, a.isLt, b.isLt⟩

theorem foldlM_qrows (x : State) (q : Quad) (hd : distinct q) :
    (qrows q).foldlM run_round_row x = some (qroundQ x q) := by
  obtain ⟨i, j, k, l⟩ := q
  obtain ⟨hij, hik, hil, hjk, hjl, hkl⟩ := hd
  have vij : i.val ≠ j.val := fun h => hij (Fin.ext h)
  have vik : i.val ≠ k.val := fun h => hik (Fin.ext h)
  have vil : i.val ≠ l.val := fun h => hil (Fin.ext h)
  have vjk : j.val ≠ k.val := fun h => hjk (Fin.ext h)
  have vjl : j.val ≠ l.val := fun h => hjl (Fin.ext h)
  have vkl : k.val ≠ l.val := fun h => hkl (Fin.ext h)
  -- every row reads words the rows before it have not written, or their new values; the word `i`, written last, is written first in `qround`
  simp only [qrows, List.foldlM_cons, List.foldlM_nil, run_round_row_eq, Option.bind_eq_bind, Option.bind_some,
    Option.pure_def, qroundQ, qround, quarterRound, Option.some.injEq, Fin.getElem_fin, Vector.getElem_set_self,
    Vector.getElem_set_ne _ _ vjk, Vector.getElem_set_ne _ _ vjl, Vector.getElem_set_ne _ _ vkl, Vector.getElem_set_ne _ _ (Ne.symm vij),
    Vector.getElem_set_ne _ _ (Ne.symm vik), Vector.getElem_set_ne _ _ (Ne.symm vil), Vector.getElem_set_ne _ _ (Ne.symm vjk), Vector.getElem_set_ne _ _ (Ne.symm vkl)]
  rw [Vector.set_comm _ _ (Ne.symm vil), Vector.set_comm _ _ (Ne.symm vik), Vector.set_comm _ _ (Ne.symm vij)]

theorem foldlM_flatMap_qrows : ∀ (qs : List Quad) (x : State), (∀ q ∈ qs, distinct q) →
    (qs.flatMap qrows).foldlM run_round_row x = some (qs.foldl qroundQ x) := by
  intro qs
  induction qs with
  | nil => intro x _; rfl
  | cons q qs ih =>
    intro x hd
    rw [List.flatMap_cons, List.foldlM_append, foldlM_qrows x q (hd q (List.mem_cons_self ..))]
    simp only [Option.bind_eq_bind, Option.bind_some, List.foldl_cons]
    exact ih _ (fun q' h => hd q' (List.mem_cons_of_mem _ h))

/-- §5 columnround -/
def colIdx : List Quad := [(0, 4, 8, 12), (5, 9, 13, 1), (10, 14, 2, 6), (15, 3, 7, 11)]
/-- §4 rowround -/
def rowIdx : List Quad := [(0, 1, 2, 3), (5, 6, 7, 4), (10, 11, 8, 9), (15, 12, 13, 14)]

theorem columnRound_eq_fold (x : State) : columnRound x = colIdx.foldl qroundQ x := rfl
theorem rowRound_eq_fold (x : State) : rowRound x = rowIdx.foldl qroundQ x := rfl

theorem doubleRound_eq_fold (x : State) : doubleRound x = (colIdx ++ rowIdx).foldl qroundQ x := by
  rw [List.foldl_append, ← columnRound_eq_fold, ← rowRound_eq_fold]; rfl

theorem table_eq : Extracted.MacKdf.SCRYPT_SALSA = (colIdx ++ rowIdx).flatMap qrows := by decide

theorem idx_distinct : ∀ q ∈ colIdx ++ rowIdx, distinct q := by decide

theorem run_round_eq (x : State) : run_round x = some (doubleRound x) := by
  rw [run_round, table_eq, foldlM_flatMap_qrows _ x idx_distinct, doubleRound_eq_fold]

theorem salsa_rounds_eq : ∀ (k : Nat) (x : State), salsa_rounds k x = some (Spec.Stream.iter doubleRound k x) := by
  intro k
  induction k with
  | zero => intro x; rfl
  | succ k ih => intro x; simp only [salsa_rounds, run_round_eq, ih, Spec.Stream.iter]

theorem rounds_const : Extracted.MacKdf.SCRYPT_ROUNDS = 8 := rfl

theorem spec_salsa20_8_length (B : Bytes) : (Spec.Kdf.salsa20_8 B).length = 64 := by
  rw [Spec.Kdf.salsa20_8, Spec.Salsa.hash, serialize, Cx.Proofs.Bytes.flatMap_u32le_length, Vector.length_toList]

theorem ofFn_eq_map {α : Type} {n : Nat} (f : Fin n → α) : List.ofFn f = (List.finRange n).map f := by
  simp [List.finRange, List.map_ofFn, Function.comp_def]

theorem salsa20_8_eq (input : Bytes) (h : input.length = 64) :
    salsa20_8 input = some (Spec.Kdf.salsa20_8 input) := by
  simp only [salsa20_8, h, rounds_const, salsa_rounds_eq, Spec.Kdf.salsa20_8, Spec.Salsa.hash, rounds, addState,
    serialize, Spec.Stream.word]
  simp only [Vector.toList_ofFn, ofFn_eq_map, List.flatMap_map, Fin.getElem_fin, Vector.getElem_ofFn, not_true_eq_false,
    if_false]

/-- the `read_u32v_le` assertion: any other input length panics -/
theorem salsa20_8_refuses (input : Bytes) (h : input.length ≠ 64) : salsa20_8 input = none := by
  simp only [salsa20_8]
  rw [if_pos (by omega)]

end Cx.Proofs.KdfScryptSalsa
