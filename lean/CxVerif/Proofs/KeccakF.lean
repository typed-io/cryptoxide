/-
  Proofs.KeccakF — the compact Keccak-f of src/hashing/sha3.rs (Impl.Sha3.keccak_f: θ with M5, the ρπ walk with
  PIL/ROTC, χ with M5, ι with RC) equals FIPS 202 Keccak-p[1600,24] (Spec.Keccak: ι∘χ∘π∘ρ∘θ, 24 rounds), for EVERY
  state; and the extracted tables equal the formula-generated constants.

  Each step mapping of the code (θ, ρπ, χ, ι) is compared with the FIPS mapping on 25 symbolic lanes by conversion alone
  (`kernel_rfl`: both sides are straight-line terms in `a0 … a24`).  The code materialises the 25 lanes after every step, the
  Spec composes functions of (x, y); the mappings read coordinates below 5 only, so that makes no difference (`round_fuse`),
  and the round is the composition of the four.  The 24 rounds are a fold.
-/
import CxVerif.Spec.Keccak
import CxVerif.Impl.Sha3
import CxVerif.Proofs.KernelRfl
import CxVerif.Proofs.ByteLemmas
namespace Cx.Proofs.Keccak
open Cx.Spec.Keccak
open Cx.Impl.Sha3 (idx aidx aupd)

theorem vec25 (v : Vector UInt64 25) :
    ∃ a0 a1 a2 a3 a4 a5 a6 a7 a8 a9 a10 a11 a12 a13 a14 a15 a16 a17 a18 a19 a20 a21 a22 a23 a24 : UInt64,
      v = #v[a0,a1,a2,a3,a4,a5,a6,a7,a8,a9,a10,a11,a12,a13,a14,a15,a16,a17,a18,a19,a20,a21,a22,a23,a24] := by
  obtain ⟨⟨l⟩, hl⟩ := v
  obtain ⟨a0,a1,a2,a3,a4,a5,a6,a7,a8,a9,a10,a11,a12,a13,a14,a15,a16,a17,a18,a19,a20,a21,a22,a23,a24, rfl⟩ := Bytes.list25 l (by simpa using hl)
  exact ⟨a0,a1,a2,a3,a4,a5,a6,a7,a8,a9,a10,a11,a12,a13,a14,a15,a16,a17,a18,a19,a20,a21,a22,a23,a24, rfl⟩

/-- the 24 round constants of the source are the LFSR-generated ones of FIPS 202 Algorithm 5/6 -/
theorem RC_table : Cx.Extracted.Sha3.RC.map UInt64.toNat = (List.range 24).map RCnat := by decide +kernel

theorem RC_idx : ∀ i, i < 24 → idx Cx.Extracted.Sha3.RC i = some (RC i) := by
  intro i hi
  have h := congrArg (fun l => l[i]?) RC_table
  simp only [List.getElem?_map, List.getElem?_range hi, Option.map_some] at h
  unfold idx RC
  cases hx : Cx.Extracted.Sha3.RC[i]? with
  | none => rw [hx] at h; cases h
  | some w => rw [hx] at h; simp at h; rw [← h, UInt64.ofNat_toNat]

/-- digest sizes / domain-separation lengths of the macro invocations (`[bits, DIGESTLEN, DSLEN]`) and the
    context type every one-shot function of hashing/mod.rs uses -/
theorem variants_table :
    Cx.Extracted.Sha3.SHA3_VARIANTS = [[224, 28, 2], [256, 32, 2], [384, 48, 2], [512, 64, 2]] ∧
    Cx.Extracted.Sha3.KECCAK_VARIANTS = [[224, 28, 0], [256, 32, 0], [384, 48, 0], [512, 64, 0]] ∧
    Cx.Extracted.Sha3.ONESHOTS = [[3, 224, 28, 3, 224], [3, 256, 32, 3, 256], [3, 384, 48, 3, 384], [3, 512, 64, 3, 512],
                                  [0, 224, 28, 0, 224], [0, 256, 32, 0, 256], [0, 384, 48, 0, 384], [0, 512, 64, 0, 512]] := by
  decide

/-- the compact round with the round constant as a value -/
def roundC (rcv : UInt64) (s : Array UInt64) : Option (Array UInt64) := do
  let s ← Impl.Sha3.chi (← Impl.Sha3.rho_pi (← Impl.Sha3.theta s))
  aupd s 0 ((← aidx s 0) ^^^ rcv)

section lanes
variable (a0 a1 a2 a3 a4 a5 a6 a7 a8 a9 a10 a11 a12 a13 a14 a15 a16 a17 a18 a19 a20 a21 a22 a23 a24 : UInt64)

theorem theta_eq :
    Impl.Sha3.theta #[a0,a1,a2,a3,a4,a5,a6,a7,a8,a9,a10,a11,a12,a13,a14,a15,a16,a17,a18,a19,a20,a21,a22,a23,a24] = some (freeze (theta (thaw #v[a0,a1,a2,a3,a4,a5,a6,a7,a8,a9,a10,a11,a12,a13,a14,a15,a16,a17,a18,a19,a20,a21,a22,a23,a24]))).toArray := by
  kernel_rfl

theorem rho_pi_eq :
    Impl.Sha3.rho_pi #[a0,a1,a2,a3,a4,a5,a6,a7,a8,a9,a10,a11,a12,a13,a14,a15,a16,a17,a18,a19,a20,a21,a22,a23,a24] = some (freeze (pi (rho (thaw #v[a0,a1,a2,a3,a4,a5,a6,a7,a8,a9,a10,a11,a12,a13,a14,a15,a16,a17,a18,a19,a20,a21,a22,a23,a24])))).toArray := by
  kernel_rfl

theorem chi_eq :
    Impl.Sha3.chi #[a0,a1,a2,a3,a4,a5,a6,a7,a8,a9,a10,a11,a12,a13,a14,a15,a16,a17,a18,a19,a20,a21,a22,a23,a24] = some (freeze (chi (thaw #v[a0,a1,a2,a3,a4,a5,a6,a7,a8,a9,a10,a11,a12,a13,a14,a15,a16,a17,a18,a19,a20,a21,a22,a23,a24]))).toArray := by
  kernel_rfl

theorem iota_eq (rcv : UInt64) :
    aupd #[a0,a1,a2,a3,a4,a5,a6,a7,a8,a9,a10,a11,a12,a13,a14,a15,a16,a17,a18,a19,a20,a21,a22,a23,a24] 0 (a0 ^^^ rcv) = some (freeze (iota rcv (thaw #v[a0,a1,a2,a3,a4,a5,a6,a7,a8,a9,a10,a11,a12,a13,a14,a15,a16,a17,a18,a19,a20,a21,a22,a23,a24]))).toArray := by
  kernel_rfl

end lanes

theorem lanes_all {p : State → Prop}
    (h : ∀ a0 a1 a2 a3 a4 a5 a6 a7 a8 a9 a10 a11 a12 a13 a14 a15 a16 a17 a18 a19 a20 a21 a22 a23 a24 : UInt64,
      p #v[a0,a1,a2,a3,a4,a5,a6,a7,a8,a9,a10,a11,a12,a13,a14,a15,a16,a17,a18,a19,a20,a21,a22,a23,a24]) (v : State) : p v := by
  obtain ⟨a0,a1,a2,a3,a4,a5,a6,a7,a8,a9,a10,a11,a12,a13,a14,a15,a16,a17,a18,a19,a20,a21,a22,a23,a24, rfl⟩ := vec25 v
  exact h ..

theorem theta_vec : ∀ v : State, Impl.Sha3.theta v.toArray = some (freeze (theta (thaw v))).toArray := lanes_all theta_eq
theorem rho_pi_vec : ∀ v : State, Impl.Sha3.rho_pi v.toArray = some (freeze (pi (rho (thaw v)))).toArray := lanes_all rho_pi_eq
theorem chi_vec : ∀ v : State, Impl.Sha3.chi v.toArray = some (freeze (chi (thaw v))).toArray := lanes_all chi_eq
theorem iota_vec (rcv : UInt64) : ∀ v : State,
    ((aidx v.toArray 0).bind fun a => aupd v.toArray 0 (a ^^^ rcv)) = some (freeze (iota rcv (thaw v))).toArray :=
  lanes_all (by intros; exact iota_eq ..)

/-- the step mappings read the state only at coordinates below 5: materialising in between changes nothing -/
theorem round_fuse (rcv : UInt64) (F : StateFn) :
    freeze (iota rcv (thaw (freeze (chi (thaw (freeze (pi (rho (thaw (freeze F)))))))))) = freeze (iota rcv (chi (pi (rho F)))) := by
  kernel_rfl

theorem roundC_eq_vec (rcv : UInt64) (v : State) : roundC rcv v.toArray = some (RndC v rcv).toArray := by
  have h : roundC rcv v.toArray = (((Impl.Sha3.theta v.toArray).bind Impl.Sha3.rho_pi).bind Impl.Sha3.chi).bind
      fun s => (aidx s 0).bind fun a => aupd s 0 (a ^^^ rcv) := by
    unfold roundC; simp only [Option.bind_eq_bind, Option.bind_assoc]
  rw [h, theta_vec, Option.bind_some, rho_pi_vec, Option.bind_some, chi_vec, Option.bind_some, iota_vec,
    round_fuse]
  rfl

/-- the round of the code, with its table lookup `RC[round]`, is Rnd(A, ir) of FIPS 202 -/
theorem round_eq (v : State) (ir : Nat) (h : ir < 24) : Impl.Sha3.round v.toArray ir = some (Rnd v ir).toArray := by
  have h1 := roundC_eq_vec (RC ir) v
  have h2 := RC_idx ir h
  unfold Impl.Sha3.round Impl.Sha3.iota
  unfold roundC at h1
  rw [h2]
  exact h1

theorem rounds_eq (l : List Nat) (hl : ∀ i ∈ l, i < 24) (v : State) :
    l.foldlM Impl.Sha3.round v.toArray = some ((l.map RC).foldl RndC v).toArray := by
  induction l generalizing v with
  | nil => rfl
  | cons i l ih =>
    rw [List.foldlM_cons, round_eq v i (hl i (by simp))]
    simp only [Option.bind_eq_bind, Option.bind_some, List.map_cons, List.foldl_cons]
    exact ih (fun j hj => hl j (by simp [hj])) (Rnd v i)

theorem keccak_f_lanes_eq (v : State) : Impl.Sha3.keccak_f_lanes v.toArray = some (keccakP v).toArray := by
  unfold Impl.Sha3.keccak_f_lanes keccakP
  rw [show Cx.Extracted.Sha3.NROUNDS = 24 from rfl]
  exact rounds_eq (List.range 24) (fun i hi => by simpa using hi) v

theorem range25 : List.range 25 = [0,1,2,3,4,5,6,7,8,9,10,11,12,13,14,15,16,17,18,19,20,21,22,23,24] := by decide

theorem leU64_take (bs : Bytes) : leU64 (bs.take 8) = leU64 bs := by
  simp [leU64, List.take_take]

theorem read_eq (st : Bytes) (h : st.length = 200) :
    Impl.Sha3.read_u64v_le 25 st = some (stateOfBytes st).toArray := by
  unfold Impl.Sha3.read_u64v_le
  rw [if_pos (by omega), range25]
  simp only [List.map_cons, List.map_nil, leU64_take]
  rfl

theorem bytesOfState_length (v : State) : (bytesOfState v).length = 200 := by
  rw [bytesOfState, Bytes.length_flatMap_const u64le 8 Bytes.u64le_length, Vector.length_toList]

theorem keccakF_length (st : Bytes) : (keccakF st).length = 200 := bytesOfState_length _

/-- `keccak_f(&mut state)` of the code = Keccak-f[1600] of FIPS 202 on every 200-byte state; no panic -/
theorem keccak_f_eq (st : Bytes) (h : st.length = 200) : Impl.Sha3.keccak_f st = some (keccakF st) := by
  -- the `do` block is brought into `bind` form by `rfl` on the variable `st`: rewriting under the `do` block itself
  -- makes the kernel evaluate `keccak_f_lanes` on the symbolic state once more
  have hdo : Impl.Sha3.keccak_f st = (Impl.Sha3.read_u64v_le 25 st).bind fun s =>
      (Impl.Sha3.keccak_f_lanes s).bind (Impl.Sha3.write_u64v_le st.length) := rfl
  rw [hdo, read_eq st h, Option.bind_some, keccak_f_lanes_eq, Option.bind_some]
  unfold Impl.Sha3.write_u64v_le
  rw [if_pos (by simp [h])]
  rfl

end Cx.Proofs.Keccak
