/-
  Proofs.KeccakVectors — TESTS (not theorems): published digests evaluated on the Spec and on the Impl model with the
  Lean evaluator (`#guard`).  They validate the transcription of FIPS 202 in Spec/Keccak.lean against the world; in
  particular the pre-NIST Keccak variants, for which the sandbox has no library oracle (SHA-3 is also compared with
  Python's hashlib by the runner).  Sources: FIPS 202 example values / the Keccak team's known-answer tests /
  the tests inside src/hashing/sha3.rs and keccak.rs.
-/
import CxVerif.Spec.Keccak
import CxVerif.Impl.Sha3
namespace Cx.Proofs.KeccakVectors
open Cx.Spec.Keccak

def abc : Bytes := [0x61, 0x62, 0x63]
def fox : Bytes := "The quick brown fox jumps over the lazy dog".toUTF8.toList

#guard Hex.encode (sha3_224 []) == "6b4e03423667dbb73b6e15454f0eb1abd4597f9a1b078e3f5b5a6bc7"
#guard Hex.encode (sha3_256 []) == "a7ffc6f8bf1ed76651c14756a061d662f580ff4de43b49fa82d80a4b80f8434a"
#guard Hex.encode (sha3_384 []) == "0c63a75b845e4f7d01107d852e4c2485c51a50aaaa94fc61995e71bbee983a2ac3713831264adb47fb6bd1e058d5f004"
#guard Hex.encode (sha3_512 []) == "a69f73cca23a9ac5c8b567dc185a756e97c982164fe25859e0d1dcc1475c80a615b2123af1f5f94c11e3e9402c3ac558f500199d95b6d3e301758586281dcd26"
#guard Hex.encode (sha3_224 abc) == "e642824c3f8cf24ad09234ee7d3c766fc9a3a5168d0c94ad73b46fdf"
#guard Hex.encode (sha3_256 abc) == "3a985da74fe225b2045c172d6bd390bd855f086e3e9d525b46bfe24511431532"
#guard Hex.encode (sha3_384 abc) == "ec01498288516fc926459f58e2c6ad8df9b473cb0fc08c2596da7cf0e49be4b298d88cea927ac7f539f1edf228376d25"
#guard Hex.encode (sha3_512 fox) == "01dedd5de4ef14642445ba5f5b97c15e47b9ad931326e4b0727cd94cefc44fff23f07bf543139939b49128caf436dc1bdee54fcb24023a08d9403f9b4bf0d450"
#guard Hex.encode (keccak224 []) == "f71837502ba8e10837bdd8d365adb85591895602fc552b48b7390abd"
#guard Hex.encode (keccak256 []) == "c5d2460186f7233c927e7db2dcc703c0e500b653ca82273b7bfad8045d85a470"
#guard Hex.encode (keccak384 []) == "2c23146a63a29acf99e73b88f8c24eaa7dc60aa771780ccc006afbfa8fe2479b2dd2b21362337441ac12b515911957ff"
#guard Hex.encode (keccak512 []) == "0eab42de4c3ceb9235fc91acffe746b29c29a8c366b7c60e4e67c466f36a4304c00fa9caf9d87976ba469bcbe06713b435f091ef2769fb160cdab33d3670680e"
#guard Hex.encode (keccak256 abc) == "4e03657aea45a94fc7d47ba826c8d667c0d1e6e33a64a036ec44f58fa12d6c45"
#guard Hex.encode (keccak512 fox) == "d135bb84d0439dbac432247ee573a23ea7d3c9deb2a968eb31d47c4fb45f1ef4422d6c531b5b9bd6f449ebcc449ea94d0a8f05f62130fda612da53c79659f609"
-- the Impl model on the same inputs (a test of the model's executable; the theorem is Props.C01)
#guard (Impl.Sha3.sha3_256 abc).map Hex.encode == some "3a985da74fe225b2045c172d6bd390bd855f086e3e9d525b46bfe24511431532"
#guard (Impl.Sha3.keccak256 []).map Hex.encode == some "c5d2460186f7233c927e7db2dcc703c0e500b653ca82273b7bfad8045d85a470"
-- the formula-generated constants: first/last round constant, two ρ offsets
#guard RCnat 0 == 1 && RCnat 1 == 0x8082 && RCnat 23 == 0x8000000080008008
#guard rhoOffset 0 0 == none && rhoOffset 1 0 == some 1 && rhoOffset 2 3 == some 15 && rhoOffset 4 4 == some 14

end Cx.Proofs.KeccakVectors
