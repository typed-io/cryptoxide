/-
  Proofs.KernelRfl — `kernel_rfl`: proves an equation `a = b` by CONVERSION only.  The proof term is `Eq.refl a`; that `b` is
  the same term after unfolding definitions and matchers is checked by the Lean kernel when the theorem is added, not by the
  elaborator.  Nothing is decided or searched, and a wrong use is rejected by the kernel ("declaration type mismatch"); no
  axiom is involved.  It is the proof of the translator ties whose two sides are the same text:
  * a generated definition against the generic text it is a copy of (a shape lemma, a generic loop): the elaborator's
    `isDefEq` gives up on a monomorphic generated matcher against the polymorphic matcher of the generic text, the kernel
    unfolds both to `casesOn` and identifies them — both sides are open terms, nothing is evaluated;
  * a straight-line program on symbolic words against the hand model of a compression core (Props/C01/KernelTie*.lean): here
    the kernel does evaluate the model on the variables, which the elaborator's call-by-name `whnf` without sharing cannot
    do in time.
  The same two kinds of step occur inside the refinement library, where a model text is tied to a generic or re-grouped text
  once (Proofs/KeccakF.lean, Argon2Block.lean, Argon2Segment.lean, Scalar32Reduce.lean, Scalar32ReduceB.lean, Scalar32Muladd.lean,
  Scalar32MuladdA.lean).
  `kernel_rfl` is global syntax: importing this module is enough, no `open` is needed (the elaborator itself is declared in
  the namespace `Cx.Proofs.Keccak`).
-/
import Lean.Elab.Tactic
namespace Cx.Proofs.Keccak
open Lean Elab Tactic Meta in
elab "kernel_rfl" : tactic => do
  let g ← getMainGoal
  let t ← instantiateMVars (← g.getType)
  let some (_, lhs, _) := t.eq? | throwError "kernel_rfl: the goal is not an equality"
  g.assign (← mkEqRefl lhs)
end Cx.Proofs.Keccak
