/-
  Proofs.KernelTieWords — small helper lemmas for the word-kernel tie theorems (Props/C01/KernelTie*.lean; `read_u64v_be_length`
  for Proofs/GlueSha2Drv.lean):
  a list / array of known length is a literal list of that many variables, and the `read_*v_*` primitives of the
  hand models return word lists of the requested length.
-/
import CxVerif.Impl.FixedBuffer
import CxVerif.Proofs.ByteLemmas
namespace Cx.Proofs.KernelTieWords

theorem list16 {α : Type} (r : List α) (h : r.length = 16) :
    ∃ a0 a1 a2 a3 a4 a5 a6 a7 a8 a9 a10 a11 a12 a13 a14 a15,
      r = [a0, a1, a2, a3, a4, a5, a6, a7, a8, a9, a10, a11, a12, a13, a14, a15] := by
  rcases r with _ | ⟨a0, _ | ⟨a1, _ | ⟨a2, _ | ⟨a3, _ | ⟨a4, _ | ⟨a5, _ | ⟨a6, _ | ⟨a7, _ | ⟨a8, _ | ⟨a9, _ | ⟨a10,
    _ | ⟨a11, _ | ⟨a12, _ | ⟨a13, _ | ⟨a14, _ | ⟨a15, _ | ⟨a16, t⟩⟩⟩⟩⟩⟩⟩⟩⟩⟩⟩⟩⟩⟩⟩⟩⟩
  all_goals first
    | exact ⟨a0, a1, a2, a3, a4, a5, a6, a7, a8, a9, a10, a11, a12, a13, a14, a15, rfl⟩
    | (simp at h)
    | (simp at h; omega)

theorem wordsLE64_length (bs : Bytes) : (wordsLE64 bs).length = (bs.length + 7) / 8 :=
  Bytes.wordsLE64_length bs

theorem read_u32v_be_length {n : Nat} {buf : Bytes} {w : List UInt32} (h : Impl.read_u32v_be n buf = some w) :
    w.length = n := by
  unfold Impl.read_u32v_be at h
  split at h
  · cases h
  · cases h; rw [Bytes.wordsBE32_length]; omega

theorem read_u64v_be_length {n : Nat} {buf : Bytes} {w : List UInt64} (h : Impl.read_u64v_be n buf = some w) :
    w.length = n := by
  unfold Impl.read_u64v_be at h
  split at h
  · cases h
  · cases h; rw [Bytes.wordsBE64_length]; omega

theorem array25 {α : Type} (r : Array α) (h : r.size = 25) :
    ∃ a0 a1 a2 a3 a4 a5 a6 a7 a8 a9 a10 a11 a12 a13 a14 a15 a16 a17 a18 a19 a20 a21 a22 a23 a24,
      r = #[a0, a1, a2, a3, a4, a5, a6, a7, a8, a9, a10, a11, a12, a13, a14, a15, a16, a17, a18, a19, a20, a21, a22, a23, a24] := by
  obtain ⟨a0, a1, a2, a3, a4, a5, a6, a7, a8, a9, a10, a11, a12, a13, a14, a15, a16, a17, a18, a19, a20, a21, a22, a23, a24, hl⟩ :=
    Bytes.list25 r.toList (by simpa using h)
  exact ⟨a0, a1, a2, a3, a4, a5, a6, a7, a8, a9, a10, a11, a12, a13, a14, a15, a16, a17, a18, a19, a20, a21, a22, a23, a24, by cases r; simp_all⟩

end Cx.Proofs.KernelTieWords
