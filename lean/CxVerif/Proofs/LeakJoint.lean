/-
  Proofs.LeakJoint — the relational side of C19 for the panic-aware leakage monad `LO`.
  `ORel R x x'` (plain `Option` computations: they panic together and end in `R`-related values), `NI m m' R` (two
  instrumented runs: in addition the same trace), and `J m m' x R`: the run `m` erases to the plain model `x` AND `m`, `m'`
  are non-interferent.  One `J` theorem per instrumented function is proved by one walk along its `do` block, one rule per
  statement.  The step `J.bind_of` takes the plain model as ANY term together with two side conditions proved by rewriting;
  why, and why they have the shape they have, is said once at `LO.erase_bind_of` (Proofs/LeakModel.lean).
  Which of `Sim` / `SimE` / `J` / `NIE` serves what: header of Proofs/LeakModel.lean.
-/
import CxVerif.Proofs.LeakModel
namespace Cx.Proofs.LeakModel
open Cx.Impl.LeakModel

structure ORel {α : Type} (R : α → α → Prop) (x x' : Option α) : Prop where
  both : x.isSome = x'.isSome
  rel : ∀ a a', x = some a → x' = some a' → R a a'

theorem ORel.pure {α : Type} {R : α → α → Prop} {a a' : α} (h : R a a') : ORel R (some a) (some a') :=
  ⟨rfl, fun x x' hx hx' => by cases hx; cases hx'; exact h⟩

theorem ORel.none {α : Type} {R : α → α → Prop} : ORel R (Option.none : Option α) Option.none :=
  ⟨rfl, fun x x' hx => by cases hx⟩

theorem ORel.refl_eq {α : Type} (x : Option α) : ORel Eq x x :=
  ⟨rfl, fun a a' h h' => by rw [h] at h'; cases h'; rfl⟩

theorem ORel.mono {α : Type} {R S : α → α → Prop} {x x' : Option α} (h : ORel R x x') (hrs : ∀ a a', R a a' → S a a') :
    ORel S x x' := ⟨h.both, fun a a' e e' => hrs a a' (h.rel a a' e e')⟩

theorem ORel.cases {α : Type} {R : α → α → Prop} {x x' : Option α} (h : ORel R x x') :
    (x = Option.none ∧ x' = Option.none) ∨ ∃ a a', x = some a ∧ x' = some a' ∧ R a a' := by
  obtain ⟨hb, hr⟩ := h
  cases x <;> cases x'
  · exact .inl ⟨rfl, rfl⟩
  · cases hb
  · cases hb
  · exact .inr ⟨_, _, rfl, rfl, hr _ _ rfl rfl⟩

theorem ORel.bind {α β : Type} {R : α → α → Prop} {S : β → β → Prop} {x x' : Option α} {f f' : α → Option β}
    (h : ORel R x x') (hf : ∀ a a', R a a' → ORel S (f a) (f' a')) : ORel S (x >>= f) (x' >>= f') := by
  rcases h.cases with ⟨rfl, rfl⟩ | ⟨a, a', rfl, rfl, r⟩
  · exact ORel.none
  · exact hf a a' r

theorem ORel.map {α β : Type} {R : α → α → Prop} {S : β → β → Prop} {x x' : Option α} {g g' : α → β}
    (h : ORel R x x') (hg : ∀ a a', R a a' → S (g a) (g' a')) : ORel S (x.map g) (x'.map g') := by
  rcases h.cases with ⟨rfl, rfl⟩ | ⟨a, a', rfl, rfl, r⟩
  · exact ORel.none
  · exact ORel.pure (hg a a' r)

theorem ORel.ite {α : Type} {R : α → α → Prop} {c c' : Prop} [Decidable c] [Decidable c'] (hc : c ↔ c')
    {t e t' e' : Option α} (ht : ORel R t t') (he : ORel R e e') :
    ORel R (if c then t else e) (if c' then t' else e') := by
  by_cases h : c
  · rw [if_pos h, if_pos (hc.mp h)]; exact ht
  · rw [if_neg h, if_neg (fun h' => h (hc.mpr h'))]; exact he

theorem ORel.foldlM {α β : Type} {R : α → α → Prop} {f f' : α → β → Option α} (l : List β)
    (hf : ∀ a a' b, R a a' → ORel R (f a b) (f' a' b)) : ∀ a a', R a a' → ORel R (l.foldlM f a) (l.foldlM f' a') := by
  induction l with
  | nil => intro a a' h; exact ORel.pure h
  | cons b bs ih =>
    intro a a' h
    rw [List.foldlM_cons, List.foldlM_cons]
    exact ORel.bind (hf a a' b h) ih

structure NI {α : Type} (m m' : LO α) (R : α → α → Prop) : Prop where
  tr : m.tr = m'.tr
  both : m.val.isSome = m'.val.isSome
  rel : ∀ a a', m.val = some a → m'.val = some a' → R a a'

theorem NI.emit (e : Event) : NI (LO.emit e) (LO.emit e) (fun _ _ => True) :=
  ⟨rfl, rfl, fun _ _ _ _ => trivial⟩

theorem NI.lift {α : Type} {R : α → α → Prop} (x x' : Option α) (hs : x.isSome = x'.isSome)
    (hr : ∀ a a', x = some a → x' = some a' → R a a') : NI (LO.lift x) (LO.lift x') R :=
  ⟨by rw [LO.lift_tr, LO.lift_tr], by rw [LO.lift_val, LO.lift_val]; exact hs,
   fun a a' h h' => by rw [LO.lift_val] at h h'; exact hr a a' h h'⟩

theorem NI.ofORel {α : Type} {R : α → α → Prop} {x x' : Option α} (h : ORel R x x') : NI (LO.lift x) (LO.lift x') R :=
  NI.lift x x' h.both h.rel

theorem NI.pure {α : Type} {R : α → α → Prop} (a a' : α) (h : R a a') : NI (pure a : LO α) (pure a') R :=
  NI.ofORel (ORel.pure h)

theorem NI.ofLeakM {α : Type} {R : α → α → Prop} (m m' : LeakM α) (ht : m.tr = m'.tr) (hr : R m.val m'.val) :
    NI (LO.ofLeakM m) (LO.ofLeakM m') R :=
  ⟨by rw [LO.ofLeakM_tr, LO.ofLeakM_tr, ht], by rw [LO.ofLeakM_val, LO.ofLeakM_val]; rfl,
   fun a a' h h' => by rw [LO.ofLeakM_val] at h h'; cases h; cases h'; exact hr⟩

/-- a run against itself: erasure alone is the diagonal of the joint judgment -/
theorem NI.refl {α : Type} (m : LO α) : NI m m Eq := ⟨rfl, rfl, fun _ _ h h' => Option.some.inj (h.symm.trans h')⟩

theorem NI.mono {α : Type} {R S : α → α → Prop} {m m' : LO α} (h : NI m m' R) (hrs : ∀ a a', R a a' → S a a') :
    NI m m' S := ⟨h.tr, h.both, fun a a' x x' => hrs a a' (h.rel a a' x x')⟩

theorem NI.true {α : Type} {R : α → α → Prop} {m m' : LO α} (h : NI m m' R) : NI m m' (fun _ _ => True) :=
  h.mono (fun _ _ _ => trivial)

theorem NI.bind {α β : Type} {R : α → α → Prop} {S : β → β → Prop} {m m' : LO α} {f f' : α → LO β}
    (h : NI m m' R) (hf : ∀ a a', R a a' → NI (f a) (f' a') S) : NI (m >>= f) (m' >>= f') S := by
  rcases (ORel.mk h.both h.rel).cases with ⟨hm, hm'⟩ | ⟨a, a', hm, hm', r⟩
  · refine ⟨by rw [LO.bind_tr_none m f hm, LO.bind_tr_none m' f' hm', h.tr], ?_, ?_⟩
    · rw [LO.bind_val, LO.bind_val, hm, hm']; rfl
    · intro b b' hb; rw [LO.bind_val, hm] at hb; cases hb
  · have hfa := hf a a' r
    refine ⟨by rw [LO.bind_tr_some m f a hm, LO.bind_tr_some m' f' a' hm', h.tr, hfa.tr], ?_, ?_⟩
    · rw [LO.bind_val_some m f a hm, LO.bind_val_some m' f' a' hm']; exact hfa.both
    · rw [LO.bind_val_some m f a hm, LO.bind_val_some m' f' a' hm']; exact hfa.rel

/-- a test on PUBLIC data takes the same branch in both runs -/
theorem NI.dite {α : Type} {R : α → α → Prop} {c c' : Prop} [Decidable c] [Decidable c'] (hc : c ↔ c')
    {t : c → LO α} {e : ¬ c → LO α} {t' : c' → LO α} {e' : ¬ c' → LO α}
    (ht : ∀ h h', NI (t h) (t' h') R) (he : ∀ h h', NI (e h) (e' h') R) : NI (dite c t e) (dite c' t' e') R := by
  by_cases h : c
  · rw [dif_pos h, dif_pos (hc.mp h)]; exact ht _ _
  · rw [dif_neg h, dif_neg (fun h' => h (hc.mpr h'))]; exact he _ _

/-- `m` erases to the plain model `x` (the second run needs no such clause: it is the same function on other
    arguments), and the runs `m`, `m'` have the same trace, panic together and end in `R`-related values -/
structure J {α : Type} (m m' : LO α) (x : Option α) (R : α → α → Prop) : Prop where
  val : m.val = x
  ni : NI m m' R

variable {α β : Type} {R : α → α → Prop} {S : β → β → Prop} {m m' : LO α} {f f' : α → LO β} {x : Option α} {r : Option β}

theorem J.pure {a a' : α} (h : R a a') : J (Pure.pure a : LO α) (Pure.pure a') (some a) R :=
  ⟨LO.pure_val a, NI.pure _ _ h⟩

theorem J.lift {x x' : Option α} (h : ORel R x x') : J (LO.lift x) (LO.lift x') x R :=
  ⟨LO.lift_val x, NI.ofORel h⟩

theorem J.panic : J (LO.lift (none : Option α)) (LO.lift none) none R := J.lift ORel.none

theorem J.ofLeakM {m m' : LeakM α} (ht : m.tr = m'.tr) (hr : R m.val m'.val) :
    J (LO.ofLeakM m) (LO.ofLeakM m') (some m.val) R := ⟨LO.ofLeakM_val m, NI.ofLeakM _ _ ht hr⟩

/-- the step: `LO.erase_bind_of` and `NI.bind` in one.  The erasure half can use the ONE continuation hypothesis `hs`
    because `NI` supplies the partner value `a'`. -/
theorem J.bind_of {k : α → Option β} (h : J m m' x R) (hn : x = none → r = none := by intro e; rw [e])
    (hr : ∀ a, x = some a → r = k a := by intro a e; rewrite [e]; dsimp only)
    (hs : ∀ a a', R a a' → J (f a) (f' a') (k a) S) : J (m >>= f) (m' >>= f') r S := by
  refine ⟨?_, NI.bind h.ni (fun a a' ha => (hs a a' ha).ni)⟩
  rw [LO.bind_val, h.val]
  cases hx : x with
  | none => rw [hn hx]; rfl
  | some a =>
    have hv : m.val = some a := h.val.trans hx
    have hb := h.ni.both
    rw [hv] at hb
    cases hv' : m'.val with
    | none => rw [hv'] at hb; cases hb
    | some a' => rw [hr a hx]; exact (hs a a' (h.ni.rel a a' hv hv')).val

/-- … when the plain model destructures a pair, `| some (a, b) => …` (on a variable pair the match would stay stuck) -/
theorem J.bind_of2 {α₁ α₂ β : Type} {R : α₁ × α₂ → α₁ × α₂ → Prop} {S : β → β → Prop} {m m' : LO (α₁ × α₂)}
    {f f' : α₁ × α₂ → LO β} {x : Option (α₁ × α₂)} {r : Option β} {k : α₁ → α₂ → Option β} (h : J m m' x R)
    (hn : x = none → r = none := by intro e; rw [e])
    (hr : ∀ a b, x = some (a, b) → r = k a b := by intro a b e; rewrite [e]; dsimp only)
    (hs : ∀ a b a' b', R (a, b) (a', b') → J (f (a, b)) (f' (a', b')) (k a b) S) : J (m >>= f) (m' >>= f') r S :=
  J.bind_of (k := fun p => k p.1 p.2) h hn (fun p e => hr p.1 p.2 e) (fun p p' hp => hs p.1 p.2 p'.1 p'.2 hp)

theorem J.bind_some {v : α} (h : J m m' (some v) R) (hs : ∀ a', R v a' → J (f v) (f' a') r S) : J (m >>= f) (m' >>= f') r S := by
  have hv : ∀ a, m.val = some a → a = v := fun a e => Option.some.inj (e.symm.trans h.val)
  refine ⟨?_, NI.bind (R := fun a a' => a = v ∧ R a a')
    ⟨h.ni.tr, h.ni.both, fun a a' e e' => ⟨hv a e, h.ni.rel a a' e e'⟩⟩ (fun a a' ha => ?_)⟩
  · have hb := h.ni.both
    rw [h.val] at hb
    cases hv' : m'.val with
    | none => rw [hv'] at hb; cases hb
    | some a' => rw [LO.bind_val_some _ _ v h.val]; exact (hs a' (h.ni.rel v a' h.val hv')).val
  · obtain ⟨rfl, ha⟩ := ha
    exact (hs a' ha).ni

theorem J.bind {g : α → Option β} (h : J m m' x R) (hs : ∀ a a', R a a' → J (f a) (f' a') (g a) S) :
    J (m >>= f) (m' >>= f') (x >>= g) S :=
  J.bind_of h (fun e => by rw [e]; rfl) (fun a e => by rw [e]; rfl) hs

theorem J.map (g : α → β) (h : J m m' x R) (hg : ∀ a a', R a a' → S (g a) (g a')) :
    J (m >>= fun r => Pure.pure (g r)) (m' >>= fun r => Pure.pure (g r)) (x.map g) S :=
  J.bind_of h (fun e => by rw [e]; rfl) (fun a e => by rw [e]; rfl) (fun a a' ha => J.pure (hg a a' ha))

theorem J.emit {e : Event} {f f' : Unit → LO β} (h : J (f ()) (f' ()) r S) :
    J (LO.emit e >>= f) (LO.emit e >>= f') r S :=
  ⟨LO.erase_emit h.val, NI.bind (NI.emit e) (fun _ _ _ => h.ni)⟩

theorem J.bind_lift {y : Option α} {k : α → Option β}
    (hn : y = none → r = none := by intro e; rw [e])
    (hr : ∀ a, y = some a → r = k a := by intro a e; rewrite [e]; dsimp only)
    (hs : ∀ a, J (f a) (f' a) (k a) S) : J (LO.lift y >>= f) (LO.lift y >>= f') r S :=
  J.bind_of (J.lift (ORel.refl_eq y)) hn hr (fun a _ h => h ▸ hs a)

theorem J.bind_pub {y : Option α} {g : α → Option β}
    (hs : ∀ a, J (f a) (f' a) (g a) S) : J (LO.lift y >>= f) (LO.lift y >>= f') (y >>= g) S :=
  J.bind (J.lift (ORel.refl_eq y)) (fun a _ h => h ▸ hs a)

theorem J.dite {c c' : Prop} [Decidable c] [Decidable c'] (hc : c ↔ c')
    {t : c → LO α} {e : ¬ c → LO α} {t' : c' → LO α} {e' : ¬ c' → LO α} {x : c → Option α} {y : ¬ c → Option α}
    (ht : ∀ h h', J (t h) (t' h') (x h) R) (he : ∀ h h', J (e h) (e' h') (y h) R) :
    J (dite c t e) (dite c' t' e') (dite c x y) R :=
  ⟨LO.erase_dite (fun h => (ht h (hc.mp h)).val) (fun h => (he h (fun h' => h (hc.mpr h'))).val),
   NI.dite hc (fun h h' => (ht h h').ni) (fun h h' => (he h h').ni)⟩

theorem J.ite {c c' : Prop} [Decidable c] [Decidable c'] (hc : c ↔ c')
    {t e t' e' : LO α} {x y : Option α} (ht : J t t' x R) (he : J e e' y R) :
    J (if c then t else e) (if c' then t' else e') (if c then x else y) R :=
  J.dite hc (fun _ _ => ht) (fun _ _ => he)

theorem J.guard {c : Prop} [Decidable c] {e e' : LO α} {y : Option α} (he : J e e' y R) :
    J (if c then LO.lift none else e) (if c then LO.lift none else e') (if c then none else y) R :=
  J.ite Iff.rfl J.panic he

/-- a refusal that the plain callee `x` makes itself: the instrumented function tests `c` before the call, the plain model
    is the folded call (there is no plain `if` for `J.guard` to match) -/
theorem J.guard_of {c : Prop} [Decidable c] {e e' : LO α} (hn : c → x = none) (he : J e e' x R) :
    J (if c then LO.lift none else e) (if c then LO.lift none else e') x R := by
  by_cases h : c
  · rw [if_pos h, if_pos h, hn h]; exact J.panic
  · rw [if_neg h, if_neg h]; exact he

/-- `let p ← (if c then A else pure p₀); rest` against a plain `do` block, whose translation continues inside both
    branches -/
theorem J.bind_ite {c : Prop} [Decidable c] {t e t' e' : LO α} {x y : Option α} {g : α → Option β}
    (ht : J t t' x R) (he : J e e' y R)
    (hs : ∀ a a', R a a' → J (f a) (f' a') (g a) S) :
    J ((if c then t else e) >>= f) ((if c then t' else e') >>= f') (if c then x >>= g else y >>= g) S := by
  by_cases h : c
  · simp only [if_pos h]; exact J.bind ht hs
  · simp only [if_neg h]; exact J.bind he hs

/-- a loop over a list of byte strings, given by its equations on both sides: related states and lists with the same
    LENGTHS -/
theorem J.iter {σ : Type} {R : σ → σ → Prop} {f : σ → Bytes → LO σ} {go : σ → List Bytes → LO σ}
    {p : σ → Bytes → Option σ} {pgo : σ → List Bytes → Option σ}
    (h0 : ∀ s, go s [] = Pure.pure s) (h1 : ∀ s b bs, go s (b :: bs) = f s b >>= fun t => go t bs)
    (p0 : ∀ s, pgo s [] = some s) (p1n : ∀ s b bs, p s b = none → pgo s (b :: bs) = none)
    (p1s : ∀ s b bs t, p s b = some t → pgo s (b :: bs) = pgo t bs)
    (hf : ∀ s s' x x', R s s' → x.length = x'.length → J (f s x) (f s' x') (p s x) R) (bs : List Bytes) :
    ∀ (bs' : List Bytes) (s s' : σ), R s s' → bs.map List.length = bs'.map List.length →
      J (go s bs) (go s' bs') (pgo s bs) R := by
  induction bs with
  | nil =>
    intro bs' s s' hs h
    cases bs' with
    | nil => rw [h0, h0, p0]; exact J.pure (a := s) (a' := s') hs
    | cons b bs => simp at h
  | cons b bs ih =>
    intro bs' s s' hs h
    cases bs' with
    | nil => simp at h
    | cons b' bs' =>
      simp only [List.map_cons, List.cons.injEq] at h
      rw [h1, h1]
      exact J.bind_of (hf s s' b b' hs h.1) (p1n s b bs) (p1s s b bs) (fun t t' ht => ih bs' t t' ht h.2)

end Cx.Proofs.LeakModel
