/-
  Proofs.LeakModel — what every proof about the instrumented models of Impl/LeakModel.lean starts from.
  Which judgment for what (two notions are needed: the overflow checks of the limb arithmetic can fail depending on
  SECRETS and are excluded elsewhere, C05/C12/C13, so there only "if no panic then the trace is …" holds; the refusals of
  the hash / MAC / cipher objects are PUBLIC, and there the two runs must panic together):
    * unary, explicit trace, panic-insensitive, on `LO`: `Const m t`, `Sim m x t` (+ erasure) — here; X25519, Ed25519;
    * unary with a postcondition on (result, trace), on `LeakM` with `Except` values: `SimE` — Proofs/LeakModelPoly.lean;
    * relational, panic-sensitive, on `LO`: `ORel`, `NI`, `J` (+ erasure) — Proofs/LeakJoint.lean; hashes, HMAC, FixedBuffer;
    * relational, on `LeakM` with `Except` values: `NIE` — Proofs/LeakModelSym.lean; stream ciphers, AEAD.
  Also here, of group (f) of the model: erasure and trace of the constant-time array comparisons and of `Tag ==`, the trace
  of the slice comparison, of the masked swap and of the masked set (their erasure and `MacResult ==` are proved where they
  are stated, Props/C19/LeakReal.lean).
-/
import CxVerif.Impl.LeakModel
namespace Cx.Proofs.LeakModel
open Cx.Impl.CT Cx.Impl.LeakModel

@[simp] theorem pure_val {α : Type} (a : α) : (pure a : LeakM α).val = a := rfl
@[simp] theorem pure_tr {α : Type} (a : α) : (pure a : LeakM α).tr = [] := rfl
@[simp] theorem bind_val {α β : Type} (m : LeakM α) (f : α → LeakM β) : (m >>= f).val = (f m.val).val := rfl
@[simp] theorem bind_tr {α β : Type} (m : LeakM α) (f : α → LeakM β) :
    (m >>= f).tr = m.tr ++ (f m.val).tr := rfl
@[simp] theorem emit_tr (e : Event) : (emit e).tr = [e] := rfl
@[simp] theorem emit_val (e : Event) : (emit e).val = () := rfl

theorem ite_val {α : Type} {c : Prop} [Decidable c] {t e : LeakM α} {x y : α} (ht : c → t.val = x) (he : ¬ c → e.val = y) :
    (if c then t else e).val = if c then x else y := by
  by_cases h : c
  · rw [if_pos h, if_pos h]; exact ht h
  · rw [if_neg h, if_neg h]; exact he h

theorem iterL_pure {σ α : Type} (f : σ → α → σ) (xs : List α) (s : σ) :
    (iterL (fun s x => (pure (f s x) : LeakM σ)) xs s).tr = [] ∧
    (iterL (fun s x => (pure (f s x) : LeakM σ)) xs s).val = xs.foldl f s := by
  induction xs generalizing s with
  | nil => exact ⟨rfl, rfl⟩
  | cons x xs ih =>
    have := ih (f s x)
    simp only [iterL, bind_tr, bind_val, pure_tr, pure_val, List.nil_append, List.foldl_cons]
    exact this

theorem forL_pure {σ α : Type} (f : σ → α → σ) (xs : List α) (s : σ) :
    (forL xs s (fun s x => (pure (f s x) : LeakM σ))).tr = [Event.loopBound xs.length] ∧
    (forL xs s (fun s x => (pure (f s x) : LeakM σ))).val = xs.foldl f s := by
  have h := iterL_pure f xs s
  simp only [forL, bind_tr, bind_val, emit_tr, h.1, h.2, List.append_nil, and_self]

/-- `Const m t`: IF the computation does not panic, its trace is `t` -/
structure Const {α : Type} (m : LO α) (t : Trace) : Prop where
  out : m.val.isSome → m.tr = t

theorem Const.ofLeakM {α : Type} (m : LeakM α) : Const (LO.ofLeakM m) m.tr := ⟨fun _ => LO.ofLeakM_tr m⟩

theorem Const.of_none {α : Type} {m : LO α} (t : Trace) (h : m.val = none) : Const m t :=
  ⟨fun hs => by rw [h] at hs; exact absurd hs (by simp)⟩

theorem LO.emit_bind_val {β : Type} (e : Event) (f : Unit → LO β) : (LO.emit e >>= f).val = (f ()).val :=
  LO.bind_val_some _ _ () (LO.emit_val e)

theorem LO.erase_ite {α : Type} {c : Prop} [Decidable c] {t e : LO α} {x y : Option α}
    (ht : c → t.val = x) (he : ¬ c → e.val = y) : (if c then t else e).val = if c then x else y := by
  by_cases h : c
  · rw [if_pos h, if_pos h]; exact ht h
  · rw [if_neg h, if_neg h]; exact he h

theorem LO.erase_dite {α : Type} {c : Prop} [Decidable c] {t : c → LO α} {e : ¬ c → LO α} {x : c → Option α}
    {y : ¬ c → Option α} (ht : ∀ h, (t h).val = x h) (he : ∀ h, (e h).val = y h) : (dite c t e).val = dite c x y := by
  by_cases h : c
  · rw [dif_pos h, dif_pos h]; exact ht h
  · rw [dif_neg h, dif_neg h]; exact he h

theorem LO.erase_emit {β : Type} {e : Event} {f : Unit → LO β} {r : Option β} (h : (f ()).val = r) :
    (LO.emit e >>= f).val = r := (LO.emit_bind_val e f).trans h

/-- one step of an erasure proof.  The plain model `r` is ANY term (it may continue with a `match` of its own, which no
    lemma could name): `hn`, `hr` say what it is when the call panics / returns `a`; they are goals about the plain side
    only and are proved by rewriting with the hypothesis; `hr` leaves `g a = ?k a` after reducing `match some a with …`,
    which assigns the plain continuation `k`.  (With `rw` in place of `rewrite; dsimp only` the UNREDUCED match would be
    assigned and the next step would not find its scrutinee under the alternative's binder.  A `let` above the `match` of
    the plain model hides the call from `rewrite` in the same way: `dsimp only` after `unfold`.)  `J.bind_of`, `bind_val_of`,
    `SimE.bind_of` are this step for the other judgments. -/
theorem LO.erase_bind_of {α β : Type} {m : LO α} {f : α → LO β} {x : Option α} {r : Option β} {k : α → Option β}
    (hm : m.val = x) (hn : x = none → r = none := by intro e; rw [e])
    (hr : ∀ a, x = some a → r = k a := by intro a e; rewrite [e]; dsimp only)
    (hs : ∀ a, (f a).val = k a) : (m >>= f).val = r := by
  rw [LO.bind_val, hm]
  cases hx : x with
  | none => rw [hn hx]; rfl
  | some a => rw [hr a hx]; exact hs a

theorem LO.erase_bind {α β : Type} {m : LO α} {f : α → LO β} {x : Option α} {g : α → Option β}
    (hm : m.val = x) (hf : ∀ a, (f a).val = g a) : (m >>= f).val = x >>= g :=
  LO.erase_bind_of hm (fun e => by rw [e]; rfl) (fun a e => by rw [e]; rfl) hf

/-- `Sim m x t`: the instrumented `m` computes the plain model `x` (erasure) and, unless that is a panic, its trace
    is `t`.  One pass over a `do` block proves both. -/
structure Sim {α : Type} (m : LO α) (x : Option α) (t : Trace) : Prop where
  val : m.val = x
  const : Const m t

theorem Sim.tr {α : Type} {m : LO α} {x : Option α} {t : Trace} (h : Sim m x t) (hs : x.isSome) : m.tr = t :=
  h.const.out (h.val ▸ hs)

theorem Sim.pure {α : Type} (a : α) : Sim (pure a : LO α) (some a) [] := ⟨LO.pure_val a, ⟨fun _ => LO.pure_tr a⟩⟩
theorem Sim.lift {α : Type} (x : Option α) : Sim (LO.lift x) x [] := ⟨LO.lift_val x, ⟨fun _ => LO.lift_tr x⟩⟩
theorem Sim.of_eq {α : Type} {m : LO α} {x : Option α} {t t' : Trace} (h : Sim m x t) (e : t = t') : Sim m x t' :=
  e ▸ h
theorem Sim.of_none {α : Type} {m : LO α} (t : Trace) (h : m.val = none) : Sim m none t := ⟨h, Const.of_none t h⟩

/-- the plain side is ANY term `r` (the plain model may be written with `match`, `Option.map`, …); the second trace
    may depend on the first VALUE (a declassified output) as long as the whole is `T` -/
theorem Sim.bind_of {α β : Type} {m : LO α} {f : α → LO β} {x : Option α} {r : Option β} {t₁ T : Trace}
    {t₂ : α → Trace} (h₁ : Sim m x t₁) (hn : x = none → r = none) (hs : ∀ a, x = some a → Sim (f a) r (t₂ a))
    (hT : ∀ a, x = some a → t₁ ++ t₂ a = T) : Sim (m >>= f) r T := by
  obtain ⟨rfl, c₁⟩ := h₁
  cases hm : m.val with
  | none => rw [hn hm]; exact Sim.of_none T (by rw [LO.bind_val, hm]; rfl)
  | some a =>
    have h := hs a hm
    refine ⟨by rw [LO.bind_val_some _ _ a hm]; exact h.val, ⟨fun hv => ?_⟩⟩
    rw [LO.bind_val_some _ _ a hm] at hv
    rw [LO.bind_tr_some m f a hm, c₁.out (by rw [hm]; rfl), h.const.out hv, hT a hm]

/-- `V`: the second trace may depend on the first Value -/
theorem Sim.bindV {α β : Type} {m : LO α} {f : α → LO β} {x : Option α} {g : α → Option β} {t₁ T : Trace}
    {t₂ : α → Trace} (h₁ : Sim m x t₁) (hs : ∀ a, x = some a → Sim (f a) (g a) (t₂ a))
    (hT : ∀ a, x = some a → t₁ ++ t₂ a = T) : Sim (m >>= f) (x >>= g) T :=
  Sim.bind_of h₁ (fun e => by rw [e]; rfl) (fun a e => by rw [e]; exact hs a e) hT

theorem Sim.bind {α β : Type} {m : LO α} {f : α → LO β} {x : Option α} {g : α → Option β} {t₁ t₂ : Trace}
    (h₁ : Sim m x t₁) (hs : ∀ a, Sim (f a) (g a) t₂) : Sim (m >>= f) (x >>= g) (t₁ ++ t₂) :=
  Sim.bindV h₁ (fun a _ => hs a) (fun _ _ => rfl)

theorem Sim.emit_bind {β : Type} {e : Event} {f : Unit → LO β} {x : Option β} {t : Trace} (h : Sim (f ()) x t) :
    Sim (LO.emit e >>= f) x (e :: t) :=
  Sim.bind_of (x := some ()) ⟨LO.emit_val e, ⟨fun _ => LO.emit_tr e⟩⟩ (fun e => by cases e)
    (fun _ _ => h) (fun _ _ => rfl)

theorem Sim.ite {α : Type} {c : Prop} [Decidable c] {m n : LO α} {x y : Option α} {t : Trace}
    (hm : c → Sim m x t) (hn : ¬ c → Sim n y t) : Sim (if c then m else n) (if c then x else y) t := by
  by_cases h : c
  · rw [if_pos h, if_pos h]; exact hm h
  · rw [if_neg h, if_neg h]; exact hn h

/-- proves `Sim (do …) (do …) T` for two `do` blocks of the same shape, the left one made of `LO.lift` / `LO.emit` /
    `pure` steps and calls whose `Sim` lemmas are listed: walks both blocks, computes the concatenated trace and
    leaves the goal `computed = T` (usually `simp` / `rfl`) -/
syntax "leak_sim" "[" term,* "]" : tactic
macro_rules
  | `(tactic| leak_sim [$ts,*]) => do
    let alts ← ts.getElems.mapM (fun t => `(tactic| apply $t))
    `(tactic| (apply Sim.of_eq; repeat (first | intro _ | apply Sim.lift | apply Sim.pure | apply Sim.emit_bind $[| $alts:tactic]* | apply Sim.bind)))

/-- `let t ← (if … then … else …); rest t` in a `do` block becomes a join point `k` that every branch ends in.  Stated this way
    round, `refine LO.with_jp (fun hk => …walk of the branches, `hk t` at their ends…) fun t => …erasure of the rest…`
    never writes the rest down: `kL`, `kP` are found by unification at the first `hk t`. -/
theorem LO.with_jp {α β : Type} {kL : α → LO β} {kP : α → Option β} {G : Prop}
    (h : (∀ t, (kL t).val = kP t) → G) (hk : ∀ t, (kL t).val = kP t) : G := h hk

/-- `LO.erase_bind_of` in `LeakM` with `Except` values.  After a last step `fun _ => rfl` has fixed `kp`, `rfl` closes `hr`. -/
theorem bind_val_of {ε α β : Type} {m : LeakM (Except ε α)} {k : Except ε α → LeakM (Except ε β)} {x : Except ε α}
    {r : Except ε β} {kp : α → Except ε β} (hm : m.val = x) (hs : ∀ a, (k (.ok a)).val = kp a)
    (hk : ∀ e, (k (.error e)).val = .error e := by intro e; rfl)
    (he : ∀ e, x = .error e → r = .error e := by intro e h; rw [h])
    (hr : ∀ a, x = .ok a → r = kp a := by intro a e; rewrite [e]; dsimp only <;> rfl) : (m >>= k).val = r := by
  rw [bind_val, hm]
  cases hx : x with
  | error e => exact (hk e).trans (he e hx).symm
  | ok a => exact (hs a).trans (hr a hx).symm

theorem array_u8_ct_eqL_val (a b : List UInt8) : (array_u8_ct_eqL a b).val = array_u8_ct_eq a b := by
  have h := forL_pure (fun (acc : UInt64) (p : UInt8 × UInt8) => acc ||| (p.1.toUInt64 ^^^ p.2.toUInt64)) (a.zip b) 0
  simp only [array_u8_ct_eqL, bind_val, pure_val, h.2]; rfl

theorem array_u8_ct_eqL_tr (a b : List UInt8) :
    (array_u8_ct_eqL a b).tr = [Event.loopBound (min a.length b.length)] := by
  have h := forL_pure (fun (acc : UInt64) (p : UInt8 × UInt8) => acc ||| (p.1.toUInt64 ^^^ p.2.toUInt64)) (a.zip b) 0
  simp only [array_u8_ct_eqL, bind_tr, pure_tr, h.1, List.append_nil, List.length_zip]

theorem slice_u8_ct_eqL_tr (a b : List UInt8) :
    (slice_u8_ct_eqL a b).tr = Event.branch (decide (a.length = b.length)) ::
      (if a.length = b.length then [Event.loopBound (min a.length b.length)] else []) := by
  unfold slice_u8_ct_eqL
  by_cases h : a.length = b.length <;> simp [h, array_u8_ct_eqL_tr]

theorem tagEqL_val (a b : List UInt8) : (tagEqL a b).val = (array_u8_ct_eq a b).isTrue := by
  simp only [tagEqL, bind_val, pure_val, array_u8_ct_eqL_val]

theorem tagEqL_tr (a b : List UInt8) : (tagEqL a b).tr = [Event.loopBound (min a.length b.length)] := by
  simp only [tagEqL, bind_tr, pure_tr, array_u8_ct_eqL_tr, List.append_nil]

theorem foldl_snoc {α β : Type} (g : α → β) (l : List α) (init : List β) :
    l.foldl (fun t p => t ++ [g p]) init = init ++ l.map g := by
  induction l generalizing init with
  | nil => simp
  | cons p ps ih => simp [ih]

theorem forL_snoc {α β : Type} (g : α → β) (l : List α) :
    (forL l ([] : List β) (fun t p => pure (t ++ [g p]))).tr = [Event.loopBound l.length] ∧
    (forL l ([] : List β) (fun t p => pure (t ++ [g p]))).val = l.map g := by
  have h := forL_pure (fun (t : List β) p => t ++ [g p]) l []
  exact ⟨h.1, by rw [h.2, foldl_snoc, List.nil_append]⟩

theorem zipWith_eq_map_zip {α β γ : Type} (f : α → β → γ) (a : List α) (b : List β) :
    List.zipWith f a b = (a.zip b).map (fun p => f p.1 p.2) := by
  induction a generalizing b with
  | nil => simp
  | cons x xs ih => cases b <;> simp [ih]

theorem ct_array64_maybe_swap_withL_tr (a b : List UInt64) (c : Choice) :
    (ct_array64_maybe_swap_withL a b c).tr =
      [Event.loopBound (min a.length b.length), Event.loopBound (min a.length (min a.length b.length)),
       Event.loopBound (min b.length (min a.length b.length))] := by
  simp only [ct_array64_maybe_swap_withL, bind_tr, pure_tr,
    forL_snoc (fun (p : UInt64 × UInt64) => (p.1 ^^^ p.2) &&& maskOf c) _,
    forL_snoc (fun (p : UInt64 × UInt64) => p.1 ^^^ p.2) _,
    List.length_zip, List.length_map, List.append_nil, List.cons_append, List.nil_append]

theorem ct_array64_maybe_setL_tr (a b : List UInt64) (c : Choice) :
    (ct_array64_maybe_setL a b c).tr =
      [Event.loopBound (min a.length b.length), Event.loopBound (min a.length (min a.length b.length))] := by
  simp only [ct_array64_maybe_setL, bind_tr,
    forL_snoc (fun (p : UInt64 × UInt64) => (p.1 ^^^ p.2) &&& maskOf c) _,
    forL_snoc (fun (p : UInt64 × UInt64) => p.1 ^^^ p.2) _,
    List.length_zip, List.length_map, List.cons_append, List.nil_append]

end Cx.Proofs.LeakModel
