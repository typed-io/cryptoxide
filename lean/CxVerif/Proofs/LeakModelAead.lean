/-
  Proofs.LeakModelAead — (n) the ChaCha20-Poly1305 AEAD: erasure and non-interference of the instrumented incremental
  context (`add_data`, `to_encryption` / `to_decryption`, `encrypt(_mut)`, `decrypt(_mut)`, `finalize`) and of the
  one-shot object, on top of the ChaCha results (Proofs/LeakModelSym.lean) and the Poly1305 results
  (Proofs/LeakModelPoly.lean, Proofs/Poly1305Stream.lean).

  The judgment is `NIE` (Proofs/LeakModelSym.lean).  Two AEAD contexts are indistinguishable (`LowA`) when the cipher
  contexts are (`LowEq`: position in the keystream block, public part of the engine state), the MAC objects have absorbed
  messages of the same length modulo 16 (`leftover`; each is in the `Absorbing` state of C05, under ANY key) and the two
  length counters agree.  Keys, nonces, keystream, plaintext, AAD bytes and the accumulator are not compared.
  Erasure (`…_val`) is proved apart from non-interference (`…_nie`): it holds for EVERY context, whereas `LowA c c` does
  not (`LowM s s` asks that `s` is absorbing), so it is not the diagonal of the relational statement.
-/
import CxVerif.Impl.LeakModelHash
import CxVerif.Proofs.LeakModelPoly
import CxVerif.Proofs.LeakModelSym
import CxVerif.Proofs.Poly1305Stream
namespace Cx.Proofs.LeakModel
open Cx.Impl Cx.Impl.LeakModel Cx.Impl.StreamCtx Cx.Impl.Aead Cx.Impl.LeakModel.AeadL
open Cx.Proofs.Poly1305 (Absorbing)

theorem NIE.bindE {α β : Type} {R : α → α → Prop} {S : β → β → Prop} {m m' : LeakM (Except String α)}
    {k k' : α → LeakM (Except String β)} (h : NIE m m' R) (hk : ∀ a a', R a a' → NIE (k a) (k' a') S) :
    NIE (bindE m k) (bindE m' k') S := NIE.bind_cases h (fun e => NIE.pure_error e) hk

/-! ### erasure steps (`bindE m k` unfolds to `m >>= …`: one step is `bind_val_of`, Proofs/LeakModel.lean) -/

theorem liftPL_val {α : Type} (m : LeakM (Except Poly1305.Panic α)) : (liftPL m).val = liftP m.val := rfl
theorem poly_inputL_val (s : Poly1305.State) (d : Bytes) : (liftPL (inputL s d)).val = liftP (Poly1305.input s d) :=
  (liftPL_val _).trans (congrArg liftP (inputL_sim _ _).val)
theorem liftPL_tr {α : Type} (m : LeakM (Except Poly1305.Panic α)) : (liftPL m).tr = m.tr := by
  unfold liftPL; simp only [bind_tr, pure_tr, List.append_nil]

/-- two MAC objects are indistinguishable: each is absorbing (C05) under some key, same number of buffered bytes -/
def LowM (s s' : Poly1305.State) : Prop :=
  (∃ key msg, Absorbing key s msg) ∧ (∃ key msg, Absorbing key s' msg) ∧ s.leftover = s'.leftover

theorem tagBytes_length (h : Poly1305.L5) : (Poly1305.tagBytes h).length = 16 := by
  simp only [Poly1305.tagBytes, List.length_append, Bytes.natToLE_length]

/-- From the unary judgment of the Poly1305 layer to the relational one: two calls that both succeed and whose
    postconditions determine the trace from public data. -/
theorem NIE.of_simE {α : Type} {R : α → α → Prop} {m m' : LeakM (Except Poly1305.Panic α)}
    {x x' : Except Poly1305.Panic α} {Q Q' : α → Trace → Prop} {a a' : α} (h : SimE m x Q) (h' : SimE m' x' Q')
    (e : x = .ok a) (e' : x' = .ok a') (hq : Q a m.tr → Q' a' m'.tr → m.tr = m'.tr ∧ R a a') :
    NIE (liftPL m) (liftPL m') R := by
  obtain ⟨ht, hr⟩ := hq (h.post a e) (h'.post a' e')
  refine ⟨by rw [liftPL_tr, liftPL_tr, ht], ?_⟩
  rw [liftPL_val, liftPL_val, h.val, h'.val, e, e']
  exact .ok hr

theorem poly_inputL_nie (s s' : Poly1305.State) (d d' : Bytes) (h : LowM s s') (hd : d.length = d'.length) :
    NIE (liftPL (inputL s d)) (liftPL (inputL s' d')) LowM := by
  obtain ⟨⟨key, msg, ha⟩, ⟨key', msg', ha'⟩, hl⟩ := h
  obtain ⟨s1, e1, a1⟩ := Cx.Proofs.Poly1305.input_spec key s msg d ha
  obtain ⟨s2, e2, a2⟩ := Cx.Proofs.Poly1305.input_spec key' s' msg' d' ha'
  exact .of_simE (inputL_sim s d) (inputL_sim s' d') e1 e2 fun ⟨t1, l1, _⟩ ⟨t2, l2, _⟩ =>
    ⟨by rw [t1, t2, hl, hd], ⟨key, _, a1⟩, ⟨key', _, a2⟩, by rw [l1, l2, hl, hd]⟩

theorem poly_raw_resultL_nie (s s' : Poly1305.State) (h : LowM s s') :
    NIE (liftPL (raw_resultL Poly1305.codeVariant s 16)) (liftPL (raw_resultL Poly1305.codeVariant s' 16))
      (fun r r' => r.2.length = 16 ∧ r'.2.length = 16) := by
  obtain ⟨⟨key, msg, ha⟩, ⟨key', msg', ha'⟩, hl⟩ := h
  obtain ⟨s1, e1, _, t1, _⟩ := Cx.Proofs.Poly1305.raw_result_absorbing Poly1305.codeVariant key s msg 16 (Nat.le_refl _) ha
  obtain ⟨s2, e2, _, t2, _⟩ := Cx.Proofs.Poly1305.raw_result_absorbing Poly1305.codeVariant key' s' msg' 16 (Nat.le_refl _) ha'
  exact .of_simE (raw_resultL_sim _ s 16) (raw_resultL_sim _ s' 16) e1 e2 fun q q' =>
    ⟨by rw [q ha.2.2.1, q' ha'.2.2.1, hl], t1 ▸ tagBytes_length _, t2 ▸ tagBytes_length _⟩

section Aead
variable {σ : Type} {G : BlockGenL σ}

theorem pad16L_val (mac : Poly1305.State) (len : Nat) : (pad16L mac len).val = pad16 mac len := by
  unfold pad16L pad16
  exact ite_val (fun _ => poly_inputL_val _ _) (fun _ => rfl)

theorem add_encryptedL_val (c : Context σ) (enc : Bytes) : (add_encryptedL c enc).val = Context.add_encrypted c enc := by
  unfold add_encryptedL Context.add_encrypted
  exact bind_val_of (poly_inputL_val _ _) fun _ => rfl

theorem add_dataL_val (c : Context σ) (aad : Bytes) : (add_dataL c aad).val = Context.add_data c aad := by
  unfold add_dataL Context.add_data
  cases addU64 c.aad_len aad.length with
  | error e => rfl
  | ok n => exact bind_val_of (poly_inputL_val _ _) fun _ => rfl

theorem to_encryptionL_val (c : Context σ) : (to_encryptionL c).val = Context.to_encryption c := by
  unfold to_encryptionL Context.to_encryption
  exact bind_val_of (pad16L_val _ _) fun _ => rfl

/-- `to_decryption` is `to_encryption` word for word, in both models -/
theorem to_decryptionL_val (c : Context σ) : (to_decryptionL c).val = Context.to_decryption c := to_encryptionL_val c

theorem finalize_rawL_val (c : Context σ) : (finalize_rawL c).val = finalize_raw c := by
  unfold finalize_rawL finalize_raw
  refine bind_val_of (pad16L_val _ _) fun _ => ?_
  refine bind_val_of (poly_inputL_val _ _) fun _ => ?_
  exact bind_val_of ((liftPL_val _).trans (congrArg liftP (raw_resultL_sim _ _ _).val)) fun _ => rfl

theorem encryptL_val (E : ChaCha.Engine σ) (R : Nat) (L : BlockGenLeak (ChaCha.ChaCha.gen E R) G) (c : Context σ)
    (input : Bytes) (n : Nat) : (encryptL G c input n).val = ContextEncryption.encrypt E R c input n := by
  unfold encryptL ContextEncryption.encrypt ChaCha.ChaCha.process
  refine ite_val (fun _ => rfl) (fun _ => ?_)
  refine bind_val_of (processL_val L _ _ _) fun _ => ?_
  exact bind_val_of (add_encryptedL_val _ _) fun _ => rfl

theorem enc_finalizeL_val (c : Context σ) : (enc_finalizeL c).val = ContextEncryption.finalize c := by
  unfold enc_finalizeL ContextEncryption.finalize
  exact bind_val_of (finalize_rawL_val _) fun _ => rfl

theorem decryptL_val (E : ChaCha.Engine σ) (R : Nat) (L : BlockGenLeak (ChaCha.ChaCha.gen E R) G) (c : Context σ)
    (input : Bytes) (n : Nat) : (decryptL G c input n).val = ContextDecryption.decrypt E R c input n := by
  unfold decryptL ContextDecryption.decrypt ChaCha.ChaCha.process
  refine ite_val (fun _ => rfl) (fun _ => ?_)
  refine bind_val_of (add_encryptedL_val _ _) fun _ => ?_
  exact bind_val_of (processL_val L _ _ _) fun _ => rfl

theorem dec_finalizeL_val (c : Context σ) (tag : Bytes) : (dec_finalizeL c tag).val = ContextDecryption.finalize c tag := by
  unfold dec_finalizeL ContextDecryption.finalize
  refine ite_val (fun _ => rfl) (fun _ => ?_)
  exact bind_val_of (finalize_rawL_val _) fun _ => congrArg Except.ok (tagEqL_val _ _)

theorem newL_val (E : ChaCha.Engine σ) (R : Nat) (L : BlockGenLeak (ChaCha.ChaCha.gen E R) G) (key nonce : Bytes) :
    (newL E R G key nonce).val = Context.new E R key nonce := by
  unfold newL Context.new ChaCha.ChaCha.process
  refine ite_val (fun _ => rfl) (fun _ => ite_val (fun _ => rfl) (fun _ => ?_))
  cases ChaCha.ChaCha.new E R key nonce with
  | error e => rfl
  | ok cipher =>
    dsimp only
    exact bind_val_of (processL_val L _ _ _) fun _ => rfl

theorem oneShotNewL_val (E : ChaCha.Engine σ) (R : Nat) (L : BlockGenLeak (ChaCha.ChaCha.gen E R) G) (key nonce aad : Bytes) :
    (oneShotNewL E R G key nonce aad).val = ChaChaPoly1305.new E R key nonce aad := by
  unfold oneShotNewL ChaChaPoly1305.new
  refine bind_val_of (newL_val E R L _ _) fun _ => ?_
  exact bind_val_of (add_dataL_val _ _) fun _ => rfl

end Aead

section AeadNI
variable {σ : Type} {g : BlockGen σ} {G : BlockGenL σ}

structure LowA (L : BlockGenLeak g G) (c c' : Context σ) : Prop where
  cipher : LowEq L c.cipher c'.cipher
  mac : LowM c.mac c'.mac
  aad : c.aad_len = c'.aad_len
  data : c.data_len = c'.data_len

theorem pad16L_nie (s s' : Poly1305.State) (len : Nat) (h : LowM s s') : NIE (pad16L s len) (pad16L s' len) LowM := by
  unfold pad16L
  refine NIE.emit _ (NIE.ite (NIE.emit _ (poly_inputL_nie s s' _ _ h rfl)) (NIE.pure_ok h))

theorem add_encryptedL_nie (L : BlockGenLeak g G) (c c' : Context σ) (e e' : Bytes) (hc : LowA L c c')
    (he : e.length = e'.length) : NIE (add_encryptedL c e) (add_encryptedL c' e') (LowA L) := by
  unfold add_encryptedL
  refine NIE.bindE (poly_inputL_nie _ _ e e' hc.mac he) (fun m m' hm => ?_)
  rw [← hc.data, ← he]
  cases addU64 c.data_len e.length with
  | error x => exact NIE.pure_error x
  | ok n => exact NIE.pure_ok ⟨hc.cipher, hm, hc.aad, rfl⟩

theorem add_dataL_nie (L : BlockGenLeak g G) (c c' : Context σ) (a a' : Bytes) (hc : LowA L c c')
    (ha : a.length = a'.length) : NIE (add_dataL c a) (add_dataL c' a') (LowA L) := by
  unfold add_dataL
  rw [← hc.aad, ← ha]
  cases addU64 c.aad_len a.length with
  | error x => exact NIE.pure_error x
  | ok n =>
    dsimp only
    exact NIE.bindE (poly_inputL_nie _ _ a a' hc.mac ha) (fun m m' hm => NIE.pure_ok ⟨hc.cipher, hm, rfl, hc.data⟩)

theorem to_encryptionL_nie (L : BlockGenLeak g G) (c c' : Context σ) (hc : LowA L c c') :
    NIE (to_encryptionL c) (to_encryptionL c') (LowA L) := by
  unfold to_encryptionL
  rw [← hc.aad]
  exact NIE.bindE (pad16L_nie _ _ _ hc.mac) (fun m m' hm => NIE.pure_ok ⟨hc.cipher, hm, rfl, hc.data⟩)

theorem to_decryptionL_nie (L : BlockGenLeak g G) (c c' : Context σ) (hc : LowA L c c') :
    NIE (to_decryptionL c) (to_decryptionL c') (LowA L) := to_encryptionL_nie L c c' hc

theorem finalize_rawL_nie (L : BlockGenLeak g G) (c c' : Context σ) (hc : LowA L c c') :
    NIE (finalize_rawL c) (finalize_rawL c') (fun r r' => r.2.length = 16 ∧ r'.2.length = 16) := by
  unfold finalize_rawL
  rw [← hc.data, ← hc.aad]
  refine NIE.bindE (pad16L_nie _ _ _ hc.mac) (fun m m' hm => ?_)
  refine NIE.bindE (poly_inputL_nie m m' _ _ hm rfl) (fun m2 m2' hm2 => ?_)
  exact NIE.bindE (poly_raw_resultL_nie m2 m2' hm2) (fun r r' hr => NIE.pure_ok hr)

def LowAO (L : BlockGenLeak g G) (r r' : Context σ × Bytes) : Prop := LowA L r.1 r'.1 ∧ r.2.length = r'.2.length

theorem encryptL_nie (L : BlockGenLeak g G) (c c' : Context σ) (i i' : Bytes) (n : Nat) (hc : LowA L c c')
    (hi : i.length = i'.length) : NIE (encryptL G c i n) (encryptL G c' i' n) (LowAO L) := by
  unfold encryptL
  rw [← hi]
  refine NIE.emit _ (NIE.ite (NIE.pure_error _) ?_)
  refine NIE.bindE (processL_nie L _ _ i i' n hi hc.cipher) (fun r r' hr => ?_)
  refine NIE.bindE (add_encryptedL_nie L _ _ r.2 r'.2 ⟨hr.1, hc.mac, hc.aad, hc.data⟩ hr.2) (fun d d' hd => ?_)
  exact NIE.pure_ok ⟨hd, hr.2⟩

theorem decryptL_nie (L : BlockGenLeak g G) (c c' : Context σ) (i i' : Bytes) (n : Nat) (hc : LowA L c c')
    (hi : i.length = i'.length) : NIE (decryptL G c i n) (decryptL G c' i' n) (LowAO L) := by
  unfold decryptL
  rw [← hi]
  refine NIE.emit _ (NIE.ite (NIE.pure_error _) ?_)
  refine NIE.bindE (add_encryptedL_nie L c c' i i' hc hi) (fun d d' hd => ?_)
  refine NIE.bindE (processL_nie L _ _ i i' n hi hd.cipher) (fun r r' hr => ?_)
  exact NIE.pure_ok ⟨⟨hr.1, hd.mac, hd.aad, hd.data⟩, hr.2⟩

theorem enc_finalizeL_nie (L : BlockGenLeak g G) (c c' : Context σ) (hc : LowA L c c') :
    NIE (enc_finalizeL c) (enc_finalizeL c') (fun t t' => t.length = 16 ∧ t'.length = 16) := by
  unfold enc_finalizeL
  exact NIE.bindE (finalize_rawL_nie L c c' hc) (fun r r' hr => NIE.pure_ok hr)

/-- `ContextDecryption::finalize`: the trace is the same whatever the computed tag and the expected tag are — the
    comparison is constant time; the VERDICT (the result of the call) is of course not related -/
theorem dec_finalizeL_nie (L : BlockGenLeak g G) (c c' : Context σ) (t t' : Bytes) (hc : LowA L c c')
    (ht : t.length = t'.length) : NIE (dec_finalizeL c t) (dec_finalizeL c' t') (fun _ _ => True) := by
  unfold dec_finalizeL
  rw [← ht]
  refine NIE.ite (NIE.pure_error _) ?_
  refine NIE.bindE (finalize_rawL_nie L c c' hc) (fun r r' hr => ?_)
  exact NIE.bindW (S := fun _ _ => True) (by rw [tagEqL_tr, tagEqL_tr, hr.1, hr.2, ht]) trivial
    (fun _ _ _ => NIE.pure_ok trivial)

/-- `hc`, `hc'`: the key setup succeeds, i.e. the lengths are admissible; `hp`: the fresh engine states have the same
    public part — `rfl` for the IETF ChaCha engines, whose public part is trivial -/
theorem newL_nie (E : ChaCha.Engine σ) (R : Nat) (L : BlockGenLeak (ChaCha.ChaCha.gen E R) G)
    (key key' nonce nonce' : Bytes) (s s' : σ) (hk : key.length = key'.length) (hn : nonce.length = nonce'.length)
    (hc : ChaCha.ChaCha.new E R key nonce = .ok (StreamCtx.mk s))
    (hc' : ChaCha.ChaCha.new E R key' nonce' = .ok (StreamCtx.mk s')) (hp : L.pub s = L.pub s') :
    NIE (newL E R G key nonce) (newL E R G key' nonce') (LowA L) := by
  unfold newL
  rw [← hn, ← hk, hc, hc']
  refine NIE.ite (NIE.pure_error _) (NIE.emit _ (NIE.ite (NIE.pure_error _) ?_))
  dsimp only
  refine NIE.bindE (processL_nie L _ _ (zeros 64) (zeros 64) 64 rfl (lowEq_mk L s s' hp)) (fun r r' hr => ?_)
  refine NIE.pure_ok ⟨hr.1, ⟨⟨_, _, Cx.Proofs.Poly1305.new_absorbing _⟩, ⟨_, _, Cx.Proofs.Poly1305.new_absorbing _⟩, rfl⟩, rfl, rfl⟩

def LowOne (L : BlockGenLeak g G) (o o' : ChaChaPoly1305 σ) : Prop := o.finished = o'.finished ∧ LowA L o.context o'.context

theorem oneShotNewL_nie (E : ChaCha.Engine σ) (R : Nat) (L : BlockGenLeak (ChaCha.ChaCha.gen E R) G)
    (key key' nonce nonce' aad aad' : Bytes) (s s' : σ) (hk : key.length = key'.length)
    (hn : nonce.length = nonce'.length) (ha : aad.length = aad'.length)
    (hc : ChaCha.ChaCha.new E R key nonce = .ok (StreamCtx.mk s))
    (hc' : ChaCha.ChaCha.new E R key' nonce' = .ok (StreamCtx.mk s')) (hp : L.pub s = L.pub s') :
    NIE (oneShotNewL E R G key nonce aad) (oneShotNewL E R G key' nonce' aad') (LowOne L) := by
  unfold oneShotNewL
  refine NIE.bindE (newL_nie E R L key key' nonce nonce' s s' hk hn hc hc' hp) (fun c c' hcc => ?_)
  exact NIE.bindE (add_dataL_nie L c c' aad aad' hcc ha) (fun d d' hd => NIE.pure_ok ⟨rfl, hd⟩)

theorem oneShotEncryptL_nie (L : BlockGenLeak g G) (o o' : ChaChaPoly1305 σ) (i i' : Bytes) (n t : Nat)
    (ho : LowOne L o o') (hi : i.length = i'.length) :
    NIE (oneShotEncryptL G o i n t) (oneShotEncryptL G o' i' n t)
      (fun r r' => LowOne L r.1 r'.1 ∧ r.2.1.length = r'.2.1.length ∧ r.2.2.length = r'.2.2.length) := by
  unfold oneShotEncryptL
  rw [← hi, ← ho.1]
  refine NIE.emit _ (NIE.ite (NIE.pure_error _) (NIE.emit _ (NIE.ite (NIE.pure_error _)
    (NIE.emit _ (NIE.ite (NIE.pure_error _) ?_)))))
  refine NIE.bindE (to_encryptionL_nie L _ _ ho.2) (fun c c' hc => ?_)
  refine NIE.bindE (encryptL_nie L c c' i i' n hc hi) (fun r r' hr => ?_)
  refine NIE.bindE (enc_finalizeL_nie L _ _ hr.1) (fun tg tg' htg => ?_)
  exact NIE.pure_ok ⟨⟨rfl, ho.2⟩, hr.2, by rw [htg.1, htg.2]⟩

theorem oneShotDecryptL_nie (L : BlockGenLeak g G) (o o' : ChaChaPoly1305 σ) (i i' : Bytes) (n : Nat) (t t' : Bytes)
    (ho : LowOne L o o') (hi : i.length = i'.length) (ht : t.length = t'.length) :
    NIE (oneShotDecryptL G o i n t) (oneShotDecryptL G o' i' n t')
      (fun r r' => LowOne L r.1 r'.1 ∧ r.2.1.length = r'.2.1.length) := by
  unfold oneShotDecryptL
  rw [← hi, ← ho.1, ← ht]
  refine NIE.emit _ (NIE.ite (NIE.pure_error _) (NIE.emit _ (NIE.ite (NIE.pure_error _)
    (NIE.emit _ (NIE.ite (NIE.pure_error _) ?_)))))
  refine NIE.bindE (to_decryptionL_nie L _ _ ho.2) (fun c c' hc => ?_)
  refine NIE.bindE (decryptL_nie L c c' i i' n hc hi) (fun r r' hr => ?_)
  refine NIE.bindE (dec_finalizeL_nie L _ _ t t' hr.1 ht) (fun v v' _ => ?_)
  exact NIE.pure_ok ⟨⟨rfl, ho.2⟩, hr.2⟩

end AeadNI

theorem context_new_ok {σ : Type} (E : ChaCha.Engine σ) (R : Nat) (key nonce : Bytes) (c : Context σ)
    (h : Context.new E R key nonce = .ok c) : ∃ s, ChaCha.ChaCha.new E R key nonce = .ok (StreamCtx.mk s) := by
  unfold Context.new at h
  split at h
  · cases h
  · split at h
    · cases h
    · cases hn : ChaCha.ChaCha.new E R key nonce with
      | error e => rw [hn] at h; cases h
      | ok cipher =>
        obtain ⟨s, rfl⟩ := chacha_new_ok E R key nonce cipher hn
        exact ⟨s, rfl⟩

theorem oneShot_new_ok {σ : Type} (E : ChaCha.Engine σ) (R : Nat) (key nonce aad : Bytes) (o : ChaChaPoly1305 σ)
    (h : ChaChaPoly1305.new E R key nonce aad = .ok o) : ∃ s, ChaCha.ChaCha.new E R key nonce = .ok (StreamCtx.mk s) := by
  unfold ChaChaPoly1305.new at h
  cases hc : Context.new E R key nonce with
  | error e => rw [hc] at h; cases h
  | ok c => exact context_new_ok E R key nonce c hc

/-- **two one-shot objects created from keys, nonces and AADs of the same LENGTHS**, on an engine whose fresh states all have
    the same public part (`hp`: `fun _ _ => rfl` for the IETF ChaCha engines): creation has the same trace and the objects
    are indistinguishable -/
theorem oneShot_new_low {σ : Type} {G : BlockGenL σ} (E : ChaCha.Engine σ) (R : Nat)
    (L : BlockGenLeak (ChaCha.ChaCha.gen E R) G) (hp : ∀ s s', L.pub s = L.pub s') (key key' nonce nonce' aad aad' : Bytes)
    (o o' : ChaChaPoly1305 σ) (hk : key.length = key'.length) (hn : nonce.length = nonce'.length)
    (ha : aad.length = aad'.length) (h : ChaChaPoly1305.new E R key nonce aad = .ok o)
    (h' : ChaChaPoly1305.new E R key' nonce' aad' = .ok o') :
    (oneShotNewL E R G key nonce aad).tr = (oneShotNewL E R G key' nonce' aad').tr ∧ LowOne L o o' := by
  obtain ⟨s, hs⟩ := oneShot_new_ok _ _ _ _ _ _ h
  obtain ⟨s', hs'⟩ := oneShot_new_ok _ _ _ _ _ _ h'
  have hnew := oneShotNewL_nie E R L key key' nonce nonce' aad aad' s s' hk hn ha hs hs' (hp s s')
  exact ⟨hnew.tr, hnew.rel_of_ok ((oneShotNewL_val _ _ L _ _ _).trans h) ((oneShotNewL_val _ _ L _ _ _).trans h')⟩

end Cx.Proofs.LeakModel
