/-
  Proofs.LeakModelEd25519 — (b) Ed25519 key generation and signing: erasure and traces of the instrumented
  `nibbles`, recoding, `GePrecomp::select`, the comb loops, `Ge::scalarmult_base`, `Ge::to_bytes`, `keypair`,
  `signature`, `signature_extended` (`fooL_sim`, judgment `Sim`).  The one value-dependent event is the branch on the sign
  of x in `GeAffine::to_bytes`; the traces are indexed by that bit as a function of the INPUTS (`geSign`, `nonceSign`,
  `pkSign`, `keypairSign`, `signatureSign` of the model file, `extendedSign` here), and `…Sign_eq_topBit` say that it is bit 255 of the OUTPUT
  (from `fe_to_bytes_top`: the last byte of `Fe::to_bytes` is below 128 whenever it returns, no bound on the limbs assumed).
  Last, erasure alone of the variable-time loops of `verify` (public digits).
-/
import CxVerif.Proofs.LeakModelX25519
import CxVerif.Proofs.Ed25519Sign
import CxVerif.Proofs.GeEncLen
namespace Cx.Proofs.LeakModel
open Cx.Impl.LeakModel Cx.Impl.Fe64 Cx.Impl.Ge Cx.Impl.Ed25519
open Cx.Impl.Scalar64 (Scalar)

/- The proofs below depend on this (as in Proofs/LeakModelX25519.lean): `leak_sim` must never look through a callee; without it
   `scalarmult_baseL_sim` runs out of heartbeats.  `unfold` still works. -/
attribute [local irreducible] LO.lift LO.emit invertL chain250L square_repeatdlyL emitIdx nibblesL recodeLoopL recodeL selectL combLoopL
  scalarmult_baseL to_affineL affine_to_bytesL ge_to_bytesL sha512_1L sha512_2L clamp_scalarL extended_secretL
  extended_to_publicL keypairL signature_nonceL muladdL signature_tailL signatureL signature_extendedL

theorem emitIdx_sim (l : List Nat) : Sim (emitIdx l) (some ()) (l.map Event.index) := by
  induction l with
  | nil => unfold emitIdx; exact Sim.pure _
  | cons i is ih => unfold emitIdx; exact Sim.emit_bind ih

def nibblesT : Trace := Event.loopBound 4 :: nibbleIdx.map Event.index

theorem nibblesL_sim (s : Scalar) : Sim (nibblesL s) (some (Impl.Scalar64.nibbles s)) nibblesT := by
  unfold nibblesL
  exact Sim.emit_bind (Sim.bind_of (emitIdx_sim _) (fun e => by cases e) (fun _ _ => Sim.pure _)
    (fun _ _ => List.append_nil _))

theorem recodeLoopL_sim (es : List Int) (carry : Int) : Sim (recodeLoopL es carry) (recodeLoop es carry) [] := by
  induction es generalizing carry with
  | nil => unfold recodeLoopL recodeLoop; exact Sim.pure _
  | cons e es ih =>
    unfold recodeLoopL recodeLoop
    refine Sim.bind (Sim.lift _) (fun e1 => Sim.bind (Sim.lift _) (fun c1 => Sim.bind (Sim.lift _) (fun e2 =>
      Sim.bind (ih _) (fun r => ?_))))
    obtain ⟨rest, cl⟩ := r
    exact Sim.pure _

theorem recodeL_sim (es : List Int) : Sim (recodeL es) (recode es) [Event.loopBound 63] := by
  unfold recodeL recode
  refine Sim.emit_bind (Sim.bind (t₂ := []) (recodeLoopL_sim _ _) (fun r => ?_))
  obtain ⟨lo, carry⟩ := r
  exact Sim.bind (Sim.lift _) (fun top => Sim.bind (Sim.lift _) (fun top => Sim.pure _))

/-- trace of a `select` that does not panic: the (passed) debug assertion, the row index -/
def selectT (pos : Nat) : Trace := [Event.branch false, Event.index pos]

theorem selectL_sim (pos : Nat) (b : Int) : Sim (selectL pos b) (GePrecomp.select pos b) (selectT pos) := by
  unfold selectL GePrecomp.select
  by_cases h : b < -8 ∨ b > 8
  · rw [if_pos h, if_pos h]
    refine Sim.of_none _ ?_
    rw [LO.emit_bind_val]; exact LO.lift_val _
  · rw [if_neg h, if_neg h, decide_eq_false h]
    leak_sim []
    simp [selectT]

/-- trace of `n` comb iterations from position `j`: the digit index `2j + off`, then `select(j, ·)` -/
def combT (off : Nat) : Nat → Nat → Trace
  | 0, _ => []
  | n + 1, j => Event.index (j * 2 + off) :: (selectT j ++ combT off n (j + 1))

theorem combLoopL_sim (es : List Int) (off : Nat) (n j : Nat) (h : Ge) :
    Sim (combLoopL es off n j h) (combLoop es off n j h) (combT off n j) := by
  induction n generalizing j h with
  | zero => unfold combLoopL combLoop; exact Sim.pure _
  | succ n ih =>
    unfold combLoopL combLoop
    leak_sim [selectL_sim, ih]
    simp only [combT, List.nil_append]

/-- **trace of the fixed-base scalar multiplication**: a closed constant (the loop bound 4 and 4 + 64 nibble indices, three more loop
    bounds, 2 × 32 × (digit index, assertion, row index)) -/
def scalarmultT : Trace :=
  nibblesT ++ [Event.loopBound 63, Event.loopBound 32] ++ combT 1 32 0 ++ [Event.loopBound 32] ++ combT 0 32 0

theorem scalarmult_baseL_sim (a : Scalar) : Sim (scalarmult_baseL a) (Ge.scalarmult_base a) scalarmultT := by
  unfold scalarmult_baseL Ge.scalarmult_base
  refine Sim.bind_of (t₂ := fun _ => [Event.loopBound 63, Event.loopBound 32] ++ combT 1 32 0 ++ [Event.loopBound 32] ++
    combT 0 32 0) (nibblesL_sim a) (fun e => by cases e) (fun nib e => ?_) (fun _ _ => ?_)
  · obtain rfl := Option.some.inj e
    leak_sim [recodeL_sim, combLoopL_sim]
    simp only [List.nil_append, List.cons_append, List.append_assoc]
  · simp only [scalarmultT, List.append_assoc]

theorem to_affineL_sim (g : Ge) : Sim (to_affineL g) g.to_affine invertT := by
  unfold to_affineL Ge.to_affine
  leak_sim [invertL_sim]
  simp

/-- the one value-dependent event: the branch on `x.is_negative()` -/
theorem affine_to_bytesL_sim (a : GeAffine) :
    Sim (affine_to_bytesL a) a.to_bytes [Event.branch ((is_negative a.x).getD false)] := by
  unfold affine_to_bytesL GeAffine.to_bytes
  refine Sim.bind (t₁ := []) (Sim.lift _) (fun bs => ?_)
  refine Sim.bindV (t₂ := fun n => [Event.branch n]) (Sim.lift _) (fun n _ => Sim.emit_bind (Sim.pure _))
    (fun n hn => ?_)
  rw [hn]; rfl

def toBytesT (sign : Bool) : Trace := invertT ++ [Event.branch sign]

theorem ge_to_bytesL_sim (g : Ge) : Sim (ge_to_bytesL g) g.to_bytes (toBytesT (geSign g)) := by
  unfold ge_to_bytesL Ge.to_bytes
  refine Sim.bindV (to_affineL_sim g) (fun a _ => affine_to_bytesL_sim a) (fun a ha => ?_)
  unfold toBytesT geSign
  rw [ha]

theorem sha512_1L_sim (a : Bytes) : Sim (sha512_1L a) (sha512_1 a) [Event.length a.length] := by
  unfold sha512_1L
  exact Sim.emit_bind (Sim.lift _)

theorem sha512_2L_sim (a b : Bytes) :
    Sim (sha512_2L a b) (sha512_2 a b) [Event.length a.length, Event.length b.length] := by
  unfold sha512_2L
  exact Sim.emit_bind (Sim.emit_bind (Sim.lift _))

theorem clamp_scalarL_sim (a : Bytes) : Sim (clamp_scalarL a) (clamp_scalar a) [Event.length a.length] := by
  unfold clamp_scalarL
  exact Sim.emit_bind (Sim.lift _)

theorem sha512_1_length (a out : Bytes) (ha : a.length = 32) (h : sha512_1 a = some out) : out.length = 64 := by
  rw [Cx.Proofs.Ed25519Sha.sha512_1_eq a (by rw [ha]; decide)] at h
  cases h
  exact Cx.Proofs.Ed25519Sign.sha512_length a

/-- trace of `extended_secret`: the hash of the 32-byte seed, the clamp of the 64-byte digest -/
def extendedSecretT : Trace := [Event.length 32, Event.length 64]

theorem extended_secretL_sim (sk : Bytes) : Sim (extended_secretL sk) (extended_secret sk) extendedSecretT := by
  unfold extended_secretL extended_secret
  refine Sim.ite (fun h => ?_) (fun _ => Sim.of_none _ (LO.lift_val _))
  refine Sim.bindV (sha512_1L_sim sk) (fun out _ => clamp_scalarL_sim out) (fun out ho => ?_)
  rw [sha512_1_length sk out h ho, h]; rfl

def publicT (sign : Bool) : Trace := scalarmultT ++ toBytesT sign

theorem extended_to_publicL_sim (ext : Bytes) :
    Sim (extended_to_publicL ext) (extended_to_public ext) (publicT (pkSign ext)) := by
  unfold extended_to_publicL extended_to_public
  refine Sim.bindV (t₁ := []) (t₂ := fun s => scalarmultT ++ toBytesT (nonceSign s)) (Sim.lift _) (fun s _ => ?_)
    (fun s hs => ?_)
  · refine Sim.bindV (scalarmult_baseL_sim s) (fun a _ => ge_to_bytesL_sim a) (fun a ha => ?_)
    unfold nonceSign; rw [ha]
  · unfold publicT pkSign nonceSign; rw [hs]; rfl

/-- **trace of `keypair`**: hash of the seed (32 bytes), clamp, fixed-base multiplication, encoding; the only
    non-constant event is the final `branch sign` with `sign` = sign of x of the PUBLIC key -/
def keypairT (sign : Bool) : Trace := extendedSecretT ++ publicT sign

theorem keypairL_sim (seed : Bytes) : Sim (keypairL seed) (keypair seed) (keypairT (keypairSign seed)) := by
  unfold keypairL keypair
  refine Sim.bindV (extended_secretL_sim seed)
    (fun ext _ => Sim.bind (t₂ := []) (extended_to_publicL_sim ext) (fun _ => Sim.pure _)) (fun ext he => ?_)
  unfold keypairT keypairSign; rw [he, List.append_nil]

theorem signature_nonceL_sim (az msg : Bytes) :
    Sim (signature_nonceL az msg) (signature_nonce az msg) [Event.length (az.length - 32), Event.length msg.length] := by
  unfold signature_nonceL signature_nonce
  refine Sim.ite (fun h => ?_) (fun _ => Sim.of_none _ (LO.lift_val _))
  leak_sim [sha512_2L_sim]
  simp

theorem muladdL_sim (a b c : Scalar) : Sim (muladdL a b c) (Impl.Scalar64.muladd a b c) [] := by
  unfold muladdL Impl.Scalar64.muladd
  leak_sim []
  simp

/-! ### the declassified bit is bit 255 of the output: the last byte of `Fe::to_bytes` is below 128 -/

theorem carry_final_bounds (t r : Fe) (h : carry_final t = some r) : r.l3 < 2 ^ 51 ∧ r.l4 < 2 ^ 51 := by
  unfold carry_final at h
  obtain ⟨t1, _, h⟩ := Option.bind_eq_some_iff.mp h
  obtain ⟨t2, _, h⟩ := Option.bind_eq_some_iff.mp h
  obtain ⟨t3, _, h⟩ := Option.bind_eq_some_iff.mp h
  obtain ⟨t4, _, h⟩ := Option.bind_eq_some_iff.mp h
  cases h
  have hm : MASK = 2 ^ 51 - 1 := by decide
  constructor
  · show t3 &&& MASK < 2 ^ 51
    rw [hm]; exact Nat.lt_of_le_of_lt Nat.and_le_right (by decide)
  · show t4 &&& MASK < 2 ^ 51
    rw [hm]; exact Nat.lt_of_le_of_lt Nat.and_le_right (by decide)

theorem to_packed_top (f : Fe) (w : List Nat) (h : to_packed f = some w) :
    ∃ a b c d, w = [a, b, c, d] ∧ d < 2 ^ 63 := by
  unfold to_packed at h
  iterate 9 (obtain ⟨_, _, h⟩ := Option.bind_eq_some_iff.mp h)
  obtain ⟨t, ht, h⟩ := Option.bind_eq_some_iff.mp h
  cases h
  obtain ⟨b3, b4⟩ := carry_final_bounds _ _ ht
  refine ⟨_, _, _, _, rfl, ?_⟩
  apply Nat.or_lt_two_pow
  · rw [Nat.shiftRight_eq_div_pow]
    exact Nat.lt_of_le_of_lt (Nat.div_le_self _ _) (Nat.lt_trans b3 (by decide))
  · rw [Nat.shiftLeft_eq]
    have : t.l4 * 2 ^ 12 < 2 ^ 63 := by omega
    exact Nat.lt_of_le_of_lt (Nat.mod_le _ _) this

/-- the last byte as a `Fin 128`: `top_bit_table` decides the bit identity over `Fin 128 × Bool` -/
theorem fe_to_bytes_top (f : Fe) (b : Bytes) (h : Impl.Fe64.to_bytes f = some b) :
    ∃ (pre : Bytes) (w : Fin 128), b = pre ++ [UInt8.ofNat w.val] ∧ pre.length = 31 := by
  unfold Impl.Fe64.to_bytes at h
  obtain ⟨w, hw, h⟩ := Option.bind_eq_some_iff.mp h
  cases h
  obtain ⟨a, b, c, d, rfl, hd⟩ := to_packed_top f w hw
  refine ⟨natToLE 8 a ++ natToLE 8 b ++ natToLE 8 c ++ natToLE 7 d, ⟨d / 256 ^ 7 % 256, ?_⟩, ?_, ?_⟩
  · have : d / 256 ^ 7 < 128 := by
      rw [Nat.div_lt_iff_lt_mul (by decide)]; exact Nat.lt_of_lt_of_le hd (by decide)
    omega
  · simp only [List.flatMap_cons, List.flatMap_nil, List.append_nil, List.append_assoc]
    rw [show (8 : Nat) = 7 + 1 from rfl, Cx.Proofs.Bytes.natToLE_add 7 1 d]
    rfl
  · simp only [List.length_append, Cx.Proofs.Bytes.natToLE_length]

theorem top_bit_table : ∀ (w : Fin 128) (n : Bool),
    (((UInt8.ofNat w.val ^^^ ((if n then (1 : UInt8) else 0) <<< 7)) >>> 7) != 0) = n := by
  decide +kernel

theorem setSign_topBit (bs : Bytes) (n : Bool) (pre : Bytes) (w : Fin 128) (h : bs = pre ++ [UInt8.ofNat w.val])
    (hl : pre.length = 31) : topBit (setSign bs n) = n := by
  subst h
  unfold setSign
  rw [Cx.Proofs.GeBytes.modify_append_len pre 31 hl]
  unfold topBit
  rw [List.getElem?_append_right (by omega), hl]
  exact top_bit_table w n

/-- **the declassified bit is bit 255 of the encoding**: whenever `Ge::to_bytes` returns `out`,
    `x.is_negative()` of the affine point is the top bit of `out` -/
theorem geSign_eq_topBit (g : Ge) (out : Bytes) (h : g.to_bytes = some out) : geSign g = topBit out := by
  unfold Ge.to_bytes at h
  obtain ⟨a, ha, h⟩ := Option.bind_eq_some_iff.mp h
  unfold GeAffine.to_bytes at h
  obtain ⟨bs, hbs, h⟩ := Option.bind_eq_some_iff.mp h
  obtain ⟨n, hn, h⟩ := Option.bind_eq_some_iff.mp h
  cases h
  obtain ⟨pre, w, e, hl⟩ := fe_to_bytes_top _ _ hbs
  rw [setSign_topBit bs n pre w e hl]
  unfold geSign
  rw [ha]
  show (is_negative a.x).getD false = n
  rw [hn]; rfl

theorem topBit_append (a b : Bytes) (h : a.length = 32) : topBit (a ++ b) = topBit a := by
  unfold topBit
  rw [List.getElem?_append_left (by omega)]

theorem nonceSign_eq_topBit (n : Scalar) (r : Ge) (rb : Bytes) (hr : Ge.scalarmult_base n = some r)
    (hrb : r.to_bytes = some rb) : nonceSign n = topBit rb := by
  unfold nonceSign; rw [hr]; exact geSign_eq_topBit r rb hrb

theorem pkSign_eq_topBit (ext pk : Bytes) (h : extended_to_public ext = some pk) : pkSign ext = topBit pk := by
  unfold extended_to_public at h
  obtain ⟨s, hs, h⟩ := Option.bind_eq_some_iff.mp h
  obtain ⟨a, ha, h⟩ := Option.bind_eq_some_iff.mp h
  unfold pkSign; rw [hs]; dsimp only; rw [ha]
  exact geSign_eq_topBit a pk h

/-- for `keypair`: the branch condition is bit 255 of the PUBLIC KEY that is returned -/
theorem keypairSign_eq_topBit (seed kp pk : Bytes) (h : keypair seed = some (kp, pk)) :
    keypairSign seed = topBit pk := by
  unfold keypair at h
  obtain ⟨ext, he, h⟩ := Option.bind_eq_some_iff.mp h
  obtain ⟨pk', hp, h⟩ := Option.bind_eq_some_iff.mp h
  cases h
  unfold keypairSign; rw [he]
  exact pkSign_eq_topBit ext pk hp

/-- R is the first half of what `signature_tail` returns -/
theorem signature_tail_topBit (msg pk az sig : Bytes) (nonce : Scalar) (h : signature_tail msg pk az nonce = some sig) :
    nonceSign nonce = topBit sig := by
  unfold signature_tail at h
  obtain ⟨r, hr, h⟩ := Option.bind_eq_some_iff.mp h
  obtain ⟨rb, hrb, h⟩ := Option.bind_eq_some_iff.mp h
  iterate 4 (obtain ⟨_, _, h⟩ := Option.bind_eq_some_iff.mp h)
  cases h
  have hl := GeEncLen.Ge.to_bytes_length r rb hrb
  rw [List.take_append_of_le_length (by omega), List.take_of_length_le (by omega), topBit_append _ _ hl]
  exact nonceSign_eq_topBit nonce r rb hr hrb

/-- for `signature`: the branch condition is bit 255 of R, the first half of the SIGNATURE that is returned -/
theorem signatureSign_eq_topBit (msg kp sig : Bytes) (h : signature msg kp = some sig) :
    signatureSign msg kp = topBit sig := by
  unfold signature at h
  obtain ⟨sk, hsk, h⟩ := Option.bind_eq_some_iff.mp h
  obtain ⟨pk, _, h⟩ := Option.bind_eq_some_iff.mp h
  obtain ⟨az, haz, h⟩ := Option.bind_eq_some_iff.mp h
  obtain ⟨nonce, hn, h⟩ := Option.bind_eq_some_iff.mp h
  unfold signatureSign; rw [hsk]; dsimp only; rw [haz]; dsimp only; rw [hn]
  exact signature_tail_topBit msg pk az sig nonce h

/-- trace of the part of `signature` after the nonce: [r]B, its encoding, the hash of R ‖ A ‖ M (64 + |M| bytes) -/
def signTailT (msgLen pkLen : Nat) (sign : Bool) : Trace :=
  scalarmultT ++ toBytesT sign ++ [Event.length (32 + pkLen), Event.length msgLen]

theorem signature_tailL_sim (msg pk az : Bytes) (nonce : Scalar) :
    Sim (signature_tailL msg pk az nonce) (signature_tail msg pk az nonce)
      (signTailT msg.length pk.length (nonceSign nonce)) := by
  unfold signature_tailL signature_tail
  refine Sim.bindV (t₂ := fun r => toBytesT (geSign r) ++ [Event.length (32 + pk.length), Event.length msg.length])
    (scalarmult_baseL_sim nonce) (fun r _ => ?_) (fun r hr => ?_)
  · refine Sim.bindV (t₂ := fun rb => [Event.length (rb.length + pk.length), Event.length msg.length])
      (ge_to_bytesL_sim r) (fun rb _ => ?_) (fun rb hrb => ?_)
    · leak_sim [sha512_2L_sim, muladdL_sim]
      simp
    · rw [GeEncLen.Ge.to_bytes_length r rb hrb]
  · unfold signTailT nonceSign; rw [hr, List.append_assoc]

theorem clamp_scalar_length (a b : Bytes) (h : clamp_scalar a = some b) : b.length = a.length := by
  unfold clamp_scalar at h
  split at h
  · cases h
  · cases h; simp

theorem extended_secret_length (sk az : Bytes) (h : extended_secret sk = some az) : az.length = 64 := by
  unfold extended_secret at h
  by_cases hl : sk.length = 32
  · rw [if_pos hl] at h
    obtain ⟨out, ho, h⟩ := Option.bind_eq_some_iff.mp h
    rw [clamp_scalar_length _ _ h]
    exact sha512_1_length sk out hl ho
  · rw [if_neg hl] at h; cases h

/-- the sign of x of R when the extended secret is `ext` (`signature_extended`; in `signature`, `ext = az`) -/
def extendedSign (msg ext : Bytes) : Bool :=
  match signature_nonce ext msg with
  | some n => nonceSign n
  | none => false

/-- **trace of `signature`** for a message of `msgLen` bytes: hash of the seed, clamp, hash of prefix ‖ M, [r]B with
    its encoding (the only non-constant event: the sign of x of R), hash of R ‖ A ‖ M; Barrett reductions and
    `muladd` contribute nothing -/
def signatureT (msgLen : Nat) (sign : Bool) : Trace :=
  extendedSecretT ++ [Event.length 32, Event.length msgLen] ++ signTailT msgLen 32 sign

theorem signatureL_sim (msg kp : Bytes) :
    Sim (signatureL msg kp) (signature msg kp) (signatureT msg.length (signatureSign msg kp)) := by
  unfold signatureL signature
  refine Sim.bindV (t₁ := []) (t₂ := fun sk => signatureT msg.length (signatureSign msg kp)) (Sim.lift _)
    (fun sk hsk => ?_) (fun _ _ => rfl)
  refine Sim.bindV (t₁ := []) (t₂ := fun pk => signatureT msg.length (signatureSign msg kp)) (Sim.lift _)
    (fun pk hpk => ?_) (fun _ _ => rfl)
  have hpkl : pk.length = 32 := by
    unfold keypair_public at hpk
    split at hpk
    · cases hpk; simp only [List.length_take, List.length_drop]; omega
    · cases hpk
  refine Sim.bindV (t₂ := fun az => [Event.length 32, Event.length msg.length] ++
      signTailT msg.length 32 (extendedSign msg az))
    (extended_secretL_sim sk) (fun az haz => ?_) (fun az haz => ?_)
  · have hazl := extended_secret_length sk az haz
    refine Sim.bindV (signature_nonceL_sim az msg) (fun n _ => signature_tailL_sim msg pk az n) (fun n hn => ?_)
    unfold extendedSign
    rw [hn, hazl, hpkl]
  · unfold signatureT signatureSign
    rw [hsk]
    dsimp only
    rw [haz, List.append_assoc]
    rfl

theorem extended_to_public_length (ext pk : Bytes) (h : extended_to_public ext = some pk) : pk.length = 32 := by
  unfold extended_to_public at h
  obtain ⟨s, _, h⟩ := Option.bind_eq_some_iff.mp h
  obtain ⟨a, _, h⟩ := Option.bind_eq_some_iff.mp h
  exact GeEncLen.Ge.to_bytes_length a pk h

/-- trace of `signature_extended` on a 64-byte extended secret (two declassified bits: the signs of x of A and of R);
    `signature_extendedL_sim` has `Event.length (ext.length - 32)` where this has 32 -/
def signatureExtendedT (msgLen : Nat) (signA signR : Bool) : Trace :=
  publicT signA ++ [Event.length 32, Event.length msgLen] ++ signTailT msgLen 32 signR

theorem signature_extendedL_sim (msg ext : Bytes) :
    Sim (signature_extendedL msg ext) (signature_extended msg ext)
      (publicT (pkSign ext) ++ [Event.length (ext.length - 32), Event.length msg.length] ++
        signTailT msg.length 32 (extendedSign msg ext)) := by
  unfold signature_extendedL signature_extended
  refine Sim.bindV (t₂ := fun pk => [Event.length (ext.length - 32), Event.length msg.length] ++
      signTailT msg.length 32 (extendedSign msg ext))
    (extended_to_publicL_sim ext) (fun pk hpk => ?_) (fun pk _ => (List.append_assoc _ _ _).symm)
  have hpkl := extended_to_public_length ext pk hpk
  refine Sim.bindV (signature_nonceL_sim ext msg) (fun n _ => signature_tailL_sim msg pk ext n) (fun n hn => ?_)
  unfold extendedSign
  rw [hn, hpkl]

/-! ### the variable-time loops of `double_scalarmult_vartime` (used by `verify` on PUBLIC data): erasure only -/

theorem topIndexL_val (aslide bslide : List Int) (n : Nat) :
    (topIndexL aslide bslide n).val = some (topIndex aslide bslide n) := by
  induction n with
  | zero => unfold topIndexL; exact LO.pure_val _
  | succ n ih =>
    unfold topIndexL topIndex
    rw [LO.emit_bind_val, LO.emit_bind_val]
    by_cases h : (aslide[n]? != some 0 || bslide[n]? != some 0) = true
    · rw [if_pos h, if_pos h]; exact LO.pure_val _
    · rw [if_neg h, if_neg h]; exact ih

theorem dsmStepL_val (ai : List GeCached) (aslide bslide : List Int) (r : GePartial) (i : Nat) :
    (dsmStepL ai aslide bslide r i).val = dsmStep ai aslide bslide r i := by
  unfold dsmStepL dsmStep
  refine LO.erase_bind (LO.lift_val _) fun t => LO.erase_emit (LO.erase_bind (LO.lift_val _) fun ad => LO.erase_emit ?_)
  -- a digit `d`: `d > 0` adds the table entry, `d < 0` subtracts it, else nothing; the three branches end in the join point
  -- of the `do` block (the rest of the step), whose erasure `rest` is stated by unification at its first use
  refine LO.with_jp (fun rest =>
    LO.erase_ite
      (fun _ => LO.erase_emit (LO.erase_bind (LO.lift_val _) fun c => LO.erase_bind (LO.lift_val _) fun f =>
        LO.erase_bind (LO.lift_val _) fun t => rest t))
      (fun _ => LO.erase_emit (LO.erase_ite
        (fun _ => LO.erase_bind (LO.lift_val _) fun nd => LO.erase_emit (LO.erase_bind (LO.lift_val _) fun c =>
          LO.erase_bind (LO.lift_val _) fun f => LO.erase_bind (LO.lift_val _) fun t => rest t))
        (fun _ => LO.erase_bind (LO.pure_val _) fun t => rest t)))) fun t => ?_
  refine LO.erase_bind (LO.lift_val _) fun bd => LO.erase_emit ?_
  refine LO.with_jp (fun rest =>
    LO.erase_ite
      (fun _ => LO.erase_emit (LO.erase_bind (LO.lift_val _) fun c => LO.erase_bind (LO.lift_val _) fun f =>
        LO.erase_bind (LO.lift_val _) fun t => rest t))
      (fun _ => LO.erase_emit (LO.erase_ite
        (fun _ => LO.erase_bind (LO.lift_val _) fun nd => LO.erase_emit (LO.erase_bind (LO.lift_val _) fun c =>
          LO.erase_bind (LO.lift_val _) fun f => LO.erase_bind (LO.lift_val _) fun t => rest t))
        (fun _ => LO.erase_bind (LO.pure_val _) fun t => rest t)))) fun t => LO.lift_val _

theorem dsmLoopL_val (ai : List GeCached) (aslide bslide : List Int) (n : Nat) (r : GePartial) :
    (dsmLoopL ai aslide bslide n r).val = dsmLoop ai aslide bslide n r := by
  induction n generalizing r with
  | zero => unfold dsmLoopL dsmLoop; exact LO.pure_val _
  | succ n ih =>
    unfold dsmLoopL dsmLoop
    exact LO.erase_bind (dsmStepL_val _ _ _ _ _) (fun r' => ih r')

end Cx.Proofs.LeakModel
