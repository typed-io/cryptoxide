/-
  Proofs.LeakModelHash — generic part of the digest side of C19 (HMAC over the digests of the crate):
    * the rest of `FixedBuffer` (`next_write` (Rust: `next`), `zero_until`, `full_buffer`, `standard_padding`: one joint theorem each, for any
      `DataRel`; `standard_paddingL_val`, erasure for a callback that is only known to erase, is the one at `Eq`),
    * `CtxLeak M ML` — what is proved of an instrumented `hashing::…::Context` type (erasure; events, panics and
      public shadow depend on the public shadow and on LENGTHS only) — and `legacyLeak`: the macro-generated legacy
      wrapper of such a context satisfies `DigestLeak`,
    * HMAC fed in several `input` calls: `new; input…; raw_result`.
  The instances are in Proofs/LeakModelHashSha2.lean (SHA-2), …Md.lean (SHA-1, RIPEMD-160), …Sponge.lean (SHA-3 /
  Keccak), …Blake2.lean; the AEAD is in …Aead.lean.
-/
import CxVerif.Impl.LeakModelHash
import CxVerif.Proofs.LeakModelHmac
namespace Cx.Proofs.LeakModel
open Cx.Impl Cx.Impl.LeakModel Cx.Impl.Digest Cx.Impl.Hmac

/-! ### (g) the rest of `FixedBuffer`: refusal and the public shadow of the result depend on size and fill only -/

section FixedBuf
variable {σ : Type} {R : σ → σ → Prop} {X : Bytes → Bytes → Prop}

theorem next_write_rel (hX : DataRel X) (b b' : FixedBuffer) (I : Nat) (v v' : Bytes) (hb : LowBX X b b') (hv : X v v') :
    ORel (LowBX X) (b.next_write I v) (b'.next_write I v') := by
  unfold FixedBuffer.next_write
  rw [hX.len hv, hb.2]
  refine ORel.ite Iff.rfl ORel.none ?_
  rcases (hX.copy b'.buffer_idx (b'.buffer_idx + I) hb.1 hv).cases with ⟨e, e'⟩ | ⟨x, x', e, e', hx⟩
  · rw [e, e']; exact ORel.none
  · rw [e, e']; exact ORel.pure ⟨hx, rfl⟩

theorem zero_until_rel (hX : DataRel X) (b b' : FixedBuffer) (idx : Nat) (hb : LowBX X b b') :
    ORel (LowBX X) (b.zero_until idx) (b'.zero_until idx) := by
  unfold FixedBuffer.zero_until
  rw [hb.2]
  refine ORel.ite Iff.rfl ORel.none ?_
  rcases (hX.copy b'.buffer_idx idx hb.1 (hX.refl _)).cases with ⟨e, e'⟩ | ⟨x, x', e, e', hx⟩
  · rw [e, e']; exact ORel.none
  · rw [e, e']; exact ORel.pure ⟨hx, rfl⟩

theorem full_buffer_rel (N : Nat) (b b' : FixedBuffer) (hb : LowBX X b b') :
    ORel (fun r r' => LowBX X r.1 r'.1 ∧ X r.2 r'.2) (b.full_buffer N) (b'.full_buffer N) := by
  unfold FixedBuffer.full_buffer
  rw [hb.2]
  exact ORel.ite Iff.rfl ORel.none (ORel.pure ⟨⟨hb.1, rfl⟩, hb.1⟩)

theorem FixedBuffer.next_writeL_j (hX : DataRel X) (b b' : FixedBuffer) (I : Nat) (v v' : Bytes) (hb : LowBX X b b')
    (hv : X v v') : J (FixedBuffer.next_writeL b I v) (FixedBuffer.next_writeL b' I v') (b.next_write I v) (LowBX X) := by
  unfold FixedBuffer.next_writeL
  rw [hb.2]
  exact J.emit (J.lift (next_write_rel hX b b' I v v' hb hv))

theorem FixedBuffer.zero_untilL_j (hX : DataRel X) (b b' : FixedBuffer) (idx : Nat) (hb : LowBX X b b') :
    J (FixedBuffer.zero_untilL b idx) (FixedBuffer.zero_untilL b' idx) (b.zero_until idx) (LowBX X) := by
  unfold FixedBuffer.zero_untilL
  rw [hb.2]
  exact J.emit (J.guard_of (fun h => by unfold FixedBuffer.zero_until; rw [hb.2, if_pos h])
    (J.emit (J.emit (J.lift (zero_until_rel hX b b' idx hb)))))

theorem FixedBuffer.full_bufferL_j (N : Nat) (b b' : FixedBuffer) (hb : LowBX X b b') :
    J (FixedBuffer.full_bufferL N b) (FixedBuffer.full_bufferL N b') (b.full_buffer N)
      (fun r r' => LowBX X r.1 r'.1 ∧ X r.2 r'.2) := by
  unfold FixedBuffer.full_bufferL
  rw [hb.2]
  exact J.emit (J.lift (full_buffer_rel N b b' hb))

/-- **`standard_padding`**: which of its two shapes runs and every refusal depend on the fill (for any `DataRel`) -/
theorem FixedBuffer.standard_paddingL_j (hX : DataRel X) (N : Nat) (b b' : FixedBuffer) (rem : Nat)
    (funcL : σ → Bytes → LO σ) (func : σ → Bytes → Option σ)
    (hf : ∀ s s' x x', R s s' → X x x' → J (funcL s x) (funcL s' x') (func s x) R)
    (st st' : σ) (hb : LowBX X b b') (hst : R st st') :
    J (FixedBuffer.standard_paddingL N b rem funcL st) (FixedBuffer.standard_paddingL N b' rem funcL st')
      (b.standard_padding N rem func st) (fun r r' => LowBX X r.1 r'.1 ∧ R r.2 r'.2) := by
  unfold FixedBuffer.standard_paddingL FixedBuffer.standard_padding
  refine J.bind_of (FixedBuffer.next_writeL_j hX b b' 1 _ _ hb (hX.refl _)) (hs := fun c c' hc => ?_)
  rw [hc.2]
  refine J.guard (J.emit ?_)
  refine J.bind_of2 (R := fun r r' => LowBX X r.1 r'.1 ∧ R r.2 r'.2) (J.ite Iff.rfl ?_ (J.pure ⟨hc, hst⟩))
    (hs := fun z s z' s' hr => ?_)
  · refine J.bind_of (FixedBuffer.zero_untilL_j hX c c' N hc) (hs := fun z z' hz => ?_)
    refine J.bind_of2 (FixedBuffer.full_bufferL_j N z z' hz) (hs := fun fb blk fb' blk' hfb => ?_)
    exact J.bind_of (hf st st' _ _ hst hfb.2) (hs := fun s s' hs => J.pure ⟨hfb.1, hs⟩)
  · exact J.guard (J.bind_of (FixedBuffer.zero_untilL_j hX _ _ _ hr.1) (hs := fun z z' hz => J.pure ⟨hz, hr.2⟩))

theorem FixedBuffer.standard_paddingL_val (N : Nat) (self : FixedBuffer) (rem : Nat)
    (funcL : σ → Bytes → LO σ) (func : σ → Bytes → Option σ) (hf : ∀ s b, (funcL s b).val = func s b) (st : σ) :
    (FixedBuffer.standard_paddingL N self rem funcL st).val = self.standard_padding N rem func st :=
  (FixedBuffer.standard_paddingL_j .eq N self self rem funcL func (J.of_erase hf) st st ⟨rfl, rfl⟩ rfl).val

end FixedBuf

/-! ### (j) the legacy wrappers -/
section Legacy
variable {γ : Type}

/-- what is proved of an instrumented context type `ML` for the context model `M`: it computes `M`, and everything
    observable — events, panics, the public shadow `pub` of the state (buffer size and fill, flags) — is determined by
    the public shadow and by the LENGTHS of the arguments -/
structure CtxLeak (M : CtxModel γ) (ML : CtxL γ) where
  π : Type
  pub : γ → π
  update_val : ∀ c b, (ML.update_mutL c b).val = M.update_mut c b
  reset_val : ∀ c, (ML.resetL c).val = some (M.reset c)
  finalize_val : ∀ c, (ML.finalize_resetL c).val = M.finalize_reset c
  update_ni : ∀ c c' b b', pub c = pub c' → b.length = b'.length →
    NI (ML.update_mutL c b) (ML.update_mutL c' b') (fun e e' => pub e = pub e')
  reset_ni : ∀ c c', pub c = pub c' → NI (ML.resetL c) (ML.resetL c') (fun e e' => pub e = pub e')
  finalize_ni : ∀ c c', pub c = pub c' →
    NI (ML.finalize_resetL c) (ML.finalize_resetL c') (fun r r' => pub r.1 = pub r'.1 ∧ r.2.length = r'.2.length)

variable {M : CtxModel γ} {ML : CtxL γ}

def CtxLeak.ofLow {π : Type} (pub : γ → π) (Low : γ → γ → Prop) (hlow : ∀ c c', pub c = pub c' ↔ Low c c')
    (update_j : ∀ c c' b b', Low c c' → b.length = b'.length →
      J (ML.update_mutL c b) (ML.update_mutL c' b') (M.update_mut c b) Low)
    (reset_j : ∀ c c', Low c c' → J (ML.resetL c) (ML.resetL c') (some (M.reset c)) Low)
    (finalize_j : ∀ c c', Low c c' →
      J (ML.finalize_resetL c) (ML.finalize_resetL c') (M.finalize_reset c)
        (fun r r' => Low r.1 r'.1 ∧ r.2.length = r'.2.length)) : CtxLeak M ML where
  π := π
  pub := pub
  update_val c b := (update_j c c b b ((hlow c c).mp rfl) rfl).val
  reset_val c := (reset_j c c ((hlow c c).mp rfl)).val
  finalize_val c := (finalize_j c c ((hlow c c).mp rfl)).val
  update_ni c c' b b' hc hb := (update_j c c' b b' ((hlow c c').mp hc) hb).ni.mono fun e e' => (hlow e e').mpr
  reset_ni c c' hc := (reset_j c c' ((hlow c c').mp hc)).ni.mono fun e e' => (hlow e e').mpr
  finalize_ni c c' hc := (finalize_j c c' ((hlow c c').mp hc)).ni.mono fun _ _ hr => ⟨(hlow _ _).mpr hr.1, hr.2⟩

theorem CtxLeak.update_j (L : CtxLeak M ML) {c c' : γ} {b b' : Bytes} (hc : L.pub c = L.pub c') (hb : b.length = b'.length) :
    J (ML.update_mutL c b) (ML.update_mutL c' b') (M.update_mut c b) (fun e e' => L.pub e = L.pub e') :=
  ⟨L.update_val c b, L.update_ni c c' b b' hc hb⟩

theorem CtxLeak.reset_j (L : CtxLeak M ML) {c c' : γ} (hc : L.pub c = L.pub c') :
    J (ML.resetL c) (ML.resetL c') (some (M.reset c)) (fun e e' => L.pub e = L.pub e') :=
  ⟨L.reset_val c, L.reset_ni c c' hc⟩

theorem CtxLeak.finalize_j (L : CtxLeak M ML) {c c' : γ} (hc : L.pub c = L.pub c') :
    J (ML.finalize_resetL c) (ML.finalize_resetL c') (M.finalize_reset c)
      (fun r r' => L.pub r.1 = L.pub r'.1 ∧ r.2.length = r'.2.length) :=
  ⟨L.finalize_val c, L.finalize_ni c c' hc⟩

/-- two wrapper objects are indistinguishable: same public shadow of the context, same `computed` flag -/
def LowL (L : CtxLeak M ML) (d d' : Legacy γ) : Prop := L.pub d.ctx = L.pub d'.ctx ∧ d.computed = d'.computed

theorem Legacy.inputL_j (L : CtxLeak M ML) (d d' : Legacy γ) (b b' : Bytes) (hd : LowL L d d')
    (hb : b.length = b'.length) : J (Legacy.inputL ML d b) (Legacy.inputL ML d' b') (Legacy.input M d b) (LowL L) := by
  unfold Legacy.inputL Legacy.input
  rw [← hd.2]
  exact J.emit (J.guard (J.bind_of (L.update_j hd.1 hb) (hs := fun c c' hc => J.pure ⟨hc, rfl⟩)))

theorem Legacy.resultL_j (L : CtxLeak M ML) (d d' : Legacy γ) (n : Nat) (hd : LowL L d d') :
    J (Legacy.resultL ML d n) (Legacy.resultL ML d' n) (Legacy.result M d n)
      (fun r r' => LowL L r.1 r'.1 ∧ r.2.length = r'.2.length) := by
  unfold Legacy.resultL Legacy.result
  rw [← hd.2]
  refine J.emit (J.guard (J.bind_of2 (L.finalize_j hd.1) (hs := fun c o c' o' hr => ?_)))
  rw [← show o.length = o'.length from hr.2]
  exact J.emit (J.emit (J.ite Iff.rfl (J.pure ⟨⟨hr.1, rfl⟩, hr.2⟩) J.panic))

theorem Legacy.resetL_j (L : CtxLeak M ML) (d d' : Legacy γ) (hd : LowL L d d') :
    J (Legacy.resetL ML d) (Legacy.resetL ML d') (some (Legacy.reset M d)) (LowL L) := by
  unfold Legacy.resetL Legacy.reset
  exact J.bind_some (L.reset_j hd.1) (fun c' hc => J.pure ⟨hc, rfl⟩)

def legacyLeak (L : CtxLeak M ML) : DigestLeak (legacyDigest M) (legacyDigestL ML) :=
  DigestLeak.ofLow (fun d => (L.pub d.ctx, d.computed)) (LowL L) (fun _ _ => Iff.of_eq (Prod.mk.injEq ..)) (Legacy.inputL_j L)
    (Legacy.resultL_j L) (Legacy.resetL_j L) (fun _ _ _ => rfl) (fun _ _ _ => rfl)

end Legacy

/-! ### (k) HMAC fed in several `input` calls -/
section HmacChunks
variable {δ : Type} {D : DigestModel δ} {DL : DigestL δ}

/-- `Hmac.inputs` is the `foldlM` of `Props.C08.hmac_generic` -/
theorem Hmac.inputs_eq_foldlM (D : DigestModel δ) (chunks : List Bytes) :
    ∀ h : Hmac δ, Hmac.inputs D h chunks = chunks.foldlM (Hmac.input D) h := by
  induction chunks with
  | nil => intro h; rfl
  | cons c cs ih =>
    intro h
    unfold Hmac.inputs
    rw [List.foldlM_cons]
    cases Hmac.input D h c with
    | none => rfl
    | some h' => exact ih h'

theorem hmacChunksResult_single (D : DigestModel δ) (d : δ) (key msg : Bytes) :
    hmacChunksResult D d key [msg] = oneShot D d key msg := by
  unfold hmacChunksResult oneShot Hmac.inputs Hmac.inputs
  cases Hmac.new D d key with
  | none => rfl
  | some h =>
    dsimp only
    cases Hmac.input D h msg <;> rfl

theorem Hmac.inputsL_j (L : DigestLeak D DL) (chunks chunks' : List Bytes) (h h' : Hmac δ) (hl : LowH L h h')
    (hc : chunks.map List.length = chunks'.map List.length) :
    J (Hmac.inputsL DL h chunks) (Hmac.inputsL DL h' chunks') (Hmac.inputs D h chunks) (LowH L) :=
  J.iter (fun _ => rfl) (fun _ _ _ => rfl) (fun _ => rfl) (fun _ _ _ e => by unfold Hmac.inputs; rw [e])
    (fun _ _ _ _ e => by rw [Hmac.inputs, e]) (Hmac.inputL_j L) chunks chunks' h h' hl hc

/-- **HMAC, any number of `input` calls**: the instrumented sequence computes `hmacChunks`; indistinguishable digest
    objects, keys of the same LENGTH and chunk lists with the same LENGTHS give the same trace, the same panic behaviour
    and tags of the same length -/
theorem hmacChunksL_j (L : DigestLeak D DL) (d d' : δ) (key key' : Bytes) (chunks chunks' : List Bytes) (n : Nat)
    (hd : L.pub d = L.pub d') (hk : key.length = key'.length)
    (hc : chunks.map List.length = chunks'.map List.length) :
    J (hmacChunksL D DL d key chunks n) (hmacChunksL D DL d' key' chunks' n) (hmacChunks D d key chunks n)
      (fun t t' => t.length = t'.length) := by
  unfold hmacChunksL hmacChunks
  refine J.bind_of (Hmac.newL_j L d d' key key' hd hk) (hs := fun h h' hh => ?_)
  refine J.bind_of (Hmac.inputsL_j L chunks chunks' h h' hh hc) (hs := fun g g' hg => ?_)
  exact J.map _ (Hmac.raw_resultL_j L g g' n hg) (fun r r' hr => hr.2)

theorem hmacChunksL_val (L : DigestLeak D DL) (d : δ) (key : Bytes) (chunks : List Bytes) (n : Nat) :
    (hmacChunksL D DL d key chunks n).val = hmacChunks D d key chunks n :=
  (hmacChunksL_j L d d key key chunks chunks n rfl rfl rfl).val

theorem hmacChunksResultL_j (L : DigestLeak D DL) (d d' : δ) (key key' : Bytes) (chunks chunks' : List Bytes)
    (hd : L.pub d = L.pub d') (hk : key.length = key'.length)
    (hc : chunks.map List.length = chunks'.map List.length) :
    J (hmacChunksResultL D DL d key chunks) (hmacChunksResultL D DL d' key' chunks') (hmacChunksResult D d key chunks)
      (fun t t' => t.length = t'.length) := by
  unfold hmacChunksResultL hmacChunksResult
  refine J.bind_of (Hmac.newL_j L d d' key key' hd hk) (hs := fun h h' hh => ?_)
  refine J.bind_of (Hmac.inputsL_j L chunks chunks' h h' hh hc) (hs := fun g g' hg => ?_)
  exact J.map _ (Hmac.resultL_j L g g' hg) (fun r r' hr => hr.2)

end HmacChunks

end Cx.Proofs.LeakModel
