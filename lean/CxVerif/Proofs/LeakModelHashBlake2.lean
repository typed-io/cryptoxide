/-
  Proofs.LeakModelHashBlake2 — (m) BLAKE2b / BLAKE2s: erasure and non-interference of the instrumented
  `increment_counter`, `update_mut`, `internal_final`, `finalize_reset_at`, `reset`, `reset_with_key`, of the
  `ContextDyn` methods and of the legacy wrappers `Blake2b` / `Blake2s` (src/blake2b.rs, src/blake2s.rs); the
  `DigestLeak` instance of `impl Digest for Blake2b / Blake2s`, generic in the word type.

  Public shadow of a legacy object: the two counter words `t` (bytes hashed so far), the size and the fill of the block
  buffer, the output length, the `computed` flag and the LENGTH of the stored key.  The chaining value `h`, the buffered
  bytes and the key bytes are not in it.
-/
import CxVerif.Proofs.LeakModelHash
import CxVerif.Proofs.Blake2
namespace Cx.Proofs.LeakModel
open Cx.Impl Cx.Impl.LeakModel Cx.Impl.Digest Cx.Impl.Blake2 Cx.Impl.LeakModel.Blake2L
open Cx.Spec.Blake2 (Word Params toLE)

section
variable {W : Type} [Word W]

def LowEng (e e' : Engine W) : Prop := e.t0 = e'.t0 ∧ e.t1 = e'.t1

def LowC (c c' : Ctx W) : Prop := LowEng c.eng c'.eng ∧ c.buf.length = c'.buf.length ∧ c.buflen = c'.buflen

def LowDyn (c c' : ContextDyn W) : Prop := LowC c.ctx c'.ctx ∧ c.outlen = c'.outlen

def LowBl (o o' : Digest.Blake2 W) : Prop :=
  LowDyn o.ctx o'.ctx ∧ o.computed = o'.computed ∧ o.key.length = o'.key.length

omit [Word W] in
theorem LowC.refl (c : Ctx W) : LowC c c := ⟨⟨rfl, rfl⟩, rfl, rfl⟩
omit [Word W] in
theorem LowBl.refl (o : Digest.Blake2 W) : LowBl o o := ⟨⟨LowC.refl _, rfl⟩, rfl, rfl⟩

/-- unconditional (`Proofs.Blake2.setSlice_length`, `zeroFrom_length` give `buf.length` under a bound on `off`) -/
theorem setSlice_length_min (buf : Bytes) (off : Nat) (src : Bytes) :
    (setSlice buf off src).length = min off buf.length + src.length + (buf.length - (off + src.length)) := by
  simp only [setSlice, List.length_append, List.length_take, List.length_drop]

theorem zeroFrom_length_min (buf : Bytes) (off : Nat) :
    (zeroFrom buf off).length = min off buf.length + (buf.length - off) := by
  simp only [zeroFrom, List.length_append, List.length_take, zeros, List.length_replicate]

theorem Blake2L.increment_counterL_j (pr : Profile) (e e' : Engine W) (inc : Nat) (h : LowEng e e') :
    J (increment_counterL pr e inc) (increment_counterL pr e' inc) (e.increment_counter pr inc) LowEng := by
  unfold increment_counterL Engine.increment_counter
  rw [← h.1, ← h.2]
  exact J.bind_lift (hs := fun t0 => J.emit (J.bind_lift (hs := fun t1 => J.pure ⟨rfl, rfl⟩)))

theorem Blake2L.update_loopL_j (P : Params W) (pr : Profile) (fuel : Nat) : ∀ (e e' : Engine W) (i i' : Bytes),
    LowEng e e' → i.length = i'.length →
    J (update_loopL P pr fuel e i) (update_loopL P pr fuel e' i') (Ctx.update_loop P pr fuel e i)
      (fun r r' => LowEng r.1 r'.1 ∧ r.2.length = r'.2.length) := by
  induction fuel with
  | zero =>
    intro e e' i i' he hi
    unfold update_loopL Ctx.update_loop
    rw [hi]
    exact J.emit (J.pure ⟨he, hi⟩)
  | succ f ih =>
    intro e e' i i' he hi
    unfold update_loopL Ctx.update_loop
    rw [hi]
    refine J.emit (J.ite Iff.rfl ?_ (J.pure ⟨he, hi⟩))
    refine J.bind_of (Blake2L.increment_counterL_j pr e e' P.bb he) (hs := fun g g' hg => ?_)
    exact ih _ _ _ _ hg (by simp only [List.length_drop, hi])

theorem Blake2L.update_mutL_j (P : Params W) (pr : Profile) (c c' : Ctx W) (i i' : Bytes) (hc : LowC c c')
    (hi : i.length = i'.length) :
    J (Ctx.update_mutL P pr c i) (Ctx.update_mutL P pr c' i') (c.update_mut P pr i) LowC := by
  unfold Ctx.update_mutL Ctx.update_mut
  dsimp only
  obtain ⟨h1, h2, h3⟩ := hc
  rw [isEmpty_congr hi, hi, ← h3]
  refine J.emit (J.ite Iff.rfl (J.pure ⟨h1, h2, h3⟩) (J.emit (J.ite Iff.rfl ?_ ?_)))
  · refine J.emit (J.emit (J.bind_of (Blake2L.increment_counterL_j pr _ _ P.bb h1) (hs := fun g g' hg => ?_)))
    rw [show (i.drop (P.bb - c.buflen)).length = (i'.drop (P.bb - c.buflen)).length by
      simp only [List.length_drop, hi]]
    refine J.bind_of2 (Blake2L.update_loopL_j P pr _ _ _ _ _ hg (by simp only [List.length_drop, hi]))
      (hs := fun e r e' r' hr => ?_)
    rw [show r.length = r'.length from hr.2]
    refine J.emit (J.pure ⟨hr.1, ?_, rfl⟩)
    simp only [setSlice_length_min, List.length_take, h2, hi, show r.length = r'.length from hr.2]
  · refine J.emit (J.emit (J.pure ⟨h1, ?_, rfl⟩))
    simp only [setSlice_length_min, h2, hi]

theorem Blake2L.internal_finalL_j (P : Params W) (pr : Profile) (c c' : Ctx W) (hc : LowC c c') :
    J (Ctx.internal_finalL P pr c) (Ctx.internal_finalL P pr c') (c.internal_final P pr) LowC := by
  unfold Ctx.internal_finalL Ctx.internal_final
  obtain ⟨h1, h2, h3⟩ := hc
  rw [← h3, ← h2]
  refine J.bind_of (Blake2L.increment_counterL_j pr _ _ _ h1) (hs := fun g g' hg => ?_)
  refine J.emit (J.emit (J.pure ⟨hg, ?_, rfl⟩))
  simp only [setSlice_length_min, zeroFrom_length_min, Cx.Proofs.Blake2.hbytes_length, h2]

theorem Blake2L.resetL_j (P : Params W) (c c' : Ctx W) (outlen : Nat) (hc : LowC c c') :
    J (Ctx.resetL P c outlen) (Ctx.resetL P c' outlen) (some (c.reset P outlen)) LowC := by
  unfold Ctx.resetL
  rw [hc.2.1]
  refine J.emit (J.pure ⟨⟨rfl, rfl⟩, ?_, rfl⟩)
  simp only [Ctx.reset, zeroFrom_length_min, hc.2.1]

theorem reset_with_key_rel (P : Params W) (c c' : Ctx W) (outlen : Nat) (key key' : Bytes) (hc : LowC c c')
    (hk : key.length = key'.length) :
    ORel LowC (c.reset_with_key P outlen key) (c'.reset_with_key P outlen key') := by
  unfold Ctx.reset_with_key
  rw [hk, isEmpty_congr hk]
  refine ORel.ite Iff.rfl ORel.none (ORel.ite Iff.rfl (ORel.pure ⟨⟨rfl, rfl⟩, ?_, rfl⟩) (ORel.pure ⟨⟨rfl, rfl⟩, rfl, rfl⟩))
  simp only [setSlice_length_min, zeroFrom_length_min, hc.2.1, hk]

theorem Blake2L.reset_with_keyL_j (P : Params W) (c c' : Ctx W) (outlen : Nat) (key key' : Bytes) (hc : LowC c c')
    (hk : key.length = key'.length) :
    J (Ctx.reset_with_keyL P c outlen key) (Ctx.reset_with_keyL P c' outlen key') (c.reset_with_key P outlen key) LowC := by
  unfold Ctx.reset_with_keyL
  rw [hk, isEmpty_congr hk, hc.2.1]
  have hr := J.lift (reset_with_key_rel P c c' outlen key key' hc hk)
  refine J.emit (J.guard_of (fun h => by unfold Ctx.reset_with_key; rw [hk, if_pos h]) (J.emit (J.emit ?_)))
  by_cases h2 : ¬ key'.isEmpty = true
  · rw [if_pos h2, if_pos h2]; exact J.emit hr
  · rw [if_neg h2, if_neg h2]; exact hr

theorem Blake2L.finalize_reset_atL_j (P : Params W) (pr : Profile) (c c' : Ctx W) (outlen outLen : Nat) (hc : LowC c c') :
    J (Ctx.finalize_reset_atL P pr c outlen outLen) (Ctx.finalize_reset_atL P pr c' outlen outLen)
      (c.finalize_reset_at P pr outlen outLen) (fun r r' => LowC r.1 r'.1 ∧ r.2.length = r'.2.length) := by
  unfold Ctx.finalize_reset_atL Ctx.finalize_reset_at
  refine J.emit (J.guard (J.bind_of (Blake2L.internal_finalL_j P pr c c' hc) (hs := fun d d' hd => ?_)))
  refine J.emit (J.bind_some (Blake2L.resetL_j P d d' outlen hd) (fun f' hf => J.pure ⟨hf, ?_⟩))
  simp only [List.length_take, hd.2.1]

theorem Blake2L.dyn_update_mutL_j (P : Params W) (pr : Profile) (c c' : ContextDyn W) (i i' : Bytes) (hc : LowDyn c c')
    (hi : i.length = i'.length) :
    J (ContextDyn.update_mutL P pr c i) (ContextDyn.update_mutL P pr c' i') (c.update_mut P pr i) LowDyn := by
  unfold ContextDyn.update_mutL ContextDyn.update_mut
  exact J.bind_of (Blake2L.update_mutL_j P pr _ _ i i' hc.1 hi) (hs := fun x x' hx => J.pure ⟨hx, hc.2⟩)

theorem Blake2L.dyn_finalize_reset_atL_j (P : Params W) (pr : Profile) (c c' : ContextDyn W) (n : Nat) (hc : LowDyn c c') :
    J (ContextDyn.finalize_reset_atL P pr c n) (ContextDyn.finalize_reset_atL P pr c' n) (c.finalize_reset_at P pr n)
      (fun r r' => LowDyn r.1 r'.1 ∧ r.2.length = r'.2.length) := by
  unfold ContextDyn.finalize_reset_atL ContextDyn.finalize_reset_at
  rw [← hc.2]
  exact J.bind_of2 (Blake2L.finalize_reset_atL_j P pr _ _ _ n hc.1) (hs := fun x o x' o' hr => J.pure ⟨⟨hr.1, rfl⟩, hr.2⟩)

theorem Blake2L.dyn_resetL_j (P : Params W) (c c' : ContextDyn W) (hc : LowDyn c c') :
    J (ContextDyn.resetL P c) (ContextDyn.resetL P c') (some (c.reset P)) LowDyn := by
  unfold ContextDyn.resetL ContextDyn.reset
  rw [← hc.2]
  exact J.bind_some (Blake2L.resetL_j P _ _ _ hc.1) (fun x' hx => J.pure ⟨hx, rfl⟩)

theorem Blake2L.dyn_reset_with_keyL_j (P : Params W) (c c' : ContextDyn W) (key key' : Bytes) (hc : LowDyn c c')
    (hk : key.length = key'.length) :
    J (ContextDyn.reset_with_keyL P c key) (ContextDyn.reset_with_keyL P c' key') (c.reset_with_key P key) LowDyn := by
  unfold ContextDyn.reset_with_keyL ContextDyn.reset_with_key
  rw [← hc.2]
  exact J.bind_of (Blake2L.reset_with_keyL_j P _ _ _ key key' hc.1 hk) (hs := fun x x' hx => J.pure ⟨hx, rfl⟩)

theorem Blake2L.updateL_j (P : Params W) (o o' : Digest.Blake2 W) (i i' : Bytes) (ho : LowBl o o')
    (hi : i.length = i'.length) :
    J (Blake2L.updateL P o i) (Blake2L.updateL P o' i') (Digest.Blake2.update P o i) LowBl := by
  unfold Blake2L.updateL Digest.Blake2.update
  obtain ⟨h1, h2, h3⟩ := ho
  rw [← h2]
  exact J.emit (J.guard (J.bind_of (Blake2L.dyn_update_mutL_j P _ _ _ i i' h1 hi)
    (hs := fun x x' hx => J.pure ⟨hx, rfl, h3⟩)))

theorem Blake2L.finalizeL_j (P : Params W) (o o' : Digest.Blake2 W) (n : Nat) (ho : LowBl o o') :
    J (finalizeL P o n) (finalizeL P o' n) (Digest.Blake2.finalize P o n)
      (fun r r' => LowBl r.1 r'.1 ∧ r.2.length = r'.2.length) := by
  unfold finalizeL Digest.Blake2.finalize
  obtain ⟨h1, h2, h3⟩ := ho
  rw [← h2]
  exact J.emit (J.guard (J.bind_of2 (Blake2L.dyn_finalize_reset_atL_j P _ _ _ n h1)
    (hs := fun x out x' out' hr => J.pure ⟨⟨hr.1, rfl, h3⟩, hr.2⟩)))

theorem Blake2L.legacy_resetL_j (v : CodeVariant) (P : Params W) (o o' : Digest.Blake2 W) (ho : LowBl o o') :
    J (resetL v P o) (resetL v P o') (Digest.Blake2.reset v P o) LowBl := by
  unfold resetL Digest.Blake2.reset
  obtain ⟨h1, _, h3⟩ := ho
  cases v with
  | current =>
    dsimp only
    exact J.bind_some (Blake2L.dyn_resetL_j P _ _ h1) (fun x' hx => J.pure ⟨hx, rfl, h3⟩)
  | repaired =>
    dsimp only
    rw [h3]
    refine J.emit (J.ite Iff.rfl ?_ ?_)
    · exact J.bind_of (Blake2L.dyn_reset_with_keyL_j P _ _ _ _ h1 h3) (hs := fun x x' hx => J.pure ⟨hx, rfl, h3⟩)
    · exact J.bind_some (Blake2L.dyn_resetL_j P _ _ h1) (fun x' hx => J.pure ⟨hx, rfl, h3⟩)

def pubBl (o : Digest.Blake2 W) : (Nat × Nat × Nat × Nat × Nat) × Bool × Nat :=
  ((o.ctx.ctx.eng.t0, o.ctx.ctx.eng.t1, o.ctx.ctx.buf.length, o.ctx.ctx.buflen, o.ctx.outlen), o.computed, o.key.length)

omit [Word W] in
theorem pubBl_iff (o o' : Digest.Blake2 W) : pubBl o = pubBl o' ↔ LowBl o o' := by
  unfold pubBl LowBl LowDyn LowC LowEng
  simp only [Prod.mk.injEq, and_assoc]

/-- **`impl Digest for Blake2b` / `Blake2s` satisfies `DigestLeak`** (both `reset` variants, any block-size constant) -/
def blake2Leak (v : CodeVariant) (P : Params W) (bb : Nat) : DigestLeak (blake2Digest v P bb) (blake2DigestL v P) :=
  DigestLeak.ofLow pubBl LowBl pubBl_iff (Blake2L.updateL_j P) (Blake2L.finalizeL_j P) (Blake2L.legacy_resetL_j v P)
    (fun _ _ _ => rfl) (fun _ _ h => congrArg (· * 8) h.1.2)

end

def blake2bLeak (v : CodeVariant) : DigestLeak (blake2bDigest v) (blake2bDigestL v) :=
  blake2Leak v Impl.Blake2.b Extracted.Blake2.B_BLOCK_BYTES
def blake2sLeak (v : CodeVariant) : DigestLeak (blake2sDigest v) (blake2sDigestL v) :=
  blake2Leak v Impl.Blake2.s Extracted.Blake2.S_BLOCK_BYTES

end Cx.Proofs.LeakModel
