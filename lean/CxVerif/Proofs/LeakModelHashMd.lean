/-
  Proofs.LeakModelHashMd — (i) SHA-1 and RIPEMD-160: erasure and non-interference of the instrumented block functions
  and contexts; the `CtxLeak` instances and the `DigestLeak` instances of the legacy wrappers `Sha1` (src/sha1.rs) and
  `Ripemd160` (src/ripemd160.rs).  Public shadow of a context: size and fill of the 64-byte buffer.
-/
import CxVerif.Proofs.LeakModelHash
import CxVerif.Proofs.Sha1Stream
import CxVerif.Proofs.Ripemd160Stream
namespace Cx.Proofs.LeakModel
open Cx.Impl Cx.Impl.LeakModel Cx.Impl.Digest

/-! ### `slice.chunks(n)`: the chunk LENGTHS are a function of the length -/

theorem chunksAux_lengths_congr (n : Nat) : ∀ (fuel : Nat) (x x' : Bytes), x.length = x'.length →
    (chunksAux n fuel x).map List.length = (chunksAux n fuel x').map List.length := by
  intro fuel
  induction fuel with
  | zero => intro x x' _; rfl
  | succ f ih =>
    intro x x' h
    unfold chunksAux
    rw [isEmpty_congr h]
    by_cases he : x'.isEmpty = true
    · rw [if_pos he, if_pos he]
    · rw [if_neg he, if_neg he, List.map_cons, List.map_cons, List.length_take, List.length_take, h,
        ih (x.drop n) (x'.drop n) (by rw [List.length_drop, List.length_drop, h])]

theorem chunks_lengths_congr (n : Nat) (x x' : Bytes) (h : x.length = x'.length) :
    (chunks n x).map List.length = (chunks n x').map List.length := by
  unfold chunks
  rw [h]
  exact chunksAux_lengths_congr n _ x x' h

theorem chunks_count_congr (n : Nat) (x x' : Bytes) (h : x.length = x'.length) :
    (chunks n x).length = (chunks n x').length := by
  have := congrArg List.length (chunks_lengths_congr n x x' h)
  simpa using this

section Sha1
open Cx.Impl.Sha1 Cx.Impl.LeakModel.Sha1L
open Cx.Spec.Sha1 (Hash)

theorem sha1_digest_block_isSome (s : Hash) (b : Bytes) : (digest_block s b).isSome = decide (b.length = 64) := by
  by_cases h : b.length = 64
  · rw [Cx.Proofs.Sha1Stream.digest_block_spec s b h]; simp [h]
  · unfold digest_block
    rw [if_neg (show ¬ b.length = BLOCK_BYTES from h)]; simp [h]

theorem Sha1L.digest_blockL_j (s s' : Hash) (x x' : Bytes) (hx : x.length = x'.length) :
    J (digest_blockL s x) (digest_blockL s' x') (digest_block s x) (fun _ _ => True) := by
  unfold digest_blockL
  rw [← hx]
  exact J.emit (J.lift ⟨by rw [sha1_digest_block_isSome, sha1_digest_block_isSome, hx], fun _ _ _ _ => trivial⟩)

theorem Sha1L.digest_blocksL_j (s s' : Hash) (x x' : Bytes) (hx : x.length = x'.length) :
    J (digest_blocksL s x) (digest_blocksL s' x') (digest_blocks s x) (fun _ _ => True) := by
  unfold digest_blocksL digest_blocks
  rw [chunks_count_congr BLOCK_BYTES x x' hx]
  exact J.emit (J.iter (go := digest_blocks_goL) (pgo := digest_blocks_go) (fun _ => rfl) (fun _ _ _ => rfl) (fun _ => rfl)
    (fun _ _ _ e => by unfold digest_blocks_go; rw [e]) (fun _ _ _ _ e => by rw [digest_blocks_go, e])
    (fun s s' b b' _ hb => Sha1L.digest_blockL_j s s' b b' hb) _ _ s s' trivial (chunks_lengths_congr _ x x' hx))

def pubSha1 (c : Context) : Nat × Nat := (c.buffer.buffer.length, c.buffer.buffer_idx)

theorem pubSha1_iff (c c' : Context) : pubSha1 c = pubSha1 c' ↔ LowB c.buffer c'.buffer := by
  unfold pubSha1 LowB
  rw [Prod.mk.injEq]

theorem sha1_out_length (h : Hash) :
    (Sha1.write_u32_be h.a ++ Sha1.write_u32_be h.b ++ Sha1.write_u32_be h.c ++ Sha1.write_u32_be h.d ++
      Sha1.write_u32_be h.e).length = 20 := by
  simp only [List.length_append, Sha1.write_u32_be, u32be, Cx.Proofs.Bytes.natToBE_length]

theorem Sha1L.update_mutL_j (c c' : Context) (b b' : Bytes) (hc : LowB c.buffer c'.buffer) (hb : b.length = b'.length) :
    J (Context.update_mutL c b) (Context.update_mutL c' b') (c.update_mut b) (fun e e' => LowB e.buffer e'.buffer) := by
  unfold Context.update_mutL Context.update_mut
  exact J.bind_of2 (FixedBuffer.inputL_j (R := fun _ _ => True) .length 64 _ _ b b' digest_blocksL digest_blocks
    (fun s s' x x' _ hx => Sha1L.digest_blocksL_j s s' x x' hx) _ _ hc hb trivial)
    (hs := fun bf h bf' h' hr => J.pure hr.1)

theorem Sha1L.mk_resultL_j (c c' : Context) (hc : LowB c.buffer c'.buffer) :
    J (Context.mk_resultL c) (Context.mk_resultL c') (Context.mk_result c)
      (fun r r' => LowB r.1.buffer r'.1.buffer ∧ r.2.length = r'.2.length) := by
  unfold Context.mk_resultL Context.mk_result
  refine J.bind_of2 (FixedBuffer.standard_paddingL_j (R := fun _ _ => True) .length 64 _ _ 8 digest_blockL digest_block
    (fun s s' x x' _ hx => Sha1L.digest_blockL_j s s' x x' hx) _ _ hc trivial)
    (hs := fun bf h bf' h' hr => ?_)
  refine J.bind_of (FixedBuffer.next_writeL_j .length _ _ 8 _ _ hr.1
    (by rw [u64be, u64be, Cx.Proofs.Bytes.natToBE_length, Cx.Proofs.Bytes.natToBE_length])) (hs := fun b b' hb => ?_)
  refine J.bind_of2 (FixedBuffer.full_bufferL_j 64 b b' hb) (hs := fun fb blk fb' blk' hfb => ?_)
  refine J.bind_of (Sha1L.digest_blockL_j _ _ _ _ hfb.2) (hs := fun s s' _ => J.pure ⟨hfb.1, ?_⟩)
  rw [sha1_out_length, sha1_out_length]

theorem Sha1L.finalize_resetL_j (c c' : Context) (hc : LowB c.buffer c'.buffer) :
    J (Context.finalize_resetL c) (Context.finalize_resetL c') c.finalize_reset
      (fun r r' => LowB r.1.buffer r'.1.buffer ∧ r.2.length = r'.2.length) := by
  unfold Context.finalize_resetL Context.finalize_reset
  exact J.bind_of2 (Sha1L.mk_resultL_j c c' hc) (hs := fun st o st' o' hr => J.pure ⟨⟨hr.1.1, rfl⟩, hr.2⟩)

def sha1CtxLeak : CtxLeak sha1Ctx sha1CtxL :=
  CtxLeak.ofLow pubSha1 _ pubSha1_iff Sha1L.update_mutL_j (fun _ _ hc => J.pure ⟨hc.1, rfl⟩) Sha1L.finalize_resetL_j

def sha1Leak : DigestLeak (legacyDigest sha1Ctx) (legacyDigestL sha1CtxL) := legacyLeak sha1CtxLeak

end Sha1

section Ripemd160
open Cx.Impl.Ripemd160 Cx.Impl.LeakModel.Ripemd160L
open Cx.Spec.Ripemd160 (Hash)

theorem ripemd_block_isSome (s : Hash) (b : Bytes) : (process_msg_block b s).isSome = decide (b.length = 64) := by
  by_cases h : b.length = 64
  · have := Cx.Proofs.Ripemd160Stream.blockFn_spec s b h
    unfold Cx.Proofs.Ripemd160Stream.blockFn at this
    rw [this]; simp [h]
  · unfold process_msg_block
    rw [if_neg h]; simp [h]

theorem Ripemd160L.process_msg_blockL_j (s s' : Hash) (x x' : Bytes) (hx : x.length = x'.length) :
    J (process_msg_blockL s x) (process_msg_blockL s' x') (process_msg_block x s) (fun _ _ => True) := by
  unfold process_msg_blockL
  rw [← hx]
  exact J.emit (J.lift ⟨by rw [ripemd_block_isSome, ripemd_block_isSome, hx], fun _ _ _ _ => trivial⟩)

theorem Ripemd160L.process_msg_blocksL_j (s s' : Hash) (x x' : Bytes) (hx : x.length = x'.length) :
    J (process_msg_blocksL s x) (process_msg_blocksL s' x') (process_msg_blocks x s) (fun _ _ => True) := by
  unfold process_msg_blocksL process_msg_blocks
  rw [chunks_count_congr 64 x x' hx]
  exact J.emit (J.iter (go := process_msg_blocks_goL) (p := fun h d => process_msg_block d h) (pgo := process_msg_blocks_go)
    (fun _ => rfl) (fun _ _ _ => rfl) (fun _ => rfl)
    (fun _ _ _ e => by unfold process_msg_blocks_go; rw [e]) (fun _ _ _ _ e => by rw [process_msg_blocks_go, e])
    (fun s s' b b' _ hb => Ripemd160L.process_msg_blockL_j s s' b b' hb) _ _ s s' trivial (chunks_lengths_congr _ x x' hx))

def pubRipemd (c : Context) : Nat × Nat := (c.buffer.buffer.length, c.buffer.buffer_idx)

theorem pubRipemd_iff (c c' : Context) : pubRipemd c = pubRipemd c' ↔ LowB c.buffer c'.buffer := by
  unfold pubRipemd LowB
  rw [Prod.mk.injEq]

theorem ripemd_word_length (w : UInt32) : (Ripemd160.write_u32_le w).length = 4 := by
  unfold Ripemd160.write_u32_le u32le
  exact Cx.Proofs.Bytes.natToLE_length _ _

theorem ripemd_out_length (h : Hash) :
    (Ripemd160.write_u32_le h.a ++ Ripemd160.write_u32_le h.b ++ Ripemd160.write_u32_le h.c ++
      Ripemd160.write_u32_le h.d ++ Ripemd160.write_u32_le h.e).length = 20 := by
  simp only [List.length_append, ripemd_word_length]

theorem Ripemd160L.update_mutL_j (c c' : Context) (b b' : Bytes) (hc : LowB c.buffer c'.buffer)
    (hb : b.length = b'.length) :
    J (Context.update_mutL c b) (Context.update_mutL c' b') (c.update_mut b) (fun e e' => LowB e.buffer e'.buffer) := by
  unfold Context.update_mutL Context.update_mut
  exact J.bind_of2 (FixedBuffer.inputL_j (R := fun _ _ => True) .length 64 _ _ b b' process_msg_blocksL
    (fun h d => process_msg_blocks d h) (fun s s' x x' _ hx => Ripemd160L.process_msg_blocksL_j s s' x x' hx) _ _
    hc hb trivial) (hs := fun bf h bf' h' hr => J.pure hr.1)

theorem Ripemd160L.finalize_resetL_j (c c' : Context) (hc : LowB c.buffer c'.buffer) :
    J (Context.finalize_resetL c) (Context.finalize_resetL c') c.finalize_reset
      (fun r r' => LowB r.1.buffer r'.1.buffer ∧ r.2.length = r'.2.length) := by
  unfold Context.finalize_resetL Context.finalize_reset
  refine J.bind_of2 (FixedBuffer.standard_paddingL_j (R := fun _ _ => True) .length 64 _ _ 8 process_msg_blockL
    (fun h d => process_msg_block d h) (fun s s' x x' _ hx => Ripemd160L.process_msg_blockL_j s s' x x' hx) _ _
    hc trivial) (hs := fun bf h bf' h' hr => ?_)
  refine J.bind_of (FixedBuffer.next_writeL_j .length _ _ 4 _ _ hr.1 (by rw [ripemd_word_length, ripemd_word_length]))
    (hs := fun b b' hb => ?_)
  refine J.bind_of (FixedBuffer.next_writeL_j .length _ _ 4 _ _ hb (by rw [ripemd_word_length, ripemd_word_length]))
    (hs := fun b2 b2' hb2 => ?_)
  refine J.bind_of2 (FixedBuffer.full_bufferL_j 64 b2 b2' hb2) (hs := fun fb blk fb' blk' hfb => ?_)
  refine J.bind_of (Ripemd160L.process_msg_blockL_j _ _ _ _ hfb.2) (hs := fun s s' _ => J.pure ⟨⟨hfb.1.1, rfl⟩, ?_⟩)
  rw [ripemd_out_length, ripemd_out_length]

def ripemd160CtxLeak : CtxLeak ripemd160Ctx ripemd160CtxL :=
  CtxLeak.ofLow pubRipemd _ pubRipemd_iff Ripemd160L.update_mutL_j (fun _ _ hc => J.pure ⟨hc.1, rfl⟩)
    Ripemd160L.finalize_resetL_j

def ripemd160Leak : DigestLeak (legacyDigest ripemd160Ctx) (legacyDigestL ripemd160CtxL) := legacyLeak ripemd160CtxLeak

end Ripemd160

end Cx.Proofs.LeakModel
