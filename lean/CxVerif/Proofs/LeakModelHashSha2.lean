/-
  Proofs.LeakModelHashSha2 — (h) SHA-2: erasure and non-interference of the instrumented `Engine::blocks`,
  `Engine256/512::{input, finish}` and of the `digest!` contexts; the `CtxLeak` instances of the six context types and
  the `DigestLeak` instances of the six legacy wrappers (`Sha224 … Sha512Trunc256` of src/sha2.rs); last,
  `hmac_sha256_guards`, the `ok256` guards of `Props.C08.hmac_sha256` from a bound on the message length (for
  `Props.C19.hmac_sha256_instrumented_value`).

  Public shadow of a context: the size and the fill of the 64/128-byte buffer and the `finished` flag.  Chaining value,
  buffered bytes and the byte counter are NOT in it (the counter only flows into the 8/16-byte length field).
-/
import CxVerif.Proofs.LeakModelHash
import CxVerif.Proofs.Sha2Engine
import CxVerif.Proofs.MacInst
import CxVerif.Proofs.MacHmac
namespace Cx.Proofs.LeakModel
open Cx.Impl.LeakModel Cx.Impl.Digest Cx.Impl.Sha2 Cx.Impl.LeakModel.Sha2L
open Cx.Proofs.Sha2Engine

/-! ### the block functions: whether they refuse depends on the LENGTH of the argument only -/

theorem blocks256_isSome (s : Eng256.Engine) (d : Bytes) : (s.blocks d).isSome = decide (d.length % 64 = 0) := by
  simp only [Eng256.Engine.blocks, show Eng256.BLOCK_LEN_BYTES = 64 from rfl, digest_block256_total]
  by_cases h : d.length % 64 = 0 <;> simp [h]

theorem blocks512_isSome (s : Eng512.Engine) (d : Bytes) : (s.blocks d).isSome = decide (d.length % 128 = 0) := by
  simp only [Eng512.Engine.blocks, show Eng512.BLOCK_LEN_BYTES = 128 from rfl, digest_block512_total]
  by_cases h : d.length % 128 = 0 <;> simp [h]

/-- the chaining value is secret: nothing of it is public (`fun _ _ => True`) -/
theorem blocks256L_j (s s' : Eng256.Engine) (x x' : Bytes) (hx : x.length = x'.length) :
    J (blocks256L s x) (blocks256L s' x') (s.blocks x) (fun _ _ => True) := by
  unfold blocks256L
  rw [← hx]
  exact J.emit (J.guard_of (fun h => by unfold Eng256.Engine.blocks; rw [if_pos h])
    (J.emit (J.lift ⟨by rw [blocks256_isSome, blocks256_isSome, hx], fun _ _ _ _ => trivial⟩)))

theorem blocks512L_j (s s' : Eng512.Engine) (x x' : Bytes) (hx : x.length = x'.length) :
    J (blocks512L s x) (blocks512L s' x') (s.blocks x) (fun _ _ => True) := by
  unfold blocks512L
  rw [← hx]
  exact J.emit (J.guard_of (fun h => by unfold Eng512.Engine.blocks; rw [if_pos h])
    (J.emit (J.lift ⟨by rw [blocks512_isSome, blocks512_isSome, hx], fun _ _ _ _ => trivial⟩)))

def LowE256 (e e' : Engine256) : Prop := LowB e.buffer e'.buffer ∧ e.finished = e'.finished

theorem Engine256.inputL_j (e e' : Engine256) (b b' : Bytes) (he : LowE256 e e') (hb : b.length = b'.length) :
    J (Engine256.inputL e b) (Engine256.inputL e' b') (e.input b) LowE256 := by
  unfold Engine256.inputL Engine256.input
  rw [← he.2]
  refine J.emit (J.guard ?_)
  exact J.bind_of2 (FixedBuffer.inputL_j (R := fun _ _ => True) .length 64 _ _ b b' blocks256L Eng256.Engine.blocks
    (fun s s' x x' _ hx => blocks256L_j s s' x x' hx) _ _ he.1 hb trivial)
    (hs := fun bf s bf' s' hr => J.pure ⟨hr.1, rfl⟩)

theorem Engine256.finishL_j (e e' : Engine256) (he : LowE256 e e') :
    J (Engine256.finishL e) (Engine256.finishL e') e.finish LowE256 := by
  unfold Engine256.finishL Engine256.finish
  rw [← he.2]
  refine J.emit (J.ite Iff.rfl (J.pure he) ?_)
  refine J.bind_of2 (FixedBuffer.standard_paddingL_j (R := fun _ _ => True) .length 64 _ _ 8 blocks256L Eng256.Engine.blocks
    (fun s s' x x' _ hx => blocks256L_j s s' x x' hx) _ _ he.1 trivial) (hs := fun bf s bf' s' hr => ?_)
  refine J.bind_of (FixedBuffer.next_writeL_j .length _ _ 8 _ _ hr.1
    (by rw [Cx.Proofs.FB.len_be64_length, Cx.Proofs.FB.len_be64_length])) (hs := fun b b' hb => ?_)
  refine J.bind_of2 (FixedBuffer.full_bufferL_j 64 b b' hb) (hs := fun fb blk fb' blk' hfb => ?_)
  exact J.bind_of (blocks256L_j _ _ _ _ hfb.2) (hs := fun t t' _ => J.pure ⟨hfb.1, rfl⟩)

def LowE512 (e e' : Engine512) : Prop := LowB e.buffer e'.buffer

theorem Engine512.inputL_j (e e' : Engine512) (b b' : Bytes) (he : LowE512 e e') (hb : b.length = b'.length) :
    J (Engine512.inputL e b) (Engine512.inputL e' b') (e.input b) LowE512 := by
  unfold Engine512.inputL Engine512.input
  exact J.bind_of2 (FixedBuffer.inputL_j (R := fun _ _ => True) .length 128 _ _ b b' blocks512L Eng512.Engine.blocks
    (fun s s' x x' _ hx => blocks512L_j s s' x x' hx) _ _ he hb trivial)
    (hs := fun bf s bf' s' hr => J.pure hr.1)

theorem Engine512.finishL_j (e e' : Engine512) (he : LowE512 e e') :
    J (Engine512.finishL e) (Engine512.finishL e') e.finish LowE512 := by
  unfold Engine512.finishL Engine512.finish
  refine J.bind_of2 (FixedBuffer.standard_paddingL_j (R := fun _ _ => True) .length 128 _ _ 16 blocks512L Eng512.Engine.blocks
    (fun s s' x x' _ hx => blocks512L_j s s' x x' hx) _ _ he trivial) (hs := fun bf s bf' s' hr => ?_)
  refine J.bind_of (FixedBuffer.next_writeL_j .length _ _ 16 _ _ hr.1
    (by rw [Cx.Proofs.FB.len_be128_length, Cx.Proofs.FB.len_be128_length])) (hs := fun b b' hb => ?_)
  refine J.bind_of2 (FixedBuffer.full_bufferL_j 128 b b' hb) (hs := fun fb blk fb' blk' hfb => ?_)
  exact J.bind_of (blocks512L_j _ _ _ _ hfb.2) (hs := fun t t' _ => J.pure hfb.1)

/-- Whether `$output_fn` on the constant-size array `[0; $output_bits / 8]` refuses, and how many bytes it writes, does not
    depend on the state (it never refuses: `Proofs.Sha2Engine.outOK_*`). -/
def OutLen256 (A : Alg256) : Prop := ∀ e e' : Eng256.Engine,
  ORel (fun o o' : Bytes => o.length = o'.length) (A.output_fn e (zeros (A.output_bits / 8)))
    (A.output_fn e' (zeros (A.output_bits / 8)))

def OutLen512 (A : Alg512) : Prop := ∀ e e' : Eng512.Engine,
  ORel (fun o o' : Bytes => o.length = o'.length) (A.output_fn e (zeros (A.output_bits / 8)))
    (A.output_fn e' (zeros (A.output_bits / 8)))

theorem outLen_sha256 : OutLen256 Sha256 := fun e e' => by
  rw [outOK_sha256 e, outOK_sha256 e']
  exact .pure ((Cx.Proofs.MacInst.w32_length _).trans (Cx.Proofs.MacInst.w32_length _).symm)
theorem outLen_sha224 : OutLen256 Sha224 := fun e e' => by
  rw [outOK_sha224 e, outOK_sha224 e']; exact .pure (by simp only [List.length_take, Cx.Proofs.MacInst.w32_length])
theorem outLen_sha512 : OutLen512 Sha512 := fun e e' => by
  rw [outOK_sha512 e, outOK_sha512 e']; exact .pure (by simp only [List.length_take, Cx.Proofs.MacInst.w64_length])
theorem outLen_sha384 : OutLen512 Sha384 := fun e e' => by
  rw [outOK_sha384 e, outOK_sha384 e']; exact .pure (by simp only [List.length_take, Cx.Proofs.MacInst.w64_length])
theorem outLen_sha512_256 : OutLen512 Sha512Trunc256 := fun e e' => by
  rw [outOK_sha512_256 e, outOK_sha512_256 e']; exact .pure (by simp only [List.length_take, Cx.Proofs.MacInst.w64_length])
theorem outLen_sha512_224 : OutLen512 Sha512Trunc224 := fun e e' => by
  rw [outOK_sha512_224 e, outOK_sha512_224 e']; exact .pure (by simp only [List.length_take, Cx.Proofs.MacInst.w64_length])

def pub256 (c : Ctx256) : Nat × Nat × Bool :=
  (c.engine.buffer.buffer.length, c.engine.buffer.buffer_idx, c.engine.finished)

def pub512 (c : Ctx512) : Nat × Nat := (c.engine.buffer.buffer.length, c.engine.buffer.buffer_idx)

theorem pub256_iff (c c' : Ctx256) : pub256 c = pub256 c' ↔ LowE256 c.engine c'.engine := by
  unfold pub256 LowE256 LowB
  rw [Prod.mk.injEq, Prod.mk.injEq, and_assoc]

theorem pub512_iff (c c' : Ctx512) : pub512 c = pub512 c' ↔ LowE512 c.engine c'.engine := by
  unfold pub512 LowE512 LowB
  rw [Prod.mk.injEq]

theorem Ctx256.update_mutL_j (c c' : Ctx256) (b b' : Bytes) (hc : LowE256 c.engine c'.engine) (hb : b.length = b'.length) :
    J (Ctx256.update_mutL c b) (Ctx256.update_mutL c' b') (c.update_mut b) (fun e e' => LowE256 e.engine e'.engine) := by
  unfold Ctx256.update_mutL Ctx256.update_mut
  exact J.bind_of (Engine256.inputL_j _ _ b b' hc hb) (hs := fun e e' he => J.pure he)

theorem Ctx256.finalize_resetL_j (A : Alg256) (hA : OutLen256 A) (c c' : Ctx256) (hc : LowE256 c.engine c'.engine) :
    J (Ctx256.finalize_resetL A c) (Ctx256.finalize_resetL A c') (c.finalize_reset A)
      (fun r r' => LowE256 r.1.engine r'.1.engine ∧ r.2.length = r'.2.length) := by
  unfold Ctx256.finalize_resetL Ctx256.finalize_reset
  refine J.bind_of (Engine256.finishL_j _ _ hc) (hs := fun e e' he => ?_)
  exact J.bind_of (J.lift (hA e.state e'.state)) (hs := fun o o' ho => J.pure ⟨⟨⟨he.1.1, rfl⟩, rfl⟩, ho⟩)

theorem Ctx512.update_mutL_j (c c' : Ctx512) (b b' : Bytes) (hc : LowE512 c.engine c'.engine) (hb : b.length = b'.length) :
    J (Ctx512.update_mutL c b) (Ctx512.update_mutL c' b') (c.update_mut b) (fun e e' => LowE512 e.engine e'.engine) := by
  unfold Ctx512.update_mutL Ctx512.update_mut
  exact J.bind_of (Engine512.inputL_j _ _ b b' hc hb) (hs := fun e e' he => J.pure he)

theorem Ctx512.finalize_resetL_j (A : Alg512) (hA : OutLen512 A) (c c' : Ctx512) (hc : LowE512 c.engine c'.engine) :
    J (Ctx512.finalize_resetL A c) (Ctx512.finalize_resetL A c') (c.finalize_reset A)
      (fun r r' => LowE512 r.1.engine r'.1.engine ∧ r.2.length = r'.2.length) := by
  unfold Ctx512.finalize_resetL Ctx512.finalize_reset
  refine J.bind_of (Engine512.finishL_j _ _ hc) (hs := fun e e' he => ?_)
  exact J.bind_of (J.lift (hA e.state e'.state)) (hs := fun o o' ho => J.pure ⟨⟨he.1, rfl⟩, ho⟩)

def sha2Ctx256Leak (A : Alg256) (id : Nat) (hA : OutLen256 A) : CtxLeak (sha2Ctx256 A id) (sha2Ctx256L A) :=
  CtxLeak.ofLow pub256 _ pub256_iff Ctx256.update_mutL_j (fun _ _ hc => J.pure ⟨⟨hc.1.1, rfl⟩, rfl⟩)
    (Ctx256.finalize_resetL_j A hA)

def sha2Ctx512Leak (A : Alg512) (id : Nat) (hA : OutLen512 A) : CtxLeak (sha2Ctx512 A id) (sha2Ctx512L A) :=
  CtxLeak.ofLow pub512 _ pub512_iff Ctx512.update_mutL_j (fun _ _ hc => J.pure ⟨hc.1, rfl⟩)
    (Ctx512.finalize_resetL_j A hA)

def sha224Leak : DigestLeak (legacyDigest sha224Ctx) (legacyDigestL sha224CtxL) :=
  legacyLeak (sha2Ctx256Leak Sha224 1 outLen_sha224)
def sha256Leak : DigestLeak (legacyDigest sha256Ctx) (legacyDigestL sha256CtxL) :=
  legacyLeak (sha2Ctx256Leak Sha256 2 outLen_sha256)
def sha384Leak : DigestLeak (legacyDigest sha384Ctx) (legacyDigestL sha384CtxL) :=
  legacyLeak (sha2Ctx512Leak Sha384 3 outLen_sha384)
def sha512Leak : DigestLeak (legacyDigest sha512Ctx) (legacyDigestL sha512CtxL) :=
  legacyLeak (sha2Ctx512Leak Sha512 4 outLen_sha512)
def sha512_224Leak : DigestLeak (legacyDigest sha512_224Ctx) (legacyDigestL sha512_224CtxL) :=
  legacyLeak (sha2Ctx512Leak Sha512Trunc224 5 outLen_sha512_224)
def sha512_256Leak : DigestLeak (legacyDigest sha512_256Ctx) (legacyDigestL sha512_256CtxL) :=
  legacyLeak (sha2Ctx512Leak Sha512Trunc256 6 outLen_sha512_256)

theorem hmac_sha256_guards (key m : Bytes) (h : m.length + 64 < 2 ^ 61) :
    Cx.Props.C02.Sha2.ok256 (Cx.Proofs.MacHmac.ikey Spec.Sha2.sha256 64 key ++ m) ∧
    Cx.Props.C02.Sha2.ok256 (Cx.Proofs.MacHmac.okey Spec.Sha2.sha256 64 key ++
      Spec.Sha2.sha256 (Cx.Proofs.MacHmac.ikey Spec.Sha2.sha256 64 key ++ m)) := by
  unfold Cx.Props.C02.Sha2.ok256
  constructor
  · simp only [List.length_append, Cx.Proofs.MacHmac.ikey, Spec.Hmac.xorPad, List.length_map, Cx.Proofs.MacInst.keyBlock_length]
    omega
  · simp only [List.length_append, Cx.Proofs.MacHmac.okey, Spec.Hmac.xorPad, List.length_map, Cx.Proofs.MacInst.keyBlock_length,
      Cx.Proofs.MacInst.sha256_length]
    omega

end Cx.Proofs.LeakModel
