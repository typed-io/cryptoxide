/-
  Proofs.LeakModelHashSponge — (l) SHA-3 / Keccak: erasure and non-interference of the instrumented sponge
  (`process`, `finalize` with `pad_len` / `set_domain_sep` / `set_pad`, `output`) and of the contexts; the `CtxLeak`
  instance of `sha3::Context<bits>` / `keccak::Context<bits>` and the `DigestLeak` instances of the eight legacy
  wrappers of src/sha3.rs.

  Public shadow of an engine: the size of the state array, the two phase flags and the position `offset` in the block.
  The 200 state bytes are not in it.  The non-interference statements hold for ALL engine states (no well-formedness
  premise): every refusal is decided by the public shadow and the argument lengths, which is proved by a small
  relational logic `ORel` for the `Option` monad of the plain model ("length-parametricity" of `set_pad`, `xor_in`, …).
-/
import CxVerif.Proofs.LeakModelHash
import CxVerif.Proofs.KeccakF
namespace Cx.Proofs.LeakModel
open Cx.Impl.LeakModel Cx.Impl.Digest Cx.Impl.Sha3 Cx.Impl.LeakModel.Sha3L

/-- used through its unfolding: a `LenEq` fact IS the length equation (`DataRel.length`, `OutLen256` write the relation inline) -/
def LenEq (a a' : Bytes) : Prop := a.length = a'.length

theorem idx_rel {α : Type} (a a' : List α) (i : Nat) (h : a.length = a'.length) :
    ORel (fun _ _ => True) (idx a i) (idx a' i) := by
  refine ⟨?_, fun _ _ _ _ => trivial⟩
  unfold idx
  by_cases hi : i < a.length
  · rw [List.getElem?_eq_getElem hi, List.getElem?_eq_getElem (h ▸ hi)]; rfl
  · rw [List.getElem?_eq_none (by omega), List.getElem?_eq_none (by omega)]

theorem upd_rel (a a' : Bytes) (i : Nat) (v v' : UInt8) (h : a.length = a'.length) :
    ORel LenEq (upd a i v) (upd a' i v') := by
  unfold upd
  rw [h]
  refine ORel.ite Iff.rfl (ORel.pure ?_) ORel.none
  unfold LenEq
  rw [List.length_set, List.length_set, h]

theorem clear_bits_rel (b b' : Bytes) (s lo : Nat) (h : LenEq b b') :
    ORel LenEq (clear_bits b s lo) (clear_bits b' s lo) := by
  unfold clear_bits
  refine ORel.foldlM _ (fun a a' i ha => ?_) b b' h
  exact ORel.bind (idx_rel a a' s ha) (fun x x' _ => upd_rel a a' s _ _ ha)

theorem set_domain_sep_rel (n : Nat) (b b' : Bytes) (h : LenEq b b') :
    ORel LenEq (set_domain_sep n b) (set_domain_sep n b') := by
  unfold set_domain_sep
  rw [isEmpty_congr h]
  refine ORel.ite Iff.rfl ORel.none (ORel.ite Iff.rfl ?_ ?_)
  · refine ORel.bind (idx_rel b b' 0 h) (fun x x' _ => ORel.bind (upd_rel b b' 0 _ _ h) (fun c c' hc => ?_))
    exact ORel.bind (idx_rel c c' 0 hc) (fun y y' _ => upd_rel c c' 0 _ _ hc)
  · exact ORel.bind (idx_rel b b' 0 h) (fun x x' _ => upd_rel b b' 0 _ _ h)

theorem set_pad_rel (ds : Nat) (b b' : Bytes) (h : LenEq b b') : ORel LenEq (set_pad ds b) (set_pad ds b') := by
  unfold set_pad
  have hl : b.length = b'.length := h
  rw [hl]
  refine ORel.bind (idx_rel b b' _ h) (fun x x' _ => ORel.bind (upd_rel b b' _ _ _ h) (fun c c' hc => ?_))
  refine ORel.bind (clear_bits_rel c c' _ _ hc) (fun d d' hd => ?_)
  have hdl : d.length = d'.length := hd
  rw [hdl]
  refine ORel.ite Iff.rfl ORel.none (ORel.ite Iff.rfl ORel.none ?_)
  have hz : LenEq (d.take (ds / 8 + 1) ++ zeros (d'.length - (ds / 8 + 1)))
      (d'.take (ds / 8 + 1) ++ zeros (d'.length - (ds / 8 + 1))) := by
    unfold LenEq
    simp only [List.length_append, List.length_take, hdl]
  exact ORel.bind (idx_rel _ _ _ hz) (fun y y' _ => upd_rel _ _ _ _ _ hz)

theorem xor_in_rel : ∀ (st st' : Bytes) (off : Nat) (d d' : Bytes), st.length = st'.length → d.length = d'.length →
    ORel LenEq (xor_in st off d) (xor_in st' off d') := by
  intro st
  induction st with
  | nil =>
    intro st' off d d' hs hd
    cases List.eq_nil_of_length_eq_zero hs.symm
    cases d <;> cases d' <;> simp at hd
    · simp only [xor_in]; exact ORel.pure rfl
    · simp only [xor_in]; exact ORel.none
  | cons b t ih =>
    intro st' off d d' hs hd
    cases st' with
    | nil => simp at hs
    | cons b' t' =>
      have ht : t.length = t'.length := by simpa using hs
      have hcons : ∀ (x x' : UInt8) (a a' : Bytes), LenEq a a' → LenEq (x :: a) (x' :: a') :=
        fun _ _ a a' ha => congrArg (· + 1) ha
      cases d <;> cases d' <;> simp at hd
      · simp only [xor_in]; exact ORel.pure hs
      · cases off with
        | zero => simp only [xor_in]; exact ORel.map (ih t' 0 _ _ ht hd) (hcons _ _)
        | succ o => simp only [xor_in]; exact ORel.map (ih t' o (_ :: _) (_ :: _) ht (congrArg (· + 1) hd)) (hcons _ _)

theorem keccak_f_rel (st st' : Bytes) (h : st.length = st'.length) : ORel LenEq (keccak_f st) (keccak_f st') := by
  by_cases h2 : st.length = 200
  · rw [Cx.Proofs.Keccak.keccak_f_eq st h2, Cx.Proofs.Keccak.keccak_f_eq st' (h ▸ h2)]
    refine ORel.pure ?_
    show (_ : Bytes).length = (_ : Bytes).length
    rw [Cx.Proofs.Keccak.keccakF_length, Cx.Proofs.Keccak.keccakF_length]
  · have e : keccak_f st = Option.none := by
      unfold keccak_f read_u64v_le
      rw [if_neg (by omega)]; rfl
    have e' : keccak_f st' = Option.none := by
      unfold keccak_f read_u64v_le
      rw [if_neg (by omega)]; rfl
    rw [e, e']; exact ORel.none

theorem xor_inL_j (st st' : Bytes) (off : Nat) (d d' : Bytes) (hs : st.length = st'.length) (hd : d.length = d'.length) :
    J (xor_inL st off d) (xor_inL st' off d') (xor_in st off d) LenEq := by
  unfold xor_inL
  rw [hd]
  exact J.emit (J.emit (J.lift (xor_in_rel st st' off d d' hs hd)))

/-- the state after the absorb loop: array size and position are public -/
def LowP (p p' : Bytes × Nat) : Prop := p.1.length = p'.1.length ∧ p.2 = p'.2

theorem absorb_loopL_j (r : Nat) (data : Bytes) : ∀ (data' state state' : Bytes) (offset : Nat),
    state.length = state'.length → data.length = data'.length →
    J (absorb_loopL r state offset data) (absorb_loopL r state' offset data') (absorb_loop r state offset data) LowP := by
  induction hn : data.length using Nat.strongRecOn generalizing data with
  | _ n ih =>
    subst hn
    intro data' state state' offset hs hd
    unfold absorb_loopL absorb_loop
    dsimp only
    have hnil : data = [] ↔ data' = [] := by rw [← List.length_eq_zero_iff, ← List.length_eq_zero_iff, hd]
    refine J.dite hnil (fun _ _ => J.emit (J.pure ⟨hs, rfl⟩)) (fun hne _ => J.dite Iff.rfl (fun _ _ => ?_) (fun _ _ => J.panic))
    rw [← hd]
    refine J.emit (J.bind_of (xor_inL_j state state' offset _ _ hs (by simp only [List.length_take, hd])) (hs := fun s1 s1' h1 => ?_))
    refine J.emit (J.ite Iff.rfl ?_ (J.pure ⟨h1, rfl⟩))
    refine J.bind_of (J.lift (keccak_f_rel s1 s1' h1)) (hs := fun s2 s2' h2 => ?_)
    refine ih _ ?_ _ rfl _ _ _ 0 h2 (by simp only [List.length_drop, hd])
    have : 0 < data.length := List.length_pos_iff.mpr hne
    simp only [List.length_drop]
    omega

def LowS (e e' : Engine) : Prop :=
  e.state.length = e'.state.length ∧ e.can_absorb = e'.can_absorb ∧ e.can_squeeze = e'.can_squeeze ∧ e.offset = e'.offset

theorem Engine.processL_j (dl : Nat) (e e' : Engine) (d d' : Bytes) (he : LowS e e') (hd : d.length = d'.length) :
    J (Engine.processL dl e d) (Engine.processL dl e' d') (e.process dl d) LowS := by
  unfold Engine.processL Engine.process
  obtain ⟨h1, h2, h3, h4⟩ := he
  rw [← h2, ← h4]
  refine J.emit (J.guard (J.bind_pub (fun r => ?_)))
  refine J.emit (J.guard (J.bind (absorb_loopL_j r _ _ _ _ _ h1 hd) (fun p p' hp => ?_)))
  exact J.pure ⟨hp.1, rfl, h3, hp.2⟩

theorem pad_lenL_j (ds o r : Nat) : J (pad_lenL ds o r) (pad_lenL ds o r) (pad_len ds o r) Eq := by
  unfold pad_lenL
  exact J.emit (J.lift (ORel.refl_eq _))

theorem set_domain_sepL_j (n : Nat) (b b' : Bytes) (h : LenEq b b') :
    J (set_domain_sepL n b) (set_domain_sepL n b') (set_domain_sep n b) LenEq := by
  unfold set_domain_sepL
  rw [isEmpty_congr h]
  exact J.emit (J.lift (set_domain_sep_rel n b b' h))

theorem set_padL_j (ds : Nat) (b b' : Bytes) (h : LenEq b b') : J (set_padL ds b) (set_padL ds b') (set_pad ds b) LenEq := by
  unfold set_padL
  rw [show b.length = b'.length from h]
  exact J.emit (J.emit (J.emit (J.lift (set_pad_rel ds b b' h))))

theorem Engine.finalizeL_j (dl ds : Nat) (e e' : Engine) (he : LowS e e') :
    J (Engine.finalizeL dl ds e) (Engine.finalizeL dl ds e') (e.finalize dl ds) LowS := by
  unfold Engine.finalizeL Engine.finalize
  have he0 := he
  obtain ⟨_, h2, _, h4⟩ := he
  rw [← h2, ← h4]
  refine J.emit (J.guard (J.bind_pub (fun r => J.bind_pub (fun o8 => J.bind_pub (fun r8 => ?_)))))
  refine J.bind (pad_lenL_j _ _ _) (fun pl _ hp => ?_)
  subst hp
  refine J.emit (J.bind_ite (R := LenEq) (set_domain_sepL_j _ _ _ rfl) (J.pure rfl) (fun p p' hp => ?_))
  refine J.bind (set_padL_j ds p p' hp) (fun q q' hq => ?_)
  refine J.bind (Engine.processL_j dl e e' q q' he0 hq) (fun f f' hf => ?_)
  exact J.pure ⟨hf.1, rfl, hf.2.2.1, hf.2.2.2⟩

def LowO (p p' : Engine × Bytes) : Prop := LowS p.1 p'.1 ∧ p.2.length = p'.2.length

theorem squeeze_loopL_j (dl r in_len : Nat) (in_pos : Nat) : ∀ (e e' : Engine) (out out' : Bytes),
    LowS e e' → out.length = out'.length →
    J (squeeze_loopL dl r e in_len in_pos out) (squeeze_loopL dl r e' in_len in_pos out')
      (squeeze_loop dl r e in_len in_pos out) LowO := by
  induction hn : in_len - in_pos using Nat.strongRecOn generalizing in_pos with
  | _ n ih =>
    intro e e' out out' he ho
    unfold squeeze_loopL squeeze_loop
    refine J.dite Iff.rfl (fun hlt _ => ?_) (fun _ _ => J.emit (J.pure ⟨he, ho⟩))
    refine J.emit (J.dite Iff.rfl (fun _ _ => J.panic) (fun hr0 _ => ?_))
    obtain ⟨h1, h2, h3, h4⟩ := he
    rw [← h4, ← h1, ← ho]
    refine J.bind_lift (hs := fun nread => J.emit (J.emit (J.emit (J.guard (J.emit ?_)))))
    have hout : (out.take in_pos ++ (e.state.drop (e.offset % r)).take nread ++ out.drop (in_pos + nread)).length =
        (out'.take in_pos ++ (e'.state.drop (e.offset % r)).take nread ++ out'.drop (in_pos + nread)).length := by
      simp only [List.length_append, List.length_take, List.length_drop, h1, ho]
    refine J.dite Iff.rfl (fun hfull _ => ?_) (fun _ _ => J.pure ⟨⟨h1, h2, h3, rfl⟩, hout⟩)
    refine J.bind_of (J.lift (keccak_f_rel _ _ h1)) (hs := fun st st' hst => ?_)
    refine ih _ ?_ _ rfl _ _ _ _ ⟨hst, h2, h3, rfl⟩ hout
    have : e.offset % r < r := Nat.mod_lt _ (Nat.pos_of_ne_zero hr0)
    omega

theorem Engine.outputL_j (dl ds : Nat) (e e' : Engine) (n : Nat) (he : LowS e e') :
    J (Engine.outputL dl ds e n) (Engine.outputL dl ds e' n) (e.output dl ds n) LowO := by
  unfold Engine.outputL Engine.output
  have he0 := he
  obtain ⟨_, h2, h3, _⟩ := he
  rw [← h3, ← h2]
  refine J.emit (J.guard (J.emit ?_))
  refine J.bind_ite (R := LowS) (Engine.finalizeL_j dl ds e e' he0) (J.pure he0) (fun f f' hf => ?_)
  refine J.bind_pub (fun r => ?_)
  rw [← hf.2.2.2]
  refine J.emit (J.guard (J.emit (J.bind (squeeze_loopL_j dl r n 0 f f' _ _ hf rfl) (fun p p' hp => ?_))))
  obtain ⟨⟨g1, g2, g3, g4⟩, g5⟩ := hp
  rw [← g4]
  refine J.emit (J.pure ⟨?_, g5⟩)
  by_cases hc : (dl != 0 && dl == p.1.offset) = true
  · rw [if_pos hc, if_pos hc]; exact ⟨g1, g2, rfl, g4⟩
  · rw [if_neg hc, if_neg hc]; exact ⟨g1, g2, g3, g4⟩

def pubSha3 (c : Context) : Nat × Bool × Bool × Nat := (c.state.length, c.can_absorb, c.can_squeeze, c.offset)

theorem pubSha3_iff (c c' : Context) : pubSha3 c = pubSha3 c' ↔ LowS c c' := by
  unfold pubSha3 LowS
  simp only [Prod.mk.injEq]

theorem reset_lowS (e e' : Engine) (h : e.state.length = e'.state.length) : LowS (Engine.reset e) (Engine.reset e') := by
  refine ⟨?_, rfl, rfl, rfl⟩
  show (zeros _).length = (zeros _).length
  simp only [zeros, List.length_replicate, h]

theorem Sha3L.finalize_resetL_j (dl ds : Nat) (c c' : Context) (hc : LowS c c') :
    J (Context.finalize_resetL dl ds c) (Context.finalize_resetL dl ds c') (Context.finalize_reset dl ds c)
      (fun r r' => LowS r.1 r'.1 ∧ r.2.length = r'.2.length) := by
  unfold Context.finalize_resetL Context.finalize_reset
  exact J.bind (Engine.outputL_j dl ds c c' dl hc) (fun p p' hp => J.pure ⟨reset_lowS _ _ hp.1.1, hp.2⟩)

def sha3CtxLeak (dl ds id : Nat) : CtxLeak (sha3Ctx dl ds id) (sha3CtxL dl ds) :=
  CtxLeak.ofLow pubSha3 LowS pubSha3_iff (Engine.processL_j dl) (fun c c' hc => J.pure (reset_lowS c c' hc.1))
    (Sha3L.finalize_resetL_j dl ds)

def sha3_224Leak : DigestLeak (legacyDigest sha3_224Ctx) (legacyDigestL sha3_224CtxL) := legacyLeak (sha3CtxLeak 28 2 7)
def sha3_256Leak : DigestLeak (legacyDigest sha3_256Ctx) (legacyDigestL sha3_256CtxL) := legacyLeak (sha3CtxLeak 32 2 8)
def sha3_384Leak : DigestLeak (legacyDigest sha3_384Ctx) (legacyDigestL sha3_384CtxL) := legacyLeak (sha3CtxLeak 48 2 9)
def sha3_512Leak : DigestLeak (legacyDigest sha3_512Ctx) (legacyDigestL sha3_512CtxL) := legacyLeak (sha3CtxLeak 64 2 10)
def keccak224Leak : DigestLeak (legacyDigest keccak224Ctx) (legacyDigestL keccak224CtxL) := legacyLeak (sha3CtxLeak 28 0 11)
def keccak256Leak : DigestLeak (legacyDigest keccak256Ctx) (legacyDigestL keccak256CtxL) := legacyLeak (sha3CtxLeak 32 0 12)
def keccak384Leak : DigestLeak (legacyDigest keccak384Ctx) (legacyDigestL keccak384CtxL) := legacyLeak (sha3CtxLeak 48 0 13)
def keccak512Leak : DigestLeak (legacyDigest keccak512Ctx) (legacyDigestL keccak512CtxL) := legacyLeak (sha3CtxLeak 64 0 14)

end Cx.Proofs.LeakModel
