/-
  Proofs.LeakModelHmac — (d) HMAC.  The interface `DigestLeak` (what is assumed of the digest type parameter: erasure, and
  that its events, its panics and its public shadow depend on the public shadow and on LENGTHS only); one joint theorem
  (`J`, Proofs/LeakJoint.lean: erasure and non-interference) for each of `expand_key`, `create_keys`, `Hmac::new`, `input`,
  `raw_result`, `result`, the one-shot MAC and `FixedBuffer::input`.  The `FixedBuffer` theorems are stated for any relation
  `X` on byte strings that slicing and overwriting respect (`DataRel`): at "equal lengths" they are the non-interference
  statements, at `Eq` their erasure half holds for a callback that is only known to erase (`inputL_val`, what
  `Props.C19.fixedbuffer_input_erasure` assumes), because a run is always non-interferent with itself.
-/
import CxVerif.Impl.LeakModelSym
import CxVerif.Proofs.LeakJoint
import CxVerif.Proofs.ByteLemmas
namespace Cx.Proofs.LeakModel
open Cx.Impl Cx.Impl.LeakModel Cx.Impl.Digest Cx.Impl.Hmac

variable {δ : Type}

/-- the instrumented digest `DL` computes the digest model `D`, and everything observable about it — events, panics,
    the public shadow `pub` of its state (buffer fill, length counters, flags, sizes) — is determined by the public
    shadow and by the LENGTHS of its arguments -/
structure DigestLeak (D : DigestModel δ) (DL : DigestL δ) where
  π : Type
  pub : δ → π
  input_val : ∀ d b, (DL.inputL d b).val = D.input d b
  result_val : ∀ d n, (DL.resultL d n).val = D.result d n
  reset_val : ∀ d, (DL.resetL d).val = D.reset d
  input_ni : ∀ d d' b b', pub d = pub d' → b.length = b'.length →
    NI (DL.inputL d b) (DL.inputL d' b') (fun e e' => pub e = pub e')
  result_ni : ∀ d d' n, pub d = pub d' →
    NI (DL.resultL d n) (DL.resultL d' n) (fun r r' => pub r.1 = pub r'.1 ∧ r.2.length = r'.2.length)
  reset_ni : ∀ d d', pub d = pub d' → NI (DL.resetL d) (DL.resetL d') (fun e e' => pub e = pub e')
  block_size_pub : ∀ d d', pub d = pub d' → D.block_size d = D.block_size d'
  output_bits_pub : ∀ d d', pub d = pub d' → D.output_bits d = D.output_bits d'

variable {D : DigestModel δ} {DL : DigestL δ}

theorem DigestLeak.output_bytes_pub (L : DigestLeak D DL) (d d' : δ) (h : L.pub d = L.pub d') :
    D.output_bytes d = D.output_bytes d' := by
  unfold DigestModel.output_bytes; rw [L.output_bits_pub d d' h]

/-- The record from a relation `Low` that says when two public shadows agree (`hlow`) and one joint fact per method stated
    with `Low`: the erasure fields are the diagonal, and no walk of a digest's `do` blocks speaks of `pub` (only `hlow` does). -/
def DigestLeak.ofLow {π : Type} (pub : δ → π) (Low : δ → δ → Prop) (hlow : ∀ d d', pub d = pub d' ↔ Low d d')
    (input_j : ∀ d d' b b', Low d d' → b.length = b'.length → J (DL.inputL d b) (DL.inputL d' b') (D.input d b) Low)
    (result_j : ∀ d d' n, Low d d' →
      J (DL.resultL d n) (DL.resultL d' n) (D.result d n) (fun r r' => Low r.1 r'.1 ∧ r.2.length = r'.2.length))
    (reset_j : ∀ d d', Low d d' → J (DL.resetL d) (DL.resetL d') (D.reset d) Low)
    (block_size_pub : ∀ d d', Low d d' → D.block_size d = D.block_size d')
    (output_bits_pub : ∀ d d', Low d d' → D.output_bits d = D.output_bits d') : DigestLeak D DL where
  π := π
  pub := pub
  input_val d b := (input_j d d b b ((hlow d d).mp rfl) rfl).val
  result_val d n := (result_j d d n ((hlow d d).mp rfl)).val
  reset_val d := (reset_j d d ((hlow d d).mp rfl)).val
  input_ni d d' b b' h hb := (input_j d d' b b' ((hlow d d').mp h) hb).ni.mono fun e e' => (hlow e e').mpr
  result_ni d d' n h := (result_j d d' n ((hlow d d').mp h)).ni.mono fun _ _ hr => ⟨(hlow _ _).mpr hr.1, hr.2⟩
  reset_ni d d' h := (reset_j d d' ((hlow d d').mp h)).ni.mono fun e e' => (hlow e e').mpr
  block_size_pub d d' h := block_size_pub d d' ((hlow d d').mp h)
  output_bits_pub d d' h := output_bits_pub d d' ((hlow d d').mp h)

theorem DigestLeak.input_j (L : DigestLeak D DL) {d d' : δ} {b b' : Bytes} (hd : L.pub d = L.pub d')
    (hb : b.length = b'.length) : J (DL.inputL d b) (DL.inputL d' b') (D.input d b) (fun e e' => L.pub e = L.pub e') :=
  ⟨L.input_val d b, L.input_ni d d' b b' hd hb⟩

theorem DigestLeak.result_j (L : DigestLeak D DL) {d d' : δ} (n : Nat) (hd : L.pub d = L.pub d') :
    J (DL.resultL d n) (DL.resultL d' n) (D.result d n)
      (fun r r' => L.pub r.1 = L.pub r'.1 ∧ r.2.length = r'.2.length) :=
  ⟨L.result_val d n, L.result_ni d d' n hd⟩

theorem DigestLeak.reset_j (L : DigestLeak D DL) {d d' : δ} (hd : L.pub d = L.pub d') :
    J (DL.resetL d) (DL.resetL d') (D.reset d) (fun e e' => L.pub e = L.pub e') :=
  ⟨L.reset_val d, L.reset_ni d d' hd⟩

theorem derive_keyL_val (key : Bytes) (mask : UInt8) : (derive_keyL key mask).val = derive_key key mask :=
  (forL_snoc (fun b : UInt8 => b ^^^ mask) key).2

theorem derive_keyL_tr (key : Bytes) (mask : UInt8) : (derive_keyL key mask).tr = [Event.loopBound key.length] :=
  (forL_snoc (fun b : UInt8 => b ^^^ mask) key).1

theorem derive_key_length (key : Bytes) (mask : UInt8) : (derive_key key mask).length = key.length := by
  simp [derive_key]

theorem isEmpty_congr {α : Type} {a a' : List α} (h : a.length = a'.length) : a.isEmpty = a'.isEmpty := by
  cases a <;> cases a' <;> simp_all

theorem copy_prefix_length (dst src : Bytes) : (copy_prefix dst src).length = src.length + (dst.length - src.length) := by
  simp [copy_prefix]

theorem zeros_length' (n : Nat) : (zeros n).length = n := Bytes.zeros_length n

/-- two HMAC objects are indistinguishable: same public shadow of the digest, same key-block sizes, same flag -/
def LowH (L : DigestLeak D DL) (h h' : Hmac δ) : Prop :=
  L.pub h.digest = L.pub h'.digest ∧ h.i_key.length = h'.i_key.length ∧ h.o_key.length = h'.o_key.length ∧
    h.finished = h'.finished

theorem expand_keyL_j (L : DigestLeak D DL) (d d' : δ) (key key' : Bytes) (hd : L.pub d = L.pub d')
    (hk : key.length = key'.length) :
    J (expand_keyL D DL d key) (expand_keyL D DL d' key') (expand_key D d key)
      (fun r r' => L.pub r.1 = L.pub r'.1 ∧ r.2.length = r'.2.length) := by
  unfold expand_keyL expand_key
  rw [← L.block_size_pub d d' hd, ← L.output_bytes_pub d d' hd, ← hk]
  refine J.emit (J.emit (J.ite Iff.rfl (J.emit (J.pure ⟨hd, ?_⟩)) ?_))
  · simp only [copy_prefix_length, hk]
  refine J.bind_of (L.input_j hd hk) (hs := fun e e' he => J.emit (J.guard ?_))
  refine J.bind_of2 (L.result_j _ he) (hs := fun r o r' o' hr => ?_)
  refine J.bind_of (L.reset_j hr.1) (hs := fun f f' hf => J.pure ⟨hf, ?_⟩)
  simp only [copy_prefix_length, hr.2]

theorem derive_keyL_j (k k' : Bytes) (mask : UInt8) (h : k.length = k'.length) :
    J (LO.ofLeakM (derive_keyL k mask)) (LO.ofLeakM (derive_keyL k' mask)) (some (derive_key k mask))
      (fun i i' => i.length = i'.length) := by
  rw [← derive_keyL_val]
  refine J.ofLeakM ?_ ?_
  · rw [derive_keyL_tr, derive_keyL_tr, h]
  · rw [derive_keyL_val, derive_keyL_val, derive_key_length, derive_key_length, h]

theorem create_keysL_j (L : DigestLeak D DL) (d d' : δ) (key key' : Bytes) (hd : L.pub d = L.pub d')
    (hk : key.length = key'.length) :
    J (create_keysL D DL d key) (create_keysL D DL d' key') (create_keys D d key)
      (fun r r' => L.pub r.1 = L.pub r'.1 ∧ r.2.1.length = r'.2.1.length ∧ r.2.2.length = r'.2.2.length) := by
  unfold create_keysL create_keys
  refine J.bind_of2 (expand_keyL_j L d d' key key' hd hk) (hs := fun e k e' k' hr => ?_)
  rw [show k.length = k'.length from hr.2]
  refine J.emit (J.bind_some (derive_keyL_j _ _ _ hr.2) (fun i' hi => ?_))
  exact J.bind_some (derive_keyL_j _ _ _ hr.2) (fun o' ho => J.pure ⟨hr.1, hi, ho⟩)

theorem Hmac.newL_j (L : DigestLeak D DL) (d d' : δ) (key key' : Bytes) (hd : L.pub d = L.pub d')
    (hk : key.length = key'.length) :
    J (Hmac.newL D DL d key) (Hmac.newL D DL d' key') (Hmac.new D d key) (LowH L) := by
  unfold Hmac.newL Hmac.new
  refine J.bind_of2 (create_keysL_j L d d' key key' hd hk) (hs := fun e io e' io' hr => ?_)
  -- the plain model matches on a triple: its `match` reduces once the inner pair is a pair
  obtain ⟨i, o⟩ := io
  exact J.bind_of (L.input_j hr.1 hr.2.1) (fun h => by dsimp only; rw [h]) (fun a h => by dsimp only; rewrite [h]; dsimp only)
    (fun f f' hf => J.pure ⟨hf, hr.2.1, hr.2.2, rfl⟩)

theorem Hmac.inputL_j (L : DigestLeak D DL) (h h' : Hmac δ) (data data' : Bytes) (hl : LowH L h h')
    (hd : data.length = data'.length) :
    J (Hmac.inputL DL h data) (Hmac.inputL DL h' data') (Hmac.input D h data) (LowH L) := by
  unfold Hmac.inputL Hmac.input
  obtain ⟨h1, h2, h3, h4⟩ := hl
  rw [← h4]
  exact J.emit (J.guard (J.bind_of (L.input_j h1 hd) (hs := fun e e' he => J.pure ⟨he, h2, h3, rfl⟩)))

theorem Hmac.raw_resultL_j (L : DigestLeak D DL) (h h' : Hmac δ) (n : Nat) (hl : LowH L h h') :
    J (Hmac.raw_resultL DL h n) (Hmac.raw_resultL DL h' n) (Hmac.raw_result D h n)
      (fun r r' => LowH L r.1 r'.1 ∧ r.2.length = r'.2.length) := by
  unfold Hmac.raw_resultL Hmac.raw_result
  obtain ⟨h1, h2, h3, h4⟩ := hl
  rw [← h4]
  refine J.emit (J.bind_of (R := LowH L) (J.ite Iff.rfl ?_ (J.pure ⟨h1, h2, h3, h4⟩)) (hs := fun s s' hs => ?_))
  · refine J.bind_of2 (L.result_j n h1) (hs := fun r o r' o' hr => ?_)
    refine J.bind_of (L.reset_j hr.1) (hs := fun e e' he => ?_)
    refine J.bind_of (L.input_j he h3) (hs := fun e2 e2' he2 => ?_)
    exact J.bind_of (L.input_j he2 hr.2) (hs := fun e3 e3' he3 => J.pure ⟨he3, h2, h3, rfl⟩)
  · exact J.bind_of2 (L.result_j n hs.1)
      (hs := fun r o r' o' hr => J.pure ⟨⟨hr.1, hs.2.1, hs.2.2.1, hs.2.2.2⟩, hr.2⟩)

theorem Hmac.resultL_j (L : DigestLeak D DL) (h h' : Hmac δ) (hl : LowH L h h') :
    J (Hmac.resultL D DL h) (Hmac.resultL D DL h') (Hmac.result D h)
      (fun r r' => LowH L r.1 r'.1 ∧ r.2.length = r'.2.length) := by
  unfold Hmac.resultL Hmac.result
  rw [← L.output_bytes_pub _ _ hl.1]
  exact J.emit (Hmac.raw_resultL_j L h h' _ hl)

/-- **(d)**: indistinguishable digest objects, keys of the same length, messages of the same length ⇒ the same trace, the same
    panic behaviour, tags of the same length; and the instrumented one-shot MAC computes `oneShot` -/
theorem hmacOneShotL_j (L : DigestLeak D DL) (d d' : δ) (key key' msg msg' : Bytes) (hd : L.pub d = L.pub d')
    (hk : key.length = key'.length) (hm : msg.length = msg'.length) :
    J (hmacOneShotL D DL d key msg) (hmacOneShotL D DL d' key' msg') (oneShot D d key msg)
      (fun t t' => t.length = t'.length) := by
  unfold hmacOneShotL oneShot
  refine J.bind_of (Hmac.newL_j L d d' key key' hd hk) (hs := fun h h' hh => ?_)
  refine J.bind_of (Hmac.inputL_j L h h' msg msg' hh hm) (hs := fun h1 h1' hh1 => ?_)
  exact J.map _ (Hmac.resultL_j L h1 h1' hh1) (fun r r' hr => hr.2)

/-! ### (d) hash-engine buffering: `FixedBuffer::input` -/
section FixedBuf
variable {σ : Type}

/-- two buffers are indistinguishable: same array size, same fill.  It is `LowBX` at equal lengths BY DEFINITION: a `LowB` fact is
    accepted where `LowBX (fun a a' => a.length = a'.length)` is asked, and back (the MD users of `inputL_j .length` rely on it). -/
def LowB (b b' : FixedBuffer) : Prop := b.buffer.length = b'.buffer.length ∧ b.buffer_idx = b'.buffer_idx

theorem slice_rel (a a' : Bytes) (lo hi : Nat) (h : a.length = a'.length) :
    ORel (fun x x' => x.length = x'.length) (slice a lo hi) (slice a' lo hi) := by
  unfold slice
  rw [h]
  refine ORel.ite Iff.rfl (ORel.pure ?_) ORel.none
  simp only [List.length_take, List.length_drop, h]

theorem copy_from_slice_rel (d d' : Bytes) (lo hi : Nat) (s s' : Bytes) (hd : d.length = d'.length)
    (hs : s.length = s'.length) :
    ORel (fun x x' => x.length = x'.length) (copy_from_slice d lo hi s) (copy_from_slice d' lo hi s') := by
  unfold copy_from_slice
  rw [hd, hs]
  refine ORel.ite Iff.rfl (ORel.pure ?_) ORel.none
  simp only [List.length_append, List.length_take, List.length_drop, hd, hs]

/-- What `FixedBuffer` does with byte strings (cut a slice, overwrite a range, test a length) respects `X`.  Two relations are
    used: equal LENGTHS (non-interference: the contents are secret) and equality (erasure alone: `NI m m Eq` holds for every `m`,
    also for a callback that is only known to erase). -/
structure DataRel (X : Bytes → Bytes → Prop) : Prop where
  refl : ∀ a, X a a
  len : ∀ {a a'}, X a a' → a.length = a'.length
  slice : ∀ {a a'} (lo hi : Nat), X a a' → ORel X (slice a lo hi) (slice a' lo hi)
  copy : ∀ {d d' s s'} (lo hi : Nat), X d d' → X s s' → ORel X (copy_from_slice d lo hi s) (copy_from_slice d' lo hi s')

theorem DataRel.length : DataRel (fun a a' => a.length = a'.length) :=
  ⟨fun _ => rfl, id, fun lo hi h => slice_rel _ _ lo hi h, fun lo hi hd hs => copy_from_slice_rel _ _ lo hi _ _ hd hs⟩

theorem DataRel.eq : DataRel Eq :=
  ⟨fun _ => rfl, congrArg _, fun _ _ h => h ▸ ORel.refl_eq _, fun _ _ hd hs => hd ▸ hs ▸ ORel.refl_eq _⟩

def LowBX (X : Bytes → Bytes → Prop) (b b' : FixedBuffer) : Prop := X b.buffer b'.buffer ∧ b.buffer_idx = b'.buffer_idx

variable {R : σ → σ → Prop} {X : Bytes → Bytes → Prop}

theorem FixedBuffer.input_restL_j (hX : DataRel X) (N : Nat) (b b' : FixedBuffer) (inp inp' : Bytes) (i : Nat)
    (funcL : σ → Bytes → LO σ) (func : σ → Bytes → Option σ)
    (hf : ∀ s s' x x', R s s' → X x x' → J (funcL s x) (funcL s' x') (func s x) R)
    (st st' : σ) (hb : LowBX X b b') (hi : X inp inp') (hst : R st st') :
    J (FixedBuffer.input_restL N b inp i funcL st) (FixedBuffer.input_restL N b' inp' i funcL st')
      (FixedBuffer.input_rest N b inp i func st) (fun r r' => LowBX X r.1 r'.1 ∧ R r.2 r'.2) := by
  unfold FixedBuffer.input_restL FixedBuffer.input_rest
  dsimp only
  rw [← hX.len hi, ← hb.2]
  refine J.emit (J.guard (J.emit ?_))
  refine J.bind_of2 (R := fun p p' => R p.1 p'.1 ∧ p.2 = p'.2) (J.ite Iff.rfl ?_ (J.pure ⟨hst, rfl⟩))
    (hs := fun s j s' j' hp => ?_)
  · refine J.emit (J.emit (J.bind_of (J.lift (hX.slice _ _ hi)) (hs := fun x x' hx => ?_)))
    exact J.bind_of (hf st st' x x' hst hx) (hs := fun s s' hs => J.pure ⟨hs, rfl⟩)
  · obtain ⟨hs, rfl⟩ : R s s' ∧ j = j' := hp
    refine J.guard (J.emit (J.bind_of (J.lift (hX.slice _ _ hi)) (hs := fun x x' hx => ?_)))
    exact J.bind_of (J.lift (hX.copy _ _ hb.1 hx)) (hs := fun y y' hy => J.pure ⟨⟨hy, rfl⟩, hs⟩)

/-- **`FixedBuffer::input`**: same array size, same fill, inputs of the same LENGTH, and a callback whose leakage depends
    on the length of its argument only ⇒ same trace, same panics, same fill afterwards; and it computes
    `Impl.FixedBuffer.input` when the callback computes `func` (stated for any `DataRel`: see there) -/
theorem FixedBuffer.inputL_j (hX : DataRel X) (N : Nat) (b b' : FixedBuffer) (inp inp' : Bytes)
    (funcL : σ → Bytes → LO σ) (func : σ → Bytes → Option σ)
    (hf : ∀ s s' x x', R s s' → X x x' → J (funcL s x) (funcL s' x') (func s x) R)
    (st st' : σ) (hb : LowBX X b b') (hi : X inp inp') (hst : R st st') :
    J (FixedBuffer.inputL N b inp funcL st) (FixedBuffer.inputL N b' inp' funcL st')
      (FixedBuffer.input N b inp func st) (fun r r' => LowBX X r.1 r'.1 ∧ R r.2 r'.2) := by
  unfold FixedBuffer.inputL FixedBuffer.input
  dsimp only
  rw [← hX.len hi, ← hb.2]
  refine J.emit (J.ite Iff.rfl (J.guard (J.emit (J.ite Iff.rfl ?_ ?_)))
    (FixedBuffer.input_restL_j hX N b b' inp inp' 0 funcL func hf st st' hb hi hst))
  · refine J.emit (J.bind_of (J.lift (hX.slice _ _ hi)) (hs := fun x x' hx => ?_))
    refine J.bind_of (J.lift (hX.copy _ _ hb.1 hx)) (hs := fun y y' hy => ?_)
    refine J.bind_of (hf st st' y y' hst hy) (hs := fun s s' hs => ?_)
    exact FixedBuffer.input_restL_j hX N ⟨y, 0⟩ ⟨y', 0⟩ inp inp' _ funcL func hf s s' ⟨hy, rfl⟩ hi hs
  · refine J.emit (J.emit (J.bind_of (J.lift (hX.copy _ _ hb.1 hi))
      (hs := fun y y' hy => J.pure ⟨⟨hy, rfl⟩, hst⟩)))

/-- the diagonal of `J` for a callback that is only known to erase -/
theorem J.of_erase {funcL : σ → Bytes → LO σ} {func : σ → Bytes → Option σ} (hf : ∀ s b, (funcL s b).val = func s b)
    (s s' : σ) (x x' : Bytes) (hs : s = s') (hx : x = x') : J (funcL s x) (funcL s' x') (func s x) Eq :=
  hs ▸ hx ▸ ⟨hf s x, NI.refl _⟩

/-- erasure to `Impl.FixedBuffer.input`, the model the MD-engine theorems of C01 / C02 are about -/
theorem FixedBuffer.inputL_val (N : Nat) (self : FixedBuffer) (inp : Bytes)
    (funcL : σ → Bytes → LO σ) (func : σ → Bytes → Option σ) (hf : ∀ s b, (funcL s b).val = func s b) (st : σ) :
    (FixedBuffer.inputL N self inp funcL st).val = FixedBuffer.input N self inp func st :=
  (FixedBuffer.inputL_j .eq N self self inp inp funcL func (J.of_erase hf) st st ⟨rfl, rfl⟩ rfl rfl).val

end FixedBuf

end Cx.Proofs.LeakModel
