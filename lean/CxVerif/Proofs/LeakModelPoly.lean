/-
  Proofs.LeakModelPoly — (c) Poly1305.  `SimE m x Q`: the instrumented `m` computes the plain model `x` (erasure) and,
  whenever that is `.ok a`, `Q a (trace of m)` holds; one walk over a `do` block proves both.  `Q` says that the
  trace is an explicit function of the PUBLIC shadow of the state (`finalized`, `leftover`) and of the LENGTHS of the
  inputs (the shadow functions `blockT … macT`), and carries the public fields of the new state to the next call.
-/
import CxVerif.Proofs.LeakModel
namespace Cx.Proofs.LeakModel
open Cx.Impl.LeakModel Cx.Impl.Poly1305

structure SimE {ε α : Type} (m : LeakM (Except ε α)) (x : Except ε α) (Q : α → Trace → Prop) : Prop where
  val : m.val = x
  post : ∀ a, x = .ok a → Q a m.tr

section
variable {ε α β : Type} {P Q : α → Trace → Prop} {S : β → Trace → Prop} {m : LeakM (Except ε α)} {x y : Except ε α}
  {r : Except ε β} {kp : α → Except ε β}

theorem SimE.pure (h : ∀ a, x = .ok a → Q a []) : SimE (Pure.pure x) x Q := ⟨rfl, h⟩

theorem SimE.ok {a : α} (h : Q a []) : SimE (Pure.pure (.ok a) : LeakM (Except ε α)) (.ok a) Q :=
  .pure fun _ e => by cases e; exact h

theorem SimE.error (e : ε) : SimE (Pure.pure (.error e) : LeakM (Except ε α)) (.error e) Q := .pure fun _ h => nomatch h

theorem SimE.emit {e : Event} (h : SimE m x (fun a t => Q a (e :: t))) : SimE (emit e >>= fun _ => m) x Q :=
  ⟨h.val, h.post⟩

theorem SimE.ite {c : Prop} [Decidable c] {t e : LeakM (Except ε α)} (ht : c → SimE t x Q) (he : ¬ c → SimE e y Q) :
    SimE (if c then t else e) (if c then x else y) Q := by
  by_cases h : c
  · rw [if_pos h, if_pos h]; exact ht h
  · rw [if_neg h, if_neg h]; exact he h

theorem SimE.mono (h : SimE m x P) (hq : ∀ a t, P a t → Q a t) : SimE m x Q := ⟨h.val, fun a e => hq a _ (h.post a e)⟩

/-- A call that may fail: the instrumented continuation `k` matches on the outcome; the plain model `r` is any term
    (the side conditions: see `LO.erase_bind_of`, Proofs/LeakModel.lean). -/
theorem SimE.bind_of {k : Except ε α → LeakM (Except ε β)} (h : SimE m x P)
    (hs : ∀ a t, P a t → SimE (k (.ok a)) (kp a) (fun b u => S b (t ++ u)))
    (hk : ∀ e, (k (.error e)).val = .error e := by intro e; rfl)
    (he : ∀ e, x = .error e → r = .error e := by intro e h; rw [h])
    (hr : ∀ a, x = .ok a → r = kp a := by intro a e; rewrite [e]; dsimp only) : SimE (m >>= k) r S := by
  suffices h' : SimE (k m.val) r (fun b u => S b (m.tr ++ u)) from ⟨h'.val, h'.post⟩
  rw [h.val]
  cases hx : x with
  | error e => rw [he e hx]; exact ⟨hk e, fun _ hb => nomatch hb⟩
  | ok a => rw [hr a hx]; exact hs a _ (h.post a hx)

theorem SimE.bind_opt {m : LeakM (Option α)} {k : Option α → LeakM (Except ε β)} {x : Option α} {T : Trace}
    (hv : m.val = x) (ht : ∀ a, x = some a → m.tr = T) (hs : ∀ a, SimE (k (some a)) (kp a) (fun b u => S b (T ++ u)))
    (hn : x = none → ∃ e, r = .error e ∧ (k none).val = .error e := by intro h; rw [h]; exact ⟨_, rfl, rfl⟩)
    (hr : ∀ a, x = some a → r = kp a := by intro a e; rewrite [e]; dsimp only) : SimE (m >>= k) r S := by
  suffices h' : SimE (k m.val) r (fun b u => S b (m.tr ++ u)) from ⟨h'.val, h'.post⟩
  rw [hv]
  cases hx : x with
  | none => obtain ⟨e, h1, h2⟩ := hn hx; rw [h1]; exact ⟨h2, fun _ hb => nomatch hb⟩
  | some a => rw [hr a hx, ht a hx]; exact hs a

end

open Event in
def blockT (fin : Bool) : Trace := [branch false, branch fin]

/-- `block` touches only `h` -/
theorem blockL_sim (st : State) (m : Bytes) : SimE (blockL st m) (block st m) (fun st' t =>
    t = blockT st.finalized ∧ st'.finalized = st.finalized ∧ st'.leftover = st.leftover ∧ st'.buffer = st.buffer) := by
  unfold blockL block blockT
  refine SimE.emit (SimE.ite (fun _ => SimE.error _) (fun h => SimE.emit (SimE.pure fun a e => ?_)))
  rw [decide_eq_false h]
  split at e <;> split at e <;> cases e <;> exact ⟨rfl, rfl, rfl, rfl⟩

theorem finishTailL_val (st : State) : (finishTailL st).val = finishTail st := rfl

open Event in
/-- shadow of the `while` loop: trace and the length of the rest -/
def blocksT (fin : Bool) : Nat → Nat → Trace × Nat
  | 0, len => ([], len)
  | fuel + 1, len =>
    if len ≥ 16 then (branch true :: (blockT fin ++ (blocksT fin fuel (len - 16)).1), (blocksT fin fuel (len - 16)).2)
    else ([branch false], len)

theorem blocksL_sim (fuel : Nat) (st : State) (m : Bytes) : SimE (blocksL fuel st m) (blocks fuel st m) (fun r t =>
    t = (blocksT st.finalized fuel m.length).1 ∧ r.2.length = (blocksT st.finalized fuel m.length).2 ∧
      r.1.finalized = st.finalized ∧ r.1.leftover = st.leftover ∧ r.1.buffer = st.buffer) := by
  induction fuel generalizing st m with
  | zero => exact SimE.ok ⟨rfl, rfl, rfl, rfl, rfl⟩
  | succ n ih =>
    unfold blocksL blocks blocksT
    refine SimE.emit (SimE.ite (fun h1 => ?_) (fun h1 => SimE.ok ?_))
    · rw [if_pos h1, decide_eq_true h1]
      refine SimE.bind_of (blockL_sim st _) fun st1 t ⟨ht, f1, f2, f3⟩ => ?_
      have i := ih st1 (m.drop 16)
      rw [f1, f2, f3, List.length_drop] at i
      exact i.mono fun b u ⟨i1, i2⟩ => ⟨by rw [ht, i1], i2⟩
    · rw [if_neg h1, decide_eq_false h1]; exact ⟨rfl, rfl, rfl, rfl, rfl⟩

open Event in
/-- shadow of `inputTail`: trace and the new `leftover` -/
def inputTailT (fin : Bool) (len : Nat) : Trace × Nat :=
  ((blocksT fin len len).1 ++ [length (blocksT fin len len).2], (blocksT fin len len).2)

theorem inputTailL_sim (st : State) (m : Bytes) : SimE (inputTailL st m) (inputTail st m) (fun st' t =>
    t = (inputTailT st.finalized m.length).1 ∧ st'.leftover = (inputTailT st.finalized m.length).2 ∧
      st'.finalized = st.finalized) := by
  unfold inputTailL inputTail inputTailT
  refine SimE.bind_of (blocksL_sim _ st m) fun r t ⟨ht, i2, i3, _, _⟩ => ?_
  obtain ⟨st1, m1⟩ := r
  refine SimE.emit (SimE.ite (fun _ => SimE.ok ⟨?_, i2, i3⟩) (fun _ => SimE.error _))
  rw [ht, ← i2]

open Event in
theorem copyIntoL_val_tr (buf : Bytes) (off : Nat) (xs : Bytes) : (copyIntoL buf off xs).val = copyInto buf off xs ∧
    ∀ buf', copyInto buf off xs = some buf' →
      (copyIntoL buf off xs).tr = (List.range xs.length).map (fun i => index (off + i)) := by
  induction xs generalizing buf off with
  | nil => exact ⟨rfl, fun _ _ => rfl⟩
  | cons x xs ih =>
    unfold copyIntoL copyInto
    by_cases h : off < buf.length
    · rw [if_pos h, if_pos h]
      refine ⟨(ih _ _).1, fun b hb => ?_⟩
      simp only [bind_tr, emit_tr, (ih _ _).2 b hb, List.length_cons, List.range_succ_eq_map, List.map_cons,
        List.map_map, List.cons_append, List.nil_append, Nat.add_zero]
      congr 1
      apply List.map_congr_left
      intro i _
      simp only [Function.comp, Nat.succ_eq_add_one]
      congr 1; omega
    · rw [if_neg h, if_neg h]; exact ⟨rfl, fun _ h => nomatch h⟩

open Event in
/-- shadow of `input` on a non-finalized object: trace and the new `leftover` -/
def inputT (leftover len : Nat) : Trace × Nat :=
  if leftover > 0 then
    let want := min (16 - leftover) len
    let pre : Trace := [branch false, branch true, loopBound want] ++ (List.range want).map (fun i => index (leftover + i))
    if leftover + want < 16 then (pre ++ [branch true], leftover + want)
    else (pre ++ [branch false] ++ blockT false ++ (inputTailT false (len - want)).1, (inputTailT false (len - want)).2)
  else ([branch false, branch false] ++ (inputTailT false len).1, (inputTailT false len).2)

theorem inputL_sim (st : State) (data : Bytes) : SimE (inputL st data) (input st data) (fun st' t =>
    t = (inputT st.leftover data.length).1 ∧ st'.leftover = (inputT st.leftover data.length).2 ∧
      st'.finalized = false) := by
  unfold inputL input inputT
  dsimp only
  refine SimE.emit (SimE.ite (fun _ => SimE.error _) (fun hf => SimE.emit (SimE.ite (fun h0 => ?_) (fun h0 => ?_))))
  all_goals replace hf := eq_false_of_ne_true hf
  · rw [if_pos h0, decide_eq_true h0, hf]
    refine SimE.ite (fun _ => SimE.error _) (fun h1 => SimE.emit ?_)
    refine SimE.bind_opt (copyIntoL_val_tr _ _ _).1 (copyIntoL_val_tr _ _ _).2 fun buf => ?_
    rw [List.length_take, Nat.min_assoc, Nat.min_self]
    refine SimE.emit (SimE.ite (fun h2 => SimE.ok ?_) (fun h2 => ?_))
    · rw [if_pos h2, decide_eq_true h2]; exact ⟨rfl, rfl, rfl⟩
    · rw [if_neg h2, decide_eq_false h2]
      refine SimE.bind_of (blockL_sim _ _) fun st1 t ⟨ht, f1, _⟩ => ?_
      refine (inputTailL_sim _ _).mono fun st' u ⟨i1, i2, i3⟩ => ⟨?_, ?_, i3.trans f1⟩
      · rw [ht, i1]; simp only [f1, List.length_drop, List.append_assoc, List.cons_append, List.nil_append]
      · rw [i2]; simp only [f1, List.length_drop]
  · rw [if_neg h0, decide_eq_false h0]
    refine (inputTailL_sim _ _).mono fun st' u ⟨i1, i2, i3⟩ => ?_
    rw [hf] at i1 i2 i3 ⊢
    exact ⟨by rw [i1]; rfl, i2, i3⟩

def inputsT : Nat → List Nat → Trace × Nat
  | leftover, [] => ([], leftover)
  | leftover, n :: ns =>
    ((inputT leftover n).1 ++ (inputsT (inputT leftover n).2 ns).1, (inputsT (inputT leftover n).2 ns).2)

theorem inputsL_sim (st : State) (cs : List Bytes) (hf : st.finalized = false) : SimE (inputsL st cs) (inputs st cs)
    (fun st' t => t = (inputsT st.leftover (cs.map List.length)).1 ∧
      st'.leftover = (inputsT st.leftover (cs.map List.length)).2 ∧ st'.finalized = false) := by
  induction cs generalizing st with
  | nil => exact SimE.ok ⟨rfl, rfl, hf⟩
  | cons c cs ih =>
    unfold inputsL inputs
    refine SimE.bind_of (inputL_sim st c) fun st1 t ⟨i1, i2, i4⟩ => ?_
    refine (ih st1 i4).mono fun st' u ⟨j1, j2, j3⟩ => ?_
    rw [i2] at j1 j2
    exact ⟨by rw [i1, j1]; rfl, j2, j3⟩

open Event in
def finishT (leftover : Nat) : Trace :=
  if leftover > 0 then [branch true, index leftover, loopBound (16 - (leftover + 1))] ++ blockT true
  else [branch false]

theorem finishL_sim (v : Variant) (st : State) :
    SimE (finishL v st) (finish v st) (fun _ t => t = finishT st.leftover) := by
  unfold finishL finish finishT
  dsimp only
  refine SimE.emit (SimE.ite (fun h0 => SimE.emit (SimE.ite (fun _ => SimE.emit ?_) (fun _ => SimE.error _))) (fun h0 => ?_))
  · rw [if_pos h0, decide_eq_true h0]
    refine SimE.bind_of (blockL_sim _ _) fun st1 t ⟨ht, _⟩ => SimE.pure fun _ _ => ?_
    rw [ht]; rfl
  · rw [if_neg h0, decide_eq_false h0]
    cases v <;> exact SimE.pure fun _ _ => rfl

/-- the trace is stated for the only use, on an object that is not finalized -/
theorem raw_resultL_sim (v : Variant) (st : State) (n : Nat) : SimE (raw_resultL v st n) (raw_result v st n)
    (fun _ t => st.finalized = false → t = [.length n, .branch true] ++ finishT st.leftover) := by
  unfold raw_resultL raw_result
  refine SimE.emit (SimE.ite (fun _ => SimE.error _) (fun _ => SimE.emit (SimE.ite (fun _ => ?_) (fun h => SimE.ok fun hf => ?_))))
  · refine SimE.bind_of (finishL_sim v st) fun st1 t ht => SimE.ok fun hf => ?_
    rw [ht, hf, List.append_nil]; rfl
  · rw [hf] at h; exact absurd rfl h

open Event in
/-- shadow of `new; input…; raw_result(16 bytes)` -/
def macT (lens : List Nat) : Trace :=
  (inputsT 0 lens).1 ++ [length 16, branch true] ++ finishT (inputsT 0 lens).2

/-- **erasure and trace (c)**: `macL` computes `mac`, and a MAC computation that does not panic has the trace `macT` of the
    chunk LENGTHS -/
theorem macL_sim (v : Variant) (key : Bytes) (chunks : List Bytes) :
    SimE (macL v key chunks) (mac v key chunks) (fun _ t => t = macT (chunks.map List.length)) := by
  unfold macL mac macT
  refine SimE.bind_of (inputsL_sim (new key) chunks rfl) fun st t ⟨ht, hl, hf⟩ => ?_
  refine SimE.bind_of (raw_resultL_sim v st 16) fun r u hu => ?_
  obtain ⟨_, tag⟩ := r
  refine SimE.ok ?_
  rw [ht, hu hf, hl, List.append_nil, List.append_assoc]; rfl

end Cx.Proofs.LeakModel
