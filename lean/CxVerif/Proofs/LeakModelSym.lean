/-
  Proofs.LeakModelSym — (e) ChaCha / Salsa `process`: erasure and non-interference of the instrumented context
  functions, generic in the instrumented block generator; the instances for ChaCha (portable and SSE2 engine, each with
  the IETF and with the original 64-bit counter handling) and for Salsa.
  The relational judgment of the writer monad with `Except` values is defined here (the AEAD, Proofs/LeakModelAead.lean,
  uses it too): `NIE m m' R`, two runs have the same trace, fail together WITH THE SAME MESSAGE (`ExRel`; that is more than
  `NI` of Proofs/LeakJoint.lean says, which has forgotten the message) and otherwise end in `R`-related values.
-/
import CxVerif.Impl.LeakModelSym
import CxVerif.Proofs.LeakModel
import CxVerif.Proofs.ByteLemmas
import CxVerif.Proofs.RefusalStream
namespace Cx.Proofs.LeakModel
open Cx.Impl Cx.Impl.LeakModel Cx.Impl.StreamCtx

section Stream
variable {σ : Type}

/-- what has to be known about an instrumented block generator `G` for the generator `g` of a context type:
    it computes `g` (erasure) and its events depend on a PUBLIC projection `pub` of the engine state only (the block
    counter), on which the increment acts: states with the same projection have increments with the same projection -/
structure BlockGenLeak (g : BlockGen σ) (G : BlockGenL σ) where
  π : Type
  pub : σ → π
  block_val : ∀ s, (G.blockL s).val = g.block s
  increment_val : ∀ s, (G.incrementL s).val = g.increment s
  block_tr : ∀ s s', pub s = pub s' → (G.blockL s).tr = (G.blockL s').tr
  increment_tr : ∀ s s', pub s = pub s' → (G.incrementL s).tr = (G.incrementL s').tr
  increment_pub : ∀ s s', pub s = pub s' → pub (g.increment s) = pub (g.increment s')
  block_len : ∀ s, (g.block s).length = 64

variable {g : BlockGen σ} {G : BlockGenL σ}

theorem updateL_val (L : BlockGenLeak g G) (c : Ctx σ) : (updateL G c).val = update g c := by
  simp only [updateL, update, bind_val, pure_val, L.block_val, L.increment_val]

theorem xor_keystream_mutL_val (a b : Bytes) : (xor_keystream_mutL a b).val = xor_keystream_mut a b := rfl

theorem process_mutL_val (L : BlockGenLeak g G) (c : Ctx σ) (data : Bytes) :
    (process_mutL G c data).val = process_mut g c data := by
  generalize hn : data.length = n
  induction n using Nat.strongRecOn generalizing c data with
  | _ n ih =>
  cases data with
  | nil => unfold process_mutL process_mut; rfl
  | cons d ds =>
    unfold process_mutL process_mut
    rw [bind_val, bind_val, bind_val, ite_val (fun _ => updateL_val L c) (fun _ => rfl)]
    generalize (if c.offset = 64 then update g c else c) = c1
    dsimp only
    by_cases hlt : c1.offset < 64
    · rw [dif_pos hlt, dif_pos hlt]
      refine bind_val_of (xor_keystream_mutL_val _ _) fun out => ?_
      refine bind_val_of (ih _ ?_ _ _ rfl) fun _ => rfl
      simp only [List.length_drop, List.length_cons, ← hn]; omega
    · rw [dif_neg hlt, dif_neg hlt]; rfl

theorem processL_val (L : BlockGenLeak g G) (c : Ctx σ) (input : Bytes) (outputLen : Nat) :
    (processL G c input outputLen).val = process g c input outputLen := by
  unfold processL process
  exact ite_val (fun _ => process_mutL_val L _ _) (fun _ => rfl)

def ExRel {α : Type} (R : α → α → Prop) : Except String α → Except String α → Prop
  | .error e, .error e' => e = e'
  | .ok a, .ok a' => R a a'
  | _, _ => False

theorem ExRel.error {α : Type} {R : α → α → Prop} (e : String) : ExRel R (.error e) (.error e) := rfl
theorem ExRel.ok {α : Type} {R : α → α → Prop} {a a' : α} (h : R a a') : ExRel R (.ok a) (.ok a') := h

theorem ExRel.elim {α : Type} {R : α → α → Prop} {x x' : Except String α} (h : ExRel R x x') :
    (∃ e, x = .error e ∧ x' = .error e) ∨ (∃ a a', x = .ok a ∧ x' = .ok a' ∧ R a a') := by
  cases x with
  | error e =>
    cases x' with
    | error e' => left; exact ⟨e, rfl, by rw [show e = e' from h]⟩
    | ok a' => exact absurd h (by simp [ExRel])
  | ok a =>
    cases x' with
    | error e' => exact absurd h (by simp [ExRel])
    | ok a' => right; exact ⟨a, a', rfl, rfl, h⟩

structure NIE {α : Type} (m m' : LeakM (Except String α)) (R : α → α → Prop) : Prop where
  tr : m.tr = m'.tr
  res : ExRel R m.val m'.val

theorem NIE.pure_ok {α : Type} {R : α → α → Prop} {a a' : α} (h : R a a') :
    NIE (pure (.ok a) : LeakM (Except String α)) (pure (.ok a')) R := ⟨rfl, .ok h⟩

theorem NIE.pure_error {α : Type} {R : α → α → Prop} (e : String) :
    NIE (pure (.error e) : LeakM (Except String α)) (pure (.error e)) R := ⟨rfl, .error e⟩

/-- `W`: a step in the plain writer monad, which cannot fail -/
theorem NIE.bindW {α β : Type} {S : α → α → Prop} {R : β → β → Prop} {m m' : LeakM α}
    {k k' : α → LeakM (Except String β)} (ht : m.tr = m'.tr) (hv : S m.val m'.val)
    (hk : ∀ a a', S a a' → NIE (k a) (k' a') R) : NIE (m >>= k) (m' >>= k') R :=
  ⟨by rw [bind_tr, bind_tr, ht, (hk _ _ hv).tr], (hk _ _ hv).res⟩

/-- a step that may fail; the continuation is given on `.error e` and on `.ok a` (it reduces there, however its
    `match` is written) -/
theorem NIE.bind_cases {α β : Type} {R : α → α → Prop} {S : β → β → Prop} {m m' : LeakM (Except String α)}
    {k k' : Except String α → LeakM (Except String β)} (h : NIE m m' R)
    (he : ∀ e, NIE (k (.error e)) (k' (.error e)) S) (hk : ∀ a a', R a a' → NIE (k (.ok a)) (k' (.ok a')) S) :
    NIE (m >>= k) (m' >>= k') S := by
  refine NIE.bindW h.tr h.res (fun x x' hx => ?_)
  rcases hx.elim with ⟨e, rfl, rfl⟩ | ⟨a, a', rfl, rfl, hr⟩
  · exact he e
  · exact hk a a' hr

theorem NIE.emit {α : Type} {R : α → α → Prop} (e : Event) {m m' : LeakM (Except String α)} (h : NIE m m' R) :
    NIE (emit e >>= fun _ => m) (emit e >>= fun _ => m') R := NIE.bindW (S := fun _ _ => True) rfl trivial (fun _ _ _ => h)

theorem NIE.ite {α : Type} {R : α → α → Prop} {c : Prop} [Decidable c] {t e t' e' : LeakM (Except String α)}
    (ht : NIE t t' R) (he : NIE e e' R) : NIE (if c then t else e) (if c then t' else e') R := by
  by_cases h : c
  · rw [if_pos h, if_pos h]; exact ht
  · rw [if_neg h, if_neg h]; exact he

theorem NIE.dite {α : Type} {R : α → α → Prop} {c : Prop} [Decidable c] {t t' : c → LeakM (Except String α)}
    {e e' : ¬ c → LeakM (Except String α)} (ht : ∀ h, NIE (t h) (t' h) R) (he : ∀ h, NIE (e h) (e' h) R) :
    NIE (dite c t e) (dite c t' e') R := by
  by_cases h : c
  · rw [dif_pos h, dif_pos h]; exact ht h
  · rw [dif_neg h, dif_neg h]; exact he h

theorem NIE.mono {α : Type} {R S : α → α → Prop} {m m' : LeakM (Except String α)} (h : NIE m m' R)
    (hrs : ∀ a a', R a a' → S a a') : NIE m m' S :=
  ⟨h.tr, by
    rcases h.res.elim with ⟨e, hv, hv'⟩ | ⟨a, a', hv, hv', hr⟩
    · rw [hv, hv']; exact .error e
    · rw [hv, hv']; exact .ok (hrs _ _ hr)⟩

theorem NIE.rel_of_ok {α : Type} {R : α → α → Prop} {m m' : LeakM (Except String α)} {a a' : α} (h : NIE m m' R)
    (hv : m.val = .ok a) (hv' : m'.val = .ok a') : R a a' := by
  rcases h.res.elim with ⟨e, h1, h2⟩ | ⟨b, b', h1, h2, hr⟩
  · rw [hv] at h1; cases h1
  · rw [hv] at h1; rw [hv'] at h2; cases h1; cases h2; exact hr

theorem NIE.isOk_eq {α : Type} {R : α → α → Prop} {m m' : LeakM (Except String α)} (h : NIE m m' R) :
    m.val.isOk = m'.val.isOk := by
  rcases h.res.elim with ⟨e, h1, h2⟩ | ⟨b, b', h1, h2, hr⟩
  · rw [h1, h2]
  · rw [h1, h2]; rfl

/-- two contexts are indistinguishable to an observer of the PUBLIC data: position in the keystream block, size of
    the keystream buffer (always 64), public projection (block counter) of the engine state -/
def LowEq (L : BlockGenLeak g G) (c c' : Ctx σ) : Prop :=
  c.offset = c'.offset ∧ c.output.length = c'.output.length ∧ L.pub c.state = L.pub c'.state

def LowCO (L : BlockGenLeak g G) (r r' : Ctx σ × Bytes) : Prop := LowEq L r.1 r'.1 ∧ r.2.length = r'.2.length

theorem updateL_ni (L : BlockGenLeak g G) (c c' : Ctx σ) (h : LowEq L c c') :
    (updateL G c).tr = (updateL G c').tr ∧ LowEq L (updateL G c).val (updateL G c').val := by
  obtain ⟨h1, h2, h3⟩ := h
  constructor
  · simp only [updateL, bind_tr, pure_tr, List.append_nil, L.block_tr _ _ h3, L.increment_tr _ _ h3]
  · simp only [updateL, bind_val, pure_val, LowEq, L.block_val, L.increment_val, L.block_len, true_and]
    exact L.increment_pub _ _ h3

theorem xor_keystream_mutL_nie (a b a' b' : Bytes) (ha : a.length = a'.length) (hb : b.length = b'.length) :
    NIE (xor_keystream_mutL a b) (xor_keystream_mutL a' b') (fun o o' => o.length = o'.length) := by
  refine ⟨by simp only [xor_keystream_mutL, bind_tr, emit_tr, pure_tr, ha, hb], ?_⟩
  show ExRel _ (xor_keystream_mut a b) (xor_keystream_mut a' b')
  unfold xor_keystream_mut
  rw [ha, hb]
  split
  · exact .ok (by simp only [List.length_zipWith, ha, hb])
  · exact .error _

set_option linter.unusedVariables false in
theorem tail_tr {α β : Type} (out : Bytes) (r : Except String (α × Bytes)) :
    (match r with
      | .error e => (pure (.error e) : LeakM (Except String (α × Bytes)))
      | .ok (c', rest) => pure (.ok (c', out ++ rest))).tr = [] := by
  cases r with
  | error e => rfl
  | ok p => rfl

/-- **non-interference of `process_mut`**, generic in the engine: indistinguishable contexts and data of the same
    length give the same trace, fail together, and end in indistinguishable contexts with outputs of the same length -/
theorem process_mutL_nie (L : BlockGenLeak g G) (c c' : Ctx σ) (data data' : Bytes) (hl : data.length = data'.length)
    (hlow : LowEq L c c') : NIE (process_mutL G c data) (process_mutL G c' data') (LowCO L) := by
  generalize hn : data.length = n
  induction n using Nat.strongRecOn generalizing c c' data data' with
  | _ n ih =>
  cases data with
  | nil =>
    have : data' = [] := List.eq_nil_of_length_eq_zero hl.symm
    subst this
    unfold process_mutL
    exact NIE.emit _ (NIE.pure_ok ⟨hlow, rfl⟩)
  | cons d ds =>
    cases data' with
    | nil => simp at hl
    | cons d' ds' =>
      have hds : ds.length = ds'.length := by simpa using hl
      unfold process_mutL
      rw [hlow.1]
      refine NIE.emit _ (NIE.emit _ (NIE.bindW (S := LowEq L) ?_ ?_ (fun c1 c1' h1 => ?_)))
      · split
        · exact (updateL_ni L c c' hlow).1
        · rfl
      · split
        · exact (updateL_ni L c c' hlow).2
        · exact hlow
      obtain ⟨o1, o2, o3⟩ := h1
      rw [o1, hds]
      refine NIE.dite (fun hlt => ?_) (fun _ => NIE.pure_error _)
      refine NIE.bind_cases (xor_keystream_mutL_nie _ _ _ _ ?_ ?_) (fun e => NIE.pure_error e) (fun out out' ho => ?_)
      · simp only [List.length_take, List.length_cons, hds]
      · simp only [List.length_drop, o2]
      refine NIE.bind_cases (ih _ ?_ _ _ _ _ ?_ ⟨rfl, o2, o3⟩ rfl) (fun e => NIE.pure_error e)
        (fun ⟨c2, rest⟩ ⟨c2', rest'⟩ hr => NIE.pure_ok ⟨hr.1, by simp only [List.length_append, ho, hr.2]⟩)
      · simp only [List.length_drop, List.length_cons, ← hn]; omega
      · simp only [List.length_drop, List.length_cons, hds]

theorem processL_nie (L : BlockGenLeak g G) (c c' : Ctx σ) (input input' : Bytes) (n : Nat)
    (hl : input.length = input'.length) (hlow : LowEq L c c') :
    NIE (processL G c input n) (processL G c' input' n) (LowCO L) := by
  unfold processL
  rw [hl]
  exact NIE.emit _ (NIE.ite (process_mutL_nie L c c' input input' hl hlow) (NIE.pure_error _))

theorem processL_ni (L : BlockGenLeak g G) (c c' : Ctx σ) (input input' : Bytes) (n : Nat)
    (hl : input.length = input'.length) (hlow : LowEq L c c') :
    (processL G c input n).tr = (processL G c' input' n).tr := (processL_nie L c c' input input' n hl hlow).tr

end Stream

section Instances
open Cx.Impl.ChaCha

theorem W16_output_bytes_length (w : W16) : (W16.output_bytes w).length = 64 := Bytes.flatMap_u32le_length w.toList

theorem sse2_output_bytes_length (s : Sse2.State) : (Sse2.output_bytes s).length = 64 := by
  have h (v : Sse2.M128) : (Sse2._mm_storeu_si128 v).length = 16 := Bytes.flatMap_u32le_length _
  simp only [Sse2.output_bytes, List.length_append, h]

/-- An instrumented generator whose block function emits one event `bev`, the same for every state, and whose
    increment has a trace `it` of a projection `pub` of the state (nothing, or the counter word that the carry branch
    of a 64-bit counter tests), which the increment maps through `step`: `pub` is all that an observer learns of the
    engine state. -/
def BlockGenLeak.ofTraces {σ π : Type} {g : BlockGen σ} {G : BlockGenL σ} (pub : σ → π) {bev : Event} (it : π → Trace)
    (step : π → π) (hb : ∀ s, G.blockL s = (emit bev >>= fun _ => pure (g.block s)))
    (hi : ∀ s, G.incrementL s = ⟨g.increment s, it (pub s)⟩) (hstep : ∀ s, pub (g.increment s) = step (pub s))
    (hlen : ∀ s, (g.block s).length = 64) : BlockGenLeak g G where
  π := π
  pub := pub
  block_val := fun s => by rw [hb]; rfl
  increment_val := fun s => by rw [hi]
  block_tr := fun s s' _ => by rw [hb, hb]; rfl
  increment_tr := fun s s' h => by rw [hi, hi, show pub s = pub s' from h]
  increment_pub := fun s s' h => by rw [hstep, hstep, show pub s = pub s' from h]
  block_len := hlen

/-- `ChaCha<R>` / `XChaCha<R>` on the portable engine: nothing of the engine state is observable -/
def refLeak (R : Nat) : BlockGenLeak (ChaCha.gen referenceEngine R) (ChaChaL.refGenL R) :=
  .ofTraces (fun _ => ()) (fun _ => []) id (fun _ => rfl) (fun _ => rfl) (fun _ => rfl)
    (fun _ => W16_output_bytes_length _)

/-- `ChaCha<R>` / `XChaCha<R>` on the SSE2 engine -/
def sse2Leak (R : Nat) : BlockGenLeak (ChaCha.gen sse2Engine R) (ChaChaL.sse2GenL R) :=
  .ofTraces (fun _ => ()) (fun _ => []) id (fun _ => rfl) (fun _ => rfl) (fun _ => rfl)
    (fun _ => sse2_output_bytes_length _)

/-- `ChaChaOriginal<R>` on the portable engine: the low counter word `state[12]` is observable (carry branch) -/
def refLeak64 (R : Nat) : BlockGenLeak (ChaChaOriginal.gen referenceEngine R) (ChaChaL.refGen64L R) :=
  .ofTraces (·.x12) (fun w => [.branch (w + 1 == 0)]) (· + 1) (fun _ => rfl) (fun _ => rfl)
    (fun s => by show (Reference.increment64 s).x12 = _; unfold Reference.increment64; dsimp only; split <;> rfl)
    (fun _ => W16_output_bytes_length _)

/-- `ChaChaOriginal<R>` on the SSE2 engine: lane 0 of row `d` -/
def sse2Leak64 (R : Nat) : BlockGenLeak (ChaChaOriginal.gen sse2Engine R) (ChaChaL.sse2Gen64L R) :=
  .ofTraces (·.d.l0) (fun w => [.branch (w == 0xFFFFFFFF)]) (· + 1) (fun _ => rfl) (fun _ => rfl)
    (fun s => by show (Sse2.increment64 s).d.l0 = _; unfold Sse2.increment64; dsimp only; split <;> rfl)
    (fun _ => sse2_output_bytes_length _)

/-- `Salsa<R>` / `XSalsa<R>`: the low counter word `state[8]` -/
def salsaLeak (R : Nat) : BlockGenLeak (Salsa.gen R) (SalsaL.genL R) :=
  .ofTraces (·.x8) (fun w => [.branch (w + 1 == 0)]) (· + 1) (fun _ => rfl) (fun _ => rfl)
    (fun s => by show (Salsa.increment s).x8 = _; unfold Salsa.increment; dsimp only; split <;> rfl)
    (fun _ => W16_output_bytes_length _)

end Instances

/-! ### fresh contexts are indistinguishable whatever the key -/
section Fresh
open Cx.Impl.ChaCha

theorem lowEq_mk {σ : Type} {g : BlockGen σ} {G : BlockGenL σ} (L : BlockGenLeak g G) (s s' : σ)
    (h : L.pub s = L.pub s') : LowEq L (StreamCtx.mk s) (StreamCtx.mk s') := ⟨rfl, rfl, h⟩

theorem ite_error_ok {α : Type} {c : Prop} [Decidable c] {e : String} {x : Except String α} {v : α}
    (h : (if c then .error e else x) = .ok v) : ¬ c ∧ x = .ok v := by
  by_cases hc : c
  · rw [if_pos hc] at h; cases h
  · rw [if_neg hc] at h; exact ⟨hc, h⟩

theorem chacha_new_ok {σ : Type} (E : Engine σ) (R : Nat) (key nonce : Bytes) (c : Ctx σ)
    (h : ChaCha.new E R key nonce = .ok c) : ∃ s, c = StreamCtx.mk s := by
  unfold ChaCha.new at h
  obtain ⟨_, h⟩ := ite_error_ok h
  obtain ⟨_, h⟩ := ite_error_ok h
  obtain ⟨_, h⟩ := ite_error_ok h
  split at h
  · cases h; exact ⟨_, rfl⟩
  · cases h

theorem xchacha_new_ok {σ : Type} (E : Engine σ) (R : Nat) (key nonce : Bytes) (c : Ctx σ)
    (h : XChaCha.new E R key nonce = .ok c) : ∃ s, c = StreamCtx.mk s := by
  unfold XChaCha.new at h
  obtain ⟨_, h⟩ := ite_error_ok h
  obtain ⟨_, h⟩ := ite_error_ok h
  split at h
  · cases h
  · dsimp only at h
    split at h
    · cases h; exact ⟨_, rfl⟩
    · cases h

open Cx.Proofs.Refusal in
theorem salsa_new_ok (R : Nat) (key nonce : Bytes) (c : Ctx W16) (h : Salsa.Salsa.new R key nonce = .ok c) :
    ∃ s, c = StreamCtx.mk s ∧ s.x8 = 0 := by
  have hv := valid_of_ok (guards_refused _ (Cx.Proofs.Salsa.roundsOk_iff R)) h
  obtain ⟨s, rfl, hs⟩ := (Cx.Proofs.Salsa.salsa_opens R key nonce hv.1 hv.2.1 hv.2.2).fresh h
  exact ⟨s, rfl, by rw [hs]; rfl⟩

open Cx.Proofs.Refusal in
theorem chachaOriginal_new_ok (R : Nat) (key nonce : Bytes) (c : Ctx W16)
    (h : ChaChaOriginal.new referenceEngine R key nonce = .ok c) : ∃ s, c = StreamCtx.mk s ∧ s.x12 = 0 := by
  have hv := valid_of_ok (guards_refused _ (Cx.Proofs.ChaCha.roundsOk_iff R)) h
  obtain ⟨s, rfl, hs⟩ := (Cx.Proofs.ChaCha.chachaorig_opens Cx.Proofs.ChaCha.referenceSim R key nonce hv.1 hv.2.1 hv.2.2).fresh h
  exact ⟨s, rfl, by rw [hs]; rfl⟩

end Fresh

end Cx.Proofs.LeakModel
