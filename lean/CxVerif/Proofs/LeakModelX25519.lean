/-
  Proofs.LeakModelX25519 — (a) the X25519 ladder: erasure of the instrumented `square_repeatdly`, of the two addition
  chains `invert` and `pow25523`, of the ladder step and loop, of `curve25519` and `curve25519_base`, and their
  (constant) traces.
-/
import CxVerif.Proofs.LeakModel
namespace Cx.Proofs.LeakModel
open Cx.Impl.CT Cx.Impl.LeakModel Cx.Impl.Fe64 Cx.Impl.X25519

/- The proofs below depend on this: with a transparent callee an `apply Sim.lift` / `Sim.pure` inside `leak_sim` SUCCEEDS by
   unfolding it and the walk goes the wrong way (`simp` made no progress, `rfl` fails, recursion depth).  `unfold` still works. -/
attribute [local irreducible] LO.lift LO.emit squareLoopL square_repeatdlyL chain250L invertL pow25523L ladderArithL ladderStepCoreL
  bitChoiceL ladderStepL ladderLoopL ladderMainL curve25519L curve25519_baseL

theorem squareLoopL_sim (f : Fe) (n : Nat) : Sim (squareLoopL f n) (square_repeatdly f n) [] := by
  induction n generalizing f with
  | zero => unfold squareLoopL; exact Sim.pure _
  | succ n ih =>
    unfold squareLoopL square_repeatdly
    exact Sim.bind_of (Sim.lift _) (fun e => by rw [e]) (fun g e => by rw [e]; exact ih g) (fun _ _ => rfl)

theorem square_repeatdlyL_sim (f : Fe) (n : Nat) :
    Sim (square_repeatdlyL f n) (square_repeatdly f n) [Event.loopBound n] := by
  unfold square_repeatdlyL
  exact Sim.emit_bind (squareLoopL_sim f n)

theorem square_repeatdlyL_const (f : Fe) (n : Nat) : Const (square_repeatdlyL f n) [Event.loopBound n] :=
  (square_repeatdlyL_sim f n).const

open Event in
/-- the loop bounds of the eight `square_repeatdly` calls of the common chain -/
def chain250T : Trace :=
  [loopBound 2, loopBound 5, loopBound 10, loopBound 20, loopBound 10, loopBound 50, loopBound 100, loopBound 50]

theorem chain250L_sim (z : Fe) : Sim (chain250L z) (chain250 z) chain250T := by
  unfold chain250L chain250
  leak_sim [square_repeatdlyL_sim]
  simp [chain250T]

theorem chain250L_const (z : Fe) : Const (chain250L z) chain250T := (chain250L_sim z).const

def invertT : Trace := chain250T ++ [Event.loopBound 5]

theorem invertL_sim (z : Fe) : Sim (invertL z) (invert z) invertT := by
  unfold invertL invert
  leak_sim [square_repeatdlyL_sim, chain250L_sim]
  rfl

def pow25523T : Trace := chain250T ++ [Event.loopBound 2]

theorem pow25523L_sim (z : Fe) : Sim (pow25523L z) (pow25523 z) pow25523T := by
  unfold pow25523L pow25523
  leak_sim [square_repeatdlyL_sim, chain250L_sim]
  rfl

theorem pow25523L_val (z : Fe) : (pow25523L z).val = pow25523 z := (pow25523L_sim z).val

theorem pow25523L_const (z : Fe) : Const (pow25523L z) pow25523T := (pow25523L_sim z).const

theorem ladderArithL_sim (a24p1 : Nat) (z5k : Z5) (x2 z2 x3 z3 : Fe) :
    Sim (ladderArithL a24p1 z5k x2 z2 x3 z3) (ladderArith a24p1 z5k x2 z2 x3 z3) [] := by
  unfold ladderArithL ladderArith
  leak_sim []
  simp

theorem ladderArithL_const (a24p1 : Nat) (z5k : Z5) (x2 z2 x3 z3 : Fe) :
    Const (ladderArithL a24p1 z5k x2 z2 x3 z3) [] := (ladderArithL_sim a24p1 z5k x2 z2 x3 z3).const

theorem ladderStepCoreL_sim (a24p1 : Nat) (z5k : Z5) (s : Ladder) (b : Choice) :
    Sim (ladderStepCoreL a24p1 z5k s b) (ladderStepCore a24p1 z5k s b) [] := by
  unfold ladderStepCoreL ladderStepCore
  exact Sim.bind_of (ladderArithL_sim _ _ _ _ _ _) (fun e => by rw [e]; rfl)
    (fun r e => by rw [e]; exact Sim.pure _) (fun _ _ => rfl)

theorem ladderStepCoreL_const (a24p1 : Nat) (z5k : Z5) (s : Ladder) (b : Choice) :
    Const (ladderStepCoreL a24p1 z5k s b) [] := (ladderStepCoreL_sim a24p1 z5k s b).const

theorem ladderStepL_sim (e : Bytes) (he : e.length = 32) (a24p1 : Nat) (z5k : Z5) (s : Ladder) (pos : Nat)
    (hp : pos < 255) :
    Sim (ladderStepL e he a24p1 z5k s pos hp) (ladderStep e he a24p1 z5k s pos hp) [Event.index (pos / 8)] := by
  unfold ladderStepL bitChoiceL ladderStep
  exact Sim.bind_of (Sim.emit_bind (Sim.pure _)) (fun e => by cases e) (fun b e => by cases e; exact ladderStepCoreL_sim _ _ _ _)
    (fun _ _ => rfl)

/-- the byte indices read by the iterations `pos = k-1, …, 0` -/
def ladderT : Nat → Trace
  | 0 => []
  | k + 1 => Event.index (k / 8) :: ladderT k

theorem ladderLoopL_sim (e : Bytes) (he : e.length = 32) (a24p1 : Nat) (z5k : Z5) (k : Nat) (hk : k ≤ 255)
    (s : Ladder) : Sim (ladderLoopL e he a24p1 z5k k hk s) (ladderLoop e he a24p1 z5k k hk s) (ladderT k) := by
  induction k generalizing s with
  | zero => unfold ladderLoopL; exact Sim.pure _
  | succ k ih =>
    unfold ladderLoopL ladderLoop
    exact Sim.bind (ladderStepL_sim e he a24p1 z5k s k (by omega)) (fun s' => ih (by omega) s')

/-- **the trace of X25519** (both functions): the loop bound, the 255 byte indices `254/8, …, 0/8`, the loop bounds
    of the inversion chain — a closed constant -/
def x25519T : Trace := Event.loopBound 255 :: (ladderT 255 ++ invertT)

theorem ladderMainL_sim (n : Bytes) (hn : n.length = 32) (x1 : Fe) (a24p1 : Nat) (z5k : Z5) :
    Sim (ladderMainL n hn x1 a24p1 z5k) (ladderMain n hn x1 a24p1 z5k) x25519T := by
  unfold ladderMainL ladderMain
  refine Sim.of_eq (Sim.emit_bind (Sim.bind (ladderLoopL_sim _ _ _ _ _ _ _) (fun s => Sim.bind (invertL_sim _)
    (fun zi => Sim.bind (Sim.lift _) (fun r => Sim.lift _))))) ?_
  simp only [x25519T, List.append_nil]

theorem curve25519L_sim (n p : Bytes) (hn : n.length = 32) (hp : p.length = 32) :
    Sim (curve25519L n p hn hp) (curve25519 n p hn hp) x25519T := by
  unfold curve25519L
  exact ladderMainL_sim n hn _ _ _

theorem curve25519_baseL_sim (n : Bytes) (hn : n.length = 32) :
    Sim (curve25519_baseL n hn) (curve25519_base n hn) x25519T := by
  unfold curve25519_baseL
  exact ladderMainL_sim n hn _ _ _

end Cx.Proofs.LeakModel
