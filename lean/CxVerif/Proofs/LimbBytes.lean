/-
  Proofs.LimbBytes — the little-endian bytes of a number given as limbs of given widths,
      x₀ + 2^w₀·(x₁ + 2^w₁·(x₂ + …))        (`lval`),
  as the packing loops of fe32 `to_bytes` and scalar32 `reduce`/`muladd` write them: `(x >> s) as u8` inside a limb,
  `((x >> s) | (y << k)) as u8` across the end of a limb.  `packG` is that loop as a function of the list of (width, limb)
  pairs — which expression stands at which byte follows from the widths alone — and a model's `pack` equals it on its limbs by
  `rfl`.  `packG_spec`: for digit limbs the bytes are `natToLE` of the number from bit `s` on; one induction over the bytes, whose
  cases are the ways a byte can lie (inside a limb, its last eight bits, across two limbs, in the last limb).  The lemmas speak
  about the `as u8`, shift and wrap operators of the fe32 model (`Impl.Fe32.u8of`, `shr`, `shl32`, `shl64`), which the scalar32
  model shares; `shl` is a parameter (`u8or_shl32`, `u8or_shl64`).  (Loading, the other way, is in Proofs/Bits.lean.)
-/
import CxVerif.Impl.Fe32
import CxVerif.Proofs.ByteLemmas
namespace Cx.Proofs.LimbBytes
open Cx.Impl.Fe32

theorem u8of_natCast (a : Nat) : u8of (a : Int) = UInt8.ofNat a := by
  unfold u8of
  rw [show ((a : Int) % 256) = ((a % 2^8 : Nat) : Int) from rfl, Int.toNat_natCast, UInt8.ofNat_mod_size]

theorem u8of_wrap32 (v : Int) : u8of (wrap32 v) = u8of v := by
  unfold u8of wrap32; congr 2; omega
theorem u8of_wrap64 (v : Int) : u8of (wrap64 v) = u8of v := by
  unfold u8of wrap64; congr 2; omega

theorem u8of_or (a y : Int) (k : Nat) (ha : 0 ≤ a) (hak : a < 2^k) (hy : 0 ≤ y) : u8of a ||| u8of (y * 2^k) = u8of (a + y * 2^k) := by
  obtain ⟨m, rfl⟩ := Int.eq_ofNat_of_zero_le ha
  obtain ⟨v, rfl⟩ := Int.eq_ofNat_of_zero_le hy
  rw [show ((v : Int) * 2^k) = ((v * 2^k : Nat) : Int) by norm_cast,
    show ((m : Int) + ((v * 2^k : Nat) : Int)) = ((m + v * 2^k : Nat) : Int) by norm_cast, u8of_natCast, u8of_natCast, u8of_natCast,
    ← UInt8.ofNat_or, Bytes.or_add _ _ _ (by exact_mod_cast hak)]

theorem u8or_shl32 (a y : Int) (k : Nat) (ha : 0 ≤ a) (hak : a < 2^k) (hy : 0 ≤ y) : u8or a (shl32 y k) = u8of (a + y * 2^k) := by
  unfold u8or shl32
  rw [u8of_wrap32, u8of_or a y k ha hak hy]

theorem u8or_shl64 (a y : Int) (k : Nat) (ha : 0 ≤ a) (hak : a < 2^k) (hy : 0 ≤ y) : u8or a (shl64 y k) = u8of (a + y * 2^k) := by
  unfold u8or shl64
  rw [u8of_wrap64, u8of_or a y k ha hak hy]

theorem two_pow_pos (k : Nat) : (0 : Int) < 2^k := Int.pow_pos (by decide)
theorem two_pow_ne (k : Nat) : (2 : Int)^k ≠ 0 := Int.ne_of_gt (two_pow_pos k)

def lval : List (Nat × Int) → Int
  | [] => 0
  | (w, x) :: l => x + 2^w * lval l

theorem lval_nonneg : ∀ {l : List (Nat × Int)}, (∀ p ∈ l, 0 ≤ p.2 ∧ p.2 < 2^p.1) → 0 ≤ lval l
  | [], _ => Int.le_refl 0
  | (w, _) :: _, h => Int.add_nonneg (h _ (List.mem_cons_self ..)).1
      (Int.mul_nonneg (Int.le_of_lt (two_pow_pos w)) (lval_nonneg fun p hp => h p (List.mem_cons_of_mem _ hp)))

theorem lval_shr (w s : Nat) (x : Int) (l : List (Nat × Int)) (hs : s ≤ w) :
    lval ((w, x) :: l) / 2^s = x / 2^s + 2^(w - s) * lval l := by
  obtain ⟨d, rfl⟩ := Nat.exists_eq_add_of_le hs
  rw [lval, Nat.add_sub_cancel_left, Int.pow_add, Int.mul_assoc, Int.add_mul_ediv_left _ _ (two_pow_ne s)]

theorem natToLE_consI {n : Nat} {V b : Int} {l : Bytes} (hV : 0 ≤ V) (hb : b % 256 = V % 256)
    (hl : l = natToLE n (V / 256).toNat) : u8of b :: l = natToLE (n + 1) V.toNat := by
  obtain ⟨m, rfl⟩ := Int.eq_ofNat_of_zero_le hV
  subst hl
  unfold u8of
  rw [hb, show ((m : Int) % 256) = ((m % 256 : Nat) : Int) from rfl, show ((m : Int) / 256) = ((m / 256 : Nat) : Int) from rfl]
  rfl

theorem lval_div (w : Nat) (x : Int) (l : List (Nat × Int)) (hx : 0 ≤ x ∧ x < 2^w) : lval ((w, x) :: l) / 2^w = lval l := by
  rw [lval_shr w w x l (Nat.le_refl w), Int.ediv_eq_zero_of_lt hx.1 hx.2, Nat.sub_self, Int.pow_zero, Int.one_mul, Int.zero_add]

theorem div_pow_add (v : Int) (a b : Nat) : v / 2^a / 2^b = v / 2^(a + b) := by
  rw [Int.pow_add, Int.ediv_ediv_of_nonneg (Int.le_of_lt (two_pow_pos a))]

theorem emod_256 (a r : Int) (j : Nat) (hj : 8 ≤ j) : (a + 2^j * r) % 256 = a % 256 := by
  obtain ⟨d, rfl⟩ := Nat.exists_eq_add_of_le hj
  rw [Int.pow_add, Int.mul_assoc]
  exact Int.add_mul_emod_self_left a 256 _

/-- the bytes a packing loop writes from bit `s` of the first limb on: `(x >> s) as u8` while eight bits of the limb are left,
    `((x >> s) | (y << k)) as u8` across the end of a limb with `k < 8` bits left, the next byte from bit `8 − k` of `y`; `n` bytes -/
def packG (shl : Int → Nat → Int) : Nat → Nat → List (Nat × Int) → Bytes
  | 0, _, _ => []
  | _ + 1, _, [] => []
  | n + 1, s, [(w, x)] => u8of (shr x s) :: packG shl n (s + 8) [(w, x)]
  | n + 1, s, (w, x) :: (w', y) :: l =>
    if s + 8 < w then u8of (shr x s) :: packG shl n (s + 8) ((w, x) :: (w', y) :: l)
    else if s + 8 = w then u8of (shr x s) :: packG shl n 0 ((w', y) :: l)
    else u8or (shr x s) (shl y (w - s)) :: packG shl n (s + 8 - w) ((w', y) :: l)

theorem packG_last {shl : Int → Nat → Int} (w : Nat) (x : Int) (hx : 0 ≤ x) :
    ∀ (n s : Nat), packG shl n s [(w, x)] = natToLE n (x / 2^s).toNat
  | 0, _ => by rw [packG]; rfl
  | n + 1, s => by
    rw [packG]
    refine natToLE_consI (Int.ediv_nonneg hx (Int.le_of_lt (two_pow_pos s))) rfl ?_
    rw [packG_last w x hx n (s + 8)]
    exact congrArg (fun v => natToLE n (Int.toNat v)) (div_pow_add x s 8).symm

theorem packG_spec {shl : Int → Nat → Int}
    (hshl : ∀ (a y : Int) (k : Nat), 0 ≤ a → a < 2^k → 0 ≤ y → u8or a (shl y k) = u8of (a + y * 2^k)) :
    ∀ (n s w : Nat) (x : Int) (l : List (Nat × Int)), s < w → (∀ p ∈ (w, x) :: l, 0 ≤ p.2 ∧ p.2 < 2^p.1) →
      (l.all fun p => 8 ≤ p.1) = true → packG shl n s ((w, x) :: l) = natToLE n (lval ((w, x) :: l) / 2^s).toNat
  | 0, _, _, _, _, _, _, _ => by rw [packG]; rfl
  | n + 1, s, w, x, [], _, hd, _ => by
    rw [packG_last w x (hd _ (List.mem_cons_self ..)).1, lval, lval, Int.mul_zero, Int.add_zero]
  | n + 1, s, w, x, (w', y) :: l, hs, hd, hw => by
    have hx := hd (w, x) (List.mem_cons_self ..)
    have hy := hd (w', y) (List.mem_cons_of_mem _ (List.mem_cons_self ..))
    have hd' : ∀ p ∈ (w', y) :: l, 0 ≤ p.2 ∧ p.2 < 2^p.1 := fun p hp => hd p (List.mem_cons_of_mem _ hp)
    obtain ⟨h8, hw'⟩ := Bool.and_eq_true_iff.1 (List.all_cons.symm.trans hw)
    replace h8 : 8 ≤ w' := of_decide_eq_true h8
    have hV := Int.ediv_nonneg (lval_nonneg hd) (Int.le_of_lt (two_pow_pos s))
    rw [packG]
    split
    · next h =>
      refine natToLE_consI hV ?_ ?_
      · rw [lval_shr w s x _ (by omega)]; exact (emod_256 _ _ _ (by omega)).symm
      · rw [packG_spec hshl n (s + 8) w x _ h hd hw]
        exact congrArg (fun v => natToLE n (Int.toNat v)) (div_pow_add _ s 8).symm
    · split
      · next _ h =>
        refine natToLE_consI hV ?_ ?_
        · rw [lval_shr w s x _ (by omega)]; exact (emod_256 _ _ _ (by omega)).symm
        · rw [packG_spec hshl n 0 w' y l (by omega) hd' hw']
          refine congrArg (fun v => natToLE n (Int.toNat v)) ?_
          rw [show (256 : Int) = 2^8 from rfl, div_pow_add, h, lval_div w x _ hx, Int.pow_zero, Int.ediv_one]
      · next h1 h2 =>
        have hk : 0 ≤ x / 2^s ∧ x / 2^s < 2^(w - s) := by
          refine ⟨Int.ediv_nonneg hx.1 (Int.le_of_lt (two_pow_pos s)), Int.ediv_lt_of_lt_mul (two_pow_pos s) ?_⟩
          rw [← Int.pow_add, Nat.sub_add_cancel (by omega)]; exact hx.2
        rw [show shr x s = x / 2^s from rfl, hshl _ y _ hk.1 hk.2 hy.1]
        refine natToLE_consI hV ?_ ?_
        · rw [lval_shr w s x _ (by omega), lval, Int.mul_add, ← Int.add_assoc, ← Int.mul_assoc, ← Int.pow_add, Int.mul_comm (2^(w - s)) y]
          exact (emod_256 _ _ _ (by omega)).symm
        · have hj : s + 8 = w + (s + 8 - w) := by omega
          generalize s + 8 - w = j at hj ⊢
          rw [packG_spec hshl n j w' y l (by omega) hd' hw']
          refine congrArg (fun v => natToLE n (Int.toNat v)) ?_
          rw [show (256 : Int) = 2^8 from rfl, div_pow_add, hj, ← div_pow_add, lval_div w x _ hx]

theorem packG_zero {shl : Int → Nat → Int}
    (hshl : ∀ (a y : Int) (k : Nat), 0 ≤ a → a < 2^k → 0 ≤ y → u8or a (shl y k) = u8of (a + y * 2^k)) (n : Nat) {w : Nat} {x : Int}
    {l : List (Nat × Int)} (hd : ∀ p ∈ (w, x) :: l, 0 ≤ p.2 ∧ p.2 < 2^p.1) (hw : (((w, x) :: l).all fun p => 8 ≤ p.1) = true) :
    packG shl n 0 ((w, x) :: l) = natToLE n (lval ((w, x) :: l)).toNat := by
  obtain ⟨h8, hw'⟩ := Bool.and_eq_true_iff.1 (List.all_cons.symm.trans hw)
  rw [packG_spec hshl n 0 w x l (Nat.lt_of_lt_of_le (by decide) (of_decide_eq_true h8)) hd hw', Int.pow_zero, Int.ediv_one]

end Cx.Proofs.LimbBytes
