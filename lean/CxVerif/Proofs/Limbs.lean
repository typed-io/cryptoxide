/-
  Proofs.Limbs — one weak carry pass over a list of unsigned columns, as a function, and the two ways a straight-line
  model runs it.  Core only: importable below every backend.
  * `pass w c ts` carries `c` into the columns `ts` (radix 2^w): digits and carry out; `sums` are the sums it forms.  It leaves
    digits (`pass_lt`) and is monotone, so the sums it forms on columns below the numerals `Bs` are below the sums it forms
    on `Bs` themselves (`sums_mono`, `sums_lt`): "no checked operation overflows" is ONE evaluation of the pass on numerals
    (`by decide`), not a side condition per step.
  * What a pass leaves is a function of the NUMBER it is run on: the digits of `val w ts + c` and what is above them
    (`pass_digits`), so a value argument about a pass needs no limbs.
  * `passM` is the shape of such a pass in a monadic model; its steps are parameters (`Step`: the checked sum of a column and
    the carry, in continuation form), so it serves any backend's checked addition and any way of writing mask and shift.
    A model's text is tied to it by REWRITING with `passM_nil`/`passM_cons` (`unfold f; simp only [passM_cons, passM_nil, …]`),
    never by `rfl`: the kernel's defeq check of `passM … = do-block` can run away.  `passM_eq` is for a model whose `lo`
    keeps the digit, `passM_digits` the same as a statement about the number; where `lo` keeps more (scalar64 keeps the low
    64 bits of a column and cuts several fields out of them) `passM_sums` hands over `lo` of every sum and `sums_digits` says
    what the digits are.
  * `passF` is the pass of a model without a monad, where it is a record of named values.
-/
namespace Cx.Proofs.Limbs

inductive All₂ {α β : Type} (R : α → β → Prop) : List α → List β → Prop
  | nil : All₂ R [] []
  | cons {a b as bs} : R a b → All₂ R as bs → All₂ R (a :: as) (b :: bs)

theorem All₂.four {α β : Type} {R : α → β → Prop} {a b c d : α} {x y z w : β} (h1 : R a x) (h2 : R b y) (h3 : R c z) (h4 : R d w) :
    All₂ R [a, b, c, d] [x, y, z, w] := .cons h1 (.cons h2 (.cons h3 (.cons h4 .nil)))

theorem forall_four {p : Nat → Prop} {a b c d : Nat} (h : ∀ x ∈ [a, b, c, d], p x) : p a ∧ p b ∧ p c ∧ p d :=
  ⟨h a (by simp), h b (by simp), h c (by simp), h d (by simp)⟩

theorem All₂.drop {α β : Type} {R : α → β → Prop} : ∀ {as : List α} {bs : List β} (n : Nat), All₂ R as bs → All₂ R (as.drop n) (bs.drop n)
  | _, _, 0, h => h
  | _, _, _ + 1, .nil => .nil
  | _, _, n + 1, .cons _ t => All₂.drop n t

theorem All₂.take {α β : Type} {R : α → β → Prop} : ∀ {as : List α} {bs : List β} (n : Nat), All₂ R as bs → All₂ R (as.take n) (bs.take n)
  | _, _, 0, _ => .nil
  | _, _, _ + 1, .nil => .nil
  | _, _, n + 1, .cons h t => .cons h (All₂.take n t)

theorem All₂.map {α β γ : Type} {R : β → γ → Prop} {f : α → β} {g : α → γ} (h : ∀ a, R (f a) (g a)) :
    ∀ l : List α, All₂ R (l.map f) (l.map g)
  | [] => .nil
  | a :: l => .cons (h a) (All₂.map h l)

theorem sum_le_of_lt : ∀ {qs Bs : List Nat}, All₂ (· < ·) qs Bs → qs.sum ≤ Bs.sum
  | _, _, .nil => Nat.le_refl _
  | _, _, .cons h t => by simp only [List.sum_cons]; have := sum_le_of_lt t; omega

theorem col_lt {a A T : Nat} {qs Bs : List Nat} (ha : a < A) (h : All₂ (· < ·) qs Bs) (hT : A + Bs.sum ≤ T := by decide) :
    a + qs.sum < T := by
  have := sum_le_of_lt h; omega

theorem col_le {a A T : Nat} {qs Bs : List Nat} (ha : a < A) (h : All₂ (· < ·) qs Bs) (hT : A + Bs.sum ≤ T := by decide) :
    a + qs.sum ≤ T := Nat.le_of_lt (col_lt ha h hT)

/-- the number with the radix-2^w digits (or columns) `ls`, least significant first -/
def val (w : Nat) : List Nat → Nat
  | [] => 0
  | l :: ls => l + 2^w * val w ls

theorem val_mono (w : Nat) : ∀ {ts Bs : List Nat}, All₂ (· ≤ ·) ts Bs → val w ts ≤ val w Bs
  | _, _, .nil => Nat.le_refl _
  | _, _, .cons h t => Nat.add_le_add h (Nat.mul_le_mul_left _ (val_mono w t))

def pass (w : Nat) : Nat → List Nat → List Nat × Nat
  | c, [] => ([], c)
  | c, t :: ts => ((t + c) % 2^w :: (pass w ((t + c) / 2^w) ts).1, (pass w ((t + c) / 2^w) ts).2)

def sums (w : Nat) : Nat → List Nat → List Nat
  | _, [] => []
  | c, t :: ts => (t + c) :: sums w ((t + c) / 2^w) ts

theorem pass_fst (w : Nat) : ∀ (ts : List Nat) (c : Nat), (pass w c ts).1 = (sums w c ts).map (· % 2^w)
  | [], _ => rfl
  | t :: ts, c => by simp only [pass, sums, List.map_cons, pass_fst w ts]

theorem pass_lt (w : Nat) : ∀ (ts : List Nat) (c : Nat), ∀ d ∈ (pass w c ts).1, d < 2^w
  | [], _, _, h => nomatch h
  | t :: ts, c, d, h => by
    rcases List.mem_cons.1 h with rfl | h
    · exact Nat.mod_lt _ (Nat.two_pow_pos w)
    · exact pass_lt w ts _ d h

theorem sums_mono (w : Nat) : ∀ {ts Bs : List Nat} {c C : Nat}, All₂ (· ≤ ·) ts Bs → c ≤ C →
    All₂ (· ≤ ·) (sums w c ts) (sums w C Bs) ∧ (pass w c ts).2 ≤ (pass w C Bs).2
  | _, _, _, _, .nil, hc => ⟨.nil, hc⟩
  | _, _, _, _, .cons ht hts, hc =>
    have h := sums_mono w hts (Nat.div_le_div_right (c := 2^w) (Nat.add_le_add ht hc))
    ⟨.cons (Nat.add_le_add ht hc) h.1, h.2⟩

theorem sums_lt {w lim : Nat} : ∀ {ts Bs : List Nat} {c C : Nat}, All₂ (· ≤ ·) ts Bs → c ≤ C → (∀ s ∈ sums w C Bs, s < lim) →
    ∀ s ∈ sums w c ts, s < lim
  | _, _, _, _, .nil, _, _, _, h => nomatch h
  | _, _, _, _, .cons ht hts, hc, hB, s, h => by
    rcases List.mem_cons.1 h with rfl | h
    · exact Nat.lt_of_le_of_lt (Nat.add_le_add ht hc) (hB _ (List.mem_cons_self ..))
    · exact sums_lt hts (Nat.div_le_div_right (Nat.add_le_add ht hc)) (fun s h => hB s (List.mem_cons_of_mem _ h)) s h

theorem map_sums {lo : Nat → Nat} {lim w : Nat} (hlo : ∀ s, s < lim → lo s = s % 2^w) : ∀ (ts : List Nat) (c : Nat),
    (∀ s ∈ sums w c ts, s < lim) → (sums w c ts).map lo = (pass w c ts).1
  | [], _, _ => rfl
  | t :: ts, c, h => by
    simp only [sums, pass, List.map_cons]
    rw [hlo _ (h _ (List.mem_cons_self ..)), map_sums hlo ts _ fun s hs => h s (List.mem_cons_of_mem _ hs)]

def digits (w : Nat) : Nat → Nat → List Nat
  | 0, _ => []
  | n + 1, N => N % 2^w :: digits w n (N / 2^w)

theorem val_digits (w : Nat) : ∀ (n N : Nat), val w (digits w n N) = N % 2^(w * n)
  | 0, N => by rw [digits, val, Nat.mul_zero, Nat.pow_zero, Nat.mod_one]
  | n + 1, N => by rw [digits, val, val_digits w n, Nat.mul_succ, Nat.add_comm (w * n), Nat.pow_add, Nat.mod_mul]

theorem pass_digits (w : Nat) : ∀ (ts : List Nat) (c : Nat),
    pass w c ts = (digits w ts.length (val w ts + c), (val w ts + c) / 2^(w * ts.length))
  | [], c => by simp [pass, digits, val]
  | t :: ts, c => by
    have e1 : (val w (t :: ts) + c) % 2^w = (t + c) % 2^w := by rw [val, Nat.add_right_comm, Nat.add_mul_mod_self_left]
    have e2 : (val w (t :: ts) + c) / 2^w = val w ts + (t + c) / 2^w := by
      rw [val, Nat.add_right_comm, Nat.add_mul_div_left _ _ (Nat.two_pow_pos w), Nat.add_comm]
    rw [pass, pass_digits w ts, List.length_cons, digits, e1, e2, Nat.mul_succ, Nat.add_comm (w * _), Nat.pow_add,
      ← Nat.div_div_eq_div_mul, e2]

theorem sums_digits (w : Nat) (ts : List Nat) (c : Nat) : (sums w c ts).map (· % 2^w) = digits w ts.length (val w ts + c) := by
  rw [← pass_fst, pass_digits]

/-- the same for a pass whose first column `t` is written apart (a model need not check it): carry in `t / 2^w`, first digit
    `t % 2^w` -/
theorem pass_digits_cons (w t : Nat) (ts : List Nat) :
    t % 2^w :: (sums w (t / 2^w) ts).map (· % 2^w) = digits w (ts.length + 1) (val w (t :: ts)) ∧
      (pass w (t / 2^w) ts).2 = val w (t :: ts) / 2^(w * (ts.length + 1)) := by
  have h := pass_digits w (t :: ts) 0
  rw [pass, Nat.add_zero, pass_fst, Prod.mk.injEq] at h
  exact h

theorem pass_mod (w : Nat) (ts : List Nat) (c : Nat) : val w (pass w c ts).1 = (val w ts + c) % 2^(w * ts.length) := by
  rw [pass_digits, val_digits]

theorem pass_val_lt (w : Nat) (ts : List Nat) (c : Nat) : val w (pass w c ts).1 < 2^(w * ts.length) := by
  rw [pass_mod]; exact Nat.mod_lt _ (Nat.two_pow_pos _)

theorem pass_val (w : Nat) (ts : List Nat) (c : Nat) :
    val w (pass w c ts).1 + 2^(w * ts.length) * (pass w c ts).2 = val w ts + c := by
  rw [pass_digits, val_digits]; exact Nat.mod_add_div _ _

/-- a step of a model's pass: the checked sum of its column `t` and the carry, handed to the continuation -/
def Step {β} (lim : Nat) (st : Nat → (Nat → Option β) → Option β) (t : Nat) : Prop :=
  ∀ c k, t + c < lim → st c k = k (t + c)

/-- a pass as a model runs it: `st c` forms the sum `s`, `lo s` is kept, `hi s` carried on -/
def passM {β} (lo hi : Nat → Nat) : List (Nat → (Nat → Option β) → Option β) → Nat → (List Nat → Nat → Option β) → Option β
  | [], c, k => k [] c
  | st :: sts, c, k => st c fun s => passM lo hi sts (hi s) fun r c' => k (lo s :: r) c'

theorem passM_nil {β} (lo hi : Nat → Nat) (c : Nat) (k : List Nat → Nat → Option β) : passM lo hi [] c k = k [] c := by
  rw [passM]
theorem passM_cons {β} (lo hi : Nat → Nat) (st : Nat → (Nat → Option β) → Option β) (sts) (c : Nat)
    (k : List Nat → Nat → Option β) :
    passM lo hi (st :: sts) c k = st c fun s => passM lo hi sts (hi s) fun r c' => k (lo s :: r) c' := by rw [passM]

theorem passM_sums {β} {lo hi : Nat → Nat} {lim w : Nat} (hhi : ∀ s, s < lim → hi s = s / 2^w) :
    ∀ {sts : List (Nat → (Nat → Option β) → Option β)} {ts Bs : List Nat} {c C : Nat}, All₂ (Step lim) sts ts →
      All₂ (· ≤ ·) ts Bs → c ≤ C → (∀ s ∈ sums w C Bs, s < lim) →
      ∀ k, passM lo hi sts c k = k ((sums w c ts).map lo) (pass w c ts).2
  | _, _, _, _, _, .nil, .nil, _, _, _ => rfl
  | _, _, _, _, _, .cons hst hsts, .cons ht hts, hc, hB, k => by
    have hs := Nat.lt_of_le_of_lt (Nat.add_le_add ht hc) (hB _ (List.mem_cons_self ..))
    simp only [passM, pass, sums, List.map_cons]
    rw [hst _ _ hs, hhi _ hs]
    exact passM_sums hhi hsts hts (Nat.div_le_div_right (Nat.add_le_add ht hc))
      (fun s h => hB s (List.mem_cons_of_mem _ h)) _

theorem passM_eq {β} {lo hi : Nat → Nat} {lim w : Nat} (hlo : ∀ s, s < lim → lo s = s % 2^w)
    (hhi : ∀ s, s < lim → hi s = s / 2^w) {sts : List (Nat → (Nat → Option β) → Option β)} {ts Bs : List Nat} {c C : Nat}
    (hst : All₂ (Step lim) sts ts) (hts : All₂ (· ≤ ·) ts Bs) (hc : c ≤ C) (hB : ∀ s ∈ sums w C Bs, s < lim)
    (k : List Nat → Nat → Option β) : passM lo hi sts c k = k (pass w c ts).1 (pass w c ts).2 := by
  rw [passM_sums hhi hst hts hc hB, map_sums hlo ts c (sums_lt hts hc hB)]

/-- a pass as a model runs it, with the carry of a first column `s0` coming in, writes the number `N` of all the columns in
    digits: `s0` keeps digit 0, the continuation gets the `n` digits above it and what is left, `N / D` with `D = 2^(w·(n+1))`;
    the pass run on the bounds bounds `N / D` -/
theorem passM_digits {β} {lo hi : Nat → Nat} {lim w n D : Nat} (hlo : ∀ s, s < lim → lo s = s % 2^w)
    (hhi : ∀ s, s < lim → hi s = s / 2^w) {sts : List (Nat → (Nat → Option β) → Option β)} {ts Bs : List Nat} {s0 C N : Nat}
    (hst : All₂ (Step lim) sts ts) (hts : All₂ (· ≤ ·) ts Bs) (hc : s0 / 2^w ≤ C) (hB : ∀ s ∈ sums w C Bs, s < lim)
    (hN : s0 + 2^w * val w ts = N) (k : List Nat → Nat → Option β) (hn : ts.length = n := by rfl)
    (hD : 2^w * 2^(w * n) = D := by decide) :
    passM lo hi sts (s0 / 2^w) k = k (digits w n (N / 2^w)) (N / D) ∧ s0 % 2^w = N % 2^w ∧ N / D ≤ (pass w C Bs).2 := by
  subst hn hD hN
  have hm := (sums_mono w hts hc).2
  rw [pass_digits, Nat.add_comm] at hm
  rw [← Nat.div_div_eq_div_mul, Nat.add_mul_div_left _ _ (Nat.two_pow_pos w)]
  exact ⟨by rw [passM_eq hlo hhi hst hts hc hB, pass_digits, Nat.add_comm], (Nat.add_mul_mod_self_left ..).symm, hm⟩

/-- a pass as a straight-line model without a monad writes it, with its own mask `lo` and shift `hi`: the sums it forms, the
    digits it keeps, the carry out.  On a list of terms it unfolds to the model's nested terms, so a model's text is tied to it
    by `rfl` on the values it names -/
def passF (lo hi : Nat → Nat) : Nat → List Nat → List Nat × List Nat × Nat
  | c, [] => ([], [], c)
  | c, t :: ts => ((t + c) :: (passF lo hi (hi (t + c)) ts).1, lo (t + c) :: (passF lo hi (hi (t + c)) ts).2.1,
      (passF lo hi (hi (t + c)) ts).2.2)

theorem passF_eq {lo hi : Nat → Nat} {lim w : Nat} (hlo : ∀ s, s < lim → lo s = s % 2^w) (hhi : ∀ s, s < lim → hi s = s / 2^w) :
    ∀ {ts Bs : List Nat} {c C : Nat}, All₂ (· ≤ ·) ts Bs → c ≤ C → (∀ s ∈ sums w C Bs, s < lim) →
      passF lo hi c ts = (sums w c ts, (pass w c ts).1, (pass w c ts).2)
  | _, _, _, _, .nil, _, _ => rfl
  | _, _, _, _, .cons ht hts, hc, hB => by
    have hs := Nat.lt_of_le_of_lt (Nat.add_le_add ht hc) (hB _ (List.mem_cons_self ..))
    simp only [passF, pass, sums]
    rw [hlo _ hs, hhi _ hs, passF_eq hlo hhi hts (Nat.div_le_div_right (Nat.add_le_add ht hc))
      fun s h => hB s (List.mem_cons_of_mem _ h)]

theorem passF_spec {lo hi : Nat → Nat} {lim w n P K : Nat} (hlo : ∀ s, s < lim → lo s = s % 2^w)
    (hhi : ∀ s, s < lim → hi s = s / 2^w) {ts Bs : List Nat} {c C : Nat} (hts : All₂ (· ≤ ·) ts Bs) (hc : c ≤ C)
    (hB : ∀ s ∈ sums w C Bs, s < lim) {S D : List Nat} {k : Nat} (e : passF lo hi c ts = (S, D, k))
    (hK : (pass w C Bs).2 ≤ K := by decide) (hn : ts.length = n := by rfl) (hP : 2^(w * n) = P := by decide) :
    (∀ s ∈ S, s < lim) ∧ (∀ d ∈ D, d < 2^w) ∧ k ≤ K ∧ val w D + P * k = val w ts + c ∧ val w D < P := by
  subst hn hP
  rw [passF_eq hlo hhi hts hc hB] at e
  obtain ⟨rfl, rfl, rfl⟩ : sums w c ts = S ∧ (pass w c ts).1 = D ∧ (pass w c ts).2 = k := by simpa using e
  exact ⟨sums_lt hts hc hB, pass_lt w ts c, Nat.le_trans (sums_mono w hts hc).2 hK, pass_val w ts c, pass_val_lt w ts c⟩

theorem All₂.append {α β : Type} {R : α → β → Prop} : ∀ {as : List α} {bs : List β} {cs : List α} {ds : List β},
    All₂ R as bs → All₂ R cs ds → All₂ R (as ++ cs) (bs ++ ds)
  | _, _, _, _, .nil, h => h
  | _, _, _, _, .cons h t, h' => .cons h (t.append h')

/-- `passM` hands its continuation the list of kept limbs; a model's continuation takes them one by one -/
def on4 {β} (k : Nat → Nat → Nat → Nat → Option β) : List Nat → Option β
  | [a, b, c, d] => k a b c d
  | _ => none
theorem on4_eq {β} (k : Nat → Nat → Nat → Nat → Option β) (a b c d : Nat) : on4 k [a, b, c, d] = k a b c d := by rw [on4]

end Cx.Proofs.Limbs
