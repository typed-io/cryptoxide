/-
  Proofs.MacBlake2 — the legacy BLAKE2 wrappers (`Impl.Digest.Blake2`, model of src/blake2b.rs / src/blake2s.rs) as
  `Mac` objects satisfy the object contract of Proofs.MacObj with f = RFC 7693 keyed BLAKE2 under the key the object
  retains, built on the blake2 unit's lemmas per operation (`RelA.update`, `RelA.finalize_reset`, `reset_eq`,
  `reset_with_key_eq`: Proofs/Blake2Hist.lean, Proofs/Blake2.lean).
  On the model's naming: `CodeVariant.current` is the source before the repair of `reset`, `CodeVariant.repaired` the
  source as it is.  The contract is proved for `.repaired`; for `.current` the defect is shown: `reset` leaves the
  unkeyed initial state.
-/
import CxVerif.Proofs.MacObj
import CxVerif.Proofs.Blake2Hist
namespace Cx.Proofs.MacBlake2
open Cx.Impl.Digest Cx.Proofs.MacObj Cx.Proofs.Blake2 Cx.Spec.Blake2
open Cx.Impl.Blake2 (Ctx Profile ContextDyn)

section generic
variable {W : Type} [Word W]

/-- the function after `reset_with_key(k)`; keys longer than the RFC's maximum are refused -/
def fkB (P : Params W) (nn : Nat) : Bytes → Option Fn :=
  fun k => if k.length ≤ P.maxKey then some (blake2 P nn k) else none

/-- not computed: the context represents (current key, bytes since reset) -/
def RelB (P : Params W) (nn : Nat) (s : Blake2 W) (f : Fn) (m : Bytes) : Prop :=
  f = blake2 P nn s.key ∧ s.computed = false ∧ s.ctx.outlen = nn ∧ RelA P nn s.ctx.ctx (s.key, m)

/-- computed: `finalize_reset_at` left the unkeyed fresh context; the key is retained in the struct -/
def FinB (P : Params W) (nn : Nat) (s : Blake2 W) (f : Fn) : Prop :=
  f = blake2 P nn s.key ∧ s.computed = true ∧ s.ctx.outlen = nn ∧ s.key.length ≤ P.maxKey ∧
    RelA P nn s.ctx.ctx ([], [])

theorem RelB.outlen {P : Params W} {nn : Nat} {s : Blake2 W} {f : Fn} {m : Bytes} (h : RelB P nn s f m) : s.ctx.outlen = nn :=
  h.2.2.1
theorem FinB.outlen {P : Params W} {nn : Nat} {s : Blake2 W} {f : Fn} (h : FinB P nn s f) : s.ctx.outlen = nn := h.2.2.1

theorem blake2_length (P : Params W) (g : Good P) (nn : Nat) (hn : nn ≤ P.maxOut) (key m : Bytes) :
    (blake2 P nn key m).length = nn := by
  unfold blake2 output
  simp only [List.length_take, hbytes_length]
  have := g.out_le
  omega

/-- the `Mac` object with the inherent `reset_with_key` as the history machine runs it -/
def famB (v : CodeVariant) (P : Params W) : ObjFam (Blake2 W) :=
  { macFam (blake2Mac v P) with reset_with_key := Blake2.reset_with_key P }

theorem reset_ok (P : Params W) (g : Good P) (nn : Nat) (hn : 0 < nn ∧ nn ≤ P.maxOut) (s : Blake2 W) (a : AVal)
    (ho : s.ctx.outlen = nn) (hk : s.key.length ≤ P.maxKey) (hr : RelA P nn s.ctx.ctx a) :
    ∃ s', Blake2.reset .repaired P s = some s' ∧ RelB P nn s' (blake2 P nn s.key) [] := by
  have hnew := newState_relA P g nn hn.2 s.key hk
  by_cases h0 : s.key.length > 0
  · exact ⟨{ s with ctx := { s.ctx with ctx := newState P nn s.key }, computed := false },
      by simp [Blake2.reset, h0, ContextDyn.reset_with_key, ho, reset_with_key_eq P _ hr.inv nn s.key hk], rfl, rfl, ho, hnew⟩
  · have hk0 : s.key = [] := List.length_eq_zero_iff.mp (by omega)
    rw [hk0] at hnew
    exact ⟨{ s with ctx := { s.ctx with ctx := newState P nn [] }, computed := false },
      by simp [Blake2.reset, h0, ContextDyn.reset, ho, reset_eq P _ hr.inv nn], rfl, rfl, ho, by simpa [hk0] using hnew⟩

theorem rekey_ok (P : Params W) (g : Good P) (nn : Nat) (hn : 0 < nn ∧ nn ≤ P.maxOut) (s : Blake2 W) (a : AVal)
    (ho : s.ctx.outlen = nn) (hr : RelA P nn s.ctx.ctx a) (k : Bytes) (f' : Fn) (hf : fkB P nn k = some f') :
    ∃ s', Blake2.reset_with_key P s k = some s' ∧ RelB P nn s' f' [] := by
  unfold fkB at hf
  split at hf
  · rename_i hk
    cases hf
    exact ⟨{ ctx := { s.ctx with ctx := newState P nn k }, computed := false, key := k },
      by simp [Blake2.reset_with_key, ContextDyn.reset_with_key, ho, reset_with_key_eq P _ hr.inv nn k hk], rfl, rfl, ho,
      newState_relA P g nn hn.2 k hk⟩
  · cases hf

theorem rekey_refused (P : Params W) (s : Blake2 W) (nn : Nat) (k : Bytes) (hf : fkB P nn k = none) :
    Blake2.reset_with_key P s k = none := by
  unfold fkB at hf
  split at hf
  · cases hf
  · rename_i hk
    simp [Blake2.reset_with_key, ContextDyn.reset_with_key, reset_with_key_none P s.ctx.ctx s.ctx.outlen k hk]

theorem blake2_contract (P : Params W) (g : Good P) (nn : Nat) (hn : 0 < nn ∧ nn ≤ P.maxOut) :
    Contract (famB .repaired P) nn [nn] (fkB P nn) (fun _ _ => True) (RelB P nn) (FinB P nn) where
  input := by
    rintro s f m b ⟨rfl, hc, ho, hr⟩
    obtain ⟨c', e, hr'⟩ := hr.update g b
    exact ⟨{ s with ctx := { s.ctx with ctx := c' } },
      by simp [famB, macFam, blake2Mac, Blake2.update, hc, ContextDyn.update_mut, blakeProfile, e], rfl, hc, ho, hr'⟩
  raw_result := by
    rintro s f m ⟨rfl, hc, ho, hr⟩ _
    exact ⟨{ s with ctx := { s.ctx with ctx := newState P nn [] }, computed := true },
      by simp [famB, macFam, blake2Mac, Blake2.finalize, hc, ContextDyn.finalize_reset_at, blakeProfile, ho,
        hr.finalize_reset g hn.2],
      rfl, rfl, ho, hr.1, newState_relA P g nn hn.2 [] (Nat.zero_le _)⟩
  raw_bad := by
    rintro s f m n ⟨rfl, hc, ho, hr⟩ _ hne
    simp [famB, macFam, blake2Mac, Blake2.finalize, hc, ContextDyn.finalize_reset_at, Ctx.finalize_reset_at, ho, hne]
  result := by
    rintro s f m ⟨rfl, hc, ho, hr⟩ _
    exact ⟨{ s with ctx := { s.ctx with ctx := newState P nn [] }, computed := true },
      by simp [famB, macFam, blake2Mac, Blake2.finalize, hc, ContextDyn.finalize_reset_at, blakeProfile, ho,
        hr.finalize_reset g hn.2, ContextDyn.output_bits],
      rfl, rfl, ho, hr.1, newState_relA P g nn hn.2 [] (Nat.zero_le _)⟩
  reset := by
    rintro s f m ⟨rfl, hc, ho, hr⟩
    exact reset_ok P g nn hn s _ ho hr.1 hr
  reset_fin := by
    rintro s f ⟨rfl, hc, ho, hk, hr⟩
    exact reset_ok P g nn hn s _ ho hk hr
  rekey := by
    rintro s f m k f' ⟨rfl, hc, ho, hr⟩ hf
    exact rekey_ok P g nn hn s _ ho hr k f' hf
  rekey_fin := by
    rintro s f k f' ⟨rfl, hc, ho, hk, hr⟩ hf
    exact rekey_ok P g nn hn s _ ho hr k f' hf
  rekey_bad := by
    rintro s f m k _ hf
    exact rekey_refused P s nn k hf
  rekey_bad_fin := by
    rintro s f k _ hf
    exact rekey_refused P s nn k hf
  fin_input := by
    rintro s f b ⟨rfl, hc, _⟩
    simp [famB, macFam, blake2Mac, Blake2.update, hc]
  fin_result := by
    rintro s f ⟨rfl, hc, _⟩
    simp [famB, macFam, blake2Mac, Blake2.finalize, hc]
  fin_raw := by
    rintro s f n ⟨rfl, hc, _⟩
    simp [famB, macFam, blake2Mac, Blake2.finalize, hc]
  out_rel := by
    rintro s f m ⟨rfl, _, ho, _⟩
    simp [famB, macFam, blake2Mac, ContextDyn.output_bits, ho]
  out_fin := by
    rintro s f ⟨rfl, _, ho, _⟩
    simp [famB, macFam, blake2Mac, ContextDyn.output_bits, ho]
  sizes_rel := by
    rintro s f m ⟨rfl, _, ho, _⟩
    simp [famB, macFam, blake2Mac, ContextDyn.output_bits, ho]
  sizes_fin := by
    rintro s f ⟨rfl, _, ho, _⟩
    simp [famB, macFam, blake2Mac, ContextDyn.output_bits, ho]
  len := by
    rintro s f m ⟨rfl, _, _, _⟩ _
    exact blake2_length P g nn hn.2 _ _

/-- the constructor `new_keyed(outlen, key)` (with the wrapper's own `assert!(key.len() <= keyAssert)`) -/
theorem new_keyed_rel (P : Params W) (g : Good P) (nn : Nat) (hn : 0 < nn ∧ nn ≤ P.maxOut) (key : Bytes)
    (hk : key.length ≤ P.maxKey) (keyAssert : Nat) (hka : key.length ≤ keyAssert) :
    ∃ o, Blake2.new_keyed P keyAssert nn key = some o ∧ RelB P nn o (blake2 P nn key) [] := by
  refine ⟨{ ctx := { ctx := newState P nn key, outlen := nn }, computed := false, key := key }, ?_, rfl, rfl, rfl,
    newState_relA P g nn hn.2 key hk⟩
  simp [Blake2.new_keyed, hka, ContextDyn.new_keyed, new_keyed_eq P nn key hn hk]

/-- guard-free: BLAKE2 results have no domain restriction in the wrapping profile -/
theorem guard_trivial {sizes : List Nat} {fk : Bytes → Option Fn} : ∀ (ops : List Impl.Digest.Op) (a : Spec.MacObj.Abs)
    (st : List Spec.MacObj.Abs), Guard sizes fk (fun _ _ => True) ops a st := by
  intro ops
  induction ops with
  | nil => intros; trivial
  | cons op ops ih =>
    intro a st
    cases op with
    | input _ | resetWithKey _ =>
      simp only [Guard]
      split
      · trivial
      · exact ih _ _
    | result | rawResult _ =>
      simp only [Guard]
      refine ⟨fun _ => trivial, ?_⟩
      split
      · trivial
      · exact ih _ _
    | reset | clone | sizes => exact ih _ _
    | swap => cases st <;> exact ih _ _

theorem hist_generic (P : Params W) (g : Good P) (nn : Nat) (hn : 0 < nn ∧ nn ≤ P.maxOut) (key : Bytes)
    (hk : key.length ≤ P.maxKey) (keyAssert : Nat) (hka : key.length ≤ keyAssert) (ops : List Impl.Digest.Op) :
    ∃ o, Blake2.new_keyed P keyAssert nn key = some o ∧
      runHist (famB .repaired P) ops o [] []
        = runHist (absFam [nn] (fkB P nn)) ops (Spec.MacObj.fresh (blake2 P nn key) nn) [] [] := by
  obtain ⟨o, e, hr⟩ := new_keyed_rel P g nn hn key hk keyAssert hka
  exact ⟨o, e, runHist_fresh (blake2_contract P g nn hn) o _ hr ops (guard_trivial ops _ _)⟩

/-- `reset` before the repair (`.current`): from a keyed object it produces the context of the unkeyed constructor -/
theorem current_reset_generic (P : Params W) (g : Good P) (nn : Nat) (hn : 0 < nn ∧ nn ≤ P.maxOut) (key : Bytes)
    (hk : key.length ≤ P.maxKey) (keyAssert : Nat) (hka : key.length ≤ keyAssert) :
    ∃ o o' u, Blake2.new_keyed P keyAssert nn key = some o ∧ Blake2.reset .current P o = some o' ∧
      Blake2.new P nn = some u ∧ o'.ctx = u.ctx ∧ o'.computed = u.computed := by
  have hinv : Inv P (newState P nn key) := (newState_relA P g nn hn.2 key hk).inv
  refine ⟨{ ctx := { ctx := newState P nn key, outlen := nn }, computed := false, key := key },
    { ctx := { ctx := newState P nn [], outlen := nn }, computed := false, key := key },
    { ctx := { ctx := newState P nn [], outlen := nn }, computed := false, key := [] }, ?_, ?_, ?_, rfl, rfl⟩
  · simp [Blake2.new_keyed, hka, ContextDyn.new_keyed, new_keyed_eq P nn key hn hk]
  · simp [Blake2.reset, ContextDyn.reset, reset_eq P _ hinv nn]
  · simp [Blake2.new, contextDyn_new_eq, contextDyn_new_keyed_eq, new_keyed_ite, hn]

end generic

theorem bKeyAssert_eq : bKeyAssert = 64 := by decide
theorem sKeyAssert_eq : sKeyAssert = 64 := by decide

end Cx.Proofs.MacBlake2
