/-
  Proofs.MacHmac — `Hmac<D>` (Impl.Hmac) over ANY digest type `D` that satisfies the digest-object contract
  (Proofs.MacObj.Contract for `digestFam D`: "result after inputs = H(concatenation), reset = fresh, refuses after a
  result") is itself an object satisfying the contract with the function  RFC 2104  HMAC_H,B(key, ·):
  for EVERY key length (≤ B: zero padded; > B: hashed first) — `hmac_new` — and every sequence of operations
  (`hmac_contract`, then `runHist_sim`).  Core Lean only.
-/
import CxVerif.Impl.Hmac
import CxVerif.Proofs.MacObj
namespace Cx.Proofs.MacHmac
open Cx.Impl.Digest Cx.Impl.Hmac Cx.Proofs.MacObj

theorem IPAD_eq : IPAD = Spec.Hmac.ipad := by decide
theorem OPAD_eq : OPAD = Spec.Hmac.opad := by decide

theorem derive_key_eq (k : Bytes) (mask : UInt8) : derive_key k mask = Spec.Hmac.xorPad k mask := rfl

theorem copy_prefix_zeros (B : Nat) (src : Bytes) : copy_prefix (zeros B) src = src ++ zeros (B - src.length) := by
  simp [copy_prefix, zeros]

section
variable {δ : Type} (D : DigestModel δ) (H : Fn) (B : Nat) (key : Bytes)

def ikey : Bytes := Spec.Hmac.xorPad (Spec.Hmac.keyBlock H B key) Spec.Hmac.ipad
def okey : Bytes := Spec.Hmac.xorPad (Spec.Hmac.keyBlock H B key) Spec.Hmac.opad

/-- the domain guard of an HMAC result: the two hash computations are inside the domain of `H` -/
def okH (okD : Fn → Bytes → Prop) : Fn → Bytes → Prop :=
  fun _ m => okD H (ikey H B key ++ m) ∧ okD H (okey H B key ++ H (ikey H B key ++ m))

variable (RelD : δ → Fn → Bytes → Prop) (FinD : δ → Fn → Prop)

def RelH (s : Hmac δ) (f : Fn) (m : Bytes) : Prop :=
  f = Spec.Hmac.hmac H B key ∧ s.finished = false ∧ s.i_key = ikey H B key ∧ s.o_key = okey H B key ∧
    RelD s.digest H (ikey H B key ++ m)

def FinH (s : Hmac δ) (f : Fn) : Prop :=
  f = Spec.Hmac.hmac H B key ∧ s.finished = true ∧ s.i_key = ikey H B key ∧ s.o_key = okey H B key ∧
    FinD s.digest H

variable {L bits : Nat} {okD : Fn → Bytes → Prop}

theorem hmac_unfold (m : Bytes) :
    Spec.Hmac.hmac H B key m = H (okey H B key ++ H (ikey H B key ++ m)) := rfl

theorem outer_chain (hD : Contract (digestFam D) L [L, bits, B] (fun _ => none) okD RelD FinD)
    (d : δ) (m : Bytes) (hr : RelD d H (ikey H B key ++ m)) (hok : okH H B key okD (Spec.Hmac.hmac H B key) m) :
    ∃ d1 d2 d3 d4, D.result d L = some (d1, H (ikey H B key ++ m)) ∧ D.reset d1 = some d2 ∧
      D.input d2 (okey H B key) = some d3 ∧ D.input d3 (H (ikey H B key ++ m)) = some d4 ∧
      RelD d4 H (okey H B key ++ H (ikey H B key ++ m)) := by
  obtain ⟨d1, e1, hf1⟩ := hD.raw_result d H _ hr hok.1
  obtain ⟨d2, e2, hr2⟩ := hD.reset_fin d1 H hf1
  obtain ⟨d3, e3, hr3⟩ := hD.input d2 H [] (okey H B key) hr2
  obtain ⟨d4, e4, hr4⟩ := hD.input d3 H _ (H (ikey H B key ++ m)) hr3
  exact ⟨d1, d2, d3, d4, e1, e2, e3, e4, by simpa using hr4⟩

theorem raw_result_ok (hD : Contract (digestFam D) L [L, bits, B] (fun _ => none) okD RelD FinD)
    (s : Hmac δ) (f : Fn) (m : Bytes) (hs : RelH H B key RelD s f m) (hok : okH H B key okD f m) :
    ∃ s', Hmac.raw_result D s L = some (s', f m) ∧ FinH H B key FinD s' f := by
  obtain ⟨rfl, hfin, hi, ho, hr⟩ := hs
  obtain ⟨d1, d2, d3, d4, e1, e2, e3, e4, hr4⟩ := outer_chain D H B key RelD FinD hD s.digest m hr hok
  obtain ⟨d5, e5, hf5⟩ := hD.raw_result d4 H _ hr4 hok.2
  refine ⟨{ s with digest := d5, finished := true }, ?_, rfl, rfl, hi, ho, hf5⟩
  -- the contract speaks of `(digestFam D).raw_result`, which is `D.result` only by unfolding; `simp` matches syntactically,
  -- so the equations are restated on `D.result` (here and wherever this file hands a contract equation to `simp`)
  have e1' : D.result s.digest L = some (d1, H (ikey H B key ++ m)) := e1
  have e5' : D.result d4 L = some (d5, H (okey H B key ++ H (ikey H B key ++ m))) := e5
  simp [Hmac.raw_result, hfin, e1', e2, ho, e3, e4, e5', hmac_unfold]

theorem reset_ok (hD : Contract (digestFam D) L [L, bits, B] (fun _ => none) okD RelD FinD)
    (s : Hmac δ) (hi : s.i_key = ikey H B key) (ho : s.o_key = okey H B key)
    (h1 : ∃ d1, D.reset s.digest = some d1 ∧ RelD d1 H []) :
    ∃ s', Hmac.reset D s = some s' ∧ RelH H B key RelD s' (Spec.Hmac.hmac H B key) [] := by
  obtain ⟨d1, e1, hr1⟩ := h1
  obtain ⟨d2, e2, hr2⟩ := hD.input d1 H [] (ikey H B key) hr1
  have e2' : D.input d1 (ikey H B key) = some d2 := e2
  exact ⟨{ s with digest := d2, finished := false }, by simp [Hmac.reset, e1, hi, e2'],
    rfl, rfl, hi, ho, by simpa using hr2⟩

theorem hmac_contract (hD : Contract (digestFam D) L [L, bits, B] (fun _ => none) okD RelD FinD) :
    Contract (macFam (hmacMac D)) L [L] (fun _ => none) (okH H B key okD) (RelH H B key RelD) (FinH H B key FinD) where
  input := by
    rintro s f m b ⟨rfl, hfin, hi, ho, hr⟩
    obtain ⟨d', e, hr'⟩ := hD.input s.digest H _ b hr
    have e' : D.input s.digest b = some d' := e
    refine ⟨{ s with digest := d' }, by simp [macFam, hmacMac, Hmac.input, hfin, e'], rfl, hfin, hi, ho, ?_⟩
    simpa [List.append_assoc] using hr'
  raw_result := by
    intro s f m hs hok
    exact raw_result_ok D H B key RelD FinD hD s f m hs hok
  raw_bad := by
    rintro s f m n ⟨rfl, hfin, hi, ho, hr⟩ hok hn
    have e : D.result s.digest n = none := hD.raw_bad s.digest H _ n hr hok.1 hn
    simp [macFam, hmacMac, Hmac.raw_result, hfin, e]
  result := by
    intro s f m hs hok
    have hob : D.output_bytes s.digest = L := hD.out_rel s.digest H _ hs.2.2.2.2
    obtain ⟨s', e, hf⟩ := raw_result_ok D H B key RelD FinD hD s f m hs hok
    exact ⟨s', by simpa [macFam, hmacMac, Hmac.result, hob] using e, hf⟩
  reset := by
    rintro s f m ⟨rfl, hfin, hi, ho, hr⟩
    exact reset_ok D H B key RelD FinD hD s hi ho (hD.reset s.digest H _ hr)
  reset_fin := by
    rintro s f ⟨rfl, hfin, hi, ho, hf⟩
    exact reset_ok D H B key RelD FinD hD s hi ho (hD.reset_fin s.digest H hf)
  rekey := by intro s f m k f' _ hk; cases hk
  rekey_fin := by intro s f k f' _ hk; cases hk
  rekey_bad := by intros; rfl
  rekey_bad_fin := by intros; rfl
  fin_input := by
    rintro s f b ⟨rfl, hfin, _⟩
    simp [macFam, hmacMac, Hmac.input, hfin]
  fin_result := by
    rintro s f ⟨rfl, hfin, _, _, hf⟩
    have e : ∀ n, D.result s.digest n = none := fun n => hD.fin_raw s.digest H n hf
    simp [macFam, hmacMac, Hmac.result, Hmac.raw_result, hfin, e]
  fin_raw := by
    rintro s f n ⟨rfl, hfin, _, _, hf⟩
    have e : D.result s.digest n = none := hD.fin_raw s.digest H n hf
    simp [macFam, hmacMac, Hmac.raw_result, hfin, e]
  out_rel := by
    rintro s f m ⟨rfl, _, _, _, hr⟩
    exact hD.out_rel s.digest H _ hr
  out_fin := by
    rintro s f ⟨rfl, _, _, _, hf⟩
    exact hD.out_fin s.digest H hf
  sizes_rel := by
    rintro s f m ⟨rfl, _, _, _, hr⟩
    have : D.output_bytes s.digest = L := hD.out_rel s.digest H _ hr
    simp [macFam, hmacMac, Hmac.output_bytes, this]
  sizes_fin := by
    rintro s f ⟨rfl, _, _, _, hf⟩
    have : D.output_bytes s.digest = L := hD.out_fin s.digest H hf
    simp [macFam, hmacMac, Hmac.output_bytes, this]
  len := by
    rintro s f m ⟨rfl, hfin, hi, ho, hr⟩ hok
    obtain ⟨d1, d2, d3, d4, _, _, _, _, hr4⟩ := outer_chain D H B key RelD FinD hD s.digest m hr hok
    exact hD.len d4 H _ hr4 hok.2

/-- `Hmac::new(digest, key)` on a fresh digest object, for EVERY key length: the object computes RFC 2104 HMAC with
    the key zero-padded to B bytes (key.len() ≤ B) or hashed first (key.len() > B; then `H key` must be inside the
    domain of `H`).  `L ≤ B` is RFC 2104's requirement on the hash (the code would panic otherwise). -/
theorem hmac_new (hD : Contract (digestFam D) L [L, bits, B] (fun _ => none) okD RelD FinD) (hLB : L ≤ B)
    (d0 : δ) (h0 : RelD d0 H []) (hk : key.length ≤ B ∨ okD H key) :
    ∃ h, Hmac.new D d0 key = some h ∧ RelH H B key RelD h (Spec.Hmac.hmac H B key) [] := by
  have hsz : [D.output_bytes d0, D.output_bits d0, D.block_size d0] = [L, bits, B] := hD.sizes_rel d0 H [] h0
  have hbs : D.block_size d0 = B := by simpa using congrArg (fun l => l.getD 2 0) hsz
  have hob : D.output_bytes d0 = L := hD.out_rel d0 H [] h0
  have hexp : ∃ d, expand_key D d0 key = some (d, Spec.Hmac.keyBlock H B key) ∧ RelD d H [] := by
    by_cases hle : key.length ≤ B
    · exact ⟨d0, by simp [expand_key, hbs, hle, copy_prefix_zeros, Spec.Hmac.keyBlock], h0⟩
    · have hokk : okD H key := hk.resolve_left hle
      obtain ⟨d1, e1, hr1⟩ := hD.input d0 H [] key h0
      have hr1' : RelD d1 H key := by simpa using hr1
      obtain ⟨d2, e2, hf2⟩ := hD.raw_result d1 H key hr1' hokk
      obtain ⟨d3, e3, hr3⟩ := hD.reset_fin d2 H hf2
      have hlen : (H key).length = L := hD.len d1 H key hr1' hokk
      have e1' : D.input d0 key = some d1 := e1
      have e2' : D.result d1 L = some (d2, H key) := e2
      have e3' : D.reset d2 = some d3 := e3
      refine ⟨d3, ?_, hr3⟩
      simp [expand_key, hbs, hle, hob, e1', hLB, e2', e3', copy_prefix_zeros, Spec.Hmac.keyBlock, hlen]
  obtain ⟨d, e, hr⟩ := hexp
  obtain ⟨d', e', hr'⟩ := hD.input d H [] (ikey H B key) hr
  have e'' : D.input d (ikey H B key) = some d' := e'
  refine ⟨{ digest := d', i_key := ikey H B key, o_key := okey H B key, finished := false }, ?_,
    rfl, rfl, rfl, rfl, by simpa using hr'⟩
  simp [Hmac.new, create_keys, e, derive_key_eq, IPAD_eq, OPAD_eq, ikey, okey] at e'' ⊢
  simp [e'']

theorem feed_chunks {σ : Type} {F : ObjFam σ} {outLen : Nat} {sizes : List Nat} {fk : Bytes → Option Fn}
    {ok : Fn → Bytes → Prop} {Rel : σ → Fn → Bytes → Prop} {Fin : σ → Fn → Prop}
    (h : Contract F outLen sizes fk ok Rel Fin) (f : Fn) :
    ∀ (chunks : List Bytes) (s : σ) (m : Bytes), Rel s f m →
      ∃ s', chunks.foldlM F.input s = some s' ∧ Rel s' f (m ++ chunks.flatten) := by
  intro chunks
  induction chunks with
  | nil => intro s m hr; exact ⟨s, rfl, by simpa using hr⟩
  | cons c cs ih =>
    intro s m hr
    obtain ⟨s1, e1, hr1⟩ := h.input s f m c hr
    obtain ⟨s', e', hr'⟩ := ih s1 (m ++ c) hr1
    exact ⟨s', by simp [List.foldlM, e1, e'], by simpa [List.append_assoc] using hr'⟩

/-- **RFC 2104 for every key and every chunking**, generic in the digest object: `Hmac::new(d0, key)`, then
    `input` of the chunks one by one, then `result()` returns `HMAC_H(key, concatenation of the chunks)`; the object
    reports `output_bytes() = L`. -/
theorem hmac_rfc2104 (hD : Contract (digestFam D) L [L, bits, B] (fun _ => none) okD RelD FinD) (hLB : L ≤ B)
    (d0 : δ) (h0 : RelD d0 H []) (chunks : List Bytes) (hk : key.length ≤ B ∨ okD H key)
    (hok : okH H B key okD (Spec.Hmac.hmac H B key) chunks.flatten) :
    ∃ h h' h'', Hmac.new D d0 key = some h ∧ chunks.foldlM (Hmac.input D) h = some h' ∧
      Hmac.result D h' = some (h'', Spec.Hmac.hmac H B key chunks.flatten) ∧
      (Spec.Hmac.hmac H B key chunks.flatten).length = L ∧
      Hmac.output_bytes D h = L ∧ Hmac.output_bytes D h' = L := by
  obtain ⟨h, e, hr⟩ := hmac_new D H B key RelD FinD hD hLB d0 h0 hk
  have hC := hmac_contract D H B key RelD FinD hD
  obtain ⟨h', e', hr'⟩ := feed_chunks hC (Spec.Hmac.hmac H B key) chunks h [] hr
  have hr'' : RelH H B key RelD h' (Spec.Hmac.hmac H B key) chunks.flatten := by simpa using hr'
  obtain ⟨h'', e'', _⟩ := hC.result h' _ _ hr'' hok
  exact ⟨h, h', h'', e, e', e'', hC.len h' _ _ hr'' hok, hC.out_rel h _ _ hr, hC.out_rel h' _ _ hr''⟩

end
end Cx.Proofs.MacHmac
