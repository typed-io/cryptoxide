/-
  Proofs.MacInst — the context contract (`Proofs.MacLegacy.CtxContract`) of the legacy wrappers' context types,
  obtained from the hash units' refinement theorems (`Proofs.HashProg.Refines`, Props/C02): SHA-1, RIPEMD-160 and
  the six SHA-2 contexts.  (The SHA-3 / Keccak contexts: Proofs/MacInstSha3.lean.)  Also the digest lengths of these hashes
  (`sha256_length` …) and, for the KDF proofs, that HMAC-SHA256's padded keys are one block and its results stay inside
  SHA-256's domain (`ikey_length`, `okey_length`, `okH_of_length`).
-/
import CxVerif.Proofs.MacLegacy
import CxVerif.Proofs.MacHmac
import CxVerif.Props.C02.Sha2
import CxVerif.Props.C02.Sha1Ripemd
namespace Cx.Proofs.MacInst
open Cx.Impl.Digest Cx.Proofs.MacObj Cx.Proofs.MacLegacy Cx.Proofs.HashProg

theorem ctxContract_of_refines {γ : Type} (M : CtxModel γ) (F : Cx.HashProg.Family γ) (H : Fn) (R : γ → Bytes → Prop)
    (ok : Bytes → Prop) (h : Refines F H R ok)
    (e1 : M.new = F.new) (e2 : M.update_mut = F.update_mut) (e3 : M.reset = F.reset)
    (e4 : M.finalize_reset = F.finalize_reset) (hl : ∀ m, (H m).length = (M.OUTPUT_BITS + 7) / 8) :
    CtxContract M H R ok where
  new := e1 ▸ h.new
  update_mut := by rw [e2]; exact h.update_mut
  reset := by rw [e3]; exact h.reset
  finalize_reset := by rw [e4]; exact h.finalize_reset
  out_len := fun m _ => hl m

theorem w32_length (h : Spec.Sha2.W8 UInt32) : (Spec.Sha2.wordsToBytes32 h).length = 32 := by
  simp [Spec.Sha2.wordsToBytes32, Spec.Sha2.W8.toList, u32be, Bytes.natToBE_length]
theorem w64_length (h : Spec.Sha2.W8 UInt64) : (Spec.Sha2.wordsToBytes64 h).length = 64 := by
  simp [Spec.Sha2.wordsToBytes64, Spec.Sha2.W8.toList, u64be, Bytes.natToBE_length]

theorem sha256_length (m : Bytes) : (Spec.Sha2.sha256 m).length = 32 := w32_length _
theorem sha224_length (m : Bytes) : (Spec.Sha2.sha224 m).length = 28 := by simp [Spec.Sha2.sha224, w32_length]
theorem sha512_length (m : Bytes) : (Spec.Sha2.sha512 m).length = 64 := w64_length _
theorem sha384_length (m : Bytes) : (Spec.Sha2.sha384 m).length = 48 := by simp [Spec.Sha2.sha384, w64_length]
theorem sha512_224_length (m : Bytes) : (Spec.Sha2.sha512_224 m).length = 28 := by simp [Spec.Sha2.sha512_224, w64_length]
theorem sha512_256_length (m : Bytes) : (Spec.Sha2.sha512_256 m).length = 32 := by simp [Spec.Sha2.sha512_256, w64_length]
theorem sha1_length (m : Bytes) : (Spec.Sha1.sha1 m).length = 20 := by
  simp [Spec.Sha1.sha1, Spec.Sha1.Hash.toBytes, u32be, Bytes.natToBE_length]
theorem ripemd160_length (m : Bytes) : (Spec.Ripemd160.ripemd160 m).length = 20 := by
  simp [Spec.Ripemd160.ripemd160, Spec.Ripemd160.Hash.toBytes, u32le, Bytes.natToLE_length]

open Cx.Props.C02.Sha2 Cx.Props.C02.Sha1Ripemd

theorem sha1_ctx : CtxContract sha1Ctx Spec.Sha1.sha1 Cx.Proofs.Sha1Stream.Abs Cx.Props.C02.Sha1Ripemd.ok :=
  ctxContract_of_refines sha1Ctx Impl.Sha1.fam _ _ _ sha1_refines rfl rfl rfl rfl (by intro m; rw [sha1_length]; decide)

theorem ripemd160_ctx :
    CtxContract ripemd160Ctx Spec.Ripemd160.ripemd160 Cx.Proofs.Ripemd160Stream.Abs Cx.Props.C02.Sha1Ripemd.ok :=
  ctxContract_of_refines ripemd160Ctx Impl.Ripemd160.fam _ _ _ ripemd160_refines rfl rfl rfl rfl
    (by intro m; rw [ripemd160_length]; decide)

open Cx.Impl.Sha2 Cx.Proofs.Sha2Engine in
theorem sha256_ctx : CtxContract sha256Ctx Spec.Sha2.sha256 (fun c m => Abs256 Sha256.state c.engine m) ok256 :=
  ctxContract_of_refines sha256Ctx (fam256 Sha256) _ _ _ sha256_refines rfl rfl rfl rfl
    (by intro m; rw [sha256_length]; decide)

open Cx.Impl.Sha2 Cx.Proofs.Sha2Engine in
theorem sha224_ctx : CtxContract sha224Ctx Spec.Sha2.sha224 (fun c m => Abs256 Sha224.state c.engine m) ok256 :=
  ctxContract_of_refines sha224Ctx (fam256 Sha224) _ _ _ sha224_refines rfl rfl rfl rfl
    (by intro m; rw [sha224_length]; decide)

open Cx.Impl.Sha2 Cx.Proofs.Sha2Engine in
theorem sha512_ctx : CtxContract sha512Ctx Spec.Sha2.sha512 (fun c m => Abs512 Sha512.state c.engine m) ok512 :=
  ctxContract_of_refines sha512Ctx (fam512 Sha512) _ _ _ sha512_refines rfl rfl rfl rfl
    (by intro m; rw [sha512_length]; decide)

open Cx.Impl.Sha2 Cx.Proofs.Sha2Engine in
theorem sha384_ctx : CtxContract sha384Ctx Spec.Sha2.sha384 (fun c m => Abs512 Sha384.state c.engine m) ok512 :=
  ctxContract_of_refines sha384Ctx (fam512 Sha384) _ _ _ sha384_refines rfl rfl rfl rfl
    (by intro m; rw [sha384_length]; decide)

open Cx.Impl.Sha2 Cx.Proofs.Sha2Engine in
theorem sha512_224_ctx :
    CtxContract sha512_224Ctx Spec.Sha2.sha512_224 (fun c m => Abs512 Sha512Trunc224.state c.engine m) ok512 :=
  ctxContract_of_refines sha512_224Ctx (fam512 Sha512Trunc224) _ _ _ sha512_224_refines rfl rfl rfl rfl
    (by intro m; rw [sha512_224_length]; decide)

open Cx.Impl.Sha2 Cx.Proofs.Sha2Engine in
theorem sha512_256_ctx :
    CtxContract sha512_256Ctx Spec.Sha2.sha512_256 (fun c m => Abs512 Sha512Trunc256.state c.engine m) ok512 :=
  ctxContract_of_refines sha512_256Ctx (fam512 Sha512Trunc256) _ _ _ sha512_256_refines rfl rfl rfl rfl
    (by intro m; rw [sha512_256_length]; decide)

open Cx.Proofs.MacHmac

theorem keyBlock_length (key : Bytes) : (Spec.Hmac.keyBlock Spec.Sha2.sha256 64 key).length = 64 := by
  simp only [Spec.Hmac.keyBlock]
  split
  · simp [zeros]; omega
  · simp [zeros, sha256_length]

theorem ikey_length (key : Bytes) : (ikey Spec.Sha2.sha256 64 key).length = 64 := by
  simp [ikey, Spec.Hmac.xorPad, keyBlock_length]
theorem okey_length (key : Bytes) : (okey Spec.Sha2.sha256 64 key).length = 64 := by
  simp [okey, Spec.Hmac.xorPad, keyBlock_length]

theorem okH_of_length (key m : Bytes) (f : Fn) (h : m.length + 64 < 2 ^ 61) :
    okH Spec.Sha2.sha256 64 key (fun _ x => ok256 x) f m := by
  constructor
  · show (ikey Spec.Sha2.sha256 64 key ++ m).length < 2 ^ 61
    rw [List.length_append, ikey_length]; omega
  · show (okey Spec.Sha2.sha256 64 key ++ Spec.Sha2.sha256 _).length < 2 ^ 61
    rw [List.length_append, okey_length, sha256_length]; omega

end Cx.Proofs.MacInst
