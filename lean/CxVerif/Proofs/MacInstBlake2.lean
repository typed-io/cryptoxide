/-
  Proofs.MacInstBlake2 — the legacy BLAKE2 wrappers (`Impl.Digest.Blake2`, model of src/blake2b.rs / src/blake2s.rs)
  as `Digest` objects (`impl Digest for Blake2b / Blake2s`, dictionary `blake2Digest`) satisfy the DIGEST-object
  contract of Proofs.MacObj — the shape `hmac_generic`, `hkdf_extract_generic`, `hkdf_expand_generic`,
  `pbkdf2_generic` (Props/C08, C10) require:

      Contract (digestFam D) nn [nn, 8·nn, BLOCK_BYTES] (fun _ => none) (fun _ _ => True) RelB FinB

  for EVERY output length 0 < nn ≤ maxOut (64 / 32), in the tree as it is (`CodeVariant.repaired`):
  result after inputs = BLAKE2(nn, key of the object, concatenation), second result / input after result are
  refused, `reset` = fresh (same key), `output_bytes = nn`, `output_bits = 8·nn`, `block_size = 128 / 64`,
  no `reset_with_key` in `trait Digest`.  The abstraction relation is the one of the MAC contract
  (Proofs/MacBlake2.lean: `RelB`, `FinB`; the hash function is RFC 7693 BLAKE2 under the key the object RETAINS), so
  the statement covers keyed objects used through `trait Digest` as well; the object built by the UNKEYED
  constructor `Blake2b::new(nn)` is in `RelB … (blake2 P nn []) []` (`new_rel`), i.e. H = unkeyed BLAKE2-nn — that is
  the object `Hmac::new(Blake2b::new(nn), key)` receives.

  Second part: `ResultLen` (Proofs/GlueMac.lean: "a `&mut [u8]` handed to `Digest::result` keeps its length", the one
  fact the translator tie of src/hmac.rs needs about the digest dictionary).  For the BLAKE2 wrappers the UNRESTRICTED
  `ResultLen` is false on junk states no constructor produces (`outlen` field larger than the 64 / 32 bytes of `h`:
  `resultLen_junk`), so it is stated on the data-structure invariant `outlen ≤ maxOut` (`blake2_resultLenOn`; the
  constructors assert it, no method changes `outlen`); the tie theorems of src/hmac.rs (Proofs/GlueMac.lean, `…_at`)
  need the fact only at the two objects whose `result` the generated code measures, and there the digest-object
  contract supplies it (`resultLenAt_of_contract`).
-/
import CxVerif.Proofs.MacBlake2
import CxVerif.Proofs.MacHmac
import CxVerif.Proofs.GlueMac
namespace Cx.Proofs.MacInstBlake2
open Cx.Impl.Digest Cx.Proofs.MacObj Cx.Proofs.MacBlake2 Cx.Proofs.Blake2 Cx.Spec.Blake2
open Cx.Impl.Blake2 (Ctx Profile ContextDyn)

section generic
variable {W : Type} [Word W]

/-- **the contract of the BLAKE2 `Digest` objects in the tree as it is**, every output length, every retained key
    (`bb` = what `block_size()` returns) -/
theorem blake2_digest_contract (P : Params W) (g : Good P) (nn : Nat) (hn : 0 < nn ∧ nn ≤ P.maxOut) (bb : Nat) :
    Contract (digestFam (blake2Digest .repaired P bb)) nn [nn, nn * 8, bb] (fun _ => none) (fun _ _ => True)
      (RelB P nn) (FinB P nn) :=
  have hM := blake2_contract P g nn hn
  have hbytes : ∀ s : Blake2 W, s.ctx.outlen = nn →
      (blake2Digest .repaired P bb).output_bytes s = nn := by
    intro s ho
    simp only [DigestModel.output_bytes, blake2Digest, ContextDyn.output_bits, ho]
    omega
  { input := hM.input
    raw_result := hM.raw_result
    raw_bad := hM.raw_bad
    result := by
      intro s f m hr hok
      obtain ⟨s', e, hf⟩ := hM.raw_result s f m hr hok
      refine ⟨s', ?_, hf⟩
      show (blake2Digest .repaired P bb).result s ((blake2Digest .repaired P bb).output_bytes s) = _
      rw [hbytes s hr.outlen]
      exact e
    reset := hM.reset
    reset_fin := hM.reset_fin
    rekey := by intro s f m k f' _ hk; cases hk
    rekey_fin := by intro s f k f' _ hk; cases hk
    rekey_bad := by intros; rfl
    rekey_bad_fin := by intros; rfl
    fin_input := hM.fin_input
    fin_result := by
      intro s f hf
      exact hM.fin_raw s f _ hf
    fin_raw := hM.fin_raw
    out_rel := fun s f m hr => hbytes s hr.outlen
    out_fin := fun s f hf => hbytes s hf.outlen
    sizes_rel := by
      intro s f m hr
      show [(blake2Digest .repaired P bb).output_bytes s, s.ctx.output_bits, bb] = _
      rw [hbytes s hr.outlen, ContextDyn.output_bits, hr.outlen]
    sizes_fin := by
      intro s f hf
      show [(blake2Digest .repaired P bb).output_bytes s, s.ctx.output_bits, bb] = _
      rw [hbytes s hf.outlen, ContextDyn.output_bits, hf.outlen]
    len := hM.len }

theorem new_rel (P : Params W) (g : Good P) (nn : Nat) (hn : 0 < nn ∧ nn ≤ P.maxOut) :
    ∃ o, Blake2.new P nn = some o ∧ o.key = [] ∧ RelB P nn o (blake2 P nn []) [] :=
  ⟨{ ctx := { ctx := newState P nn [], outlen := nn }, computed := false, key := [] },
    by simp [Blake2.new, contextDyn_new_eq, contextDyn_new_keyed_eq, new_keyed_ite, hn], rfl, rfl, rfl, rfl,
    newState_relA P g nn hn.2 [] (Nat.zero_le _)⟩

/-- outside the domain the constructor refuses (`assert!(outlen > 0 && outlen <= MAX_OUTLEN)`) -/
theorem new_refuses (P : Params W) (nn : Nat) (hn : ¬ (0 < nn ∧ nn ≤ P.maxOut)) : Blake2.new P nn = none := by
  simp [Blake2.new, contextDyn_new_eq, contextDyn_new_keyed_eq, new_keyed_ite, hn]

theorem new_keyed_rel_digest (P : Params W) (g : Good P) (nn : Nat) (hn : 0 < nn ∧ nn ≤ P.maxOut) (key : Bytes)
    (hk : key.length ≤ P.maxKey) (keyAssert : Nat) (hka : key.length ≤ keyAssert) :
    ∃ o, Blake2.new_keyed P keyAssert nn key = some o ∧ RelB P nn o (blake2 P nn key) [] :=
  new_keyed_rel P g nn hn key hk keyAssert hka

end generic

theorem b_block : Extracted.Blake2.B_BLOCK_BYTES = 128 := by decide
theorem s_block : Extracted.Blake2.S_BLOCK_BYTES = 64 := by decide

theorem blake2b_new_rel (nn : Nat) (h : 1 ≤ nn ∧ nn ≤ 64) :
    ∃ o, Blake2.new Impl.Blake2.b nn = some o ∧ o.key = [] ∧
      RelB Spec.Blake2.b nn o (Spec.Blake2.blake2b nn []) [] := by
  have := new_rel Spec.Blake2.b good_b nn h
  rw [impl_b_eq_spec_b]; exact this

theorem blake2s_new_rel (nn : Nat) (h : 1 ≤ nn ∧ nn ≤ 32) :
    ∃ o, Blake2.new Impl.Blake2.s nn = some o ∧ o.key = [] ∧
      RelB Spec.Blake2.s nn o (Spec.Blake2.blake2s nn []) [] := by
  have := new_rel Spec.Blake2.s good_s nn h
  rw [impl_s_eq_spec_s]; exact this

theorem blake2b_new_refuses (nn : Nat) (h : ¬ (1 ≤ nn ∧ nn ≤ 64)) : Blake2.new Impl.Blake2.b nn = none := by
  rw [impl_b_eq_spec_b]; exact new_refuses Spec.Blake2.b nn h

theorem blake2s_new_refuses (nn : Nat) (h : ¬ (1 ≤ nn ∧ nn ≤ 32)) : Blake2.new Impl.Blake2.s nn = none := by
  rw [impl_s_eq_spec_s]; exact new_refuses Spec.Blake2.s nn h

section resultlen
open Cx.Impl.Hmac Cx.Extracted.GlueMac Cx.Proofs.GlueMac
variable {δ : Type} (D : DigestModel δ)

def ResultLenAt (d : δ) : Prop := ∀ (d' : δ) (n : Nat) (out : Bytes), D.result d n = some (d', out) → out.length = n

def ResultLenOn (I : δ → Prop) : Prop := ∀ d, I d → ResultLenAt D d

theorem resultLen_iff : ResultLen D ↔ ResultLenOn D (fun _ => True) :=
  ⟨fun h d _ d' n out e => h d d' n out e, fun h d d' n out e => h d trivial d' n out e⟩

/-- a value is returned only into a buffer of `L` bytes and has `L` bytes -/
theorem resultLenAt_of_contract {L : Nat} {sizes : List Nat} {fk : Bytes → Option Fn} {okD : Fn → Bytes → Prop}
    {RelD : δ → Fn → Bytes → Prop} {FinD : δ → Fn → Prop}
    (hD : Contract (digestFam D) L sizes fk okD RelD FinD) (d : δ) (f : Fn) :
    ((∃ m, RelD d f m ∧ okD f m) ∨ FinD d f) → ResultLenAt D d := by
  rintro (⟨m, hr, hok⟩ | hf) d' n out e
  · by_cases hn : n = L
    · subst hn
      obtain ⟨s', e', _⟩ := hD.raw_result d f m hr hok
      have e'' : D.result d n = some (s', f m) := e'
      rw [e''] at e
      cases e
      exact hD.len d f m hr hok
    · have e' : D.result d n = none := hD.raw_bad d f m n hr hok hn
      rw [e'] at e; cases e
  · have e' : D.result d n = none := hD.fin_raw d f n hf
    rw [e'] at e; cases e

/-- **End to end through the GENERATED functions of src/hmac.rs, from the digest-object contract ALONE** (the
    `ResultLen` hypothesis of `Props.C05.GlueTieMac.hmac_src_rfc2104` is a consequence of the contract at the two
    `result` calls where the generated code needs it): `Hmac::new(d0, key)`, one `input` per chunk, `result()` as the
    source says them return RFC 2104 HMAC_H(key, concatenation) for EVERY key length and EVERY chunking. -/
theorem hmac_src_rfc2104_of_contract (H : Fn) (B : Nat) (key : Bytes)
    (RelD : δ → Fn → Bytes → Prop) (FinD : δ → Fn → Prop) {L bits : Nat} {okD : Fn → Bytes → Prop}
    (hD : Contract (digestFam D) L [L, bits, B] (fun _ => none) okD RelD FinD) (hLB : L ≤ B)
    (d0 : δ) (h0 : RelD d0 H []) (chunks : List Bytes) (hk : key.length ≤ B ∨ okD H key)
    (hok : Proofs.MacHmac.okH H B key okD (Spec.Hmac.hmac H B key) chunks.flatten) :
    ∃ h h' h'', Hmac.new_src D d0 key = some h ∧ chunks.foldlM (Hmac.input_src D) h = some h' ∧
      Hmac.result_src D h' = some (h'', ⟨Spec.Hmac.hmac H B key chunks.flatten⟩) := by
  obtain ⟨h, e, hr⟩ := Proofs.MacHmac.hmac_new D H B key RelD FinD hD hLB d0 h0 hk
  have hC := Proofs.MacHmac.hmac_contract D H B key RelD FinD hD
  obtain ⟨h', e', hr'⟩ := Proofs.MacHmac.feed_chunks hC (Spec.Hmac.hmac H B key) chunks h [] hr
  have hr'' : Proofs.MacHmac.RelH H B key RelD h' (Spec.Hmac.hmac H B key) chunks.flatten := by simpa using hr'
  obtain ⟨h'', e'', _⟩ := hC.result h' _ _ hr'' hok
  have e3 : Hmac.result D h' = some (h'', Spec.Hmac.hmac H B key chunks.flatten) := e''
  refine ⟨h, h', h'', ?_, e', ?_⟩
  · rw [hmac_new_eq_at D d0 key]
    · exact e
    · intro hle d1 hi
      have hsz : [D.output_bytes d0, D.output_bits d0, D.block_size d0] = [L, bits, B] := hD.sizes_rel d0 H [] h0
      have hbs : D.block_size d0 = B := by simpa using congrArg (fun l => l.getD 2 0) hsz
      rw [hbs] at hle
      have hokk : okD H key := hk.resolve_left hle
      obtain ⟨d1', e1, hr1⟩ := hD.input d0 H [] key h0
      have e1' : D.input d0 key = some d1' := e1
      rw [e1'] at hi; cases hi
      exact resultLenAt_of_contract D hD d1 H (Or.inl ⟨key, by simpa using hr1, hokk⟩)
  · obtain ⟨_, _, _, _, hdig⟩ := hr''   -- the digest inside holds `ikey ++ message`
    rw [hmac_result_eq_at D h' (resultLenAt_of_contract D hD h'.digest H (Or.inl ⟨_, hdig, hok.1⟩)), e3]
    rfl

end resultlen

section blake2len
open Cx.Proofs.GlueMac
variable {W : Type} [Word W]

theorem setSlice_zero_length (buf src : Bytes) :
    (Impl.Blake2.setSlice buf 0 src).length = src.length + (buf.length - src.length) := by
  simp [Impl.Blake2.setSlice]

theorem internal_final_buf_len (P : Params W) (pr : Profile) (c c' : Ctx W)
    (h : Ctx.internal_final P pr c = some c') : 8 * wbytes W ≤ c'.buf.length := by
  unfold Ctx.internal_final at h
  split at h
  · cases h
  · cases h
    simp only [setSlice_zero_length, hbytes_length]
    omega

/-- **`ResultLen` of the BLAKE2 `Digest` dictionaries on the invariant `outlen ≤ MAX_OUTLEN`** (both code variants):
    a value is written only into a buffer of `outlen` bytes, and it is the first `outlen` of the ≥ 8·wbytes bytes of
    the staging buffer -/
theorem blake2_resultLenOn (v : CodeVariant) (P : Params W) (g : Good P) (bb : Nat) :
    ResultLenOn (blake2Digest v P bb) (fun d => d.ctx.outlen ≤ P.maxOut) := by
  intro d hI d' n out e
  have e' : Blake2.finalize P d n = some (d', out) := e
  unfold Blake2.finalize at e'
  split at e'
  · cases e'
  · simp only [ContextDyn.finalize_reset_at, Ctx.finalize_reset_at] at e'
    by_cases hn : n = d.ctx.outlen
    · subst hn
      cases hf : Ctx.internal_final P blakeProfile d.ctx.ctx with
      | none => simp [hf] at e'
      | some c =>
        simp only [hf, ne_eq, not_true_eq_false, if_false, Option.some.injEq, Prod.mk.injEq] at e'
        obtain ⟨_, rfl⟩ := e'
        have h1 := internal_final_buf_len P _ _ _ hf
        have h2 := g.out_le
        have hI' : d.ctx.outlen ≤ P.maxOut := hI
        simp only [List.length_take]
        omega
    · simp [hn] at e'

theorem outlen_new (P : Params W) (nn : Nat) (o : Blake2 W) (h : Blake2.new P nn = some o) : o.ctx.outlen ≤ P.maxOut := by
  by_cases hn : 0 < nn ∧ nn ≤ P.maxOut
  · simp [Blake2.new, contextDyn_new_eq, contextDyn_new_keyed_eq, new_keyed_ite, hn] at h
    rw [← h]; exact hn.2
  · rw [new_refuses P nn hn] at h; cases h

theorem outlen_update (P : Params W) (s s' : Blake2 W) (b : Bytes) (h : Blake2.update P s b = some s') :
    s'.ctx.outlen = s.ctx.outlen := by
  unfold Blake2.update ContextDyn.update_mut at h
  split at h
  · cases h
  · split at h
    · cases h
    · rename_i c hc
      split at hc
      · cases hc
      · cases hc; cases h; rfl

theorem outlen_finalize (P : Params W) (s s' : Blake2 W) (n : Nat) (out : Bytes)
    (h : Blake2.finalize P s n = some (s', out)) : s'.ctx.outlen = s.ctx.outlen := by
  unfold Blake2.finalize ContextDyn.finalize_reset_at at h
  split at h
  · cases h
  · split at h
    · cases h
    · rename_i c o hc
      split at hc
      · cases hc
      · cases hc; cases h; rfl

theorem outlen_reset (v : CodeVariant) (P : Params W) (s s' : Blake2 W) (h : Blake2.reset v P s = some s') :
    s'.ctx.outlen = s.ctx.outlen := by
  unfold Blake2.reset at h
  cases v with
  | current => cases h; rfl
  | repaired =>
    simp only at h
    split at h
    · unfold ContextDyn.reset_with_key at h
      split at h
      · cases h
      · rename_i c hc
        split at hc
        · cases hc
        · cases hc; cases h; rfl
    · cases h; rfl

/-- the UNRESTRICTED `ResultLen` is false for the BLAKE2 dictionaries: a junk object whose `outlen` field exceeds the
    `8·wbytes` bytes of `h` (no constructor produces it) answers `result(&mut [0; outlen])` with only `8·wbytes` bytes —
    in Rust that state does not exist (`ContextDyn::new` asserts `outlen ≤ MAX_OUTLEN`), whence the invariant above -/
theorem resultLen_junk (v : CodeVariant) (P : Params W) (bb : Nat) : ¬ ResultLen (blake2Digest v P bb) := by
  intro h
  let d : Blake2 W :=
    { ctx := { ctx := { eng := { h := P.iv, t0 := 0, t1 := 0 }, buf := [], buflen := 0 }, outlen := 8 * wbytes W + 1 },
      computed := false, key := [] }
  cases hr : (blake2Digest v P bb).result d (8 * wbytes W + 1) with
  | none =>
    simp [blake2Digest, Blake2.finalize, d, ContextDyn.finalize_reset_at, Ctx.finalize_reset_at, Ctx.internal_final,
      Impl.Blake2.Engine.increment_counter, Impl.Blake2.addAssign, blakeProfile] at hr
  | some p =>
    obtain ⟨d', out⟩ := p
    have hl := h d d' _ out hr
    simp [blake2Digest, Blake2.finalize, d, ContextDyn.finalize_reset_at, Ctx.finalize_reset_at, Ctx.internal_final,
      Impl.Blake2.Engine.increment_counter, Impl.Blake2.addAssign, blakeProfile] at hr
    obtain ⟨_, rfl⟩ := hr
    simp only [List.length_take, setSlice_zero_length, hbytes_length] at hl
    simp [Impl.Blake2.zeroFrom, zeros] at hl

end blake2len

end Cx.Proofs.MacInstBlake2
