/-
  Proofs.MacInstSha3 — the context contract of the eight SHA-3 / Keccak contexts wrapped by the legacy digests of
  src/sha3.rs, from the sha3 unit's refinement (`engine_of r m` IS the state after absorbing `m`; Props/C02/Sha3).
  No length guard: the sponge has no length field.
-/
import CxVerif.Proofs.MacLegacy
import CxVerif.Props.C02.Sha3
namespace Cx.Proofs.MacInstSha3
open Cx.Impl.Digest Cx.Proofs.MacLegacy Cx.Proofs.Sponge Cx.Impl.Sha3 Cx.Spec.Keccak

theorem sponge_length {dl ds r : Nat} {sfx : List Bool} (hv : Variant dl ds r sfx) (m : Bytes) :
    (sponge r m sfx dl).length = dl := by
  have := hv.hlt
  have := hv.r_le
  rw [sponge_eq_take hv, List.length_take, absorbBlocks_length _ _ _ _ (Bytes.zeros_length 200)]
  omega

theorem sponge_ctx {dl ds r : Nat} {sfx : List Bool} (hv : Variant dl ds r sfx) (id : Nat) (hb : (tblBits id + 7) / 8 = dl) :
    CtxContract (sha3Ctx dl ds id) (fun m => sponge r m sfx dl) (fun c m => c = engine_of r m) (fun _ => True) where
  new := Cx.Props.C02.new_refines r hv.r_pos
  update_mut := by
    rintro c m b rfl
    exact ⟨_, (Cx.Props.C02.update_refines dl r hv.hrate hv.r_pos m b).1, rfl⟩
  reset := by
    rintro c m rfl
    show Context.reset (engine_of r m) = engine_of r []
    rw [Cx.Props.C02.reset_is_new, Cx.Props.C02.new_refines r hv.r_pos]
  finalize_reset := by
    rintro c m rfl _
    exact ⟨_, Cx.Props.C02.finalize_reset_fresh dl ds r sfx hv m, Cx.Props.C02.new_refines r hv.r_pos⟩
  out_len := by
    intro m _
    show (sponge r m sfx dl).length = (tblBits id + 7) / 8
    rw [sponge_length hv, hb]

/- the numerals 7 … 14 are the rows of these eight contexts in the digest table (`tblBits id`, Impl/Digest.lean) -/
theorem sha3_224_ctx : CtxContract sha3_224Ctx sha3_224 (fun c m => c = engine_of 144 m) (fun _ => True) :=
  sponge_ctx variant_sha3_224 7 (by decide)
theorem sha3_256_ctx : CtxContract sha3_256Ctx sha3_256 (fun c m => c = engine_of 136 m) (fun _ => True) :=
  sponge_ctx variant_sha3_256 8 (by decide)
theorem sha3_384_ctx : CtxContract sha3_384Ctx sha3_384 (fun c m => c = engine_of 104 m) (fun _ => True) :=
  sponge_ctx variant_sha3_384 9 (by decide)
theorem sha3_512_ctx : CtxContract sha3_512Ctx sha3_512 (fun c m => c = engine_of 72 m) (fun _ => True) :=
  sponge_ctx variant_sha3_512 10 (by decide)
theorem keccak224_ctx : CtxContract keccak224Ctx keccak224 (fun c m => c = engine_of 144 m) (fun _ => True) :=
  sponge_ctx variant_keccak224 11 (by decide)
theorem keccak256_ctx : CtxContract keccak256Ctx keccak256 (fun c m => c = engine_of 136 m) (fun _ => True) :=
  sponge_ctx variant_keccak256 12 (by decide)
theorem keccak384_ctx : CtxContract keccak384Ctx keccak384 (fun c m => c = engine_of 104 m) (fun _ => True) :=
  sponge_ctx variant_keccak384 13 (by decide)
theorem keccak512_ctx : CtxContract keccak512Ctx keccak512 (fun c m => c = engine_of 72 m) (fun _ => True) :=
  sponge_ctx variant_keccak512 14 (by decide)

end Cx.Proofs.MacInstSha3
