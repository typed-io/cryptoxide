/-
  Proofs.MacLegacy — the macro-generated legacy digest wrappers (`struct $name { ctx, computed }`) satisfy the object
  contract of Proofs.MacObj as soon as the wrapped context type refines "bytes since the last reset" (`CtxContract`,
  the shape of `Proofs.HashProg.Refines` restricted to the three methods a wrapper calls).  Core Lean only.
-/
import CxVerif.Proofs.MacObj
namespace Cx.Proofs.MacLegacy
open Cx.Impl.Digest Cx.Proofs.MacObj

/-- what a wrapper needs of its context type: `R c m` = "context `c` has absorbed exactly `m` since new / reset" -/
structure CtxContract {γ : Type} (M : CtxModel γ) (H : Fn) (R : γ → Bytes → Prop) (ok : Bytes → Prop) : Prop where
  new : R M.new []
  update_mut : ∀ c m b, R c m → ∃ c', M.update_mut c b = some c' ∧ R c' (m ++ b)
  reset : ∀ c m, R c m → R (M.reset c) []
  finalize_reset : ∀ c m, R c m → ok m → ∃ c', M.finalize_reset c = some (c', H m) ∧ R c' []
  /-- the digest has the length the wrapper reports: `output_bytes() = (OUTPUT_BITS + 7) / 8` -/
  out_len : ∀ m, ok m → (H m).length = (M.OUTPUT_BITS + 7) / 8

/-- the typing fact behind `result(&mut self, out: &mut [u8])` for the macro-generated wrappers: the slice keeps its length -/
theorem legacy_result_length {γ : Type} (C : CtxModel γ) (d d' : Legacy γ) (n : Nat) (out : Bytes)
    (h : (legacyDigest C).result d n = some (d', out)) : out.length = n := by
  simp only [legacyDigest, Legacy.result] at h
  repeat' split at h
  all_goals cases h
  rename_i hn
  exact hn.symm

section
variable {γ : Type} (M : CtxModel γ) (H : Fn) (R : γ → Bytes → Prop)

def RelL (s : Legacy γ) (f : Fn) (m : Bytes) : Prop := f = H ∧ s.computed = false ∧ R s.ctx m
def FinL (s : Legacy γ) (f : Fn) : Prop := f = H ∧ s.computed = true ∧ ∃ m, R s.ctx m

def outBytes : Nat := (M.OUTPUT_BITS + 7) / 8
def sizesOf : List Nat := [outBytes M, M.OUTPUT_BITS, M.BLOCK_BYTES]

theorem legacy_contract {ok : Bytes → Prop} (h : CtxContract M H R ok) :
    Contract (digestFam (legacyDigest M)) (outBytes M) (sizesOf M) (fun _ => none) (fun _ m => ok m)
      (RelL H R) (FinL H R) where
  input := by
    rintro s f m b ⟨rfl, hc, hr⟩
    obtain ⟨c', e, hr'⟩ := h.update_mut s.ctx m b hr
    exact ⟨{ s with ctx := c' }, by simp [digestFam, legacyDigest, Legacy.input, hc, e], rfl, hc, hr'⟩
  raw_result := by
    rintro s f m ⟨rfl, hc, hr⟩ hok
    obtain ⟨c', e, hr'⟩ := h.finalize_reset s.ctx m hr hok
    refine ⟨{ ctx := c', computed := true }, ?_, rfl, rfl, [], hr'⟩
    simp [digestFam, legacyDigest, Legacy.result, hc, e, h.out_len m hok, outBytes]
  raw_bad := by
    rintro s f m n ⟨rfl, hc, hr⟩ hok hn
    obtain ⟨c', e, _⟩ := h.finalize_reset s.ctx m hr hok
    simp [digestFam, legacyDigest, Legacy.result, hc, e, h.out_len m hok]
    exact hn
  result := by
    rintro s f m ⟨rfl, hc, hr⟩ hok
    obtain ⟨c', e, hr'⟩ := h.finalize_reset s.ctx m hr hok
    refine ⟨{ ctx := c', computed := true }, ?_, rfl, rfl, [], hr'⟩
    simp [digestFam, legacyDigest, Legacy.result, hc, e, h.out_len m hok, DigestModel.output_bytes, Legacy.output_bits]
  reset := by
    rintro s f m ⟨rfl, _, hr⟩
    exact ⟨Legacy.reset M s, rfl, rfl, rfl, h.reset s.ctx m hr⟩
  reset_fin := by
    rintro s f ⟨rfl, _, m, hr⟩
    exact ⟨Legacy.reset M s, rfl, rfl, rfl, h.reset s.ctx m hr⟩
  rekey := by intro s f m k f' _ hk; cases hk
  rekey_fin := by intro s f k f' _ hk; cases hk
  rekey_bad := by intros; rfl
  rekey_bad_fin := by intros; rfl
  fin_input := by
    rintro s f b ⟨rfl, hc, _⟩
    simp [digestFam, legacyDigest, Legacy.input, hc]
  fin_result := by
    rintro s f ⟨rfl, hc, _⟩
    simp [digestFam, legacyDigest, Legacy.result, hc]
  fin_raw := by
    rintro s f n ⟨rfl, hc, _⟩
    simp [digestFam, legacyDigest, Legacy.result, hc]
  out_rel := by intros; rfl
  out_fin := by intros; rfl
  sizes_rel := by intros; rfl
  sizes_fin := by intros; rfl
  len := by
    rintro s f m ⟨rfl, _, _⟩ hok
    exact h.out_len m hok

theorem legacy_contract_sized {ok : Bytes → Prop} (h : CtxContract M H R ok) {L B : Nat} (hL : outBytes M = L) (hB : M.BLOCK_BYTES = B) :
    Contract (digestFam (legacyDigest M)) L [L, M.OUTPUT_BITS, B] (fun _ => none) (fun _ m => ok m) (RelL H R) (FinL H R) := by
  subst hL hB; exact legacy_contract M H R h

theorem legacy_new {ok : Bytes → Prop} (h : CtxContract M H R ok) : RelL H R (Legacy.new M) H [] :=
  ⟨rfl, rfl, h.new⟩

end
end Cx.Proofs.MacLegacy
