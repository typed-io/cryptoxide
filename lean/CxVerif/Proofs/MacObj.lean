/-
  Proofs.MacObj — the generic simulation lemma of property C09 for the history machine `Impl.Digest.runHist`:
  an object family `F` (a legacy digest type, `Hmac<D>`, a keyed BLAKE2 wrapper) whose methods respect an abstraction
  relation (`Contract`) behaves on EVERY history exactly like the abstract object `Spec.MacObj.Abs`
  (function under the retained key, bytes since the last reset, finished?).  The contract is read call by call
  (`Contract.sim_input`, `sim_raw`, `sim_result`, `sim_reset`, `sim_rekey`: on `Sim`-related objects each method answers as
  the abstract object does, `OptSim`); `runHist_sim` is the induction over the op list on top of these (with clone /
  swap and the reported sizes), and the refusal matrix of Proofs.RefusalMac reads the same five lemmas.
  Core Lean only.
-/
import CxVerif.Impl.Digest
namespace Cx.Proofs.MacObj
open Cx.Impl.Digest Cx.Spec.MacObj

abbrev Fn := Bytes → Bytes

/-- The step obligations of an object family against the abstract object.
    `Rel s f m`: `s` is an object that computes `f`, has absorbed exactly `m` since creation / the last reset and has
    not produced its result; `Fin s f`: it has produced its result (and still retains the key of `f`).
    `ok f m` is the domain guard of the underlying hash (e.g. `m.length < 2^61`), needed only where a result is asked for.
    `fk k`: the function after `reset_with_key(k)` (`none` = refused / no such method). -/
structure Contract {σ : Type} (F : ObjFam σ) (outLen : Nat) (sizes : List Nat) (fk : Bytes → Option Fn)
    (ok : Fn → Bytes → Prop) (Rel : σ → Fn → Bytes → Prop) (Fin : σ → Fn → Prop) : Prop where
  input : ∀ s f m b, Rel s f m → ∃ s', F.input s b = some s' ∧ Rel s' f (m ++ b)
  raw_result : ∀ s f m, Rel s f m → ok f m → ∃ s', F.raw_result s outLen = some (s', f m) ∧ Fin s' f
  raw_bad : ∀ s f m n, Rel s f m → ok f m → n ≠ outLen → F.raw_result s n = none
  result : ∀ s f m, Rel s f m → ok f m → ∃ s', F.result s = some (s', f m) ∧ Fin s' f
  reset : ∀ s f m, Rel s f m → ∃ s', F.reset s = some s' ∧ Rel s' f []
  reset_fin : ∀ s f, Fin s f → ∃ s', F.reset s = some s' ∧ Rel s' f []
  rekey : ∀ s f m k f', Rel s f m → fk k = some f' → ∃ s', F.reset_with_key s k = some s' ∧ Rel s' f' []
  rekey_fin : ∀ s f k f', Fin s f → fk k = some f' → ∃ s', F.reset_with_key s k = some s' ∧ Rel s' f' []
  rekey_bad : ∀ s f m k, Rel s f m → fk k = none → F.reset_with_key s k = none
  rekey_bad_fin : ∀ s f k, Fin s f → fk k = none → F.reset_with_key s k = none
  fin_input : ∀ s f b, Fin s f → F.input s b = none
  fin_result : ∀ s f, Fin s f → F.result s = none
  fin_raw : ∀ s f n, Fin s f → F.raw_result s n = none
  out_rel : ∀ s f m, Rel s f m → F.output_bytes s = outLen
  out_fin : ∀ s f, Fin s f → F.output_bytes s = outLen
  sizes_rel : ∀ s f m, Rel s f m → F.sizes s = sizes
  sizes_fin : ∀ s f, Fin s f → F.sizes s = sizes
  len : ∀ s f m, Rel s f m → ok f m → (f m).length = outLen

/-- concrete object `s` is represented by the abstract object `a` -/
def Sim {σ : Type} (outLen : Nat) (Rel : σ → Fn → Bytes → Prop) (Fin : σ → Fn → Prop) (s : σ) (a : Abs) : Prop :=
  a.outLen = outLen ∧ (if a.finished then Fin s a.f else Rel s a.f a.data)

section
variable {σ : Type} {outLen : Nat} {Rel : σ → Fn → Bytes → Prop} {Fin : σ → Fn → Prop} {s : σ} {a : Abs}

theorem Sim.fin (h : Sim outLen Rel Fin s a) (hf : a.finished = true) : Fin s a.f := by
  have := h.2; rwa [hf, if_pos rfl] at this

theorem Sim.rel (h : Sim outLen Rel Fin s a) (hf : a.finished = false) : Rel s a.f a.data := by
  have := h.2; rwa [hf, if_neg Bool.false_ne_true] at this

theorem Sim.of_fin (hL : a.outLen = outLen) (hf : a.finished = true) (hF : Fin s a.f) : Sim outLen Rel Fin s a :=
  ⟨hL, by rw [hf, if_pos rfl]; exact hF⟩

theorem Sim.fresh {f : Fn} (hR : Rel s f []) : Sim outLen Rel Fin s (fresh f outLen) := ⟨rfl, hR⟩

theorem Sim.of_rel (hL : a.outLen = outLen) (hf : a.finished = false) (hR : Rel s a.f a.data) : Sim outLen Rel Fin s a :=
  ⟨hL, by rw [hf, if_neg Bool.false_ne_true]; exact hR⟩

end

def StackSim {σ : Type} (outLen : Nat) (Rel : σ → Fn → Bytes → Prop) (Fin : σ → Fn → Prop) : List σ → List Abs → Prop
  | [], [] => True
  | s :: ss, a :: as => Sim outLen Rel Fin s a ∧ StackSim outLen Rel Fin ss as
  | _, _ => False

/-- every result of the history is asked for inside the domain `ok` (checked along the abstract run) -/
def Guard (sizes : List Nat) (fk : Bytes → Option Fn) (ok : Fn → Bytes → Prop) : List Op → Abs → List Abs → Prop
  | [], _, _ => True
  | .input b :: ops, a, st =>
    match Spec.MacObj.input a b with
    | none => True
    | some a' => Guard sizes fk ok ops a' st
  | .result :: ops, a, st =>
    (a.finished = false → ok a.f a.data) ∧
    match Spec.MacObj.result a with
    | none => True
    | some (a', _) => Guard sizes fk ok ops a' st
  | .rawResult n :: ops, a, st =>
    (a.finished = false → ok a.f a.data) ∧
    match Spec.MacObj.resultN a (n.getD a.outLen) with
    | none => True
    | some (a', _) => Guard sizes fk ok ops a' st
  | .reset :: ops, a, st => Guard sizes fk ok ops (Spec.MacObj.reset a) st
  | .resetWithKey k :: ops, a, st =>
    match fk k with
    | none => True
    | some f' => Guard sizes fk ok ops (Spec.MacObj.rekey a f') st
  | .clone :: ops, a, st => Guard sizes fk ok ops a (a :: st)
  | .swap :: ops, a, [] => Guard sizes fk ok ops a []
  | .swap :: ops, a, t :: st => Guard sizes fk ok ops t (a :: st)
  | .sizes :: ops, a, st => Guard sizes fk ok ops a st

section
variable {a : Abs}

theorem input_fin (hf : a.finished = true) (b : Bytes) : input a b = none := by simp [input, hf]
theorem input_rel (hf : a.finished = false) (b : Bytes) : input a b = some { a with data := a.data ++ b } := by
  simp [input, hf]
theorem resultN_fin (hf : a.finished = true) (n : Nat) : resultN a n = none := by simp [resultN, hf]
theorem resultN_bad {n : Nat} (hn : n ≠ a.outLen) : resultN a n = none := by simp [resultN, hn]
theorem resultN_rel (hf : a.finished = false) :
    resultN a a.outLen = some ({ a with finished := true }, a.f a.data) := by simp [resultN, hf]

theorem resultN_some {a' : Abs} {n : Nat} {v : Bytes} (e : resultN a n = some (a', v)) :
    v = a.f a.data ∧ a.finished = false := by
  unfold resultN at e
  repeat' split at e
  all_goals cases e
  exact ⟨rfl, by simpa using ‹¬a.finished = true›⟩

end

def OptSim {α β : Type} (R : α → β → Prop) (x : Option α) (y : Option β) : Prop :=
  (x = none ∧ y = none) ∨ ∃ a b, x = some a ∧ y = some b ∧ R a b

section
variable {α β : Type} {R : α → β → Prop} {x : Option α} {y : Option β} (h : OptSim R x y)
include h

theorem OptSim.none_iff : x = none ↔ y = none := by
  rcases h with ⟨e1, e2⟩ | ⟨a, b, e1, e2, _⟩ <;> simp [e1, e2]

theorem OptSim.of_some {a : α} (e : x = some a) : ∃ b, y = some b ∧ R a b := by
  rcases h with ⟨e1, _⟩ | ⟨a1, b, e1, e2, hR⟩
  · rw [e1] at e; cases e
  · rw [e1] at e; cases e; exact ⟨b, e2, hR⟩

theorem OptSim.map {α' β' : Type} {R' : α' → β' → Prop} {f : α → α'} {g : β → β'}
    (hfg : ∀ a b, R a b → R' (f a) (g b)) : OptSim R' (x.map f) (y.map g) := by
  rcases h with ⟨rfl, rfl⟩ | ⟨a, b, rfl, rfl, hR⟩
  · exact .inl ⟨rfl, rfl⟩
  · exact .inr ⟨_, _, rfl, rfl, hfg a b hR⟩

end

section calls
variable {σ : Type} {F : ObjFam σ} {outLen : Nat} {sizes : List Nat} {fk : Bytes → Option Fn}
  {ok : Fn → Bytes → Prop} {Rel : σ → Fn → Bytes → Prop} {Fin : σ → Fn → Prop}

abbrev SimOut (outLen : Nat) (Rel : σ → Fn → Bytes → Prop) (Fin : σ → Fn → Prop) (p : σ × Bytes) (q : Abs × Bytes) : Prop :=
  p.2 = q.2 ∧ Sim outLen Rel Fin p.1 q.1

variable (h : Contract F outLen sizes fk ok Rel Fin) {s : σ} {a : Abs} (hS : Sim outLen Rel Fin s a)
include h hS

theorem Contract.sim_input (b : Bytes) : OptSim (Sim outLen Rel Fin) (F.input s b) (Spec.MacObj.input a b) := by
  cases hf : a.finished with
  | true => exact .inl ⟨h.fin_input s a.f b (hS.fin hf), input_fin hf b⟩
  | false =>
    obtain ⟨s', e, hR⟩ := h.input s a.f a.data b (hS.rel hf)
    exact .inr ⟨s', { a with data := a.data ++ b }, e, input_rel hf b, .of_rel hS.1 hf hR⟩

theorem Contract.sim_raw (hok : a.finished = false → ok a.f a.data) (n : Nat) :
    OptSim (SimOut outLen Rel Fin) (F.raw_result s n) (resultN a n) := by
  have hL := hS.1
  subst hL
  cases hf : a.finished with
  | true => exact .inl ⟨h.fin_raw s a.f n (hS.fin hf), resultN_fin hf n⟩
  | false =>
    by_cases hn : n = a.outLen
    · subst hn
      obtain ⟨s', e, hF⟩ := h.raw_result s a.f a.data (hS.rel hf) (hok hf)
      exact .inr ⟨(s', _), ({ a with finished := true }, _), e, resultN_rel hf, rfl, .of_fin rfl rfl hF⟩
    · exact .inl ⟨h.raw_bad s a.f a.data n (hS.rel hf) (hok hf) hn, resultN_bad hn⟩

theorem Contract.sim_result (hok : a.finished = false → ok a.f a.data) :
    OptSim (SimOut outLen Rel Fin) (F.result s) (Spec.MacObj.result a) := by
  cases hf : a.finished with
  | true => exact .inl ⟨h.fin_result s a.f (hS.fin hf), resultN_fin hf _⟩
  | false =>
    obtain ⟨s', e, hF⟩ := h.result s a.f a.data (hS.rel hf) (hok hf)
    exact .inr ⟨(s', _), ({ a with finished := true }, _), e, resultN_rel hf, rfl, .of_fin hS.1 rfl hF⟩

theorem Contract.sim_reset : OptSim (Sim outLen Rel Fin) (F.reset s) (some (Spec.MacObj.reset a)) := by
  have : ∃ s', F.reset s = some s' ∧ Rel s' a.f [] := by
    cases hf : a.finished with
    | true => exact h.reset_fin s a.f (hS.fin hf)
    | false => exact h.reset s a.f a.data (hS.rel hf)
  obtain ⟨s', e, hR⟩ := this
  exact .inr ⟨s', Spec.MacObj.reset a, e, rfl, .of_rel hS.1 rfl hR⟩

theorem Contract.sim_rekey (k : Bytes) :
    OptSim (Sim outLen Rel Fin) (F.reset_with_key s k) ((fk k).map (Spec.MacObj.rekey a)) := by
  cases hk : fk k with
  | none =>
    refine .inl ⟨?_, rfl⟩
    cases hf : a.finished with
    | true => exact h.rekey_bad_fin s a.f k (hS.fin hf) hk
    | false => exact h.rekey_bad s a.f a.data k (hS.rel hf) hk
  | some f' =>
    have : ∃ s', F.reset_with_key s k = some s' ∧ Rel s' f' [] := by
      cases hf : a.finished with
      | true => exact h.rekey_fin s a.f k f' (hS.fin hf) hk
      | false => exact h.rekey s a.f a.data k f' (hS.rel hf) hk
    obtain ⟨s', e, hR⟩ := this
    exact .inr ⟨s', Spec.MacObj.rekey a f', e, rfl, .of_rel hS.1 rfl hR⟩

theorem Contract.out : F.output_bytes s = a.outLen ∧ F.sizes s = sizes := by
  rw [hS.1]
  cases hf : a.finished with
  | true => exact ⟨h.out_fin s a.f (hS.fin hf), h.sizes_fin s a.f (hS.fin hf)⟩
  | false => exact ⟨h.out_rel s a.f a.data (hS.rel hf), h.sizes_rel s a.f a.data (hS.rel hf)⟩

end calls

/-- **simulation**: on every history whose results are asked for inside the domain, the object family answers
    exactly like the abstract object — the same emitted values, the panic at the same op -/
theorem runHist_sim {σ : Type} {F : ObjFam σ} {outLen : Nat} {sizes : List Nat} {fk : Bytes → Option Fn}
    {ok : Fn → Bytes → Prop} {Rel : σ → Fn → Bytes → Prop} {Fin : σ → Fn → Prop}
    (h : Contract F outLen sizes fk ok Rel Fin) :
    ∀ (ops : List Op) (s : σ) (st : List σ) (out : List Out) (a : Abs) (as : List Abs),
      Sim outLen Rel Fin s a → StackSim outLen Rel Fin st as → Guard sizes fk ok ops a as →
      runHist F ops s st out = runHist (absFam sizes fk) ops a as out := by
  intro ops
  induction ops with
  | nil => intro s st out a as _ _ _; rfl
  | cons op ops ih =>
    intro s st out a as hS hSt hG
    cases op with
    | input b =>
      rcases h.sim_input hS b with ⟨e1, e2⟩ | ⟨s', a', e1, e2, hS'⟩
      · simp only [runHist, absFam, e1, e2]
      · simp only [Guard, e2] at hG
        simp only [runHist, absFam, e1, e2]
        exact ih s' st out a' as hS' hSt hG
    | result =>
      rcases h.sim_result hS hG.1 with ⟨e1, e2⟩ | ⟨⟨s', v⟩, ⟨a', _⟩, e1, e2, rfl, hS'⟩
      · simp only [runHist, absFam, e1, e2]
      · have hG := hG.2
        simp only [e2] at hG
        simp only [runHist, absFam, e1, e2]
        exact ih s' st _ a' as hS' hSt hG
    | rawResult n =>
      rcases h.sim_raw hS hG.1 (n.getD a.outLen) with ⟨e1, e2⟩ | ⟨⟨s', v⟩, ⟨a', _⟩, e1, e2, rfl, hS'⟩
      · simp only [runHist, absFam, (h.out hS).1, e1, e2]
      · have hG := hG.2
        simp only [e2] at hG
        simp only [runHist, absFam, (h.out hS).1, e1, e2]
        exact ih s' st _ a' as hS' hSt hG
    | reset =>
      rcases h.sim_reset hS with ⟨_, e2⟩ | ⟨s', a', e1, e2, hS'⟩
      · cases e2
      · cases e2
        simp only [runHist, absFam, e1]
        exact ih s' st out _ as hS' hSt hG
    | resetWithKey k =>
      rcases h.sim_rekey hS k with ⟨e1, e2⟩ | ⟨s', a', e1, e2, hS'⟩
      · simp only [runHist, absFam, e1, e2]
      · cases hk : fk k with
        | none => rw [hk] at e2; cases e2
        | some f' =>
          rw [hk] at e2; cases e2
          simp only [Guard, hk] at hG
          simp only [runHist, absFam, e1, hk, Option.map_some]
          exact ih s' st out _ as hS' hSt hG
    | clone => exact ih s (s :: st) out a (a :: as) hS ⟨hS, hSt⟩ hG
    | swap =>
      match st, as, hSt with
      | [], [], hSt => exact ih s [] out a [] hS hSt hG
      | c :: cs, t :: as, hSt => exact ih c (s :: cs) out t (a :: as) hSt.1 ⟨hS, hSt.2⟩ hG
    | sizes =>
      simp only [runHist, absFam, (h.out hS).2]
      exact ih s st _ a as hS hSt hG

theorem runHist_fresh {σ : Type} {F : ObjFam σ} {outLen : Nat} {sizes : List Nat} {fk : Bytes → Option Fn}
    {ok : Fn → Bytes → Prop} {Rel : σ → Fn → Bytes → Prop} {Fin : σ → Fn → Prop}
    (h : Contract F outLen sizes fk ok Rel Fin) (s : σ) (f : Fn) (hs : Rel s f []) (ops : List Op)
    (hG : Guard sizes fk ok ops (fresh f outLen) []) :
    runHist F ops s [] [] = runHist (absFam sizes fk) ops (fresh f outLen) [] [] :=
  runHist_sim h ops s [] [] (fresh f outLen) [] (.fresh hs) trivial hG

/-! ### a law of the abstract object (the others, for the four clauses of C09, are stated in Props/C09/MacDigest.lean) -/

theorem abs_reset_fresh (a : Abs) : reset a = fresh a.f a.outLen := rfl

end Cx.Proofs.MacObj
