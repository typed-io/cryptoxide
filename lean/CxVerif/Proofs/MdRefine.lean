/-
  Proofs.MdRefine — the one refinement every Merkle–Damgård engine of the crate goes through.  An engine record `ε`
  (Engine256, Engine512, sha1::Context, ripemd160::Context) is read through `Eng`: a `FixedBuffer`, a chaining value, a byte
  counter kept modulo `M`; its `input` is `FixedBuffer.input` plus the counter, its finish is `standard_padding`, a length
  field computed from the counter, `full_buffer` and a last compression.  An instance states only that (two equations on the
  success path, `input_ok` and `fin_ok`, each proved by unfolding the method once), its two callback contracts and its length
  field.  Proved here once: `Abs` ("has absorbed exactly `msg`") is kept by `input`; finish yields `Spec.MD.hash`; finish from
  ANY live well-formed state compresses `buffered ‖ 0x80 ‖ 0^z ‖ lenBytes counter` (the counter clause of C20).
  The preset-counter run (`HashLen.eng_tail`) is in Proofs/HashLen.lean.  Core Lean only.
-/
import CxVerif.Proofs.FixedBuffer
namespace Cx.Proofs.Md
open Cx.Impl Cx.Proofs.FB
open Cx.Spec.MD (padZeros)

/-- how one engine record is read, its parameters, and what its two methods do; `τ` is what its finish returns and `pack`
    builds that from the engine, the emptied buffer and the final chaining value.
    An instance is written as a `@[reducible] def`: `simp only`, `show` and `dsimp only` then see `E.input e`, `E.cnt e` … as the
    engine's own method or field, so the instance's bridge to its spelt-out relation and the uses of `Abs.input` / `Abs.fin`
    need no unfolding lemma per field. -/
structure Eng (ε σ τ : Type) where
  N : Nat
  rem : Nat
  /-- the counter is kept modulo `M` -/
  M : Nat
  compress : σ → Bytes → σ
  /-- the closure handed to `FixedBuffer::input`: takes any whole number of blocks (`hf`) -/
  func : σ → Bytes → Option σ
  /-- the closure handed to `standard_padding` and called on the last block: takes one block (`hf1`).  SHA-1 and RIPEMD-160
      pass a different function here than to `input`, SHA-2 the same -/
  funcFin : σ → Bytes → Option σ
  /-- the length field as the code computes it from the counter, and how it is written -/
  lenBytes : Nat → Bytes
  wr : Nat → FixedBuffer → Option FixedBuffer
  /-- the standard's encoder of the bit length -/
  lenEnc : Nat → Bytes
  buf : ε → FixedBuffer
  st : ε → σ
  cnt : ε → Nat
  /-- the states in which the methods do not refuse: `finished = false` for Engine256 (`assert!(!self.finished)`), `True`
      for the engines without such a flag -/
  live : ε → Prop
  input : ε → Bytes → Option ε
  fin : ε → Option τ
  pack : ε → FixedBuffer → σ → τ
  hN : 0 < N
  hrem : rem ≤ N
  hf : FuncIsBlocks N func compress
  hf1 : FuncOneBlock N funcFin compress
  hlb : ∀ n, (lenBytes n).length = rem
  hwr : ∀ n, WritesLen N (wr n) (lenBytes n)
  /-- for EVERY counter value the field is the low `8·rem` bits of the bit length -/
  hlenc : ∀ x, lenBytes (x % M) = lenEnc (8 * x % 2 ^ (8 * rem))
  input_ok : ∀ e inp b' s', live e → (buf e).input N inp func (st e) = some (b', s') →
    ∃ e', input e inp = some e' ∧ buf e' = b' ∧ st e' = s' ∧ cnt e' = (cnt e + inp.length) % M ∧ live e'
  fin_ok : ∀ e b1 s1 b2 b3 blk s2, live e → (buf e).standard_padding N rem funcFin (st e) = some (b1, s1) →
    wr (cnt e) b1 = some b2 → b2.full_buffer N = some (b3, blk) → funcFin s1 blk = some s2 →
    fin e = some (pack e b3 s2)

variable {ε σ τ : Type} (E : Eng ε σ τ)

/-- engine `e` has absorbed exactly `msg` since it was fresh with chaining value `iv`.  The relations the property statements
    are written with (`Sha2Engine.Abs256`, `Abs512`, `Sha1Stream.Abs`, `Ripemd160Stream.Abs`) are
    this relation at the four instances, spelt out; `abs256_iff`, `abs512_iff`, `Sha1Stream.abs_iff`, `Ripemd160Stream.abs_iff`. -/
def Abs (iv : σ) (e : ε) (msg : Bytes) : Prop :=
  E.cnt e = msg.length % E.M ∧ WF E.N (E.buf e) ∧ (E.buf e).data = blockTail E.N msg
  ∧ E.st e = (fullBlocks E.N msg).foldl E.compress iv ∧ E.live e

theorem Abs.fresh {iv : σ} {e : ε} (hc : E.cnt e = 0) (hl : (E.buf e).buffer.length = E.N)
    (hi : (E.buf e).buffer_idx = 0) (hs : E.st e = iv) (hv : E.live e) : Abs E iv e [] := by
  refine ⟨by simpa using hc, ⟨hl, hi ▸ E.hN⟩, ?_, ?_, hv⟩
  · simp [FixedBuffer.data, hi, blockTail]
  · simpa [fullBlocks, takeBlocks] using hs

theorem input_any {e : ε} (inp : Bytes) (hw : WF E.N (E.buf e)) (hv : E.live e) :
    ∃ e', E.input e inp = some e' ∧ WF E.N (E.buf e') ∧ (E.buf e').data = blockTail E.N ((E.buf e).data ++ inp)
      ∧ E.st e' = (fullBlocks E.N ((E.buf e).data ++ inp)).foldl E.compress (E.st e)
      ∧ E.cnt e' = (E.cnt e + inp.length) % E.M ∧ E.live e' := by
  obtain ⟨b', eq, hw', hd'⟩ := input_spec E.hN (E.buf e) inp E.func E.compress (E.st e) hw E.hf
  obtain ⟨e', he, hb, hs, hc, hv'⟩ := E.input_ok e inp _ _ hv eq
  exact ⟨e', he, hb ▸ hw', hb ▸ hd', hs, hc, hv'⟩

theorem Abs.input {iv : σ} {e : ε} {msg : Bytes} (inp : Bytes) (h : Abs E iv e msg) :
    ∃ e', E.input e inp = some e' ∧ Abs E iv e' (msg ++ inp) := by
  obtain ⟨hp, hw, hd, hs, hv⟩ := h
  obtain ⟨e', he, hw', hd', hs', hc', hv'⟩ := input_any E inp hw hv
  refine ⟨e', he, ?_, hw', ?_, ?_, hv'⟩
  · rw [hc', hp, List.length_append, Nat.mod_add_mod]
  · rw [hd', hd, ← blockTail_append E.hN]
  · rw [hs', hs, hd, fullBlocks_append E.hN msg, List.foldl_append]

/-- finish from ANY live state with a well-formed buffer: no panic; the blocks compressed are the buffered bytes, the
    padding for them, and the length field of the COUNTER -/
theorem fin_any {e : ε} (hw : WF E.N (E.buf e)) (hv : E.live e) :
    ∃ b', E.fin e = some (E.pack e b' ((fullBlocks E.N ((E.buf e).data ++ [(0x80 : UInt8)]
        ++ zeros (padZeros E.N E.rem (E.buf e).data.length) ++ E.lenBytes (E.cnt e))).foldl E.compress (E.st e)))
      ∧ b'.buffer.length = E.N ∧ b'.buffer_idx = 0 := by
  obtain ⟨b1, s1, b2, b3, blk, e1, e2, e3, e4, hl⟩ := md_finish_stages E.hN E.hrem (E.buf e) (E.wr (E.cnt e)) _
    (E.hlb _) (E.hwr _) E.funcFin E.compress (E.st e) hw E.hf1
  exact ⟨b3, E.fin_ok e _ _ _ _ _ _ hv e1 e2 e3 e4, hl⟩

/-- finish inside the standard's length domain (in bytes, as the contexts' guards state it: the bit length fits the field): the
    chaining value becomes `Spec.MD.hash` of the absorbed message -/
theorem Abs.fin {iv : σ} {e : ε} {msg : Bytes} (h : Abs E iv e msg) (hdom : msg.length < 2 ^ (8 * E.rem - 3)) :
    ∃ b', E.fin e = some (E.pack e b' (Spec.MD.hash E.N E.rem E.lenEnc E.compress iv msg))
      ∧ b'.buffer.length = E.N ∧ b'.buffer_idx = 0 := by
  obtain ⟨hp, hw, hd, hs, hv⟩ := h
  obtain ⟨b', eq, hl⟩ := fin_any E hw hv
  refine ⟨b', ?_, hl⟩
  have h8 : 8 * msg.length < 2 ^ (8 * E.rem) := by
    rcases Nat.eq_zero_or_pos E.rem with h0 | h0
    · rw [h0] at hdom ⊢; omega
    · have := Nat.pow_sub_mul_pow 2 (show 3 ≤ 8 * E.rem by omega); omega
  rw [eq, hs, hd, hp, E.hlenc, Nat.mod_eq_of_lt h8, md_hash_split E.hN]

end Cx.Proofs.Md
