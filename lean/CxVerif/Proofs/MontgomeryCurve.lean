/-
  Proofs.MontgomeryCurve — Curve25519 `v² = u³ + 486662·u² + u` over `Fp = ZMod (2^255 − 19)` as a Mathlib
  Weierstrass curve (a₁ = 0, a₂ = 486662, a₃ = 0, a₄ = 1, a₆ = 0); every affine solution is a nonsingular
  point (Δ = 16(A² − 4) ≠ 0), so `M.Point` (Mathlib's `AddCommGroup`) is the full group of the curve.
  The group law on x-coordinates (`xenc`), in the shapes the x-only arithmetic needs, derived from Mathlib's
  `addX`/`slope`: tangent / vertical (`dbl_x`), chord (`add_x`: x(P+Q)·x(Q−P)·(x_P − x_Q)² = (x_P·x_Q − 1)²),
  equal x-coordinates (`eq_or_eq_neg_of_xenc_eq`); the base point `P9` (u = 9, v of RFC 7748 §4.1).
  Needs primality of p (`Fact (Nat.Prime p)`, instance argument) for the field structure of `ZMod p`.
-/
import CxVerif.Proofs.EdField
import CxVerif.Spec.X25519
import Mathlib.AlgebraicGeometry.EllipticCurve.Affine.Point
import Mathlib.Tactic.LinearCombination
import Mathlib.Tactic.FieldSimp
namespace Cx.Proofs.Montgomery
open Cx.Spec
open Cx.Spec.Field25519 (p)
open Cx.Proofs.EdField
open WeierstrassCurve WeierstrassCurve.Affine

/-- the Montgomery coefficient `A = 486662` (RFC 7748 §4.1) -/
def A : Nat := 486662

theorem a24_eq : 4 * X25519.a24 + 2 = A := by decide

theorem A_sq_sub_four_nat : (A * A + (p - 4)) % p ≠ 0 := by decide

section prime
variable [hp : Fact (Nat.Prime p)]

def M : Affine Fp := { a₁ := 0, a₂ := (A : Fp), a₃ := 0, a₄ := 1, a₆ := 0 }

theorem A_sq_ne_four : (A : Fp) * A - 4 ≠ 0 := by
  have h := cast_ne_zero A_sq_sub_four_nat
  have h4 : ((p - 4 : Nat) : Fp) = -4 := by
    have := cast_p_sub 4
    rwa [Nat.mod_eq_of_lt (by decide), Nat.cast_ofNat] at this
  rw [Nat.cast_add, Nat.cast_mul, h4] at h
  intro h0; apply h; linear_combination h0

theorem four_ne_zero : (4 : Fp) ≠ 0 := cast_ne_zero (n := 4) (by decide)

theorem equation_iff {x y : Fp} : M.Equation x y ↔ y ^ 2 = x ^ 3 + (A : Fp) * x ^ 2 + x := by
  rw [Affine.equation_iff]
  simp only [M]
  constructor <;> intro h <;> linear_combination h

instance : M.IsElliptic := by
  refine ⟨?_⟩
  rw [isUnit_iff_ne_zero]
  have : WeierstrassCurve.Δ M = 16 * ((A : Fp) * A - 4) := by
    simp only [WeierstrassCurve.Δ, WeierstrassCurve.b₂, WeierstrassCurve.b₄, WeierstrassCurve.b₆,
      WeierstrassCurve.b₈, M]
    ring
  rw [this]
  exact mul_ne_zero (cast_ne_zero (n := 16) (by decide)) A_sq_ne_four

theorem nonsingular {x y : Fp} (h : M.Equation x y) : M.Nonsingular x y :=
  equation_iff_nonsingular.mp h

abbrev Pt := (M).Point

/-- `u`-coordinate as X25519 encodes it: `0` for the point at infinity -/
def xenc : Pt → Fp
  | .zero => 0
  | .some x _ _ => x

@[simp] theorem xenc_zero : xenc (0 : Pt) = 0 := rfl
@[simp] theorem xenc_some {x y : Fp} (h : M.Nonsingular x y) : xenc (.some x y h) = x := rfl

theorem negY_eq (x y : Fp) : M.negY x y = -y := by simp [Affine.negY, M]

theorem xenc_neg (P : Pt) : xenc (-P) = xenc P := by
  cases P with
  | zero => rfl
  | some x y h => rfl

def g (x : Fp) : Fp := x * (x ^ 2 + (A : Fp) * x + 1)

theorem some_eq (x y : Fp) (h : M.Nonsingular x y) : y ^ 2 = g x := by
  have := equation_iff.mp h.1
  rw [this, g]; ring

theorem eq_or_eq_neg_of_xenc_eq {P Q : Pt} (hP : P ≠ 0) (hQ : Q ≠ 0) (h : xenc P = xenc Q) :
    P = Q ∨ P = -Q := by
  cases P with
  | zero => exact absurd rfl hP
  | some x₁ y₁ h₁ =>
    cases Q with
    | zero => exact absurd rfl hQ
    | some x₂ y₂ h₂ => exact Point.X_eq_iff.mp h

theorem dbl_x {P : Pt} (hP : P ≠ 0) :
    (g (xenc P) = 0 ∧ P + P = 0) ∨
    (g (xenc P) ≠ 0 ∧ P + P ≠ 0 ∧ xenc (P + P) * (4 * g (xenc P)) = (xenc P ^ 2 - 1) ^ 2) := by
  cases P with
  | zero => exact absurd rfl hP
  | some x y h =>
    have hy := some_eq x y h
    simp only [xenc_some]
    by_cases hy0 : y = 0
    · left
      refine ⟨by rw [← hy, hy0]; ring, ?_⟩
      apply Point.add_self_of_Y_eq
      rw [negY_eq, hy0, neg_zero]
    · right
      have h2 : (2 : Fp) ≠ 0 := two_ne_zero
      have hne : y ≠ M.negY x y := by
        rw [negY_eq]; intro h'
        have : 2 * y = 0 := by linear_combination h'
        rcases mul_eq_zero.mp this with h | h
        · exact h2 h
        · exact hy0 h
      refine ⟨by rw [← hy]; exact pow_ne_zero 2 hy0, ?_⟩
      rw [Point.add_self_of_Y_ne hne]
      refine ⟨Point.some_ne_zero _, ?_⟩
      rw [xenc_some, Affine.addX, Affine.slope_of_Y_ne rfl hne, negY_eq]
      simp only [M]
      have h2y : y - -y ≠ 0 := by
        intro h'; apply hne; rw [negY_eq]; linear_combination h'
      have h4 : (4 : Fp) ≠ 0 := four_ne_zero
      have e : y - -y = 2 * y := by ring
      rw [← hy, e]
      field_simp
      rw [g] at hy
      linear_combination (-16 * ((A : Fp) + 2 * x)) * hy

theorem add_x {P Q : Pt} (hP : P ≠ 0) (hQ : Q ≠ 0) (hx : xenc P ≠ xenc Q) :
    P + Q ≠ 0 ∧ Q - P ≠ 0 ∧
    xenc (P + Q) * xenc (Q - P) * (xenc P - xenc Q) ^ 2 = (xenc P * xenc Q - 1) ^ 2 := by
  cases P with
  | zero => exact absurd rfl hP
  | some x₂ y₂ h₂ =>
    cases Q with
    | zero => exact absurd rfl hQ
    | some x₃ y₃ h₃ =>
      simp only [xenc_some] at hx ⊢
      have e₂ := some_eq x₂ y₂ h₂
      have e₃ := some_eq x₃ y₃ h₃
      rw [g] at e₂ e₃
      have hx' : x₃ ≠ x₂ := fun h => hx h.symm
      rw [sub_eq_add_neg, Point.neg_some, Point.add_of_X_ne hx, Point.add_of_X_ne hx']
      refine ⟨Point.some_ne_zero _, Point.some_ne_zero _, ?_⟩
      rw [xenc_some, xenc_some, Affine.addX, Affine.addX, Affine.slope_of_X_ne hx, Affine.slope_of_X_ne hx', negY_eq]
      simp only [M]
      have d1 : x₂ - x₃ ≠ 0 := sub_ne_zero.mpr hx
      have d2 : x₃ - x₂ ≠ 0 := sub_ne_zero.mpr hx'
      field_simp
      linear_combination
        ((y₂ ^ 2 - y₃ ^ 2) + (x₂ * (x₂ ^ 2 + (A : Fp) * x₂ + 1) - x₃ * (x₃ ^ 2 + (A : Fp) * x₃ + 1))
          - 2 * ((A : Fp) + x₂ + x₃) * (x₂ - x₃) ^ 2) * e₂ +
        (-((y₂ ^ 2 - y₃ ^ 2) + (x₂ * (x₂ ^ 2 + (A : Fp) * x₂ + 1) - x₃ * (x₃ ^ 2 + (A : Fp) * x₃ + 1)))
          - 2 * ((A : Fp) + x₂ + x₃) * (x₂ - x₃) ^ 2) * e₃

/-- at a 2-torsion point (`g x = 0`) the doubling numerator `(x² − 1)²` does not vanish -/
theorem sq_sub_one_ne_of_g_eq_zero {x : Fp} (h : g x = 0) : (x ^ 2 - 1) ^ 2 ≠ 0 := by
  intro h0
  have h1 : x ^ 2 - 1 = 0 := by
    rcases pow_eq_zero_iff (n := 2) (by decide) |>.mp h0 with h; exact h
  apply A_sq_ne_four
  rw [g] at h
  linear_combination ((A : Fp) - 2 * x) * h + (4 - ((A : Fp) - 2 * x) * (x + (A : Fp))) * h1

/-- the `v`-coordinate of the base point given in RFC 7748 §4.1 -/
def v9 : Nat := 14781619447589544791020593568409986887264606134616475288964881837755586237401

omit hp in
theorem base_on_curve_nat : (v9 * v9) % p = (9 * 9 * 9 + A * (9 * 9) + 9) % p := by decide +kernel

theorem base_on_curve : ((v9 : Nat) : Fp) ^ 2 = (9 : Fp) ^ 3 + (A : Fp) * 9 ^ 2 + 9 := by
  have h := congrArg (fun n : Nat => (n : Fp)) base_on_curve_nat
  simp only [cast_mod] at h
  push_cast at h
  linear_combination h

def P9 : Pt := .some 9 (v9 : Fp) (nonsingular (equation_iff.mpr base_on_curve))

theorem xenc_P9 : xenc P9 = 9 := rfl

end prime
end Cx.Proofs.Montgomery
