/-
  Proofs.MontgomeryLadder — the RFC 7748 ladder (`Spec.X25519.ladder`, on `Nat` mod p) computes the
  x-coordinate of the scalar multiple on Curve25519, for EVERY point `Q` of the curve (affine, the
  2-torsion point `(0,0)`, the point at infinity) and EVERY scalar:

      (ladder k u : Fp) = xenc ((k % 2^255) • Q)         whenever  (u : Fp) = xenc Q

  and hence Diffie–Hellman symmetry of the byte-level function
  `x25519 a (x25519Base b) = x25519 b (x25519Base a)` (`x25519_comm`), through the base point `P9`.
  Needs primality of p (instance argument; delivered by Proofs/Prime25519.lean).
-/
import CxVerif.Proofs.MontgomeryXArith
import CxVerif.Proofs.X25519Step
import CxVerif.Proofs.ByteLemmas
namespace Cx.Proofs.Montgomery
open Cx.Spec
open Cx.Spec.Field25519 (p)
open Cx.Proofs.EdField
open Cx.Proofs.X25519 (specArith step_eq range_succ_reverse ladder_sel)

theorem decode_encode (v : Nat) : X25519.decodeUCoordinate (Field25519.encode v) = v % p := by
  unfold X25519.decodeUCoordinate Field25519.decode Field25519.encode
  rw [Cx.Proofs.Bytes.leNat_natToLE]
  have h : v % p < p := Nat.mod_lt _ Field25519.p_pos
  have hp : p < 2 ^ 255 := by decide
  have e : (256 : Nat) ^ 32 = 2 ^ 256 := by decide
  rw [e, Nat.mod_eq_of_lt (a := v % p) (by omega), Nat.mod_eq_of_lt (a := v % p) (by omega),
    Nat.mod_mod]

theorem decode_basePoint : X25519.decodeUCoordinate X25519.basePoint = 9 := by decide

theorem arith_cast (x1 x2 z2 x3 z3 : Nat) :
    let X2 : Fp := x2; let Z2 : Fp := z2; let X3 : Fp := x3; let Z3 : Fp := z3
    let r := specArith x1 x2 z2 x3 z3
    (r.1 : Fp) = (X2 ^ 2 - Z2 ^ 2) ^ 2 ∧
    (r.2.1 : Fp) = 4 * X2 * Z2 * (X2 ^ 2 + (A : Fp) * X2 * Z2 + Z2 ^ 2) ∧
    (r.2.2.1 : Fp) = 4 * (X2 * X3 - Z2 * Z3) ^ 2 ∧
    (r.2.2.2 : Fp) = 4 * (x1 : Fp) * (X3 * Z2 - X2 * Z3) ^ 2 := by
  have hA : ((A : Nat) : Fp) = 4 * ((X25519.a24 : Nat) : Fp) + 2 := by
    rw [← a24_eq]; push_cast; ring
  simp only [specArith, cast_mul, cast_sq, cast_add, cast_sub, hA]
  refine ⟨by ring, by ring, by ring, by ring⟩

section prime
variable [hp : Fact (Nat.Prime p)]

/-- invariant when `x₁ = 0`: both pairs are degenerate (`X·Z = 0`) -/
def Inv0 (s : X25519.State) : Prop :=
  (s.x2 : Fp) * (s.z2 : Fp) = 0 ∧ (s.x3 : Fp) * (s.z3 : Fp) = 0

theorem arith_inv0 (x1 x2 z2 x3 z3 : Nat) (h1 : (x1 : Fp) = 0) (h2 : (x2 : Fp) * (z2 : Fp) = 0) :
    let r := specArith x1 x2 z2 x3 z3
    (r.1 : Fp) * (r.2.1 : Fp) = 0 ∧ (r.2.2.1 : Fp) * (r.2.2.2 : Fp) = 0 := by
  obtain ⟨_, e2, _, e4⟩ := arith_cast x1 x2 z2 x3 z3
  simp only [] at e2 e4 ⊢
  rw [e2, e4, h1]
  constructor
  · linear_combination (4 * ((specArith x1 x2 z2 x3 z3).1 : Fp) *
      ((x2 : Fp) ^ 2 + (A : Fp) * x2 * z2 + (z2 : Fp) ^ 2)) * h2
  · ring

theorem step_inv0 (k x1 : Nat) (h1 : (x1 : Fp) = 0) (s : X25519.State) (t : Nat) (h : Inv0 s) :
    Inv0 (X25519.step k x1 s t) := by
  rw [step_eq]
  obtain ⟨ha, hb⟩ := h
  split
  · exact arith_inv0 x1 s.x3 s.z3 s.x2 s.z2 h1 hb
  · exact arith_inv0 x1 s.x2 s.z2 s.x3 s.z3 h1 ha

theorem loop_inv0 (k x1 : Nat) (h1 : (x1 : Fp) = 0) :
    ∀ (j : Nat) (s : X25519.State), Inv0 s →
      Inv0 ((List.range j).reverse.foldl (X25519.step k x1) s) := by
  intro j
  induction j with
  | zero => intro s h; exact h
  | succ j ih =>
    intro s h
    rw [range_succ_reverse, List.foldl_cons]
    exact ih _ (step_inv0 k x1 h1 s j h)

theorem mul_pow_eq_zero {x z : Fp} (h : x * z = 0) : x * z ^ (p - 2) = 0 := by
  rcases mul_eq_zero.mp h with h | h
  · rw [h, zero_mul]
  · rw [h, zero_pow (by decide), mul_zero]

theorem ladder_cast (k u : Nat) : ((X25519.ladder k u : Nat) : Fp) =
    if (X25519.ladderState k u).swap = 1
    then ((X25519.ladderState k u).x3 : Fp) * ((X25519.ladderState k u).z3 : Fp) ^ (p - 2)
    else ((X25519.ladderState k u).x2 : Fp) * ((X25519.ladderState k u).z2 : Fp) ^ (p - 2) := by
  rw [ladder_sel]
  split <;> rw [cast_mul, cast_pow]

theorem ladder_zero (k u : Nat) (hu : (u : Fp) = 0) : ((X25519.ladder k u : Nat) : Fp) = 0 := by
  have h0 : Inv0 ⟨1, 0, u, 1, 0⟩ := ⟨by simp, by simp [hu]⟩
  obtain ⟨ha, hb⟩ : Inv0 (X25519.ladderState k u) := loop_inv0 k u hu 255 _ h0
  rw [ladder_cast]
  split
  · exact mul_pow_eq_zero hb
  · exact mul_pow_eq_zero ha

theorem xenc_nsmul_of_xenc_eq_zero {Q : Pt} (h : xenc Q = 0) (n : Nat) : xenc (n • Q) = 0 := by
  by_cases hQ : Q = 0
  · rw [hQ, nsmul_zero]; rfl
  · have h2 : Q + Q = 0 := by
      rcases dbl_x hQ with ⟨_, h0⟩ | ⟨hg, _, _⟩
      · exact h0
      · exact absurd (by rw [h, g]; ring) hg
    have h2' : (2 : Nat) • Q = 0 := by rw [two_nsmul]; exact h2
    have : n • Q = (n % 2) • Q := by
      conv_lhs => rw [← Nat.div_add_mod n 2, add_nsmul, mul_nsmul, h2', nsmul_zero, zero_add]
    rw [this]
    rcases Nat.mod_two_eq_zero_or_one n with e | e <;> rw [e]
    · rw [zero_nsmul]; rfl
    · rw [one_nsmul]; exact h

/-- after the bits above position `t`: `m = k >> t`; the registers (as selected by the pending swap)
    represent `[m]Q` and `[m+1]Q` -/
def Inv (Q : Pt) (m : Nat) (s : X25519.State) : Prop :=
  (s.swap = 0 ∧ Rep (s.x2 : Fp) (s.z2 : Fp) (m • Q) ∧ Rep (s.x3 : Fp) (s.z3 : Fp) ((m + 1) • Q)) ∨
  (s.swap = 1 ∧ Rep (s.x3 : Fp) (s.z3 : Fp) (m • Q) ∧ Rep (s.x2 : Fp) (s.z2 : Fp) ((m + 1) • Q))

theorem Rep.congr {X Z X' Z' : Fp} {P P' : Pt} (h : Rep X Z P) (hX : X' = X) (hZ : Z' = Z)
    (hP : P' = P) : Rep X' Z' P' := by subst hX hZ hP; exact h

theorem arith_rep (x1 x2 z2 x3 z3 : Nat) {P P' D : Pt}
    (h2 : Rep (x2 : Fp) (z2 : Fp) P) (h3 : Rep (x3 : Fp) (z3 : Fp) P')
    (hD : P' - P = D) (hD0 : D ≠ 0) (hx : xenc D = (x1 : Fp)) (hx1 : (x1 : Fp) ≠ 0) :
    let r := specArith x1 x2 z2 x3 z3
    Rep (r.1 : Fp) (r.2.1 : Fp) (P + P) ∧ Rep (r.2.2.1 : Fp) (r.2.2.2 : Fp) (P + P') := by
  obtain ⟨e1, e2, e3, e4⟩ := arith_cast x1 x2 z2 x3 z3
  exact ⟨(xdbl h2).congr e1 e2 rfl, (xadd h2 h3 hD hD0 hx hx1).congr e3 e4 rfl⟩

theorem step_inv (k x1 : Nat) {Q : Pt} (hQ : Q ≠ 0) (hx : xenc Q = (x1 : Fp)) (hx1 : (x1 : Fp) ≠ 0)
    (s : X25519.State) (t m : Nat) (h : Inv Q m s) :
    Inv Q (2 * m + k / 2 ^ t % 2) (X25519.step k x1 s t) := by
  rw [step_eq]
  have hnQ : -Q ≠ 0 := neg_ne_zero.mpr hQ
  have hxn : xenc (-Q) = (x1 : Fp) := by rw [xenc_neg]; exact hx
  have d1 : (m + 1) • Q - m • Q = Q := by rw [add_nsmul, one_nsmul]; abel
  have d2 : m • Q - (m + 1) • Q = -Q := by rw [add_nsmul, one_nsmul]; abel
  have s0 : m • Q + m • Q = (2 * m) • Q := by rw [two_mul, add_nsmul]
  have s1 : m • Q + (m + 1) • Q = (2 * m + 1) • Q := by
    rw [← add_nsmul]; congr 1; omega
  have s1' : (m + 1) • Q + m • Q = (2 * m + 1) • Q := by
    rw [← add_nsmul]; congr 1; omega
  have s2 : (m + 1) • Q + (m + 1) • Q = (2 * m + 1 + 1) • Q := by
    rw [← add_nsmul]; congr 1; omega
  rcases Nat.mod_two_eq_zero_or_one (k / 2 ^ t) with hb | hb <;> rw [hb] <;>
    rcases h with ⟨hs, ha, hb'⟩ | ⟨hs, ha, hb'⟩ <;> rw [hs]
  · -- bit 0, no pending swap: registers (m, m+1)
    simp only [show (0 + 0) % 2 = 1 ↔ False by decide, if_false, Nat.add_zero]
    obtain ⟨r1, r2⟩ := arith_rep x1 s.x2 s.z2 s.x3 s.z3 ha hb' d1 hQ hx hx1
    exact Or.inl ⟨rfl, r1.congr rfl rfl s0.symm, r2.congr rfl rfl s1.symm⟩
  · -- bit 0, pending swap: swap back, registers (m, m+1)
    simp only [if_true, Nat.add_zero]
    obtain ⟨r1, r2⟩ := arith_rep x1 s.x3 s.z3 s.x2 s.z2 ha hb' d1 hQ hx hx1
    exact Or.inl ⟨rfl, r1.congr rfl rfl s0.symm, r2.congr rfl rfl s1.symm⟩
  · -- bit 1, no pending swap: swap, registers (m+1, m)
    simp only [if_true]
    obtain ⟨r1, r2⟩ := arith_rep x1 s.x3 s.z3 s.x2 s.z2 hb' ha d2 hnQ hxn hx1
    exact Or.inr ⟨rfl, r2.congr rfl rfl s1'.symm, r1.congr rfl rfl s2.symm⟩
  · -- bit 1, pending swap: registers already (m+1, m)
    simp only [show (1 + 1) % 2 = 1 ↔ False by decide, if_false]
    obtain ⟨r1, r2⟩ := arith_rep x1 s.x2 s.z2 s.x3 s.z3 hb' ha d2 hnQ hxn hx1
    exact Or.inr ⟨rfl, r2.congr rfl rfl s1'.symm, r1.congr rfl rfl s2.symm⟩

theorem loop_inv (k x1 : Nat) {Q : Pt} (hQ : Q ≠ 0) (hx : xenc Q = (x1 : Fp)) (hx1 : (x1 : Fp) ≠ 0) :
    ∀ (j : Nat) (s : X25519.State) (m : Nat), Inv Q m s →
      Inv Q (m * 2 ^ j + k % 2 ^ j) ((List.range j).reverse.foldl (X25519.step k x1) s) := by
  intro j
  induction j with
  | zero => intro s m h; simpa [Nat.mod_one] using h
  | succ j ih =>
    intro s m h
    rw [range_succ_reverse, List.foldl_cons]
    have h' := ih _ _ (step_inv k x1 hQ hx hx1 s j m h)
    have e : (2 * m + k / 2 ^ j % 2) * 2 ^ j + k % 2 ^ j = m * 2 ^ (j + 1) + k % 2 ^ (j + 1) := by
      rw [Nat.mod_pow_succ, Nat.pow_succ]; ring
    rw [e] at h'; exact h'

/-- only bits 0..254 of `k` are read -/
theorem ladder_eq (Q : Pt) (k u : Nat) (hu : (u : Fp) = xenc Q) :
    ((X25519.ladder k u : Nat) : Fp) = xenc ((k % 2 ^ 255) • Q) := by
  by_cases h0 : xenc Q = 0
  · rw [xenc_nsmul_of_xenc_eq_zero h0, ladder_zero k u (by rw [hu, h0])]
  · have hQ : Q ≠ 0 := by rintro rfl; exact h0 rfl
    have hx1 : (u : Fp) ≠ 0 := by rw [hu]; exact h0
    have hI : Inv Q 0 ⟨1, 0, u, 1, 0⟩ := by
      refine Or.inl ⟨rfl, ?_, ?_⟩
      · simp only [Nat.cast_one, Nat.cast_zero, zero_nsmul]; exact Rep.zero
      · simp only [Nat.cast_one, Nat.zero_add, one_nsmul]; rw [hu]; exact Rep.affine hQ
    have h : Inv Q (0 * 2 ^ 255 + k % 2 ^ 255) (X25519.ladderState k u) := loop_inv k u hQ hu.symm hx1 255 _ 0 hI
    rw [Nat.zero_mul, Nat.zero_add] at h
    rw [ladder_cast]
    rcases h with ⟨hs, ha, _⟩ | ⟨hs, ha, _⟩
    · rw [if_neg (by rw [hs]; decide)]; exact ha.out
    · rw [if_pos hs]; exact ha.out

omit hp in
theorem ladder_lt (k u : Nat) : X25519.ladder k u < p := by
  rw [ladder_sel]; split <;> exact mul_lt _ _

theorem ladder_base (k : Nat) : ((X25519.ladder k 9 : Nat) : Fp) = xenc ((k % 2 ^ 255) • P9) :=
  ladder_eq P9 k 9 (by rw [xenc_P9]; norm_num)

theorem ladder_ladder (a b : Nat) :
    ((X25519.ladder a (X25519.ladder b 9) : Nat) : Fp)
      = xenc (((a % 2 ^ 255) * (b % 2 ^ 255)) • P9) := by
  rw [ladder_eq ((b % 2 ^ 255) • P9) a _ (ladder_base b), mul_nsmul']

/-- **Diffie–Hellman symmetry of X25519** (RFC 7748 §6.1): both parties derive the same secret,
    for ALL byte strings `a`, `b` as private keys -/
theorem x25519_comm (a b : Bytes) :
    X25519.x25519 a (X25519.x25519Base b) = X25519.x25519 b (X25519.x25519Base a) := by
  have key (a b : Bytes) : X25519.x25519 a (X25519.x25519Base b) = Field25519.encode
      (X25519.ladder (X25519.decodeScalar25519 a) (X25519.ladder (X25519.decodeScalar25519 b) 9)) := by
    unfold X25519.x25519Base X25519.x25519
    rw [decode_encode, decode_basePoint, Nat.mod_eq_of_lt (ladder_lt _ _)]
  rw [key, key]
  refine congrArg Field25519.encode ((cast_inj (ladder_lt _ _) (ladder_lt _ _)).1 ?_)
  rw [ladder_ladder, ladder_ladder, Nat.mul_comm]

end prime
end Cx.Proofs.Montgomery
