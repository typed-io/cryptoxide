/-
  Proofs.MontgomeryXArith — x-only arithmetic on Curve25519 is correct w.r.t. the group law, including every
  degenerate case (operand or result at infinity, 2-torsion, P' = −P): projective representations `(X : Z)`
  of the x-coordinate of a point (`Rep`), the doubling formula `xdbl` and the differential addition
  `xadd` (difference point affine with x-coordinate ≠ 0), cf. Bernstein, "Curve25519: new Diffie-Hellman
  speed records", Theorems B.1/B.2.
-/
import CxVerif.Proofs.MontgomeryCurve
namespace Cx.Proofs.Montgomery
open Cx.Spec.Field25519 (p)
open Cx.Proofs.EdField

section prime
variable [hp : Fact (Nat.Prime p)]

/-- `(X : Z)` is a projective x-coordinate of `P`: `(X : 0)`, `X ≠ 0`, for the point at infinity -/
def Rep (X Z : Fp) (P : Pt) : Prop :=
  (P = 0 ∧ Z = 0 ∧ X ≠ 0) ∨ (P ≠ 0 ∧ Z ≠ 0 ∧ X = xenc P * Z)

theorem Rep.zero : Rep 1 0 (0 : Pt) := Or.inl ⟨rfl, rfl, one_ne_zero⟩

theorem Rep.affine {P : Pt} (hP : P ≠ 0) : Rep (xenc P) 1 P :=
  Or.inr ⟨hP, one_ne_zero, (mul_one _).symm⟩

/-- x-only doubling (RFC 7748: `x_2 = AA·BB`, `z_2 = E·(AA + a24·E)`) -/
theorem xdbl {X Z : Fp} {P : Pt} (h : Rep X Z P) :
    Rep ((X ^ 2 - Z ^ 2) ^ 2) (4 * X * Z * (X ^ 2 + (A : Fp) * X * Z + Z ^ 2)) (P + P) := by
  rcases h with ⟨rfl, rfl, hX⟩ | ⟨hP, hZ, rfl⟩
  · left
    refine ⟨add_zero 0, by ring, ?_⟩
    have : (X ^ 2 - 0 ^ 2) ^ 2 = X ^ 4 := by ring
    rw [this]; exact pow_ne_zero 4 hX
  · have hZ4 : 4 * (xenc P * Z) * Z * ((xenc P * Z) ^ 2 + (A : Fp) * (xenc P * Z) * Z + Z ^ 2)
        = 4 * Z ^ 4 * g (xenc P) := by rw [g]; ring
    have hX4 : ((xenc P * Z) ^ 2 - Z ^ 2) ^ 2 = Z ^ 4 * (xenc P ^ 2 - 1) ^ 2 := by ring
    rw [hZ4, hX4]
    rcases dbl_x hP with ⟨hg, h0⟩ | ⟨hg, hne, hrel⟩
    · left
      refine ⟨h0, by rw [hg]; ring, ?_⟩
      exact mul_ne_zero (pow_ne_zero 4 hZ) (sq_sub_one_ne_of_g_eq_zero hg)
    · right
      refine ⟨hne, mul_ne_zero (mul_ne_zero four_ne_zero (pow_ne_zero 4 hZ)) hg, ?_⟩
      linear_combination (-Z ^ 4) * hrel

/-- x-only differential addition (RFC 7748: `x_3 = (DA + CB)²`, `z_3 = x_1·(DA − CB)²`) -/
theorem xadd {X₂ Z₂ X₃ Z₃ x₁ : Fp} {P P' D : Pt} (h₂ : Rep X₂ Z₂ P) (h₃ : Rep X₃ Z₃ P')
    (hD : P' - P = D) (hD0 : D ≠ 0) (hx : xenc D = x₁) (hx1 : x₁ ≠ 0) :
    Rep (4 * (X₂ * X₃ - Z₂ * Z₃) ^ 2) (4 * x₁ * (X₃ * Z₂ - X₂ * Z₃) ^ 2) (P + P') := by
  have h4 : (4 : Fp) ≠ 0 := four_ne_zero
  rcases h₂ with ⟨rfl, rfl, hX₂⟩ | ⟨hP, hZ₂, rfl⟩
  · -- P = 0, so P' = D
    rw [sub_zero] at hD
    subst hD
    rw [zero_add]
    rcases h₃ with ⟨h0, _, _⟩ | ⟨_, hZ₃, rfl⟩
    · exact absurd h0 hD0
    · right
      rw [hx]
      refine ⟨hD0, ?_, by ring⟩
      have : 4 * x₁ * (x₁ * Z₃ * 0 - X₂ * Z₃) ^ 2 = 4 * x₁ * (X₂ * Z₃) ^ 2 := by ring
      rw [this]
      exact mul_ne_zero (mul_ne_zero h4 hx1) (pow_ne_zero 2 (mul_ne_zero hX₂ hZ₃))
  · rcases h₃ with ⟨rfl, rfl, hX₃⟩ | ⟨hP', hZ₃, rfl⟩
    · -- P' = 0, so P = −D
      rw [zero_sub] at hD
      have hxP : xenc P = x₁ := by rw [← hx, ← hD, xenc_neg]
      rw [add_zero]
      right
      rw [hxP]
      refine ⟨hP, ?_, by ring⟩
      have : 4 * x₁ * (X₃ * Z₂ - x₁ * Z₂ * 0) ^ 2 = 4 * x₁ * (X₃ * Z₂) ^ 2 := by ring
      rw [this]
      exact mul_ne_zero (mul_ne_zero h4 hx1) (pow_ne_zero 2 (mul_ne_zero hX₃ hZ₂))
    · by_cases hxx : xenc P = xenc P'
      · -- same x-coordinate: P' = P is excluded by D ≠ 0, so P' = −P and P + P' = 0
        rcases eq_or_eq_neg_of_xenc_eq hP hP' hxx with rfl | rfl
        · exact absurd (by rw [← hD, sub_self]) hD0
        · left
          have hD' : P' + P' = D := by rw [← hD, sub_neg_eq_add]
          refine ⟨neg_add_cancel P', by rw [xenc_neg]; ring, ?_⟩
          rw [xenc_neg]
          have : 4 * (xenc P' * Z₂ * (xenc P' * Z₃) - Z₂ * Z₃) ^ 2
              = 4 * Z₂ ^ 2 * Z₃ ^ 2 * (xenc P' ^ 2 - 1) ^ 2 := by ring
          rw [this]
          refine mul_ne_zero (mul_ne_zero (mul_ne_zero h4 (pow_ne_zero 2 hZ₂)) (pow_ne_zero 2 hZ₃)) ?_
          rcases dbl_x hP' with ⟨_, h0⟩ | ⟨hg, _, hrel⟩
          · exact absurd (by rw [← hD', h0]) hD0
          · rw [← hrel, hD', hx]
            exact mul_ne_zero hx1 (mul_ne_zero h4 hg)
      · -- distinct x-coordinates: chord
        obtain ⟨hS, _, hrel⟩ := add_x hP hP' hxx
        rw [hD, hx] at hrel
        right
        have hd : xenc P - xenc P' ≠ 0 := sub_ne_zero.mpr hxx
        refine ⟨hS, ?_, ?_⟩
        · have : 4 * x₁ * (xenc P' * Z₃ * Z₂ - xenc P * Z₂ * Z₃) ^ 2
              = 4 * x₁ * Z₂ ^ 2 * Z₃ ^ 2 * (xenc P - xenc P') ^ 2 := by ring
          rw [this]
          exact mul_ne_zero (mul_ne_zero (mul_ne_zero (mul_ne_zero h4 hx1) (pow_ne_zero 2 hZ₂))
            (pow_ne_zero 2 hZ₃)) (pow_ne_zero 2 hd)
        · linear_combination (-4 * Z₂ ^ 2 * Z₃ ^ 2) * hrel

theorem Rep.out {X Z : Fp} {P : Pt} (h : Rep X Z P) : X * Z ^ (p - 2) = xenc P := by
  rw [pow_p_sub_two]
  rcases h with ⟨rfl, rfl, _⟩ | ⟨_, hZ, rfl⟩
  · simp
  · field_simp

end prime
end Cx.Proofs.Montgomery
