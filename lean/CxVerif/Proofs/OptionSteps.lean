/-
  Proofs.OptionSteps — the steps by which a program in the `Option` monad is followed, once for all areas (namespace `Cx.Proofs`,
  so every `Cx.Proofs.*` file sees them): a successful head is consumed, or a fact about the head is carried over the `bind`.
  Core Lean only.
-/
namespace Cx.Proofs

theorem some_bind {α β} (a : α) (f : α → Option β) : (some a >>= f) = f a := rfl
theorem pure_eq_some {α} (a : α) : (pure a : Option α) = some a := rfl

/-- one step of a checked computation.  Every formula of the group and ladder layers of both backends is a chain of such
    steps, each consuming the `∃ h, op … = some h ∧ …` fact of one field operation -/
theorem bind_ok {α β} {o : Option α} {f : α → Option β} {P : α → Prop} {Q : β → Prop}
    (ho : ∃ a, o = some a ∧ P a) (hf : ∀ a, P a → ∃ b, f a = some b ∧ Q b) : ∃ b, (o >>= f) = some b ∧ Q b := by
  obtain ⟨a, rfl, pa⟩ := ho
  exact hf a pa

theorem bind_some {α β} {o : Option α} {v : α} {f : α → Option β} {Q : β → Prop} (e : o = some v)
    (hf : ∃ b, f v = some b ∧ Q b) : ∃ b, (o >>= f) = some b ∧ Q b := by rw [e]; exact hf

theorem bind_some_of {α β} {a : Option α} {f : α → Option β} {x y} (h1 : a = some x) (h2 : f x = some y) : (a >>= f) = some y := by
  subst h1; exact h2

end Cx.Proofs
