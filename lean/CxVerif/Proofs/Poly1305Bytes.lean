/-
  Proofs.Poly1305Bytes — the bytes of Poly1305: the overlapping u32 reads of `new` and `block` are the 26-bit fields of the
  number of the 16 bytes (`Bits.field_field`), and fields of a number are its limbs and words (`Limbs.val_digits`).
-/
import CxVerif.Proofs.Poly1305Finish
namespace Cx.Proofs.Poly1305
open Cx Cx.Impl.Poly1305

theorem leNat_take (bs : Bytes) (n : Nat) : leNat (bs.take n) = leNat bs % 256 ^ n := by
  have hl : (bs.take n).length ≤ n := by rw [List.length_take]; exact Nat.min_le_left _ _
  rw [Bytes.leNat_split n bs, Nat.add_mul_mod_self_left,
    Nat.mod_eq_of_lt (Nat.lt_of_lt_of_le (Bytes.leNat_lt _) (Nat.pow_le_pow_right (by decide) hl))]

theorem rd32_eq (m : Bytes) (off : Nat) : rd32 m off = (leNat m / 256 ^ off) % 2 ^ 32 := by
  simp only [rd32, leNat_take, Bytes.leNat_drop]
  rfl

theorem leNat_zeros (n : Nat) : leNat (zeros n) = 0 := by
  induction n with
  | zero => rfl
  | succ n ih => simp only [zeros, List.replicate_succ, leNat] at *; simp [ih]

theorem natToLE_length (n v : Nat) : (natToLE n v).length = n := Bytes.natToLE_length n v

theorem natToLE_cat (a b x y : Nat) (hx : x < 256 ^ a) :
    natToLE (a + b) (x + 256 ^ a * y) = natToLE a x ++ natToLE b y := by
  rw [Bytes.natToLE_add, ← Bytes.natToLE_mod a, Nat.add_mul_mod_self_left, Nat.mod_eq_of_lt hx,
    Nat.add_mul_div_left _ _ (Nat.pow_pos (by decide)), Nat.div_eq_of_lt hx, Nat.zero_add]

theorem tagBytes_eq (h : L5) (h0 : h.l0 < 2^32) (h1 : h.l1 < 2^32) (h2 : h.l2 < 2^32) :
    tagBytes h = natToLE 16 (h.l0 + 2^32 * h.l1 + 2^64 * h.l2 + 2^96 * h.l3) := by
  rw [show h.l0 + 2^32 * h.l1 + 2^64 * h.l2 + 2^96 * h.l3 = h.l0 + 256^4 * (h.l1 + 256^4 * (h.l2 + 256^4 * h.l3)) by omega,
    natToLE_cat 4 12 _ _ h0, natToLE_cat 4 8 _ _ h1, natToLE_cat 4 4 _ _ h2, tagBytes]
  simp only [List.append_assoc]

theorem rd32_take (bs : Bytes) (n off : Nat) (h : off + 4 ≤ n) : rd32 (bs.take n) off = rd32 bs off := by
  simp only [rd32, List.drop_take, List.take_take]
  congr 2
  omega

theorem rd32_drop (bs : Bytes) (k off : Nat) : rd32 (bs.drop k) off = rd32 bs (k + off) := by
  simp only [rd32, List.drop_drop]

theorem leNat_take16_lt (bs : Bytes) : leNat (bs.take 16) < 2 ^ 128 := by
  rw [leNat_take]; exact Nat.mod_lt _ (by decide)

theorem fields26 (m : Bytes) (hN : leNat m < 2 ^ 128) :
    rd32 m 0 % 2 ^ 26 = leNat m % 2 ^ 26 ∧
    rd32 m 3 >>> 2 % 2 ^ 26 = leNat m / 2 ^ 26 % 2 ^ 26 ∧
    rd32 m 6 >>> 4 % 2 ^ 26 = leNat m / 2 ^ 52 % 2 ^ 26 ∧
    rd32 m 9 >>> 6 % 2 ^ 26 = leNat m / 2 ^ 78 % 2 ^ 26 ∧
    rd32 m 12 >>> 8 = leNat m / 2 ^ 104 := by
  simp only [rd32_eq, Nat.shiftRight_eq_div_pow]
  refine ⟨?_, Bits.field_field _ 24 32 2 26 (by decide), Bits.field_field _ 48 32 4 26 (by decide),
    Bits.field_field _ 72 32 6 26 (by decide),
    (Bits.field_high _ 96 8 24).trans (Nat.mod_eq_of_lt (Nat.div_lt_of_lt_mul hN))⟩
  rw [Nat.pow_zero, Nat.div_one]
  exact Nat.mod_mod_of_dvd _ ⟨2 ^ 6, by decide⟩

theorem val_fields (X t : Nat) :
    val ⟨X % 2 ^ 26, X / 2 ^ 26 % 2 ^ 26, X / 2 ^ 52 % 2 ^ 26, X / 2 ^ 78 % 2 ^ 26, X / 2 ^ 104 + t⟩ = X + 2 ^ 104 * t := by
  have h := Limbs.val_digits 26 4 X
  simp only [Limbs.digits, Bits.div_div_pow, Nat.reduceAdd, Nat.reduceMul] at h
  rw [val_top, h, Nat.mul_add, ← Nat.add_assoc, Nat.mod_add_div]

theorem val4_words (S : Nat) (hS : S < 2 ^ 128) :
    val4 ⟨S / 256 ^ 0 % 2 ^ 32, S / 256 ^ 4 % 2 ^ 32, S / 256 ^ 8 % 2 ^ 32, S / 256 ^ 12 % 2 ^ 32⟩ = S := by
  have h := Limbs.val_digits 32 4 S
  simp only [Limbs.digits, Bits.div_div_pow, Nat.reduceAdd, Nat.reduceMul] at h
  rw [Nat.mod_eq_of_lt hS] at h
  rw [val4_eq, Nat.pow_zero, Nat.div_one]
  exact h

theorem and_mod26 (x m : Nat) (hm : 0x3ffffff &&& m = m) : x &&& m = (x % 2 ^ 26) &&& m := by
  rw [← and_mask26, Nat.and_assoc, hm]

theorem clamp_field (N k : Nat) :
    Spec.Poly1305.clamp N / 2 ^ k % 2 ^ 26 = (N / 2 ^ k % 2 ^ 26) &&& (Spec.Poly1305.clampMask / 2 ^ k % 2 ^ 26) := by
  rw [Spec.Poly1305.clamp, Nat.and_div_two_pow, Nat.and_mod_two_pow]

/-- **new** (C05 a): the `r` limbs are exactly the 26-bit split of
    `le(key[0..16]) & 0x0ffffffc0ffffffc0ffffffc0fffffff` (for every key, clamped or not), they respect the mask
    bounds, and `pad` holds the four little-endian words of `key[16..32]`. -/
theorem new_spec (key : Bytes) :
    ((new key).r.l0 = Spec.Poly1305.rOf key % 2^26 ∧
     (new key).r.l1 = (Spec.Poly1305.rOf key / 2^26) % 2^26 ∧
     (new key).r.l2 = (Spec.Poly1305.rOf key / 2^52) % 2^26 ∧
     (new key).r.l3 = (Spec.Poly1305.rOf key / 2^78) % 2^26 ∧
     (new key).r.l4 = Spec.Poly1305.rOf key / 2^104) ∧
    RInv (new key).r ∧ val (new key).r = Spec.Poly1305.rOf key ∧
    PadInv (new key).pad ∧ val4 (new key).pad = Spec.Poly1305.sOf key := by
  have pw : ∀ o, o + 4 ≤ 16 → rd32 key (16 + o) = rd32 ((key.drop 16).take 16) o := fun o h => by
    rw [rd32_take _ 16 o h, rd32_drop]
  obtain ⟨f0, f1, f2, f3, f4⟩ := fields26 _ (leNat_take16_lt key)
  refine (fun limbs => ⟨limbs, ?_, ?_, ?_, ?_⟩) ?_
  · simp only [new, Spec.Poly1305.rOf, ← rd32_take key 16 0 (by decide), ← rd32_take key 16 3 (by decide),
      ← rd32_take key 16 6 (by decide), ← rd32_take key 16 9 (by decide), ← rd32_take key 16 12 (by decide)]
    refine ⟨?_, ?_, ?_, ?_, ?_⟩
    · rw [and_mod26 _ _ (by decide), f0, Spec.Poly1305.clamp, Nat.and_mod_two_pow]; rfl
    · rw [and_mod26 _ _ (by decide), f1, clamp_field]; rfl
    · rw [and_mod26 _ _ (by decide), f2, clamp_field]; rfl
    · rw [and_mod26 _ _ (by decide), f3, clamp_field]; rfl
    · rw [f4, Spec.Poly1305.clamp, Nat.and_div_two_pow]; rfl
  · exact ⟨Nat.and_le_right, Nat.and_le_right, Nat.and_le_right, Nat.and_le_right, Nat.and_le_right⟩
  · obtain ⟨l0, l1, l2, l3, l4⟩ := limbs
    have h := val_fields (Spec.Poly1305.rOf key) 0
    rw [← l0, ← l1, ← l2, ← l3, ← l4] at h
    exact h
  · simp only [new, PadInv, rd32_eq]
    refine ⟨?_, ?_, ?_, ?_⟩ <;> exact Nat.mod_lt _ (by decide)
  · simp only [new, Spec.Poly1305.sOf, pw 0 (by decide), pw 4 (by decide), pw 8 (by decide), pw 12 (by decide), rd32_eq]
    exact val4_words _ (leNat_take16_lt _)

theorem or_hibit (x : Nat) (hx : x < 2 ^ 24) : x ||| (1 <<< 24) = x + 2 ^ 24 := by
  rw [Nat.shiftLeft_eq, Bytes.or_add x 1 24 hx, Nat.one_mul]

/-- the limbs `block` adds to `h` represent the 16-byte block plus the hibit (2^128 or nothing) -/
theorem loadBlock_spec (m : Bytes) (hm : m.length = 16) (fin : Bool) :
    TInv (loadBlock m (if fin then 0 else 1 <<< 24)) ∧
    val (loadBlock m (if fin then 0 else 1 <<< 24)) = leNat m + (if fin then 0 else 2 ^ 128) := by
  have hN : leNat m < 2 ^ 128 := by have := Bytes.leNat_lt m; rw [hm] at this; exact this
  obtain ⟨f0, f1, f2, f3, f4⟩ := fields26 _ hN
  have h4 : leNat m / 2 ^ 104 < 2 ^ 24 := Nat.div_lt_of_lt_mul hN
  have lt26 : ∀ x : Nat, x % 2 ^ 26 < 2 ^ 26 := fun x => Nat.mod_lt _ (by decide)
  cases fin
  · simp only [loadBlock, and_mask26, Bool.false_eq_true, if_false, f0, f1, f2, f3, f4, or_hibit _ h4]
    exact ⟨⟨lt26 _, lt26 _, lt26 _, lt26 _, Nat.add_lt_add_right h4 _⟩, val_fields _ _⟩
  · simp only [loadBlock, and_mask26, if_true, Nat.or_zero, f0, f1, f2, f3, f4]
    exact ⟨⟨lt26 _, lt26 _, lt26 _, lt26 _, Nat.lt_trans h4 (by decide)⟩, val_fields _ 0⟩

theorem blockNat_eq (b : Bytes) : Spec.Poly1305.blockNat b = leNat b + 256 ^ b.length := by
  simp [Spec.Poly1305.blockNat, Bytes.leNat_append, leNat]

/-- the padded staging buffer of `finish` represents the partial block with its 0x01 marker -/
theorem padBuffer_spec (buf : Bytes) (lo : Nat) (hb : buf.length = 16) (hlo : lo < 16) :
    (padBuffer buf lo).length = 16 ∧ leNat (padBuffer buf lo) = Spec.Poly1305.blockNat (buf.take lo) := by
  constructor
  · simp [padBuffer, zeros, hb]; omega
  · rw [padBuffer, List.append_assoc, Bytes.leNat_append, Bytes.leNat_append, leNat_zeros, blockNat_eq]
    simp [leNat]

end Cx.Proofs.Poly1305
