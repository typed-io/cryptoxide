/-
  Proofs.Poly1305Finish — the arithmetic of `finish`: full carry, g = h + 5 − 2^130, mask select, packing into
  four u32, + pad modulo 2^128. For EVERY accumulator allowed by the invariant (incl. values in [p, 2^130)).
  Each phase is a carry pass of Proofs/Limbs and a fact about numbers: full carry = a pass over limbs 1 … 4 and `fold5`;
  h + 5 = a pass over limbs 0 … 3 with carry in 5, the select then compares three numbers; packing = a pass in radix 2^32
  over the limbs regrouped as columns; + pad = a pass in radix 2^32 over the sums of words.  A phase lemma takes the model's
  pass as one equation `passF … = (sums, digits, carry)`, which `finishArith_spec` supplies by `rfl`.
-/
import CxVerif.Proofs.Poly1305Arith
import CxVerif.Proofs.Bits
namespace Cx.Proofs.Poly1305
open Cx Cx.Impl.Poly1305
open Cx.Proofs.Limbs (All₂ pass passF passF_spec forall_four pass_mod val_mono)

def Tight (k : L5) : Prop := k.l0 < 2 ^ 26 ∧ k.l1 < 2 ^ 26 ∧ k.l2 < 2 ^ 26 ∧ k.l3 < 2 ^ 26 ∧ k.l4 < 2 ^ 26

/-- `// fully carry h`: carries run through limbs 1 … 4 (one pass; limb 1 may exceed 26 bits by the carry `block` left
    there), the top carry is folded into limb 0 (times 5) and the carry of that into limb 1.  That last carry is 1 only if the
    pass carried out, and then the digits of the pass are what exceeded 2^130: limb 1 is below 64 -/
theorem fullcarry_rel (h k : L5) (h2a h3a h4a cx5 h0a c : Nat) (hh : Inv h)
    (ep : passF (· &&& 0x3ffffff) (· >>> 26) 0 [h.l1, h.l2, h.l3, h.l4] =
      ([h.l1, h2a, h3a, h4a], [h.l1 &&& 0x3ffffff, k.l2, k.l3, k.l4], c))
    (ex : cx5 = c * 5) (e0 : h0a = h.l0 + cx5) (ek0 : k.l0 = h0a &&& 0x3ffffff)
    (ek1 : k.l1 = (h.l1 &&& 0x3ffffff) + (h0a >>> 26)) :
    (h2a < 2 ^ 32 ∧ h3a < 2 ^ 32 ∧ h4a < 2 ^ 32 ∧ cx5 < 2 ^ 32 ∧ h0a < 2 ^ 32 ∧ k.l1 < 2 ^ 32) ∧ Tight k ∧
    val k = fold (val h) := by
  obtain ⟨i0, i1, i2, i3, i4⟩ := hh
  have hts : All₂ (· ≤ ·) [h.l1, h.l2, h.l3, h.l4] [2 ^ 26 + 63, 2 ^ 26 - 1, 2 ^ 26 - 1, 2 ^ 26 - 1] :=
    .four (Nat.le_of_lt_succ i1) (Nat.le_pred_of_lt i2) (Nat.le_pred_of_lt i3) (Nat.le_pred_of_lt i4)
  obtain ⟨hs, hl, hc, hv, hG⟩ := passF_spec (lim := 2 ^ 32) (n := 4) (P := 2 ^ 104) (K := 1) (fun s _ => and_mask26 s)
    (fun s _ => Nat.shiftRight_eq_div_pow s 26) hts (Nat.le_refl 0) (by decide) ep
  obtain ⟨-, s2, s3, s4⟩ := forall_four hs
  obtain ⟨d1, d2, d3, d4⟩ := forall_four hl
  have hN : _ ≤ 2 ^ 104 + 63 := val_mono 26 hts
  rw [Limbs.val] at hv hG
  obtain ⟨⟨a1, a2, a3⟩, hval⟩ := fold5 (Nat.add_zero h.l0) hv hG i0 d1 (Nat.le_trans hc (by decide))
  subst ex e0
  simp only [val_cons, Tight, ek0, ek1, and_mask26 (_ + _), Nat.shiftRight_eq_div_pow (_ + _)]
  rw [Limbs.val]
  have t1 : (h.l1 &&& 0x3ffffff) + (h.l0 + c * 5) / 2 ^ 26 < 2 ^ 26 := by
    clear hval hG a1 a2 a3 s2 s3 s4 d2 d3 d4 hts
    omega
  exact ⟨⟨s2, s3, s4, a1, a2, Nat.lt_trans t1 (by decide)⟩, ⟨Nat.mod_lt _ (by decide), t1, d2, d3, d4⟩, hval⟩

/-- the top limb of `h + 5 − 2^130` and the mask made of its sign bit: all zeros on a borrow, all ones otherwise -/
theorem top_mask (t g4 mask : Nat) (eg : g4 = (t % 2 ^ 32 + (2 ^ 32 - (1 <<< 26))) % 2 ^ 32)
    (em : mask = ((g4 >>> (32 - 1)) + (2 ^ 32 - 1)) % 2 ^ 32) (ht : t ≤ 2 ^ 26) :
    (t < 2 ^ 26 ∧ mask = 0) ∨ (t = 2 ^ 26 ∧ g4 = 0 ∧ mask = 0xffffffff) := by
  simp only [Nat.shiftRight_eq_div_pow, Nat.shiftLeft_eq] at eg em
  omega

/-- `(h & !mask) | (g & mask)` -/
def sel (mask x y : Nat) : Nat := (x &&& (mask ^^^ 0xffffffff)) ||| (y &&& mask)

theorem sel_zero (x y : Nat) (hx : x < 2 ^ 26) : sel 0 x y = x := by
  rw [sel, Nat.zero_xor, Nat.and_zero, Nat.or_zero, and_mask32, Nat.mod_eq_of_lt (Nat.lt_trans hx (by decide))]

theorem sel_ones (x y : Nat) (hy : y < 2 ^ 26) : sel 0xffffffff x y = y := by
  rw [sel, Nat.xor_self, Nat.and_zero, Nat.zero_or, and_mask32, Nat.mod_eq_of_lt (Nat.lt_trans hy (by decide))]

/-- `// compute h + -p` and `// select h if h < p, or h + -p if h >= p`: the chain `k + 5` is one pass over limbs 0 … 3 with
    carry in 5 (no `wrapping_add` wraps), its carry out goes into the top limb -/
theorem select_rel (k g q : L5) (S : List Nat) (c3 mask : Nat) (hk : Tight k)
    (eg : passF (fun s => (s % 2 ^ 32) &&& 0x3ffffff) (fun s => (s % 2 ^ 32) >>> 26) 5 [k.l0, k.l1, k.l2, k.l3] =
      (S, [g.l0, g.l1, g.l2, g.l3], c3))
    (e4 : g.l4 = ((k.l4 + c3) % 2 ^ 32 + (2 ^ 32 - (1 <<< 26))) % 2 ^ 32)
    (em : mask = ((g.l4 >>> (32 - 1)) + (2 ^ 32 - 1)) % 2 ^ 32)
    (eq : q = ⟨sel mask k.l0 g.l0, sel mask k.l1 g.l1, sel mask k.l2 g.l2, sel mask k.l3 g.l3, sel mask k.l4 g.l4⟩) :
    Tight q ∧ val q = val k % (2 ^ 130 - 5) := by
  obtain ⟨i0, i1, i2, i3, i4⟩ := hk
  obtain ⟨-, hd, hc, hv, hG⟩ := passF_spec (lim := 2 ^ 32) (n := 4) (P := 2 ^ 104) (K := 1) (fun s _ => lo32 s)
    (fun s h => by rw [Nat.mod_eq_of_lt h, Nat.shiftRight_eq_div_pow])
    (.four (Nat.le_of_lt i0) (Nat.le_of_lt i1) (Nat.le_of_lt i2) (Nat.le_of_lt i3)) (Nat.le_refl 5) (by decide) eg
  obtain ⟨l0, l1, l2, l3⟩ := forall_four hd
  subst eq
  simp only [val_top]
  clear eg
  -- the top limb decides: on a borrow h < p and h is kept, otherwise h ≥ p and g = h − p is taken
  rcases top_mask (k.l4 + c3) _ mask e4 em (by omega) with ⟨ht, hm⟩ | ⟨ht, hz, hm⟩
  · subst hm
    rw [sel_zero _ _ i0, sel_zero _ _ i1, sel_zero _ _ i2, sel_zero _ _ i3, sel_zero _ _ i4]
    refine ⟨⟨i0, i1, i2, i3, i4⟩, (Nat.mod_eq_of_lt ?_).symm⟩
    omega
  · subst hm
    rw [sel_ones _ _ l0, sel_ones _ _ l1, sel_ones _ _ l2, sel_ones _ _ l3, hz, sel_ones _ 0 (Nat.two_pow_pos 26)]
    refine ⟨⟨l0, l1, l2, l3, Nat.two_pow_pos 26⟩, ?_⟩
    rw [show Limbs.val 26 [k.l0, k.l1, k.l2, k.l3] + 2 ^ 104 * k.l4 = Limbs.val 26 [g.l0, g.l1, g.l2, g.l3] + (2 ^ 130 - 5) by omega,
      Nat.add_mod_right, Nat.mod_eq_of_lt (Nat.lt_trans hG (by decide))]
    rfl

def PadInv (pad : L4) : Prop := pad.w0 < 2^32 ∧ pad.w1 < 2^32 ∧ pad.w2 < 2^32 ∧ pad.w3 < 2^32

instance (pad : L4) : Decidable (PadInv pad) := by unfold PadInv; infer_instance

/-- a packed word: what is left of one limb, `a`, under the bits of the next that fit -/
theorem pack_word {a : Nat} (b k j : Nat) (ha : a < 2 ^ k) (hW : k + j = 32 := by decide) :
    (a ||| ((b <<< k) % 2 ^ 32)) &&& 0xffffffff = (a + 2 ^ k * b) % 2 ^ 32 := by
  rw [Bits.or_shl k j 32 b ha hW, Bits.word_lo k j 32 b ha hW, and_mask32, Nat.mod_eq_of_lt]
  rw [← Bits.word_lo k j 32 b ha hW]; exact Nat.mod_lt _ (by decide)

/-- `// h = h % (2^128)`: the four words are the digits of one pass in radix 2^32 over the limbs regrouped as columns
    `q0 + 2^26·q1, 2^20·q2, 2^14·q3, 2^8·q4`; the model writes the carry out of each column as what is left of its limb -/
theorem pack_rel (q : L5) (w : L4) (hq : Tight q)
    (ew : w = ⟨(q.l0 ||| ((q.l1 <<< 26) % 2 ^ 32)) &&& 0xffffffff, ((q.l1 >>> 6) ||| ((q.l2 <<< 20) % 2 ^ 32)) &&& 0xffffffff,
      ((q.l2 >>> 12) ||| ((q.l3 <<< 14) % 2 ^ 32)) &&& 0xffffffff, ((q.l3 >>> 18) ||| ((q.l4 <<< 8) % 2 ^ 32)) &&& 0xffffffff⟩) :
    PadInv w ∧ val4 w = val q % 2 ^ 128 := by
  obtain ⟨i0, i1, i2, i3, i4⟩ := hq
  have r1 := Bits.shr_lt 6 20 i1
  have r2 := Bits.shr_lt 12 14 i2
  have r3 := Bits.shr_lt 18 8 i3
  have hv : _ = _ % 2 ^ 128 := pass_mod 32 [q.l0 + 2 ^ 26 * q.l1, 2 ^ 20 * q.l2, 2 ^ 14 * q.l3, 2 ^ 8 * q.l4] 0
  simp only [pass, Nat.add_zero, Nat.add_comm (2 ^ _ * _), Bits.word_hi 26 6 32 q.l1 i0, Bits.word_hi 20 12 32 q.l2 r1,
    Bits.word_hi 14 18 32 q.l3 r2] at hv
  rw [show Limbs.val 32 [q.l0 + 2 ^ 26 * q.l1, 2 ^ 20 * q.l2, 2 ^ 14 * q.l3, 2 ^ 8 * q.l4] = val q by
    simp only [val, Limbs.val]; omega] at hv
  subst ew
  simp only [Nat.shiftRight_eq_div_pow, pack_word _ 26 6 i0, pack_word _ 20 12 r1, pack_word _ 14 18 r2, pack_word _ 8 24 r3]
  exact ⟨⟨Nat.mod_lt _ (by decide), Nat.mod_lt _ (by decide), Nat.mod_lt _ (by decide), Nat.mod_lt _ (by decide)⟩,
    (val4_eq _).trans hv⟩

/-- `// h = mac = (h + pad) % (2^128)`: one pass in radix 2^32 over the four sums of words -/
theorem addpad_rel (w pad out : L4) (f0 f1 f2 f3 c : Nat) (hw : PadInv w) (hp : PadInv pad)
    (ep : passF (· % 2 ^ 32) (· >>> 32) 0 [w.w0 + pad.w0, w.w1 + pad.w1, w.w2 + pad.w2, w.w3 + pad.w3] =
      ([f0, f1, f2, f3], [out.w0, out.w1, out.w2, out.w3], c)) :
    (f0 < 2 ^ 64 ∧ f1 < 2 ^ 64 ∧ f2 < 2 ^ 64 ∧ f3 < 2 ^ 64) ∧ val4 out = (val4 w + val4 pad) % 2 ^ 128 := by
  obtain ⟨i0, i1, i2, i3⟩ := hw
  obtain ⟨j0, j1, j2, j3⟩ := hp
  have hts : All₂ (· ≤ ·) [w.w0 + pad.w0, w.w1 + pad.w1, w.w2 + pad.w2, w.w3 + pad.w3] [2 ^ 33, 2 ^ 33, 2 ^ 33, 2 ^ 33] :=
    .four (by omega) (by omega) (by omega) (by omega)
  obtain ⟨hs, -, -, hv, hG⟩ := passF_spec (lim := 2 ^ 64) (n := 4) (P := 2 ^ 128) (K := 2) (fun s _ => rfl)
    (fun s _ => Nat.shiftRight_eq_div_pow s 32) hts (Nat.le_refl 0) (by decide) ep
  rw [Nat.add_zero] at hv
  rw [val4_eq, val4_add, ← hv, Nat.add_mul_mod_self_left, Nat.mod_eq_of_lt hG]
  exact ⟨forall_four hs, rfl⟩

/-- **finish arithmetic** (C05 c, C20): for every accumulator satisfying the invariant — including values in
    [p, 2^130) and beyond — no checked operation overflows and the four output words are
    `((val h mod p) + pad) mod 2^128`. -/
theorem finishArith_spec (h : L5) (pad : L4) (hh : Inv h) (hp : PadInv pad) :
    (finishArith h pad).Ok ∧
    (finishArith h pad).out.w0 < 2^32 ∧ (finishArith h pad).out.w1 < 2^32 ∧
    (finishArith h pad).out.w2 < 2^32 ∧ (finishArith h pad).out.w3 < 2^32 ∧
    val4 (finishArith h pad).out = (val h % Spec.Poly1305.p + val4 pad) % 2^128 := by
  obtain ⟨⟨c1, c2, c3, c4, c5, c6⟩, hk, hv⟩ := fullcarry_rel h (finishArith h pad).k (finishArith h pad).h2a
    (finishArith h pad).h3a (finishArith h pad).h4a (finishArith h pad).cx5 (finishArith h pad).h0a _ hh rfl rfl rfl rfl rfl
  obtain ⟨hq, hs⟩ := select_rel (finishArith h pad).k (finishArith h pad).g (finishArith h pad).q _ _
    (finishArith h pad).mask hk rfl rfl rfl rfl
  obtain ⟨hw, hp4⟩ := pack_rel (finishArith h pad).q (finishArith h pad).w hq rfl
  obtain ⟨⟨g0, g1, g2, g3⟩, ha⟩ := addpad_rel (finishArith h pad).w pad (finishArith h pad).out (finishArith h pad).f0
    (finishArith h pad).f1 (finishArith h pad).f2 (finishArith h pad).f3 _ hw hp rfl
  refine ⟨⟨c1, c2, c3, c4, c5, c6, g0, g1, g2, g3⟩, Nat.mod_lt _ (by decide), Nat.mod_lt _ (by decide),
    Nat.mod_lt _ (by decide), Nat.mod_lt _ (by decide), ?_⟩
  -- the `% 2^128` of the packing is absorbed by the outer one
  have hkh : val (finishArith h pad).k % (2 ^ 130 - 5) = val h % Spec.Poly1305.p := hv ▸ fold_mod _
  rw [ha, hp4, hs, Nat.mod_add_mod, hkh]

end Cx.Proofs.Poly1305
