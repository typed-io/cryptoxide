/-
  Proofs.Poly1305Object — the abstract MAC object (key, bytes since last reset, finished?) and the simulation
  between it and the (repaired) `Poly1305` context, one operation at a time.  Poly1305 has this abstract object of its own
  and is not an instance of `Proofs.MacObj.Contract`: a second result is answered with the same tag, not refused;
  `raw_result` accepts every buffer of at least 16 bytes; and its panics are typed (`Panic`), which the rows of C20 mention.
-/
import CxVerif.Proofs.Poly1305Stream
namespace Cx.Proofs.Poly1305
open Cx Cx.Impl.Poly1305

/-- the abstract object of C09: bytes since the last reset, and whether a result has been taken -/
structure Abs where
  msg : Bytes
  fin : Bool
  deriving DecidableEq, Repr

/-- what the property demands of one operation: results are `MAC(key, bytes since last reset)`, input after a
    result is refused, a too short output slice is refused, reset starts over with the same key -/
def absStep (key : Bytes) (a : Abs) : Op → Except Panic (Abs × Option Bytes)
  | .input d => if a.fin then .error .assertion else .ok ({ a with msg := a.msg ++ d }, none)
  | .result => .ok ({ a with fin := true }, some (Spec.Poly1305.mac key a.msg))
  | .rawResult n =>
    if n < 16 then .error .assertion else .ok ({ a with fin := true }, some (Spec.Poly1305.mac key a.msg))
  | .reset => .ok (⟨[], false⟩, none)

/-- a history on the abstract object (same shape as `runOps`) -/
def absRun (key : Bytes) : Abs → List Op → List Bytes × Option Panic
  | _, [] => ([], none)
  | a, op :: ops =>
    match absStep key a op with
    | .error e => ([], some e)
    | .ok (a', out) =>
      let (outs, e) := absRun key a' ops
      (match out with | some t => t :: outs | none => outs, e)

def Sim (key : Bytes) (st : State) (a : Abs) : Prop :=
  if a.fin then Finished key st a.msg else Absorbing key st a.msg

theorem Sim.static {key : Bytes} {st : State} {a : Abs} (h : Sim key st a) : Static key st := by
  unfold Sim at h
  split at h
  · exact h.1
  · exact h.1

theorem raw_sim (key : Bytes) (st : State) (a : Abs) (n : Nat) (hn : 16 ≤ n) (h : Sim key st a) :
    ∃ st', raw_result .repaired st n = .ok (st', Spec.Poly1305.mac key a.msg) ∧ Sim key st' { a with fin := true } := by
  obtain ⟨msg, fin⟩ := a
  cases fin
  · obtain ⟨st', e, s, t, f⟩ := raw_result_absorbing .repaired key st msg n hn h
    exact ⟨st', e, s, by simpa using f, t⟩
  · exact ⟨st, raw_result_finished .repaired key st msg n hn h, h⟩

/-- one operation of the repaired code simulates one operation of the abstract object (and vice versa:
    both are functions) -/
theorem step_sim (key : Bytes) (st : State) (a : Abs) (op : Op) (h : Sim key st a) :
    match absStep key a op with
    | .error e => stepOp .repaired st op = .error e
    | .ok (a', out) => ∃ st', stepOp .repaired st op = .ok (st', out) ∧ Sim key st' a' := by
  cases op with
  | input d =>
    obtain ⟨msg, fin⟩ := a
    cases fin
    · obtain ⟨st', e, a'⟩ := input_spec key st msg d h
      simp only [absStep, Bool.false_eq_true, if_false, stepOp, e]
      exact ⟨st', rfl, a'⟩
    · simp only [absStep, if_true, stepOp, input_finished key st msg d h]
  | result =>
    obtain ⟨st', e, s⟩ := raw_sim key st a 16 (Nat.le_refl _) h
    simp only [absStep, stepOp, result, e]
    exact ⟨st', rfl, s⟩
  | rawResult n =>
    by_cases hn : n < 16
    · simp only [absStep, hn, if_true, stepOp, raw_result_short .repaired st n hn]
    · obtain ⟨st', e, s⟩ := raw_sim key st a n (by omega) h
      simp only [absStep, hn, if_false, stepOp, e]
      exact ⟨st', rfl, s⟩
  | reset =>
    simp only [absStep, stepOp]
    exact ⟨reset st, rfl, reset_absorbing key st h.static⟩

theorem run_sim (key : Bytes) (ops : List Op) (st : State) (a : Abs) (h : Sim key st a) :
    runOps .repaired st ops = absRun key a ops := by
  induction ops generalizing st a with
  | nil => rfl
  | cons op ops ih =>
    have s := step_sim key st a op h
    cases ha : absStep key a op with
    | error e =>
      rw [ha] at s
      simp only [runOps, absRun, ha, s]
    | ok r =>
      obtain ⟨a', out⟩ := r
      rw [ha] at s
      obtain ⟨st', e, h'⟩ := s
      simp only [runOps, absRun, ha, e, ih st' a' h']
      cases out <;> rfl

theorem absRun_reset_fresh (key : Bytes) (msg : Bytes) (junk : List Op) (a : Abs)
    (ha : (absRun key a junk).2 = none) :
    ∃ outs, absRun key a (junk ++ [.reset, .input msg, .result]) = (outs ++ [Spec.Poly1305.mac key msg], none) := by
  induction junk generalizing a with
  | nil => exact ⟨[], by simp [absRun, absStep]⟩
  | cons op ops ih =>
    simp only [absRun, List.cons_append] at ha ⊢
    cases hs : absStep key a op with
    | error e => rw [hs] at ha; simp at ha
    | ok r =>
      obtain ⟨a', out⟩ := r
      rw [hs] at ha
      obtain ⟨outs, ho⟩ := ih a' (by simpa using ha)
      simp only [ho]
      cases out with
      | none => exact ⟨outs, rfl⟩
      | some t => exact ⟨t :: outs, rfl⟩

theorem new_sim (key : Bytes) : Sim key (new key) ⟨[], false⟩ := new_absorbing key

end Cx.Proofs.Poly1305
