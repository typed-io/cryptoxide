/-
  Proofs.Poly1305Stream — `block` on states, the 16-byte staging of `input` (any split gives the same block
  sequence), `finish`/`raw_result`, and the relations `Absorbing`/`Finished` between a state and the bytes since the last reset.
  `Absorbing` (an aligned prefix exists …) is the form the property statements use; the proofs work with `Acc`: the accumulator
  is the fold over `fullBlocks 16 msg` and the staged bytes are `blockTail 16 msg` (`absorbing_iff`), so that `input` is
  `FB.feed_append`.
-/
import CxVerif.Proofs.Poly1305Bytes
import CxVerif.Proofs.Blocks
namespace Cx.Proofs.Poly1305
open Cx Cx.Impl.Poly1305
open Cx.Spec.Poly1305 (p step poly)
open Cx.Proofs.FB (fullBlocks_of_lt blockTail_of_lt fullBlocks_of_ge blockTail_of_ge fullBlocks_cons blockTail_cons
  blockTail_length_lt feed_append chunks_eq cut_unique cut_exists)

theorem step_mod (a a' n r : Nat) (h : a % p = a' % p) : ((a + n) * r) % p = ((a' + n) * r) % p := by
  rw [Nat.mul_mod, Nat.add_mod, h, ← Nat.add_mod, ← Nat.mul_mod]

/-- **block on states** (C05 b, C20): with clamped `r`, an accumulator inside the invariant and a 16-byte slice,
    `block` does not panic, changes only `h`, keeps the invariant, and multiplies
    `(h + m + hibit·2^128)` by `r` modulo `2^130 − 5`. -/
theorem block_spec (st : State) (m : Bytes) (hr : RInv st.r) (hh : Inv st.h) (hm : m.length = 16) :
    ∃ h', block st m = .ok { st with h := h' } ∧ Inv h' ∧
      val h' % p = ((val st.h + (leNat m + (if st.finalized then 0 else 2 ^ 128))) * val st.r) % p := by
  obtain ⟨ht, hv⟩ := loadBlock_spec m hm st.finalized
  obtain ⟨hok, hinv, hval⟩ := blockArith_spec st.r st.h _ hr hh ht
  refine ⟨_, ?_, hinv, ?_⟩
  · have : ¬ m.length < 16 := by omega
    simp only [block, this, if_false, hok, if_true]
  · rw [hval, hv]

/-- the parts of the state that never change: clamped `r` representing `rOf key`, `pad` representing `sOf key`,
    a 16-byte staging buffer -/
structure Static (key : Bytes) (st : State) : Prop where
  rinv : RInv st.r
  rval : val st.r = Spec.Poly1305.rOf key
  pinv : PadInv st.pad
  pval : val4 st.pad = Spec.Poly1305.sOf key
  blen : st.buffer.length = 16

/-- absorbing state: `msg` = processed prefix (a whole number of blocks) ++ the staged partial block -/
def Absorbing (key : Bytes) (st : State) (msg : Bytes) : Prop :=
  Static key st ∧ st.leftover < 16 ∧ st.finalized = false ∧ Inv st.h ∧
  ∃ (pre : Bytes) (k : Nat), msg = pre ++ st.buffer.take st.leftover ∧ pre.length = 16 * k ∧
    val st.h % p = (chunks 16 pre).foldl (step (Spec.Poly1305.rOf key)) 0

theorem Static.of_eq {key : Bytes} {st st' : State} (hs : Static key st) (hr : st'.r = st.r) (hp : st'.pad = st.pad)
    (hb : st'.buffer.length = 16) : Static key st' :=
  ⟨hr ▸ hs.rinv, hr ▸ hs.rval, hp ▸ hs.pinv, hp ▸ hs.pval, hb⟩

/-- the buffering invariant in functional form: accumulator `a` (mod `p`), staged bytes `t` -/
def Acc (key : Bytes) (st : State) (a : Nat) (t : Bytes) : Prop :=
  Static key st ∧ st.leftover < 16 ∧ st.finalized = false ∧ Inv st.h ∧ st.buffer.take st.leftover = t ∧ val st.h % p = a

theorem absorbing_iff (key : Bytes) (st : State) (msg : Bytes) :
    Absorbing key st msg ↔ Acc key st ((fullBlocks 16 msg).foldl (step (Spec.Poly1305.rOf key)) 0) (blockTail 16 msg) := by
  constructor
  · rintro ⟨hs, hlo, hnf, hh, pre, k, hmsg, hpre, hacc⟩
    have ht : (st.buffer.take st.leftover).length < 16 := by rw [List.length_take, hs.blen]; omega
    obtain ⟨e1, e2⟩ := cut_unique (by decide) hmsg hpre ht
    exact ⟨hs, hlo, hnf, hh, e2.symm, by rw [e1]; exact hacc⟩
  · rintro ⟨hs, hlo, hnf, hh, ht, ha⟩
    obtain ⟨pre, e1, e2, e3⟩ := cut_exists (N := 16) (by decide) msg
    exact ⟨hs, hlo, hnf, hh, pre, _, by rw [ht]; exact e1, e2, by rw [e3]; exact ha⟩

theorem block_acc (key : Bytes) (st : State) (b : Bytes) (hs : Static key st) (hh : Inv st.h) (hb : b.length = 16)
    (hnf : st.finalized = false) :
    ∃ h', block st b = .ok { st with h := h' } ∧ Inv h' ∧ val h' % p = step (Spec.Poly1305.rOf key) (val st.h % p) b := by
  obtain ⟨h', e, i, v⟩ := block_spec st b hs.rinv hh hb
  refine ⟨h', e, i, ?_⟩
  rw [v, hnf, hs.rval, step, blockNat_eq, hb]
  exact step_mod _ _ _ _ (Nat.mod_mod _ _).symm

theorem blocks_acc (key : Bytes) (fuel : Nat) (st : State) (m : Bytes) (hf : m.length ≤ fuel) (hs : Static key st)
    (hh : Inv st.h) (hnf : st.finalized = false) :
    ∃ h', blocks fuel st m = .ok ({ st with h := h' }, blockTail 16 m) ∧ Inv h' ∧
      val h' % p = (fullBlocks 16 m).foldl (step (Spec.Poly1305.rOf key)) (val st.h % p) := by
  induction fuel generalizing st m with
  | zero =>
    have : m = [] := List.eq_nil_of_length_eq_zero (by omega)
    subst this
    exact ⟨st.h, rfl, hh, rfl⟩
  | succ fuel ih =>
    by_cases hm : m.length ≥ 16
    · obtain ⟨h1, e1, i1, v1⟩ := block_acc key st (m.take 16) hs hh (by simp; omega) hnf
      obtain ⟨h2, e2, i2, v2⟩ := ih { st with h := h1 } (m.drop 16) (by simp; omega) (hs.of_eq rfl rfl hs.blen) i1 hnf
      refine ⟨h2, ?_, i2, ?_⟩
      · simp only [blocks, hm, if_true, e1, e2, blockTail_of_ge (by decide) hm]
      · rw [v2, fullBlocks_of_ge (by decide) hm, List.foldl_cons, ← v1]
    · have hlt : m.length < 16 := by omega
      exact ⟨st.h, by simp only [blocks, hm, if_false, blockTail_of_lt hlt], hh, by rw [fullBlocks_of_lt hlt]; rfl⟩

theorem copyInto_spec (src buf : Bytes) (off : Nat) (h : off + src.length ≤ buf.length) :
    ∃ res, copyInto buf off src = some res ∧ res.length = buf.length ∧
      res.take (off + src.length) = buf.take off ++ src := by
  induction src generalizing buf off with
  | nil => exact ⟨buf, rfl, rfl, by simp⟩
  | cons x xs ih =>
    simp only [List.length_cons] at h
    have hlt : off < buf.length := by omega
    obtain ⟨res, h1, h2, h3⟩ := ih (buf.set off x) (off + 1) (by simp; omega)
    refine ⟨res, ?_, ?_, ?_⟩
    · simp only [copyInto, hlt, if_true, h1]
    · simpa using h2
    · have e : off + (x :: xs).length = off + 1 + xs.length := by simp; omega
      rw [e, h3, List.take_set, List.take_succ_eq_append_getElem hlt, List.set_append]
      simp [List.length_take, Nat.min_eq_left (Nat.le_of_lt hlt)]

theorem inputTail_acc (key : Bytes) (st : State) (m : Bytes) (hs : Static key st) (hh : Inv st.h)
    (hnf : st.finalized = false) :
    ∃ st', inputTail st m = .ok st' ∧
      Acc key st' ((fullBlocks 16 m).foldl (step (Spec.Poly1305.rOf key)) (val st.h % p)) (blockTail 16 m) := by
  obtain ⟨h', e, i, v⟩ := blocks_acc key m.length st m (Nat.le_refl _) hs hh hnf
  have hr := blockTail_length_lt (N := 16) (by decide) m
  generalize blockTail 16 m = rest at e hr ⊢
  have hle : rest.length ≤ st.buffer.length := by rw [hs.blen]; omega
  refine ⟨{ st with h := h', buffer := rest ++ st.buffer.drop rest.length, leftover := rest.length }, ?_,
    hs.of_eq rfl rfl ?_, hr, hnf, i, List.take_left' rfl, v⟩
  · simp only [inputTail, e, hle, if_true]
  · have := hs.blen
    simp only [List.length_append, List.length_drop]
    omega

theorem input_acc (key : Bytes) (st : State) (a : Nat) (t data : Bytes) (h : Acc key st a t) :
    ∃ st', input st data = .ok st' ∧
      Acc key st' ((fullBlocks 16 (t ++ data)).foldl (step (Spec.Poly1305.rOf key)) a) (blockTail 16 (t ++ data)) := by
  obtain ⟨hs, hlo, hnf, hh, ht, ha⟩ := h
  subst ht ha
  by_cases h0 : st.leftover > 0
  · have hlo16 : ¬ st.leftover > 16 := by omega
    obtain ⟨want, hw⟩ : ∃ w, w = min (16 - st.leftover) data.length := ⟨_, rfl⟩
    have htl : (data.take want).length = want := by simp; omega
    obtain ⟨buf, c1, c2, c3⟩ := copyInto_spec (data.take want) st.buffer st.leftover (by rw [htl, hs.blen]; omega)
    rw [htl] at c3
    have hbl : buf.length = 16 := c2.trans hs.blen
    have hll : (st.buffer.take st.leftover).length = st.leftover := by rw [List.length_take, hs.blen]; omega
    by_cases hlt : st.leftover + want < 16
    · -- everything is staged
      have hd : data.take want = data := List.take_of_length_le (by omega)
      have hsl : (st.buffer.take st.leftover ++ data).length < 16 := by rw [List.length_append, hll]; omega
      rw [fullBlocks_of_lt hsl, blockTail_of_lt hsl]
      refine ⟨{ st with buffer := buf, leftover := st.leftover + want }, ?_, hs.of_eq rfl rfl hbl, hlt, hnf, hh,
        by rw [← hd]; exact c3, rfl⟩
      simp only [input, hnf, Bool.false_eq_true, if_false, h0, if_true, hlo16, ← hw, c1, hlt]
    · -- the staged block is complete: it is the first full block of `t ++ data`
      have hbuf : buf = st.buffer.take st.leftover ++ data.take want := by
        rw [← c3, List.take_of_length_le (by omega)]
      obtain ⟨h1, e1, i1, v1⟩ := block_acc key { st with buffer := buf, leftover := st.leftover + want } buf
        (hs.of_eq rfl rfl hbl) hh hbl hnf
      obtain ⟨st', e2, a2⟩ := inputTail_acc key { st with buffer := buf, leftover := 0, h := h1 } (data.drop want)
        (hs.of_eq rfl rfl hbl) i1 hnf
      have hsplit : st.buffer.take st.leftover ++ data = buf ++ data.drop want := by
        rw [hbuf, List.append_assoc, List.take_append_drop]
      refine ⟨st', ?_, ?_⟩
      · simp only [hnf] at e1 e2
        simp only [input, hnf, Bool.false_eq_true, if_false, h0, if_true, hlo16, ← hw, c1, hlt, e1]
        exact e2
      · rw [hsplit, fullBlocks_cons (by decide) hbl, blockTail_cons (by decide) hbl, List.foldl_cons, ← v1]
        exact a2
  · obtain ⟨st', e, a⟩ := inputTail_acc key st data hs hh hnf
    refine ⟨st', ?_, by rw [show st.leftover = 0 by omega]; exact a⟩
    simp only [input, hnf, Bool.false_eq_true, if_false, h0]
    exact e

/-- **staging** (C05 d): one `input` call on an absorbing state does not panic and extends the abstract
    message by exactly `data`, whatever was staged before and however long `data` is. -/
theorem input_spec (key : Bytes) (st : State) (msg data : Bytes) (h : Absorbing key st msg) :
    ∃ st', input st data = .ok st' ∧ Absorbing key st' (msg ++ data) := by
  obtain ⟨st', e, a⟩ := input_acc key st _ _ data ((absorbing_iff key st msg).mp h)
  obtain ⟨e1, e2⟩ := feed_append (N := 16) (by decide) (step (Spec.Poly1305.rOf key)) 0 msg data
  exact ⟨st', e, (absorbing_iff key st' _).mpr (e1 ▸ e2 ▸ a)⟩

/-- finished state: the tag of `msg` sits in `h[0..4]` and the object refuses further input -/
def Finished (key : Bytes) (st : State) (msg : Bytes) : Prop :=
  Static key st ∧ st.finalized = true ∧ tagBytes st.h = Spec.Poly1305.mac key msg

theorem finishTail_spec (key : Bytes) (st : State) (acc : Nat) (hs : Static key st) (hh : Inv st.h)
    (hacc : val st.h % p = acc) :
    ∃ st', finishTail st = .ok st' ∧ Static key st' ∧ st'.finalized = st.finalized ∧
      tagBytes st'.h = natToLE 16 ((acc + Spec.Poly1305.sOf key) % 2 ^ 128) := by
  obtain ⟨hok, w0, w1, w2, -, hv⟩ := finishArith_spec st.h st.pad hh hs.pinv
  simp only [finishTail, hok, if_true]
  refine ⟨_, rfl, hs.of_eq rfl rfl hs.blen, rfl, ?_⟩
  rw [tagBytes_eq _ w0 w1 w2, ← hacc, ← hs.pval, ← hv]
  rfl

theorem poly_eq (r : Nat) (msg : Bytes) :
    poly r msg = if blockTail 16 msg = [] then (fullBlocks 16 msg).foldl (step r) 0
      else step r ((fullBlocks 16 msg).foldl (step r) 0) (blockTail 16 msg) := by
  rw [poly, chunks_eq (by decide), List.foldl_append]
  split <;> rfl

/-- **finish** (C05 c): from an absorbing state `finish` does not panic and leaves the RFC 8439 tag of the
    whole message in `h[0..4]`; the final partial block (if any) gets the 0x01 marker and no hibit.
    `finalized` is set iff a partial block was pending or the variant is the repaired one. -/
theorem finish_spec (v : Variant) (key : Bytes) (st : State) (msg : Bytes) (h : Absorbing key st msg) :
    ∃ st', finish v st = .ok st' ∧ Static key st' ∧ tagBytes st'.h = Spec.Poly1305.mac key msg ∧
      st'.finalized = (decide (st.leftover > 0) || decide (v = .repaired)) := by
  obtain ⟨hs, hlo, hnf, hh, ht, hacc⟩ := (absorbing_iff key st msg).mp h
  have htl : (st.buffer.take st.leftover).length = st.leftover := by
    rw [List.length_take, hs.blen]; omega
  by_cases h0 : st.leftover > 0
  · obtain ⟨pl, pv⟩ := padBuffer_spec st.buffer st.leftover hs.blen hlo
    obtain ⟨h1, e1, i1, v1⟩ := block_spec
      { st with buffer := padBuffer st.buffer st.leftover, finalized := true } _ hs.rinv hh pl
    -- the last, partial block: the padded buffer is `blockNat` of it, and there is no hibit
    have hacc' : val h1 % p = poly (Spec.Poly1305.rOf key) msg := by
      rw [v1, poly_eq, ← ht, if_neg (List.ne_nil_of_length_pos (by omega)), step, ← hacc]
      simp only [if_true, Nat.add_zero, pv, hs.rval]
      exact step_mod _ _ _ _ (Nat.mod_mod _ _).symm
    obtain ⟨st', e2, s2, f2, t2⟩ := finishTail_spec key
      { st with buffer := padBuffer st.buffer st.leftover, finalized := true, h := h1 } _ (hs.of_eq rfl rfl pl) i1 hacc'
    refine ⟨st', ?_, s2, t2, by rw [f2]; simp [h0]⟩
    simp only [finish, h0, if_true, hlo, e1]
    exact e2
  · have hacc' : val st.h % p = poly (Spec.Poly1305.rOf key) msg := by
      rw [poly_eq, ← ht, show st.leftover = 0 by omega, List.take_zero, if_pos rfl, hacc]
    cases v with
    | original =>
      obtain ⟨st', e2, s2, f2, t2⟩ := finishTail_spec key st _ hs hh hacc'
      exact ⟨st', by simp only [finish, h0, if_false]; exact e2, s2, t2, by rw [f2, hnf]; simp [h0]⟩
    | repaired =>
      obtain ⟨st', e2, s2, f2, t2⟩ := finishTail_spec key { st with finalized := true } _ (hs.of_eq rfl rfl hs.blen) hh hacc'
      exact ⟨st', by simp only [finish, h0, if_false]; exact e2, s2, t2, by rw [f2]; simp⟩

theorem raw_result_absorbing (v : Variant) (key : Bytes) (st : State) (msg : Bytes) (n : Nat) (hn : 16 ≤ n)
    (h : Absorbing key st msg) :
    ∃ st', raw_result v st n = .ok (st', Spec.Poly1305.mac key msg) ∧ Static key st' ∧
      tagBytes st'.h = Spec.Poly1305.mac key msg ∧
      st'.finalized = (decide (st.leftover > 0) || decide (v = .repaired)) := by
  obtain ⟨st', e, s, t, f⟩ := finish_spec v key st msg h
  have hnf : st.finalized = false := h.2.2.1
  refine ⟨st', ?_, s, t, f⟩
  have : ¬ n < 16 := by omega
  simp only [raw_result, this, if_false, hnf, Bool.not_false, if_true, e, t]

theorem raw_result_finished (v : Variant) (key : Bytes) (st : State) (msg : Bytes) (n : Nat) (hn : 16 ≤ n)
    (h : Finished key st msg) : raw_result v st n = .ok (st, Spec.Poly1305.mac key msg) := by
  obtain ⟨_, hf, ht⟩ := h
  have : ¬ n < 16 := by omega
  simp only [raw_result, this, if_false, hf, Bool.not_true, Bool.false_eq_true, ht]

theorem input_finished (key : Bytes) (st : State) (msg data : Bytes) (h : Finished key st msg) :
    input st data = .error .assertion := by
  simp only [input, h.2.1, if_true]

theorem raw_result_short (v : Variant) (st : State) (n : Nat) (hn : n < 16) :
    raw_result v st n = .error .assertion := by
  simp only [raw_result, hn, if_true]

theorem new_static (key : Bytes) : Static key (new key) := by
  obtain ⟨_, ri, rv, pi, pv⟩ := new_spec key
  exact ⟨ri, rv, pi, pv, by simp [new, zeros]⟩

theorem absorbing_fresh (key : Bytes) (st : State) (hs : Static key st) (hh : st.h = ⟨0, 0, 0, 0, 0⟩)
    (hl : st.leftover = 0) (hf : st.finalized = false) : Absorbing key st [] := by
  refine ⟨hs, by omega, hf, ?_, [], 0, ?_, rfl, ?_⟩
  · rw [hh]; decide
  · rw [hl]; simp
  · rw [hh]; rfl

theorem new_absorbing (key : Bytes) : Absorbing key (new key) [] :=
  absorbing_fresh key _ (new_static key) rfl rfl rfl

theorem reset_absorbing (key : Bytes) (st : State) (hs : Static key st) : Absorbing key (reset st) [] :=
  absorbing_fresh key _ (hs.of_eq rfl rfl hs.blen) rfl rfl rfl

theorem inputs_spec (key : Bytes) (parts : List Bytes) (st : State) (msg : Bytes) (h : Absorbing key st msg) :
    ∃ st', inputs st parts = .ok st' ∧ Absorbing key st' (msg ++ parts.flatten) := by
  induction parts generalizing st msg with
  | nil => exact ⟨st, rfl, by simpa using h⟩
  | cons c cs ih =>
    obtain ⟨st1, e1, a1⟩ := input_spec key st msg c h
    obtain ⟨st2, e2, a2⟩ := ih st1 (msg ++ c) a1
    refine ⟨st2, ?_, by simpa [List.append_assoc] using a2⟩
    simp only [inputs, e1, e2]

/-- **top level** (C05 e): for ALL keys, ALL chunkings (empty chunks included) and BOTH variants of `finish`,
    `new; input per chunk; raw_result` does not panic and returns the RFC 8439 tag of the concatenation. -/
theorem mac_eq (v : Variant) (key : Bytes) (parts : List Bytes) :
    Impl.Poly1305.mac v key parts = .ok (Spec.Poly1305.mac key parts.flatten) := by
  obtain ⟨st1, e1, a1⟩ := inputs_spec key parts (new key) [] (new_absorbing key)
  obtain ⟨st2, e2, _⟩ := raw_result_absorbing v key st1 _ 16 (Nat.le_refl _) a1
  simp only [List.nil_append] at e2
  simp only [Impl.Poly1305.mac, e1, e2]

end Cx.Proofs.Poly1305
