/-
  Proofs.PowChain — the addition chain of fe/mod.rs up to `z_250_0` (shared by `invert` and `pow25523`), over any
  backend: `mul`, `square`, `sqrep` are the backend's operations and `Q a e` says "`a` is an admissible operand that
  denotes the `e`-th power of the base".  Both field backends run the same chain text: `Impl.Fe64.chain250` and
  `Impl.Fe32.chain250` unfold to `chain250` here with their own operations.  `Ops` is what the chains need of a backend;
  from it `square_repeatdly`, the prefix and the tails of `invert`/`pow25523` are proved once.
-/
import CxVerif.Spec.Field25519
import CxVerif.Proofs.OptionSteps
namespace Cx.Proofs.PowChain
open Cx.Spec
open Cx.Spec.Field25519 (p)

theorem sq_pow (a e : Nat) : Field25519.sq (a ^ e % p) = a ^ (e * 2) % p := by
  unfold Field25519.sq
  rw [← Nat.mul_mod, ← Nat.pow_add]; congr 2; omega

variable {F : Type} (mul : F → F → Option F) (square : F → Option F) (sqrep : F → Nat → Option F)

/-- the text of `Impl.Fe64.chain250` / `Impl.Fe32.chain250` -/
def chain250 (z1 : F) : Option (F × F) := do
  let z2 ← square z1
  let z8 ← sqrep z2 2
  let z9 ← mul z1 z8
  let z11 ← mul z2 z9
  let z22 ← square z11
  let z_5_0 ← mul z9 z22
  let z_10_5 ← sqrep z_5_0 5
  let z_10_0 ← mul z_10_5 z_5_0
  let z_20_10 ← sqrep z_10_0 10
  let z_20_0 ← mul z_20_10 z_10_0
  let z_40_20 ← sqrep z_20_0 20
  let z_40_0 ← mul z_40_20 z_20_0
  let z_50_10 ← sqrep z_40_0 10
  let z_50_0 ← mul z_50_10 z_10_0
  let z_100_50 ← sqrep z_50_0 50
  let z_100_0 ← mul z_100_50 z_50_0
  let z_200_100 ← sqrep z_100_0 100
  let z_200_0 ← mul z_200_100 z_100_0
  let z_250_50 ← sqrep z_200_0 50
  let z_250_0 ← mul z_250_50 z_50_0
  pure (z11, z_250_0)

theorem chain250_spec (Q : F → Nat → Prop)
    (hmul : ∀ {a b i j}, Q a i → Q b j → ∃ h, mul a b = some h ∧ Q h (i + j))
    (hsq : ∀ {a i}, Q a i → ∃ h, square a = some h ∧ Q h (i * 2))
    (hrep : ∀ {a i} (n : Nat), 0 < n → Q a i → ∃ h, sqrep a n = some h ∧ Q h (i * 2^n))
    {z : F} (hz : Q z 1) :
    ∃ a b, chain250 mul square sqrep z = some (a, b) ∧ Q a 11 ∧ Q b (2^250 - 1) := by
  -- the exponents are carried as the sums and products the steps produce; only the two results are evaluated
  suffices h : ∃ r, chain250 mul square sqrep z = some r ∧ Q r.1 11 ∧ Q r.2 (2^250 - 1) by
    obtain ⟨⟨a, b⟩, e, h⟩ := h; exact ⟨a, b, e, h⟩
  refine bind_ok (hsq hz) fun z2 h2 => ?_
  refine bind_ok (hrep 2 (by decide) h2) fun z8 h8 => ?_
  refine bind_ok (hmul hz h8) fun z9 h9 => ?_
  refine bind_ok (hmul h2 h9) fun z11 h11 => ?_
  refine bind_ok (hsq h11) fun z22 h22 => ?_
  refine bind_ok (hmul h9 h22) fun z_5_0 h_5_0 => ?_
  refine bind_ok (hrep 5 (by decide) h_5_0) fun z_10_5 h_10_5 => ?_
  refine bind_ok (hmul h_10_5 h_5_0) fun z_10_0 h_10_0 => ?_
  refine bind_ok (hrep 10 (by decide) h_10_0) fun z_20_10 h_20_10 => ?_
  refine bind_ok (hmul h_20_10 h_10_0) fun z_20_0 h_20_0 => ?_
  refine bind_ok (hrep 20 (by decide) h_20_0) fun z_40_20 h_40_20 => ?_
  refine bind_ok (hmul h_40_20 h_20_0) fun z_40_0 h_40_0 => ?_
  refine bind_ok (hrep 10 (by decide) h_40_0) fun z_50_10 h_50_10 => ?_
  refine bind_ok (hmul h_50_10 h_10_0) fun z_50_0 h_50_0 => ?_
  refine bind_ok (hrep 50 (by decide) h_50_0) fun z_100_50 h_100_50 => ?_
  refine bind_ok (hmul h_100_50 h_50_0) fun z_100_0 h_100_0 => ?_
  refine bind_ok (hrep 100 (by decide) h_100_0) fun z_200_100 h_200_100 => ?_
  refine bind_ok (hmul h_200_100 h_100_0) fun z_200_0 h_200_0 => ?_
  refine bind_ok (hrep 50 (by decide) h_200_0) fun z_250_50 h_250_50 => ?_
  refine bind_ok (hmul h_250_50 h_50_0) fun z_250_0 h_250_0 => ?_
  have cast : ∀ {a i} j, Q a i → i = j → Q a j := fun _ h e => e ▸ h
  exact ⟨_, rfl, cast 11 h11 (by decide), cast _ h_250_0 (by decide)⟩

/-- what the chains need of a field backend: admissible operands `In`, results `Out` (admissible again), values `ev` reduced
    mod p, `mul` and `square` correct on admissible operands, `sqrep` the iterated `square` -/
structure Ops (ev : F → Nat) (In Out : F → Prop) : Prop where
  out_in : ∀ {f}, Out f → In f
  ev_mod : ∀ f, ev f % p = ev f
  mul_ok : ∀ a b, In a → In b → ∃ h, mul a b = some h ∧ Out h ∧ ev h = Field25519.mul (ev a) (ev b)
  sq_ok : ∀ a, In a → ∃ h, square a = some h ∧ Out h ∧ ev h = Field25519.sq (ev a)
  rep_zero : ∀ f, sqrep f 0 = some f
  rep_succ : ∀ f n, sqrep f (n + 1) = square f >>= fun g => sqrep g n

variable {mul square sqrep} {ev : F → Nat} {In Out : F → Prop} (O : Ops mul square sqrep ev In Out)
include O

theorem Ops.sqrep_spec (n : Nat) : ∀ f, In f →
    ∃ h, sqrep f n = some h ∧ (0 < n → Out h) ∧ (n = 0 → h = f) ∧ ev h = (ev f) ^ (2^n) % p := by
  induction n with
  | zero => exact fun f _ => ⟨f, O.rep_zero f, by omega, fun _ => rfl, by rw [Nat.pow_zero, Nat.pow_one, O.ev_mod]⟩
  | succ n ih =>
    intro f hf
    rw [O.rep_succ]
    refine bind_ok (O.sq_ok f hf) fun g ⟨hgt, hgv⟩ => ?_
    obtain ⟨h, hh, hht, hh0, hhv⟩ := ih g (O.out_in hgt)
    refine ⟨h, hh, fun _ => ?_, by omega, ?_⟩
    · by_cases hn : n = 0
      · rw [hh0 hn]; exact hgt
      · exact hht (by omega)
    · rw [hhv, hgv, show Field25519.sq (ev f) = (ev f) ^ 2 % p by unfold Field25519.sq; rw [Nat.pow_two], ← Nat.pow_mod,
        ← Nat.pow_mul, Nat.pow_succ, Nat.mul_comm]

def IsPow (ev : F → Nat) (In : F → Prop) (z h : F) (e : Nat) : Prop := In h ∧ ev h = (ev z) ^ e % p

theorem Ops.base {z : F} (hz : In z) : IsPow ev In z z 1 := ⟨hz, by rw [Nat.pow_one, O.ev_mod]⟩

theorem Ops.mul_pow {z a b : F} {i j : Nat} (ha : IsPow ev In z a i) (hb : IsPow ev In z b j) :
    ∃ h, mul a b = some h ∧ Out h ∧ ev h = (ev z) ^ (i + j) % p := by
  obtain ⟨h, hh, ht, hv⟩ := O.mul_ok a b ha.1 hb.1
  refine ⟨h, hh, ht, ?_⟩
  rw [hv, ha.2, hb.2]
  unfold Field25519.mul
  rw [← Nat.mul_mod, ← Nat.pow_add]

theorem Ops.sqrep_pow {z a : F} {i : Nat} (n : Nat) (hn : 0 < n) (ha : IsPow ev In z a i) :
    ∃ h, sqrep a n = some h ∧ IsPow ev In z h (i * 2^n) := by
  obtain ⟨h, hh, ht, _, hv⟩ := O.sqrep_spec n a ha.1
  exact ⟨h, hh, O.out_in (ht hn), by rw [hv, ha.2, ← Nat.pow_mod, ← Nat.pow_mul]⟩

theorem Ops.chain250 {z : F} (hz : In z) :
    ∃ a b, chain250 mul square sqrep z = some (a, b) ∧ IsPow ev In z a 11 ∧ IsPow ev In z b (2^250 - 1) :=
  chain250_spec mul square sqrep (IsPow ev In z)
    (fun ha hb => let ⟨h, e, t, v⟩ := O.mul_pow ha hb; ⟨h, e, O.out_in t, v⟩)
    (fun ha => let ⟨h, e, t, v⟩ := O.sq_ok _ ha.1; ⟨h, e, O.out_in t, by rw [v, ha.2]; exact sq_pow _ _⟩)
    O.sqrep_pow (O.base hz)

/-- what `invert` and `pow25523` do after the prefix: `n` squarings of `x`, times `y` -/
theorem Ops.tail {z x y : F} {i j : Nat} (n : Nat) (hn : 0 < n) (hx : IsPow ev In z x i) (hy : IsPow ev In z y j) :
    ∃ h, (sqrep x n >>= fun t => mul t y) = some h ∧ Out h ∧ ev h = (ev z) ^ (i * 2^n + j) % p :=
  bind_ok (O.sqrep_pow n hn hx) fun _ ht => O.mul_pow ht hy

end Cx.Proofs.PowChain
