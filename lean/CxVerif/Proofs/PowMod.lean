/-
  Proofs.PowMod — square-and-multiply modulo `n` on `Nat`, structural on a fuel so that the kernel can run it, and the
  proof that it is `a ^ e % n`.  `Spec.Field25519.powAux` is the instance `n = p`; the Pratt checker runs it for every
  modulus of a certificate.  Core only.
-/
namespace Cx.Proofs.PowMod

/-- `fuel ≥ e` suffices (the exponent is halved in every step) -/
def powModAux (n a : Nat) : Nat → Nat → Nat
  | 0, _ => 1 % n
  | fuel + 1, e =>
    if e = 0 then 1 % n
    else
      let h := powModAux n a fuel (e / 2)
      let s := (h * h) % n
      if e % 2 = 1 then (s * a) % n else s

def powMod (a e n : Nat) : Nat := powModAux n a e e

theorem powModAux_eq (n a : Nat) : ∀ (fuel e : Nat), e ≤ fuel → powModAux n a fuel e = a ^ e % n := by
  intro fuel
  induction fuel with
  | zero =>
    intro e he
    have : e = 0 := by omega
    subst this; simp [powModAux]
  | succ k ih =>
    intro e he
    unfold powModAux
    by_cases h0 : e = 0
    · subst h0; simp
    · simp only [h0, if_false]
      rw [ih (e / 2) (by omega)]
      have hsq : a ^ (e / 2) % n * (a ^ (e / 2) % n) % n = a ^ (2 * (e / 2)) % n := by
        rw [← Nat.mul_mod, ← Nat.pow_add]; congr 2; omega
      rw [hsq]
      by_cases h1 : e % 2 = 1
      · simp only [h1, if_true]
        rw [Nat.mod_mul_mod, ← Nat.pow_succ]; congr 2; omega
      · simp only [h1, if_false]; congr 2; omega

theorem powMod_eq (a e n : Nat) : powMod a e n = a ^ e % n := powModAux_eq n a e e (Nat.le_refl e)

end Cx.Proofs.PowMod
