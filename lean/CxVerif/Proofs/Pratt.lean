/-
  Proofs.Pratt — a checker for Pratt certificates given as DATA, proved sound once.  A certificate is a list of rows
  `(n, a, [(q₁,e₁),…])` in post-order: `n − 1 = Π qᵢ^eᵢ`, `a` is a Lucas witness for `n`, and every `qᵢ` is either the `n`
  of an EARLIER row or below 1024, where trial division by 2…31 settles it.  `certOk` is what the kernel evaluates (the
  modular exponentiations by `PowMod.powMod`); `certOk_sound` says that every row's `n` is prime (Mathlib's
  `lucas_primality`).  Rows are cheaper for the kernel than long trial-division sweeps, hence the low bound.
-/
import CxVerif.Proofs.PowMod
import Mathlib.NumberTheory.LucasPrimality
namespace Cx.Proofs.Pratt
open Cx.Proofs.PowMod

/-- `(n, witness, factorisation of n − 1)` -/
abbrev Row := Nat × Nat × List (Nat × Nat)

def facProd : List (Nat × Nat) → Nat
  | [] => 1
  | (q, e) :: fs => q ^ e * facProd fs

def lucas (n a : Nat) (fs : List (Nat × Nat)) : Bool :=
  decide (1 < n) && (n - 1 == facProd fs) && (powMod a (n - 1) n == 1) &&
    fs.all (fun f => powMod a ((n - 1) / f.1) n != 1)

/-- trial division for `q < 32²` -/
def smallPrime (q : Nat) : Bool :=
  decide (2 ≤ q) && decide (q < 1024) && (List.range 30).all fun i => (i + 2) * (i + 2) > q || q % (i + 2) != 0

def certOk : List Row → List Nat → Bool
  | [], _ => true
  | (n, a, fs) :: rest, known =>
    lucas n a fs && fs.all (fun f => known.contains f.1 || smallPrime f.1) && certOk rest (n :: known)

theorem smallPrime_sound {q : Nat} (h : smallPrime q = true) : q.Prime := by
  simp only [smallPrime, Bool.and_eq_true, decide_eq_true_eq, List.all_eq_true, List.mem_range, Bool.or_eq_true,
    bne_iff_ne, ne_eq] at h
  obtain ⟨⟨h2, hlt⟩, hd⟩ := h
  -- the least factor `m` of a composite `q < 1024` has `m² ≤ q`, so `m ≤ 31`, and the sweep met it
  by_contra hq
  have hm := Nat.minFac_sq_le_self (by omega) hq
  have hm2 : 2 ≤ q.minFac := (Nat.minFac_prime (by omega)).two_le
  have hm31 : q.minFac < 32 := by
    by_contra h32
    have : 32 * 32 ≤ q.minFac * q.minFac := Nat.mul_le_mul (by omega) (by omega)
    rw [sq] at hm; omega
  rcases hd (q.minFac - 2) (by omega) with h | h
  · rw [show q.minFac - 2 + 2 = q.minFac by omega, ← sq] at h; omega
  · rw [show q.minFac - 2 + 2 = q.minFac by omega] at h
    exact h (Nat.mod_eq_zero_of_dvd (Nat.minFac_dvd q))

theorem cast_pow_eq_one_iff (n a e : Nat) (hn : 1 < n) : ((a : ZMod n) ^ e = 1) ↔ powMod a e n = 1 := by
  rw [powMod_eq]
  have h : ((a : ZMod n) ^ e = 1) ↔ ((a ^ e : ℕ) : ZMod n) = ((1 : ℕ) : ZMod n) := by push_cast; rfl
  rw [h, ZMod.natCast_eq_natCast_iff', Nat.mod_eq_of_lt hn]

theorem prime_dvd_facProd {q : Nat} (hq : q.Prime) :
    ∀ (fs : List (Nat × Nat)), (∀ f ∈ fs, Nat.Prime f.1) → q ∣ facProd fs → ∃ f ∈ fs, q = f.1
  | [], _, h => absurd (Nat.dvd_one.1 h) hq.one_lt.ne'
  | (r, e) :: fs, hfs, h => by
    rcases (Nat.Prime.dvd_mul hq).1 h with h1 | h2
    · exact ⟨(r, e), List.mem_cons_self,
        (Nat.prime_dvd_prime_iff_eq hq (hfs (r, e) List.mem_cons_self)).1 (hq.dvd_of_dvd_pow h1)⟩
    · obtain ⟨f, hf, hqf⟩ := prime_dvd_facProd hq fs (fun f hf => hfs f (List.mem_cons_of_mem _ hf)) h2
      exact ⟨f, List.mem_cons_of_mem _ hf, hqf⟩

theorem prime_of_lucas {n a : Nat} {fs : List (Nat × Nat)} (hc : lucas n a fs = true)
    (hfs : ∀ f ∈ fs, Nat.Prime f.1) : n.Prime := by
  simp only [lucas, Bool.and_eq_true, decide_eq_true_eq, beq_iff_eq, List.all_eq_true, bne_iff_ne, ne_eq] at hc
  obtain ⟨⟨⟨hn, hprod⟩, h1⟩, hne⟩ := hc
  refine lucas_primality n (a : ZMod n) ((cast_pow_eq_one_iff n a _ hn).2 h1) fun q hq hqd hcon => ?_
  rw [hprod] at hqd
  obtain ⟨f, hf, rfl⟩ := prime_dvd_facProd hq fs hfs hqd
  exact hne f hf ((cast_pow_eq_one_iff n a _ hn).1 hcon)

theorem certOk_sound : ∀ (rows : List Row) (known : List Nat), certOk rows known = true →
    (∀ q ∈ known, q.Prime) → ∀ r ∈ rows, r.1.Prime
  | [], _, _, _, r, hr => by cases hr
  | (n, a, fs) :: rest, known, h, hk, r, hr => by
    simp only [certOk, Bool.and_eq_true, List.all_eq_true, Bool.or_eq_true, List.contains_iff_mem] at h
    obtain ⟨⟨hl, hf⟩, hrest⟩ := h
    have hn : n.Prime := prime_of_lucas hl fun f hfm => (hf f hfm).elim (hk _) smallPrime_sound
    rcases List.mem_cons.1 hr with rfl | hr
    · exact hn
    · exact certOk_sound rest (n :: known) hrest
        (fun q hq => (List.mem_cons.1 hq).elim (fun e => e ▸ hn) (hk q)) r hr

theorem prime_of_cert {rows : List Row} (h : certOk rows [] = true) {n : Nat}
    (hn : (rows.map (·.1)).contains n = true) : n.Prime := by
  obtain ⟨r, hr, rfl⟩ := List.mem_map.1 (List.contains_iff_mem.1 hn)
  exact certOk_sound rows [] h (fun _ hq => by cases hq) r hr

end Cx.Proofs.Pratt
