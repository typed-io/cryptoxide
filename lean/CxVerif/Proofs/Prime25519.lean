/-
  Proofs.Prime25519 — GENERATED by tools/gen_pratt.py (python3-vt tools/gen_pratt.py); do not edit by hand.

  Primality of
      p = 2^255 − 19                                             (Cx.Spec.Field25519.p)
      L = 2^252 + 27742317777372353535851937790883648493         (Cx.Spec.ScalarL.L)
  by Pratt certificates, given as data: one row `(n, a, [(q₁,e₁),…])` for every prime n ≥ 1024 of the certificate
  tree, in post-order, with the complete factorisation n − 1 = Π qᵢ^eᵢ and a Lucas witness a.  The checker `Pratt.certOk`
  (Proofs/Pratt.lean, proved sound there) is evaluated by the kernel: kernel evaluation only, nothing compiled is
  trusted; the axioms used are propext / Classical.choice / Quot.sound (those of Mathlib's `lucas_primality`).
  (The `Fact` instances `fact_prime_p`, `fact_prime_L` are in Proofs/Prime25519Inst.lean.)
-/
import CxVerif.Spec.Field25519
import CxVerif.Spec.ScalarL
import CxVerif.Proofs.Pratt

namespace Cx.Proofs.Prime25519
open Cx.Proofs.Pratt

/-- the certificate tree of p (22 rows) -/
def certP : List Row := [
  (32573, 2, [(2, 2), (17, 1), (479, 1)]),
  (65147, 2, [(2, 1), (32573, 1)]),
  (57467, 2, [(2, 1), (59, 1), (487, 1)]),
  (132049, 26, [(2, 4), (3, 2), (7, 1), (131, 1)]),
  (3727, 3, [(2, 1), (3, 4), (23, 1)]),
  (1923133, 2, [(2, 2), (3, 1), (43, 1), (3727, 1)]),
  (4153, 5, [(2, 3), (3, 1), (173, 1)]),
  (1723, 3, [(2, 1), (3, 1), (7, 1), (41, 1)]),
  (430751, 17, [(2, 1), (5, 3), (1723, 1)]),
  (31757755568855353, 10, [(2, 3), (3, 1), (31, 1), (107, 1), (223, 1), (4153, 1), (430751, 1)]),
  (9463, 3, [(2, 1), (3, 1), (19, 1), (83, 1)]),
  (37853, 2, [(2, 2), (9463, 1)]),
  (75707, 2, [(2, 1), (37853, 1)]),
  (2437, 2, [(2, 2), (3, 1), (7, 1), (29, 1)]),
  (569003, 2, [(2, 1), (7, 1), (97, 1), (419, 1)]),
  (2773320623, 5, [(2, 1), (2437, 1), (569003, 1)]),
  (72106336199, 7, [(2, 1), (13, 1), (2773320623, 1)]),
  (8574133, 2, [(2, 2), (3, 1), (7, 1), (103, 1), (991, 1)]),
  (1919519569386763, 2, [(2, 1), (3, 1), (7, 1), (19, 1), (47, 2), (127, 1), (8574133, 1)]),
  (75445702479781427272750846543864801, 7, [(2, 5), (3, 2), (5, 2), (75707, 1), (72106336199, 1), (1919519569386763, 1)]),
  (74058212732561358302231226437062788676166966415465897661863160754340907, 2, [(2, 1), (3, 1), (353, 1), (57467, 1), (132049, 1), (1923133, 1), (31757755568855353, 1), (75445702479781427272750846543864801, 1)]),
  (57896044618658097711785492504343953926634992332820282019728792003956564819949, 2, [(2, 2), (3, 1), (65147, 1), (74058212732561358302231226437062788676166966415465897661863160754340907, 1)])]

/-- the certificate tree of L (30 rows) -/
def certL : List Row := [
  (34123, 2, [(2, 1), (3, 1), (11, 2), (47, 1)]),
  (409477, 2, [(2, 2), (3, 1), (34123, 1)]),
  (14741173, 2, [(2, 2), (3, 2), (409477, 1)]),
  (58964693, 2, [(2, 2), (14741173, 1)]),
  (30703, 3, [(2, 1), (3, 1), (7, 1), (17, 1), (43, 1)]),
  (41081, 3, [(2, 3), (5, 1), (13, 1), (79, 1)]),
  (82163, 2, [(2, 1), (41081, 1)]),
  (22111, 6, [(2, 1), (3, 1), (5, 1), (11, 1), (67, 1)]),
  (132667, 5, [(2, 1), (3, 1), (22111, 1)]),
  (1723, 3, [(2, 1), (3, 1), (7, 1), (41, 1)]),
  (17231, 13, [(2, 1), (5, 1), (1723, 1)]),
  (137849, 3, [(2, 3), (17231, 1)]),
  (3044861653679985063343, 5, [(2, 1), (3, 1), (11, 1), (30703, 1), (82163, 1), (132667, 1), (137849, 1)]),
  (198211423230930754013084525763697, 5, [(2, 4), (3, 1), (23, 1), (58964693, 1), (3044861653679985063343, 1)]),
  (2939, 2, [(2, 1), (13, 1), (113, 1)]),
  (5879, 11, [(2, 1), (2939, 1)]),
  (292386187, 2, [(2, 1), (3, 4), (307, 1), (5879, 1)]),
  (213441916511, 13, [(2, 1), (5, 1), (73, 1), (292386187, 1)]),
  (1361, 3, [(2, 4), (5, 1), (17, 1)]),
  (2851, 2, [(2, 1), (3, 1), (5, 2), (19, 1)]),
  (3797, 2, [(2, 2), (13, 1), (73, 1)]),
  (531581, 2, [(2, 2), (5, 1), (7, 1), (3797, 1)]),
  (2551, 6, [(2, 1), (3, 1), (5, 2), (17, 1)]),
  (1224481, 13, [(2, 5), (3, 1), (5, 1), (2551, 1)]),
  (1257559732178653, 2, [(2, 2), (3, 1), (7, 1), (23, 1), (531581, 1), (1224481, 1)]),
  (4434155615661930479, 17, [(2, 1), (41, 1), (43, 1), (1257559732178653, 1)]),
  (172054593956031949258510691, 2, [(2, 1), (5, 1), (1361, 1), (2851, 1), (4434155615661930479, 1)]),
  (19757330305831588566944191468367130476339, 2, [(2, 1), (269, 1), (213441916511, 1), (172054593956031949258510691, 1)]),
  (276602624281642239937218680557139826668747, 2, [(2, 1), (7, 1), (19757330305831588566944191468367130476339, 1)]),
  (7237005577332262213973186563042994240857116359379907606001950938285454250989, 2, [(2, 2), (3, 1), (11, 1), (198211423230930754013084525763697, 1), (276602624281642239937218680557139826668747, 1)])]

theorem certP_ok : certOk certP [] = true := by decide +kernel
theorem certL_ok : certOk certL [] = true := by decide +kernel

/-- the field prime 2^255 − 19 is prime -/
theorem prime_p : Nat.Prime Cx.Spec.Field25519.p := prime_of_cert certP_ok (by decide +kernel)

/-- the Ed25519 group order L = 2^252 + 27742317777372353535851937790883648493 is prime -/
theorem prime_L : Nat.Prime Cx.Spec.ScalarL.L := prime_of_cert certL_ok (by decide +kernel)

end Cx.Proofs.Prime25519
