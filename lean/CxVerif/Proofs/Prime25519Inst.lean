/-
  Proofs.Prime25519Inst — the two primality theorems as `Fact` instances, for the modules that state their results without
  a primality hypothesis.  Kept apart from the theorems so that importing `prime_p` does not change instance resolution on
  `ZMod p` in the modules in between.
-/
import CxVerif.Proofs.Prime25519
namespace Cx.Proofs.Prime25519

instance fact_prime_p : Fact (Nat.Prime Cx.Spec.Field25519.p) := ⟨prime_p⟩
instance fact_prime_L : Fact (Nat.Prime Cx.Spec.ScalarL.L) := ⟨prime_L⟩

end Cx.Proofs.Prime25519
