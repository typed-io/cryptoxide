/-
  Proofs.RefusalArgon2 — C20 refusal matrix, Argon2 (src/kdf/argon2.rs): the domains of the setters and what the rows of
  Props/C20/Refusal.lean rest on.  (The length-typed curve API has no lemma here; its documentation is quoted at the end
  because its rows stand next to these in Props/C20/Refusal.lean.)

  Documented domains (quoted from `enum InvalidParam` and the setters):
    parallelism(p)   "At least 1 level of parallelism should be used"   "Not more than 2^24-1 level of parallelism should be used"
    iterations(t)    "At least 1 iterations should be used"
    version(v)       "Only version 19 (0x13) and 16 (0x10) are supported here, any other value will raise a failure."
    memory_kb(m)     no refusal exists: "memory need to be at 8*parallelism minimum" — a smaller value is RAISED to
                     8·parallelism silently (`parallelism_override_memory`); `InvalidParam::MemoryTooHigh` is never produced.
                     Property C20 lists this range as documented-unchecked (outside the claim); it is stated here as
                     what the code does (`argon2_memory_kb_never_refuses`, Props/C20/Refusal.lean).
    argon2_at(tag)   no documented tag-length domain; RFC 9106: 4 ≤ T.  The code refuses T = 0 (panic inside BLAKE2b:
                     `ContextDyn::new(0)`) and ACCEPTS T = 1, 2, 3 (documented-unchecked range of C20); salt shorter than
                     8 bytes is accepted as well (unchecked).
  x25519.rs   `TryFrom<&[u8]>` for SecretKey / PublicKey / SharedSecret: `Err(())` unless `value.len() == 32`
              (`x25519_tryfrom_none_iff`, Props/C20/Refusal.lean).
  ed25519.rs  every argument of `keypair`, `signature`, `verify`, `exchange`, … is an array reference: a wrong length
              cannot be passed; inside those types the functions are total (Props C13 / C14).
-/
import CxVerif.Proofs.Argon2Hash
import CxVerif.Proofs.Argon2Index
namespace Cx.Proofs.Refusal
open Cx.Proofs.Argon2 Cx.Impl.Argon2

def ValidArgon2Parallelism (p : Nat) : Prop := 1 ≤ p ∧ p < 2 ^ 24
def ValidArgon2Iterations (t : Nat) : Prop := 1 ≤ t
def ValidArgon2Version (v : Nat) : Prop := v = 0x13 ∨ v = 0x10
/-- the whole builder chain `memory_kb(m).iterations(t).parallelism(p).version(v)` (every `u32` m is accepted) -/
def ValidArgon2Build (v t p : Nat) : Prop := ValidArgon2Version v ∧ ValidArgon2Iterations t ∧ ValidArgon2Parallelism p

instance (p : Nat) : Decidable (ValidArgon2Parallelism p) := by unfold ValidArgon2Parallelism; infer_instance
instance (t : Nat) : Decidable (ValidArgon2Iterations t) := by unfold ValidArgon2Iterations; infer_instance
instance (v : Nat) : Decidable (ValidArgon2Version v) := by unfold ValidArgon2Version; infer_instance
instance (v t p : Nat) : Decidable (ValidArgon2Build v t p) := by unfold ValidArgon2Build; infer_instance

def IsErr (x : Option (Except InvalidParam Params)) : Prop := ∃ e, x = some (.error e)

/-- the invariant of every `Params` value the public API can build (`NonZeroU32` parallelism below 2^24, u32 memory) -/
def ParamsInv (s : Params) : Prop := 1 ≤ s.parallelism ∧ s.parallelism < 2 ^ 24 ∧ s.memory_kb < 2 ^ 32

theorem def_inv (ty : Type') : ParamsInv (Params.def ty) := by
  simp [ParamsInv, Params.def]

theorem isErr_iff_not_valid {x : Option (Except InvalidParam Params)} {V : Prop} (hok : V → ∃ s, x = some (.ok s))
    (hbad : ¬ V → ∃ e, x = some (.error e)) : IsErr x ↔ ¬ V :=
  ⟨fun ⟨_, he⟩ hv => (by obtain ⟨s, hs⟩ := hok hv; rw [hs] at he; cases he), hbad⟩

theorem argon2_iterations_ok (s : Params) (t : Nat) (h : ValidArgon2Iterations t) :
    s.iterations' t = some (.ok { s with iterations := t }) := by
  unfold Params.iterations' ValidArgon2Iterations at *
  rw [if_neg (by omega)]

theorem argon2_iterations_error_kind (s : Params) (t : Nat) (h : ¬ ValidArgon2Iterations t) :
    s.iterations' t = some (.error .IterationsZero) := by
  unfold Params.iterations' ValidArgon2Iterations at *
  rw [if_pos (by omega)]

theorem argon2_version_ok (s : Params) (v : Nat) (h : ValidArgon2Version v) :
    s.version' v = some (.ok { s with version := v }) := by
  unfold Params.version' ValidArgon2Version at *
  rw [if_neg (fun hn => hn h)]

theorem argon2_version_error_kind (s : Params) (v : Nat) (h : ¬ ValidArgon2Version v) :
    s.version' v = some (.error .UnknownVersion) := by
  unfold Params.version' ValidArgon2Version at *
  rw [if_pos h]

theorem argon2_parallelism_ok (s : Params) (p : Nat) (hs : s.memory_kb < 2 ^ 32) (h : ValidArgon2Parallelism p) :
    ∃ s', s.parallelism' p = some (.ok s') ∧ ParamsInv s' ∧ s'.parallelism = p := by
  unfold Params.parallelism'
  rw [if_neg (by have := h.2; omega), if_neg (by have := h.1; omega), override_eq { s with parallelism := p } h.1 h.2 hs]
  refine ⟨_, rfl, ?_, rfl⟩
  simp only [ParamsInv, geomOf]
  have := h.1; have := h.2
  refine ⟨h.1, h.2, ?_⟩
  show max s.memory_kb (8 * p) < 2 ^ 32
  omega

/-- an empty tag buffer is refused for EVERY parameter set and input (the panic is BLAKE2b's `ContextDyn::new(0)`
    inside `hprime`, reached only after the whole memory has been filled; nothing is returned) -/
theorem argon2_at_zero_refused (params : Params) (pwd salt key aad : Bytes) :
    argon2_at params pwd salt key aad 0 = none := by
  unfold argon2_at
  cases H0.new params pwd salt key aad (0 % 2 ^ 32) with
  | none => rfl
  | some h0 =>
    simp only []
    cases Memory.new params with
    | none => rfl
    | some mem =>
      simp only []
      unfold process
      cases process_init h0 (List.range params.parallelism) mem with
      | none => rfl
      | some m1 =>
        simp only []
        cases process_fill params (process_positions params) m1 with
        | none => rfl
        | some m2 =>
          simp only []
          cases (subU m2.stride 1).bind m2.block_index with
          | none => rfl
          | some b =>
            simp only []
            cases process_final m2 (List.range' 1 (params.parallelism - 1)) b with
            | none => rfl
            | some b2 => exact hprime_zero _

end Cx.Proofs.Refusal
