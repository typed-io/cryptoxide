/-
  Proofs.RefusalHash — C20 refusal matrix, the `hashing` contexts that can refuse: BLAKE2b / BLAKE2s
  (src/hashing/blake2b.rs, blake2s.rs) and the SHA-3 / Keccak sponge engine (src/hashing/sha3.rs).

  Documented / asserted domains (quoted from src/hashing/blake2b.rs; blake2s.rs is the same text with 32 / 256):
    Context::<BITS>::new          "the size in bytes need to be between 0 (non included) and 64 bytes (included), which means
                                   BITS need to be between 1 and 512."   `assert!(BITS > 0 && ((BITS + 7) / 8) <= Engine::MAX_OUTLEN);`
    Context::<BITS>::new_keyed    + `assert!(key.len() <= Engine::MAX_KEYLEN);`
    ContextDyn::new(output_bytes) "the size need to be between 0 (non included) and 64 bytes (included)"
                                   `assert!(output_bytes > 0 && output_bytes <= Engine::MAX_OUTLEN);`
    finalize_at(out) &c.          "The output slice size is assert checked to have the correct expected size."
                                   `assert!(out.len() == ((BITS + 7) / 8));` / `assert!(out.len() == self.outlen);`
    reset_with_key(key)           `assert!(key.len() <= Engine::MAX_KEYLEN);`
  What the code accepts for BITS: EVERY 1 ≤ BITS ≤ 512 (256), multiples of 8 or not; the digest then has
  ⌈BITS/8⌉ bytes (`context_new_keyed_none_iff`: `(BITS + 7) / 8 ≤ MAX_OUTLEN ↔ BITS ≤ 8 · MAX_OUTLEN`).

  SHA-3: `Engine::process` panics after finalisation ("Invalid state, absorb phase already finalized."), `output`
  panics when nothing is left ("Nothing left to squeeze."); the public contexts (`update`, `update_mut`,
  `finalize_reset`, `reset`; `finalize` consumes `self`) never leave an engine in such a state.
-/
import CxVerif.Proofs.Blake2
import CxVerif.Impl.Sha3
namespace Cx.Proofs.Refusal

section blake2
open Cx.Impl.Blake2 Cx.Proofs.Blake2
open Cx.Spec.Blake2 (Word Params)
variable {W : Type} [Word W]

/-- documented domain of `ContextDyn::new_keyed(output_bytes, key)` / `new(output_bytes)` (key = []) -/
def ValidBlake2Dyn (maxOut maxKey outlen : Nat) (key : Bytes) : Prop :=
  0 < outlen ∧ outlen ≤ maxOut ∧ key.length ≤ maxKey
/-- documented domain of `Context::<BITS>::new_keyed(key)` / `new()`: "BITS need to be between 1 and 512" -/
def ValidBlake2Bits (maxOut maxKey BITS : Nat) (key : Bytes) : Prop :=
  1 ≤ BITS ∧ BITS ≤ 8 * maxOut ∧ key.length ≤ maxKey

instance (a b c : Nat) (k : Bytes) : Decidable (ValidBlake2Dyn a b c k) := by unfold ValidBlake2Dyn; infer_instance
instance (a b c : Nat) (k : Bytes) : Decidable (ValidBlake2Bits a b c k) := by unfold ValidBlake2Bits; infer_instance

theorem ctx_new_keyed_none_iff (P : Params W) (outlen : Nat) (key : Bytes) :
    Ctx.new_keyed P outlen key = none ↔ ¬ ValidBlake2Dyn P.maxOut P.maxKey outlen key := by
  rw [new_keyed_ite]; unfold ValidBlake2Dyn; split <;> simp [*]

theorem ctx_new_keyed_ok (P : Params W) (outlen : Nat) (key : Bytes) (hv : ValidBlake2Dyn P.maxOut P.maxKey outlen key) :
    ∃ c, Ctx.new_keyed P outlen key = some c := ⟨_, new_keyed_eq P outlen key ⟨hv.1, hv.2.1⟩ hv.2.2⟩

theorem contextdyn_new_keyed_none_iff (P : Params W) (outlen : Nat) (key : Bytes) :
    ContextDyn.new_keyed P outlen key = none ↔ ¬ ValidBlake2Dyn P.maxOut P.maxKey outlen key := by
  rw [contextDyn_new_keyed_eq, Option.map_eq_none_iff, ctx_new_keyed_none_iff]

theorem contextdyn_new_none_iff (P : Params W) (outlen : Nat) :
    ContextDyn.new P outlen = none ↔ ¬ ValidBlake2Dyn P.maxOut P.maxKey outlen [] := by
  rw [contextDyn_new_eq, contextdyn_new_keyed_none_iff]

theorem context_new_keyed_none_iff (P : Params W) (BITS : Nat) (key : Bytes) :
    Context.new_keyed P BITS key = none ↔ ¬ ValidBlake2Bits P.maxOut P.maxKey BITS key := by
  unfold Context.new_keyed ValidBlake2Bits Context.outlen
  rw [new_keyed_ite]
  by_cases h1 : BITS > 0 ∧ (BITS + 7) / 8 ≤ P.maxOut <;> by_cases h2 : key.length ≤ P.maxKey <;> simp [h1, h2] <;> omega

theorem context_new_none_iff (P : Params W) (BITS : Nat) :
    Context.new P BITS = none ↔ ¬ ValidBlake2Bits P.maxOut P.maxKey BITS [] := by
  rw [context_new_eq, context_new_keyed_none_iff]

/-- the byte counter as the code has it (`wrapping_add` on both words) cannot fail; hence neither can
    `internal_final` nor the block loop of `update_mut` -/
theorem increment_counter_wrapping (e : Engine W) (inc : Nat) : ∃ e', e.increment_counter .wrapping inc = some e' := by
  simp [Engine.increment_counter, addAssign]

theorem internal_final_wrapping (P : Params W) (c : Ctx W) : ∃ c', Ctx.internal_final P .wrapping c = some c' := by
  obtain ⟨e', he⟩ := increment_counter_wrapping c.eng (c.buflen % 2 ^ Word.bits W)
  simp only [Ctx.internal_final, he]
  exact ⟨_, rfl⟩

theorem update_loop_wrapping (P : Params W) : ∀ (fuel : Nat) (e : Engine W) (input : Bytes),
    ∃ r, Ctx.update_loop P .wrapping fuel e input = some r := by
  intro fuel
  induction fuel with
  | zero => intro e input; exact ⟨_, rfl⟩
  | succ n ih =>
    intro e input
    obtain ⟨e', he⟩ := increment_counter_wrapping e P.bb
    simp only [Ctx.update_loop, he]
    split
    · exact ih _ _
    · exact ⟨_, rfl⟩

end blake2

section sha3
open Cx.Impl.Sha3

/-- `process` after finalisation: `panic!("Invalid state, absorb phase already finalized.")` -/
theorem sha3_process_refused (dl : Nat) (e : Engine) (data : Bytes) (h : e.can_absorb = false) :
    Engine.process dl e data = none := by
  simp [Engine.process, h]

/-- `finalize` twice: `assert!(self.can_absorb)` -/
theorem sha3_finalize_refused (dl ds : Nat) (e : Engine) (h : e.can_absorb = false) :
    Engine.finalize dl ds e = none := by
  simp [Engine.finalize, h]

/-- `output` when everything has been squeezed: `panic!("Nothing left to squeeze.")` -/
theorem sha3_output_refused (dl ds : Nat) (e : Engine) (n : Nat) (h : e.can_squeeze = false) :
    Engine.output dl ds e n = none := by
  simp [Engine.output, h]

def Sha3Usable (e : Engine) : Prop := e.can_absorb = true ∧ e.can_squeeze = true

theorem sha3_new_usable : Sha3Usable Context.new := ⟨rfl, rfl⟩
theorem sha3_reset_usable (c : Context) : Sha3Usable (Context.reset c) := ⟨rfl, rfl⟩

theorem sha3_update_usable (dl : Nat) (c c' : Context) (d : Bytes) (hc : Sha3Usable c)
    (h : Context.update_mut dl c d = some c') : Sha3Usable c' := by
  unfold Context.update_mut Engine.process at h
  simp only [hc.1, Bool.not_true, Bool.false_eq_true, if_false] at h
  cases hr : rate dl with
  | none => simp [hr] at h
  | some r =>
    simp only [hr, Option.bind_eq_bind, Option.bind_some] at h
    split at h
    · cases h
    · cases ha : absorb_loop r c.state c.offset d with
      | none => simp [ha] at h
      | some p =>
        simp only [ha, Option.bind_some, Option.pure_def, Option.some.injEq] at h
        subst h
        exact ⟨rfl, hc.2⟩

/-- `finalize_reset` ends with `reset()`: the context is usable again; `finalize` consumes the context (a move in
    Rust), so no public method can be called on a squeezed engine -/
theorem sha3_finalize_reset_usable (dl ds : Nat) (c c' : Context) (out : Bytes)
    (h : Context.finalize_reset dl ds c = some (c', out)) : Sha3Usable c' := by
  unfold Context.finalize_reset at h
  cases ho : Engine.output dl ds c dl with
  | none => simp [ho] at h
  | some p =>
    simp only [ho, Option.bind_eq_bind, Option.bind_some, Option.pure_def, Option.some.injEq, Prod.mk.injEq] at h
    rw [← h.1]
    exact ⟨rfl, rfl⟩

end sha3

end Cx.Proofs.Refusal
