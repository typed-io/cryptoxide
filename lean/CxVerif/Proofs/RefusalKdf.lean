/-
  Proofs.RefusalKdf — C20 refusal matrix, key-derivation functions (src/hkdf.rs, src/pbkdf2.rs, src/scrypt.rs).

  Documented / asserted domains (quoted):
    hkdf.rs    hkdf_extract  "prk - The output buffer to fill with a `digest.output_bytes()` length pseudo random key."
                             `assert!(prk.len() == digest.output_bytes());`
               hkdf_expand   RFC 5869 §2.3 "L … (<= 255*HashLen)";  `n = n.checked_add(1).expect("HKDF size limit exceeded.");` (n: u8)
                             "prk - The pseudorandom key of at least `digest.output_bytes()` octets." (RFC 5869 §2.3 "PRK  a
                             pseudorandom key of at least HashLen octets"): `assert!(prk.len() >= digest.output_bytes());`
                             (the repair of defect (m): without this assert any PRK length is accepted and a value returned —
                             witness `hkdf_expand_old_accepts_short_prk`, Props/C20/Refusal.lean)
    pbkdf2.rs  pbkdf2        `assert!(c > 0);`   `idx = idx.checked_add(1).expect("PBKDF2 size limit exceeded.");` (idx: u32):
                             RFC 8018 §5.2 "If dkLen > (2^32 - 1) * hLen, output "derived key too long" and stop."
    scrypt.rs  ScryptParams::new   every constraint of RFC 7914 §2 / §6 within `usize` (theorem `scrypt_params_accepts_iff`)
               scrypt        `assert!(output.len() > 0); assert!(output.len() / 32 <= 0xffffffff);` and the PBKDF2 limit
-/
import CxVerif.Props.C10.Kdf
namespace Cx.Proofs.Refusal
open Cx.Props.C10

def ValidHkdfExtract (hashLen prkLen : Nat) : Prop := prkLen = hashLen
def ValidHkdfExpand (hashLen prkLen okmLen : Nat) : Prop := hashLen ≤ prkLen ∧ okmLen ≤ 255 * hashLen
def ValidPbkdf2 (hLen c dkLen : Nat) : Prop := 0 < c ∧ dkLen ≤ (2 ^ 32 - 1) * hLen
/-- `ScryptParams::new(log_n, r, p)`: RFC 7914 (N = 2^log_n > 1, N < 2^(128·r/8), p ≤ ((2^32−1)·32)/(128·r), r, p > 0)
    and the buffers addressable with a 64-bit `usize` -/
def ValidScryptParams (log_n r p : Nat) : Prop :=
  0 < r ∧ 0 < p ∧ 0 < log_n ∧ log_n < 64 ∧ log_n < 16 * r ∧ r * p < 2 ^ 30 ∧
    128 * r * 2 ^ log_n < 2 ^ 64 ∧ 128 * r * p < 2 ^ 64
/-- `scrypt(password, salt, params, output)`: RFC 7914 "dkLen … a positive integer less than or equal to (2^32 - 1) * hLen", hLen = 32 -/
def ValidScryptOut (dkLen : Nat) : Prop := 0 < dkLen ∧ dkLen ≤ (2 ^ 32 - 1) * 32

instance (a b : Nat) : Decidable (ValidHkdfExtract a b) := by unfold ValidHkdfExtract; infer_instance
instance (a b c : Nat) : Decidable (ValidHkdfExpand a b c) := by unfold ValidHkdfExpand; infer_instance
instance (a b c : Nat) : Decidable (ValidPbkdf2 a b c) := by unfold ValidPbkdf2; infer_instance
instance (a b c : Nat) : Decidable (ValidScryptParams a b c) := by unfold ValidScryptParams; infer_instance
instance (a : Nat) : Decidable (ValidScryptOut a) := by unfold ValidScryptOut; infer_instance

theorem spec_pbkdf2_some (prf : Bytes → Bytes → Bytes) (L : Nat) (P S : Bytes) (dkLen : Nat)
    (h : dkLen ≤ (2 ^ 32 - 1) * L) : ∃ v, Spec.Kdf.pbkdf2 prf L P S 1 dkLen = some v :=
  Option.ne_none_iff_exists'.1 fun hv => by have := (pbkdf2_limit prf L P S 1 dkLen).mp hv; omega

end Cx.Proofs.Refusal
