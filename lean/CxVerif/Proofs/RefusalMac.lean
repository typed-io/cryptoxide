/-
  Proofs.RefusalMac — C20 refusal matrix, MAC and legacy digest OBJECTS (src/poly1305.rs, src/hmac.rs, src/digest.rs,
  the `digest!` wrappers of src/sha1.rs / sha2.rs / sha3.rs / ripemd160.rs, src/blake2b.rs / blake2s.rs).

  Asserted / documented domains (quoted):
    poly1305.rs  new(key: &[u8; 32])            the key length is a type
                 input                           `assert!(!self.finalized);`
                 raw_result(output)              `assert!(output.len() >= 16);`   (16 bytes are written, the rest is left)
                 result / second result          no refusal: the second result returns the same tag (C09)
    hmac.rs      input                           `assert!(!self.finished);`
                 raw_result(output)              no assert of its own: `self.digest.result(output)` refuses
    sha2.rs &c.  input / result                  `assert!(!self.computed, "context is already finalized, needs reset");`
                 result(slice)                   `slice.copy_from_slice(&self.ctx.finalize_reset())`  (equal lengths or panic)
    digest.rs    trait doc of `result`           "This method may be called multiple times."  "out - the vector to hold the
                                                 result. Must be large enough to contain output_bits()."
                 — the implementations are STRICTER than this trait documentation: see `digest_doc_*` in Props/C20/Refusal.lean.
    blake2b.rs   new(outlen) / new_keyed         `assert!(key.len() <= 64)`; ContextDyn: `output_bytes > 0 && output_bytes <= MAX_OUTLEN`,
                                                 `key.len() <= MAX_KEYLEN`
                 reset_with_key(key)             `assert!(key.len() <= Engine::MAX_KEYLEN)`
                 update / finalize(slice)        `assert!(!self.computed, …)`, `assert!(out.len() == self.outlen)`
-/
import CxVerif.Proofs.Poly1305Object
import CxVerif.Proofs.MacLegacy
import CxVerif.Proofs.Blake2
namespace Cx.Proofs.Refusal

section poly
open Cx.Impl.Poly1305 Cx.Proofs.Poly1305

/-- the calls the code defines as valid on an object whose abstract state is "a result has been taken: `fin`" -/
def ValidPolyOp (fin : Bool) : Op → Prop
  | .input _ => fin = false
  | .rawResult n => 16 ≤ n
  | .result => True
  | .reset => True

instance (fin : Bool) (op : Op) : Decidable (ValidPolyOp fin op) := by
  cases op <;> unfold ValidPolyOp <;> infer_instance

/-- one call on a reachable Poly1305 object (`Sim`: `new key` and every successor, Props/C09): outside `ValidPolyOp`
    it is refused by the failed `assert!` (not an index or arithmetic panic, nothing has been written), inside it
    succeeds and the successor is reachable -/
theorem poly_call (key : Bytes) (st : State) (a : Abs) (op : Op) (h : Sim key st a) :
    (¬ ValidPolyOp a.fin op ∧ stepOp .repaired st op = .error .assertion) ∨
    (ValidPolyOp a.fin op ∧ ∃ st' out a', stepOp .repaired st op = .ok (st', out) ∧ Sim key st' a') := by
  have s := step_sim key st a op h
  cases op with
  | input d =>
    cases hf : a.fin with
    | true => exact .inl ⟨by simp [ValidPolyOp], by simpa [absStep, hf] using s⟩
    | false =>
      obtain ⟨st', e, hs⟩ : ∃ st', _ := by simpa [absStep, hf] using s
      exact .inr ⟨rfl, st', _, _, e, hs⟩
  | result =>
    obtain ⟨st', e, hs⟩ := s
    exact .inr ⟨trivial, st', _, _, e, hs⟩
  | rawResult n =>
    by_cases hn : n < 16
    · exact .inl ⟨by simp [ValidPolyOp, hn], by simpa [absStep, hn] using s⟩
    · obtain ⟨st', e, hs⟩ : ∃ st', _ := by simpa [absStep, hn] using s
      exact .inr ⟨by simpa [ValidPolyOp] using hn, st', _, _, e, hs⟩
  | reset =>
    obtain ⟨st', e, hs⟩ := s
    exact .inr ⟨trivial, st', _, _, e, hs⟩

end poly

section obj
open Cx.Impl.Digest Cx.Proofs.MacObj Cx.Spec.MacObj

inductive Call where
  | input (b : Bytes)
  | result
  | rawResult (n : Nat)
  | reset
  | resetWithKey (k : Bytes)

/-- run one call; `none` = the code panics; the second component is the emitted value, if any -/
def runCall {σ : Type} (F : ObjFam σ) (s : σ) : Call → Option (σ × Option Bytes)
  | .input b => (F.input s b).map fun s' => (s', none)
  | .result => (F.result s).map fun r => (r.1, some r.2)
  | .rawResult n => (F.raw_result s n).map fun r => (r.1, some r.2)
  | .reset => (F.reset s).map fun s' => (s', none)
  | .resetWithKey k => (F.reset_with_key s k).map fun s' => (s', none)

/-- the calls the implementations accept on an object that reports `outLen` bytes and whose abstract state is
    `finished` (a result has been taken since the last reset); `keyOk` = the admissible keys of `reset_with_key`
    (`fun _ => False`: the type has no such method) -/
def ValidCall (outLen : Nat) (keyOk : Bytes → Prop) (finished : Bool) : Call → Prop
  | .input _ => finished = false
  | .result => finished = false
  | .rawResult n => finished = false ∧ n = outLen
  | .reset => True
  | .resetWithKey k => keyOk k

theorem option_map_eq_none {α β : Type} (o : Option α) (f : α → β) : o.map f = none ↔ o = none := by
  cases o <;> simp

/-- `keyOk`: the keys `reset_with_key` admits, in whatever words the object's documentation has them -/
theorem abs_refused_iff (sizes : List Nat) {fk : Bytes → Option Fn} {keyOk : Bytes → Prop}
    (hk : ∀ k, keyOk k ↔ (fk k).isSome = true) (a : Abs) (c : Call) :
    runCall (absFam sizes fk) a c = none ↔ ¬ ValidCall a.outLen keyOk a.finished c := by
  cases c <;> simp [runCall, absFam, ValidCall, Spec.MacObj.input, Spec.MacObj.result, Spec.MacObj.resultN, hk]

theorem abs_value {sizes : List Nat} {fk : Bytes → Option Fn} {a a' : Abs} {c : Call} {v : Bytes}
    (e : runCall (absFam sizes fk) a c = some (a', some v)) : v = a.f a.data ∧ a.finished = false := by
  cases c <;> simp only [runCall, absFam, Option.map_eq_some_iff, Prod.mk.injEq, Option.some.injEq, reduceCtorEq,
    and_false, exists_false] at e
  all_goals
    obtain ⟨r, e, _, rfl⟩ := e
    exact resultN_some e

section contract
variable {σ : Type} {F : ObjFam σ} {outLen : Nat} {sizes : List Nat} {fk : Bytes → Option Fn}
  {ok : Fn → Bytes → Prop} {Rel : σ → Fn → Bytes → Prop} {Fin : σ → Fn → Prop}
  (h : Contract F outLen sizes fk ok Rel Fin) (s : σ) (a : Abs) (hS : MacObj.Sim outLen Rel Fin s a)
  (hok : a.finished = false → ok a.f a.data)
include h hS hok

/-- **one call on a contract-satisfying object is the same call on the abstract object**: both refuse, or both succeed
    with the same emitted value and related successors (`hok`: the bytes since the last reset are inside the domain of
    the underlying hash — the only other way to fail) -/
theorem call_sim (c : Call) : OptSim (fun p q => p.2 = q.2 ∧ MacObj.Sim outLen Rel Fin p.1 q.1)
    (runCall F s c) (runCall (absFam sizes fk) a c) := by
  cases c with
  | input b => exact (h.sim_input hS b).map fun _ _ hS' => ⟨rfl, hS'⟩
  | result => exact (h.sim_result hS hok).map fun _ _ hS' => ⟨congrArg some hS'.1, hS'.2⟩
  | rawResult n => exact (h.sim_raw hS hok n).map fun _ _ hS' => ⟨congrArg some hS'.1, hS'.2⟩
  | reset =>
    show OptSim _ ((F.reset s).map _) ((some (Spec.MacObj.reset a)).map fun a' => (a', none))
    exact (h.sim_reset hS).map fun _ _ hS' => ⟨rfl, hS'⟩
  | resetWithKey k =>
    show OptSim _ ((F.reset_with_key s k).map _) (((fk k).map (Spec.MacObj.rekey a)).map fun a' => (a', none))
    exact (h.sim_rekey hS k).map fun _ _ hS' => ⟨rfl, hS'⟩

/-- **the matrix of every contract-satisfying object**: a call panics iff it is outside `ValidCall`; a value is only
    ever returned by `result` / `raw_result`, and it is `f(bytes since the last reset)` of the full length `outLen`,
    never a truncated or padded one; the successor is again related to an abstract object, so the same holds along
    EVERY history, not only for the first call -/
theorem obj_matrix {keyOk : Bytes → Prop} (hk : ∀ k, keyOk k ↔ (fk k).isSome = true) (c : Call) :
    (runCall F s c = none ↔ ¬ ValidCall outLen keyOk a.finished c) ∧
    (∀ s' v, runCall F s c = some (s', some v) → v = a.f a.data ∧ v.length = outLen) ∧
    (∀ s' out, runCall F s c = some (s', out) → ∃ a', MacObj.Sim outLen Rel Fin s' a') := by
  have hc := call_sim h s a hS hok c
  refine ⟨hS.1 ▸ hc.none_iff.trans (abs_refused_iff sizes hk a c), fun s' v hr => ?_, fun s' out hr => ?_⟩
  · obtain ⟨⟨a', _⟩, e, rfl, _⟩ := hc.of_some hr
    obtain ⟨rfl, hf⟩ := abs_value e
    exact ⟨rfl, h.len s a.f a.data (hS.rel hf) (hok hf)⟩
  · obtain ⟨q, _, _, hS'⟩ := hc.of_some hr
    exact ⟨q.1, hS'⟩

end contract

theorem obj_valid_ok {σ : Type} {F : ObjFam σ} {outLen : Nat} {sizes : List Nat} {fk : Bytes → Option Fn}
    {ok : Fn → Bytes → Prop} {Rel : σ → Fn → Bytes → Prop} {Fin : σ → Fn → Prop}
    (h : Contract F outLen sizes fk ok Rel Fin) (s : σ) (a : Abs) (hS : MacObj.Sim outLen Rel Fin s a)
    (hok : a.finished = false → ok a.f a.data) (c : Call)
    (hv : ValidCall outLen (fun k => (fk k).isSome = true) a.finished c) : ∃ r, runCall F s c = some r :=
  Option.ne_none_iff_exists'.mp fun e => (obj_matrix h s a hS hok (fun _ => Iff.rfl) c).1.mp e hv

end obj

section inst
open Cx.Impl.Digest Cx.Proofs.MacObj Cx.Proofs.MacLegacy Cx.Spec.MacObj

theorem legacy_refused_iff {γ : Type} (M : CtxModel γ) (H : Fn) (R : γ → Bytes → Prop) (ok : Bytes → Prop)
    (hc : CtxContract M H R ok) (s : Legacy γ) (a : Abs) (hS : MacObj.Sim (outBytes M) (RelL H R) (FinL H R) s a)
    (hok : a.finished = false → ok a.data) (c : Call) :
    runCall (digestFam (legacyDigest M)) s c = none ↔ ¬ ValidCall (outBytes M) (fun _ => False) a.finished c :=
  (obj_matrix (legacy_contract M H R hc) s a hS hok (fun _ => by simp) c).1

end inst

section blake2
open Cx.Proofs.Blake2
open Cx.Spec.Blake2 (Word Params)
variable {W : Type} [Word W]

/-- `Blake2x::new_keyed(outlen, key)`: `assert!(key.len() <= keyAssert)` of the wrapper, then the asserts of
    `ContextDyn::new_keyed` -/
theorem blake2_new_keyed_none_iff (P : Params W) (keyAssert nn : Nat) (key : Bytes) :
    Impl.Digest.Blake2.new_keyed P keyAssert nn key = none ↔
      ¬ (0 < nn ∧ nn ≤ P.maxOut ∧ key.length ≤ P.maxKey ∧ key.length ≤ keyAssert) := by
  unfold Impl.Digest.Blake2.new_keyed
  rw [contextDyn_new_keyed_eq, new_keyed_ite]
  by_cases h1 : key.length ≤ keyAssert <;> by_cases h2 : 0 < nn ∧ nn ≤ P.maxOut ∧ key.length ≤ P.maxKey <;> simp [h1, h2]

theorem blake2_new_none_iff (P : Params W) (nn : Nat) :
    Impl.Digest.Blake2.new P nn = none ↔ ¬ (0 < nn ∧ nn ≤ P.maxOut) := by
  unfold Impl.Digest.Blake2.new
  rw [contextDyn_new_eq, contextDyn_new_keyed_eq, new_keyed_ite]
  by_cases h : 0 < nn ∧ nn ≤ P.maxOut <;> simp [h]

end blake2

end Cx.Proofs.Refusal
