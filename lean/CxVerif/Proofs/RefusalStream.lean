/-
  Proofs.RefusalStream — C20 refusal matrix, stream ciphers (src/chacha20.rs, src/salsa20.rs, src/drg/chacha.rs):
  the documented domains and the guard chains of the constructors (the decision theorems `*_refused_iff`,
  `*_panic_iff` are in Props/C20/Refusal.lean).

  Documented domains (quoted):
    chacha20.rs  ChaCha::new          "* The key must be 16 or 32 bytes  * The nonce must be 12 bytes", `nonce: &[u8; 12]`
                 struct doc           "only the value of 8, 12 and 20 are supported. any other values triggers a runtime assertion."
                 ChaChaOriginal::new  "* The key must be 16 or 32 bytes  * The nonce must be 8 bytes", `nonce: &[u8; 8]`
                 XChaCha::new         "Key must be 32 bytes and the nonce 24 bytes." `key: &[u8; 32], nonce: &[u8; 24]`
                 process              "the output need to be the same size as the input otherwise this function will panic."
    salsa20.rs   Salsa::new           "* The key must be 16 or 32 bytes  * The nonce must be 8 bytes", `nonce: &[u8; 8]`
                 XSalsa::new          "Key must be 32 bytes and the nonce 24 bytes."
    drg/chacha.rs Drg                 "only the value 8, 12 and 20 are valid", `seed: &[u8; 32]`
  A length fixed by an array type cannot be passed at all (the model answers "bad-args" there: not a run-time
  behaviour); every other violation is the run-time `assert!` = "PANIC".
-/
import CxVerif.Proofs.StreamSalsa
import CxVerif.Impl.Drg
namespace Cx.Proofs.Refusal

/-- "only the value of 8, 12 and 20 are supported" (the text of `Spec.ChaCha.validRounds`, under the name the C20 statements use) -/
def ValidRounds (R : Nat) : Prop := R = 8 ∨ R = 12 ∨ R = 20
/-- "The key must be 16 or 32 bytes" (the text of `Spec.ChaCha.validKey`) -/
def ValidKey1632 (key : Bytes) : Prop := key.length = 16 ∨ key.length = 32

/-- `ChaCha::<R>::new(key: &[u8], nonce: &[u8; 12])` -/
def ValidChaChaNew (R : Nat) (key nonce : Bytes) : Prop := ValidKey1632 key ∧ nonce.length = 12 ∧ ValidRounds R
/-- `ChaChaOriginal::<R>::new(key: &[u8], nonce: &[u8; 8])`, `Salsa::<R>::new(key: &[u8], nonce: &[u8; 8])` -/
def ValidNew8 (R : Nat) (key nonce : Bytes) : Prop := ValidKey1632 key ∧ nonce.length = 8 ∧ ValidRounds R
/-- `XChaCha::<R>::new(key: &[u8; 32], nonce: &[u8; 24])`, `XSalsa::<R>::new(…)` -/
def ValidNewX (R : Nat) (key nonce : Bytes) : Prop := key.length = 32 ∧ nonce.length = 24 ∧ ValidRounds R
/-- `Drg::<R>::new(seed: &[u8; 32])` -/
def ValidDrgNew (R : Nat) (seed : Bytes) : Prop := seed.length = 32 ∧ ValidRounds R

instance (R : Nat) : Decidable (ValidRounds R) := by unfold ValidRounds; infer_instance
instance (k : Bytes) : Decidable (ValidKey1632 k) := by unfold ValidKey1632; infer_instance
instance (R : Nat) (k n : Bytes) : Decidable (ValidChaChaNew R k n) := by unfold ValidChaChaNew; infer_instance
instance (R : Nat) (k n : Bytes) : Decidable (ValidNew8 R k n) := by unfold ValidNew8; infer_instance
instance (R : Nat) (k n : Bytes) : Decidable (ValidNewX R k n) := by unfold ValidNewX; infer_instance
instance (R : Nat) (s : Bytes) : Decidable (ValidDrgNew R s) := by unfold ValidDrgNew; infer_instance

def Refused {α : Type} (x : Except String α) : Prop := ∃ e, x = .error e

theorem refused_ok {α : Type} (a : α) : ¬ Refused (Except.ok a : Except String α) := by
  rintro ⟨e, h⟩; cases h
theorem refused_error {α : Type} (e : String) : Refused (Except.error e : Except String α) := ⟨e, rfl⟩

/-- the shape of every decision theorem of Props/C20/Refusal.lean: accepted on the domain `V`, refused outside it -/
theorem refused_iff_not_valid {α : Type} {x : Except String α} {V : Prop} (hok : V → ∃ c, x = .ok c)
    (hbad : ¬ V → Refused x) : Refused x ↔ ¬ V :=
  ⟨fun ⟨_, he⟩ hv => (by obtain ⟨c, hc⟩ := hok hv; rw [hc] at he; cases he), hbad⟩

theorem panic_iff_not_valid {α : Type} {x : Except String α} {V : Prop} (hok : V → ∃ c, x = .ok c)
    (hbad : ¬ V → x = .error "PANIC") : x = .error "PANIC" ↔ ¬ V :=
  ⟨fun he hv => (by obtain ⟨c, hc⟩ := hok hv; rw [hc] at he; cases he), hbad⟩

theorem valid_of_ok {α : Type} {x : Except String α} {V : Prop} {c : α} (hbad : ¬ V → Refused x) (h : x = .ok c) : V :=
  Classical.byContradiction fun hv => by obtain ⟨e, he⟩ := hbad hv; rw [he] at h; cases h

/-! ### the two guard chains of the constructors (`n`/`N`: nonce length found/required, `r`: the Boolean round check,
    `Vr`: the proposition it decides, `k`: what the constructor does after its guards) -/
section guards
variable {α : Type} {n N : Nat} {key : Bytes} {r : Bool} {Vr : Prop} (k : Except String α)

/-- `new(key: &[u8], nonce: &[u8; N])` of ChaCha, ChaChaOriginal, Salsa -/
theorem guards_refused (hr : r = true ↔ Vr) (hv : ¬ (ValidKey1632 key ∧ n = N ∧ Vr)) :
    Refused (if n ≠ N then .error "bad-args" else if ¬ (key.length = 16 ∨ key.length = 32) then .error "PANIC"
      else if ¬ r then .error "PANIC" else k) := by
  by_cases h1 : n = N
  · by_cases h2 : key.length = 16 ∨ key.length = 32
    · rw [if_neg (not_not_intro h1), if_neg (not_not_intro h2), if_pos fun h3 => hv ⟨h2, h1, hr.1 h3⟩]
      exact refused_error _
    · rw [if_neg (not_not_intro h1), if_pos h2]; exact refused_error _
  · rw [if_pos h1]; exact refused_error _

/-- … with the nonce length granted by the type, what is left is the run-time panic -/
theorem guards_panic (hr : r = true ↔ Vr) (hn : n = N) (hv : ¬ (ValidKey1632 key ∧ Vr)) :
    (if n ≠ N then .error "bad-args" else if ¬ (key.length = 16 ∨ key.length = 32) then .error "PANIC"
      else if ¬ r then .error "PANIC" else k) = .error "PANIC" := by
  rw [if_neg (not_not_intro hn)]
  by_cases h2 : key.length = 16 ∨ key.length = 32
  · rw [if_neg (not_not_intro h2), if_pos fun h3 => hv ⟨h2, hr.1 h3⟩]
  · rw [if_pos h2]

/-- `new(key: &[u8; 32], nonce: &[u8; 24])` of XChaCha, XSalsa -/
theorem guardsX_refused {m : Nat} (hr : r = true ↔ Vr) (hv : ¬ (m = 32 ∧ n = 24 ∧ Vr)) :
    Refused (if m ≠ 32 ∨ n ≠ 24 then .error "bad-args" else if ¬ r then .error "PANIC" else k) := by
  by_cases h1 : m ≠ 32 ∨ n ≠ 24
  · rw [if_pos h1]; exact refused_error _
  · rw [if_neg h1, if_pos fun h3 => hv ⟨by omega, by omega, hr.1 h3⟩]; exact refused_error _

theorem guardsX_panic {m : Nat} (hr : r = true ↔ Vr) (hk : m = 32) (hn : n = 24) (hv : ¬ Vr) :
    (if m ≠ 32 ∨ n ≠ 24 then .error "bad-args" else if ¬ r then .error "PANIC" else k) = .error "PANIC" := by
  rw [if_neg (by omega), if_pos fun h3 => hv (hr.1 h3)]

end guards

end Cx.Proofs.Refusal
