/-
  Proofs.Ripemd160 — the 160-line `process_block!` schedule of ripemd160.rs, interpreted by `Impl.Ripemd160`,
  equals the two-line description of the RIPEMD-160 paper (`Spec.Ripemd160.compress`) for every chaining value and
  block; table theorems for everything extracted from the macro invocation and body.

  Line j of the code (kernel-decided, complete tables) is
         registers  (4j, 4j+1, 4j+2, 4j+3, 4j+4) mod 5   — the rotating roles of `h_ordering`
         data_index r(j) resp. r'(j), roll_shift s(j) resp. s'(j), constant K(j) resp. K'(j),
         boolean function number j/16 resp. 4 − j/16
  and one `round!` on the array, seen through the rotating roles, is one step of the paper.
-/
import CxVerif.Impl.Ripemd160
namespace Cx.Proofs.Ripemd160
open Cx.Impl.Ripemd160 Cx.Spec.Ripemd160

/-- register that plays role `i` (0 = A … 4 = E) when `m` steps (mod 5) have been done -/
def reg (m i : Nat) : Nat := (4 * m + i) % 5

def specLineL (j : Nat) : Line :=
  ⟨reg (j % 5) 0, reg (j % 5) 1, reg (j % 5) 2, reg (j % 5) 3, reg (j % 5) 4, r j, s j, (K j).toNat, j / 16⟩
def specLineR (j : Nat) : Line :=
  ⟨reg (j % 5) 0, reg (j % 5) 1, reg (j % 5) 2, reg (j % 5) 3, reg (j % 5) 4, r' j, s' j, (K' j).toNat, 4 - j / 16⟩

theorem left_lines_eq : leftLines = some ((List.range 80).map specLineL) := by decide +kernel
theorem right_lines_eq : rightLines = some ((List.range 80).map specLineR) := by decide +kernel

/-- every register index is < 5 and every data index < 16 (so no `get`/`getD` default is ever taken) -/
theorem schedule_wellformed :
    ∀ l ∈ (List.range 80).map specLineL ++ (List.range 80).map specLineR,
      l.o0 < 5 ∧ l.o1 < 5 ∧ l.o2 < 5 ∧ l.o3 < 5 ∧ l.o4 < 5 ∧ l.data_index < 16 ∧ l.roll_shift < 32 ∧
      l.add < 2 ^ 32 ∧ l.fn < 5 := by decide +kernel

/-- the flat tables of the paper's appendix (and of every reference implementation) -/
def appendix_r : List Nat :=
  [0, 1, 2, 3, 4, 5, 6, 7, 8, 9, 10, 11, 12, 13, 14, 15,
   7, 4, 13, 1, 10, 6, 15, 3, 12, 0, 9, 5, 2, 14, 11, 8,
   3, 10, 14, 4, 9, 15, 8, 1, 2, 7, 0, 6, 13, 11, 5, 12,
   1, 9, 11, 10, 0, 8, 12, 4, 13, 3, 7, 15, 14, 5, 6, 2,
   4, 0, 5, 9, 7, 12, 2, 10, 14, 1, 3, 8, 11, 6, 15, 13]
def appendix_r' : List Nat :=
  [5, 14, 7, 0, 9, 2, 11, 4, 13, 6, 15, 8, 1, 10, 3, 12,
   6, 11, 3, 7, 0, 13, 5, 10, 14, 15, 8, 12, 4, 9, 1, 2,
   15, 5, 1, 3, 7, 14, 6, 9, 11, 8, 12, 2, 10, 0, 4, 13,
   8, 6, 4, 1, 3, 11, 15, 0, 5, 12, 2, 13, 9, 7, 10, 14,
   12, 15, 10, 4, 1, 5, 8, 7, 6, 2, 13, 14, 0, 3, 9, 11]
def appendix_s : List Nat :=
  [11, 14, 15, 12, 5, 8, 7, 9, 11, 13, 14, 15, 6, 7, 9, 8,
   7, 6, 8, 13, 11, 9, 7, 15, 7, 12, 15, 9, 11, 7, 13, 12,
   11, 13, 6, 7, 14, 9, 13, 15, 14, 8, 13, 6, 5, 12, 7, 5,
   11, 12, 14, 15, 14, 15, 9, 8, 9, 14, 5, 6, 8, 6, 5, 12,
   9, 15, 5, 11, 6, 8, 13, 12, 5, 12, 13, 14, 11, 8, 5, 6]
def appendix_s' : List Nat :=
  [8, 9, 9, 11, 13, 15, 15, 5, 7, 7, 8, 11, 14, 14, 12, 6,
   9, 13, 15, 7, 12, 8, 9, 11, 7, 7, 12, 7, 6, 15, 13, 11,
   9, 7, 15, 11, 8, 6, 6, 14, 12, 13, 5, 14, 13, 13, 7, 5,
   15, 5, 8, 11, 14, 14, 6, 14, 6, 9, 12, 9, 12, 5, 15, 8,
   8, 5, 12, 9, 12, 5, 14, 6, 8, 13, 6, 5, 15, 13, 11, 11]

/-- the tables derived from ρ, π and the shift-by-word table are the appendix listings -/
theorem tables_eq_appendix :
    (List.range 80).map r = appendix_r ∧ (List.range 80).map r' = appendix_r' ∧
    (List.range 80).map s = appendix_s ∧ (List.range 80).map s' = appendix_s' := by decide +kernel

theorem rho_perm : ∀ i < 16, ∃ j < 16, rho.getD j 0 = i := by decide

/-- left constants are ⌊2^30·√n⌋ for n = 2, 3, 5, 7 (and 0 in round 1) -/
theorem K_sqrt :
    K 0 = 0 ∧
    (∀ c, c = (K 16).toNat → c ^ 2 ≤ 2 * 2 ^ 60 ∧ 2 * 2 ^ 60 < (c + 1) ^ 2) ∧
    (∀ c, c = (K 32).toNat → c ^ 2 ≤ 3 * 2 ^ 60 ∧ 3 * 2 ^ 60 < (c + 1) ^ 2) ∧
    (∀ c, c = (K 48).toNat → c ^ 2 ≤ 5 * 2 ^ 60 ∧ 5 * 2 ^ 60 < (c + 1) ^ 2) ∧
    (∀ c, c = (K 64).toNat → c ^ 2 ≤ 7 * 2 ^ 60 ∧ 7 * 2 ^ 60 < (c + 1) ^ 2) := by
  refine ⟨by decide, ?_, ?_, ?_, ?_⟩ <;> (intro c hc; subst hc; decide)

/-- right constants are ⌊2^30·∛n⌋ for n = 2, 3, 5, 7 (and 0 in round 5) -/
theorem K'_cbrt :
    (∀ c, c = (K' 0).toNat → c ^ 3 ≤ 2 * 2 ^ 90 ∧ 2 * 2 ^ 90 < (c + 1) ^ 3) ∧
    (∀ c, c = (K' 16).toNat → c ^ 3 ≤ 3 * 2 ^ 90 ∧ 3 * 2 ^ 90 < (c + 1) ^ 3) ∧
    (∀ c, c = (K' 32).toNat → c ^ 3 ≤ 5 * 2 ^ 90 ∧ 5 * 2 ^ 90 < (c + 1) ^ 3) ∧
    (∀ c, c = (K' 48).toNat → c ^ 3 ≤ 7 * 2 ^ 90 ∧ 7 * 2 ^ 90 < (c + 1) ^ 3) ∧
    K' 64 = 0 := by
  refine ⟨?_, ?_, ?_, ?_, by decide⟩ <;> (intro c hc; subst hc; decide)

theorem H_eq : Impl.Ripemd160.H = Spec.Ripemd160.H0 := by decide

/-- the array seen through the rotating roles after `m` (mod 5) steps -/
def view (m : Nat) (bb : Hash) : Hash :=
  ⟨get bb (reg m 0), get bb (reg m 1), get bb (reg m 2), get bb (reg m 3), get bb (reg m 4)⟩

theorem view_zero (bb : Hash) : view 0 bb = bb := rfl

theorem step_view (m : Nat) (hm : m < 5) (bb : Hash) (idx sh k fn : Nat) (data : List UInt32) :
    view ((m + 1) % 5) (round bb ⟨reg m 0, reg m 1, reg m 2, reg m 3, reg m 4, idx, sh, k, fn⟩ data)
      = step (fnEval fn) (data.getD idx 0) (UInt32.ofNat k) sh (view m bb) := by
  have : m = 0 ∨ m = 1 ∨ m = 2 ∨ m = 3 ∨ m = 4 := by omega
  rcases this with h | h | h | h | h <;> subst h <;> rfl

/-- every `j`: beyond 80 both sides stay in their last case -/
theorem f_fn (j : Nat) : f j = fnEval (j / 16) := by
  funext x y z
  unfold f
  split
  · rw [show j / 16 = 0 by omega]; rfl
  split
  · rw [show j / 16 = 1 by omega]; rfl
  split
  · rw [show j / 16 = 2 by omega]; rfl
  split
  · rw [show j / 16 = 3 by omega]; rfl
  · obtain ⟨n, hn⟩ : ∃ n, j / 16 = n + 4 := ⟨j / 16 - 4, by omega⟩
    rw [hn]; rfl

theorem line_step (M : List UInt32) (j : Nat) (bb : Hash) (idx sh : Nat) (k : UInt32) (fn : Nat) :
    view ((j + 1) % 5) (round bb ⟨reg (j % 5) 0, reg (j % 5) 1, reg (j % 5) 2, reg (j % 5) 3, reg (j % 5) 4, idx, sh,
        k.toNat, fn⟩ M) = step (fnEval fn) (M.getD idx 0) k sh (view (j % 5) bb) := by
  have h := step_view (j % 5) (Nat.mod_lt _ (by decide)) bb idx sh k.toNat fn M
  rwa [Nat.add_mod, Nat.mod_mod, ← Nat.add_mod, UInt32.ofNat_toNat] at h

-- the bound is not used here: `left_step` takes it so as to have the shape of `right_step` (both are the `hstep` of `line_fold`)
theorem left_step (M : List UInt32) (j : Nat) (_ : j < 80) (bb : Hash) :
    view ((j + 1) % 5) (round bb (specLineL j) M) = leftStep M (view (j % 5) bb) j := by
  rw [specLineL, line_step, ← f_fn j]
  rfl

theorem right_step (M : List UInt32) (j : Nat) (hj : j < 80) (bb : Hash) :
    view ((j + 1) % 5) (round bb (specLineR j) M) = rightStep M (view (j % 5) bb) j := by
  rw [specLineR, line_step, show 4 - j / 16 = (79 - j) / 16 by omega, ← f_fn]
  rfl

theorem line_fold (M : List UInt32) (specLine : Nat → Line) (stp : Hash → Nat → Hash)
    (hstep : ∀ j, j < 80 → ∀ bb, view ((j + 1) % 5) (round bb (specLine j) M) = stp (view (j % 5) bb) j)
    (n : Nat) : ∀ (j0 : Nat) (bb : Hash), j0 + n ≤ 80 →
      view ((j0 + n) % 5) (((List.range' j0 n).map specLine).foldl (fun bb l => round bb l M) bb)
        = (List.range' j0 n).foldl stp (view (j0 % 5) bb) := by
  induction n with
  | zero => intro j0 bb _; rfl
  | succ n ih =>
    intro j0 bb h
    simp only [List.range'_succ, List.map_cons, List.foldl_cons]
    have := ih (j0 + 1) (round bb (specLine j0) M) (by omega)
    rw [show j0 + 1 + n = j0 + (n + 1) by omega] at this
    rw [this, hstep j0 (by omega)]

theorem left_line_eq (M : List UInt32) (h : Hash) :
    ((List.range 80).map specLineL).foldl (fun bb l => round bb l M) h = leftLine M h := by
  have := line_fold M specLineL (leftStep M) (left_step M) 80 0 h (Nat.le_refl _)
  rw [show (0 + 80) % 5 = 0 from rfl, view_zero, view_zero] at this
  rw [List.range_eq_range', this]
  rfl

theorem right_line_eq (M : List UInt32) (h : Hash) :
    ((List.range 80).map specLineR).foldl (fun bb l => round bb l M) h = rightLine M h := by
  have := line_fold M specLineR (rightStep M) (right_step M) 80 0 h (Nat.le_refl _)
  rw [show (0 + 80) % 5 = 0 from rfl, view_zero, view_zero] at this
  rw [List.range_eq_range', this]
  rfl

/-- **the macro-generated 160-step schedule = the paper's two lines and combination**, for every chaining value
    and every block (both sides read word `i` of `M` with the same accessor; blocks have 16 words) -/
theorem process_block_eq_compress (h : Hash) (M : List UInt32) :
    process_block h M = some (compress h M) := by
  unfold process_block
  rw [left_lines_eq, right_lines_eq]
  simp only [left_line_eq, right_line_eq, compress, combine, Impl.Ripemd160.get, Option.some.injEq, Hash.mk.injEq]
  ac_rfl

end Cx.Proofs.Ripemd160
