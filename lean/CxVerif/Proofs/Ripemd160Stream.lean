/-
  Proofs.Ripemd160Stream — the RIPEMD-160 context of ripemd160.rs refines "bytes since the last reset":
  `eng` presents it as an instance of `Md.Eng` (Proofs/MdRefine.lean) with N = 64, rem = 8, the length written as two
  little-endian 32-bit words `(pb << 3) as u32`, `(pb >> 29) as u32` (= the 64-bit LE bit length for
  len < 2^61), compression = `process_msg_block` (= the paper's compression by
  `Proofs.Ripemd160.process_block_eq_compress`).
-/
import CxVerif.Proofs.Ripemd160
import CxVerif.Proofs.BlockLoop
import CxVerif.Proofs.MdRefine
import CxVerif.Proofs.HashProg
namespace Cx.Proofs.Ripemd160Stream
open Cx.Impl Cx.Impl.Ripemd160 Cx.Proofs.FB
open Cx.Spec.Ripemd160 (Hash compressBytes H0)
open Cx.Proofs.HashProg (Refines)

/-- the closure of `standard_padding` and the final call -/
def blockFn (h : Hash) (d : Bytes) : Option Hash := process_msg_block d h
/-- the closure of `update_mut` -/
def blocksFn (h : Hash) (d : Bytes) : Option Hash := process_msg_blocks d h

theorem blockFn_spec : FuncOneBlock 64 blockFn compressBytes := by
  intro s d hd
  unfold blockFn process_msg_block compressBytes
  rw [if_pos hd, Cx.Proofs.Ripemd160.process_block_eq_compress]

theorem blocksFn_spec : FuncIsBlocks 64 blocksFn compressBytes :=
  chunksLoop_spec (by decide) process_msg_blocks_go blockFn compressBytes blockFn_spec (fun _ => rfl)
    (fun s b bs s' h => by simp only [process_msg_blocks_go, show process_msg_block b s = some s' from h])

def Abs (c : Context) (msg : Bytes) : Prop :=
  c.processed_bytes.toNat = msg.length % 2 ^ 64 ∧ WF 64 c.buffer ∧ c.buffer.data = blockTail 64 msg
  ∧ c.h = (fullBlocks 64 msg).foldl compressBytes H0

/-- `write_u32_le(.., (pb << 3) as u32)` and `write_u32_le(.., (pb >> 29) as u32)` -/
theorem len_lo_eq (pb : UInt64) : write_u32_le (pb <<< 3).toUInt32 = (len_le64_split pb.toNat).1 := by
  unfold write_u32_le u32le len_le64_split
  congr 1
  rw [UInt64.toNat_toUInt32, UInt64.toNat_shiftLeft]
  simp [Nat.shiftLeft_eq]
theorem len_hi_eq (pb : UInt64) : write_u32_le (pb >>> 29).toUInt32 = (len_le64_split pb.toNat).2 := by
  unfold write_u32_le u32le len_le64_split
  congr 1
  rw [UInt64.toNat_toUInt32, UInt64.toNat_shiftRight]
  simp [Nat.shiftRight_eq_div_pow]

theorem next_write_twice_some {I : Nat} {lo hi : Bytes} {b b2 : FixedBuffer} (h : next_write_twice I lo hi b = some b2) :
    ∃ b1, b.next_write I lo = some b1 ∧ b1.next_write I hi = some b2 := by
  unfold next_write_twice at h
  cases h1 : b.next_write I lo with
  | none => rw [h1] at h; cases h
  | some b1 => rw [h1] at h; exact ⟨b1, rfl, h⟩

/-- `ripemd160::Context` as a Merkle–Damgård engine: the length field is two `next::<4>()` words, and the finish is
    `finalize_reset` itself, which returns the context already reset
    (reducible, so that `abs_iff`-style `simp only` and the `show`s on its methods see through the fields: see `Md.Eng`) -/
@[reducible] def eng : Md.Eng Context Hash (Context × Bytes) where
  N := 64
  rem := 8
  M := 2 ^ 64
  compress := compressBytes
  func := blocksFn
  funcFin := blockFn
  lenBytes n := (len_le64_split n).1 ++ (len_le64_split n).2
  wr n := next_write_twice 4 (len_le64_split n).1 (len_le64_split n).2
  lenEnc := Spec.MD.le64
  buf := (·.buffer)
  st := (·.h)
  cnt c := c.processed_bytes.toNat
  live _ := True
  input := Context.update_mut
  fin := Context.finalize_reset
  pack c b s := ((Context.mk s c.processed_bytes b).reset, s.toBytes)
  hN := by decide
  hrem := by decide
  hf := blocksFn_spec
  hf1 := blockFn_spec
  hlb n := by simp [len_le64_split, Bytes.natToLE_length]
  hwr n := next_write_twice_WritesLen 64 4 _ _ (Bytes.natToLE_length _ _) (Bytes.natToLE_length _ _)
  hlenc := len_le64_split_low
  input_ok c inp b' s' _ h := by
    simp only [Context.update_mut, show (fun h d => process_msg_blocks d h) = blocksFn from rfl, h]
    exact ⟨_, rfl, rfl, rfl, by simp only [UInt64.toNat_add, UInt64.toNat_ofNat']; omega, trivial⟩
  fin_ok c _ _ _ _ _ _ _ h1 h2 h3 h4 := by
    obtain ⟨b1', h2a, h2b⟩ := next_write_twice_some h2
    rw [← len_lo_eq] at h2a
    rw [← len_hi_eq] at h2b
    unfold blockFn at h1 h4
    simp only [Context.finalize_reset, h1, h2a, h2b, h3, h4]
    rfl

theorem abs_iff (c : Context) (m : Bytes) : Abs c m ↔ Md.Abs eng H0 c m := by
  simp only [Abs, Md.Abs, and_true]

theorem abs_fresh {c : Context} (hc : c.processed_bytes.toNat = 0) (hl : c.buffer.buffer.length = 64)
    (hi : c.buffer.buffer_idx = 0) (hs : c.h = Impl.Ripemd160.H) : Md.Abs eng H0 c [] :=
  Md.Abs.fresh eng hc hl hi (hs.trans Cx.Proofs.Ripemd160.H_eq) trivial

theorem refines : Refines fam Cx.Spec.Ripemd160.ripemd160 Abs (fun m => m.length < 2 ^ 61) :=
  Refines.of_iff (R := Md.Abs eng H0) (hR := abs_iff)
  { new := abs_fresh rfl rfl rfl rfl
    update := fun c m b hR => hR.input eng b
    update_mut := fun c m b hR => hR.input eng b
    reset := fun c _ hR => abs_fresh rfl hR.2.1.1 rfl rfl
    finalize_reset := fun c m hR hok => by
      obtain ⟨b', he, hl, _⟩ := hR.fin eng hok
      exact ⟨_, he, abs_fresh rfl hl rfl rfl⟩
    finalize := fun c m hR hok => by
      obtain ⟨b', he, _⟩ := hR.fin eng hok
      simp only [fam, Context.finalize, show c.finalize_reset = _ from he]
      rfl }

/-- one-shot: `Ripemd160::new().update(msg).finalize()` -/
theorem oneShot_eq (msg : Bytes) (hlen : msg.length < 2 ^ 61) :
    Cx.Impl.Ripemd160.ripemd160 msg = some (Cx.Spec.Ripemd160.ripemd160 msg) := by
  obtain ⟨c, h1, h2⟩ := refines.oneShot msg hlen
  simp only [Cx.Impl.Ripemd160.ripemd160, show Context.new.update msg = some c from h1]
  exact h2

end Cx.Proofs.Ripemd160Stream
