/-
  Proofs.Scalar32Canon — the byte-wise constant-time comparison `check_s_lt_l` of scalar32.rs decides
  `le(s) ≥ le(l)` (it answers TRUE when `s` is NOT below `l`), for every pair of equal-length byte strings;
  hence `from_bytes_canonical` accepts exactly `le(s) < L`.
-/
import CxVerif.Impl.Scalar32
import CxVerif.Spec.ScalarL
namespace Cx.Proofs.Scalar32
open Cx Cx.Impl.Scalar32

/-- the loop state after the bytes `ps` (least significant pair first; the loop runs from the most significant) -/
def cmpState (ps : List (UInt8 × UInt8)) : Nat × Nat :=
  ps.foldr (fun p cn => checkStep cn p.1 p.2) (0, 1)

theorem reverse_zip_eq {α β} : ∀ (a : List α) (b : List β), a.length = b.length →
    a.reverse.zip b.reverse = (a.zip b).reverse
  | [], [], _ => rfl
  | [], y :: ys, h => by simp at h
  | x :: xs, [], h => by simp at h
  | x :: xs, y :: ys, h => by
    have hl : xs.length = ys.length := by simpa using h
    simp only [List.reverse_cons, List.zip_cons_cons]
    rw [List.zip_append (by simp [hl]), reverse_zip_eq xs ys hl]
    rfl

theorem check_with_eq (l : List UInt8) (s : Vector UInt8 32) (hl : l.length = 32) :
    check_with l s = ((cmpState (s.toList.zip l)).1 == 0) := by
  unfold check_with cmpState
  have hs : s.toList.length = l.length := by simp [hl]
  rw [reverse_zip_eq _ _ hs, List.foldl_reverse]

/-- the loop state that stands for the outcome of the comparison so far: `c = 1` once "below" is decided, `n = 1` while equal -/
def enc : Ordering → Nat × Nat
  | .lt => (1, 0)
  | .eq => (0, 1)
  | .gt => (0, 0)

/-- `((s − l) >> 8) as u8` is 0xff exactly when `s < l` -/
theorem lt_mask (a b : UInt8) :
    ((((a.toNat : Int) - (b.toNat : Int)) / 256) % 256).toNat = if a.toNat < b.toNat then 255 else 0 := by
  have ha := a.toNat_lt
  have hb := b.toNat_lt
  split <;> omega

/-- `(((s ^ l) − 1) >> 8) as u8` is 0xff exactly when `s = l` -/
theorem eq_mask (a b : UInt8) : (((((a ^^^ b).toNat : Int) - 1) / 256) % 256).toNat = if a = b then 255 else 0 := by
  have hxl := (a ^^^ b).toNat_lt
  split
  · next h => subst h; rw [show (a ^^^ a).toNat = 0 by simp]; decide
  · next h =>
    have : (a ^^^ b).toNat ≠ 0 := fun h0 => h (UInt8.xor_eq_zero_iff.mp (UInt8.toNat_inj.mp (by simpa using h0)))
    omega

theorem step_enc (o : Ordering) (a b : UInt8) : checkStep (enc o) a b = enc (o.then (compare a.toNat b.toNat)) := by
  unfold checkStep
  simp only [lt_mask, eq_mask]
  cases o with
  | lt => simp only [enc, Nat.and_zero, Nat.zero_and, Nat.or_zero]; rfl
  | gt => simp only [enc, Nat.and_zero, Nat.zero_and, Nat.or_zero]; rfl
  | eq =>
    rcases Nat.lt_trichotomy a.toNat b.toNat with h | h | h
    · rw [if_pos h, if_neg (fun e => by subst e; omega), Ordering.then, Nat.compare_eq_lt.2 h]; rfl
    · rw [if_neg (by omega), if_pos (UInt8.toNat_inj.mp h), Ordering.then, Nat.compare_eq_eq.2 h]; rfl
    · rw [if_neg (by omega), if_neg (fun e => by subst e; omega), Ordering.then, Nat.compare_eq_gt.2 h]; rfl

theorem compare_cons (a b S T : Nat) (ha : a < 256) (hb : b < 256) :
    compare (a + 256 * S) (b + 256 * T) = (compare S T).then (compare a b) := by
  rcases Nat.lt_trichotomy S T with h | h | h
  · rw [Nat.compare_eq_lt.2 h, Nat.compare_eq_lt.2 (by omega)]; rfl
  · subst h
    simp only [Nat.compare_eq_eq.2 rfl, Nat.compare_eq_ite_lt, Nat.add_lt_add_iff_right]; rfl
  · rw [Nat.compare_eq_gt.2 h, Nat.compare_eq_gt.2 (by omega)]; rfl

theorem cmpState_spec : ∀ (ps : List (UInt8 × UInt8)), cmpState ps = enc (compare (leNat (ps.map (·.1))) (leNat (ps.map (·.2))))
  | [] => rfl
  | (a, b) :: rest => by
    rw [show cmpState ((a, b) :: rest) = checkStep (cmpState rest) a b from rfl, cmpState_spec rest, step_enc]
    exact congrArg enc (compare_cons _ _ _ _ a.toNat_lt b.toNat_lt).symm

theorem check_with_spec (l : List UInt8) (s : Vector UInt8 32) (hl : l.length = 32) :
    check_with l s = decide (leNat l ≤ leNat s.toList) := by
  have hs : s.toList.length = l.length := by simp [hl]
  rw [check_with_eq l s hl, cmpState_spec, List.map_fst_zip (Nat.le_of_eq hs), List.map_snd_zip (Nat.le_of_eq hs.symm)]
  rcases Nat.lt_trichotomy (leNat s.toList) (leNat l) with h | h | h
  · rw [Nat.compare_eq_lt.2 h]; simp [enc]; omega
  · rw [Nat.compare_eq_eq.2 h]; simp [enc]; omega
  · rw [Nat.compare_eq_gt.2 h]; simp [enc]; omega

theorem L_length : L.length = 32 := by decide
theorem L_value : leNat L = Spec.ScalarL.L := by decide

theorem check_s_lt_l_spec (s : Vector UInt8 32) : check_s_lt_l s = decide (Spec.ScalarL.L ≤ leNat s.toList) := by
  unfold check_s_lt_l
  rw [check_with_spec L s L_length, L_value]

theorem from_bytes_canonical_spec (b : Vector UInt8 32) :
    from_bytes_canonical b = if Spec.ScalarL.decode b.toList < Spec.ScalarL.L then some (from_bytes b) else none := by
  unfold from_bytes_canonical Spec.ScalarL.decode
  rw [check_s_lt_l_spec]
  by_cases h : leNat b.toList < Spec.ScalarL.L
  · rw [if_pos h]; simp; omega
  · rw [if_neg h]; simp; omega

/-- the constant as /repo had it before commit d43d00b (defect g of DESIGN §12: the bytes of L in big-endian order): the same loop then decides
    `le(s) < le(reverse L)` — a different number -/
theorem old_constant_spec (b : Vector UInt8 32) :
    from_bytes_canonical_old b = if leNat b.toList < leNat L.reverse then some (from_bytes b) else none := by
  unfold from_bytes_canonical_old L_bigendian
  rw [check_with_spec L.reverse b (by rw [List.length_reverse]; exact L_length)]
  by_cases h : leNat b.toList < leNat L.reverse
  · rw [if_pos h]; simp; omega
  · rw [if_neg h]; simp; omega

theorem old_constant_value :
    leNat L.reverse = 0xedd3f55c1a631258d69cf7a2def9de1400000000000000000000000000000010 := by decide

end Cx.Proofs.Scalar32
