/-
  Proofs.Scalar32Digits — `Scalar::bits` and `Scalar::nibbles` of scalar32 (byte-array representation) are the 256
  binary / 64 radix-16 digits of the little-endian value, for every 32-byte scalar.
-/
import CxVerif.Impl.Scalar32
import CxVerif.Spec.ScalarL
import CxVerif.Proofs.Bits
namespace Cx.Proofs.Scalar32
open Cx Cx.Impl.Scalar32

theorem nib_lo (a : UInt8) : ((a >>> (0 : UInt8)) &&& (0b1111 : UInt8)).toNat = a.toNat % 16 := by
  rw [UInt8.toNat_and, UInt8.toNat_shiftRight]
  have : (0b1111 : UInt8).toNat = 2^4 - 1 := rfl
  rw [this, Nat.and_two_pow_sub_one_eq_mod]
  simp
theorem nib_hi (a : UInt8) : ((a >>> (4 : UInt8)) &&& (0b1111 : UInt8)).toNat = a.toNat / 16 % 16 := by
  rw [UInt8.toNat_and, UInt8.toNat_shiftRight]
  have : (0b1111 : UInt8).toNat = 2^4 - 1 := rfl
  rw [this, Nat.and_two_pow_sub_one_eq_mod]
  have h4 : (4 : UInt8).toNat % 8 = 4 := rfl
  rw [h4, Nat.shiftRight_eq_div_pow]

theorem nibbles_list : ∀ (l : List UInt8),
    l.flatMap (fun a => [((((a >>> (0 : UInt8)) &&& (0b1111 : UInt8)).toNat : Nat) : Int), ((((a >>> (4 : UInt8)) &&& (0b1111 : UInt8)).toNat : Nat) : Int)])
      = (Spec.ScalarL.digits 16 (2 * l.length) (leNat l)).map Int.ofNat := by
  intro l
  induction l with
  | nil => rfl
  | cons a t ih =>
    have ha := a.toNat_lt
    simp only [List.flatMap_cons, List.length_cons, leNat]
    rw [show 2 * (t.length + 1) = (2 * t.length + 1) + 1 by omega]
    simp only [Spec.ScalarL.digits, List.map_cons, List.cons_append, List.nil_append]
    rw [ih, nib_lo, nib_hi]
    have e1 : (a.toNat + 256 * leNat t) % 16 = a.toNat % 16 := by omega
    have e2 : (a.toNat + 256 * leNat t) / 16 % 16 = a.toNat / 16 % 16 := by omega
    have e3 : (a.toNat + 256 * leNat t) / 16 / 16 = leNat t := by omega
    rw [e1, e2, e3]
    rfl

theorem digits_eq_range (b : Nat) : ∀ (n v : Nat),
    Spec.ScalarL.digits b n v = (List.range n).map (fun i => v / b^i % b) := by
  intro n
  induction n with
  | zero => intro v; rfl
  | succ n ih =>
    intro v
    rw [Spec.ScalarL.digits, ih, List.range_succ_eq_map, List.map_cons, List.map_map]
    congr 1
    · simp
    · apply List.map_congr_left
      intro i _
      simp only [Function.comp, Nat.pow_succ, Nat.div_div_eq_div_mul]
      rw [Nat.mul_comm]

theorem leNat_bit (l : List UInt8) (i : Nat) (h : i < 8 * l.length) :
    leNat l / 2^i % 2 = (l.getD (i / 8) 0).toNat / 2^(i % 8) % 2 := by
  have hk : i / 8 < l.length := by omega
  rw [List.getD_eq_getElem?_getD, List.getElem?_eq_getElem hk]
  exact Bits.leNat_bit l i hk

theorem bit_u8 (x : UInt8) (k : Nat) (hk : k < 8) :
    ((1 : UInt8) &&& (x >>> UInt8.ofNat k)).toNat = x.toNat / 2^k % 2 := by
  rw [UInt8.toNat_and, UInt8.toNat_shiftRight, UInt8.toNat_ofNat']
  have h1 : (1 : UInt8).toNat = 1 := rfl
  have h2 : k % 2^8 % 8 = k := by omega
  rw [h1, h2, Nat.and_comm, Nat.and_one_is_mod, Nat.shiftRight_eq_div_pow]

theorem bits_spec (s : Scalar) : bits s = (Spec.ScalarL.bitsLE (leNat s.toList)).map Int.ofNat := by
  unfold bits Spec.ScalarL.bitsLE
  rw [digits_eq_range, List.map_map]
  apply List.map_congr_left
  intro i hi
  have hi' : i < 256 := List.mem_range.mp hi
  simp only [Function.comp]
  have hl : s.toList.length = 32 := by simp
  rw [leNat_bit s.toList i (by omega)]
  have e1 : i >>> 3 = i / 8 := by rw [Nat.shiftRight_eq_div_pow]
  have e2 : i &&& 7 = i % 8 := by
    have : (7 : Nat) = 2^3 - 1 := rfl
    rw [this, Nat.and_two_pow_sub_one_eq_mod]
  rw [e1, e2, bit_u8 _ _ (by omega)]
  simp

theorem nibbles_spec (s : Scalar) : nibbles s = (Spec.ScalarL.radix16 (leNat s.toList)).map Int.ofNat := by
  unfold nibbles Spec.ScalarL.radix16
  have := nibbles_list s.toList
  have hl : s.toList.length = 32 := by simp
  rw [hl] at this
  exact this

end Cx.Proofs.Scalar32
