/-
  Proofs.Scalar32Muladd — ref10 `sc_muladd` as modelled by `Impl.Scalar32.muladd`: for ANY three 32-byte strings
  a, b, c the 36 loads denote the radix-2^21 digits (top digit < 2^25) of the little-endian integers, no checked i64
  operation of the 144 products, 23 column sums, 23 + 70 carries and 130 multiply-accumulates overflows
  (`muladd_limbs_spec`, Scalar32MuladdA), the result limbs are fully carried with value `(a·b + c) mod L` in `[0, L)`,
  and `pack` writes its 32 little-endian bytes.  (No reducedness assumption on `c` is needed.)
-/
import CxVerif.Proofs.Scalar32MuladdA
import CxVerif.Proofs.Scalar32Reduce
namespace Cx.Proofs.Scalar32
open Cx Cx.Impl.Scalar32
open Cx.Impl.Fe32 (shr)

theorem leNat_lt256 (v : Vector UInt8 32) : leNat v.toList < 2^256 := by
  have := Cx.Proofs.Bytes.leNat_lt v.toList
  simpa using this

theorem fac_digs (N : Nat) (hN : N < 2^256) : ∀ x ∈ digs N 11, Fac x :=
  digs_le N 11 (by decide) (by unfold top; omega)

/-- the 36 loads of the source are `limb · 0 … limb · 10` and the last load, of each operand -/
theorem muladd_eq (a b c : Vector UInt8 32) :
    muladd a b c = (mulL ((List.range 11).map (limb a) ++ [shr (load_4 a 28) 7]) ((List.range 11).map (limb b) ++ [shr (load_4 b 28) 7])
      ((List.range 11).map (limb c) ++ [shr (load_4 c 28) 7])).bind fun t => pure (pack t) := by
  kernel_rfl

/-- **sc_muladd**: for all 32-byte strings a, b, c: no overflow, and the result bytes are the 32-byte little-endian
    encoding of `(le(a)·le(b) + le(c)) mod L` -/
theorem muladd_spec (a b c : Vector UInt8 32) :
    (muladd a b c).map to_bytes
      = some (Spec.ScalarL.encode (Spec.ScalarL.muladd (Spec.ScalarL.decode a.toList) (Spec.ScalarL.decode b.toList)
          (Spec.ScalarL.decode c.toList))) := by
  rw [muladd_eq, limbs_digs a 11 28 7 rfl (by decide) (leNat_lt256 a), limbs_digs b 11 28 7 rfl (by decide) (leNat_lt256 b),
    limbs_digs c 11 28 7 rfl (by decide) (leNat_lt256 c)]
  obtain ⟨t, q, ht, hd, hv, hr⟩ := mulL_spec _ _ _ rfl (by kernel_rfl) (fac_digs _ (leNat_lt256 a)) (fac_digs _ (leNat_lt256 b))
    (fac_digs _ (leNat_lt256 c))
  rw [val21_digs, val21_digs, val21_digs] at hv
  rw [ht]
  unfold Spec.ScalarL.muladd Spec.ScalarL.encode Spec.ScalarL.decode to_bytes
  simp only [Option.bind_some, Cx.Proofs.pure_eq_some, Option.map_some]
  rw [pack_spec t hd, toNat_eq_mod_L _ q (leNat a.toList * leNat b.toList + leNat c.toList) (by rw [hv]; push_cast; rfl) hr]

end Cx.Proofs.Scalar32
