/-
  Proofs.Scalar32MuladdA — `muladd_limbs` (ref10 sc_muladd) of Impl/Scalar32.lean before the shared reduction tail:
  the 23 checked columns of `a·b + c` are the columns of the schoolbook product of two limb LISTS (`prodCols`: column k holds
  the pairs `(aᵢ, b₍k−i₎)`, built by recursion on `a`) with the limbs of `c` as addends of the first columns (`withC`), run by
  `colsL`.  For any lists: the value of the columns is `val21 a · val21 b + val21 c` (four short inductions, no product is
  written out), every factor is a limb of `a` or `b` and a column has at most `|a|` pairs, so with at most twelve limbs in
  `[0, 2^25]` a column is within 13·2^50.  Then two rounds of rounded carries (`front2`), after which all limbs are within ±2^33,
  the entry condition of `reduce_limbs`.  `mulL` is `muladd_limbs` on the written-out lists by conversion (`muladd_limbs_eq`) and
  `muladd` on the lists of its loads (Scalar32Muladd).  Operand limbs: eleven 21-bit digits and a top digit below 2^25 (any
  32-byte string).
-/
import CxVerif.Proofs.Scalar32ReduceB
namespace Cx.Proofs.Scalar32
open Cx Cx.Impl.Scalar32
open Cx.Impl.Fe32 (add64 mul64)
open Cx.Proofs.Fe32 (ck64_some)

def dot (acc : Int) (ps : List (Int × Int)) : Int := ps.foldl (fun acc p => acc + p.1 * p.2) acc

/-- the operand limbs of sc_muladd: any limb of a 32-byte string, `[0, 2^25]` -/
def Fac (x : Int) : Prop := 0 ≤ x ∧ x ≤ 2^25

theorem fac_mul {x y : Int} (hx : Fac x) (hy : Fac y) : 0 ≤ x * y ∧ x * y ≤ 2^50 :=
  ⟨Int.mul_nonneg hx.1 hy.1, Int.mul_le_mul hx.2 hy.2 hy.1 (by decide)⟩

theorem foldlM_prods : ∀ (ps : List (Int × Int)) (acc : Int), 0 ≤ acc → acc + ps.length * 2^50 < 2^63 →
    (∀ p ∈ ps, Fac p.1 ∧ Fac p.2) →
    (ps.map fun p => mul64 p.1 p.2).foldlM (fun acc y => y.bind (add64 acc)) acc = some (dot acc ps)
      ∧ 0 ≤ dot acc ps ∧ dot acc ps ≤ acc + ps.length * 2^50
  | [], acc, h0, _, _ => ⟨rfl, h0, by simp [dot]⟩
  | p :: ps, acc, h0, hl, hp => by
    have hm := fac_mul (hp p (List.mem_cons_self ..)).1 (hp p (List.mem_cons_self ..)).2
    simp only [List.length_cons, Int.natCast_add, Int.natCast_one] at hl
    have ih := foldlM_prods ps (acc + p.1 * p.2) (by omega) (by omega) fun q hq => hp q (List.mem_cons_of_mem _ hq)
    have e1 : mul64 p.1 p.2 = some (p.1 * p.2) := by unfold mul64; exact ck64_some (by omega)
    have e2 : add64 acc (p.1 * p.2) = some (acc + p.1 * p.2) := by unfold add64; exact ck64_some (by omega)
    simp only [List.map_cons, List.foldlM_cons, e1, Option.bind_some, e2, Option.bind_eq_bind, List.length_cons,
      Int.natCast_add, Int.natCast_one]
    refine ⟨ih.1, ih.2.1, ?_⟩
    have := ih.2.2
    show dot (acc + p.1 * p.2) ps ≤ _
    omega

/-- a checked column `c + x₁·y₁ + … + xₙ·yₙ` of `sc_muladd` (`n ≤ 12`, `c` and all factors in `[0, 2^25]`): every
    product and every partial sum is inside i64 -/
theorem col_some (c : Int) (ps : List (Int × Int)) (hc : Fac c) (hn : ps.length ≤ 12) (hp : ∀ p ∈ ps, Fac p.1 ∧ Fac p.2) :
    sum64o (some c :: ps.map fun p => mul64 p.1 p.2) = some (dot c ps) ∧ 0 ≤ dot c ps ∧ dot c ps ≤ 13 * 2^50 := by
  have hn' : (ps.length : Int) ≤ 12 := by omega
  obtain ⟨h1, h2, h3⟩ := foldlM_prods ps c hc.1 (by have := hc.2; omega) hp
  exact ⟨h1, h2, by have := hc.2; omega⟩

theorem col_prods (p : Int × Int) (ps : List (Int × Int)) (hn : ps.length ≤ 11) (hp : ∀ q ∈ p :: ps, Fac q.1 ∧ Fac q.2) :
    sum64o ((p :: ps).map fun p => mul64 p.1 p.2) = some (dot 0 (p :: ps)) ∧ 0 ≤ dot 0 (p :: ps) ∧ dot 0 (p :: ps) ≤ 13 * 2^50 := by
  have hm := fac_mul (hp p (List.mem_cons_self ..)).1 (hp p (List.mem_cons_self ..)).2
  have hn' : (ps.length : Int) ≤ 11 := by omega
  have e1 : mul64 p.1 p.2 = some (p.1 * p.2) := by unfold mul64; exact ck64_some (by omega)
  obtain ⟨h1, h2, h3⟩ := foldlM_prods ps (p.1 * p.2) hm.1 (by omega) fun q hq => hp q (List.mem_cons_of_mem _ hq)
  have e : dot 0 (p :: ps) = dot (p.1 * p.2) ps := by simp [dot]
  rw [e]
  refine ⟨?_, h2, by omega⟩
  simp only [sum64o, List.map_cons, e1]
  exact h1

abbrev Pairs := List (Int × Int)

def sumP : Pairs → Int
  | [] => 0
  | p :: ps => p.1 * p.2 + sumP ps

theorem dot_eq : ∀ (ps : Pairs) (acc : Int), dot acc ps = acc + sumP ps
  | [], acc => by simp [dot, sumP]
  | p :: ps, acc => by
    have := dot_eq ps (acc + p.1 * p.2)
    simp only [dot, List.foldl_cons, sumP] at this ⊢
    rw [this]; ring

theorem sumP_append : ∀ (c d : Pairs), sumP (c ++ d) = sumP c + sumP d
  | [], d => by simp [sumP]
  | p :: c, d => by simp only [List.cons_append, sumP, sumP_append c d]; ring

def addCols : List Pairs → List Pairs → List Pairs
  | c :: cs, d :: ds => (c ++ d) :: addCols cs ds
  | cs, [] => cs
  | [], ds => ds

/-- the columns of the schoolbook product: column `k` holds the pairs `(aᵢ, b₍k−i₎)`, `i` ascending -/
def prodCols : List Int → List Int → List Pairs
  | [], _ => []
  | a :: as, bs => addCols (bs.map fun b => [(a, b)]) ([] :: prodCols as bs)

def valP (cs : List Pairs) : Int := val21 (cs.map sumP)

theorem valP_add : ∀ (cs ds : List Pairs), valP (addCols cs ds) = valP cs + valP ds
  | [], [] => by simp [addCols, valP, val21]
  | [], d :: ds => by simp [addCols, valP, val21]
  | c :: cs, [] => by simp [addCols, valP, val21]
  | c :: cs, d :: ds => by
    have := valP_add cs ds
    simp only [valP, addCols, List.map_cons, val21, sumP_append] at this ⊢
    rw [this]; ring

theorem valP_row (a : Int) : ∀ bs : List Int, valP (bs.map fun b => [(a, b)]) = a * val21 bs
  | [] => by simp [valP, val21]
  | b :: bs => by
    have := valP_row a bs
    simp only [valP, List.map_cons, val21, sumP] at this ⊢
    rw [this]; ring

theorem valP_prod : ∀ as bs : List Int, valP (prodCols as bs) = val21 as * val21 bs
  | [], bs => by simp [prodCols, valP, val21]
  | a :: as, bs => by
    rw [prodCols, valP_add, valP_row]
    have := valP_prod as bs
    simp only [valP, List.map_cons, val21, sumP] at this ⊢
    rw [this]; ring

/-- a column: its addend `c_k` (if any) and its pairs of factors -/
abbrev Col := Option Int × Pairs

def Col.terms (c : Col) : List (Option Int) := c.1.toList.map some ++ c.2.map fun p => mul64 p.1 p.2
def Col.val (c : Col) : Int := dot (c.1.getD 0) c.2
def Col.OK (c : Col) : Prop := (∀ x, c.1 = some x → Fac x) ∧ c.2.length ≤ 12 ∧ ∀ p ∈ c.2, Fac p.1 ∧ Fac p.2

def withC : List Int → List Pairs → List Col
  | [], ps => ps.map fun p => (none, p)
  | c :: cs, [] => (some c, []) :: withC cs []
  | c :: cs, p :: ps => (some c, p) :: withC cs ps

theorem Col.val_eq (c : Col) : c.val = c.1.getD 0 + sumP c.2 := dot_eq ..

theorem withC_val : ∀ (cs : List Int) (ps : List Pairs), val21 ((withC cs ps).map Col.val) = val21 cs + valP ps
  | [], ps => by
    rw [withC, List.map_map, valP]
    exact (congrArg (fun f => val21 (ps.map f)) (funext fun p => (Col.val_eq _).trans (Int.zero_add _))).trans (Int.zero_add _).symm
  | c :: cs, [] => by
    rw [withC, List.map_cons, val21, withC_val cs [], Col.val_eq, val21]
    simp only [Option.getD_some, sumP, valP, List.map_nil, val21]
    ring
  | c :: cs, p :: ps => by
    rw [withC, List.map_cons, val21, withC_val cs ps, Col.val_eq, val21]
    simp only [Option.getD_some, valP, List.map_cons, val21]
    ring

theorem cols_val (as bs cs : List Int) : val21 ((withC cs (prodCols as bs)).map Col.val) = val21 as * val21 bs + val21 cs := by
  rw [withC_val, valP_prod, Int.add_comm]

def POK (n : Nat) (ps : Pairs) : Prop := ps.length ≤ n ∧ ∀ p ∈ ps, Fac p.1 ∧ Fac p.2

theorem POK.mono {m n : Nat} {ps : Pairs} (h : POK m ps) (hmn : m ≤ n) : POK n ps := ⟨Nat.le_trans h.1 hmn, h.2⟩

theorem addCols_ok {m n : Nat} : ∀ {cs ds : List Pairs}, (∀ c ∈ cs, POK m c) → (∀ d ∈ ds, POK n d) → ∀ e ∈ addCols cs ds, POK (m + n) e
  | [], [], _, _, e, he => by simp [addCols] at he
  | [], d :: ds, _, hd, e, he => (hd e he).mono (Nat.le_add_left ..)
  | c :: cs, [], hc, _, e, he => (hc e he).mono (Nat.le_add_right ..)
  | c :: cs, d :: ds, hc, hd, e, he => by
    rcases List.mem_cons.1 he with rfl | he
    · have h1 := hc c (List.mem_cons_self ..)
      have h2 := hd d (List.mem_cons_self ..)
      exact ⟨by rw [List.length_append]; exact Nat.add_le_add h1.1 h2.1,
        fun p hp => (List.mem_append.1 hp).elim (h1.2 p) (h2.2 p)⟩
    · exact addCols_ok (fun c h => hc c (List.mem_cons_of_mem _ h)) (fun d h => hd d (List.mem_cons_of_mem _ h)) e he

theorem prodCols_ok {bs : List Int} (hb : ∀ x ∈ bs, Fac x) : ∀ {as : List Int}, (∀ x ∈ as, Fac x) → ∀ c ∈ prodCols as bs, POK as.length c
  | [], _, c, hc => by simp [prodCols] at hc
  | a :: as, ha, c, hc => by
    have h := addCols_ok (m := 1) (n := as.length) (cs := bs.map fun b => [(a, b)]) (ds := [] :: prodCols as bs)
      (fun c hc => by
        obtain ⟨b, hb', rfl⟩ := List.mem_map.1 hc
        exact ⟨Nat.le_refl 1, fun p hp => by rw [List.mem_singleton.1 hp]; exact ⟨ha a (List.mem_cons_self ..), hb b hb'⟩⟩)
      (fun d hd => by
        rcases List.mem_cons.1 hd with rfl | hd
        · exact ⟨Nat.zero_le _, fun _ hp => nomatch hp⟩
        · exact prodCols_ok hb (fun x hx => ha x (List.mem_cons_of_mem _ hx)) d hd)
      c hc
    exact h.mono (by rw [List.length_cons, Nat.add_comm])

theorem withC_ok : ∀ {cs : List Int} {ps : List Pairs}, (∀ c ∈ cs, Fac c) → (∀ p ∈ ps, POK 12 p) → ∀ c ∈ withC cs ps, c.OK
  | [], ps, _, hp, c, h => by
    obtain ⟨p, hp', rfl⟩ := List.mem_map.1 h
    exact ⟨fun _ hx => (nomatch hx), hp p hp'⟩
  | c :: cs, [], hc, hp, e, h => by
    rcases List.mem_cons.1 h with rfl | h
    · exact ⟨fun x hx => Option.some.inj hx ▸ hc c (List.mem_cons_self ..), Nat.zero_le _, fun _ hq => nomatch hq⟩
    · exact withC_ok (fun c h => hc c (List.mem_cons_of_mem _ h)) hp e h
  | c :: cs, p :: ps, hc, hp, e, h => by
    rcases List.mem_cons.1 h with rfl | h
    · exact ⟨fun x hx => Option.some.inj hx ▸ hc c (List.mem_cons_self ..), hp p (List.mem_cons_self ..)⟩
    · exact withC_ok (fun c h => hc c (List.mem_cons_of_mem _ h)) (fun p h => hp p (List.mem_cons_of_mem _ h)) e h

def colsL {β} : List Col → (List Int → Option β) → Option β
  | [], k => k []
  | c :: cs, k => sum64o c.terms >>= fun s => colsL cs fun l => k (s :: l)

theorem colsL_spec : ∀ cs : List Col, (∀ c ∈ cs, c.OK) →
    (∀ x ∈ cs.map Col.val, -(13 * 2^50) ≤ x ∧ x ≤ 13 * 2^50) ∧
      ∀ {β} (k : List Int → Option β), colsL cs k = k (cs.map Col.val)
  | [], _ => ⟨fun _ h => (nomatch h), fun _ => rfl⟩
  | (c, ps) :: cs, h => by
    obtain ⟨h1, h3, h4⟩ := h _ (List.mem_cons_self ..)
    obtain ⟨ihb, ih⟩ := colsL_spec cs fun c hc => h c (List.mem_cons_of_mem _ hc)
    have key : sum64o (Col.terms (c, ps)) = some (Col.val (c, ps)) ∧
        (0 ≤ Col.val (c, ps) ∧ Col.val (c, ps) ≤ 13 * 2^50) := by
      cases c with
      | some c => exact col_some c ps (h1 c rfl) h3 h4
      | none =>
        cases ps with
        | nil => exact ⟨rfl, by decide, by decide⟩
        | cons p ps => exact col_prods p ps (Nat.le_of_succ_le_succ h3) h4
    refine ⟨List.forall_mem_cons.2 ⟨by have := key.2; omega, ihb⟩, fun k => ?_⟩
    simp only [colsL]
    rw [key.1, some_bind, ih]
    rfl

/-- the two rounds of rounded carries of `muladd_limbs` (out of the even limbs, `s23` entering as 0, then out of the odd
    limbs), followed by the reduction tail -/
def front2 (l : List Int) : Option S12 := twoR (l ++ [0]) redL

/-- `muladd_limbs` on the three limb lists -/
def mulL (as bs cs : List Int) : Option S12 := colsL (withC cs (prodCols as bs)) front2

theorem muladd_limbs_eq (a0 a1 a2 a3 a4 a5 a6 a7 a8 a9 a10 a11 b0 b1 b2 b3 b4 b5 b6 b7 b8 b9 b10 b11 c0 c1 c2 c3 c4 c5 c6 c7 c8 c9 c10 c11 : Int) :
    muladd_limbs a0 a1 a2 a3 a4 a5 a6 a7 a8 a9 a10 a11 b0 b1 b2 b3 b4 b5 b6 b7 b8 b9 b10 b11 c0 c1 c2 c3 c4 c5 c6 c7 c8 c9 c10 c11 = mulL [a0, a1,
        a2, a3, a4, a5, a6, a7, a8, a9, a10, a11] [b0, b1, b2, b3, b4, b5, b6, b7, b8, b9, b10, b11] [c0, c1, c2, c3, c4, c5, c6, c7, c8, c9, c10, c11] := by
  kernel_rfl

theorem front2_spec (l : List Int) (hl : l.length = 23) (hb : ∀ x ∈ l, -(13 * 2^50) ≤ x ∧ x ≤ 13 * 2^50) :
    ∃ t q, front2 l = some t ∧ Digits12 t ∧ val12 t = val21 l - LI * q ∧ (0 ≤ val12 t ∧ val12 t < LI) := by
  obtain ⟨hk, hv, hbd⟩ := twoR_spec (l ++ [0]) (List.replicate 23 (13 * 2^50) ++ [0])
    ((Bd.of_all hl hb).append (.cons (by decide) .nil)) (by decide) (by decide)
  obtain ⟨t, q, ht, hdg, hv', hrg⟩ := redL_spec _ (by rw [twoV_length, List.length_append, hl]; rfl) (hbd.all (by decide))
  exact ⟨t, q, (hk _).trans ht, hdg, hv'.trans (congrArg (· - LI * q) (hv.trans (val21_snoc_zero l))), hrg⟩

/-- **sc_muladd on limb lists**: twelve-limb operands in `[0, 2^25]` (their columns being 23, which a caller reads off his lists):
    no checked i64 operation overflows, the result is fully carried, lies in [0, L) and is congruent to a·b + c modulo L -/
theorem mulL_spec (as bs cs : List Int) (h12 : as.length = 12) (h23 : ((withC cs (prodCols as bs)).map Col.val).length = 23)
    (ha : ∀ x ∈ as, Fac x) (hb : ∀ x ∈ bs, Fac x) (hc : ∀ x ∈ cs, Fac x) :
    ∃ t q, mulL as bs cs = some t ∧ Digits12 t ∧ val12 t = val21 as * val21 bs + val21 cs - LI * q ∧ (0 ≤ val12 t ∧ val12 t < LI) := by
  obtain ⟨hbd, hcols⟩ := colsL_spec _ (withC_ok hc fun p hp => h12 ▸ prodCols_ok hb ha p hp)
  obtain ⟨t, q, ht, hdg, hv, hrg⟩ := front2_spec _ h23 hbd
  exact ⟨t, q, (hcols _).trans ht, hdg, hv.trans (congrArg (· - LI * q) (cols_val as bs cs)), hrg⟩

/-- **sc_muladd on limbs**: for operand limbs of ANY three 32-byte strings no checked i64 operation overflows, the
    result is fully carried, lies in [0, L) and is congruent to a·b + c modulo L -/
theorem muladd_limbs_spec (a0 a1 a2 a3 a4 a5 a6 a7 a8 a9 a10 a11 b0 b1 b2 b3 b4 b5 b6 b7 b8 b9 b10 b11 c0 c1 c2 c3 c4 c5 c6 c7 c8 c9 c10 c11 : Int)
    (ha : ∀ x ∈ [a0, a1, a2, a3, a4, a5, a6, a7, a8, a9, a10, a11], Fac x) (hb : ∀ x ∈ [b0, b1, b2, b3, b4, b5, b6, b7, b8, b9, b10, b11], Fac x) (hc
        : ∀ x ∈ [c0, c1, c2, c3, c4, c5, c6, c7, c8, c9, c10, c11], Fac x) :
    ∃ (t : S12) (q : Int), muladd_limbs a0 a1 a2 a3 a4 a5 a6 a7 a8 a9 a10 a11 b0 b1 b2 b3 b4 b5 b6 b7 b8 b9 b10 b11 c0 c1 c2 c3 c4 c5 c6 c7 c8 c9 c10
        c11 = some t ∧ Digits12 t ∧
      val12 t = lin12 a0 a1 a2 a3 a4 a5 a6 a7 a8 a9 a10 a11 * lin12 b0 b1 b2 b3 b4 b5 b6 b7 b8 b9 b10 b11 + lin12 c0 c1 c2 c3 c4 c5 c6 c7 c8 c9 c10
          c11 - LI * q ∧
      (0 ≤ val12 t ∧ val12 t < LI) := by
  obtain ⟨t, q, ht, hdg, hv, hrg⟩ := mulL_spec _ _ _ rfl (by kernel_rfl) ha hb hc
  refine ⟨t, q, (muladd_limbs_eq ..).trans ht, hdg, ?_, hrg⟩
  rw [lin12_val21, lin12_val21, lin12_val21]
  exact hv

end Cx.Proofs.Scalar32
