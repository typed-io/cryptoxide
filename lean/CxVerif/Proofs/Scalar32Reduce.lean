/-
  Proofs.Scalar32Reduce — ref10 `sc_reduce` as modelled by `Impl.Scalar32.reduce_from_wide_bytes`:
  for EVERY 64-byte string the 24 loads denote the radix-2^21 digits of the little-endian integer (`limb s k`: the load
  expression of limb `k` as a function of `k` — which bytes, which shift follow from 21·k — with ONE lemma `limb_dig`; the source's
  24 expressions are `limb s 0 … limb s 22` and the last load by conversion, `reduce_from_wide_bytes_eq`), no checked i64
  operation of the 130 multiply-accumulates / 70 carries overflows (`redL_spec` on the digit list, Scalar32ReduceB), the twelve
  result limbs are fully carried with value `le(s) mod L` in `[0, L)`, and `pack` writes its 32 little-endian bytes.
  The byte window of this file (`getD_toNat_eq`, `win`, `getD_window`) reads with `getD`, zero beyond the end, because the model's
  `load_3`/`load_4` do, at any offset of a string of any length; `Bits.leNat_window_succ` is the `getElem` form inside the string.
-/
import CxVerif.Proofs.Scalar32ReduceB
import CxVerif.Proofs.Scalar32ReduceC
namespace Cx.Proofs.Scalar32
open Cx Cx.Impl.Scalar32
open Cx.Impl.Fe32 (shr)
set_option exponentiation.threshold 600

theorem getD_toNat_eq : ∀ (l : Bytes) (o : Nat), (l.getD o 0).toNat = leNat l / 256^o % 256
  | [], o => by simp [leNat]
  | b :: t, 0 => by
    have := b.toNat_lt
    simp only [List.getD_cons_zero, leNat, Nat.pow_zero, Nat.div_one]; omega
  | b :: t, o + 1 => by
    have hb := b.toNat_lt
    simp only [List.getD_cons_succ, leNat]
    rw [getD_toNat_eq t o, Nat.pow_succ, Nat.mul_comm (256^o) 256, ← Nat.div_div_eq_div_mul]
    have : (b.toNat + 256 * leNat t) / 256 = leNat t := by omega
    rw [this]

def win (l : Bytes) (o : Nat) : Nat → Nat
  | 0 => 0
  | k + 1 => (l.getD o 0).toNat + 256 * win l (o + 1) k

theorem getD_window (l : Bytes) : ∀ (k o : Nat), leNat l / 256^o % 256^k = win l o k
  | 0, _ => Nat.mod_one _
  | k + 1, o => by
    rw [Nat.pow_succ, Nat.mul_comm, Nat.mod_mul, ← getD_toNat_eq, Nat.div_div_eq_div_mul, ← Nat.pow_succ, getD_window l k (o + 1)]
    rfl

theorem load_3_val {n} (s : Vector UInt8 n) (o : Nat) :
    load_3 s o = ((leNat s.toList / 256^o % 2^24 : Nat) : Int) := by
  unfold load_3
  rw [Bits.load3_sum _ _ _ (UInt8.toNat_lt _) (UInt8.toNat_lt _), show (2 : Nat)^24 = 256^3 from rfl,
    getD_window]
  simp only [win, Nat.add_assoc, Nat.reduceAdd]
  congr 1
  omega

theorem load_4_val {n} (s : Vector UInt8 n) (o : Nat) :
    load_4 s o = ((leNat s.toList / 256^o % 2^32 : Nat) : Int) := by
  unfold load_4
  rw [Bits.load4_sum _ _ _ _ (UInt8.toNat_lt _) (UInt8.toNat_lt _) (UInt8.toNat_lt _),
    show (2 : Nat)^32 = 256^4 from rfl, getD_window]
  simp only [win, Nat.add_assoc, Nat.reduceAdd]
  congr 1
  omega

theorem toNat_eq_mod_L (v q : Int) (N : Nat) (hv : v = (N : Int) - LI * q) (hr : 0 ≤ v ∧ v < LI) :
    v.toNat = N % Spec.ScalarL.L := by
  have hL : (Spec.ScalarL.L : Int) = LI := LI_eq.symm
  have h1 : v = ((N % Spec.ScalarL.L : Nat) : Int) := by
    rw [Int.natCast_mod, hL]
    unfold LI δ at *
    omega
  rw [h1]; rfl

/-- limb `k` as the source loads it: the 3 or 4 bytes that hold bits 21k … 21k + 20, shifted down (no shift is written where there
    is none) and masked -/
def limb {n} (s : Vector UInt8 n) (k : Nat) : Int :=
  (if 21 * k % 8 = 0 then load_3 s (21 * k / 8)
   else if 21 * k % 8 + 21 ≤ 24 then shr (load_3 s (21 * k / 8)) (21 * k % 8) else shr (load_4 s (21 * k / 8)) (21 * k % 8)) % 2^21

theorem limb_dig {n} (s : Vector UInt8 n) (k : Nat) : limb s k = dig (leNat s.toList) k := by
  unfold limb
  split
  · rw [load_3_val]; exact load_dig0 _ _ 24 k (by omega) (by decide)
  · split
    · rw [load_3_val]; exact load_dig _ _ 24 _ k (by omega) (by omega)
    · rw [load_4_val]; exact load_dig _ _ 32 _ k (by omega) (by omega)

/-- the `n` limbs and the last load, which is not masked, are the digits of the number and what is left above them -/
theorem limbs_digs {m} (s : Vector UInt8 m) (n o sh : Nat) (h : 8 * o + sh = 21 * n) (hs : sh ≤ 32)
    (hN : leNat s.toList < 2^(21 * n + (32 - sh))) :
    (List.range n).map (limb s) ++ [shr (load_4 s o) sh] = digs (leNat s.toList) n := by
  rw [digs, List.range_eq_range', load_4_val, load_top _ o sh n _ h rfl hs hN, Nat.zero_add]
  exact congrArg (· ++ _) (List.map_congr_left fun k _ => limb_dig s k)

theorem reduce_from_wide_bytes_eq (s : Vector UInt8 64) :
    reduce_from_wide_bytes s = (redL ((List.range 23).map (limb s) ++ [shr (load_4 s 60) 3])).bind fun t => pure (pack t) := by
  kernel_rfl

/-- **sc_reduce**: for every 64-byte string, no overflow, and the result bytes are the 32-byte little-endian encoding
    of `le(s) mod L` -/
theorem reduce_from_wide_bytes_spec (s : Vector UInt8 64) :
    (reduce_from_wide_bytes s).map to_bytes = some (Spec.ScalarL.reduceWide s.toList) := by
  have hN : leNat s.toList < 2^512 := by
    have := Cx.Proofs.Bytes.leNat_lt s.toList
    simpa using this
  rw [reduce_from_wide_bytes_eq, limbs_digs s 23 60 3 rfl (by decide) hN]
  obtain ⟨t, q, ht, hd, hv, hr⟩ := redL_spec (digs (leNat s.toList) 23) rfl fun x h => by
    have := digs_le _ 23 (B := 2^33) (by decide) (by unfold top; omega) x h
    omega
  rw [val21_digs] at hv
  rw [ht]
  unfold Spec.ScalarL.reduceWide Spec.ScalarL.encode Spec.ScalarL.decode to_bytes
  simp only [Option.bind_some, Cx.Proofs.pure_eq_some, Option.map_some]
  rw [pack_spec t hd, toNat_eq_mod_L _ q _ hv hr]

end Cx.Proofs.Scalar32
