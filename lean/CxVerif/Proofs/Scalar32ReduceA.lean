/-
  Proofs.Scalar32ReduceA — the kinds of step of ref10 sc_reduce / sc_muladd as modelled in Impl/Scalar32.lean
  (`mac`, `msc`, `carryR`, `carryF`: every i64 `+ - *` checked).  The steps that are followed by more
  statements have a lemma in continuation form: inside the stated bounds the checked statements followed by ANY
  continuation equal the continuation applied to the exact integer results (no i64 overflow).
  `fold6` folds one limb `x` with 666643 470296 654183 −997805 136657 −683901; Σ cᵢ·2^(21i) = 2^252 − L, so a fold
  of limb j+12 into limbs j..j+5 changes the value by a multiple of L.
  A limb list is the number `val21 l`.  A stage (the folds `foldW`, a round of rounded carries `pairsR`, two rounds `twoR`,
  the floor carries `chainF`) hands its continuation a FUNCTION of the list (`foldV`, `pairsV`, `twoV`, `chainV`) whose
  value is that of the list (less `δ·val21 xs` for folds); what is known of the limbs is a list of bounds (`Bd l bs`), and
  the bounds after a round are computed from the bounds before (`pairsB`), so a caller checks them on numerals; the value
  of the bounds bounds the value (`Bd.val`).
-/
import CxVerif.Proofs.Fe32Basic
import CxVerif.Proofs.Limbs
import CxVerif.Impl.Scalar32
import CxVerif.Spec.ScalarL
namespace Cx.Proofs.Scalar32
open Cx Cx.Impl.Scalar32
open Cx.Impl.Fe32 (shl64 shr)
open Cx.Proofs.Fe32 (add64_bind sub64_bind mul64_bind wrap64_eq Within)

def lin12 (x0 x1 x2 x3 x4 x5 x6 x7 x8 x9 x10 x11 : Int) : Int :=
  x0 + x1 * 2^21 + x2 * 2^42 + x3 * 2^63 + x4 * 2^84 + x5 * 2^105 + x6 * 2^126 + x7 * 2^147 + x8 * 2^168 + x9 * 2^189
    + x10 * 2^210 + x11 * 2^231
def lin24 (x0 x1 x2 x3 x4 x5 x6 x7 x8 x9 x10 x11 x12 x13 x14 x15 x16 x17 x18 x19 x20 x21 x22 x23 : Int) : Int :=
  x0 + x1 * 2^21 + x2 * 2^42 + x3 * 2^63 + x4 * 2^84 + x5 * 2^105 + x6 * 2^126 + x7 * 2^147 + x8 * 2^168 + x9 * 2^189
    + x10 * 2^210 + x11 * 2^231 + x12 * 2^252 + x13 * 2^273 + x14 * 2^294 + x15 * 2^315 + x16 * 2^336 + x17 * 2^357
    + x18 * 2^378 + x19 * 2^399 + x20 * 2^420 + x21 * 2^441 + x22 * 2^462 + x23 * 2^483

def val21 : List Int → Int
  | [] => 0
  | x :: l => x + 2^21 * val21 l

def val12 (t : S12) : Int := lin12 t.s0 t.s1 t.s2 t.s3 t.s4 t.s5 t.s6 t.s7 t.s8 t.s9 t.s10 t.s11

theorem val21_append : ∀ (l m : List Int), val21 (l ++ m) = val21 l + 2^(21 * l.length) * val21 m
  | [], m => by simp [val21]
  | x :: l, m => by
    simp only [List.cons_append, val21, List.length_cons]
    rw [val21_append l m]
    ring

theorem val21_split (l : List Int) (n : Nat) (h : n ≤ l.length) : val21 l = val21 (l.take n) + 2^(21 * n) * val21 (l.drop n) := by
  have e := val21_append (l.take n) (l.drop n)
  rwa [List.take_append_drop, List.length_take, Nat.min_eq_left h] at e

theorem val21_snoc (l : List Int) (t : Int) (n : Nat) (hn : l.length = n) : val21 (l ++ [t]) = val21 l + 2^(21 * n) * t := by
  rw [val21_append, hn]
  simp only [val21]
  ring

theorem val21_snoc_zero (l : List Int) : val21 (l ++ [0]) = val21 l := by
  rw [val21_snoc l 0 _ rfl, Int.mul_zero, Int.add_zero]

theorem val21_append_congr (l : List Int) {m m' : List Int} (h : val21 m = val21 m') : val21 (l ++ m) = val21 (l ++ m') := by
  rw [val21_append, val21_append, h]

theorem val21_dig : ∀ (l : List Int) (n : Nat), l.length = n → (∀ d ∈ l, 0 ≤ d ∧ d < 2^21) → 0 ≤ val21 l ∧ val21 l < 2^(21 * n)
  | [], _, hn, _ => by subst hn; simp [val21]
  | d :: l, _, hn, h => by
    subst hn
    have hd := h d (List.mem_cons_self ..)
    have ih := val21_dig l _ rfl fun x hx => h x (List.mem_cons_of_mem _ hx)
    have e : (2 : Int)^(21 * (d :: l).length) = 2^21 * 2^(21 * l.length) := by rw [List.length_cons]; ring
    rw [e]
    simp only [val21]
    generalize (2 : Int)^(21 * l.length) = P at ih ⊢
    omega

/-- `δ = L − 2^252`: what a limb at position 12 is worth modulo L, negated -/
abbrev δ : Int := 27742317777372353535851937790883648493

def LI : Int := 2^252 + δ
theorem LI_eq : LI = (Spec.ScalarL.L : Int) := by decide

/-- fully carried limbs: eleven 21-bit digits and a top digit that may carry bit 252 -/
def Digits12 (t : S12) : Prop :=
  (0 ≤ t.s0 ∧ t.s0 < 2^21) ∧ (0 ≤ t.s1 ∧ t.s1 < 2^21) ∧ (0 ≤ t.s2 ∧ t.s2 < 2^21) ∧ (0 ≤ t.s3 ∧ t.s3 < 2^21) ∧
  (0 ≤ t.s4 ∧ t.s4 < 2^21) ∧ (0 ≤ t.s5 ∧ t.s5 < 2^21) ∧ (0 ≤ t.s6 ∧ t.s6 < 2^21) ∧ (0 ≤ t.s7 ∧ t.s7 < 2^21) ∧
  (0 ≤ t.s8 ∧ t.s8 < 2^21) ∧ (0 ≤ t.s9 ∧ t.s9 < 2^21) ∧ (0 ≤ t.s10 ∧ t.s10 < 2^21) ∧ (0 ≤ t.s11 ∧ t.s11 < 2^22)

theorem mac_bind {β} (si sj c : Int) (f : Int → Option β) (h1 : -2^63 ≤ sj * c ∧ sj * c < 2^63)
    (h2 : -2^63 ≤ si + sj * c ∧ si + sj * c < 2^63) : (mac si sj c >>= f) = f (si + sj * c) := by
  unfold mac
  rw [bind_assoc, mul64_bind _ _ _ h1, add64_bind _ _ _ h2]

theorem msc_bind {β} (si sj c : Int) (f : Int → Option β) (h1 : -2^63 ≤ sj * c ∧ sj * c < 2^63)
    (h2 : -2^63 ≤ si - sj * c ∧ si - sj * c < 2^63) : (msc si sj c >>= f) = f (si - sj * c) := by
  unfold msc
  rw [bind_assoc, mul64_bind _ _ _ h1, sub64_bind _ _ _ h2]

/-- the six statements `a0 += x*666643; a1 += x*470296; a2 += x*654183; a3 -= x*997805; a4 += x*136657; a5 -= x*683901` -/
def fold6 {β} (a0 a1 a2 a3 a4 a5 x : Int) (k : Int → Int → Int → Int → Int → Int → Option β) : Option β := do
  let a0 ← mac a0 x 666643
  let a1 ← mac a1 x 470296
  let a2 ← mac a2 x 654183
  let a3 ← msc a3 x 997805
  let a4 ← mac a4 x 136657
  let a5 ← msc a5 x 683901
  k a0 a1 a2 a3 a4 a5

def win6 (a0 a1 a2 a3 a4 a5 x : Int) (t : List Int) : List Int :=
  (a0 + x * 666643) :: (a1 + x * 470296) :: (a2 + x * 654183) :: (a3 - x * 997805) :: (a4 + x * 136657) :: (a5 - x * 683901) :: t

/-- `fold6` with every limb of the window within `±A` and `x` within `±X`: no overflow, the window stays within `±(A + 2^20·X)`
    (each of the six coefficients is below 2^20), its value changes by `−δ·x` -/
theorem fold6_ok {a0 a1 a2 a3 a4 a5 x A X : Int}
    (hx : -X ≤ x ∧ x ≤ X) (hX : X ≤ 2^40) (hA : A + 2^20 * X ≤ 2^62) (ha : ∀ a ∈ [a0, a1, a2, a3, a4, a5], -A ≤ a ∧ a ≤ A) :
    (∀ {β} (k : Int → Int → Int → Int → Int → Int → Option β), fold6 a0 a1 a2 a3 a4 a5 x k =
        k (a0 + x * 666643) (a1 + x * 470296) (a2 + x * 654183) (a3 - x * 997805) (a4 + x * 136657) (a5 - x * 683901)) ∧
      (∀ b ∈ win6 a0 a1 a2 a3 a4 a5 x [], -(A + 2^20 * X) ≤ b ∧ b ≤ A + 2^20 * X) ∧
      ∀ t, val21 (win6 a0 a1 a2 a3 a4 a5 x t) = val21 (a0 :: a1 :: a2 :: a3 :: a4 :: a5 :: t) - δ * x := by
  simp only [List.mem_cons, List.not_mem_nil, or_false, forall_eq_or_imp, forall_eq] at ha
  refine ⟨fun k => ?_, ?_, fun t => ?_⟩
  · unfold fold6
    rw [mac_bind _ _ _ _ (by omega) (by omega), mac_bind _ _ _ _ (by omega) (by omega),
      mac_bind _ _ _ _ (by omega) (by omega), msc_bind _ _ _ _ (by omega) (by omega),
      mac_bind _ _ _ _ (by omega) (by omega), msc_bind _ _ _ _ (by omega) (by omega)]
  · simp only [win6, List.mem_cons, List.not_mem_nil, or_false, forall_eq_or_imp, forall_eq]; omega
  · simp only [win6, val21]; ring

/-- the folds `fold6 (aⱼ … aⱼ₊₅) xⱼ` for `j` from the last `x` down to the first: limb `xⱼ` (position `j + 12` of the number) folded
    into the window of six limbs that starts at position `j` -/
def foldW {β} : List Int → List Int → (List Int → Option β) → Option β
  | a0 :: rest, x :: xs, k => foldW rest xs fun r => match r with
    | a1 :: a2 :: a3 :: a4 :: a5 :: t => fold6 a0 a1 a2 a3 a4 a5 x fun b0 b1 b2 b3 b4 b5 => k (b0 :: b1 :: b2 :: b3 :: b4 :: b5 :: t)
    | _ => none
  | as, _, k => k as

def foldV : List Int → List Int → List Int
  | a0 :: rest, x :: xs => match foldV rest xs with
    | a1 :: a2 :: a3 :: a4 :: a5 :: t => win6 a0 a1 a2 a3 a4 a5 x t
    | r => a0 :: r
  | as, _ => as

theorem foldW_nil {β} (as : List Int) (k : List Int → Option β) : foldW as [] k = k as := by cases as <;> rfl
theorem foldW_cons {β} (a0 x : Int) (rest xs : List Int) (k : List Int → Option β) :
    foldW (a0 :: rest) (x :: xs) k = foldW rest xs fun r => match r with
      | a1 :: a2 :: a3 :: a4 :: a5 :: t => fold6 a0 a1 a2 a3 a4 a5 x fun b0 b1 b2 b3 b4 b5 => k (b0 :: b1 :: b2 :: b3 :: b4 :: b5 :: t)
      | _ => none := by rw [foldW]
theorem foldV_nil (as : List Int) : foldV as [] = as := by cases as <;> rfl

/-- the bound after `n` folds: `G` more each time.  Recursive, not `A + n·G`: with `n = xs.length` and `G = 2^20·X` both symbolic
    the closed form is nonlinear for `omega`, while this one unfolds (`simp only [grow]`) to a linear term at every use -/
def grow (G : Int) (A : Int) : Nat → Int
  | 0 => A
  | n + 1 => grow G A n + G

theorem le_grow {G A : Int} (hG : 0 ≤ G) : ∀ n, A ≤ grow G A n
  | 0 => Int.le_refl _
  | n + 1 => by have := le_grow (A := A) hG n; simp only [grow]; omega

theorem exists_five : ∀ (l : List Int), 5 ≤ l.length → ∃ a b c d e t, l = a :: b :: c :: d :: e :: t
  | a :: b :: c :: d :: e :: t, _ => ⟨a, b, c, d, e, t, rfl⟩
  | [], h | [_], h | [_, _], h | [_, _, _], h | [_, _, _, _], h => by simp at h

/-- limbs within `±A`, the `n` folded limbs within `±X`: no overflow; every fold widens the bound by `2^20·X`; the value changes by
    `−δ·val21 xs` (a limb at position `j + 12` is worth `2^252·2^(21j) ≡ −δ·2^(21j)`) -/
theorem foldW_spec (X : Int) (hX : 0 ≤ X ∧ X ≤ 2^40) : ∀ (xs as : List Int) (A : Int) (n : Nat), xs.length = n →
    (∀ a ∈ as, -A ≤ a ∧ a ≤ A) → (∀ x ∈ xs, -X ≤ x ∧ x ≤ X) → n + 5 ≤ as.length → grow (2^20 * X) A n ≤ 2^62 →
    (∀ {β} (k : List Int → Option β), foldW as xs k = k (foldV as xs)) ∧ (foldV as xs).length = as.length ∧
      (∀ a ∈ foldV as xs, -(grow (2^20 * X) A n) ≤ a ∧ a ≤ grow (2^20 * X) A n) ∧
      val21 (foldV as xs) = val21 as - δ * val21 xs
  | [], as, A, _, hn, ha, _, _, _ => by
    subst hn
    rw [foldV_nil]
    exact ⟨fun k => foldW_nil as k, rfl, ha, by simp [val21]⟩
  | x :: xs, [], _, _, _, _, _, hl, _ => by simp at hl
  | x :: xs, a0 :: rest, A, _, hn, ha, hx, hl, hg => by
    subst hn
    have hG : (0 : Int) ≤ 2^20 * X := by omega
    simp only [List.length_cons, grow] at hl hg ⊢
    obtain ⟨hk, hlen, hb, hv⟩ := foldW_spec X hX xs rest A _ rfl (fun a h => ha a (List.mem_cons_of_mem _ h))
      (fun y h => hx y (List.mem_cons_of_mem _ h)) (by omega) (by omega)
    obtain ⟨a1, a2, a3, a4, a5, t, hr⟩ := exists_five (foldV rest xs) (by omega)
    have e0 : foldV (a0 :: rest) (x :: xs) = win6 a0 a1 a2 a3 a4 a5 x t := by rw [foldV, hr]
    rw [e0]
    rw [hr] at hk hlen hb hv
    have h0 := ha a0 (List.mem_cons_self ..)
    have hm := le_grow hG (A := A) xs.length
    obtain ⟨e, hbb, hvv⟩ := fold6_ok (a0 := a0) (hx x (List.mem_cons_self ..)) hX.2 hg
      (List.forall_mem_cons.2 ⟨by omega, fun a h => hb a (List.mem_append_left t h)⟩)
    refine ⟨fun k => ?_, by simpa [win6] using hlen, ?_, ?_⟩
    · rw [foldW_cons, hk]; exact e _
    · exact List.forall_mem_append (l₁ := win6 a0 a1 a2 a3 a4 a5 x []).2 ⟨hbb,
        fun a h => by have := hb a (List.mem_append_right [a1, a2, a3, a4, a5] h); omega⟩
    · rw [hvv t]; simp only [val21] at hv ⊢; rw [hv]; ring

/-- rounded carry: `c = ⌊(s + 2^20) / 2^21⌋` leaves `s − c·2^21 ∈ [−2^20, 2^20)` -/
theorem carryR_bind {β} (s sn : Int) (hs : -2^62 ≤ s ∧ s ≤ 2^62) (hn : -2^62 ≤ sn ∧ sn ≤ 2^62) (f : Int × Int → Option β) :
    (carryR s sn >>= f) = f (s - (s + 2^20) / 2^21 * 2^21, sn + (s + 2^20) / 2^21) := by
  unfold carryR
  have hw : shl64 (shr (s + 2^20) 21) 21 = (s + 2^20) / 2^21 * 2^21 := by
    unfold shl64 shr; exact wrap64_eq (by omega)
  rw [bind_assoc, add64_bind _ _ _ (by omega)]
  simp only [shr] at hw ⊢
  rw [bind_assoc, add64_bind _ _ _ (by omega), hw, bind_assoc, sub64_bind _ _ _ (by omega)]
  rfl

/-- floor carry: `c = ⌊s / 2^21⌋` leaves `s − c·2^21 ∈ [0, 2^21)` -/
theorem carryF_bind {β} (s sn : Int) (hs : -2^62 ≤ s ∧ s ≤ 2^62) (hn : -2^62 ≤ sn ∧ sn ≤ 2^62) (f : Int × Int → Option β) :
    (carryF s sn >>= f) = f (s - s / 2^21 * 2^21, sn + s / 2^21) := by
  unfold carryF
  have hw : shl64 (shr s 21) 21 = s / 2^21 * 2^21 := by
    unfold shl64 shr; exact wrap64_eq (by omega)
  simp only [shr] at hw ⊢
  rw [bind_assoc, add64_bind _ _ _ (by omega), hw, bind_assoc, sub64_bind _ _ _ (by omega)]
  rfl

abbrev Bd : List Int → List Int → Prop := Limbs.All₂ Within

theorem Bd.of_all {X : Int} : ∀ {l : List Int} {n : Nat}, l.length = n → (∀ x ∈ l, -X ≤ x ∧ x ≤ X) → Bd l (List.replicate n X)
  | [], _, hn, _ => by subst hn; exact .nil
  | a :: _, _, hn, h => by
    subst hn
    exact .cons (h a (List.mem_cons_self ..)) (Bd.of_all rfl fun x hx => h x (List.mem_cons_of_mem _ hx))

theorem Bd.all {Z : Int} : ∀ {l bs : List Int}, Bd l bs → (∀ b ∈ bs, b ≤ Z) → ∀ x ∈ l, -Z ≤ x ∧ x ≤ Z
  | _, _, .nil, _, _, hx => nomatch hx
  | _, _, .cons (b := b) h t, hZ, x, hx => by
    rcases List.mem_cons.1 hx with rfl | hx
    · have := hZ b (List.mem_cons_self ..); omega
    · exact Bd.all t (fun b hb => hZ b (List.mem_cons_of_mem _ hb)) x hx

theorem Bd.val : ∀ {l bs : List Int}, Bd l bs → -val21 bs ≤ val21 l ∧ val21 l ≤ val21 bs
  | _, _, .nil => by simp [val21]
  | _, _, .cons h t => by have := Bd.val t; simp only [val21]; omega

/-- a round of independent rounded carries `(s, sn) ← carryR s sn` on the pairs of a list (a last limb without partner stays),
    continuation form -/
def pairsR {β} : List Int → (List Int → Option β) → Option β
  | s :: sn :: rest, k => carryR s sn >>= fun p => pairsR rest fun r => k (p.1 :: p.2 :: r)
  | l, k => k l

def pairsV : List Int → List Int
  | s :: sn :: rest => (s - (s + 2^20) / 2^21 * 2^21) :: (sn + (s + 2^20) / 2^21) :: pairsV rest
  | l => l

/-- the bounds after such a round: the limb carried out of is left within ±2^20, a carry out of ±X is within ±(X/2^21 + 2) -/
def pairsB : List Int → List Int
  | x :: y :: r => 2^20 :: (y + (x / 2^21 + 2)) :: pairsB r
  | l => l

theorem pairsR_spec : ∀ {l bs : List Int}, Bd l bs → (∀ b ∈ bs, b ≤ 2^62) →
    (∀ {β} (k : List Int → Option β), pairsR l k = k (pairsV l)) ∧ val21 (pairsV l) = val21 l ∧ Bd (pairsV l) (pairsB bs)
  | _, _, .nil, _ => ⟨fun _ => rfl, rfl, .nil⟩
  | _, _, .cons h .nil, _ => ⟨fun _ => rfl, rfl, .cons h .nil⟩
  | _, _, .cons (a := s) (b := X) hs (.cons (a := sn) (b := Y) hn hrest), hb => by
    have hX := hb X (List.mem_cons_self ..)
    have hY := hb Y (List.mem_cons_of_mem _ (List.mem_cons_self ..))
    obtain ⟨er, hv, hr⟩ := pairsR_spec hrest fun b h => hb b (List.mem_cons_of_mem _ (List.mem_cons_of_mem _ h))
    refine ⟨fun k => ?_, ?_, .cons (by omega) (.cons (by omega) hr)⟩
    · simp only [pairsR, pairsV]
      rw [carryR_bind s sn (by omega) (by omega), er]
    · simp only [pairsV, val21]
      rw [hv]
      ring

/-- two rounds: carries out of the limbs at even positions, then out of those at odd positions -/
def twoR {β} (l : List Int) (k : List Int → Option β) : Option β :=
  pairsR l fun l1 => match l1 with
    | a :: m => pairsR m fun m' => k (a :: m')
    | [] => k []

def twoV (l : List Int) : List Int :=
  match pairsV l with
  | a :: m => a :: pairsV m
  | [] => []

def twoB (bs : List Int) : List Int :=
  match pairsB bs with
  | a :: m => a :: pairsB m
  | [] => []

theorem twoR_spec (l bs : List Int) (h : Bd l bs) (h1 : ∀ b ∈ bs, b ≤ 2^62) (h2 : ∀ b ∈ pairsB bs, b ≤ 2^62) :
    (∀ {β} (k : List Int → Option β), twoR l k = k (twoV l)) ∧ val21 (twoV l) = val21 l ∧ Bd (twoV l) (twoB bs) := by
  obtain ⟨e1, v1, b1⟩ := pairsR_spec h h1
  unfold twoR twoV twoB
  generalize pairsB bs = cs at h2 b1
  generalize pairsV l = l1 at e1 v1 b1
  cases b1 with
  | nil => exact ⟨fun k => by rw [e1], v1, .nil⟩
  | cons ha hm =>
    obtain ⟨e2, v2, b2⟩ := pairsR_spec hm fun b hb => h2 b (List.mem_cons_of_mem _ hb)
    refine ⟨fun k => by rw [e1]; exact e2 _, ?_, .cons ha b2⟩
    rw [← v1]
    simp only [val21]
    rw [v2]

theorem pairsV_length : ∀ l : List Int, (pairsV l).length = l.length
  | [] | [_] => rfl
  | _ :: _ :: rest => by simp only [pairsV, List.length_cons, pairsV_length rest]

theorem twoV_length (l : List Int) : (twoV l).length = l.length := by
  have h := pairsV_length l
  unfold twoV
  cases hp : pairsV l with
  | nil => rw [hp] at h; exact h
  | cons a m => rw [hp] at h; simp only [List.length_cons, pairsV_length] at h ⊢; exact h

/-- the sequential floor carries `(h, s₁) ← carryF h s₁; (s₁, s₂) ← carryF s₁ s₂; …` along a list, continuation form -/
def chainF {β} (h : Int) : List Int → (List Int → Option β) → Option β
  | sn :: rest, k => carryF h sn >>= fun p => chainF p.2 rest fun r => k (p.1 :: r)
  | [], k => k [h]

/-- what the chain makes of the list: the digits and the top limb, which has taken the last carry -/
def chainV (h : Int) : List Int → List Int × Int
  | sn :: rest => ((h - h / 2^21 * 2^21) :: (chainV (sn + h / 2^21) rest).1, (chainV (sn + h / 2^21) rest).2)
  | [] => ([], h)

theorem chainF_spec : ∀ (rest : List Int) (h : Int), (-2^61 ≤ h ∧ h ≤ 2^61) → (∀ x ∈ rest, -2^60 ≤ x ∧ x ≤ 2^60) →
    (∀ {β} (k : List Int → Option β), chainF h rest k = k ((chainV h rest).1 ++ [(chainV h rest).2])) ∧
      (chainV h rest).1.length = rest.length ∧ (∀ d ∈ (chainV h rest).1, 0 ≤ d ∧ d < 2^21) ∧
      val21 ((chainV h rest).1 ++ [(chainV h rest).2]) = val21 (h :: rest)
  | [], h, _, _ => ⟨fun _ => rfl, rfl, fun _ hd => (nomatch hd), rfl⟩
  | sn :: rest, h, hh, hr => by
    have hn := hr sn (List.mem_cons_self ..)
    obtain ⟨er, hlen, hd, hv⟩ := chainF_spec rest (sn + h / 2^21) (by omega) fun x hx => hr x (List.mem_cons_of_mem _ hx)
    refine ⟨fun k => ?_, by simp only [chainV, List.length_cons, hlen], List.forall_mem_cons.2 ⟨by omega, hd⟩, ?_⟩
    · simp only [chainF, chainV]
      rw [carryF_bind h sn (by omega) (by omega), er]
      rfl
    · simp only [chainV, List.cons_append, val21] at hv ⊢
      rw [hv]
      ring

end Cx.Proofs.Scalar32
