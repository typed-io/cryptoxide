/-
  Proofs.Scalar32ReduceB — the reduction tail shared by `reduce_limbs` (ref10 sc_reduce) and `muladd_limbs` (sc_muladd)
  of Impl/Scalar32.lean, as a program on limb LISTS.  Its eight stages (fold s23..s18, carry, fold s17..s12, carry, fold
  s12, floor carries, fold s12, floor carries) are three kinds of step of Scalar32ReduceA: `foldTop` (the limbs from
  position 12 on folded into the twelve below: `foldW`), `twoR` (two rounds of rounded carries) and `chainF` (floor
  carries); `tailK` (K = 2 … 8) is the program from stage K on, `redL` the whole, and `reduce_limbs s0 … s23 = redL [s0, …, s23]`
  by conversion (`reduce_limbs_eq`).  `tailK_spec` is proved from `tail(K+1)_spec` for ANY list of the stage's length:
  inside the stated bounds no checked i64 operation overflows and the result is fully carried, in [0, L) and congruent
  modulo L to the NUMBER `val21 l` on entry (the multiple of L is existentially quantified, so congruences compose): a
  carry stage keeps `val21`, a fold takes `L·val21 (l.drop 12)` off; no stage lemma looks at a single carry or names a limb.
  Bounds are uniform per stage: all limbs within ±2^33 on entry, ±2^56 after the first fold (the limb s17, which the
  fold does not touch, still ±2^33), ±2^36 after the first carries, ±2^59 after the second fold, ±2^39 after the second
  carries.  After those the top limb is a rounded remainder, so the value is within ±2^252 (the value of the bounds,
  evaluated); one round of floor carries leaves a top carry in {−1, 0}, and folding it adds L exactly when the value was
  negative: the result is in [0, L).
-/
import CxVerif.Proofs.Scalar32ReduceA
import CxVerif.Proofs.KernelRfl
namespace Cx.Proofs.Scalar32
open Cx Cx.Impl.Scalar32
open Cx.Proofs.Fe32 (Within)
set_option exponentiation.threshold 600

theorem lin12_val21 (x0 x1 x2 x3 x4 x5 x6 x7 x8 x9 x10 x11 : Int) :
    lin12 x0 x1 x2 x3 x4 x5 x6 x7 x8 x9 x10 x11 = val21 [x0, x1, x2, x3, x4, x5, x6, x7, x8, x9, x10, x11] := by
  unfold lin12
  simp only [val21]
  ring

def mk12 : List Int → Option S12
  | [s0, s1, s2, s3, s4, s5, s6, s7, s8, s9, s10, s11] => some ⟨s0, s1, s2, s3, s4, s5, s6, s7, s8, s9, s10, s11⟩
  | _ => none

def toL (t : S12) : List Int := [t.s0, t.s1, t.s2, t.s3, t.s4, t.s5, t.s6, t.s7, t.s8, t.s9, t.s10, t.s11]

theorem mk12_spec : ∀ (l : List Int), l.length = 12 → ∃ t, mk12 l = some t ∧ toL t = l
  | [_, _, _, _, _, _, _, _, _, _, _, _], _ => ⟨_, rfl, rfl⟩

theorem val12_toL (t : S12) : val12 t = val21 (toL t) := lin12_val21 ..

theorem digits12_toL (t : S12) {ds : List Int} {top : Int} (h : toL t = ds ++ [top]) (hl : ds.length = 11)
    (hd : ∀ d ∈ ds, 0 ≤ d ∧ d < 2^21) (ht : 0 ≤ top ∧ top < 2^22) : Digits12 t := by
  obtain ⟨rfl, h2⟩ := List.append_inj' (show [t.s0, t.s1, t.s2, t.s3, t.s4, t.s5, t.s6, t.s7, t.s8, t.s9, t.s10] ++ [t.s11] = ds ++ [top] from h) rfl
  obtain rfl := List.singleton_inj.1 h2
  simp only [List.mem_cons, List.not_mem_nil, or_false, forall_eq_or_imp, forall_eq] at hd
  obtain ⟨k0, k1, k2, k3, k4, k5, k6, k7, k8, k9, k10⟩ := hd
  exact ⟨k0, k1, k2, k3, k4, k5, k6, k7, k8, k9, k10, ht⟩

def foldTop {β} (l : List Int) (k : List Int → Option β) : Option β := foldW (l.take 12) (l.drop 12) k
def topV (l : List Int) : List Int := foldV (l.take 12) (l.drop 12)

theorem foldTop_spec (A X : Int) (n : Nat) (l : List Int) (hl : l.length = 12 + n) (hn : n ≤ 7) (hX : 0 ≤ X ∧ X ≤ 2^40)
    (ha : ∀ a ∈ l.take 12, -A ≤ a ∧ a ≤ A) (hx : ∀ x ∈ l.drop 12, -X ≤ x ∧ x ≤ X) (hg : grow (2^20 * X) A n ≤ 2^62) :
    (∀ {β} (k : List Int → Option β), foldTop l k = k (topV l)) ∧ (topV l).length = 12 ∧
      (∀ a ∈ topV l, -(grow (2^20 * X) A n) ≤ a ∧ a ≤ grow (2^20 * X) A n) ∧ val21 (topV l) = val21 l - LI * val21 (l.drop 12) := by
  have h12 : (l.take 12).length = 12 := by rw [List.length_take]; omega
  obtain ⟨hk, hlen, hb, hv⟩ := foldW_spec X hX (l.drop 12) (l.take 12) A n (by rw [List.length_drop]; omega) ha hx (by omega) hg
  refine ⟨hk, hlen.trans h12, hb, ?_⟩
  rw [topV, hv, val21_split l 12 (by omega)]
  unfold LI δ
  ring

def tail8 : List Int → Option S12
  | h :: rest => chainF h rest mk12
  | [] => none

/-- the top limb is a digit below 2^22 because the value is in [0, L) and the eleven digits under it are below 2^231 -/
theorem tail8_spec : ∀ (l : List Int), l.length = 12 → (∀ x ∈ l, -2^60 ≤ x ∧ x ≤ 2^60) → (0 ≤ val21 l ∧ val21 l < LI) →
    ∃ t, tail8 l = some t ∧ Digits12 t ∧ val12 t = val21 l
  | h :: rest, hl, hb, hr => by
    obtain ⟨hk, hlen, hd, hv⟩ := chainF_spec rest h (Within.mono (hb h (List.mem_cons_self ..)) (by decide))
      fun x hx => hb x (List.mem_cons_of_mem _ hx)
    have hlen' : (chainV h rest).1.length = 11 := hlen.trans (Nat.succ.inj hl)
    obtain ⟨t, e, ht⟩ := mk12_spec ((chainV h rest).1 ++ [(chainV h rest).2]) (by rw [List.length_append, hlen']; rfl)
    have hD := val21_dig _ 11 hlen' hd
    have hs := (val21_snoc _ _ 11 hlen').symm.trans hv
    simp only [Nat.reduceMul] at hs hD
    rw [← hs] at hr
    unfold LI δ at hr
    exact ⟨t, (hk _).trans e, digits12_toL t ht hlen' hd (by omega), (val12_toL t).trans (ht ▸ hv)⟩

theorem top_single {l : List Int} (hl : l.length = 13) : ∃ x, l.drop 12 = [x] ∧ val21 (l.drop 12) = x := by
  obtain ⟨x, hx⟩ := List.length_eq_one_iff.1 (show (l.drop 12).length = 1 by rw [List.length_drop, hl])
  exact ⟨x, hx, by rw [hx]; simp [val21]⟩

def tail7 (l : List Int) : Option S12 := foldTop l tail8

/-- digits `G < 2^252` under a top carry `g`, together within ±2^252: then `g ∈ {−1, 0}`, and folding `g` gives
    `G − (L − 2^252)·g`, which is the value, or the value + L if it was negative: in [0, L) either way -/
theorem tail7_spec (l : List Int) (hl : l.length = 13) (hd : ∀ x ∈ l.take 12, 0 ≤ x ∧ x < 2^21)
    (hV : -2^252 < val21 l ∧ val21 l < 2^252) :
    ∃ t, tail7 l = some t ∧ Digits12 t ∧ val12 t = val21 l - LI * val21 (l.drop 12) ∧ (0 ≤ val12 t ∧ val12 t < LI) := by
  have hG := val21_dig _ 12 (by rw [List.length_take, hl]; rfl) hd
  have hs := val21_split l 12 (by omega)
  obtain ⟨g, hg, hgv⟩ := top_single hl
  simp only [Nat.reduceMul] at hs hG
  rw [hgv] at hs ⊢
  rw [hs] at hV
  obtain ⟨hk, hlen, hb, hv⟩ := foldTop_spec (2^21) 1 1 l hl (by decide) (by decide)
    (fun a h => by have := hd a h; omega) (fun x h => by rw [hg, List.mem_singleton] at h; omega) (by decide)
  rw [hgv] at hv
  obtain ⟨t, ht, hdg, hv'⟩ := tail8_spec (topV l) hlen (fun x h => Within.mono (hb x h) (by decide)) (by rw [hv, hs]; unfold LI δ; omega)
  exact ⟨t, (hk _).trans ht, hdg, hv'.trans hv, by rw [hv', hv, hs]; unfold LI δ; omega⟩

def tail6 : List Int → Option S12
  | h :: rest => chainF h (rest ++ [0]) tail7
  | [] => none

theorem tail6_spec : ∀ (l : List Int), l.length = 12 → (∀ x ∈ l, -2^60 ≤ x ∧ x ≤ 2^60) → (-2^252 < val21 l ∧ val21 l < 2^252) →
    ∃ t q, tail6 l = some t ∧ Digits12 t ∧ val12 t = val21 l - LI * q ∧ (0 ≤ val12 t ∧ val12 t < LI)
  | h :: rest, hl, hb, hr => by
    obtain ⟨hk, hlen, hd, hv⟩ := chainF_spec (rest ++ [0]) h (Within.mono (hb h (List.mem_cons_self ..)) (by decide))
      (List.forall_mem_append.2 ⟨fun x hx => hb x (List.mem_cons_of_mem _ hx), List.forall_mem_singleton.2 (by decide)⟩)
    have hlen' : (chainV h (rest ++ [0])).1.length = 12 := by rw [hlen, List.length_append]; exact hl
    replace hv := hv.trans (val21_snoc_zero (h :: rest))
    obtain ⟨t, ht, hdg, hv', hrg⟩ := tail7_spec _ (by rw [List.length_append, hlen']; rfl)
      (by rw [← hlen', List.take_left']; exact hd; rfl) (hv ▸ hr)
    exact ⟨t, _, (hk _).trans ht, hdg, hv'.trans (congrArg (· - LI * _) hv), hrg⟩

def tail5 (l : List Int) : Option S12 := foldTop l tail6

/-- thirteen limbs within a list of bounds `bs`, all at most 2^39, such that the twelve low bounds have a value below 2^252
    less the fold of the top limb: after the fold the value is within ±2^252 -/
theorem tail5_spec (l bs : List Int) (hl : l.length = 13) (hb : Bd l bs) (h1 : ∀ b ∈ bs, b ≤ 2^39 := by decide)
    (h2 : val21 (bs.take 12) + δ * 2^39 < 2^252 := by decide) :
    ∃ t q, tail5 l = some t ∧ Digits12 t ∧ val12 t = val21 l - LI * q ∧ (0 ≤ val12 t ∧ val12 t < LI) := by
  have ha := hb.all h1
  have hr := Bd.val (hb.take 12)
  have hs := val21_split l 12 (by omega)
  obtain ⟨g, hg, hgv⟩ := top_single hl
  have h12 := ha g (List.mem_of_mem_drop (hg ▸ List.mem_singleton_self g))
  obtain ⟨hk, hlen, ho, hv⟩ := foldTop_spec (2^39) (2^39) 1 l hl (by decide) (by decide)
    (fun a h => ha a (List.mem_of_mem_take h)) (fun x h => ha x (List.mem_of_mem_drop h)) (by decide)
  simp only [Nat.reduceMul] at hs
  rw [hgv] at hs hv
  obtain ⟨t, q, ht, hdg, hv', hrg⟩ := tail6_spec (topV l) hlen (fun x h => Within.mono (ho x h) (by decide))
    (by rw [hv, hs]; unfold LI δ at *; omega)
  exact ⟨t, q + g, (hk _).trans ht, hdg, by rw [hv', hv]; ring, hrg⟩

def tail4 (l : List Int) : Option S12 := twoR (l ++ [0]) tail5

theorem tail4_spec (l : List Int) (hl : l.length = 12) (hb : ∀ x ∈ l, -2^59 ≤ x ∧ x ≤ 2^59) :
    ∃ t q, tail4 l = some t ∧ Digits12 t ∧ val12 t = val21 l - LI * q ∧ (0 ≤ val12 t ∧ val12 t < LI) := by
  obtain ⟨hk, hv, hbd⟩ := twoR_spec (l ++ [0]) (List.replicate 12 (2^59) ++ [0])
    ((Bd.of_all hl hb).append (.cons (by decide) .nil)) (by decide) (by decide)
  obtain ⟨t, q, ht, hdg, hv', hrg⟩ := tail5_spec _ _ (by rw [twoV_length, List.length_append, hl]; rfl) hbd
  exact ⟨t, q, (hk _).trans ht, hdg, hv'.trans (congrArg (· - LI * q) (hv.trans (val21_snoc_zero l))), hrg⟩

def tail3 (l : List Int) : Option S12 := foldTop l tail4

theorem tail3_spec (l : List Int) (hl : l.length = 18) (hb : ∀ x ∈ l, -2^36 ≤ x ∧ x ≤ 2^36) :
    ∃ t q, tail3 l = some t ∧ Digits12 t ∧ val12 t = val21 l - LI * q ∧ (0 ≤ val12 t ∧ val12 t < LI) := by
  obtain ⟨hk, hlen, ho, hv⟩ := foldTop_spec (2^36) (2^36) 6 l hl (by decide) (by decide)
    (fun a h => hb a (List.mem_of_mem_take h)) (fun x h => hb x (List.mem_of_mem_drop h)) (by decide)
  obtain ⟨t, q, ht, hdg, hv', hrg⟩ := tail4_spec (topV l) hlen fun x h => Within.mono (ho x h) (by decide)
  exact ⟨t, q + val21 (l.drop 12), (hk _).trans ht, hdg, by rw [hv', hv]; ring, hrg⟩

def tail2 (lo m : List Int) : Option S12 := twoR m fun m' => tail3 (lo ++ m')

theorem tail2_spec (lo m : List Int) (hlo : lo.length = 6) (hm : m.length = 12) (hs : ∀ x ∈ lo, -2^33 ≤ x ∧ x ≤ 2^33)
    (hb : Bd m (List.replicate 11 (2^56) ++ [2^33])) :
    ∃ t q, tail2 lo m = some t ∧ Digits12 t ∧ val12 t = val21 (lo ++ m) - LI * q ∧ (0 ≤ val12 t ∧ val12 t < LI) := by
  obtain ⟨hk, hv, hbd⟩ := twoR_spec m _ hb (by decide) (by decide)
  obtain ⟨t, q, ht, hdg, hv', hrg⟩ := tail3_spec (lo ++ twoV m) (by rw [List.length_append, twoV_length, hlo, hm])
    (List.forall_mem_append.2 ⟨fun x h => Within.mono (hs x h) (by decide), hbd.all (by decide)⟩)
  exact ⟨t, q, (hk _).trans ht, hdg, hv'.trans (congrArg (· - LI * q) (val21_append_congr lo hv)), hrg⟩

/-- a fold stage on numbers: limbs `lo`, then the eleven limbs `as` that change, the limb `m` above them, and the folded
    limbs `xs` above that, twelve positions above `as` -/
theorem val21_fold (lo : List Int) {as as' xs : List Int} (m : Int) (hl : as.length = 11) (hl' : as'.length = 11)
    (hv : val21 as' = val21 as - δ * val21 xs) :
    val21 (lo ++ (as' ++ [m])) = val21 (lo ++ (as ++ m :: xs)) - LI * (2^(21 * lo.length) * val21 xs) := by
  rw [val21_append lo, val21_append lo, val21_append as', val21_append as, hl, hl', hv]
  simp only [val21]
  unfold LI δ
  ring

/-- the whole reduction on the 24 limbs `lo ++ mid ++ s :: hi` (6, 11, 1, 6 limbs) -/
def red1 (lo mid : List Int) (s : Int) (hi : List Int) : Option S12 := foldW mid hi fun m => tail2 lo (m ++ [s])

theorem red1_spec (lo mid : List Int) (s : Int) (hi : List Int) (hlo : lo.length = 6) (hmid : mid.length = 11) (hhi : hi.length = 6)
    (hb : ∀ x ∈ lo ++ (mid ++ s :: hi), -2^33 ≤ x ∧ x ≤ 2^33) :
    ∃ t q, red1 lo mid s hi = some t ∧ Digits12 t ∧ val12 t = val21 (lo ++ (mid ++ s :: hi)) - LI * q ∧ (0 ≤ val12 t ∧ val12 t < LI) := by
  have hb2 := (List.forall_mem_append.1 hb).2
  have hb3 := (List.forall_mem_append.1 hb2).2
  obtain ⟨hk, hlen, ho, hv⟩ := foldW_spec (2^33) (by decide) hi mid (2^33) 6 hhi (List.forall_mem_append.1 hb2).1
    (fun x h => hb3 x (List.mem_cons_of_mem _ h)) (by rw [hmid]) (by decide)
  obtain ⟨t, q, ht, hdg, hv', hrg⟩ := tail2_spec lo (foldV mid hi ++ [s]) hlo (by rw [List.length_append, hlen, hmid]; rfl)
    (List.forall_mem_append.1 hb).1
    ((Bd.of_all (hlen.trans hmid) fun x h => Within.mono (ho x h) (by decide)).append (.cons (hb3 s (List.mem_cons_self ..)) .nil))
  exact ⟨t, q + 2^(21 * lo.length) * val21 hi, (hk _).trans ht, hdg,
    by rw [hv', val21_fold lo s hmid (hlen.trans hmid) hv]; ring, hrg⟩

theorem split24 (l : List Int) (hl : l.length = 24) :
    l = l.take 6 ++ ((l.drop 6).take 11 ++ l.getD 17 0 :: l.drop 18) := by
  have h17 : 17 < l.length := by omega
  rw [List.getD_eq_getElem?_getD, List.getElem?_eq_getElem h17, Option.getD_some, ← List.drop_eq_getElem_cons h17,
    show l.drop 17 = (l.drop 6).drop 11 by rw [List.drop_drop], List.take_append_drop, List.take_append_drop]

def redL (l : List Int) : Option S12 := red1 (l.take 6) ((l.drop 6).take 11) (l.getD 17 0) (l.drop 18)

theorem redL_spec (l : List Int) (hl : l.length = 24) (hb : ∀ x ∈ l, -2^33 ≤ x ∧ x ≤ 2^33) :
    ∃ t q, redL l = some t ∧ Digits12 t ∧ val12 t = val21 l - LI * q ∧ (0 ≤ val12 t ∧ val12 t < LI) := by
  have e := split24 l hl
  have h := red1_spec (l.take 6) ((l.drop 6).take 11) (l.getD 17 0) (l.drop 18) (by rw [List.length_take, hl]; rfl)
    (by rw [List.length_take, List.length_drop, hl]; rfl) (by rw [List.length_drop, hl]) (e ▸ hb)
  rwa [← e] at h

theorem lin24_val21 (x0 x1 x2 x3 x4 x5 x6 x7 x8 x9 x10 x11 x12 x13 x14 x15 x16 x17 x18 x19 x20 x21 x22 x23 : Int) :
    lin24 x0 x1 x2 x3 x4 x5 x6 x7 x8 x9 x10 x11 x12 x13 x14 x15 x16 x17 x18 x19 x20 x21 x22 x23 =
      val21 [x0, x1, x2, x3, x4, x5, x6, x7, x8, x9, x10, x11, x12, x13, x14, x15, x16, x17, x18, x19, x20, x21, x22, x23] := by
  unfold lin24
  simp only [val21]
  ring

theorem reduce_limbs_eq (s0 s1 s2 s3 s4 s5 s6 s7 s8 s9 s10 s11 s12 s13 s14 s15 s16 s17 s18 s19 s20 s21 s22 s23 : Int) :
    reduce_limbs s0 s1 s2 s3 s4 s5 s6 s7 s8 s9 s10 s11 s12 s13 s14 s15 s16 s17 s18 s19 s20 s21 s22 s23 = redL [s0, s1, s2, s3, s4, s5, s6, s7, s8,
        s9, s10, s11, s12, s13, s14, s15, s16, s17, s18, s19, s20, s21, s22, s23] := by
  kernel_rfl

/-- **the reduction tail** (`reduce_limbs` = ref10 sc_reduce after the loads = the tail of sc_muladd): for limbs within
    ±2^33 NO checked i64 operation overflows, the result is fully carried, its value differs from the 24-limb input
    value by a multiple of L, and it lies in [0, L) -/
theorem reduce_limbs_spec (s0 s1 s2 s3 s4 s5 s6 s7 s8 s9 s10 s11 s12 s13 s14 s15 s16 s17 s18 s19 s20 s21 s22 s23 : Int)
    (hb : ∀ x ∈ [s0, s1, s2, s3, s4, s5, s6, s7, s8, s9, s10, s11, s12, s13, s14, s15, s16, s17, s18, s19, s20, s21, s22, s23], -2^33 ≤ x ∧
        x ≤ 2^33) :
    ∃ (t : S12) (q : Int), reduce_limbs s0 s1 s2 s3 s4 s5 s6 s7 s8 s9 s10 s11 s12 s13 s14 s15 s16 s17 s18 s19 s20 s21 s22 s23 = some t ∧ Digits12 t ∧
      val12 t = lin24 s0 s1 s2 s3 s4 s5 s6 s7 s8 s9 s10 s11 s12 s13 s14 s15 s16 s17 s18 s19 s20 s21 s22 s23 - LI * q ∧ (0 ≤ val12 t ∧ val12 t < LI) := by
  obtain ⟨t, q, ht, hdg, hv, hrg⟩ := redL_spec [s0, s1, s2, s3, s4, s5, s6, s7, s8, s9, s10, s11, s12, s13, s14, s15, s16, s17, s18, s19, s20, s21,
      s22, s23] rfl hb
  exact ⟨t, q, (reduce_limbs_eq ..).trans ht, hdg, hv.trans (congrArg (· - LI * q) (lin24_val21 ..).symm), hrg⟩

end Cx.Proofs.Scalar32
