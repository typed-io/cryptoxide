/-
  Proofs.Scalar32ReduceC — the byte level of `reduce_from_wide_bytes` / `muladd` of Impl/Scalar32.lean:
  the 24 (12) load expressions as radix-2^21 digits of the little-endian integer (`load_dig`: a 21-bit window of a
  3- or 4-byte load, shifted and masked; `load_dig0`: the same for shift 0, where the source has no shift; `load_top`:
  the last load, shifted and not masked, is all that is left above the digits), the recomposition of a number from its
  digits (`val21_digits`; `digs N n`: the list of the `n` low digits and the rest), and `pack`: it is the packing loop `LimbBytes.packG` on the
  twelve limbs at widths 21, …, 21, 22
  (`pack_eq`), so for fully carried limbs (`Digits12`) `pack t` is the 32-byte little-endian encoding of `val12 t`.
-/
import CxVerif.Proofs.Scalar32ReduceA
import CxVerif.Proofs.LimbBytes
import CxVerif.Proofs.Bits
namespace Cx.Proofs.Scalar32
open Cx Cx.Impl.Scalar32
open Cx.Impl.Fe32 (shl64 shr)
open Cx.Proofs.LimbBytes

def top (N k : Nat) : Int := ((N / 2^(21*k) : Nat) : Int)
def dig (N k : Nat) : Int := ((N / 2^(21*k) % 2^21 : Nat) : Int)

theorem top_zero (N : Nat) : top N 0 = N := by simp [top]

theorem top_step (N k : Nat) : top N k = dig N k + 2^21 * top N (k + 1) := by
  unfold top dig
  rw [Nat.mul_add, Nat.mul_one, Nat.pow_add, ← Nat.div_div_eq_div_mul]
  omega

theorem dig_bnd (N k : Nat) : 0 ≤ dig N k ∧ dig N k < 2^21 := by unfold dig; omega

theorem window21 (M w sh : Nat) (h : sh + 21 ≤ w) : M % 2^w / 2^sh % 2^21 = M / 2^sh % 2^21 := by
  simpa using Bits.field_field M 0 w sh 21 h

theorem div_bytes21 (N o sh k : Nat) (h : 8 * o + sh = 21 * k) : N / 256^o / 2^sh = N / 2^(21*k) := by
  rw [show 256 = 2^8 from rfl, ← Nat.pow_mul, Nat.div_div_eq_div_mul, ← Nat.pow_add, h]

theorem load_dig (N o w sh k : Nat) (h : 8 * o + sh = 21 * k) (hw : sh + 21 ≤ w) :
    (shr ((N / 256^o % 2^w : Nat) : Int) sh) % 2^21 = dig N k := by
  unfold shr dig
  rw [← div_bytes21 N o sh k h, ← window21 _ w sh hw]
  norm_cast

theorem load_dig0 (N o w k : Nat) (h : 8 * o + 0 = 21 * k) (hw : 0 + 21 ≤ w) :
    ((N / 256^o % 2^w : Nat) : Int) % 2^21 = dig N k := by
  have := load_dig N o w 0 k h hw
  unfold shr at this
  rwa [Int.pow_zero, Int.ediv_one] at this

theorem load_top (N o sh k n : Nat) (h : 8 * o + sh = 21 * k) (hn : n = 21 * k + (32 - sh)) (hs : sh ≤ 32) (hN : N < 2^n) :
    shr ((N / 256^o % 2^32 : Nat) : Int) sh = top N k := by
  unfold shr top
  have : N / 256^o < 2^32 := by
    subst hn
    rw [show 256 = 2^8 from rfl, ← Nat.pow_mul]
    apply Nat.div_lt_of_lt_mul
    rw [← Nat.pow_add]
    exact Nat.lt_of_lt_of_le hN (Nat.pow_le_pow_right (by decide) (by omega))
  rw [Nat.mod_eq_of_lt this, ← div_bytes21 N o sh k h]
  norm_cast

theorem val21_digits (N : Nat) : ∀ n k : Nat, val21 ((List.range' k n).map (dig N) ++ [top N (k + n)]) = top N k
  | 0, k => by simp [val21]
  | n + 1, k => by
    rw [List.range'_succ, List.map_cons, List.cons_append, val21, show k + (n + 1) = (k + 1) + n by omega,
      val21_digits N n (k + 1), ← top_step]

def digs (N n : Nat) : List Int := (List.range' 0 n).map (dig N) ++ [top N (0 + n)]

theorem val21_digs (N n : Nat) : val21 (digs N n) = N := (val21_digits N n 0).trans (top_zero N)

theorem digs_le (N n : Nat) {B : Int} (hB : 2^21 ≤ B) (ht : top N (0 + n) ≤ B) : ∀ x ∈ digs N n, 0 ≤ x ∧ x ≤ B := by
  refine List.forall_mem_append.2 ⟨fun x h => ?_, List.forall_mem_singleton.2 ⟨Int.natCast_nonneg _, ht⟩⟩
  obtain ⟨k, _, rfl⟩ := List.mem_map.1 h
  have := dig_bnd N k
  omega

theorem pack_eq (t : S12) : (pack t).toList = packG shl64 32 0 [(21, t.s0), (21, t.s1), (21, t.s2), (21, t.s3), (21, t.s4), (21, t.s5),
    (21, t.s6), (21, t.s7), (21, t.s8), (21, t.s9), (21, t.s10), (22, t.s11)] := rfl

theorem pack_spec (t : S12) (hd : Digits12 t) : (pack t).toList = natToLE 32 (val12 t).toNat := by
  rw [pack_eq, packG_zero u8or_shl64 32
    (by simp only [List.mem_cons, List.not_mem_nil, or_false, forall_eq_or_imp, forall_eq]; exact hd) rfl]
  refine congrArg (fun v => natToLE 32 (Int.toNat v)) ?_
  simp only [lval, val12, lin12]
  ring

end Cx.Proofs.Scalar32
