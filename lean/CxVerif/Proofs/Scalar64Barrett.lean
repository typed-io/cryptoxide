/-
  Proofs.Scalar64Barrett — `barrett_reduce256 q1 r1` returns `x mod L`, fully reduced, without overflow, for
  every 512-bit `x` with `q1 = x >> 248`, `r1 = x mod 2^264` (limbs within their bounds).
  The three schoolbook products of scalar64.rs (`mul`: `x·y`, here `μ·q1` and `q3·L`) are written with the same column
  text; `colsP x y` is that text once, with its column bounds (`cols_le`).  Each use is one weak carry pass
  (Proofs/Limbs.lean) over a window of the columns, and a pass writes the value of its columns in DIGITS
  (`Limbs.sums_digits`): the low 56 bits of the i-th sum are the field `N / 2^(56 i) % 2^56` of that number.  So the
  limbs the source cuts out of neighbouring sums are fields of the number again (`join56`, `join_top`, by
  Proofs/Bits.lean), and a result is named by the number it holds (`ofNat`), not by Horner equations:
    * `q3M_spec`: `q3 = T >> 96` where `T` is the value of the columns 3 … 8 of `μ·q1` (the code leaves out 0 … 2),
    * `r2M_spec`: `r2 =` the low 264 bits of the columns 0 … 4 of `q3·L`.
  What is left is arithmetic on numbers with literal coefficients (μ and L are numerals):
    * `barrett_est`: `q3 = ⌊⌊x/2^248⌋·μ / 2^264⌋` computed without the low columns satisfies q3·L ≤ x < q3·L + 2·L
      (so the second conditional subtraction is never needed; the code does two),
    * out = (r1 − r2) mod 2^264 = x − q3·L (`borrow_sum`, `sub_mod`), then two `reduce256` (`final_red`).
-/
import CxVerif.Proofs.Scalar64Basic
import CxVerif.Proofs.Limbs
import CxVerif.Proofs.Bits
namespace Cx.Proofs.Scalar64
open Cx Cx.Impl.Scalar64
open Cx.Proofs.Limbs (All₂ Step passM on4 on4_eq sums digits passM_sums passM_cons passM_nil pass_digits sums_digits pass_digits_cons col_le)
open Cx.Proofs.Bits (div_div_pow field_lt field_low field_high field_field field_add field_join)
-- not needed to compile: it lets `2^264 … 2^384` be evaluated where the default threshold (256) would only warn
set_option exponentiation.threshold 600

theorem and_mask (x k : Nat) : x &&& (2^k - 1) = x % 2^k := Nat.and_two_pow_sub_one_eq_mod x k

theorem val_fields (N t : Nat) :
    Scalar.val ⟨N % 2^56, N / 2^56 % 2^56, N / 2^112 % 2^56, N / 2^168 % 2^56, t⟩ = N % 2^224 + 2^224 * t := by
  have e := field_add N 0 56 168
  rw [Nat.pow_zero, Nat.div_one, field_add N 56 56 112, field_add N 112 56 56] at e
  simp only [Scalar.val, Nat.reduceAdd] at e ⊢
  omega

def ofNat (n : Nat) : Scalar := ⟨n % 2^56, n / 2^56 % 2^56, n / 2^112 % 2^56, n / 2^168 % 2^56, n / 2^224⟩

theorem val_ofNat (n : Nat) : (ofNat n).val = n := by rw [ofNat, val_fields, Nat.mod_add_div]

theorem ofNat_div (N o : Nat) : ofNat (N / 2^o) =
    ⟨N / 2^o % 2^56, N / 2^(o + 56) % 2^56, N / 2^(o + 112) % 2^56, N / 2^(o + 168) % 2^56, N / 2^(o + 224)⟩ := by
  simp only [ofNat, div_div_pow]

theorem ofNat_mod (N k : Nat) (hk : k ≤ 56 := by decide) :
    ofNat (N % 2^(224 + k)) = ⟨N % 2^56, N / 2^56 % 2^56, N / 2^112 % 2^56, N / 2^168 % 2^56, N / 2^224 % 2^k⟩ := by
  have f := fun s (h : s + 56 ≤ 224 + k) => field_field N 0 (224 + k) s 56 h
  have g := field_high N 0 224 k
  simp only [Nat.pow_zero, Nat.div_one, Nat.zero_add] at f g
  rw [ofNat, f 56 (by omega), f 112 (by omega), f 168 (by omega), Nat.mod_mod_of_dvd N (Nat.pow_dvd_pow 2 (by omega)), g]

def Lim (s : Scalar) : Prop := s.l0 < 2^56 ∧ s.l1 < 2^56 ∧ s.l2 < 2^56 ∧ s.l3 < 2^56 ∧ s.l4 < 2^56

theorem ofNat_lt {n k : Nat} (h : n < 2^(224 + k)) :
    (ofNat n).l0 < 2^56 ∧ (ofNat n).l1 < 2^56 ∧ (ofNat n).l2 < 2^56 ∧ (ofNat n).l3 < 2^56 ∧ (ofNat n).l4 < 2^k :=
  ⟨Nat.mod_lt _ (by decide), field_lt .., field_lt .., field_lt .., Nat.div_lt_of_lt_mul (Nat.pow_add .. ▸ h)⟩

theorem inv_of_lt {s : Scalar} (h0 : s.l0 < 2^56) (h1 : s.l1 < 2^56) (h2 : s.l2 < 2^56) (h3 : s.l3 < 2^56)
    (h : s.val < Spec.ScalarL.L) : Inv s := by
  unfold Spec.ScalarL.L Scalar.val at h; unfold Inv; omega

/-- a column of a schoolbook product as the source writes it, `a + f + q₁ + q₂ + …` with the carry `f` in second place, checked -/
def stK {β} (a : Nat) (qs : List Nat) : Nat → (Nat → Option β) → Option β :=
  fun f k => ck128 (qs.foldl (· + ·) (a + f)) >>= k

theorem foldl_add (qs : List Nat) : ∀ a : Nat, qs.foldl (· + ·) a = a + qs.sum := by
  induction qs with
  | nil => intro a; rfl
  | cons q qs ih => intro a; rw [List.foldl_cons, ih, List.sum_cons, Nat.add_assoc]

theorem stK_step {β} (p : Nat × List Nat) : Step (β := β) (2^120) (stK p.1 p.2) (p.1 + p.2.sum) := fun f k h => by
  unfold stK
  rw [foldl_add, ck128_bind _ (by omega), Nat.add_right_comm]

/-- columns 1 … 8 of `x·y`: the first product and the others, in the order in which `mul` and (for `μ·q1`, `q3·L`)
    `barrett_reduce256` add them -/
def colsP (x y : Scalar) : List (Nat × List Nat) :=
  [(x.l0 * y.l1, [x.l1 * y.l0]), (x.l0 * y.l2, [x.l2 * y.l0, x.l1 * y.l1]),
   (x.l0 * y.l3, [x.l3 * y.l0, x.l1 * y.l2, x.l2 * y.l1]),
   (x.l0 * y.l4, [x.l4 * y.l0, x.l3 * y.l1, x.l1 * y.l3, x.l2 * y.l2]),
   (x.l4 * y.l1, [x.l1 * y.l4, x.l2 * y.l3, x.l3 * y.l2]), (x.l4 * y.l2, [x.l2 * y.l4, x.l3 * y.l3]),
   (x.l4 * y.l3, [x.l3 * y.l4]), (x.l4 * y.l4, [])]

def colsK {β} (x y : Scalar) : List (Nat → (Nat → Option β) → Option β) := (colsP x y).map fun p => stK p.1 p.2
def cols (x y : Scalar) : List Nat := (colsP x y).map fun p => p.1 + p.2.sum

theorem cols_step {β} (x y : Scalar) : All₂ (Step (β := β) (2^120)) (colsK x y) (cols x y) := Limbs.All₂.map stK_step _

theorem mul_lt_pow (a b m n : Nat) (ha : a < 2^m) (hb : b < 2^n) : a * b < 2^(m+n) := by
  rw [Nat.pow_add]; exact Nat.mul_lt_mul'' ha hb
theorem mul_lt112 {a b : Nat} (ha : a < 2^56) (hb : b < 2^56) : a * b < 2^112 := mul_lt_pow a b 56 56 ha hb

/-- bounds of the columns 1 … 8 for limbs below 2^56: 2, 3, 4, 5, 4, 3, 2, 1 products below 2^112 each -/
def colB : List Nat := [2 * 2^112, 3 * 2^112, 4 * 2^112, 5 * 2^112, 4 * 2^112, 3 * 2^112, 2 * 2^112, 2^112]

theorem cols_le {x y : Scalar} (hx : Lim x) (hy : Lim y) : All₂ (· ≤ ·) (cols x y) colB := by
  obtain ⟨x0, x1, x2, x3, x4⟩ := hx
  obtain ⟨y0, y1, y2, y3, y4⟩ := hy
  exact .cons (col_le (mul_lt112 x0 y1) (.cons (mul_lt112 x1 y0) .nil))
    (.cons (col_le (mul_lt112 x0 y2) (.cons (mul_lt112 x2 y0) (.cons (mul_lt112 x1 y1) .nil)))
    (.cons (col_le (mul_lt112 x0 y3) (.cons (mul_lt112 x3 y0) (.cons (mul_lt112 x1 y2) (.cons (mul_lt112 x2 y1) .nil))))
    (.cons (col_le (mul_lt112 x0 y4) (.cons (mul_lt112 x4 y0) (.cons (mul_lt112 x3 y1) (.cons (mul_lt112 x1 y3) (.cons (mul_lt112 x2 y2) .nil)))))
    (.cons (col_le (mul_lt112 x4 y1) (.cons (mul_lt112 x1 y4) (.cons (mul_lt112 x2 y3) (.cons (mul_lt112 x3 y2) .nil))))
    (.cons (col_le (mul_lt112 x4 y2) (.cons (mul_lt112 x2 y4) (.cons (mul_lt112 x3 y3) .nil)))
    (.cons (col_le (mul_lt112 x4 y3) (.cons (mul_lt112 x3 y4) .nil))
    (.cons (col_le (mul_lt112 x4 y4) .nil) .nil)))))))

theorem hi56 (s : Nat) (h : s < 2^120) : shr128 s 56 = s / 2^56 := by
  unfold shr128; rw [Nat.shiftRight_eq_div_pow]; omega

theorem lo56 (d : Nat) : asU64 d &&& MASK56 = d % 2^56 := by
  unfold asU64; rw [MASK56_eq, and_mask]; exact Nat.mod_mod_of_dvd d ⟨2^8, rfl⟩

theorem lo40 (d : Nat) : asU64 d &&& MASK40 = d % 2^56 % 2^40 := by
  unfold asU64
  rw [MASK40_eq, and_mask, Nat.mod_mod_of_dvd d (Nat.pow_dvd_pow 2 (by decide : 40 ≤ 64)), Nat.mod_mod_of_dvd d (Nat.pow_dvd_pow 2 (by decide : 40 ≤ 56))]

theorem shr_fld (d s t : Nat) (hst : s + t = 56 := by decide) : shr64 (asU64 d) s &&& (2^t - 1) = d % 2^56 / 2^s := by
  have e64 : (2:Nat)^64 = 2^s * 2^(t + 8) := by rw [← Nat.pow_add, ← Nat.add_assoc, hst]
  have e56 : (2:Nat)^56 = 2^s * 2^t := by rw [← Nat.pow_add, hst]
  unfold shr64 asU64
  rw [and_mask, Nat.shiftRight_eq_div_pow, e64, Nat.mod_mul_right_div_self,
    Nat.mod_mod_of_dvd _ (Nat.pow_dvd_pow 2 (Nat.le_add_right t 8)), e56, Nat.mod_mul_right_div_self]

theorem shl_fld (d s t : Nat) (hst : s + t = 56 := by decide) : shl64 (asU64 d) t &&& (2^56 - 1) = d % 2^56 % 2^s * 2^t := by
  have e56 : (2:Nat)^56 = 2^s * 2^t := by rw [← Nat.pow_add, hst]
  have e64 : (2:Nat)^64 = 2^s * 2^(t + 8) := by rw [← Nat.pow_add, ← Nat.add_assoc, hst]
  unfold shl64 asU64
  rw [and_mask, Nat.shiftLeft_eq, Nat.mod_mod_of_dvd _ (Nat.pow_dvd_pow 2 (by decide : 56 ≤ 64)), e56,
    Nat.mul_mod_mul_right, e64, Nat.mod_mul_right_mod, Nat.mod_mul_right_mod]

/-- two neighbouring column sums whose low 56 bits are fields of `N`, joined at bit `s` as the source joins them: a field of `N` -/
theorem join56 {N a d e : Nat} (s t : Nat) (hd : d % 2^56 = N / 2^a % 2^56) (he : e % 2^56 = N / 2^(a + 56) % 2^56)
    (hst : s + t = 56 := by decide) :
    (shr64 (asU64 d) s &&& (2^t - 1)) ||| (shl64 (asU64 e) t &&& (2^56 - 1)) = N / 2^(a + s) % 2^56 := by
  have j := field_join N a s t s 56 (by omega)
  rw [hst, Nat.add_comm t s, hst] at j
  rw [shr_fld d s t hst, shl_fld e s t hst, hd, he, Bytes.or_add _ _ t (Nat.div_lt_of_lt_mul ?_), j]
  rw [← Nat.pow_add, hst]; exact field_lt ..

/-- the top limb: what is left of the last column sum under the carry out -/
theorem join_top {N a d g : Nat} (s t : Nat) (hd : d % 2^56 = N / 2^a % 2^56) (hg : g = N / 2^(a + 56)) (hs : g * 2^t < 2^64)
    (hst : s + t = 56 := by decide) :
    (shr64 (asU64 d) s &&& (2^t - 1)) ||| shl64 g t = N / 2^(a + s) := by
  unfold shl64
  rw [shr_fld d s t hst, hd, Nat.shiftLeft_eq, Nat.mod_eq_of_lt hs, Bytes.or_add _ _ t (Nat.div_lt_of_lt_mul ?_), hg,
    ← hst, field_high, ← Nat.add_assoc, ← div_div_pow N (a + s) t, Nat.mul_comm, Nat.mod_add_div]
  rw [← Nat.pow_add, hst]; exact field_lt ..

/-! ### phase 1: `q3 = (μ·q1) >> 264` -/

def on6 {β} (k : Nat → Nat → Nat → Nat → Nat → Nat → Option β) : List Nat → Option β
  | [a, b, c, d, e, f] => k a b c d e f
  | _ => none
theorem on6_eq {β} (k : Nat → Nat → Nat → Nat → Nat → Nat → Option β) (a b c d e f : Nat) : on6 k [a, b, c, d, e, f] = k a b c d e f := by
  rw [on6]

/-- one pass over the columns 3 … 8 of `μ·q1` (columns 0 … 2 are left out, the digit of column 3 is not used); the limbs of
    `q3` are cut out of the sums from bit 40 of column 4 on -/
def q3M {β} (q1 : Scalar) (k : Scalar → Option β) : Option β :=
  passM asU64 (shr128 · 56) ((colsK MU q1).drop 2) 0 fun r g => on6 (fun _ s4 s5 s6 s7 s8 =>
    k ⟨(shr64 s4 40 &&& MASK16) ||| (shl64 s5 16 &&& MASK56), (shr64 s5 40 &&& MASK16) ||| (shl64 s6 16 &&& MASK56),
       (shr64 s6 40 &&& MASK16) ||| (shl64 s7 16 &&& MASK56), (shr64 s7 40 &&& MASK16) ||| (shl64 s8 16 &&& MASK56),
       (shr64 s8 40 &&& MASK16) ||| shl64 g 16⟩) r

theorem MU_lim : Lim MU := by unfold Lim; decide

theorem q3M_spec {β} (q1 : Scalar) (hq : Lim q1) (hb : Limbs.val 56 ((cols MU q1).drop 2) < 2^384) (k : Scalar → Option β) :
    q3M q1 k = k (ofNat (Limbs.val 56 ((cols MU q1).drop 2) / 2^96)) := by
  have hts := (cols_le MU_lim hq).drop 2
  unfold q3M
  rw [passM_sums (w := 56) hi56 ((cols_step MU q1).drop 2) hts (Nat.le_refl 0) (by decide)]
  have hd := sums_digits 56 ((cols MU q1).drop 2) 0
  rw [pass_digits]
  -- columns and sums get names, so that what follows speaks of six variables and not of nested terms
  obtain ⟨t3, t4, t5, t6, t7, t8, e⟩ : ∃ t3 t4 t5 t6 t7 t8, (cols MU q1).drop 2 = [t3, t4, t5, t6, t7, t8] := ⟨_, _, _, _, _, _, rfl⟩
  rw [e] at hd hb ⊢
  obtain ⟨s3, s4, s5, s6, s7, s8, e'⟩ : ∃ s3 s4 s5 s6 s7 s8, sums 56 0 [t3, t4, t5, t6, t7, t8] = [s3, s4, s5, s6, s7, s8] :=
    ⟨_, _, _, _, _, _, rfl⟩
  rw [e'] at hd ⊢
  rw [Nat.add_zero] at hd ⊢
  generalize Limbs.val 56 [t3, t4, t5, t6, t7, t8] = T at hd hb ⊢
  simp only [List.map_cons, List.map_nil, List.length_cons, List.length_nil, digits, List.cons.injEq, and_true, div_div_pow,
    Nat.reduceAdd, Nat.reduceMul] at hd ⊢
  obtain ⟨-, h4, h5, h6, h7, h8⟩ := hd
  rw [on6_eq, MASK16_eq, MASK56_eq, join56 40 16 h4 h5, join56 40 16 h5 h6, join56 40 16 h6 h7, join56 40 16 h7 h8,
    join_top 40 16 h8 rfl (by omega)]
  simp only [ofNat, div_div_pow, Nat.reduceAdd]

/-! ### phase 2: `r2 = (q3·L) mod 2^264` -/

/-- column 0 and one pass over the columns 1 … 4 of `L·q`; the last carry is dropped -/
def r2M {β} (q : Scalar) (k : Scalar → Option β) : Option β :=
  passM asU64 (shr128 · 56) ((colsK M q).take 4) (shr128 (M.l0 * q.l0) 56) fun r _ => on4 (fun s1 s2 s3 s4 =>
    k ⟨asU64 (M.l0 * q.l0) &&& MASK56, s1 &&& MASK56, s2 &&& MASK56, s3 &&& MASK56, s4 &&& MASK40⟩) r

theorem M_lim : Lim M := by unfold Lim; decide

theorem r2M_spec {β} (q : Scalar) (hq : Lim q) (k : Scalar → Option β) :
    r2M q k = k (ofNat (Limbs.val 56 (M.l0 * q.l0 :: (cols M q).take 4) % 2^264)) := by
  have hts := (cols_le M_lim hq).take 4
  have h0 : M.l0 * q.l0 < 2^120 := Nat.lt_trans (mul_lt112 M_lim.1 hq.1) (by decide)
  have hc : shr128 (M.l0 * q.l0) 56 ≤ 2^64 := by rw [hi56 _ h0]; omega
  unfold r2M
  rw [passM_sums (w := 56) hi56 ((cols_step M q).take 4) hts hc (by decide)]
  have hd := (pass_digits_cons 56 (M.l0 * q.l0) ((cols M q).take 4)).1
  rw [← hi56 _ h0] at hd
  obtain ⟨t1, t2, t3, t4, e⟩ : ∃ t1 t2 t3 t4, (cols M q).take 4 = [t1, t2, t3, t4] := ⟨_, _, _, _, rfl⟩
  rw [e] at hd ⊢
  obtain ⟨s1, s2, s3, s4, e'⟩ : ∃ s1 s2 s3 s4, sums 56 (shr128 (M.l0 * q.l0) 56) [t1, t2, t3, t4] = [s1, s2, s3, s4] :=
    ⟨_, _, _, _, rfl⟩
  rw [e'] at hd ⊢
  generalize Limbs.val 56 (M.l0 * q.l0 :: [t1, t2, t3, t4]) = P at hd ⊢
  simp only [List.map_cons, List.map_nil, List.length_cons, List.length_nil, digits, List.cons.injEq, and_true, div_div_pow,
    Nat.reduceAdd] at hd ⊢
  obtain ⟨h0, h1, h2, h3, h4⟩ := hd
  rw [on4_eq, lo56, lo56, lo56, lo56, lo40, h0, h1, h2, h3, h4, field_low _ _ _ _ (by decide), ofNat_mod P 40]

/-- phase 3: `(r1 − r2) mod 2^264` by a borrow chain, then two conditional subtractions of `L` -/
def subM (r1 r2 : Scalar) : Option Scalar := do
  let pb ← ck64 (0 + r2.l0)
  let b := lt r1.l0 pb
  let out0 := wadd64 (wsub64 r1.l0 pb) (shl64 b 56)
  let pb ← ck64 (b + r2.l1)
  let b := lt r1.l1 pb
  let out1 := wadd64 (wsub64 r1.l1 pb) (shl64 b 56)
  let pb ← ck64 (b + r2.l2)
  let b := lt r1.l2 pb
  let out2 := wadd64 (wsub64 r1.l2 pb) (shl64 b 56)
  let pb ← ck64 (b + r2.l3)
  let b := lt r1.l3 pb
  let out3 := wadd64 (wsub64 r1.l3 pb) (shl64 b 56)
  let pb ← ck64 (b + r2.l4)
  let b := lt r1.l4 pb
  let out4 := wadd64 (wsub64 r1.l4 pb) (shl64 b 40)
  let out ← reduce256 ⟨out0, out1, out2, out3, out4⟩
  reduce256 out

/-- the model's text is the three phases (tied by rewriting, not by `rfl`: Proofs/Limbs.lean) -/
theorem barrett_eq (q1 r1 : Scalar) : barrett_reduce256 q1 r1 = q3M q1 fun q3 => r2M q3 fun r2 => subM r1 r2 := by
  unfold barrett_reduce256 q3M r2M subM
  simp only [colsK, colsP, List.map_cons, List.map_nil, List.drop_succ_cons, List.drop_zero, List.take_succ_cons, List.take_zero,
    passM_cons, passM_nil, on6_eq, on4_eq, stK, List.foldl_cons, List.foldl_nil, mul128, Nat.add_zero]

theorem MU_val : MU.val = 1852673427797059126777135760139006525645217721299241702126143248052143860224795 := by decide

/-- `q·μ`: the columns 3 … 8 that the code computes, and below them the columns 0 … 2 that it leaves out -/
theorem mu_cols (q : Scalar) (h0 : q.l0 < 2^56) (h1 : q.l1 < 2^56) (h2 : q.l2 < 2^56) :
    ∃ low, q.val * 1852673427797059126777135760139006525645217721299241702126143248052143860224795
        = Limbs.val 56 ((cols MU q).drop 2) * 2^168 + low ∧ low < 2^230 :=
  ⟨44162584779952923 * q.l0 + (44162584779952923 * q.l1 + 9390964836247533 * q.l0) * 2^56
      + (44162584779952923 * q.l2 + 9390964836247533 * q.l1 + 72057594036560134 * q.l0) * 2^112,
    by simp only [cols, colsP, List.map_cons, List.map_nil, List.drop_succ_cons, List.drop_zero, Limbs.val, List.sum_cons, List.sum_nil,
         MU_l0, MU_l1, MU_l2, MU_l3, MU_l4, Scalar.val]; omega, by omega⟩

/-- `q·L`: the columns 0 … 4 that the code computes, and above them the rest -/
theorem m_cols (q : Scalar) : ∃ K, q.val * (2^252 + 27742317777372353535851937790883648493)
    = Limbs.val 56 (M.l0 * q.l0 :: (cols M q).take 4) + 2^280 * K :=
  ⟨(70332060721272408 * q.l4 + 5342 * q.l3 + 268435456 * q.l1) + (5342 * q.l4 + 268435456 * q.l2) * 2^56
      + (268435456 * q.l3) * 2^112 + (268435456 * q.l4) * 2^168,
    by simp only [cols, colsP, List.map_cons, List.map_nil, List.take_succ_cons, List.take_zero, Limbs.val, List.sum_cons, List.sum_nil,
         M_l0, M_l1, M_l2, M_l3, M_l4, Scalar.val]; omega⟩

/-- Barrett's estimate.  Why it holds: `μ = ⌊2^512/L⌋` (`MU_char` of Scalar64Basic: `μ·L ≤ 2^512 < (μ+1)·L`), so with `q1 = ⌊x/2^248⌋`
    the product `q1·μ / 2^264` is at most `x/L`; the three floors and the columns left out (`low < 2^230`) together lose less than 2,
    because `x < 2^512` and `2^252 < L`.  The two numerals are `MU.val` (`MU_val`) and `L − 2^252`; with them the statement is
    linear, and `omega` finds this -/
theorem barrett_est (x q1v q3v T low : Nat) (hx : x < 2^512) (hq1 : q1v = x / 2^248)
    (hT : q1v * 1852673427797059126777135760139006525645217721299241702126143248052143860224795 = T * 2^168 + low)
    (hlow : low < 2^230) (hq3 : q3v = T / 2^96) :
    q3v * (2 ^ 252 + 27742317777372353535851937790883648493) ≤ x ∧
      x < q3v * (2 ^ 252 + 27742317777372353535851937790883648493) + 2 * (2 ^ 252 + 27742317777372353535851937790883648493) := by
  omega

theorem final_red (tv q3v x w1 w2 : Nat) (htv : tv + q3v * Spec.ScalarL.L = x)
    (est : x < q3v * Spec.ScalarL.L + 2 * Spec.ScalarL.L)
    (v1 : w1 = if tv < Spec.ScalarL.L then tv else tv - Spec.ScalarL.L)
    (v2 : w2 = if w1 < Spec.ScalarL.L then w1 else w1 - Spec.ScalarL.L) :
    w2 = x % Spec.ScalarL.L ∧ w2 < Spec.ScalarL.L := by
  unfold Spec.ScalarL.L at *
  by_cases h1 : tv < 2 ^ 252 + 27742317777372353535851937790883648493 <;>
  by_cases h2 : w1 < 2 ^ 252 + 27742317777372353535851937790883648493 <;>
  simp only [h1, h2, if_true, if_false] at v1 v2 <;> omega

/-- `t ≡ r1 − r2 (mod 2^264)` with `r1 = x mod 2^264`, `r2 = q·L mod 2^264` (`q·L = P + 2^280·K`), and `0 ≤ x − q·L < 2^264`
    give `t = x − q·L` -/
theorem sub_mod (x qL r1v r2v tv b P K : Nat) (h1 : qL ≤ x) (h2 : x < qL + 2^264) (hr1 : r1v = x % 2^264)
    (hP : qL = P + 2^280 * K) (hr2 : r2v = P % 2^264) (ht : tv + r2v = r1v + b * 2^40 * 2^224) (htv : tv < 2^264) : tv + qL = x := by
  omega

theorem barrett_spec (q1 r1 : Scalar) (x : Nat) (hx : x < 2^512)
    (hq0 : q1.l0 < 2^56) (hq1 : q1.l1 < 2^56) (hq2 : q1.l2 < 2^56) (hq3 : q1.l3 < 2^56) (hq4 : q1.l4 < 2^56)
    (hr0 : r1.l0 < 2^56) (hr1 : r1.l1 < 2^56) (hr2 : r1.l2 < 2^56) (hr3 : r1.l3 < 2^56) (hr4 : r1.l4 < 2^40)
    (hq : q1.val = x / 2^248) (hr : r1.val = x % 2^264) :
    ∃ o, barrett_reduce256 q1 r1 = some o ∧ o.val = x % Spec.ScalarL.L ∧ Inv o := by
  -- q3 = T >> 96 estimates the quotient
  obtain ⟨low, hT, hlow⟩ := mu_cols q1 hq0 hq1 hq2
  obtain ⟨est1, est2⟩ := barrett_est x q1.val _ _ low hx hq hT hlow rfl
  have hb : Limbs.val 56 ((cols MU q1).drop 2) < 2^357 := by omega
  rw [barrett_eq, q3M_spec q1 ⟨hq0, hq1, hq2, hq3, hq4⟩ (Nat.lt_trans hb (by decide))]
  generalize Limbs.val 56 ((cols MU q1).drop 2) = T at *
  -- r2 = q3·L mod 2^264
  obtain ⟨K, hP⟩ := m_cols (ofNat (T / 2^96))
  rw [val_ofNat] at hP
  rw [r2M_spec _ (ofNat_lt (k := 56) (by omega))]
  generalize Limbs.val 56 (M.l0 * (ofNat (T / 2^96)).l0 :: (cols M (ofNat (T / 2^96))).take 4) = P at *
  have hr2v := val_ofNat (P % 2^264)
  obtain ⟨hr20, hr21, hr22, hr23, hr24⟩ := ofNat_lt (n := P % 2^264) (k := 40) (Nat.mod_lt _ (by decide))
  generalize ofNat (P % 2^264) = r2 at *
  -- out = (r1 − r2) mod 2^264 = x − q3·L
  obtain ⟨hb0, s0, bt0, -, -⟩ := sub_step r1.l0 r2.l0 56 (Nat.lt_trans hr0 (by decide)) (Nat.le_of_lt hr20)
  replace bt0 := bt0 hr0
  obtain ⟨hb1, s1, bt1⟩ := sub_limb r1.l1 _ r2.l1 56 hr1 hb0 hr21
  obtain ⟨hb2, s2, bt2⟩ := sub_limb r1.l2 _ r2.l2 56 hr2 hb1 hr22
  obtain ⟨hb3, s3, bt3⟩ := sub_limb r1.l3 _ r2.l3 56 hr3 hb2 hr23
  obtain ⟨hb4, s4, bt4⟩ := sub_limb r1.l4 _ r2.l4 40 hr4 hb3 hr24
  have hsub := borrow_sum r1 r2 _ _ _ _ _ _ _ _ _ _ s0 s1 s2 s3 s4
  have htv := sub_mod x _ r1.val r2.val _ _ P K est1 (Nat.lt_of_lt_of_le est2 (Nat.add_le_add_left (by decide) _)) hr hP hr2v hsub
    (val_lt bt0 bt1 bt2 bt3 bt4)
  unfold subM
  rw [Nat.zero_add]
  refine ck64_step (Nat.lt_trans hr20 (by decide)) (ck64_step (Nat.lt_of_le_of_lt (borrow_le hb0 hr21) (by decide))
    (ck64_step (Nat.lt_of_le_of_lt (borrow_le hb1 hr22) (by decide)) (ck64_step (Nat.lt_of_le_of_lt (borrow_le hb2 hr23) (by decide))
    (ck64_step (Nat.lt_of_le_of_lt (borrow_le hb3 hr24) (by decide)) ?_))))
  -- two conditional subtractions of L
  obtain ⟨o1, ho1, v1, a0, a1, a2, a3, a4⟩ := reduce256_spec ⟨_, _, _, _, _⟩ bt0 bt1 bt2 bt3 (Nat.lt_of_lt_of_le bt4 (by decide))
  obtain ⟨o2, ho2, v2, z0, z1, z2, z3, z4⟩ := reduce256_spec o1 a0 a1 a2 a3 (Nat.lt_of_le_of_lt a4 (Nat.lt_of_lt_of_le bt4 (by decide)))
  have fin := final_red _ _ _ _ _ htv est2 v1 v2
  exact ⟨o2, bind_some_of ho1 ho2, fin.1, inv_of_lt z0 z1 z2 z3 fin.2⟩

theorem barrett_ofNat (x : Nat) (hx : x < 2^512) :
    ∃ o, barrett_reduce256 (ofNat (x / 2^248)) (ofNat (x % 2^264)) = some o ∧ o.val = x % Spec.ScalarL.L ∧ Inv o := by
  obtain ⟨q0, q1, q2, q3, q4⟩ := ofNat_lt (n := x / 2^248) (k := 56) (by omega)
  obtain ⟨r0, r1, r2, r3, r4⟩ := ofNat_lt (n := x % 2^264) (k := 40) (Nat.mod_lt _ (by decide))
  exact barrett_spec _ _ x hx q0 q1 q2 q3 q4 r0 r1 r2 r3 r4 (val_ofNat _) (val_ofNat _)
end Cx.Proofs.Scalar64
