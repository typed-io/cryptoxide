/-
  Proofs.Scalar64Basic — helper lemmas for Impl/Scalar64.lean: the extracted constants; how a checked operation is stepped over
  (`ck64_bind` by rewriting, `ck64_step` as a rule of sequential composition applied as a term); the borrow chain of
  `reduce256`, `lt_order` and `barrett_reduce256`: what one limb of it does and what a chain of five sums to;
  the constant-time select; `lt_order` and `reduce256`.  Core Lean only (omega / simp / decide).
-/
import CxVerif.Impl.Scalar64
import CxVerif.Spec.ScalarL
import CxVerif.Proofs.OptionSteps
namespace Cx.Proofs.Scalar64
open Cx Cx.Impl.Scalar64

/-- the model's limb invariant of a public `Scalar`: four 56-bit limbs and a 32-bit top limb
    (what `from_bytes` produces; every value below 2^256 has exactly one such representation) -/
def Inv (s : Scalar) : Prop := s.l0 < 2^56 ∧ s.l1 < 2^56 ∧ s.l2 < 2^56 ∧ s.l3 < 2^56 ∧ s.l4 < 2^32
instance (s : Scalar) : Decidable (Inv s) := by unfold Inv; infer_instance

theorem Inv.val_lt {s : Scalar} (h : Inv s) : s.val < 2^256 := by
  unfold Inv at h; unfold Scalar.val; omega

theorem MASK16_eq : MASK16 = 2^16 - 1 := by decide
theorem MASK40_eq : MASK40 = 2^40 - 1 := by decide
theorem MASK56_eq : MASK56 = 2^56 - 1 := by decide
theorem MU_l0 : MU.l0 = 44162584779952923 := by decide
theorem MU_l1 : MU.l1 = 9390964836247533 := by decide
theorem MU_l2 : MU.l2 = 72057594036560134 := by decide
theorem MU_l3 : MU.l3 = 72057594037927935 := by decide
theorem MU_l4 : MU.l4 = 68719476735 := by decide
theorem M_l0 : M.l0 = 5175514460705773 := by decide
theorem M_l1 : M.l1 = 70332060721272408 := by decide
theorem M_l2 : M.l2 = 5342 := by decide
theorem M_l3 : M.l3 = 0 := by decide
theorem M_l4 : M.l4 = 268435456 := by decide
set_option exponentiation.threshold 600 in
theorem MU_char : MU.val * Spec.ScalarL.L ≤ 2^512 ∧ 2^512 < (MU.val + 1) * Spec.ScalarL.L := by decide

theorem ck64_bind {α} (v : Nat) (h : v < 2^64) (f : Nat → Option α) : (ck64 v >>= f) = f v := by
  simp [ck64, h]
theorem ck128_bind {α} (v : Nat) (h : v < 2^128) (f : Nat → Option α) : (ck128 v >>= f) = f v := by
  simp [ck128, h]

theorem lt_eq (a b : Nat) (ha : a < 2^63) (hb : b < 2^63) : lt a b = if a < b then 1 else 0 := by
  unfold lt shr64 wsub64
  rw [Nat.shiftRight_eq_div_pow]
  split <;> omega

/-- a checked sum inside its bound hands the sum to the rest of the program (`bind_some` at `ck64`; a rule of sequential composition, applied as a term:
    `refine ck64_step h ?_` steps over one statement without rewriting the program) -/
theorem ck64_step {β} {v : Nat} {k : Nat → Option β} {Q : β → Prop} (h : v < 2^64) (hk : ∃ o, k v = some o ∧ Q o) :
    ∃ o, (ck64 v >>= k) = some o ∧ Q o := bind_some (if_pos h) hk

/-- one limb of a borrow chain as `reduce256`, `lt_order` and `barrett_reduce256` write it: `lt a pb` is the borrow out and
    `wadd64 (wsub64 a pb) (shl64 (lt a pb) w)` the difference limb with the borrow re-added at bit `w`.  The facts are about these
    expressions as the program holds them, so a proof steps through the program without naming them -/
theorem sub_step (a pb w : Nat) (ha : a < 2^63) (hpb : pb ≤ 2^w) (hw : w ≤ 62 := by decide) :
    lt a pb ≤ 1 ∧ wadd64 (wsub64 a pb) (shl64 (lt a pb) w) + pb = a + lt a pb * 2^w ∧
      (a < 2^w → wadd64 (wsub64 a pb) (shl64 (lt a pb) w) < 2^w) ∧
      (lt a pb = 1 → wadd64 (wsub64 a pb) (shl64 (lt a pb) w) < 2^w) ∧
      (lt a pb = 0 → wadd64 (wsub64 a pb) (shl64 (lt a pb) w) ≤ a) := by
  have hW1 : 2^w ≤ 2^62 := Nat.pow_le_pow_right (by decide) hw
  rw [lt_eq a pb ha (by omega)]
  unfold wadd64 wsub64 shl64
  rw [Nat.shiftLeft_eq]
  generalize 2^w = W at *
  split
  · rw [Nat.one_mul]; omega
  · rw [Nat.zero_mul]; omega

/-- a later limb of the chain: the borrow `c` coming in is added to the subtrahend limb `m`; a limb below `2^w` leaves a
    difference limb below `2^w` -/
theorem sub_limb (a c m w : Nat) (ha : a < 2^w) (hc : c ≤ 1) (hm : m < 2^w) (hw : w ≤ 62 := by decide) :
    lt a (c + m) ≤ 1 ∧ wadd64 (wsub64 a (c + m)) (shl64 (lt a (c + m)) w) + (c + m) = a + lt a (c + m) * 2^w ∧
      wadd64 (wsub64 a (c + m)) (shl64 (lt a (c + m)) w) < 2^w := by
  have hW1 : 2^w ≤ 2^62 := Nat.pow_le_pow_right (by decide) hw
  obtain ⟨hb, hs, ht, -, -⟩ := sub_step a (c + m) w (by omega) (by omega) hw
  exact ⟨hb, hs, ht ha⟩

theorem borrow_le {c m w : Nat} (hc : c ≤ 1) (hm : m < 2^w) : c + m ≤ 2^w := by omega

theorem ctsel (b r t : Nat) (hb : b ≤ 1) (hr : r < 2^64 := by omega) (ht : t < 2^64 := by omega) :
    r ^^^ (wsub64 b 1 &&& (r ^^^ t)) = if b = 1 then r else t := by
  have hb' : b = 0 ∨ b = 1 := by omega
  rcases hb' with rfl | rfl
  · have : wsub64 0 1 = 2^64 - 1 := by decide
    rw [this, Nat.and_comm, Nat.and_two_pow_sub_one_eq_mod, Nat.mod_eq_of_lt (Nat.xor_lt_two_pow hr ht),
      ← Nat.xor_assoc, Nat.xor_self, Nat.zero_xor]
    simp
  · have : wsub64 1 1 = 0 := by decide
    rw [this, Nat.zero_and, Nat.xor_zero]; simp

/-- the borrow chain telescopes: `c` is the last borrow at its weight in the top limb -/
theorem borrow_sum (a m : Scalar) (t0 t1 t2 t3 t4 b0 b1 b2 b3 c : Nat) (s0 : t0 + m.l0 = a.l0 + b0 * 2^56)
    (s1 : t1 + (b0 + m.l1) = a.l1 + b1 * 2^56) (s2 : t2 + (b1 + m.l2) = a.l2 + b2 * 2^56)
    (s3 : t3 + (b2 + m.l3) = a.l3 + b3 * 2^56) (s4 : t4 + (b3 + m.l4) = a.l4 + c) :
    Scalar.val ⟨t0, t1, t2, t3, t4⟩ + m.val = a.val + c * 2^224 := by
  simp only [Scalar.val]; omega

theorem val_lt {t0 t1 t2 t3 t4 k : Nat} (h0 : t0 < 2^56) (h1 : t1 < 2^56) (h2 : t2 < 2^56) (h3 : t3 < 2^56) (h4 : t4 < 2^k) :
    Scalar.val ⟨t0, t1, t2, t3, t4⟩ < 2^(224 + k) := by
  rw [Nat.pow_add]; generalize 2^k = K at *; simp only [Scalar.val]; omega

/-- the limbs of `M` are those of `L` -/
theorem M_val : Scalar.val ⟨5175514460705773, 70332060721272408, 5342, 0, 268435456⟩ = Spec.ScalarL.L := by decide

theorem borrow_zero {tv rv l : Nat} (hs : tv + l = rv) : tv = if rv < l then rv else rv - l := by
  rw [if_neg (by omega), ← hs, Nat.add_sub_cancel]

theorem borrow_one {tv rv l W : Nat} (hs : tv + l = rv + W) (ht : tv < W) : rv = if rv < l then rv else rv - l := by
  rw [if_pos (by omega)]

/-- `lt_order` runs the borrow chain of `v − L` and returns its last borrow -/
theorem lt_order_spec (v : Scalar) (h0 : v.l0 < 2^56) (h1 : v.l1 < 2^56) (h2 : v.l2 < 2^56) (h3 : v.l3 < 2^56)
    (h4 : v.l4 < 2^56) : lt_order v = some (decide (v.val < Spec.ScalarL.L)) := by
  obtain ⟨hb0, s0, ht0, -, -⟩ := sub_step v.l0 5175514460705773 56 (by omega) (by decide)
  obtain ⟨hb1, s1, ht1⟩ := sub_limb v.l1 _ 70332060721272408 56 h1 hb0 (by decide)
  obtain ⟨hb2, s2, ht2⟩ := sub_limb v.l2 _ 5342 56 h2 hb1 (by decide)
  obtain ⟨hb3, s3, ht3⟩ := sub_limb v.l3 _ 0 56 h3 hb2 (by decide)
  obtain ⟨hb4, s4, ht4⟩ := sub_limb v.l4 _ 268435456 56 h4 hb3 (by decide)
  have hs := borrow_sum v ⟨5175514460705773, 70332060721272408, 5342, 0, 268435456⟩ _ _ _ _ _ _ _ _ _ _ s0 s1 s2 s3 s4
  rw [M_val] at hs
  have := val_lt (k := 56) (ht0 h0) ht1 ht2 ht3 ht4
  unfold lt_order
  simp only [M_l0, M_l1, M_l2, M_l3, M_l4]
  rw [ck64_bind _ (by omega), ck64_bind _ (by omega), ck64_bind _ (by omega), ck64_bind _ (by omega)]
  simp only [pure, Option.some.injEq]
  rw [Bool.eq_iff_iff, beq_iff_eq, decide_eq_true_iff]
  generalize lt v.l4 _ = b4 at *
  omega

theorem reduce256_spec (r : Scalar) (h0 : r.l0 < 2^56) (h1 : r.l1 < 2^56) (h2 : r.l2 < 2^56) (h3 : r.l3 < 2^56)
    (h4 : r.l4 < 2^63) :
    ∃ o, reduce256 r = some o ∧ o.val = (if r.val < Spec.ScalarL.L then r.val else r.val - Spec.ScalarL.L) ∧
      o.l0 < 2^56 ∧ o.l1 < 2^56 ∧ o.l2 < 2^56 ∧ o.l3 < 2^56 ∧ o.l4 ≤ r.l4 := by
  -- borrows and difference limbs stay the expressions the program holds
  obtain ⟨hb0, s0, ht0, -, -⟩ := sub_step r.l0 5175514460705773 56 (by omega) (by decide)
  obtain ⟨hb1, s1, ht1⟩ := sub_limb r.l1 _ 70332060721272408 56 h1 hb0 (by decide)
  obtain ⟨hb2, s2, ht2⟩ := sub_limb r.l2 _ 5342 56 h2 hb1 (by decide)
  obtain ⟨hb3, s3, ht3⟩ := sub_limb r.l3 _ 0 56 h3 hb2 (by decide)
  obtain ⟨hb4, s4, -, ho, hz⟩ := sub_step r.l4 (_ + 268435456) 32 h4 (borrow_le hb3 (by decide))
  unfold reduce256
  simp only [M_l0, M_l1, M_l2, M_l3, M_l4]
  refine ck64_step (by omega) (ck64_step (by omega) (ck64_step (by omega) (ck64_step (by omega) ⟨_, rfl, ?_⟩)))
  replace ht0 := ht0 h0
  rw [ctsel _ r.l0 _ hb4, ctsel _ r.l1 _ hb4, ctsel _ r.l2 _ hb4, ctsel _ r.l3 _ hb4, ctsel _ r.l4 _ hb4]
  -- the chain sums to `t + L = r + b4·2^256`, and `b4 = 1` exactly when `r < L`
  have hs := borrow_sum r ⟨5175514460705773, 70332060721272408, 5342, 0, 268435456⟩ _ _ _ _ _ _ _ _ _ _ s0 s1 s2 s3 s4
  rw [M_val] at hs
  generalize lt r.l4 _ = b4 at *
  have hb' : b4 = 0 ∨ b4 = 1 := by omega
  rcases hb' with rfl | rfl
  · simp only [Nat.zero_ne_one, if_false]
    rw [Nat.zero_mul, Nat.add_zero r.val] at hs
    exact ⟨borrow_zero hs, ht0, ht1, ht2, ht3, hz rfl⟩
  · simp only [if_true]
    rw [Nat.one_mul, ← Nat.pow_add] at hs
    exact ⟨borrow_one hs (val_lt (k := 32) ht0 ht1 ht2 ht3 (ho rfl)), h0, h1, h2, h3, Nat.le_refl _⟩
end Cx.Proofs.Scalar64
