/-
  Proofs.Scalar64Bytes — the byte layer of Impl/Scalar64.lean: `load` = little-endian value of 8 bytes,
  `from_bytes` = le(bytes) with the limb invariant, `to_bytes` = 32-byte LE of the value, the canonical
  decoder, and `reduce_from_wide_bytes s = le(s) mod L` for every 64-byte string.
-/
import CxVerif.Proofs.Scalar64Barrett
namespace Cx.Proofs.Scalar64
open Cx Cx.Impl.Scalar64
open Cx.Proofs.Bits (word_lo word_hi horner_mod horner_div shr_lt or_shl div_div_pow field_lt field_low field_high field_add field_join
  leNat_window8 or8)

theorem shl64_byte (x : UInt8) (k : Nat) (hk : k ≤ 56 := by decide) : shl64 x.toNat k = x.toNat <<< k := by
  unfold shl64
  rw [Nat.shiftLeft_eq]
  have h1 : x.toNat * 2^k < 2^8 * 2^k := (Nat.mul_lt_mul_right (Nat.two_pow_pos k)).2 x.toNat_lt
  have h2 : 2^8 * 2^k ≤ 2^8 * 2^56 := Nat.mul_le_mul_left _ (Nat.pow_le_pow_right (by decide) hk)
  exact Nat.mod_eq_of_lt (Nat.lt_of_lt_of_le h1 h2)

/-- two adjacent words joined at bit `k` of the lower one and masked to `n = j + m` bits: the upper `j = 64 - k`
    bits of `a` below the lower `m` bits of `b` -/
theorem join_mask (a b j k m n : Nat) (ha : a < 2^64) (hjk : k + j = 64 := by decide) (hn : j + m = n := by decide)
    (hmk : m ≤ k := by decide) :
    (shr64 a k ||| shl64 b j) &&& (2^n - 1) = a / 2^k + (b % 2^m) * 2^j := by
  unfold shr64 shl64
  rw [Nat.shiftRight_eq_div_pow, Nat.shiftLeft_eq, and_mask]
  have e : (2:Nat)^64 = 2^k * 2^j := by rw [← Nat.pow_add, hjk]
  have hlt : a / 2^k < 2^j := Nat.div_lt_of_lt_mul (by rw [← e]; exact ha)
  rw [e, Nat.mul_mod_mul_right, Bytes.or_add _ _ _ hlt, ← hn, Nat.pow_add, Nat.mod_mul, Nat.add_mul_mod_self_right,
    Nat.mod_eq_of_lt hlt, Nat.add_mul_div_right _ _ (Nat.two_pow_pos j), Nat.div_eq_of_lt hlt, Nat.zero_add,
    Nat.mod_mod_of_dvd _ (Nat.pow_dvd_pow 2 hmk), Nat.mul_comm (2^j)]

theorem load32_field (b : Vector UInt8 32) (ofs : Nat) (h : ofs + 7 < 32) :
    load32 b ofs h = leNat b.toList / 2^(8*ofs) % 2^64 := by
  rw [leNat_window8 b.toList ofs (by simpa using h)]
  unfold load32
  rw [shl64_byte _ 8, shl64_byte _ 16, shl64_byte _ 24, shl64_byte _ 32, shl64_byte _ 40, shl64_byte _ 48, shl64_byte _ 56]
  simp only [Vector.getElem_toList]
  exact or8 (UInt8.toNat_lt _) (UInt8.toNat_lt _) (UInt8.toNat_lt _) (UInt8.toNat_lt _) (UInt8.toNat_lt _) (UInt8.toNat_lt _)
    (UInt8.toNat_lt _)

theorem load64_field (b : Vector UInt8 64) (ofs : Nat) (h : ofs + 7 < 64) :
    load64 b ofs h = leNat b.toList / 2^(8*ofs) % 2^64 := by
  rw [leNat_window8 b.toList ofs (by simpa using h)]
  unfold load64
  rw [shl64_byte _ 8, shl64_byte _ 16, shl64_byte _ 24, shl64_byte _ 32, shl64_byte _ 40, shl64_byte _ 48, shl64_byte _ 56]
  simp only [Vector.getElem_toList]
  exact or8 (UInt8.toNat_lt _) (UInt8.toNat_lt _) (UInt8.toNat_lt _) (UInt8.toNat_lt _) (UInt8.toNat_lt _) (UInt8.toNat_lt _)
    (UInt8.toNat_lt _)

theorem join_field (N a k j m n : Nat) (hjk : k + j = 64 := by decide) (hn : j + m = n := by decide) (hmk : m ≤ k := by decide) :
    (shr64 (N / 2^a % 2^64) k ||| shl64 (N / 2^(a + 64) % 2^64) j) &&& (2^n - 1) = N / 2^(a + k) % 2^n := by
  rw [join_mask _ _ j k m n (field_lt ..) hjk hn hmk]
  have e := field_join N a k j m 64 (Nat.le_trans hmk (hjk ▸ Nat.le_add_right ..))
  rwa [hjk, hn] at e

/-- the five limbs are the 56-bit fields of the number (the top one what is left of 256 bits) -/
theorem from_bytes_spec (b : Vector UInt8 32) : (from_bytes b).val = leNat b.toList ∧ Inv (from_bytes b) := by
  have hv : leNat b.toList < 2^256 := by have := Bytes.leNat_lt b.toList; simpa using this
  unfold from_bytes
  simp only [load32_field, MASK56_eq, Nat.reduceMul]
  generalize leNat b.toList = v at hv ⊢
  rw [join_field v 0 56 8 48 56, join_field v 64 48 16 40 56, join_field v 128 40 24 32 56]
  simp only [Nat.reduceAdd, and_mask, shr64, Nat.shiftRight_eq_div_pow]
  rw [field_low v 0 64 56 (by decide), Nat.pow_zero, Nat.div_one, field_high v 192 32 32]
  rw [← ofNat_mod v 32, Nat.mod_eq_of_lt hv]
  exact ⟨val_ofNat v, ofNat_lt (k := 32) hv⟩

theorem shl_or {a : Nat} (j i b : Nat) (ha : a < 2^j) (hji : j + i = 64 := by decide) :
    shl64 b j ||| a = a + 2^j * (b % 2^i) := by
  unfold shl64; rw [Nat.or_comm]; exact or_shl j i 64 b ha hji

/-- the four saturated words that `to_bytes`, `bits` and `nibbles` contract the limbs into are the 64-bit words of
    the value: word by word off its Horner form (Proofs/Bits.lean) -/
theorem words_eq (s : Scalar) (h : Inv s) :
    (shl64 s.l1 56 ||| s.l0) = s.val % 2^64 ∧ (shl64 s.l2 48 ||| shr64 s.l1 8) = s.val / 2^64 % 2^64 ∧
    (shl64 s.l3 40 ||| shr64 s.l2 16) = s.val / 2^128 % 2^64 ∧
    (shl64 s.l4 32 ||| shr64 s.l3 24) = s.val / 2^192 % 2^64 := by
  obtain ⟨h0, h1, h2, h3, -⟩ := h
  have a1 := shr_lt 8 48 h1
  have a2 := shr_lt 16 40 h2
  have a3 := shr_lt 24 32 h3
  have hv : s.val = s.l0 + 2^56 * (s.l1 + 2^56 * (s.l2 + 2^56 * (s.l3 + 2^56 * s.l4))) := by unfold Scalar.val; omega
  have d1 : s.val / 2^64 = s.l1 / 2^8 + 2^48 * (s.l2 + 2^56 * (s.l3 + 2^56 * s.l4)) := by
    rw [hv, word_hi 56 8 64 _ h0, horner_div 48 8 56]
  have d2 : s.val / 2^128 = s.l2 / 2^16 + 2^40 * (s.l3 + 2^56 * s.l4) := by
    rw [← div_div_pow _ 64 64, d1, word_hi 48 16 64 _ a1, horner_div 40 16 56]
  have d3 : s.val / 2^192 = s.l3 / 2^24 + 2^32 * s.l4 := by
    rw [← div_div_pow _ 128 64, d2, word_hi 40 24 64 _ a2, horner_div 32 24 56]
  simp only [shr64, Nat.shiftRight_eq_div_pow]
  rw [d1, d2, d3, hv, word_lo 56 8 64 _ h0, horner_mod 48 8 56, word_lo 48 16 64 _ a1, horner_mod 40 16 56,
    word_lo 40 24 64 _ a2, horner_mod 32 24 56, word_lo 32 32 64 _ a3, shl_or 56 8 _ h0, shl_or 48 16 _ a1,
    shl_or 40 24 _ a2, shl_or 32 32 _ a3]
  exact ⟨rfl, rfl, rfl, rfl⟩

theorem to_bytes_spec (s : Scalar) (h : Inv s) : to_bytes s = natToLE 32 s.val := by
  obtain ⟨e0, e1, e2, e3⟩ := words_eq s h
  unfold to_bytes to_le_bytes
  simp only [e0, e1, e2, e3, (Bytes.natToLE_mod 8 _ : natToLE 8 (_ % 2^64) = _)]
  rw [show (32:Nat) = 8 + (8 + (8 + 8)) from rfl, Bytes.natToLE_add, Bytes.natToLE_add, Bytes.natToLE_add]
  simp only [Nat.div_div_eq_div_mul, List.append_assoc, Nat.reducePow, Nat.reduceMul]

theorem from_bytes_canonical_spec (b : Vector UInt8 32) :
    from_bytes_canonical b = some (if leNat b.toList < Spec.ScalarL.L then some (from_bytes b) else none) := by
  obtain ⟨hv, h0, h1, h2, h3, h4⟩ := from_bytes_spec b
  unfold from_bytes_canonical
  simp only []
  rw [lt_order_spec _ h0 h1 h2 h3 (by omega), hv]
  by_cases h : leNat b.toList < Spec.ScalarL.L <;> simp [h]

/-- wide reduction: for EVERY 64-byte string the result is `le(s) mod L`, inside the invariant, no overflow: the ten limbs
    handed to `barrett_reduce256` are fields of the 512-bit number, five from bit 0 and five from bit 248 -/
theorem reduce_from_wide_bytes_spec (s : Vector UInt8 64) :
    ∃ o, reduce_from_wide_bytes s = some o ∧ o.val = leNat s.toList % Spec.ScalarL.L ∧ Inv o := by
  have hx : leNat s.toList < 2^(8*64) := by
    have := Bytes.leNat_lt s.toList
    rwa [Vector.length_toList, show (256 : Nat) = 2^8 from rfl, ← Nat.pow_mul] at this
  unfold reduce_from_wide_bytes
  simp only [load64_field, MASK56_eq, MASK40_eq, Nat.reduceMul]
  generalize leNat s.toList = x at hx ⊢
  rw [join_field x 0 56 8 48 56, join_field x 64 48 16 40 56, join_field x 128 40 24 32 56, join_field x 192 32 32 8 40,
    join_field x 192 56 8 48 56, join_field x 256 48 16 40 56, join_field x 320 40 24 32 56, join_field x 384 32 32 24 56]
  simp only [Nat.reduceAdd, and_mask, shr64, Nat.shiftRight_eq_div_pow]
  rw [field_low x 0 64 56 (by decide), Nat.pow_zero, Nat.div_one, field_high x 448 24 40]
  rw [Nat.mod_eq_of_lt (Nat.div_lt_of_lt_mul hx : x / 2^(448 + 24) < 2^40)]
  have B := barrett_ofNat x hx
  rw [ofNat_div, ofNat_mod x 40] at B
  simpa only [Nat.reduceAdd] using B
end Cx.Proofs.Scalar64
