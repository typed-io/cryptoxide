/-
  Proofs.Scalar64Digits — `bits` and `nibbles` of Impl/Scalar64.lean are the binary / radix-16 digits of the value.
-/
import CxVerif.Proofs.Scalar64Bytes
import CxVerif.Proofs.ScalarL
namespace Cx.Proofs.Scalar64
open Cx Cx.Impl.Scalar64
open Cx.Proofs.ScalarL (toList_eq_digits)

theorem contract_get (s : Scalar) (h : Inv s) (k : Nat) (hk : k < 4) :
    (contract s)[k] = (s.val / 2^(64*k)) % 2^64 := by
  obtain ⟨e0, e1, e2, e3⟩ := words_eq s h
  match k, hk with
  | 0, _ => rw [Nat.mul_zero, Nat.pow_zero, Nat.div_one]; exact e0
  | 1, _ => exact e1
  | 2, _ => exact e2
  | 3, _ => exact e3

theorem nibbles_get (s : Scalar) (h : Inv s) (i : Nat) (hi : i < 64) :
    (nibbles s)[i] = ((s.val / 16^i % 16 : Nat) : Int) := by
  unfold nibbles
  simp only [Vector.getElem_ofFn]
  rw [contract_get s h (i / 16) (by omega)]
  congr 1
  unfold shr64
  rw [Nat.shiftRight_eq_div_pow, show (0b1111 : Nat) = 2^4 - 1 by decide, and_mask,
    Bits.field_field _ _ 64 _ 4 (by omega), show (16:Nat) = 2^4 by decide, ← Nat.pow_mul]
  congr 3
  omega

theorem bits_get (s : Scalar) (h : Inv s) (i : Nat) (hi : i < 256) :
    (bits s)[i] = ((s.val / 2^i % 2 : Nat) : Int) := by
  unfold bits
  simp only [Vector.getElem_ofFn]
  have e6 : i >>> 6 = i / 64 := by rw [Nat.shiftRight_eq_div_pow]
  have e63 : i &&& 0x3f = i % 64 := by rw [show (0x3f : Nat) = 2^6 - 1 by decide, and_mask]
  simp only [e6, e63]
  rw [contract_get s h (i / 64) (by omega)]
  congr 1
  unfold shr64
  rw [Nat.shiftRight_eq_div_pow, Nat.and_comm, show (1 : Nat) = 2^1 - 1 by decide, and_mask,
    Bits.field_field _ _ 64 _ 1 (by omega)]
  congr 3
  omega

theorem nibbles_eq_radix16 (s : Scalar) (h : Inv s) :
    (nibbles s).toList = (Spec.ScalarL.radix16 s.val).map Int.ofNat :=
  toList_eq_digits _ 16 _ (nibbles_get s h)

theorem bits_eq_bitsLE (s : Scalar) (h : Inv s) :
    (bits s).toList = (Spec.ScalarL.bitsLE s.val).map Int.ofNat :=
  toList_eq_digits _ 2 _ (bits_get s h)
end Cx.Proofs.Scalar64
