/-
  Proofs.Scalar64Mul — `mul`, `add`, `muladd` of Impl/Scalar64.lean compute the operation modulo L.
  `mul` is column 0 and one weak carry pass (radix 2^56, Proofs/Limbs.lean) over the columns 1 … 8 of the schoolbook
  product (`colsK`, `cols_le` of Scalar64Barrett: the same column text as the two products inside `barrett_reduce256`).
  The pass writes the 512-bit product `X` in digits, so the limbs the source cuts out of the sums from bit 24 of the fifth
  on are the fields of `X` from bit 248 on, `q1 = X >> 248`, and the low ones are `r1 = X mod 2^264` (`join56`, `ofNat_mod`).
  Then `barrett_ofNat`.
  `add` is stepped through by rules applied as terms (`ck64_step`, `add_limb`): the limb sums stay the expressions the program
  holds, and `split56` says of each that it is its kept limb plus a carry bit.
-/
import CxVerif.Proofs.Scalar64Barrett
import Mathlib.Tactic.Ring
namespace Cx.Proofs.Scalar64
open Cx Cx.Impl.Scalar64
open Cx.Proofs.Limbs (passM sums digits passM_sums passM_cons passM_nil pass_digits_cons)
open Cx.Proofs.Bits (div_div_pow field_low)
-- not needed to compile: it lets `2^512` be evaluated where the default threshold (256) would only warn
set_option exponentiation.threshold 600

def on8 {β} (k : Nat → Nat → Nat → Nat → Nat → Nat → Nat → Nat → Option β) : List Nat → Option β
  | [a, b, c, d, e, f, g, h] => k a b c d e f g h
  | _ => none
theorem on8_eq {β} (k : Nat → Nat → Nat → Nat → Nat → Nat → Nat → Nat → Option β) (a b c d e f g h : Nat) :
    on8 k [a, b, c, d, e, f, g, h] = k a b c d e f g h := by rw [on8]

theorem mul_eq (x y : Scalar) : mul x y =
    passM asU64 (shr128 · 56) (colsK x y) (shr128 (x.l0 * y.l0) 56) fun r f9 => on8 (fun s1 s2 s3 s4 s5 s6 s7 s8 =>
        barrett_reduce256
          ⟨(shr64 s4 24 &&& 0xffffffff) ||| (shl64 s5 32 &&& MASK56), (shr64 s5 24 &&& 0xffffffff) ||| (shl64 s6 32 &&& MASK56),
           (shr64 s6 24 &&& 0xffffffff) ||| (shl64 s7 32 &&& MASK56), (shr64 s7 24 &&& 0xffffffff) ||| (shl64 s8 32 &&& MASK56),
           (shr64 s8 24 &&& 0xffffffff) ||| shl64 f9 32⟩
          ⟨asU64 (x.l0 * y.l0) &&& MASK56, s1 &&& MASK56, s2 &&& MASK56, s3 &&& MASK56, s4 &&& MASK40⟩) r := by
  unfold mul
  simp only [colsK, colsP, List.map_cons, List.map_nil, passM_cons, passM_nil, on8_eq, stK, List.foldl_cons, List.foldl_nil, mul128]

theorem mul_columns (x y : Scalar) : x.val * y.val = Limbs.val 56 (x.l0 * y.l0 :: cols x y) := by
  simp only [cols, colsP, List.map_cons, List.map_nil, Scalar.val, Limbs.val, List.sum_cons, List.sum_nil]; ring

theorem mul_spec (x y : Scalar) (hx : Inv x) (hy : Inv y) :
    ∃ o, mul x y = some o ∧ o.val = (x.val * y.val) % Spec.ScalarL.L ∧ Inv o := by
  have hxy : x.val * y.val < 2^512 := mul_lt_pow _ _ 256 256 hx.val_lt hy.val_lt
  have hx' : Lim x := ⟨hx.1, hx.2.1, hx.2.2.1, hx.2.2.2.1, Nat.lt_trans hx.2.2.2.2 (by decide)⟩
  have hy' : Lim y := ⟨hy.1, hy.2.1, hy.2.2.1, hy.2.2.2.1, Nat.lt_trans hy.2.2.2.2 (by decide)⟩
  have h0 : x.l0 * y.l0 < 2^120 := Nat.lt_trans (mul_lt112 hx'.1 hy'.1) (by decide)
  have hc : shr128 (x.l0 * y.l0) 56 ≤ 2^64 := by rw [hi56 _ h0]; omega
  rw [mul_eq, passM_sums (w := 56) hi56 (cols_step x y) (cols_le hx' hy') hc (by decide)]
  -- the pass writes the product in digits
  obtain ⟨hd, hf⟩ := pass_digits_cons 56 (x.l0 * y.l0) (cols x y)
  rw [← hi56 _ h0, ← mul_columns] at hd hf
  rw [hf]
  obtain ⟨s1, s2, s3, s4, s5, s6, s7, s8, e⟩ : ∃ s1 s2 s3 s4 s5 s6 s7 s8,
      sums 56 (shr128 (x.l0 * y.l0) 56) (cols x y) = [s1, s2, s3, s4, s5, s6, s7, s8] := ⟨_, _, _, _, _, _, _, _, rfl⟩
  rw [e] at hd ⊢
  generalize x.val * y.val = X at hxy hd ⊢
  simp only [cols, colsP, List.map_cons, List.map_nil, List.length_cons, List.length_nil, digits, List.cons.injEq, and_true, div_div_pow,
    Nat.reduceAdd, Nat.reduceMul] at hd ⊢
  obtain ⟨h0, h1, h2, h3, h4, h5, h6, h7, h8⟩ := hd
  -- `q1 = X >> 248` and `r1 = X mod 2^264` are cut out of the sums from bit 24 of the fifth on
  rw [on8_eq, show (0xffffffff : Nat) = 2^32 - 1 from rfl, MASK56_eq, join56 24 32 h4 h5, join56 24 32 h5 h6, join56 24 32 h6 h7,
    join56 24 32 h7 h8, join_top 24 32 h8 rfl (by omega), ← MASK56_eq, lo56, lo56, lo56, lo56, lo40, h0, h1, h2, h3, h4,
    field_low _ _ _ _ (by decide), ← ofNat_mod X 40]
  have B := barrett_ofNat X hxy
  rw [ofNat_div] at B
  simpa only [Nat.reduceAdd] using B

/-- a limb sum of `add` as the source writes it: `a + b` checked, then the carry added, checked -/
theorem add_limb {β} {c a b : Nat} {k : Nat → Option β} {Q : β → Prop} (h : c + (a + b) < 2^64)
    (hk : ∃ o, k (c + (a + b)) = some o ∧ Q o) : ∃ o, (ck64 (a + b) >>= fun s => ck64 (c + s) >>= k) = some o ∧ Q o := by
  rwa [ck64_bind _ (by omega), ck64_bind _ h]

/-- a limb sum below 2^57 splits into the kept limb and a carry bit; with the carry the sum of two limbs of `k` bits has `k + 1` -/
theorem split56 {s : Nat} (h : s < 2^57) : s = shr64 s 56 * 2^56 + (s &&& MASK56) ∧ s &&& MASK56 < 2^56 ∧ shr64 s 56 ≤ 1 ∧
    ∀ {a b k : Nat}, a < 2^k → b < 2^k → shr64 s 56 + (a + b) < 2^(k + 1) := by
  unfold shr64; rw [MASK56_eq, and_mask, Nat.shiftRight_eq_div_pow]
  exact ⟨by omega, by omega, by omega, fun {a b k} ha hb => by have := @Nat.pow_succ' 2 k; omega⟩

/-- `add`: one conditional subtraction of L from the limb-wise sum (no overflow for limbs below 2^62) -/
theorem add_spec (x y : Scalar)
    (hx0 : x.l0 < 2^56) (hx1 : x.l1 < 2^56) (hx2 : x.l2 < 2^56) (hx3 : x.l3 < 2^56) (hx4 : x.l4 < 2^62)
    (hy0 : y.l0 < 2^56) (hy1 : y.l1 < 2^56) (hy2 : y.l2 < 2^56) (hy3 : y.l3 < 2^56) (hy4 : y.l4 < 2^62) :
    ∃ o, add x y = some o ∧
      o.val = (if x.val + y.val < Spec.ScalarL.L then x.val + y.val else x.val + y.val - Spec.ScalarL.L) ∧
      o.l0 < 2^56 ∧ o.l1 < 2^56 ∧ o.l2 < 2^56 ∧ o.l3 < 2^56 ∧ o.l4 ≤ x.l4 + y.l4 + 1 := by
  -- the limb sums stay the expressions the program holds; each is below 2^57 because the one before it is
  obtain ⟨d0, r0, -, n0⟩ := split56 (Nat.add_lt_add hx0 hy0 : x.l0 + y.l0 < 2^57)
  obtain ⟨d1, r1, -, n1⟩ := split56 (n0 hx1 hy1)
  obtain ⟨d2, r2, -, n2⟩ := split56 (n1 hx2 hy2)
  obtain ⟨d3, r3, c3, n3⟩ := split56 (n2 hx3 hy3)
  unfold add
  refine ck64_step (by omega) (add_limb (Nat.lt_trans (n0 hx1 hy1) (by decide)) (add_limb (Nat.lt_trans (n1 hx2 hy2) (by decide))
    (add_limb (Nat.lt_trans (n2 hx3 hy3) (by decide)) (add_limb (Nat.lt_trans (n3 hx4 hy4) (by decide)) ?_))))
  obtain ⟨o, ho, v, a0, a1, a2, a3, a4⟩ := reduce256_spec ⟨_, _, _, _, _⟩ r0 r1 r2 r3 (n3 hx4 hy4)
  exact ⟨o, ho, v.trans (congrArg (fun t => if t < Spec.ScalarL.L then t else t - Spec.ScalarL.L) (by simp only [Scalar.val]; omega)),
    a0, a1, a2, a3, Nat.le_trans a4 (Nat.le_trans (Nat.add_le_add_right c3 _) (Nat.le_of_eq (Nat.add_comm 1 _)))⟩
theorem add_mod (x y : Scalar) (hx : Inv x) (hy : Inv y) (h : x.val + y.val < 2 * Spec.ScalarL.L) :
    ∃ o, add x y = some o ∧ o.val = (x.val + y.val) % Spec.ScalarL.L ∧ Inv o := by
  obtain ⟨hx0, hx1, hx2, hx3, hx4⟩ := hx
  obtain ⟨hy0, hy1, hy2, hy3, hy4⟩ := hy
  obtain ⟨o, ho, v, a0, a1, a2, a3, a4⟩ := add_spec x y hx0 hx1 hx2 hx3 (by omega) hy0 hy1 hy2 hy3 (by omega)
  have hv : o.val = (x.val + y.val) % Spec.ScalarL.L := by
    generalize x.val + y.val = s at *
    unfold Spec.ScalarL.L at *
    split at v <;> omega
  exact ⟨o, ho, hv, inv_of_lt a0 a1 a2 a3 (hv ▸ Nat.mod_lt _ (by decide))⟩

theorem muladd_spec (a b c : Scalar) (ha : Inv a) (hb : Inv b) (hc : Inv c) (hcL : c.val < Spec.ScalarL.L) :
    ∃ o, muladd a b c = some o ∧ o.val = (a.val * b.val + c.val) % Spec.ScalarL.L ∧ Inv o := by
  obtain ⟨m, hm, vm, im⟩ := mul_spec a b ha hb
  have hmL : m.val < Spec.ScalarL.L := by rw [vm]; exact Nat.mod_lt _ (by decide)
  obtain ⟨o, ho, vo, io⟩ := add_mod m c im hc (by omega)
  refine ⟨o, ?_, ?_, io⟩
  · unfold muladd; exact bind_some_of (a := mul a b) hm ho
  · rw [vo, vm, Nat.add_mod, Nat.mod_mod, ← Nat.add_mod]
end Cx.Proofs.Scalar64
