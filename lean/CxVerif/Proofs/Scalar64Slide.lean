/-
  Proofs.Scalar64Slide — the contract of `Scalar::slide` (scalar/mod.rs, ref10's sliding-window recoding), by refinement
  to a recoding on NUMBERS.  The array is always "final digits below i, then the bits of a number n from position i on"
  (`BitsOf`).  The carry loop is n ↦ n + 1 (`carry_succ`); the inner and the outer loop are the number programs `innerN`,
  `outerN` (`inner_refines`, `outer_refines`; no bound on the value: the recoding never panics).  What the digits denote
  (`outerN_spec`) and that nothing is left over beyond position 256 for a < 2^255 (`outerN_small`) is arithmetic.
-/
import CxVerif.Proofs.Scalar64Digits
import Mathlib.Tactic.Ring
import Mathlib.Tactic.Linarith
namespace Cx.Proofs.Scalar64.Slide
open Cx Cx.Impl.Scalar64

/-- from position `k` on, the array holds the bits of `n` (only the bits below `256 - k` are seen; `n` is not bounded) -/
def BitsOf (r : Vector Int 256) (k n : Nat) : Prop :=
  ∀ j (h : j < 256), k ≤ j → r[j] = ((n / 2 ^ (j - k) % 2 : Nat) : Int)

variable {r : Vector Int 256} {k n : Nat}

theorem BitsOf.head (hB : BitsOf r k n) (hk : k < 256) : r[k] = ((n % 2 : Nat) : Int) := by
  have := hB k hk (Nat.le_refl k)
  rwa [Nat.sub_self, Nat.pow_zero, Nat.div_one] at this

theorem BitsOf.one (hB : BitsOf r k n) (hk : k < 256) (h : n % 2 = 1) : r[k] = 1 := by rw [hB.head hk, h]; rfl
theorem BitsOf.zero (hB : BitsOf r k n) (hk : k < 256) (h : ¬ n % 2 = 1) : r[k] = 0 := by
  rw [hB.head hk, show n % 2 = 0 by omega]; rfl

theorem BitsOf.tail (hB : BitsOf r k n) : BitsOf r (k + 1) (n / 2) := by
  intro j hj hkj
  have e : j - k = j - (k + 1) + 1 := by omega
  rw [hB j hj (by omega), e, Nat.pow_succ', Nat.div_div_eq_div_mul]

theorem BitsOf.cons (h0 : ∀ h : k < 256, r[k] = ((n % 2 : Nat) : Int)) (ht : BitsOf r (k + 1) (n / 2)) :
    BitsOf r k n := by
  intro j hj hkj
  by_cases e : j = k
  · subst e; rw [h0 hj, Nat.sub_self, Nat.pow_zero, Nat.div_one]
  · have e' : j - k = j - (k + 1) + 1 := by omega
    rw [ht j hj (by omega), e', Nat.pow_succ', Nat.div_div_eq_div_mul]

theorem BitsOf.set_lt (hB : BitsOf r k n) (j : Nat) (v : Int) (hj : j < 256) (hjk : j < k) :
    BitsOf (r.set j v hj) k n := by
  intro l hl hkl
  rw [Vector.getElem_set_ne hj hl (by omega)]; exact hB l hl hkl

theorem BitsOf.shift {i b m : Nat} (hb : 1 ≤ b) (hz : ∀ j (h : j < 256), i < j → j < i + b → r[j] = 0)
    (hB : BitsOf r (i + b) m) : BitsOf r (i + 1) (m * 2 ^ (b - 1)) := by
  obtain ⟨c, rfl⟩ : ∃ c, b = c + 1 := ⟨b - 1, by omega⟩
  rw [Nat.add_sub_cancel]
  induction c generalizing m with
  | zero => simpa using hB
  | succ c ih =>
    rw [Nat.pow_succ', ← Nat.mul_assoc, Nat.mul_comm m 2]
    refine ih (by omega) (fun j h h1 h2 => hz j h h1 (by omega)) (BitsOf.cons (fun h => ?_) ?_)
    · rw [hz _ h (by omega) (by omega), Nat.mul_mod_right]; rfl
    · rwa [Nat.mul_div_cancel_left m (by decide)]

theorem carry_succ (fuel k n : Nat) (r : Vector Int 256) (hf : fuel = 256 - k) (hB : BitsOf r k n) :
    BitsOf (slideCarry fuel k r) k (n + 1) ∧ ∀ j (h : j < 256), j < k → (slideCarry fuel k r)[j] = r[j] := by
  fun_induction slideCarry fuel k r generalizing n with
  | case1 | case4 => exact ⟨fun j hj hkj => by omega, fun _ _ _ => rfl⟩   -- k = 256: no bit is seen
  | case2 fuel k r hk h0 =>
    -- the bit is 0, so n is even: the bit becomes 1, the rest stays: (n + 1) / 2 = n / 2
    have h : n % 2 = 0 := by have := hB.head hk; rw [eq_of_beq h0] at this; omega
    refine ⟨BitsOf.cons (fun _ => ?_) ?_, fun j hj hjk => Vector.getElem_set_ne _ _ (by omega)⟩
    · rw [Vector.getElem_set_self, show (n + 1) % 2 = 1 by omega]; rfl
    · rw [show (n + 1) / 2 = n / 2 by omega]; exact hB.tail.set_lt k 1 hk (by omega)
  | case3 fuel k r hk h1 ih =>
    -- the bit is 1, so n is odd: the bit becomes 0 and the carry goes on: (n + 1) / 2 = n / 2 + 1
    have h : n % 2 = 1 := by by_contra h; exact h1 (beq_iff_eq.mpr (hB.zero hk h))
    obtain ⟨a1, a2⟩ := ih (n / 2) (by omega) (hB.tail.set_lt k 0 hk (by omega))
    refine ⟨BitsOf.cons (fun _ => ?_) ?_, fun j hj hjk => ?_⟩
    · rw [a2 k hk (by omega), Vector.getElem_set_self, show (n + 1) % 2 = 0 by omega]; rfl
    · rw [show (n + 1) / 2 = n / 2 + 1 by omega]; exact a1
    · rw [a2 j hj (by omega), Vector.getElem_set_ne _ _ (by omega)]

/-- a digit the inner loop works on -/
abbrev Win (d : Int) : Prop := d % 2 = 1 ∧ -15 ≤ d ∧ d ≤ 15
/-- a final digit -/
def Dig (d : Int) : Prop := d = 0 ∨ (d % 2 = 1 ∧ -15 ≤ d ∧ d ≤ 15)

/-- the inner loop on numbers: `d` is the digit at position i, `m` the number whose bits stand from i + b on.
    Result: the final digit, and the number whose bits stand from i + 1 on. -/
def innerN (bound : Nat) : Nat → Nat → Int → Nat → Int × Nat
  | 0, b, d, m => (d, m * 2 ^ (b - 1))
  | fuel + 1, b, d, m =>
    if b < bound then
      if m % 2 = 1 then
        if d + 2 ^ b ≤ 15 then innerN bound fuel (b + 1) (d + 2 ^ b) (m / 2)
        else if d - 2 ^ b ≥ -15 then innerN bound fuel (b + 1) (d - 2 ^ b) ((m + 1) / 2)
        else (d, m * 2 ^ (b - 1))
      else innerN bound fuel (b + 1) d (m / 2)
    else (d, m * 2 ^ (b - 1))

/- the steps keep the value `d + 2^b·m`: the bit at offset `b` is skipped, added to the digit, or subtracted
   from it with a carry into `m`; where the loop stops, `m` takes the zeros below it -/
theorem step_skip (b m : Nat) (h : m % 2 = 0) : (2 : Int) ^ (b + 1) * ((m / 2 : Nat) : Int) = 2 ^ b * m := by
  have : (m : Int) = 2 * ((m / 2 : Nat) : Int) := by omega
  rw [this, pow_succ]; ring
theorem step_add (b m : Nat) (h : m % 2 = 1) : (2 : Int) ^ (b + 1) * ((m / 2 : Nat) : Int) = 2 ^ b * m - 2 ^ b := by
  have : (m : Int) = 2 * ((m / 2 : Nat) : Int) + 1 := by omega
  rw [this, pow_succ]; ring
theorem step_sub (b m : Nat) (h : m % 2 = 1) :
    (2 : Int) ^ (b + 1) * (((m + 1) / 2 : Nat) : Int) = 2 ^ b * m + 2 ^ b := by
  have : (m : Int) = 2 * (((m + 1) / 2 : Nat) : Int) - 1 := by omega
  rw [this, pow_succ]; ring
theorem step_stop (b m : Nat) (hb : 1 ≤ b) : 2 * ((m * 2 ^ (b - 1) : Nat) : Int) = 2 ^ b * m := by
  obtain ⟨c, rfl⟩ : ∃ c, b = c + 1 := ⟨b - 1, by omega⟩
  rw [Nat.add_sub_cancel, pow_succ]; push_cast; ring
theorem pow_even (b : Nat) (hb : 1 ≤ b) : (2 : Int) ^ b % 2 = 0 ∧ (0 : Int) < 2 ^ b := by
  obtain ⟨c, rfl⟩ : ∃ c, b = c + 1 := ⟨b - 1, by omega⟩
  exact ⟨by rw [pow_succ]; omega, by positivity⟩

theorem innerN_spec (bound fuel b : Nat) (d : Int) (m : Nat) (hb : 1 ≤ b) (hd : Win d) :
    (innerN bound fuel b d m).1 + 2 * ((innerN bound fuel b d m).2 : Int) = d + 2 ^ b * (m : Int) ∧
      Win (innerN bound fuel b d m).1 := by
  fun_induction innerN bound fuel b d m with
  | case1 | case4 | case6 => exact ⟨congrArg (_ + ·) (step_stop _ _ hb), hd⟩   -- the three ways to stop
  | case2 fuel b d m _ hm hs ih =>   -- add
    have := pow_even b hb
    obtain ⟨e, w⟩ := ih (by omega) (by omega)
    exact ⟨by rw [e, step_add b m hm]; ring, w⟩
  | case3 fuel b d m _ hm hs hs' ih =>   -- sub
    have := pow_even b hb
    obtain ⟨e, w⟩ := ih (by omega) (by omega)
    exact ⟨by rw [e, step_sub b m hm]; ring, w⟩
  | case5 fuel b d m _ hm ih =>   -- skip
    obtain ⟨e, w⟩ := ih (by omega) hd
    exact ⟨by rw [e, step_skip b m (by omega)], w⟩

theorem shlI8_one (b : Nat) (h1 : 1 ≤ b) (h6 : b ≤ 6) :
    shlI8 1 b = 2 ^ b ∧ (2 : Int) ^ b % 2 = 0 ∧ (2 : Int) ≤ 2 ^ b ∧ (2 : Int) ^ b ≤ 64 := by
  match b, h1, h6 with
  | 1, _, _ => decide
  | 2, _, _ => decide
  | 3, _, _ => decide
  | 4, _, _ => decide
  | 5, _, _ => decide
  | 6, _, _ => decide

theorem ckI8_some (v : Int) (h1 : -128 ≤ v) (h2 : v ≤ 127) : ckI8 v = some v := by
  simp [ckI8, h1, h2]

section inner
variable (i bound : Nat)

theorem inner_stop (fuel b : Nat) (r : Vector Int 256) (h : ¬ (b < bound ∧ i + b < 256)) :
    slideInner i bound (fuel + 1) b r = some r := by
  simp only [slideInner, dif_neg h]

theorem inner_skip (fuel b : Nat) (r : Vector Int 256) (h : b < bound ∧ i + b < 256) (h0 : r[i + b]'h.2 = 0) :
    slideInner i bound (fuel + 1) b r = slideInner i bound fuel (b + 1) r := by
  simp [slideInner, h, h0]

theorem inner_add (fuel b : Nat) (r : Vector Int 256) (h : b < bound ∧ i + b < 256) (h1 : r[i + b]'h.2 = 1)
    (hlo : -15 ≤ r[i]'(by omega)) (hhi : r[i]'(by omega) ≤ 15) (hs : r[i]'(by omega) + 2 ^ b ≤ 15)
    (hb1 : 1 ≤ b := by omega) (hb6 : b ≤ 6 := by omega) :
    slideInner i bound (fuel + 1) b r =
      slideInner i bound fuel (b + 1) ((r.set i (r[i]'(by omega) + 2 ^ b) (by omega)).set (i + b) 0 h.2) := by
  obtain ⟨e1, _, e3, e4⟩ := shlI8_one b hb1 hb6
  simp only [slideInner, dif_pos h, h1, e1]
  rw [ckI8_some _ (by omega) (by omega)]
  simp [hs]

theorem inner_sub (fuel b : Nat) (r : Vector Int 256) (h : b < bound ∧ i + b < 256) (h1 : r[i + b]'h.2 = 1)
    (hlo : -15 ≤ r[i]'(by omega)) (hhi : r[i]'(by omega) ≤ 15) (hs : ¬ r[i]'(by omega) + 2 ^ b ≤ 15)
    (hb1 : 1 ≤ b := by omega) (hb6 : b ≤ 6 := by omega) :
    slideInner i bound (fuel + 1) b r =
      if r[i]'(by omega) - 2 ^ b ≥ -15 then
        slideInner i bound fuel (b + 1)
          (slideCarry (256 - (i + b)) (i + b) (r.set i (r[i]'(by omega) - 2 ^ b) (by omega)))
      else some r := by
  obtain ⟨e1, _, e3, e4⟩ := shlI8_one b hb1 hb6
  simp only [slideInner, dif_pos h, h1, e1]
  rw [ckI8_some _ (by omega) (by omega)]
  simp only [bne_iff_ne, ne_eq, one_ne_zero, not_false_eq_true, ↓reduceIte, hs]
  rw [ckI8_some _ (by omega) (by omega)]

/-- the inner loop of the array program computes `innerN`; there is NO bound on the value: `ckI8` never fails,
    since |digit| ≤ 15 and 2^b ≤ 64 -/
theorem inner_refines (hi : i < 256) (hbound : bound ≤ min 7 (256 - i)) (fuel b : Nat) (d : Int) (m : Nat)
    (r : Vector Int 256) (hb1 : 1 ≤ b) (hd : r[i] = d) (hlo : -15 ≤ d) (hup : d ≤ 15)
    (hz : ∀ j (h : j < 256), i < j → j < i + b → r[j] = 0) (hB : BitsOf r (i + b) m) :
    ∃ r', slideInner i bound fuel b r = some r' ∧ r'[i] = (innerN bound fuel b d m).1 ∧
      BitsOf r' (i + 1) (innerN bound fuel b d m).2 ∧ ∀ j (h : j < 256), j < i → r'[j] = r[j] := by
  fun_induction innerN bound fuel b d m generalizing r with
  | case1 => exact ⟨r, rfl, hd, hB.shift hb1 hz, fun _ _ _ => rfl⟩
  | case6 fuel b d m hb => exact ⟨r, inner_stop i bound fuel b r (fun h => hb h.1), hd, hB.shift hb1 hz, fun _ _ _ => rfl⟩
  | case5 fuel b d m hb hm ih =>
    -- the bit at i + b is 0: skip
    have hib : i + b < 256 := by omega
    have h0 := hB.zero hib hm
    rw [inner_skip i bound fuel b r ⟨hb, hib⟩ h0]
    refine ih r (by omega) hd hlo hup (fun j h h1 h2 => ?_) hB.tail
    by_cases e : j = i + b
    · subst e; exact h0
    · exact hz j h h1 (by omega)
  | case2 fuel b d m hb hm hs ih =>
    -- add: the bit moves into the digit
    subst hd
    have hib : i + b < 256 := by omega
    obtain ⟨-, -, q2, q64⟩ := shlI8_one b hb1 (by omega)
    rw [inner_add i bound fuel b r ⟨hb, hib⟩ (hB.one hib hm) hlo hup hs]
    obtain ⟨r', a1, a2, a3, a4⟩ := ih ((r.set i (r[i] + 2 ^ b) hi).set (i + b) 0 hib) (by omega)
      (by rw [Vector.getElem_set_ne _ _ (by omega), Vector.getElem_set_self]) (by omega) hs
      (fun j h h1 h2 => by
        rw [Vector.getElem_set]; split
        · rfl
        · rw [Vector.getElem_set_ne _ _ (by omega)]; exact hz j h h1 (by omega))
      ((hB.tail.set_lt i _ hi (by omega)).set_lt (i + b) 0 hib (by omega))
    exact ⟨r', a1, a2, a3, fun j h hji => by
      rw [a4 j h hji, Vector.getElem_set_ne _ _ (by omega), Vector.getElem_set_ne _ _ (by omega)]⟩
  | case3 fuel b d m hb hm hs hs' ih =>
    -- sub: the digit takes −2^b and the number from i + b on goes up by one; it was odd, so its bit 0 becomes 0
    subst hd
    have hib : i + b < 256 := by omega
    obtain ⟨-, -, q2, q64⟩ := shlI8_one b hb1 (by omega)
    rw [inner_sub i bound fuel b r ⟨hb, hib⟩ (hB.one hib hm) hlo hup hs, if_pos hs']
    obtain ⟨c1, c2⟩ := carry_succ (256 - (i + b)) (i + b) m (r.set i (r[i] - 2 ^ b) hi) rfl
      (hB.set_lt i _ hi (by omega))
    obtain ⟨r', a1, a2, a3, a4⟩ := ih _ (by omega) (by rw [c2 i hi (by omega), Vector.getElem_set_self]) hs' (by omega)
      (fun j h h1 h2 => by
        by_cases e : j = i + b
        · subst e; exact c1.zero hib (by omega)
        · rw [c2 j h (by omega), Vector.getElem_set_ne _ _ (by omega)]; exact hz j h h1 (by omega))
      c1.tail
    exact ⟨r', a1, a2, a3, fun j h hji => by
      rw [a4 j h hji, c2 j h (by omega), Vector.getElem_set_ne _ _ (by omega)]⟩
  | case4 fuel b d m hb hm hs hs' =>
    -- break
    subst hd
    have hib : i + b < 256 := by omega
    exact ⟨r, by rw [inner_sub i bound fuel b r ⟨hb, hib⟩ (hB.one hib hm) hlo hup hs, if_neg hs'], rfl,
      hB.shift hb1 hz, fun _ _ _ => rfl⟩
end inner

/-- the outer loop on numbers: the digits from position i on, and what is left over beyond position i + fuel -/
def outerN : Nat → Nat → Nat → List Int × Nat
  | 0, _, n => ([], n)
  | fuel + 1, i, n =>
    if n % 2 = 1 then
      let q := innerN (min 7 (256 - i)) 7 1 1 (n / 2)
      let t := outerN fuel (i + 1) q.2
      (q.1 :: t.1, t.2)
    else
      let t := outerN fuel (i + 1) (n / 2)
      (0 :: t.1, t.2)

theorem outerN_spec (fuel i n : Nat) :
    Spec.ScalarL.evalDigits 2 (outerN fuel i n).1 + 2 ^ fuel * ((outerN fuel i n).2 : Int) = n ∧
    ∀ d ∈ (outerN fuel i n).1, Dig d := by
  fun_induction outerN fuel i n with
  | case1 => simp [Spec.ScalarL.evalDigits]
  | case2 fuel i n h q t ih =>
    -- n odd: the inner loop starts from the digit 1 and the number n / 2, and keeps 1 + 2·(n / 2) = n
    obtain ⟨a2, a3⟩ := ih
    obtain ⟨e, w⟩ := innerN_spec (min 7 (256 - i)) 7 1 1 (n / 2) (by omega) (by decide)
    refine ⟨?_, List.forall_mem_cons.mpr ⟨Or.inr w, a3⟩⟩
    have : (n : Int) = 1 + 2 ^ 1 * ((n / 2 : Nat) : Int) := by omega
    rw [this, ← e, ← a2, pow_succ]; simp only [Spec.ScalarL.evalDigits]; push_cast; ring
  | case3 fuel i n h t ih =>
    obtain ⟨a2, a3⟩ := ih
    refine ⟨?_, List.forall_mem_cons.mpr ⟨Or.inl rfl, a3⟩⟩
    have : (n : Int) = 2 * ((n / 2 : Nat) : Int) := by omega
    rw [this, ← a2, pow_succ]; simp only [Spec.ScalarL.evalDigits]; push_cast; ring

theorem outer_skip (fuel i : Nat) (r : Vector Int 256) (hi : i < 256) (h : r[i] = 0) :
    slideOuter (fuel + 1) i r = slideOuter fuel (i + 1) r := by
  simp [slideOuter, hi, h]

theorem outer_go (fuel i : Nat) (r r' : Vector Int 256) (hi : i < 256) (h : r[i] ≠ 0)
    (hin : slideInner i (min 7 (256 - i)) 7 1 r = some r') :
    slideOuter (fuel + 1) i r = slideOuter fuel (i + 1) r' := by
  simp [slideOuter, hi, h, hin]

theorem outer_refines (fuel i n : Nat) (r : Vector Int 256) (hf : fuel = 256 - i) (hB : BitsOf r i n) :
    ∃ r', slideOuter fuel i r = some r' ∧ r'.toList.drop i = (outerN fuel i n).1 ∧
      ∀ j (h : j < 256), j < i → r'[j] = r[j] := by
  fun_induction outerN fuel i n generalizing r with
  | case1 => exact ⟨r, rfl, List.drop_eq_nil_of_le (by simp; omega), fun _ _ _ => rfl⟩
  | case2 fuel i n h q t ih =>
    have hi' : i < 256 := by omega
    have h1 := hB.one hi' h
    obtain ⟨r1, b1, b2, b3, b4⟩ := inner_refines i (min 7 (256 - i)) hi' (Nat.le_refl _) 7 1 1 (n / 2) r (by omega) h1
      (by decide) (by decide) (fun j _ _ _ => by omega) hB.tail
    obtain ⟨r', a1, a2, a3⟩ := ih r1 (by omega) b3
    refine ⟨r', by rw [outer_go fuel i r r1 hi' (by rw [h1]; decide) b1, a1], ?_,
      fun j hj hji => by rw [a3 j hj (by omega), b4 j hj hji]⟩
    rw [List.drop_eq_getElem_cons (by simpa using hi'), a2, Vector.getElem_toList, a3 i hi' (by omega), b2]
  | case3 fuel i n h t ih =>
    have hi' : i < 256 := by omega
    have h0 := hB.zero hi' h
    obtain ⟨r', a1, a2, a3⟩ := ih r (by omega) hB.tail
    refine ⟨r', by rw [outer_skip fuel i r hi' h0, a1], ?_, fun j hj hji => a3 j hj (by omega)⟩
    rw [List.drop_eq_getElem_cons (by simpa using hi'), a2, Vector.getElem_toList, a3 i hi' (by omega), h0]

theorem pow_gap (b f : Nat) (m : Int) (hbf : b ≤ f) (h : (2 : Int) ^ b * m < 2 ^ f) : (2 : Int) ^ b * m + 2 ^ b ≤ 2 ^ f := by
  have e : (2 : Int) ^ f = 2 ^ b * 2 ^ (f - b) := by rw [← pow_add]; congr 1; omega
  have hp : (0 : Int) < 2 ^ b := by positivity
  rw [e] at h ⊢
  have : m + 1 ≤ 2 ^ (f - b) := lt_of_mul_lt_mul_left h hp.le
  calc (2 : Int) ^ b * m + 2 ^ b = 2 ^ b * (m + 1) := by ring
    _ ≤ _ := mul_le_mul_of_nonneg_left this hp.le

/-- the one real idea: while the value `d + 2^b·m` and its part `2^b·m` above the digit are at most 2^f
    (f + 1 = 256 − i places are left), the part stays at most 2^f: it only grows in the sub step, where d ≥ 1,
    so the part is a multiple of 2^b STRICTLY below 2^f -/
theorem innerN_small (bound f fuel b : Nat) (d : Int) (m : Nat) (hbound : bound ≤ f + 1) (hb : 1 ≤ b)
    (hv : d + 2 ^ b * (m : Int) ≤ 2 ^ f) (hm : (2 : Int) ^ b * (m : Int) ≤ 2 ^ f) :
    2 * ((innerN bound fuel b d m).2 : Int) ≤ 2 ^ f := by
  fun_induction innerN bound fuel b d m with
  | case1 | case4 | case6 => exact step_stop _ _ hb ▸ hm
  | case2 fuel b d m _ ho hs ih =>
    -- add: the value is kept, the part goes down by 2^b
    have e := step_add b m ho
    have : (0 : Int) < 2 ^ b := by positivity
    exact ih (by omega) (by omega) (by omega)
  | case3 fuel b d m _ ho hs hs' ih =>
    -- sub: d + 2^b ≥ 16 and d − 2^b ≥ −15 give d ≥ 1, so 2^b·m < 2^f and (b < bound ≤ f + 1) the gap is 2^b
    have e := step_sub b m ho
    have := pow_gap b f m (by omega) (by omega)
    exact ih (by omega) (by omega) (by omega)
  | case5 fuel b d m _ he ih =>
    have e := step_skip b m (by omega)
    exact ih (by omega) (by omega) (by omega)

theorem outerN_small (fuel i n : Nat) (hf : fuel = 256 - i) (h : 2 * (n : Int) ≤ 2 ^ fuel) : (outerN fuel i n).2 = 0 := by
  fun_induction outerN fuel i n with
  | case1 => omega
  | case2 fuel i n ho q t ih =>
    rw [pow_succ] at h
    exact ih (by omega)
      (innerN_small (min 7 (256 - i)) fuel 7 1 1 (n / 2) (by omega) (by omega) (by omega) (by omega))
  | case3 fuel i n he t ih =>
    rw [pow_succ] at h
    exact ih (by omega) (by omega)

theorem slideOuter_total (r0 : Vector Int 256) (a : Nat)
    (hb : ∀ j (h : j < 256), r0[j] = ((a / 2 ^ j % 2 : Nat) : Int)) :
    ∃ r, slideOuter 256 0 r0 = some r ∧ r.toList = (outerN 256 0 a).1 ∧ (∀ d ∈ r.toList, Dig d) ∧
      Spec.ScalarL.evalDigits 2 r.toList = (a : Int) - 2 ^ 256 * ((outerN 256 0 a).2 : Int) := by
  obtain ⟨r, h1, h2, -⟩ := outer_refines 256 0 a r0 rfl (fun j h _ => hb j h)
  obtain ⟨s2, s3⟩ := outerN_spec 256 0 a
  rw [List.drop_zero] at h2
  refine ⟨r, h1, h2, h2 ▸ s3, ?_⟩
  rw [h2]; linarith

/-- the documented range: for a < 2^255 nothing is left over (`slideOuter_total` with `outerN_small`) -/
theorem slideOuter_bits (r0 : Vector Int 256) (a : Nat) (ha : a < 2 ^ 255)
    (hb : ∀ j (h : j < 256), r0[j] = ((a / 2 ^ j % 2 : Nat) : Int)) :
    ∃ r, slideOuter 256 0 r0 = some r ∧ Spec.ScalarL.evalDigits 2 r.toList = (a : Int) ∧ ∀ d ∈ r.toList, Dig d := by
  obtain ⟨r, h1, -, h3, h4⟩ := slideOuter_total r0 a hb
  rw [outerN_small 256 0 a rfl (by omega)] at h4
  exact ⟨r, h1, by simpa using h4, h3⟩

/-- **slide** never panics on a scalar inside the invariant, whatever its value -/
theorem slide_total (s : Scalar) (h : Inv s) :
    ∃ r, slide s = some r ∧ r.toList = (outerN 256 0 s.val).1 ∧ (∀ d ∈ r.toList, Dig d) ∧
      Spec.ScalarL.evalDigits 2 r.toList = (s.val : Int) - 2 ^ 256 * ((outerN 256 0 s.val).2 : Int) :=
  slideOuter_total (bits s) s.val (bits_get s h)

/-- and below 2^255 its digits denote the value -/
theorem slide_spec (s : Scalar) (h : Inv s) (ha : s.val < 2 ^ 255) :
    ∃ r, slide s = some r ∧ Spec.ScalarL.evalDigits 2 r.toList = (s.val : Int) ∧ ∀ d ∈ r.toList, Dig d :=
  slideOuter_bits (bits s) s.val ha (bits_get s h)

theorem slide_isSlideOf (s : Scalar) (h : Inv s) (ha : s.val < 2 ^ 255) :
    ∃ r, slide s = some r ∧ Spec.ScalarL.isSlideOf s.val r.toList = true := by
  obtain ⟨r, hr, hv, hd⟩ := slide_spec s h ha
  refine ⟨r, hr, ?_⟩
  unfold Spec.ScalarL.isSlideOf
  simp only [Bool.and_eq_true, beq_iff_eq, List.all_eq_true, Bool.or_eq_true, bne_iff_ne, ne_eq,
    decide_eq_true_eq]
  refine ⟨⟨by simp, hv⟩, ?_⟩
  intro d hdm
  rcases hd d hdm with h0 | ⟨h1, h2, h3⟩
  · left; exact h0
  · right; exact ⟨⟨by omega, h2⟩, h3⟩
end Cx.Proofs.Scalar64.Slide
