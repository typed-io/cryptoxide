/-
  Proofs.ScalarL — what both scalar backends and the Ed25519 proofs need of Spec/ScalarL.lean: the two size facts about the group
  order `L` (`x % L < L`, reduced scalars fit 255 bits), and the digit strings `digits b n a`.  Core only.
-/
import CxVerif.Spec.ScalarL
namespace Cx.Proofs.ScalarL
open Cx.Spec.ScalarL (L digits evalDigits)

theorem L_pos : 0 < L := by decide +kernel
theorem L_lt_two_pow_255 : L < 2 ^ 255 := by decide +kernel

theorem digits_length (b : Nat) : ∀ n a, (digits b n a).length = n := by
  intro n; induction n with
  | zero => intro a; rfl
  | succ n ih => intro a; simp [digits, ih]

theorem digits_getElem (b : Nat) : ∀ n a i (h : i < (digits b n a).length), (digits b n a)[i] = a / b^i % b := by
  intro n; induction n with
  | zero => intro a i h; simp [digits] at h
  | succ n ih =>
    intro a i h
    cases i with
    | zero => simp [digits]
    | succ i =>
      simp only [digits, List.getElem_cons_succ]
      rw [ih, Nat.div_div_eq_div_mul, Nat.pow_succ, Nat.mul_comm]

theorem digits_lt {b : Nat} (hb : 0 < b) (n a : Nat) : ∀ d ∈ digits b n a, d < b := fun d hd => by
  obtain ⟨i, hi, rfl⟩ := List.getElem_of_mem hd
  rw [digits_getElem]; exact Nat.mod_lt _ hb

theorem evalDigits_digits (b : Nat) : ∀ n a, evalDigits b ((digits b n a).map Int.ofNat) = ((a % b^n : Nat) : Int) := by
  intro n; induction n with
  | zero => intro a; simp [digits, evalDigits, Nat.mod_one]
  | succ n ih =>
    intro a
    simp only [digits, List.map_cons, evalDigits, ih]
    rw [Nat.pow_succ', Nat.mod_mul]
    simp

theorem toList_eq_digits {n : Nat} (v : Vector Int n) (b a : Nat)
    (h : ∀ i (hi : i < n), v[i] = ((a / b^i % b : Nat) : Int)) :
    v.toList = (digits b n a).map Int.ofNat := by
  apply List.ext_getElem
  · simp [digits_length]
  · intro i h1 h2
    rw [Vector.getElem_toList, h i (by simpa using h1), List.getElem_map, digits_getElem]; rfl

theorem radix16_nibbles (v : Nat) (hv : v < 2 ^ 255) :
    (∀ e ∈ (digits 16 64 v).map Int.ofNat, 0 ≤ e ∧ e ≤ 15) ∧
    (∀ t, ((digits 16 64 v).map Int.ofNat)[63]? = some t → t ≤ 7) ∧
    evalDigits 16 ((digits 16 64 v).map Int.ofNat) = v := by
  refine ⟨?_, ?_, ?_⟩
  · intro e he
    obtain ⟨d, hd, rfl⟩ := List.mem_map.1 he
    have := digits_lt (by decide : 0 < 16) 64 v d hd
    exact ⟨Int.natCast_nonneg _, by show ((d : Nat) : Int) ≤ 15; omega⟩
  · intro t ht
    rw [List.getElem?_map] at ht
    have hl : 63 < (digits 16 64 v).length := by rw [digits_length]; decide
    rw [List.getElem?_eq_getElem hl, digits_getElem] at ht
    simp only [Option.map_some, Option.some.injEq] at ht
    rw [← ht]
    have h1 : v / 16 ^ 63 < 8 := by
      rw [Nat.div_lt_iff_lt_mul (by decide)]
      exact Nat.lt_of_lt_of_le hv (by decide)
    show ((v / 16 ^ 63 % 16 : Nat) : Int) ≤ 7
    omega
  · rw [evalDigits_digits, Nat.mod_eq_of_lt (Nat.lt_of_lt_of_le hv (by decide))]

end Cx.Proofs.ScalarL
