/-
  Proofs.Sha1 — the SHA-NI-emulation compression of sha1.rs (`Impl.Sha1.digest_block_u32`) equals the FIPS 180-4
  §6.1.2 80-iteration loop (`Spec.Sha1.compress`), for every state and every block; table/constant theorems.

  The unrolled 20-line text is a loop `vloop` over the same lane functions (by `rfl`); `sha1rnds4 f` on lanes
  (e + w0 + K, w1 + K, w2 + K, w3 + K) is four §6.1.2 iterations, and the fifth working variable after them is
  `rotl30` of the old first lane (`sha1nexte`); the list the §6.1.2 schedule loop builds is `W_0, W_1, …` of the indexed recurrence
  `W M t` (`schedule_eq_W`), and on the lane vectors `V M t = (W_t, …, W_{t+3})` the code's
  `sha1msg2 (sha1msg1 v0 v1 ^ v2) v3` takes four consecutive vectors to the next (`schedule_V`); the rest is an induction
  over the groups of four rounds.
-/
import CxVerif.Impl.Sha1
import CxVerif.Proofs.ByteLemmas
namespace Cx.Proofs.Sha1
open Cx.Impl.Sha1 Cx.Spec.Sha1

/-- `bool3ary_202` (the code's Ch: `c ^ (a & (b ^ c))`) is FIPS `Ch` -/
theorem ch_eq (x y z : UInt32) : bool3ary_202 x y z = Ch x y z :=
  UInt32.eq_of_toBitVec_eq (Bytes.ch_bv x.toBitVec y.toBitVec z.toBitVec)

theorem parity_eq (x y z : UInt32) : bool3ary_150 x y z = Parity x y z := rfl
theorem maj_eq (x y z : UInt32) : bool3ary_232 x y z = Maj x y z := rfl

def fin (state : Hash) (h0 : u32x4) (e : UInt32) : Hash :=
  ⟨state.a + h0.x0, state.b + h0.x1, state.c + h0.x2, state.d + h0.x3, state.e + e⟩

/-- the loop behind the 20 lines of `digest_block_u32`: group `k` consumes the lane vector `v0`, the next
    vector is `schedule v0 v1 v2 v3`; `e` is what `sha1_first_half` computes from the previous `abcd` -/
def vloop (state : Hash) : (k n : Nat) → (hcur : u32x4) → (e : UInt32) → (v0 v1 v2 v3 : u32x4) → Option Hash
  | _, 0, hcur, e, _, _, _, _ => some (fin state hcur e)
  | k, n+1, hcur, e, v0, v1, v2, v3 =>
    (sha1_digest_round_x4 hcur (sha1_first_add e v0) (k / 5)).bind fun h' =>
      vloop state (k+1) n h' (rotate_left hcur.x0 30) v1 v2 v3 (Impl.Sha1.schedule v0 v1 v2 v3)

-- `rfl` compares the 20-line skeleton with `vloop`: the same lane functions in the same places, no round is opened
theorem impl_eq_vloop (state : Hash) (b0 b1 b2 b3 b4 b5 b6 b7 b8 b9 b10 b11 b12 b13 b14 b15 : UInt32) :
    digest_block_u32 state [b0, b1, b2, b3, b4, b5, b6, b7, b8, b9, b10, b11, b12, b13, b14, b15]
    = vloop state 0 20 ⟨state.a, state.b, state.c, state.d⟩ state.e
        ⟨b0, b1, b2, b3⟩ ⟨b4, b5, b6, b7⟩ ⟨b8, b9, b10, b11⟩ ⟨b12, b13, b14, b15⟩ := by
  rfl

/-- §6.1.2 step 3 with the function and constant as parameters -/
def round' (fv : UInt32 → UInt32 → UInt32 → UInt32) (k w : UInt32) (s : Hash) : Hash :=
  ⟨ROTL 5 s.a + fv s.b s.c s.d + s.e + k + w, s.a, ROTL 30 s.b, s.c, s.d⟩

theorem round_eq (t : Nat) (w : UInt32) (s : Hash) : round t w s = round' (f t) (K t) w s := rfl

def abcd (s : Hash) : u32x4 := ⟨s.a, s.b, s.c, s.d⟩

theorem u32x4_add (a b : u32x4) : a + b = ⟨a.x0 + b.x0, a.x1 + b.x1, a.x2 + b.x2, a.x3 + b.x3⟩ := rfl
theorem u32x4_xor (a b : u32x4) : a ^^^ b = ⟨a.x0 ^^^ b.x0, a.x1 ^^^ b.x1, a.x2 ^^^ b.x2, a.x3 ^^^ b.x3⟩ := rfl

theorem add_first (q r e w k : UInt32) : q + r + (e + w + k) = q + r + e + k + w := by ac_rfl
theorem add_next (p q r w k : UInt32) : p + q + r + (w + k) = q + r + p + k + w := by ac_rfl

theorem rnds4_eq (fv : UInt32 → UInt32 → UInt32 → UInt32) (k a b c d w0 w1 w2 w3 e : UInt32) :
    sha1rnds4 fv ⟨a, b, c, d⟩ ⟨e + w0 + k, w1 + k, w2 + k, w3 + k⟩
      = abcd (round' fv k w3 (round' fv k w2 (round' fv k w1 (round' fv k w0 ⟨a, b, c, d, e⟩)))) := by
  simp only [sha1rnds4, round', abcd, rotate_left, ROTL, UInt32.zero_add, add_first, add_next]

theorem rnds4_e (fv : UInt32 → UInt32 → UInt32 → UInt32) (k a b c d w0 w1 w2 w3 e : UInt32) :
    (round' fv k w3 (round' fv k w2 (round' fv k w1 (round' fv k w0 ⟨a, b, c, d, e⟩)))).e = rotate_left a 30 := rfl

theorem xor4 (a b c d : UInt32) : a ^^^ b ^^^ c ^^^ d = d ^^^ c ^^^ b ^^^ a := by ac_rfl

theorem impl_schedule_eq (x0 x1 x2 x3 x4 x5 x6 x7 x8 x9 x10 x11 x12 x13 x14 x15 : UInt32) :
    Impl.Sha1.schedule ⟨x0, x1, x2, x3⟩ ⟨x4, x5, x6, x7⟩ ⟨x8, x9, x10, x11⟩ ⟨x12, x13, x14, x15⟩
      = ⟨ROTL 1 (x13 ^^^ x8 ^^^ x2 ^^^ x0), ROTL 1 (x14 ^^^ x9 ^^^ x3 ^^^ x1), ROTL 1 (x15 ^^^ x10 ^^^ x4 ^^^ x2),
         ROTL 1 (ROTL 1 (x13 ^^^ x8 ^^^ x2 ^^^ x0) ^^^ x11 ^^^ x5 ^^^ x3)⟩ := by
  simp only [Impl.Sha1.schedule, sha1msg1, sha1msg2, u32x4_xor, rotate_left, ROTL]
  rw [xor4 x0 x2 x8 x13, xor4 x1 x3 x9 x14, xor4 x2 x4 x10 x15, xor4 x3 x5 x11]

def lanes (v : u32x4) : List UInt32 := [v.x0, v.x1, v.x2, v.x3]

/-- the words consumed by `n` groups of four rounds when the window starts as `v0 v1 v2 v3` -/
def wstream : Nat → u32x4 → u32x4 → u32x4 → u32x4 → List UInt32
  | 0, _, _, _, _ => []
  | n+1, v0, v1, v2, v3 => lanes v0 ++ wstream n v1 v2 v3 (Impl.Sha1.schedule v0 v1 v2 v3)

/-- `W_t` of FIPS 180-4 §6.1.2 step 1 for the block words `M` -/
def W (M : List UInt32) (t : Nat) : UInt32 :=
  if t < 16 then M.getD t 0
  else ROTL 1 (W M (t - 3) ^^^ W M (t - 8) ^^^ W M (t - 14) ^^^ W M (t - 16))
termination_by t
decreasing_by all_goals omega

theorem W_lt (M : List UInt32) {t : Nat} (h : t < 16) : W M t = M.getD t 0 := by
  rw [W, if_pos h]

theorem W_ge (M : List UInt32) (t : Nat) :
    W M (t + 16) = ROTL 1 (W M (t + 13) ^^^ W M (t + 8) ^^^ W M (t + 2) ^^^ W M t) := by
  rw [W, if_neg (by omega)]
  rfl

theorem getD_range_map (M : List UInt32) (t j : Nat) (h : j < t) : ((List.range t).map (W M)).getD j 0 = W M j := by
  simp [List.getD_eq_getElem?_getD, h]

theorem schedule_eq_W (M : List UInt32) (n : Nat) : ∀ t, 16 ≤ t →
    Spec.Sha1.schedule n ((List.range t).map (W M)) = (List.range (t + n)).map (W M) := by
  induction n with
  | zero => intro t _; rfl
  | succ n ih =>
    intro t ht
    obtain ⟨s, rfl⟩ : ∃ s, t = s + 16 := ⟨t - 16, by omega⟩
    have e : Wnext ((List.range (s + 16)).map (W M)) = W M (s + 16) := by
      unfold Wnext
      simp only [List.length_map, List.length_range]
      rw [getD_range_map _ _ _ (by omega), getD_range_map _ _ _ (by omega), getD_range_map _ _ _ (by omega),
        getD_range_map _ _ _ (by omega), W_ge]
      rfl
    rw [Spec.Sha1.schedule, e, ← List.map_singleton (f := W M), ← List.map_append, ← List.range_succ,
      ih (s + 16 + 1) (by omega)]
    congr 2; omega

def V (M : List UInt32) (t : Nat) : u32x4 := ⟨W M t, W M (t + 1), W M (t + 2), W M (t + 3)⟩

theorem schedule_V (M : List UInt32) (t : Nat) :
    Impl.Sha1.schedule (V M t) (V M (t + 4)) (V M (t + 8)) (V M (t + 12)) = V M (t + 16) := by
  show _ = (⟨W M (t + 16), W M (t + 1 + 16), W M (t + 2 + 16), W M (t + 3 + 16)⟩ : u32x4)
  rw [W_ge M (t + 3), W_ge M (t + 2), W_ge M (t + 1)]
  -- the fourth new word uses the first (`w19 = rotl1 (a.x3 ^ w16)` in `sha1msg2`)
  show _ = (⟨W M (t + 16), _, _, ROTL 1 (W M (t + 16) ^^^ _ ^^^ _ ^^^ _)⟩ : u32x4)
  rw [W_ge M t]
  exact impl_schedule_eq ..

theorem wstream_V (M : List UInt32) (n : Nat) : ∀ t,
    wstream n (V M t) (V M (t + 4)) (V M (t + 8)) (V M (t + 12)) = (List.range' t (4 * n)).map (W M) := by
  induction n with
  | zero => intro t; rfl
  | succ n ih =>
    intro t
    rw [wstream, schedule_V, Nat.mul_succ]
    exact congrArg (lanes (V M t) ++ ·) (ih (t + 4))

theorem block_eq_W (M : List UInt32) (h : M.length = 16) : M = (List.range 16).map (W M) := by
  apply List.ext_getElem (by simp [h])
  intro i h1 h2
  have hi : i < 16 := by simpa [h] using h1
  simp [W_lt M hi, List.getD_eq_getElem?_getD, h1]

theorem schedule_64 (M : List UInt32) (h : M.length = 16) :
    Spec.Sha1.schedule 64 M = wstream 20 (V M 0) (V M 4) (V M 8) (V M 12) := by
  refine (congrArg (Spec.Sha1.schedule 64) (block_eq_W M h)).trans ?_
  rw [schedule_eq_W M 64 16 (by decide), wstream_V M 20 0, List.range_eq_range']

theorem V_lt (M : List UInt32) {t : Nat} (h : t + 3 < 16) :
    V M t = ⟨M.getD t 0, M.getD (t + 1) 0, M.getD (t + 2) 0, M.getD (t + 3) 0⟩ := by
  rw [V, W_lt M (by omega), W_lt M (by omega), W_lt M (by omega), W_lt M (by omega)]

def fgrp : Nat → UInt32 → UInt32 → UInt32 → UInt32
  | 0 => bool3ary_202 | 1 => bool3ary_150 | 2 => bool3ary_232 | _ => bool3ary_150
def kgrp : Nat → UInt32
  | 0 => K0 | 1 => K1 | 2 => K2 | _ => K3

theorem digest_round_eq (g : Nat) (hg : g < 4) (h w : u32x4) :
    sha1_digest_round_x4 h w g = some (sha1rnds4 (fgrp g) h (w + ⟨kgrp g, kgrp g, kgrp g, kgrp g⟩)) := by
  have : g = 0 ∨ g = 1 ∨ g = 2 ∨ g = 3 := by omega
  rcases this with h | h | h | h <;> subst h <;> rfl

/-- §4.1.1 / §4.2.1 by table: `f_t` and `K_t` depend on `t / 20` only, and are what the code selects for `i = t / 20`
    (every `t`: beyond 80 both sides stay in their last case) -/
theorem round_div (t : Nat) (w : UInt32) (s : Hash) : round t w s = round' (fgrp (t / 20)) (kgrp (t / 20)) w s := by
  have hf : f t = fgrp (t / 20) := by
    funext x y z
    unfold f
    split
    · rw [show t / 20 = 0 by omega]; exact (ch_eq x y z).symm
    split
    · rw [show t / 20 = 1 by omega]; rfl
    split
    · rw [show t / 20 = 2 by omega]; rfl
    · obtain ⟨n, hn⟩ : ∃ n, t / 20 = n + 3 := ⟨t / 20 - 3, by omega⟩
      rw [hn]; rfl
  have hK : K t = kgrp (t / 20) := by
    unfold K
    split
    · rw [show t / 20 = 0 by omega]; rfl
    split
    · rw [show t / 20 = 1 by omega]; rfl
    split
    · rw [show t / 20 = 2 by omega]; rfl
    · obtain ⟨n, hn⟩ : ∃ n, t / 20 = n + 3 := ⟨t / 20 - 3, by omega⟩
      rw [hn]; rfl
  rw [round_eq, hf, hK]

theorem vloop_spec (state : Hash) (n : Nat) : ∀ (k : Nat) (hcur : u32x4) (e : UInt32) (v0 v1 v2 v3 : u32x4),
    k + n ≤ 20 →
    vloop state k n hcur e v0 v1 v2 v3
      = some (state.add (rounds (4 * k) (wstream n v0 v1 v2 v3) ⟨hcur.x0, hcur.x1, hcur.x2, hcur.x3, e⟩)) := by
  induction n with
  | zero => intro k hcur e v0 v1 v2 v3 _; rfl
  | succ n ih =>
    intro k hcur e v0 v1 v2 v3 hk
    obtain ⟨a, b, c, d⟩ := hcur
    obtain ⟨w0, w1, w2, w3⟩ := v0
    have hk' : k < 20 := by omega
    simp only [vloop, wstream, lanes, List.cons_append, List.nil_append, rounds]
    rw [digest_round_eq (k / 5) (by omega)]
    simp only [sha1_first_add, u32x4_add, rnds4_eq, Option.bind_some]
    rw [ih (k + 1) _ _ v1 v2 v3 _ (by omega)]
    -- the four rounds of group `k` are rounds `4k … 4k+3`, all in the twenty `k / 5`
    simp only [round_div]
    rw [show 4 * k / 20 = k / 5 by omega, show (4 * k + 1) / 20 = k / 5 by omega,
      show (4 * k + 1 + 1) / 20 = k / 5 by omega, show (4 * k + 1 + 1 + 1) / 20 = k / 5 by omega,
      show 4 * k + 1 + 1 + 1 + 1 = 4 * (k + 1) by omega]
    rfl

/-- **SHA-NI emulation = FIPS 180-4 §6.1.2**, for every chaining value and every 16-word block -/
theorem digest_block_u32_eq_compress (state : Hash)
    (b0 b1 b2 b3 b4 b5 b6 b7 b8 b9 b10 b11 b12 b13 b14 b15 : UInt32) :
    digest_block_u32 state [b0, b1, b2, b3, b4, b5, b6, b7, b8, b9, b10, b11, b12, b13, b14, b15]
      = some (compress state [b0, b1, b2, b3, b4, b5, b6, b7, b8, b9, b10, b11, b12, b13, b14, b15]) := by
  rw [impl_eq_vloop, vloop_spec state 20 0 _ _ _ _ _ _ (by decide), Nat.mul_zero]
  unfold compress
  rw [schedule_64 _ rfl, V_lt _ (by decide), V_lt _ (by decide), V_lt _ (by decide), V_lt _ (by decide)]
  rfl

/-- the same for a block given as a list of length 16; other lengths are refused by the model
    (`[u32; 16]` in Rust) -/
theorem digest_block_u32_eq (state : Hash) (M : List UInt32) (hM : M.length = 16) :
    digest_block_u32 state M = some (compress state M) := by
  match M, hM with
  | [b0, b1, b2, b3, b4, b5, b6, b7, b8, b9, b10, b11, b12, b13, b14, b15], _ =>
    exact digest_block_u32_eq_compress state b0 b1 b2 b3 b4 b5 b6 b7 b8 b9 b10 b11 b12 b13 b14 b15

/-- `K_t = ⌊2^30·√n⌋` for n = 2, 3, 5, 10 (`c` names the constant, so that each line has it once) -/
theorem K_sqrt :
    (∀ c, c = (K 0).toNat → c ^ 2 ≤ 2 * 2 ^ 60 ∧ 2 * 2 ^ 60 < (c + 1) ^ 2) ∧
    (∀ c, c = (K 20).toNat → c ^ 2 ≤ 3 * 2 ^ 60 ∧ 3 * 2 ^ 60 < (c + 1) ^ 2) ∧
    (∀ c, c = (K 40).toNat → c ^ 2 ≤ 5 * 2 ^ 60 ∧ 5 * 2 ^ 60 < (c + 1) ^ 2) ∧
    (∀ c, c = (K 60).toNat → c ^ 2 ≤ 10 * 2 ^ 60 ∧ 10 * 2 ^ 60 < (c + 1) ^ 2) := by
  refine ⟨?_, ?_, ?_, ?_⟩ <;> (intro c hc; subst hc; decide)

theorem H_eq : Impl.Sha1.H = Spec.Sha1.H0 := by decide

/-- §5.3.1 as bytes: 01 23 45 67 89 ab cd ef fe dc ba 98 76 54 32 10 f0 e1 d2 c3, words read little-endian -/
theorem H0_bytes :
    u32le H0.a ++ u32le H0.b ++ u32le H0.c ++ u32le H0.d ++ u32le H0.e
      = [0x01, 0x23, 0x45, 0x67, 0x89, 0xab, 0xcd, 0xef, 0xfe, 0xdc, 0xba, 0x98, 0x76, 0x54, 0x32, 0x10,
         0xf0, 0xe1, 0xd2, 0xc3] := by decide

end Cx.Proofs.Sha1
