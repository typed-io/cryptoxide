/-
  Proofs.Sha1Chunks — word parsing of a 64-byte block yields 16 words: the case `|blk| = 64` of `Bytes.wordsBE32_length` /
  `Bytes.wordsLE32_length` (used by `Sha1Stream.digest_block_spec`).
-/
import CxVerif.Proofs.Blocks
namespace Cx.Proofs.Sha1Chunks

theorem wordsBE32_length (blk : Bytes) (h : blk.length = 64) : (wordsBE32 blk).length = 16 := by
  rw [Bytes.wordsBE32_length, h]

theorem wordsLE32_length (blk : Bytes) (h : blk.length = 64) : (wordsLE32 blk).length = 16 := by
  rw [Bytes.wordsLE32_length, h]

end Cx.Proofs.Sha1Chunks
