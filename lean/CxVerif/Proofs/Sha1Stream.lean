/-
  Proofs.Sha1Stream — the SHA-1 context of sha1.rs (FixedBuffer<64>, `processed_bytes`, `mk_result`) refines
  "bytes since the last reset": `eng` presents it as an instance of `Md.Eng` (Proofs/MdRefine.lean) with N = 64, rem = 8,
  big-endian 64-bit length, compression = `digest_block` (= FIPS §6.1.2 by `Proofs.Sha1.digest_block_u32_eq`).
-/
import CxVerif.Proofs.Sha1
import CxVerif.Proofs.Sha1Chunks
import CxVerif.Proofs.BlockLoop
import CxVerif.Proofs.MdRefine
import CxVerif.Proofs.HashProg
namespace Cx.Proofs.Sha1Stream
open Cx.Impl Cx.Impl.Sha1 Cx.Proofs.FB Cx.Proofs.Sha1Chunks
open Cx.Spec.Sha1 (Hash compressBytes H0)
open Cx.Proofs.HashProg (Refines)

theorem digest_block_spec : FuncOneBlock 64 digest_block compressBytes := by
  intro s d hd
  unfold digest_block compressBytes
  rw [if_pos (by rw [hd]; rfl), Cx.Proofs.Sha1.digest_block_u32_eq s _ (wordsBE32_length d hd)]

/-- `digest_blocks` (the closure of `update_mut`) on a whole number of blocks -/
theorem digest_blocks_spec : FuncIsBlocks 64 digest_blocks compressBytes :=
  chunksLoop_spec (by decide) digest_blocks_go digest_block compressBytes digest_block_spec (fun _ => rfl)
    (fun s b bs s' h => by simp only [digest_blocks_go, h])

/-- context `c` has absorbed exactly `msg` since `new` / `reset` -/
def Abs (c : Context) (msg : Bytes) : Prop :=
  c.processed_bytes.toNat = msg.length % 2 ^ 64 ∧ WF 64 c.buffer ∧ c.buffer.data = blockTail 64 msg
  ∧ c.h = (fullBlocks 64 msg).foldl compressBytes H0

/-- `(self.processed_bytes << 3).to_be_bytes()` -/
theorem len_bytes_eq (pb : UInt64) : u64be (pb <<< 3) = len_be64 pb.toNat := by
  unfold u64be len_be64
  congr 1
  rw [UInt64.toNat_shiftLeft]
  simp [Nat.shiftLeft_eq]

/-- `sha1::Context` as a Merkle–Damgård engine: 64-byte blocks, u64 counter, big-endian 64-bit length; its finish is
    `mk_result`, which also returns the 20 output bytes
    (reducible, so that `abs_iff`-style `simp only` and the `show`s on its methods see through the fields: see `Md.Eng`) -/
@[reducible] def eng : Md.Eng Context Hash (Context × Bytes) where
  N := 64
  rem := 8
  M := 2 ^ 64
  compress := compressBytes
  func := digest_blocks
  funcFin := digest_block
  lenBytes := len_be64
  wr n b := b.next_write 8 (len_be64 n)
  lenEnc := Spec.MD.be64
  buf := (·.buffer)
  st := (·.h)
  cnt c := c.processed_bytes.toNat
  live _ := True
  input := Context.update_mut
  fin := Context.mk_result
  pack c b s := (⟨s, c.processed_bytes, b⟩, s.toBytes)
  hN := by decide
  hrem := by decide
  hf := digest_blocks_spec
  hf1 := digest_block_spec
  hlb := len_be64_length
  hwr n := next_write_WritesLen 64 8 _ (len_be64_length n)
  hlenc := lenField64
  input_ok c inp b' s' _ h := by
    simp only [Context.update_mut, h]
    exact ⟨_, rfl, rfl, rfl, by simp only [UInt64.toNat_add, UInt64.toNat_ofNat']; omega, trivial⟩
  fin_ok c _ _ _ _ _ _ _ h1 h2 h3 h4 := by
    rw [← len_bytes_eq] at h2
    simp only [Context.mk_result, h1, h2, h3, h4]
    rfl

theorem abs_iff (c : Context) (m : Bytes) : Abs c m ↔ Md.Abs eng H0 c m := by
  simp only [Abs, Md.Abs, and_true]

theorem abs_fresh {c : Context} (hc : c.processed_bytes.toNat = 0) (hl : c.buffer.buffer.length = 64)
    (hi : c.buffer.buffer_idx = 0) (hs : c.h = Impl.Sha1.H) : Md.Abs eng H0 c [] :=
  Md.Abs.fresh eng hc hl hi (hs.trans Cx.Proofs.Sha1.H_eq) trivial

theorem refines : Refines fam Cx.Spec.Sha1.sha1 Abs (fun m => m.length < 2 ^ 61) :=
  Refines.of_iff (R := Md.Abs eng H0) (hR := abs_iff)
  { new := abs_fresh rfl rfl rfl rfl
    update := fun c m b hR => hR.input eng b
    update_mut := fun c m b hR => hR.input eng b
    reset := fun c _ hR => abs_fresh rfl hR.2.1.1 rfl rfl
    finalize_reset := fun c m hR hok => by
      obtain ⟨b', he, hl, _⟩ := hR.fin eng hok
      simp only [fam, Context.finalize_reset, show Context.mk_result c = _ from he]
      exact ⟨_, rfl, abs_fresh rfl hl rfl rfl⟩
    finalize := fun c m hR hok => by
      obtain ⟨b', he, _⟩ := hR.fin eng hok
      simp only [fam, Context.finalize, show Context.mk_result c = _ from he]
      rfl }

/-- one-shot: `Sha1::new().update(msg).finalize()` -/
theorem oneShot_eq (msg : Bytes) (hlen : msg.length < 2 ^ 61) :
    Cx.Impl.Sha1.sha1 msg = some (Cx.Spec.Sha1.sha1 msg) := by
  obtain ⟨c, h1, h2⟩ := refines.oneShot msg hlen
  simp only [Cx.Impl.Sha1.sha1, show Context.new.update msg = some c from h1]
  exact h2

end Cx.Proofs.Sha1Stream
