/-
  Proofs.Sha2Compress — the code-shaped block function of impl256/reference.rs equals the FIPS 180-4 §6.2.2
  compression function of Spec/Sha2.lean, on every block and every chaining value (impl512: Proofs/Sha2Compress512.lean):
  `g ^ (e & (f ^ g)) = Ch`, `(a & b) | (c & (a | b)) = Maj` (bitwise, via BitVec ext); the `round!` macro, 8-way
  unrolled with renamed registers, is eight FIPS rounds; `while i != 64 { … i += 8 }` is `for t = 0..63`;
  `K32 = K^{256}` is Sha2Tables.K32_eq.
  The model's message-schedule loop is `Spec.Sha2.schedule256` itself; that the source's loop is this function is the tie
  Props/C01/KernelTieSha256.lean `schedule_src_eq_shared_core`.  Also here: the lengths of the two schedules.
  Core Lean only.
-/
import CxVerif.Proofs.Sha2Tables
import CxVerif.Proofs.ByteLemmas
namespace Cx.Proofs.Sha2Compress
open Cx.Spec.Sha2 Cx.Impl Cx.Impl.Sha2

theorem ch32_eq (e f g : UInt32) : g ^^^ (e &&& (f ^^^ g)) = Ch32 e f g :=
  UInt32.eq_of_toBitVec_eq (Bytes.ch_bv e.toBitVec f.toBitVec g.toBitVec)

theorem maj32_eq (a b c : UInt32) : ((a &&& b) ||| (c &&& (a ||| b))) = Maj32 a b c := by
  unfold Maj32
  apply UInt32.eq_of_toBitVec_eq
  simp only [UInt32.toBitVec_xor, UInt32.toBitVec_and, UInt32.toBitVec_or]
  ext i hi
  simp
  cases a.toBitVec[i] <;> cases b.toBitVec[i] <;> cases c.toBitVec[i] <;> rfl

theorem e0_eq (x : UInt32) : Impl256.e0 x = bigSigma0_256 x := rfl
theorem e1_eq (x : UInt32) : Impl256.e1 x = bigSigma1_256 x := rfl

/-- the macro `round!` computes the two registers the FIPS round changes -/
theorem round_eq (a b c d e f g h k w : UInt32) :
    round256 ⟨a, b, c, d, e, f, g, h⟩ (k, w)
      = ⟨(Impl256.round a b c d e f g h k w).2, a, b, c, (Impl256.round a b c d e f g h k w).1, e, f, g⟩ := by
  simp only [round256, Impl256.round, e0_eq, e1_eq, ch32_eq, maj32_eq]

theorem rounds8_eq (s : W8 UInt32) (kw0 kw1 kw2 kw3 kw4 kw5 kw6 kw7 : UInt32 × UInt32) :
    Impl256.rounds8 s kw0 kw1 kw2 kw3 kw4 kw5 kw6 kw7
      = [kw0, kw1, kw2, kw3, kw4, kw5, kw6, kw7].foldl round256 s := by
  obtain ⟨a, b, c, d, e, f, g, h⟩ := s
  obtain ⟨k0, w0⟩ := kw0; obtain ⟨k1, w1⟩ := kw1; obtain ⟨k2, w2⟩ := kw2; obtain ⟨k3, w3⟩ := kw3
  obtain ⟨k4, w4⟩ := kw4; obtain ⟨k5, w5⟩ := kw5; obtain ⟨k6, w6⟩ := kw6; obtain ⟨k7, w7⟩ := kw7
  simp only [List.foldl, round_eq]
  rfl

theorem rounds_loop_eq (n : Nat) : ∀ (s : W8 UInt32) (l : List (UInt32 × UInt32)), l.length = 8 * n →
    Impl256.rounds_loop s l = some (l.foldl round256 s) := by
  induction n with
  | zero =>
    intro s l hl
    have : l = [] := List.length_eq_zero_iff.mp (by omega)
    subst this; rfl
  | succ n ih =>
    intro s l hl
    rcases l with _ | ⟨x0, _ | ⟨x1, _ | ⟨x2, _ | ⟨x3, _ | ⟨x4, _ | ⟨x5, _ | ⟨x6, _ | ⟨x7, rest⟩⟩⟩⟩⟩⟩⟩⟩
    all_goals try (first | (simp at hl; done) | (simp at hl; omega))
    have hr : rest.length = 8 * n := by simp at hl; omega
    rw [Impl256.rounds_loop, ih _ rest hr, rounds8_eq]
    simp only [List.foldl]

theorem exists16 {α : Type} (r : List α) (h : 16 ≤ r.length) :
    ∃ a0 a1 a2 a3 a4 a5 a6 a7 a8 a9 a10 a11 a12 a13 a14 a15 t,
      r = a0 :: a1 :: a2 :: a3 :: a4 :: a5 :: a6 :: a7 :: a8 :: a9 :: a10 :: a11 :: a12 :: a13 :: a14 :: a15 :: t := by
  rcases r with _ | ⟨a0, _ | ⟨a1, _ | ⟨a2, _ | ⟨a3, _ | ⟨a4, _ | ⟨a5, _ | ⟨a6, _ | ⟨a7, _ | ⟨a8, _ | ⟨a9, _ | ⟨a10,
    _ | ⟨a11, _ | ⟨a12, _ | ⟨a13, _ | ⟨a14, _ | ⟨a15, t⟩⟩⟩⟩⟩⟩⟩⟩⟩⟩⟩⟩⟩⟩⟩⟩
  all_goals first
    | exact ⟨a0, a1, a2, a3, a4, a5, a6, a7, a8, a9, a10, a11, a12, a13, a14, a15, t, rfl⟩
    | (simp at h; omega)
    | (simp at h)

theorem extend256_length (n : Nat) : ∀ r : List UInt32, 16 ≤ r.length → (extend256 n r).length = r.length + n := by
  induction n with
  | zero => intro r _; rfl
  | succ n ih =>
    intro r h
    obtain ⟨a0, a1, a2, a3, a4, a5, a6, a7, a8, a9, a10, a11, a12, a13, a14, a15, t, rfl⟩ := exists16 r h
    rw [extend256, ih _ (by simp)]
    simp; omega

theorem extend512_length (n : Nat) : ∀ r : List UInt64, 16 ≤ r.length → (extend512 n r).length = r.length + n := by
  induction n with
  | zero => intro r _; rfl
  | succ n ih =>
    intro r h
    obtain ⟨a0, a1, a2, a3, a4, a5, a6, a7, a8, a9, a10, a11, a12, a13, a14, a15, t, rfl⟩ := exists16 r h
    rw [extend512, ih _ (by simp)]
    simp; omega

theorem schedule256_length (m : List UInt32) (h : m.length = 16) : (schedule256 m).length = 64 := by
  simp [schedule256, extend256_length 48 m.reverse (by simp [h]), h]

theorem schedule512_length (m : List UInt64) (h : m.length = 16) : (schedule512 m).length = 80 := by
  simp [schedule512, extend512_length 64 m.reverse (by simp [h]), h]

/-- **SHA-256 compression**: the code-shaped block function (8-way unrolled rounds, renamed registers,
    `g ^ (e & (f ^ g))`, `(a & b) | (c & (a | b))`, table `K32` extracted from the source) equals FIPS 180-4 §6.2.2
    on every 64-byte block and every chaining value, and does not panic. -/
theorem digest_block_u32_eq (state : W8 UInt32) (buf : Bytes) (h : buf.length = 64) :
    Impl256.digest_block_u32 state buf = some (compress256 state buf) := by
  unfold Impl256.digest_block_u32 read_u32v_be
  have hw : (wordsBE32 buf).length = 16 := by rw [Bytes.wordsBE32_length, h]
  have hs := schedule256_length _ hw
  have hk : Impl256.K32.length = 64 := by decide
  simp only [h, ne_eq, not_true_eq_false, if_false, hk, hs, or_self]
  have hz : (Impl256.K32.zip (schedule256 (wordsBE32 buf))).length = 8 * 8 := by
    simp [List.length_zip, hk, hs]
  rw [rounds_loop_eq 8 _ _ hz]
  simp only [compress256, W8.zipWith]
  have : Impl256.K32 = K256 := Cx.Proofs.Sha2Tables.K32_eq
  rw [this]

end Cx.Proofs.Sha2Compress
