/-
  Proofs.Sha2Compress512 — the u64x2 pair-lane block function `digest_block_u64` of impl512/reference.rs equals the
  FIPS 180-4 §6.4.2 compression function, for every block and every chaining value.

  The 40 unrolled `rounds4!`/`schedule!` lines (variables w0..w9 rotating) ARE the iteration `goL` over a sliding
  lane window (pure unfolding, by `rfl`); one lane round is one FIPS round on (a,e),(b,f),(c,g),(d,h); the lane
  iteration is the FIPS rounds grouped by four with the schedule extended on the fly (`schedule_x2`/`sha512load`
  produce W_t, W_{t+1}), by induction; the FIPS "all 80 W_t first, then 80 rounds" is the grouped iteration; the
  extracted pair table `K64X2`, read in round order, is K^{512} (kernel).  Bit identities: `c ^ (a & (b ^ c)) = Ch`,
  `rotate_left(63) ^ rotate_left(56) ^ (x >> 7) = σ0`, ….
  Core Lean only.
-/
import CxVerif.Proofs.Sha2Compress
namespace Cx.Proofs.Sha2Compress512
open Cx.Spec.Sha2 Cx.Impl.Sha2.Impl512

theorem ch64_eq (e f g : UInt64) : bool3ary_202 e f g = Ch64 e f g :=
  UInt64.eq_of_toBitVec_eq (Bytes.ch_bv e.toBitVec f.toBitVec g.toBitVec)

theorem maj64_eq (a b c : UInt64) : bool3ary_232 a b c = Maj64 a b c := rfl
theorem big_sigma0_eq (x : UInt64) : big_sigma0 x = bigSigma0_512 x := rfl
theorem big_sigma1_eq (x : UInt64) : big_sigma1 x = bigSigma1_512 x := rfl

theorem rotl_rotr (x : UInt64) (n m : UInt64) (h1 : 64 - n = m) (h2 : 64 - m = n) :
    rotate_left x n = ROTR64 m x := by
  unfold rotate_left ROTR64
  rw [h1, h2, UInt64.or_comm]

theorem sigma0_eq (x : UInt64) : sigma0 x = smallSigma0_512 x := by
  unfold sigma0 smallSigma0_512 SHR64
  rw [rotl_rotr x 63 1 (by decide) (by decide), rotl_rotr x 56 8 (by decide) (by decide)]

theorem sigma1_eq (x : UInt64) : sigma1 x = smallSigma1_512 x := by
  unfold sigma1 smallSigma1_512 SHR64
  rw [rotl_rotr x 45 19 (by decide) (by decide), rotl_rotr x 3 61 (by decide) (by decide)]

def lanesOf (s : W8 UInt64) : Lanes := ⟨⟨s.a, s.e⟩, ⟨s.b, s.f⟩, ⟨s.c, s.g⟩, ⟨s.d, s.h⟩⟩
def unlanes (r : Lanes) : W8 UInt64 := ⟨r.ae._0, r.bf._0, r.cg._0, r.dh._0, r.ae._1, r.bf._1, r.cg._1, r.dh._1⟩

theorem unlanes_lanesOf (s : W8 UInt64) : unlanes (lanesOf s) = s := rfl

theorem digest_round_eq (a b c d e f g h k w : UInt64) :
    digest_round ⟨a, e⟩ ⟨b, f⟩ ⟨c, g⟩ ⟨d, h⟩ (k + w)
      = ⟨(round512 ⟨a, b, c, d, e, f, g, h⟩ (k, w)).a, (round512 ⟨a, b, c, d, e, f, g, h⟩ (k, w)).e⟩ := by
  simp only [digest_round, round512, big_sigma0_eq, big_sigma1_eq, ch64_eq, maj64_eq]
  congr 1 <;> ac_rfl

theorem rounds4_eq (s : W8 UInt64) (k0 k1 k2 k3 w0 w1 w2 w3 : UInt64) :
    rounds4 (lanesOf s) ((⟨k1, k0⟩ : u64x2) + ⟨w1, w0⟩) ((⟨k3, k2⟩ : u64x2) + ⟨w3, w2⟩)
      = lanesOf ([(k0, w0), (k1, w1), (k2, w2), (k3, w3)].foldl round512 s) := by
  obtain ⟨a, b, c, d, e, f, g, h⟩ := s
  have hadd : ∀ (x y : u64x2), x + y = ⟨x._0 + y._0, x._1 + y._1⟩ := fun _ _ => rfl
  simp only [rounds4, lanesOf, hadd, digest_round_eq, List.foldl]
  rfl

/-- the lane iteration the unrolled code performs after the first 16 rounds: window newest-first; each step makes two
    new schedule lanes and runs `rounds4` on them -/
def goL : Nat → List u64x2 → Lanes → List u64x2 → Lanes
  | 0, _, r, _ => r
  | n + 1, l1 :: l2 :: l3 :: l4 :: l5 :: l6 :: l7 :: l8 :: t, r, ka :: kb :: ks =>
    let y := schedule l8 l7 l4 l3 l1
    let z := schedule l7 l6 l3 l2 y
    goL n (z :: y :: l1 :: l2 :: l3 :: l4 :: l5 :: l6 :: l7 :: l8 :: t) (rounds4 r (ka + y) (kb + z)) ks
  | _ + 1, _, r, _ => r

def klanes : List u64x2 :=
  [k 0, k 1, k 2, k 3, k 4, k 5, k 6, k 7, k 8, k 9, k 10, k 11, k 12, k 13, k 14, k 15, k 16, k 17, k 18, k 19,
   k 20, k 21, k 22, k 23, k 24, k 25, k 26, k 27, k 28, k 29, k 30, k 31, k 32, k 33, k 34, k 35, k 36, k 37, k 38, k 39]

/-- the first sixteen rounds on the block's own words -/
def prologue (state : W8 UInt64) (b0 b1 b2 b3 b4 b5 b6 b7 b8 b9 b10 b11 b12 b13 b14 b15 : UInt64) : Lanes :=
  let r := lanesOf state
  let r := rounds4 r (k 0 + ⟨b1, b0⟩) (k 1 + ⟨b3, b2⟩)
  let r := rounds4 r (k 2 + ⟨b5, b4⟩) (k 3 + ⟨b7, b6⟩)
  let r := rounds4 r (k 4 + ⟨b9, b8⟩) (k 5 + ⟨b11, b10⟩)
  rounds4 r (k 6 + ⟨b13, b12⟩) (k 7 + ⟨b15, b14⟩)

theorem unrolled_eq_folded (state : W8 UInt64) (b0 b1 b2 b3 b4 b5 b6 b7 b8 b9 b10 b11 b12 b13 b14 b15 : UInt64) :
    digest_block_u64 state [b0, b1, b2, b3, b4, b5, b6, b7, b8, b9, b10, b11, b12, b13, b14, b15]
      = some (W8.zipWith (· + ·) state (unlanes (goL 16
          [⟨b15, b14⟩, ⟨b13, b12⟩, ⟨b11, b10⟩, ⟨b9, b8⟩, ⟨b7, b6⟩, ⟨b5, b4⟩, ⟨b3, b2⟩, ⟨b1, b0⟩]
          (prologue state b0 b1 b2 b3 b4 b5 b6 b7 b8 b9 b10 b11 b12 b13 b14 b15) (klanes.drop 8)))) := by
  -- unfolding both sides to the same term; `rfl` alone makes the elaborator find that out the slow way
  unfold digest_block_u64 prologue
  simp only [goL, klanes, List.drop, unlanes, W8.zipWith, lanesOf]

/-- the words of a lane window, newest first -/
def winWords : List u64x2 → List UInt64
  | [] => []
  | l :: t => l._0 :: l._1 :: winWords t

/-- the constants of a list of `K64X2` lanes in round order: `u64x2(K[2i+1], K[2i]) ↦ K[2i], K[2i+1]` -/
def kWords : List u64x2 → List UInt64
  | [] => []
  | l :: t => l._1 :: l._0 :: kWords t

/-- FIPS rounds 16.. grouped by four: extend the schedule by four words, run four rounds -/
def go : Nat → List UInt64 → W8 UInt64 → List UInt64 → W8 UInt64
  | 0, _, s, _ => s
  | n + 1, r, s, k0 :: k1 :: k2 :: k3 :: ks =>
    match extend512 4 r with
    | w3 :: w2 :: w1 :: w0 :: rest =>
      go n (w3 :: w2 :: w1 :: w0 :: rest) ([(k0, w0), (k1, w1), (k2, w2), (k3, w3)].foldl round512 s) ks
    | _ => s
  | _ + 1, _, s, _ => s

theorem goL_eq_go (n : Nat) : ∀ (w : List u64x2) (s : W8 UInt64) (kls : List u64x2),
    8 ≤ w.length → kls.length = 2 * n →
    goL n w (lanesOf s) kls = lanesOf (go n (winWords w) s (kWords kls)) := by
  induction n with
  | zero => intro w s kls _ _; rfl
  | succ n ih =>
    intro w s kls hw hk
    obtain ⟨l1, l2, l3, l4, l5, l6, l7, l8, t, rfl⟩ := Bytes.exists8 w hw
    rcases kls with _ | ⟨ka, _ | ⟨kb, ks⟩⟩
    · simp at hk
    · simp at hk; omega
    obtain ⟨x0, x1⟩ := l1; obtain ⟨x2, x3⟩ := l2; obtain ⟨x4, x5⟩ := l3; obtain ⟨x6, x7⟩ := l4
    obtain ⟨x8, x9⟩ := l5; obtain ⟨x10, x11⟩ := l6; obtain ⟨x12, x13⟩ := l7; obtain ⟨x14, x15⟩ := l8
    obtain ⟨ka1, ka0⟩ := ka; obtain ⟨kb1, kb0⟩ := kb
    have hks : ks.length = 2 * n := by simp at hk; omega
    simp only [goL, go, winWords, kWords, extend512, schedule, schedule_x2, sha512load, sigma0_eq, sigma1_eq]
    rw [rounds4_eq, ih _ _ ks (by simp) hks]
    simp only [winWords]

open Cx.Proofs.Sha2Compress (exists16 extend512_length)

theorem extend512_succ (n : Nat) (r : List UInt64) (h : 16 ≤ r.length) :
    ∃ w, extend512 (n + 1) r = extend512 n (w :: r) := by
  obtain ⟨a0, a1, a2, a3, a4, a5, a6, a7, a8, a9, a10, a11, a12, a13, a14, a15, t, rfl⟩ := exists16 r h
  exact ⟨_, by rw [extend512]⟩

theorem extend512_add (a b : Nat) : ∀ r : List UInt64, 16 ≤ r.length →
    extend512 (a + b) r = extend512 b (extend512 a r) := by
  induction a with
  | zero => intro r _; simp [extend512]
  | succ a ih =>
    intro r h
    obtain ⟨a0, a1, a2, a3, a4, a5, a6, a7, a8, a9, a10, a11, a12, a13, a14, a15, t, rfl⟩ := exists16 r h
    rw [show a + 1 + b = (a + b) + 1 by omega, extend512, extend512, ih _ (by simp)]

theorem extend512_drop (n : Nat) : ∀ r : List UInt64, 16 ≤ r.length → (extend512 n r).drop n = r := by
  induction n with
  | zero => intro r _; rfl
  | succ n ih =>
    intro r h
    obtain ⟨w, e⟩ := extend512_succ n r h
    rw [e, ← List.drop_drop, ih (w :: r) (by simp; omega)]
    rfl

/-- the words appended by `n` schedule steps, in round order -/
def newWords (n : Nat) (r : List UInt64) : List UInt64 := ((extend512 n r).take n).reverse

theorem extend512_split (n : Nat) (r : List UInt64) (h : 16 ≤ r.length) :
    extend512 n r = (newWords n r).reverse ++ r := by
  have := List.take_append_drop n (extend512 n r)
  rw [extend512_drop n r h] at this
  simp [newWords, this]

theorem newWords_length (n : Nat) (r : List UInt64) (h : 16 ≤ r.length) : (newWords n r).length = n := by
  simp [newWords, extend512_length n r h]

theorem newWords_four (n : Nat) (r : List UInt64) (h : 16 ≤ r.length) :
    newWords (4 + n) r = newWords 4 r ++ newWords n (extend512 4 r) := by
  have h4 : 16 ≤ (extend512 4 r).length := by rw [extend512_length 4 r h]; omega
  have e1 := extend512_split (4 + n) r h
  have e2 := extend512_add 4 n r h
  have e3 := extend512_split n (extend512 4 r) h4
  have e4 := extend512_split 4 r h
  have e5 : (newWords (4 + n) r).reverse ++ r
      = ((newWords n (extend512 4 r)).reverse ++ (newWords 4 r).reverse) ++ r := by
    rw [← e1, e2, List.append_assoc, ← e4]; exact e3
  have e6 := congrArg List.reverse (List.append_cancel_right e5)
  simpa [List.reverse_append] using e6

theorem fold_newWords_eq_go (n : Nat) : ∀ (r : List UInt64) (s : W8 UInt64) (ks : List UInt64),
    16 ≤ r.length → ks.length = 4 * n →
    (ks.zip (newWords (4 * n) r)).foldl round512 s = go n r s ks := by
  induction n with
  | zero => intro r s ks _ hk; simp [go, newWords, List.length_eq_zero_iff.mp hk]
  | succ n ih =>
    intro r s ks hr hk
    rcases ks with _ | ⟨k0, _ | ⟨k1, _ | ⟨k2, _ | ⟨k3, ks⟩⟩⟩⟩
    all_goals try (first | (simp at hk; done) | (simp at hk; omega))
    have hks : ks.length = 4 * n := by simp at hk; omega
    obtain ⟨a0, a1, a2, a3, a4, a5, a6, a7, a8, a9, a10, a11, a12, a13, a14, a15, t, rfl⟩ := exists16 r hr
    rw [show 4 * (n + 1) = 4 + 4 * n by omega, newWords_four _ _ hr]
    simp only [go, extend512, newWords, List.take, List.reverse_cons, List.reverse_nil, List.nil_append,
      List.cons_append, List.zip_cons_cons, List.foldl_cons, List.foldl_nil]
    rw [← ih _ _ ks (by simp) hks]
    simp only [newWords]

/-- FIPS §6.4.2 on the sixteen words of a block (`compress512 H blk = compress512w H (wordsBE64 blk)` by definition) -/
def compress512w (H : W8 UInt64) (ws : List UInt64) : W8 UInt64 :=
  W8.zipWith (· + ·) H ((K512.zip (schedule512 ws)).foldl round512 H)

theorem compress512_eq_w (H : W8 UInt64) (blk : Bytes) : compress512 H blk = compress512w H (wordsBE64 blk) := rfl

theorem kWords_take : K512.take 16 = kWords (klanes.take 8) := by
  rw [← Sha2Tables.K64_eq]; decide +kernel
theorem kWords_drop : K512.drop 16 = kWords (klanes.drop 8) := by
  rw [← Sha2Tables.K64_eq]; decide +kernel

theorem rounds4_eq_lanes (s : W8 UInt64) (ka kb : u64x2) (w0 w1 w2 w3 : UInt64) :
    rounds4 (lanesOf s) (ka + ⟨w1, w0⟩) (kb + ⟨w3, w2⟩)
      = lanesOf ([(ka._1, w0), (ka._0, w1), (kb._1, w2), (kb._0, w3)].foldl round512 s) :=
  rounds4_eq s ka._1 ka._0 kb._1 kb._0 w0 w1 w2 w3

theorem prologue_eq (s : W8 UInt64) (b0 b1 b2 b3 b4 b5 b6 b7 b8 b9 b10 b11 b12 b13 b14 b15 : UInt64) :
    prologue s b0 b1 b2 b3 b4 b5 b6 b7 b8 b9 b10 b11 b12 b13 b14 b15
      = lanesOf (((K512.take 16).zip [b0, b1, b2, b3, b4, b5, b6, b7, b8, b9, b10, b11, b12, b13, b14, b15]).foldl
          round512 s) := by
  rw [kWords_take]
  simp only [prologue, rounds4_eq_lanes, klanes, List.take, kWords, List.zip_cons_cons, List.zip_nil_right,
    List.foldl_cons, List.foldl_nil]

theorem schedule512_split (ws : List UInt64) (h : ws.length = 16) :
    schedule512 ws = ws ++ newWords 64 ws.reverse := by
  unfold schedule512
  rw [extend512_split 64 ws.reverse (by simp [h])]
  simp

/-- **SHA-512 compression**: the u64x2 pair-lane block function of impl512/reference.rs — fully unrolled,
    sliding ten-lane schedule window, `K64X2` pair table, `rotate_left(63)`-style sigmas, `c ^ (a & (b ^ c))` —
    equals FIPS 180-4 §6.4.2 on every sixteen-word block and every chaining value, and does not panic. -/
theorem digest_block_u64_eq (s : W8 UInt64) (ws : List UInt64) (h : ws.length = 16) :
    digest_block_u64 s ws = some (compress512w s ws) := by
  obtain ⟨b0, b1, b2, b3, b4, b5, b6, b7, b8, b9, b10, b11, b12, b13, b14, b15, t, rfl⟩ := exists16 ws (by omega)
  have ht : t = [] := by simpa using h
  subst ht
  rw [unrolled_eq_folded, prologue_eq]
  rw [goL_eq_go 16 _ _ _ (by simp) (by decide)]
  rw [unlanes_lanesOf]
  unfold compress512w
  refine congrArg some (congrArg (W8.zipWith (· + ·) s) ?_)
  rw [schedule512_split _ h]
  have hK : K512 = K512.take 16 ++ K512.drop 16 := (List.take_append_drop 16 K512).symm
  have hKl : K512.length = 80 := Cx.Proofs.Sha2Tables.spec_table_sizes.2.1
  conv => rhs; rw [hK, List.zip_append (by simp [hKl]), List.foldl_append]
  rw [fold_newWords_eq_go 16 _ _ _ (by simp) (by simp [hKl]), ← kWords_drop]
  simp only [winWords, List.reverse_cons, List.reverse_nil, List.nil_append, List.cons_append]

end Cx.Proofs.Sha2Compress512
