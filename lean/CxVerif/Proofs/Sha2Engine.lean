/-
  Proofs.Sha2Engine — Engine256 / Engine512 and the `digest!` contexts of src/hashing/sha2/mod.rs refine the
  abstract state "bytes since the last reset".  `Engine::blocks` is the fold of the FIPS
  compression over the blocks (`digest_block#_total`: the reference drivers for every argument); `eng256`, `eng512`
  present the two engines as instances of `Md.Eng` (Proofs/MdRefine.lean); `Abs256`/`Abs512`, the relations the property
  statements use, are `Md.Abs eng256/eng512` written out (`abs256_iff`, `abs512_iff`), and `refines256/512` get the step
  lemmas (no panic; lengths < 2^61 / 2^125 at finish) through these; the output functions are truncations (incl.
  `(h[3] >> 32) as u32` of SHA-512/224); `reset ≈ new` and the fresh state after `finalize_reset` are stated as equality of
  the readable state (everything except dead buffer bytes).  Core Lean only.
-/
import CxVerif.Proofs.BlockLoop
import CxVerif.Proofs.MdRefine
import CxVerif.Proofs.Sha2Compress512
import CxVerif.Proofs.HashProg
namespace Cx.Proofs.Sha2Engine
open Cx.Spec.Sha2 Cx.Impl Cx.Impl.Sha2 Cx.Proofs.FB Cx.Proofs.Sha2Compress
open Cx.Proofs.Sha2Compress512 (compress512_eq_w digest_block_u64_eq)
open Cx.Proofs.HashProg (Refines)

def compressE256 (e : Eng256.Engine) (blk : Bytes) : Eng256.Engine := ⟨compress256 e.h blk⟩

theorem foldl_compressE256 (l : List Bytes) (e : Eng256.Engine) :
    l.foldl compressE256 e = ⟨l.foldl compress256 e.h⟩ := by
  induction l generalizing e with
  | nil => rfl
  | cons b bs ih => simp only [List.foldl, compressE256]; exact ih _

/-- `impl256::reference::digest_block`, every argument: the fold on whole blocks, a panic on a ragged tail -/
theorem digest_block256_total (state : W8 UInt32) (block : Bytes) :
    Impl256.digest_block state block
      = if block.length % 64 = 0 then some ((fullBlocks 64 block).foldl compress256 state) else none :=
  blockLoop_spec (N := 64) (by decide) Impl256.digest_block_loop Impl256.digest_block_u32 compress256 digest_block_u32_eq
    (fun f s r h => by simp [Impl256.digest_block_loop, h])
    (fun f s r s' h hs => by
      conv => lhs; unfold Impl256.digest_block_loop
      rw [if_neg (by omega), slice_eq (Nat.zero_le _) h]
      simp only [List.drop_zero, Nat.sub_zero, hs])
    (fun f s r h0 hlt => by
      have hs : slice r 0 64 = none := by simp [slice]; omega
      simp [Impl256.digest_block_loop, hs, show r.length ≠ 0 by omega])
    _ _ state block rfl (by omega)

theorem blocks256_isBlocks : FuncIsBlocks 64 Eng256.Engine.blocks compressE256 := fun s d hd => by
  simp only [Eng256.Engine.blocks, show Eng256.BLOCK_LEN_BYTES = 64 from rfl, hd, digest_block256_total, ne_eq,
    not_true_eq_false, if_false, if_true, foldl_compressE256]

/-- abstraction relation: engine `e` (chaining IV `iv`) has absorbed exactly `msg` since `new`/`reset` -/
def Abs256 (iv : W8 UInt32) (e : Engine256) (msg : Bytes) : Prop :=
  e.processed_bytes = msg.length % 2 ^ 64 ∧ WF 64 e.buffer ∧ e.buffer.data = blockTail 64 msg
  ∧ e.state = ⟨(fullBlocks 64 msg).foldl compress256 iv⟩ ∧ e.finished = false

/-- `Engine256` as a Merkle–Damgård engine: 64-byte blocks, u64 counter, `(processed_bytes << 3).to_be_bytes()` written by
    one `next::<8>()`; live = not `finished`
    (reducible, so that `abs_iff`-style `simp only` and the `show`s on its methods see through the fields: see `Md.Eng`) -/
@[reducible] def eng256 : Md.Eng Engine256 Eng256.Engine Engine256 where
  N := 64
  rem := 8
  M := 2 ^ 64
  compress := compressE256
  func := Eng256.Engine.blocks
  funcFin := Eng256.Engine.blocks
  lenBytes := len_be64
  wr n b := b.next_write 8 (len_be64 n)
  lenEnc := Spec.MD.be64
  buf := (·.buffer)
  st := (·.state)
  cnt := (·.processed_bytes)
  live e := e.finished = false
  input := Engine256.input
  fin := Engine256.finish
  pack e b s := ⟨e.processed_bytes, b, s, true⟩
  hN := by decide
  hrem := by decide
  hf := blocks256_isBlocks
  hf1 := blocks256_isBlocks.one (by decide)
  hlb := len_be64_length
  hwr n := next_write_WritesLen 64 8 _ (len_be64_length n)
  hlenc := lenField64
  input_ok e inp b' s' hl h := by
    simp only [Engine256.input, hl, h, Bool.false_eq_true, if_false]
    exact ⟨_, rfl, rfl, rfl, rfl, rfl⟩
  fin_ok e _ _ _ _ _ _ hl h1 h2 h3 h4 := by
    simp only [Engine256.finish, hl, h1, h2, h3, h4, Bool.false_eq_true, if_false]

theorem abs256_iff (iv : W8 UInt32) (e : Engine256) (m : Bytes) : Abs256 iv e m ↔ Md.Abs eng256 ⟨iv⟩ e m := by
  simp only [Abs256, Md.Abs, foldl_compressE256]

theorem hashE256 (iv : W8 UInt32) (m : Bytes) :
    Spec.MD.hash 64 8 Spec.MD.be64 compressE256 ⟨iv⟩ m = ⟨hashWords256 iv m⟩ := foldl_compressE256 _ _

/- The output functions (`outOK_*`) slice a zeroed array of known length and store big-endian words: bookkeeping of constant
   lengths, left to `simp` with the length lemmas. -/

/-- what a `digest!(256 …)` instantiation must satisfy: its output function applied to the zeroed output array
    returns `trunc` of the big-endian state words -/
def OutOK256 (A : Alg256) (trunc : Bytes → Bytes) : Prop :=
  ∀ e : Eng256.Engine, A.output_fn e (zeros (A.output_bits / 8)) = some (trunc (wordsToBytes32 e.h))

section
-- not needed for success, but for the cost: unfolded, matching `A.output_fn e (zeros (A.output_bits / 8))` against the lemma
-- evaluates the output function on the symbolic state
attribute [local irreducible] Eng256.Engine.output_256bits_at Eng256.Engine.output_224bits_at
theorem outOK_sha256 : OutOK256 Sha256 id := fun e => by
  show e.output_256bits_at (zeros 32) = _
  simp [Eng256.Engine.output_256bits_at, slice, copy_from_slice, write_u32v_be, zeros, W8.toList, wordsToBytes32,
    Bytes.u32be_length]
theorem outOK_sha224 : OutOK256 Sha224 (List.take 28) := fun e => by
  show e.output_224bits_at (zeros 28) = _
  simp [Eng256.Engine.output_224bits_at, slice, copy_from_slice, write_u32v_be, zeros, W8.toList, wordsToBytes32,
    Bytes.u32be_length, List.take_append, List.take_of_length_le]
end

def specDigest256 (A : Alg256) (trunc : Bytes → Bytes) (msg : Bytes) : Bytes :=
  trunc (wordsToBytes32 (hashWords256 A.state msg))

theorem refines256 (A : Alg256) (trunc : Bytes → Bytes) (hout : OutOK256 A trunc) :
    Refines (fam256 A) (specDigest256 A trunc) (fun c m => Abs256 A.state c.engine m)
      (fun m => m.length < 2 ^ 61) :=
  Refines.of_iff (R := fun c m => Md.Abs eng256 ⟨A.state⟩ c.engine m) (hR := fun _ _ => abs256_iff ..)
  { new := Md.Abs.fresh eng256 rfl rfl rfl rfl rfl
    update := fun c m b hR =>
      have ⟨e', he, hA⟩ := hR.input eng256 b
      ⟨⟨e'⟩, by simp [fam256, Ctx256.update, show c.engine.input b = some e' from he], hA⟩
    update_mut := fun c m b hR =>
      have ⟨e', he, hA⟩ := hR.input eng256 b
      ⟨⟨e'⟩, by simp [fam256, Ctx256.update_mut, show c.engine.input b = some e' from he], hA⟩
    reset := fun c _ hR => Md.Abs.fresh eng256 rfl hR.2.1.1 rfl rfl rfl
    finalize_reset := fun c m hR hok => by
      obtain ⟨b', he, hl, _⟩ := hR.fin eng256 hok
      simp only [fam256, Ctx256.finalize_reset, show c.engine.finish = _ from he, hashE256, hout _]
      exact ⟨_, rfl, Md.Abs.fresh eng256 rfl hl rfl rfl rfl⟩
    finalize := fun c m hR hok => by
      obtain ⟨b', he, _⟩ := hR.fin eng256 hok
      simp only [fam256, Ctx256.finalize, show c.engine.finish = _ from he, hashE256, hout _]
      rfl }

/-- one-shot: `ShaNNN::new().update(msg).finalize()` -/
theorem oneShot256_eq (A : Alg256) (trunc : Bytes → Bytes) (hout : OutOK256 A trunc) (msg : Bytes)
    (hlen : msg.length < 2 ^ 61) : oneShot256 A msg = some (specDigest256 A trunc msg) := by
  obtain ⟨c, h1, h2⟩ := (refines256 A trunc hout).oneShot msg hlen
  simp only [oneShot256, show (Ctx256.new A).update msg = some c from h1]
  exact h2

theorem specDigest256_sha256 (msg : Bytes) : specDigest256 Sha256 id msg = Spec.Sha2.sha256 msg := by
  simp only [specDigest256, Sha256, Spec.Sha2.sha256, Cx.Proofs.Sha2Tables.H256_eq, id]

theorem specDigest256_sha224 (msg : Bytes) : specDigest256 Sha224 (List.take 28) msg = Spec.Sha2.sha224 msg := by
  simp only [specDigest256, Sha224, Spec.Sha2.sha224, Cx.Proofs.Sha2Tables.H224_eq]

def compressE512 (e : Eng512.Engine) (blk : Bytes) : Eng512.Engine := ⟨compress512 e.h blk⟩

theorem foldl_compressE512 (l : List Bytes) (e : Eng512.Engine) :
    l.foldl compressE512 e = ⟨l.foldl compress512 e.h⟩ := by
  induction l generalizing e with
  | nil => rfl
  | cons b bs ih => simp only [List.foldl, compressE512]; exact ih _

theorem digest_block512_total (state : W8 UInt64) (block : Bytes) :
    Impl512.digest_block state block
      = if block.length % 128 = 0 then some ((fullBlocks 128 block).foldl compress512 state) else none :=
  blockLoop_spec (N := 128) (by decide) Impl512.digest_block_loop
    (fun s blk => Impl512.digest_block_u64 s (wordsBE64 blk)) compress512
    (fun s d hd => by
      show Impl512.digest_block_u64 s _ = _
      rw [digest_block_u64_eq _ _ (by rw [Bytes.wordsBE64_length, hd]), compress512_eq_w])
    (fun f s r h => by simp [Impl512.digest_block_loop, h])
    (fun f s r s' h hs => by
      conv => lhs; unfold Impl512.digest_block_loop
      rw [if_neg (by omega), slice_eq (Nat.zero_le _) h]
      have ht : (r.take 128).length = 128 := by simp; omega
      simp only [List.drop_zero, Nat.sub_zero, read_u64v_be, ht, ne_eq, not_true_eq_false, if_false, hs])
    (fun f s r h0 hlt => by
      have hs : slice r 0 128 = none := by simp [slice]; omega
      simp [Impl512.digest_block_loop, hs, show r.length ≠ 0 by omega])
    _ _ state block rfl (by omega)

theorem blocks512_isBlocks : FuncIsBlocks 128 Eng512.Engine.blocks compressE512 := fun s d hd => by
  simp only [Eng512.Engine.blocks, show Eng512.BLOCK_LEN_BYTES = 128 from rfl, hd, digest_block512_total, ne_eq,
    not_true_eq_false, if_false, if_true, foldl_compressE512]

def Abs512 (iv : W8 UInt64) (e : Engine512) (msg : Bytes) : Prop :=
  e.processed_bytes = msg.length % 2 ^ 128 ∧ WF 128 e.buffer ∧ e.buffer.data = blockTail 128 msg
  ∧ e.state = ⟨(fullBlocks 128 msg).foldl compress512 iv⟩

/-- `Engine512`: 128-byte blocks, u128 counter, 16-byte length field; no `finished` flag
    (reducible, so that `abs_iff`-style `simp only` and the `show`s on its methods see through the fields: see `Md.Eng`) -/
@[reducible] def eng512 : Md.Eng Engine512 Eng512.Engine Engine512 where
  N := 128
  rem := 16
  M := 2 ^ 128
  compress := compressE512
  func := Eng512.Engine.blocks
  funcFin := Eng512.Engine.blocks
  lenBytes := len_be128
  wr n b := b.next_write 16 (len_be128 n)
  lenEnc := Spec.MD.be128
  buf := (·.buffer)
  st := (·.state)
  cnt := (·.processed_bytes)
  live _ := True
  input := Engine512.input
  fin := Engine512.finish
  pack e b s := ⟨e.processed_bytes, b, s⟩
  hN := by decide
  hrem := by decide
  hf := blocks512_isBlocks
  hf1 := blocks512_isBlocks.one (by decide)
  hlb := len_be128_length
  hwr n := next_write_WritesLen 128 16 _ (len_be128_length n)
  hlenc := lenField128
  input_ok e inp b' s' _ h := by
    simp only [Engine512.input, h]
    exact ⟨_, rfl, rfl, rfl, rfl, trivial⟩
  fin_ok e _ _ _ _ _ _ _ h1 h2 h3 h4 := by
    simp only [Engine512.finish, h1, h2, h3, h4]

theorem abs512_iff (iv : W8 UInt64) (e : Engine512) (m : Bytes) : Abs512 iv e m ↔ Md.Abs eng512 ⟨iv⟩ e m := by
  simp only [Abs512, Md.Abs, foldl_compressE512, and_true]

theorem hashE512 (iv : W8 UInt64) (m : Bytes) :
    Spec.MD.hash 128 16 Spec.MD.be128 compressE512 ⟨iv⟩ m = ⟨hashWords512 iv m⟩ := foldl_compressE512 _ _

theorem wordsToBytes64_eq (h : W8 UInt64) : wordsToBytes64 h =
    u64be h.a ++ (u64be h.b ++ (u64be h.c ++ (u64be h.d ++ (u64be h.e ++ (u64be h.f ++ (u64be h.g ++ u64be h.h)))))) := by
  simp [wordsToBytes64, W8.toList]

/-- `(self.h[3] >> 32) as u32`, big-endian = the first four bytes of the big-endian 64-bit word -/
theorem u32be_high_half (d : UInt64) : u32be (d >>> 32).toUInt32 = (u64be d).take 4 := by
  have h1 : (d >>> 32).toUInt32.toNat = d.toNat / 256 ^ 4 % 256 ^ 4 := by
    simp [UInt64.toNat_toUInt32, UInt64.toNat_shiftRight, Nat.shiftRight_eq_div_pow]
  unfold u32be u64be natToBE
  rw [h1, Bytes.natToLE_mod, Bytes.natToLE_add 4 4, List.reverse_append, List.take_left' (by simp [Bytes.natToLE_length])]

def OutOK512 (A : Alg512) (n : Nat) : Prop :=
  ∀ e : Eng512.Engine, A.output_fn e (zeros (A.output_bits / 8)) = some ((wordsToBytes64 e.h).take n)

section
-- folded for the same reason as in the 32-bit family
attribute [local irreducible] Eng512.Engine.output_512bits_at Eng512.Engine.output_384bits_at
  Eng512.Engine.output_256bits_at Eng512.Engine.output_224bits_at
theorem outOK_sha512 : OutOK512 Sha512 64 := fun e => by
  show e.output_512bits_at (zeros 64) = _
  simp [Eng512.Engine.output_512bits_at, write_u64v_be, zeros, W8.toList, wordsToBytes64, Bytes.u64be_length,
    List.take_of_length_le]
theorem outOK_sha384 : OutOK512 Sha384 48 := fun e => by
  show e.output_384bits_at (zeros 48) = _
  simp [Eng512.Engine.output_384bits_at, write_u64v_be, zeros, W8.toList, wordsToBytes64, Bytes.u64be_length,
    List.take_append, List.take_of_length_le]
theorem outOK_sha512_256 : OutOK512 Sha512Trunc256 32 := fun e => by
  show e.output_256bits_at (zeros 32) = _
  simp [Eng512.Engine.output_256bits_at, write_u64v_be, zeros, W8.toList, wordsToBytes64, Bytes.u64be_length,
    List.take_append, List.take_of_length_le]
/-- SHA-512/224: three whole words and the upper half of the fourth = the leftmost 224 bits -/
theorem outOK_sha512_224 : OutOK512 Sha512Trunc224 28 := fun e => by
  show e.output_224bits_at (zeros 28) = _
  simp [Eng512.Engine.output_224bits_at, slice, copy_from_slice, write_u64v_be, write_u32_be, zeros, W8.toList,
    wordsToBytes64, Bytes.u64be_length, u32be_high_half, List.take_append, List.take_of_length_le]
end

def specDigest512 (A : Alg512) (n : Nat) (msg : Bytes) : Bytes :=
  (wordsToBytes64 (hashWords512 A.state msg)).take n

theorem refines512 (A : Alg512) (n : Nat) (hout : OutOK512 A n) :
    Refines (fam512 A) (specDigest512 A n) (fun c m => Abs512 A.state c.engine m)
      (fun m => m.length < 2 ^ 125) :=
  Refines.of_iff (R := fun c m => Md.Abs eng512 ⟨A.state⟩ c.engine m) (hR := fun _ _ => abs512_iff ..)
  { new := Md.Abs.fresh eng512 rfl rfl rfl rfl trivial
    update := fun c m b hR =>
      have ⟨e', he, hA⟩ := hR.input eng512 b
      ⟨⟨e'⟩, by simp [fam512, Ctx512.update, show c.engine.input b = some e' from he], hA⟩
    update_mut := fun c m b hR =>
      have ⟨e', he, hA⟩ := hR.input eng512 b
      ⟨⟨e'⟩, by simp [fam512, Ctx512.update_mut, show c.engine.input b = some e' from he], hA⟩
    reset := fun c _ hR => Md.Abs.fresh eng512 rfl hR.2.1.1 rfl rfl trivial
    finalize_reset := fun c m hR hok => by
      obtain ⟨b', he, hl, _⟩ := hR.fin eng512 hok
      simp only [fam512, Ctx512.finalize_reset, show c.engine.finish = _ from he, hashE512, hout _]
      exact ⟨_, rfl, Md.Abs.fresh eng512 rfl hl rfl rfl trivial⟩
    finalize := fun c m hR hok => by
      obtain ⟨b', he, _⟩ := hR.fin eng512 hok
      simp only [fam512, Ctx512.finalize, show c.engine.finish = _ from he, hashE512, hout _]
      rfl }

theorem oneShot512_eq (A : Alg512) (n : Nat) (hout : OutOK512 A n) (msg : Bytes)
    (hlen : msg.length < 2 ^ 125) : oneShot512 A msg = some (specDigest512 A n msg) := by
  obtain ⟨c, h1, h2⟩ := (refines512 A n hout).oneShot msg hlen
  simp only [oneShot512, show (Ctx512.new A).update msg = some c from h1]
  exact h2

theorem specDigest512_sha512 (msg : Bytes) : specDigest512 Sha512 64 msg = Spec.Sha2.sha512 msg := by
  have hl : (wordsToBytes64 (hashWords512 Spec.Sha2.H512 msg)).length = 64 := by simp [wordsToBytes64_eq, Bytes.u64be_length]
  simp only [specDigest512, Sha512, Spec.Sha2.sha512, Cx.Proofs.Sha2Tables.H512_eq]
  exact List.take_of_length_le (by omega)

theorem specDigest512_sha384 (msg : Bytes) : specDigest512 Sha384 48 msg = Spec.Sha2.sha384 msg := by
  simp only [specDigest512, Sha384, Spec.Sha2.sha384, Cx.Proofs.Sha2Tables.H384_eq]

theorem specDigest512_sha512_256 (msg : Bytes) : specDigest512 Sha512Trunc256 32 msg = Spec.Sha2.sha512_256 msg := by
  simp only [specDigest512, Sha512Trunc256, Spec.Sha2.sha512_256, Cx.Proofs.Sha2Tables.H512_TRUNC_256_eq]

theorem specDigest512_sha512_224 (msg : Bytes) : specDigest512 Sha512Trunc224 28 msg = Spec.Sha2.sha512_224 msg := by
  simp only [specDigest512, Sha512Trunc224, Spec.Sha2.sha512_224, Cx.Proofs.Sha2Tables.H512_TRUNC_224_eq]

/-- everything of an `Engine256` a method can read: the array bytes beyond `buffer_idx` are dead (every path
    overwrites them before reading: `input_spec`, `md_finish_with_spec` are proved for arbitrary dead contents) -/
def view256 (e : Engine256) : Nat × Nat × Bytes × Nat × Eng256.Engine × Bool :=
  (e.processed_bytes, e.buffer.buffer_idx, e.buffer.data, e.buffer.buffer.length, e.state, e.finished)

def view512 (e : Engine512) : Nat × Nat × Bytes × Nat × Eng512.Engine :=
  (e.processed_bytes, e.buffer.buffer_idx, e.buffer.data, e.buffer.buffer.length, e.state)

theorem reset256_view (iv : W8 UInt32) (e : Engine256) (hl : e.buffer.buffer.length = 64) :
    view256 (e.reset iv) = view256 (Engine256.new iv) := by
  simp [view256, Engine256.reset, Engine256.new, FixedBuffer.reset, FixedBuffer.new, FixedBuffer.data, hl,
    Eng256.Engine.reset, Eng256.Engine.new, zeros]

theorem reset512_view (iv : W8 UInt64) (e : Engine512) (hl : e.buffer.buffer.length = 128) :
    view512 (e.reset iv) = view512 (Engine512.new iv) := by
  simp [view512, Engine512.reset, Engine512.new, FixedBuffer.reset, FixedBuffer.new, FixedBuffer.data, hl,
    Eng512.Engine.reset, Eng512.Engine.new, zeros]

/-- the abstraction relation (hence, by `runProg_sim`, every future digest) depends on the view only -/
theorem abs256_of_view_eq (iv : W8 UInt32) (e1 e2 : Engine256) (m : Bytes) (hv : view256 e1 = view256 e2)
    (h : Abs256 iv e1 m) : Abs256 iv e2 m := by
  simp only [view256, Prod.mk.injEq] at hv
  obtain ⟨h1, h2, h3, h4, h5, h6⟩ := hv
  obtain ⟨a1, ⟨a2, a3⟩, a4, a5, a6⟩ := h
  exact ⟨h1 ▸ a1, ⟨h4 ▸ a2, h2 ▸ a3⟩, h3 ▸ a4, h5 ▸ a5, h6 ▸ a6⟩

theorem abs512_of_view_eq (iv : W8 UInt64) (e1 e2 : Engine512) (m : Bytes) (hv : view512 e1 = view512 e2)
    (h : Abs512 iv e1 m) : Abs512 iv e2 m := by
  simp only [view512, Prod.mk.injEq] at hv
  obtain ⟨h1, h2, h3, h4, h5⟩ := hv
  obtain ⟨a1, ⟨a2, a3⟩, a4, a5⟩ := h
  exact ⟨h1 ▸ a1, ⟨h4 ▸ a2, h2 ▸ a3⟩, h3 ▸ a4, h5 ▸ a5⟩

theorem abs256_nil_view (iv : W8 UInt32) (e : Engine256) (h : Abs256 iv e []) :
    view256 e = view256 (Engine256.new iv) := by
  obtain ⟨a1, ⟨a2, a3⟩, a4, a5, a6⟩ := h
  have hi : e.buffer.buffer_idx = 0 := by
    have := data_length (N := 64) ⟨a2, a3⟩
    rw [a4] at this; simpa [blockTail] using this.symm
  simp [view256, a1, hi, a2, a5, a6, Engine256.new, FixedBuffer.new, FixedBuffer.data,
    fullBlocks, takeBlocks, Eng256.Engine.new, zeros]

theorem abs512_nil_view (iv : W8 UInt64) (e : Engine512) (h : Abs512 iv e []) :
    view512 e = view512 (Engine512.new iv) := by
  obtain ⟨a1, ⟨a2, a3⟩, a4, a5⟩ := h
  have hi : e.buffer.buffer_idx = 0 := by
    have := data_length (N := 128) ⟨a2, a3⟩
    rw [a4] at this; simpa [blockTail] using this.symm
  simp [view512, a1, hi, a2, a5, Engine512.new, FixedBuffer.new, FixedBuffer.data,
    fullBlocks, takeBlocks, Eng512.Engine.new, zeros]

end Cx.Proofs.Sha2Engine
