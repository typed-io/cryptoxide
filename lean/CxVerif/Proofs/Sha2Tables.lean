/-
  Proofs.Sha2Tables — the constant tables of the SHA-2 code are the constants FIPS 180-4 defines.

  Two layers:
   (1) formula layer: `Spec.Sha2.firstPrimes` lists exactly the first 80 primes (primality = no divisor, by definition:
       the search is a sieve of 2 … 409, evaluated once to count 80), and `Spec.Sha2.iroot` returns the exact floor
       root `c^k ≤ x < (c+1)^k` of every `x` (the invariant of its binary search).  Hence
       `K256`, `K512`, `H256`, `H384`, `H512` ARE "the first 32/64 bits of the fractional parts of the
       cube/square roots of the first 64/80/8/9th–16th primes", `H224` is the second 32 bits of the fractional
       parts of the square roots of the 9th–16th primes, and `H512_224`, `H512_256` are the output of the
       FIPS §5.3.6 IV generation function (they are defined by running it).
   (2) extraction layer: every table re-extracted from /repo/src on each run equals the Spec's (kernel-decided; the
       two K tables by checking `c^3 ≤ p·2^(3·bits) < (c+1)^3` entry by entry): a changed constant in the Rust source
       breaks one of these theorems.
  Core Lean only.
-/
import CxVerif.Spec.Sha2
import CxVerif.Impl.Sha2
import CxVerif.Extracted.Sha2
namespace Cx.Proofs.Sha2Tables
open Cx.Spec.Sha2

def IsPrimeDef (n : Nat) : Prop := 2 ≤ n ∧ ∀ d, d < n → 2 ≤ d → n % d ≠ 0

instance (n : Nat) : Decidable (IsPrimeDef n) := by unfold IsPrimeDef; infer_instance

def strictlyIncreasing (l : List Nat) : Bool := (l.zip l.tail).all fun p => decide (p.1 < p.2)

theorem isPrime_iff (n : Nat) : isPrime n = true ↔ IsPrimeDef n := by
  simp only [isPrime, IsPrimeDef, Bool.and_eq_true, decide_eq_true_eq, List.all_eq_true, List.mem_range,
    Bool.or_eq_true, bne_iff_ne, Decidable.or_iff_not_imp_left, Nat.not_lt]

theorem primesFrom_eq : ∀ f c k, primesFrom f c k = ((List.range' c f).filter isPrime).take k
  | 0, _, _ => by simp [primesFrom]
  | _ + 1, _, 0 => by simp [primesFrom]
  | f + 1, c, k + 1 => by
    rw [primesFrom, List.range'_succ, List.filter_cons]
    split <;> simp [primesFrom_eq f]

theorem firstPrimes_prefix {k : Nat} (h : k ≤ 80) : firstPrimes k = (firstPrimes 80).take k := by
  simp only [firstPrimes, primesFrom_eq, List.take_take, Nat.min_eq_left h]

/-- trial division by 2 … 20 only -/
def isPrimeSmall (n : Nat) : Bool := decide (2 ≤ n) && (List.range' 2 19).all fun d => decide (n ≤ d) || n % d != 0

/-- below 441 = 21² a composite number has a divisor in 2 … 20 (the smaller of a divisor and its cofactor) -/
theorem isPrime_eq_isPrimeSmall {n : Nat} (hn : n < 441) : isPrime n = isPrimeSmall n := by
  rw [Bool.eq_iff_iff, isPrime_iff]
  simp only [isPrimeSmall, IsPrimeDef, Bool.and_eq_true, decide_eq_true_eq, List.all_eq_true, List.mem_range'_1, Bool.or_eq_true,
    bne_iff_ne]
  refine and_congr_right fun _ => ⟨fun h d hd => ?_, fun h d hdn hd2 h0 => ?_⟩
  · exact (Nat.lt_or_ge d n).elim (fun hlt => .inr (h d hlt hd.1)) .inl
  · -- a divisor `d ≥ 21` has a cofactor `n / d` in 2 … 20, which divides `n` as well
    have hmul : d * (n / d) = n := Nat.mul_div_cancel' (Nat.dvd_of_mod_eq_zero h0)
    rcases Nat.lt_or_ge d 21 with hs | hs
    · rcases h d ⟨hd2, by omega⟩ with h' | h' <;> omega
    · have h21 := Nat.mul_le_mul_right (n / d) hs
      have h2 := Nat.mul_le_mul_right (n / d) hd2
      have he : 1 < n / d := Nat.lt_of_mul_lt_mul_left (a := d) (by omega)
      have hmod : n % (n / d) = 0 := Nat.mod_eq_zero_of_dvd ⟨d, by rw [Nat.mul_comm]; exact hmul.symm⟩
      rcases h (n / d) ⟨he, by omega⟩ with h' | h' <;> omega

theorem sieve_small : (List.range' 2 408).filter isPrime = (List.range' 2 408).filter isPrimeSmall :=
  List.filter_congr fun n hn => isPrime_eq_isPrimeSmall (by have := (List.mem_range'_1.1 hn).2; omega)

theorem sieve_eq : (List.range' 2 408).filter isPrime =
    [2, 3, 5, 7, 11, 13, 17, 19, 23, 29, 31, 37, 41, 43, 47, 53, 59, 61, 67, 71, 73, 79, 83, 89, 97, 101, 103, 107,
     109, 113, 127, 131, 137, 139, 149, 151, 157, 163, 167, 173, 179, 181, 191, 193, 197, 199, 211, 223, 227, 229,
     233, 239, 241, 251, 257, 263, 269, 271, 277, 281, 283, 293, 307, 311, 313, 317, 331, 337, 347, 349, 353, 359,
     367, 373, 379, 383, 389, 397, 401, 409] := by
  rw [sieve_small]; decide +kernel

theorem sieve_length : ((List.range' 2 408).filter isPrime).length = 80 := by
  rw [sieve_eq]; rfl

theorem firstPrimes80_eq : firstPrimes 80 = (List.range' 2 408).filter isPrime := by
  rw [firstPrimes, primesFrom_eq, ← List.range'_append (m := 408) (n := 592), List.filter_append,
    List.take_left' sieve_length]

theorem strictlyIncreasing_of_pairwise : ∀ {l : List Nat}, l.Pairwise (· < ·) → strictlyIncreasing l = true
  | [], _ => rfl
  | [_], _ => rfl
  | a :: b :: l, h => by
    have := strictlyIncreasing_of_pairwise (List.pairwise_cons.1 h).2
    simp_all [strictlyIncreasing]

/-- `firstPrimes 80` is strictly increasing, has 80 entries, and below 410 it contains exactly the primes:
    it is the list of the first 80 primes (the 80th is 409). -/
theorem firstPrimes80_spec :
    (firstPrimes 80).length = 80 ∧ strictlyIncreasing (firstPrimes 80) = true
    ∧ (∀ p ∈ firstPrimes 80, p < 410)
    ∧ ∀ n, n < 410 → (n ∈ firstPrimes 80 ↔ IsPrimeDef n) := by
  have hmem (n : Nat) : n ∈ firstPrimes 80 ↔ (2 ≤ n ∧ n < 410) ∧ IsPrimeDef n := by
    rw [firstPrimes80_eq, List.mem_filter, List.mem_range'_1, isPrime_iff]
  refine ⟨?_, ?_, fun p hp => ((hmem p).1 hp).1.2, fun n hn => ?_⟩
  · rw [firstPrimes80_eq, sieve_length]
  · rw [firstPrimes80_eq]
    exact strictlyIncreasing_of_pairwise (List.Pairwise.filter _ List.pairwise_lt_range')
  · exact (hmem n).trans ⟨fun h => h.2, fun h => ⟨⟨h.1, hn⟩, h⟩⟩

theorem firstPrimes64_prefix : firstPrimes 64 = (firstPrimes 80).take 64 := firstPrimes_prefix (by decide)
theorem firstPrimes16_prefix : firstPrimes 16 = (firstPrimes 80).take 16 := firstPrimes_prefix (by decide)
theorem firstPrimes8_prefix : firstPrimes 8 = (firstPrimes 80).take 8 := firstPrimes_prefix (by decide)
theorem primes9to16_eq : primes9to16 = ((firstPrimes 80).take 16).drop 8 := by
  rw [primes9to16, firstPrimes16_prefix]

theorem firstPrimes_length {k : Nat} (h : k ≤ 80) : (firstPrimes k).length = k := by
  rw [firstPrimes_prefix h, List.length_take, firstPrimes80_spec.1, Nat.min_eq_left h]

/-- `c = ⌊x^(1/k)⌋` -/
def IsFloorRoot (k x c : Nat) : Prop := c ^ k ≤ x ∧ x < (c + 1) ^ k

instance (k x c : Nat) : Decidable (IsFloorRoot k x c) := by unfold IsFloorRoot; infer_instance

theorem IsFloorRoot.unique {k x c c' : Nat} (h : IsFloorRoot k x c) (h' : IsFloorRoot k x c') : c = c' := by
  have le {a b : Nat} (ha : IsFloorRoot k x a) (hb : IsFloorRoot k x b) : a ≤ b :=
    Nat.le_of_lt_succ <| Nat.lt_of_not_le fun hle =>
      Nat.lt_irrefl x (Nat.lt_of_lt_of_le hb.2 (Nat.le_trans (Nat.pow_le_pow_left hle k) ha.1))
  exact Nat.le_antisymm (le h h') (le h' h)

theorem irootAux_spec {k x : Nat} : ∀ b r, r ^ k ≤ x → x < (r + 2 ^ b) ^ k → IsFloorRoot k x (irootAux k x b r)
  | 0, _, h1, h2 => ⟨h1, h2⟩
  | b + 1, r, h1, h2 => by
    rw [irootAux]
    split
    · next h => exact irootAux_spec b _ h (by rwa [Nat.add_assoc, ← Nat.two_mul, ← Nat.pow_succ'])
    · next h => exact irootAux_spec b r h1 (Nat.lt_of_not_le h)

theorem iroot_spec {k : Nat} (hk : 0 < k) (x : Nat) : IsFloorRoot k x (iroot k x) := by
  refine irootAux_spec _ 0 (by rw [Nat.zero_pow hk]; exact Nat.zero_le x) ?_
  rw [Nat.zero_add, ← Nat.pow_mul, Nat.mul_comm]
  exact Nat.lt_of_lt_of_le Nat.lt_log2_self (Nat.pow_le_pow_right (by decide) (Nat.lt_mul_div_succ _ hk))

/-- the root of `x · 2^(k·b)` carries `b` further bits: dropping them gives the root of `x` -/
theorem iroot_shift {k : Nat} (hk : 0 < k) (x b : Nat) : iroot k (x * 2 ^ (k * b)) / 2 ^ b = iroot k x := by
  have hc := iroot_spec hk (x * 2 ^ (k * b))
  generalize iroot k (x * 2 ^ (k * b)) = c at hc
  have hpos : 0 < 2 ^ (k * b) := Nat.pow_pos (by decide)
  have hmul (q : Nat) : (q * 2 ^ b) ^ k = q ^ k * 2 ^ (k * b) := by rw [Nat.mul_pow, ← Nat.pow_mul, Nat.mul_comm b]
  refine IsFloorRoot.unique ⟨?_, ?_⟩ (iroot_spec hk x)
  · refine Nat.le_of_mul_le_mul_right ?_ hpos
    rw [← hmul]
    exact Nat.le_trans (Nat.pow_le_pow_left (Nat.div_mul_le_self c _) k) hc.1
  · refine Nat.lt_of_mul_lt_mul_right (a := 2 ^ (k * b)) ?_
    rw [← hmul]
    refine Nat.lt_of_lt_of_le hc.2 (Nat.pow_le_pow_left ?_ k)
    rw [Nat.mul_comm]
    exact Nat.lt_mul_div_succ c (Nat.pow_pos (by decide))

/-- `fracRoot k bits p = ⌊p^(1/k)·2^bits⌋ mod 2^bits` uses the exact floor root, and the `% 2^bits` strips the
    integer part `⌊p^(1/k)⌋·2^bits` and nothing else, i.e. `fracRoot = ⌊frac(p^(1/k))·2^bits⌋` -/
theorem fracRoot_is_fraction {k : Nat} (hk : 0 < k) (bits p : Nat) :
    iroot k (p * 2 ^ (k * bits)) = iroot k p * 2 ^ bits + fracRoot k bits p ∧ IsFloorRoot k p (iroot k p) :=
  ⟨by rw [← iroot_shift hk p bits, fracRoot, Nat.div_add_mod'], iroot_spec hk p⟩

theorem fracRoot_is_fraction_cube64 :
    ∀ p ∈ firstPrimes 80, iroot 3 (p * 2 ^ (3 * 64)) = iroot 3 p * 2 ^ 64 + fracRoot 3 64 p
      ∧ IsFloorRoot 3 p (iroot 3 p) := fun p _ => fracRoot_is_fraction (by decide) 64 p
theorem fracRoot_is_fraction_cube32 :
    ∀ p ∈ firstPrimes 64, iroot 3 (p * 2 ^ (3 * 32)) = iroot 3 p * 2 ^ 32 + fracRoot 3 32 p
      ∧ IsFloorRoot 3 p (iroot 3 p) := fun p _ => fracRoot_is_fraction (by decide) 32 p
theorem fracRoot_is_fraction_sqrt64 :
    ∀ p ∈ firstPrimes 16, iroot 2 (p * 2 ^ (2 * 64)) = iroot 2 p * 2 ^ 64 + fracRoot 2 64 p
      ∧ IsFloorRoot 2 p (iroot 2 p) := fun p _ => fracRoot_is_fraction (by decide) 64 p
theorem fracRoot_is_fraction_sqrt32 :
    ∀ p ∈ firstPrimes 8, iroot 2 (p * 2 ^ (2 * 32)) = iroot 2 p * 2 ^ 32 + fracRoot 2 32 p
      ∧ IsFloorRoot 2 p (iroot 2 p) := fun p _ => fracRoot_is_fraction (by decide) 32 p

/-- the constant tables are complete (so the two passed to `w8OfNats` have the eight entries it expects and its
    default is never used) -/
theorem spec_table_sizes :
    K256.length = 64 ∧ K512.length = 80 ∧ ((firstPrimes 8).map (fracRoot 2 32)).length = 8
    ∧ primes9to16.length = 8 := by
  simp only [K256, K256nat, K512, K512nat, primes9to16, List.length_map, List.length_drop]
  rw [firstPrimes_length (by decide), firstPrimes_length (by decide), firstPrimes_length (by decide),
    firstPrimes_length (by decide)]
  decide

/-- certificate for a table `cs` of fractional root bits of `ps`: each entry, put behind the integer part of the
    root, brackets `p · 2^(k·bits)` between consecutive `k`-th powers -/
def rootsOK (k bits : Nat) : List Nat → List Nat → Bool
  | p :: ps, c :: cs =>
    decide (c < 2 ^ bits ∧ IsFloorRoot k (p * 2 ^ (k * bits)) (iroot k p * 2 ^ bits + c)) && rootsOK k bits ps cs
  | [], [] => true
  | _, _ => false

theorem rootsOK_sound {k bits : Nat} (hk : 0 < k) : ∀ {ps cs : List Nat},
    rootsOK k bits ps cs = true → ps.map (fracRoot k bits) = cs
  | p :: ps, c :: cs, h => by
    simp only [rootsOK, Bool.and_eq_true, decide_eq_true_eq] at h
    rw [List.map_cons, rootsOK_sound hk h.2, fracRoot, (iroot_spec hk _).unique h.1.2, Nat.mul_add_mod_self_right,
      Nat.mod_eq_of_lt h.1.1]
  | [], [], _ => rfl
  | [], _ :: _, h | _ :: _, [], h => by simp [rootsOK] at h

/-- the two round-constant tables are checked by cubing their entries, not by taking 144 cube roots -/
theorem K64_eq : Extracted.Sha2.K64 = K512 := by
  have h : rootsOK 3 64 ((List.range' 2 408).filter isPrime) (Extracted.Sha2.K64.map UInt64.toNat) = true := by
    rw [sieve_eq]; decide +kernel
  rw [K512, K512nat, firstPrimes80_eq, rootsOK_sound (by decide) h, List.map_map]
  exact (List.map_id'' (fun w => UInt64.ofNat_toNat) _).symm

theorem K32_eq : Extracted.Sha2.K32 = K256 := by
  have h : rootsOK 3 32 (((List.range' 2 408).filter isPrime).take 64) (Extracted.Sha2.K32.map UInt32.toNat)
      = true := by
    rw [sieve_eq]; decide +kernel
  rw [K256, K256nat, firstPrimes64_prefix, firstPrimes80_eq, rootsOK_sound (by decide) h, List.map_map]
  exact (List.map_id'' (fun w => UInt32.ofNat_toNat) _).symm
theorem H256_eq : Impl.Sha2.H256 = H256 := by decide +kernel
theorem H224_eq : Impl.Sha2.H224 = H224 := by decide +kernel
theorem H512_eq : Impl.Sha2.H512 = H512 := by decide +kernel
theorem H384_eq : Impl.Sha2.H384 = H384 := by decide +kernel

/-- the IV generation function, run on the extracted `K64` and `H512` (so that the kernel does not take the roots
    again) -/
theorem sha512tIV_eq (t : Nat) : sha512tIV t =
    Spec.MD.hash blockBytes512 16 Spec.MD.be128
      (fun H block => W8.zipWith (· + ·) H
        ((Extracted.Sha2.K64.zip (schedule512 (wordsBE64 block))).foldl round512 H))
      (Impl.Sha2.H512.map (· ^^^ 0xa5a5a5a5a5a5a5a5)) ("SHA-512/" ++ toString t).toUTF8.toList := by
  rw [K64_eq, H512_eq]; rfl

/-- the SHA-512/224 initial value in initials.rs is what the FIPS IV generation function produces -/
theorem H512_TRUNC_224_eq : Impl.Sha2.H512_TRUNC_224 = H512_224 := by
  rw [H512_224, sha512tIV_eq]; decide +kernel
theorem H512_TRUNC_256_eq : Impl.Sha2.H512_TRUNC_256 = H512_256 := by
  rw [H512_256, sha512tIV_eq]; decide +kernel

def swapPairs : List UInt64 → List UInt64
  | a :: b :: rest => b :: a :: swapPairs rest
  | l => l

/-- `K64X2[i] = u64x2(K64[2i+1], K64[2i])` for all 40 entries -/
theorem K64X2_eq : Extracted.Sha2.K64X2 = swapPairs Extracted.Sha2.K64 := by decide +kernel

theorem block_len_eq : Impl.Sha2.Eng256.BLOCK_LEN_BYTES = blockBytes256
    ∧ Impl.Sha2.Eng512.BLOCK_LEN_BYTES = blockBytes512 := by decide

end Cx.Proofs.Sha2Tables
