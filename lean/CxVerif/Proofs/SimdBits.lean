/-
  Proofs.SimdBits — the arithmetic behind the SIMD rotation / byte-swap / sigma implementations (unit `simd`, C16).
  A word is the little-endian value `leNat` of its byte list, and `leNat` is injective on lists of one length; so
  `bytesN` / `ofBytesN` are inverse to each other.  A rotation right by `n` bits of a `w`-bit word is
  `x / 2^n + x % 2^n * 2^(w-n)` (`rot_nat`): the two shifted halves do not overlap, so it does not matter whether they are
  combined by or, by xor, or by `+`.  For `n = 8k` the quotient and the remainder are the values of the last `8 - k` and the
  first `k` bytes: rotating by whole bytes rotates the byte list, which is what the `pshufb` masks do.
-/
import CxVerif.Impl.SimdLanes
import CxVerif.Impl.Sha2
import CxVerif.Proofs.ByteLemmas
namespace Cx.Proofs.SimdBits
open Cx.Impl.Simd

theorem leNat_inj : ∀ (a b : Bytes), a.length = b.length → leNat a = leNat b → a = b
  | [], [], _, _ => rfl
  | [], _ :: _, hl, _ => nomatch hl
  | _ :: _, [], hl, _ => nomatch hl
  | x :: a, y :: b, hl, h => by
    have hx := x.toNat_lt
    have hy := y.toNat_lt
    simp only [leNat] at h
    rw [UInt8.toNat_inj.mp (show x.toNat = y.toNat by omega), leNat_inj a b (Nat.succ.inj hl) (by omega)]

theorem shr64_toNat (x : UInt64) (n : Nat) (hn : n < 64) : (x >>> UInt64.ofNat n).toNat = x.toNat / 2 ^ n := by
  rw [UInt64.toNat_shiftRight, UInt64.toNat_ofNat', Nat.shiftRight_eq_div_pow, show n % 2 ^ 64 % 64 = n by omega]
theorem shl64_toNat (x : UInt64) (n : Nat) (hn : n < 64) : (x <<< UInt64.ofNat n).toNat = x.toNat * 2 ^ n % 2 ^ 64 := by
  rw [UInt64.toNat_shiftLeft, UInt64.toNat_ofNat', Nat.shiftLeft_eq, show n % 2 ^ 64 % 64 = n by omega]
theorem shr32_toNat (x : UInt32) (n : Nat) (hn : n < 32) : (x >>> UInt32.ofNat n).toNat = x.toNat / 2 ^ n := by
  rw [UInt32.toNat_shiftRight, UInt32.toNat_ofNat', Nat.shiftRight_eq_div_pow, show n % 2 ^ 32 % 32 = n by omega]
theorem shl32_toNat (x : UInt32) (n : Nat) (hn : n < 32) : (x <<< UInt32.ofNat n).toNat = x.toNat * 2 ^ n % 2 ^ 32 := by
  rw [UInt32.toNat_shiftLeft, UInt32.toNat_ofNat', Nat.shiftLeft_eq, show n % 2 ^ 32 % 32 = n by omega]

theorem byte64_toNat (x : UInt64) (k : Nat) (hk : k < 8) : (byte64 x k).toNat = x.toNat / 256 ^ k % 256 := by
  rw [byte64, UInt64.toNat_toUInt8, shr64_toNat x (8 * k) (by omega), Nat.pow_mul]

theorem byte32_toNat (x : UInt32) (k : Nat) (hk : k < 4) : (byte32 x k).toNat = x.toNat / 256 ^ k % 256 := by
  rw [byte32, UInt32.toNat_toUInt8, shr32_toNat x (8 * k) (by omega), Nat.pow_mul]

theorem bytes64_eq (x : UInt64) : bytes64 x = u64le x := by
  have e : ∀ k, k < 8 → byte64 x k = UInt8.ofNat (x.toNat / 256 ^ k % 256) := fun k hk =>
    UInt8.toNat_inj.mp (by rw [byte64_toNat x k hk, UInt8.toNat_ofNat', Nat.mod_mod])
  simp only [bytes64, u64le, natToLE, e, Nat.lt_add_one, Nat.reduceLT, Nat.div_div_eq_div_mul, Nat.pow_zero, Nat.div_one]

theorem bytes32_eq (x : UInt32) : bytes32 x = u32le x := by
  have e : ∀ k, k < 4 → byte32 x k = UInt8.ofNat (x.toNat / 256 ^ k % 256) := fun k hk =>
    UInt8.toNat_inj.mp (by rw [byte32_toNat x k hk, UInt8.toNat_ofNat', Nat.mod_mod])
  simp only [bytes32, u32le, natToLE, e, Nat.lt_add_one, Nat.reduceLT, Nat.div_div_eq_div_mul, Nat.pow_zero, Nat.div_one]

theorem leNat_bytes64 (x : UInt64) : leNat (bytes64 x) = x.toNat := by
  rw [bytes64_eq, u64le, Bytes.leNat_natToLE]; exact Nat.mod_eq_of_lt x.toNat_lt

theorem leNat_bytes32 (x : UInt32) : leNat (bytes32 x) = x.toNat := by
  rw [bytes32_eq, u32le, Bytes.leNat_natToLE]; exact Nat.mod_eq_of_lt x.toNat_lt

theorem ofBytes64_toNat : ∀ (l : Bytes), l.length ≤ 8 → (ofBytes64 l).toNat = leNat l
  | [], _ => rfl
  | b :: l, h => by
    have hl : l.length ≤ 7 := Nat.le_of_succ_le_succ h
    have hlt : leNat l < 256 ^ 7 := Nat.lt_of_lt_of_le (Bytes.leNat_lt l) (Nat.pow_le_pow_right (by decide) hl)
    show (b.toUInt64 ||| (ofBytes64 l <<< 8)).toNat = b.toNat + 256 * leNat l
    rw [UInt64.toNat_or, UInt64.toNat_shiftLeft, UInt8.toNat_toUInt64, ofBytes64_toNat l (by omega),
      show UInt64.toNat 8 % 64 = 8 from rfl, Nat.shiftLeft_eq, Nat.mod_eq_of_lt (by omega), Nat.or_comm, Nat.mul_comm,
      ← Nat.two_pow_add_eq_or_of_lt b.toNat_lt, Nat.add_comm]

theorem ofBytes32_toNat : ∀ (l : Bytes), l.length ≤ 4 → (ofBytes32 l).toNat = leNat l
  | [], _ => rfl
  | b :: l, h => by
    have hl : l.length ≤ 3 := Nat.le_of_succ_le_succ h
    have hlt : leNat l < 256 ^ 3 := Nat.lt_of_lt_of_le (Bytes.leNat_lt l) (Nat.pow_le_pow_right (by decide) hl)
    show (b.toUInt32 ||| (ofBytes32 l <<< 8)).toNat = b.toNat + 256 * leNat l
    rw [UInt32.toNat_or, UInt32.toNat_shiftLeft, UInt8.toNat_toUInt32, ofBytes32_toNat l (by omega),
      show UInt32.toNat 8 % 32 = 8 from rfl, Nat.shiftLeft_eq, Nat.mod_eq_of_lt (by omega), Nat.or_comm, Nat.mul_comm,
      ← Nat.two_pow_add_eq_or_of_lt b.toNat_lt, Nat.add_comm]

theorem ofBytes64_bytes64 (x : UInt64) : ofBytes64 (bytes64 x) = x :=
  UInt64.toNat_inj.mp ((ofBytes64_toNat (bytes64 x) (Nat.le_refl 8)).trans (leNat_bytes64 x))

theorem ofBytes32_bytes32 (x : UInt32) : ofBytes32 (bytes32 x) = x :=
  UInt32.toNat_inj.mp ((ofBytes32_toNat (bytes32 x) (Nat.le_refl 4)).trans (leNat_bytes32 x))

theorem bytes32_ofBytes32 (l : Bytes) (h : l.length = 4) : bytes32 (ofBytes32 l) = l :=
  leNat_inj _ _ h.symm (by rw [leNat_bytes32, ofBytes32_toNat l (Nat.le_of_eq h)])

/-- a multiple of `2^i` and a number below `2^i` have no bit in common -/
theorem xor_eq_or_of_lt {i b : Nat} (h : b < 2 ^ i) (a : Nat) : 2 ^ i * a ^^^ b = 2 ^ i * a ||| b := by
  apply Nat.eq_of_testBit_eq
  intro j
  rw [Nat.testBit_xor, Nat.testBit_or, Nat.testBit_two_pow_mul]
  by_cases hj : j < i
  · simp [Nat.not_le.mpr hj]
  · rw [Nat.testBit_lt_two_pow (Nat.lt_of_lt_of_le h (Nat.pow_le_pow_right (by decide) (Nat.not_lt.mp hj)))]
    simp

theorem rot_nat (w n x : Nat) (hn : n ≤ w) (hx : x < 2 ^ w) :
    x * 2 ^ (w - n) % 2 ^ w ||| x / 2 ^ n = x / 2 ^ n + x % 2 ^ n * 2 ^ (w - n) := by
  have hw : 2 ^ w = 2 ^ n * 2 ^ (w - n) := by rw [← Nat.pow_add]; congr 1; omega
  have hq : x / 2 ^ n < 2 ^ (w - n) := by
    apply Nat.div_lt_of_lt_mul; rw [← hw]; exact hx
  rw [hw, Nat.mul_mod_mul_right, Nat.mul_comm _ (2 ^ (w - n)), ← Nat.two_pow_add_eq_or_of_lt hq, Nat.add_comm]

theorem rot_nat_xor (w n x : Nat) (hn : n ≤ w) (hx : x < 2 ^ w) :
    x * 2 ^ (w - n) % 2 ^ w ^^^ x / 2 ^ n = x / 2 ^ n + x % 2 ^ n * 2 ^ (w - n) := by
  have hw : 2 ^ w = 2 ^ n * 2 ^ (w - n) := by rw [← Nat.pow_add]; congr 1; omega
  have hq : x / 2 ^ n < 2 ^ (w - n) := by
    apply Nat.div_lt_of_lt_mul; rw [← hw]; exact hx
  rw [← rot_nat w n x hn hx, hw, Nat.mul_mod_mul_right, Nat.mul_comm _ (2 ^ (w - n)), xor_eq_or_of_lt hq]

theorem rotr64_toNat (x : UInt64) (n : Nat) (h0 : 0 < n) (hn : n < 64) :
    (rotr64 x n).toNat = x.toNat / 2 ^ n + x.toNat % 2 ^ n * 2 ^ (64 - n) := by
  rw [rotr64, rotl64, show (64 - n % 64) % 64 % 64 = 64 - n by omega, show (64 - (64 - n)) % 64 = n by omega,
    UInt64.toNat_or, shl64_toNat x _ (by omega), shr64_toNat x n hn]
  exact rot_nat 64 n x.toNat (by omega) x.toNat_lt

theorem rotr32_toNat (x : UInt32) (n : Nat) (h0 : 0 < n) (hn : n < 32) :
    (rotr32 x n).toNat = x.toNat / 2 ^ n + x.toNat % 2 ^ n * 2 ^ (32 - n) := by
  rw [rotr32, rotl32, show (32 - n % 32) % 32 % 32 = 32 - n by omega, show (32 - (32 - n)) % 32 = n by omega,
    UInt32.toNat_or, shl32_toNat x _ (by omega), shr32_toNat x n hn]
  exact rot_nat 32 n x.toNat (by omega) x.toNat_lt

/-- `srli n | slli (64 - n)` and `srli n ^ slli (64 - n)` -/
theorem shr_or_shl64 (x : UInt64) (n m : Nat) (h0 : 0 < n) (hm : 0 < m) (h : n + m = 64) :
    (x >>> UInt64.ofNat n) ||| (x <<< UInt64.ofNat m) = rotr64 x n := by
  obtain rfl : m = 64 - n := by omega
  apply UInt64.toNat_inj.mp
  rw [rotr64_toNat x n h0 (by omega), UInt64.toNat_or, shr64_toNat x n (by omega), shl64_toNat x _ (by omega), Nat.or_comm]
  exact rot_nat 64 n x.toNat (by omega) x.toNat_lt

theorem shr_xor_shl64 (x : UInt64) (n m : Nat) (h0 : 0 < n) (hm : 0 < m) (h : n + m = 64) :
    (x >>> UInt64.ofNat n) ^^^ (x <<< UInt64.ofNat m) = rotr64 x n := by
  obtain rfl : m = 64 - n := by omega
  apply UInt64.toNat_inj.mp
  rw [rotr64_toNat x n h0 (by omega), UInt64.toNat_xor, shr64_toNat x n (by omega), shl64_toNat x _ (by omega), Nat.xor_comm]
  exact rot_nat_xor 64 n x.toNat (by omega) x.toNat_lt

theorem shr_or_shl32 (x : UInt32) (n m : Nat) (h0 : 0 < n) (hm : 0 < m) (h : n + m = 32) :
    (x >>> UInt32.ofNat n) ||| (x <<< UInt32.ofNat m) = rotr32 x n := by
  obtain rfl : m = 32 - n := by omega
  apply UInt32.toNat_inj.mp
  rw [rotr32_toNat x n h0 (by omega), UInt32.toNat_or, shr32_toNat x n (by omega), shl32_toNat x _ (by omega), Nat.or_comm]
  exact rot_nat 32 n x.toNat (by omega) x.toNat_lt

theorem shr_xor_shl32 (x : UInt32) (n m : Nat) (h0 : 0 < n) (hm : 0 < m) (h : n + m = 32) :
    (x >>> UInt32.ofNat n) ^^^ (x <<< UInt32.ofNat m) = rotr32 x n := by
  obtain rfl : m = 32 - n := by omega
  apply UInt32.toNat_inj.mp
  rw [rotr32_toNat x n h0 (by omega), UInt32.toNat_xor, shr32_toNat x n (by omega), shl32_toNat x _ (by omega), Nat.xor_comm]
  exact rot_nat_xor 32 n x.toNat (by omega) x.toNat_lt

/-- `v + v` for `slli(v, 1)` (avx2.rs `rot63`) -/
theorem add_self_eq_shl (x : UInt64) : x + x = x <<< UInt64.ofNat 1 := by
  apply UInt64.toNat_inj.mp
  rw [UInt64.toNat_add, UInt64.toNat_shiftLeft, Nat.shiftLeft_eq]
  show _ = x.toNat * 2 % 2 ^ 64
  omega

/-- the dword swap of `_mm_shuffle_epi32(r, _MM_SHUFFLE(2, 3, 0, 1))` on one 64-bit lane -/
theorem dword_swap (x : UInt64) : (x >>> 32) ||| ((x &&& 0xFFFFFFFF) <<< 32) = rotr64 x 32 := by
  apply UInt64.toNat_inj.mp
  have hx := x.toNat_lt
  rw [rotr64_toNat x 32 (by decide) (by decide), UInt64.toNat_or, UInt64.toNat_shiftLeft, UInt64.toNat_shiftRight, UInt64.toNat_and,
    show UInt64.toNat 32 % 64 = 32 from rfl, show UInt64.toNat 0xFFFFFFFF = 2 ^ 32 - 1 from rfl, Nat.and_two_pow_sub_one_eq_mod,
    Nat.shiftLeft_eq, Nat.mod_eq_of_lt (by omega), Nat.shiftRight_eq_div_pow, Nat.or_comm, Nat.mul_comm,
    ← Nat.two_pow_add_eq_or_of_lt (by omega), Nat.add_comm, Nat.mul_comm]

theorem ofBytes64_rot (x : UInt64) (k : Nat) (h0 : 0 < k) (hk : k < 8) :
    ofBytes64 ((bytes64 x).drop k ++ (bytes64 x).take k) = rotr64 x (8 * k) := by
  apply UInt64.toNat_inj.mp
  have hx := leNat_bytes64 x
  have hlen : (bytes64 x).length = 8 := rfl
  rw [← List.take_append_drop k (bytes64 x), Bytes.leNat_append] at hx
  have hA := Bytes.leNat_lt ((bytes64 x).take k)
  rw [List.length_take, hlen, Nat.min_eq_left (Nat.le_of_lt hk)] at hx hA
  rw [ofBytes64_toNat _ (by rw [List.length_append, List.length_take, List.length_drop, hlen]; omega), Bytes.leNat_append,
    List.length_drop, hlen, rotr64_toNat x (8 * k) (by omega) (by omega), ← hx, Nat.pow_mul,
    show 64 - 8 * k = 8 * (8 - k) by omega, Nat.pow_mul, Nat.add_mul_div_left _ _ (Nat.pow_pos (by decide)),
    Nat.add_mul_mod_self_left, Nat.div_eq_of_lt hA, Nat.mod_eq_of_lt hA, Nat.zero_add, Nat.mul_comm]

theorem ofBytes32_rot (x : UInt32) (k : Nat) (h0 : 0 < k) (hk : k < 4) :
    ofBytes32 ((bytes32 x).drop k ++ (bytes32 x).take k) = rotr32 x (8 * k) := by
  apply UInt32.toNat_inj.mp
  have hx := leNat_bytes32 x
  have hlen : (bytes32 x).length = 4 := rfl
  rw [← List.take_append_drop k (bytes32 x), Bytes.leNat_append] at hx
  have hA := Bytes.leNat_lt ((bytes32 x).take k)
  rw [List.length_take, hlen, Nat.min_eq_left (Nat.le_of_lt hk)] at hx hA
  rw [ofBytes32_toNat _ (by rw [List.length_append, List.length_take, List.length_drop, hlen]; omega), Bytes.leNat_append,
    List.length_drop, hlen, rotr32_toNat x (8 * k) (by omega) (by omega), ← hx, Nat.pow_mul,
    show 32 - 8 * k = 8 * (4 - k) by omega, Nat.pow_mul, Nat.add_mul_div_left _ _ (Nat.pow_pos (by decide)),
    Nat.add_mul_mod_self_left, Nat.div_eq_of_lt hA, Nat.mod_eq_of_lt hA, Nat.zero_add, Nat.mul_comm]

/-- `overflowing_add(1)` as the translators write its flag ("the 33-bit sum reaches 2^32"): exactly on the all-ones word -/
theorem add_one_overflows (x : UInt32) : 2 ^ 32 ≤ x.toNat + (1 : UInt32).toNat ↔ x = 0xFFFFFFFF := by
  have := x.toNat_lt
  rw [← UInt32.toNat_inj]
  show 2 ^ 32 ≤ x.toNat + 1 ↔ x.toNat = 4294967295
  omega

/-- `ROTR32` combines its two shifts by or, the vector code by xor -/
theorem rotr_or_eq_xor (x : UInt32) (n m : Nat) (h0 : 0 < n) (hm : 0 < m) (h : n + m = 32) :
    (x >>> UInt32.ofNat n) ||| (x <<< UInt32.ofNat m) = (x >>> UInt32.ofNat n) ^^^ (x <<< UInt32.ofNat m) :=
  (shr_or_shl32 x n m h0 hm h).trans (shr_xor_shl32 x n m h0 hm h).symm

open Cx.Impl.Sha2 in
theorem sigma0_shifts (x : UInt32) :
    (x >>> 7) ^^^ (x >>> 18) ^^^ (x >>> 3) ^^^ (x <<< 25) ^^^ (x <<< 14) = Impl256.s0 x := by
  show _ = ((x >>> 7) ||| (x <<< 25)) ^^^ ((x >>> 18) ||| (x <<< 14)) ^^^ (x >>> 3)
  have e1 : (x >>> 7) ||| (x <<< 25) = (x >>> 7) ^^^ (x <<< 25) := rotr_or_eq_xor x 7 25 (by decide) (by decide) rfl
  have e2 : (x >>> 18) ||| (x <<< 14) = (x >>> 18) ^^^ (x <<< 14) := rotr_or_eq_xor x 18 14 (by decide) (by decide) rfl
  rw [e1, e2]
  generalize x >>> 7 = a, x >>> 18 = b, x >>> 3 = c, x <<< 25 = d, x <<< 14 = e
  ac_rfl

open Cx.Impl.Sha2 in
theorem sigma1_shifts (x : UInt32) :
    (x >>> 17) ^^^ (x >>> 10) ^^^ (x >>> 19) ^^^ (x <<< 15) ^^^ (x <<< 13) = Impl256.s1 x := by
  show _ = ((x >>> 17) ||| (x <<< 15)) ^^^ ((x >>> 19) ||| (x <<< 13)) ^^^ (x >>> 10)
  have e1 : (x >>> 17) ||| (x <<< 15) = (x >>> 17) ^^^ (x <<< 15) := rotr_or_eq_xor x 17 15 (by decide) (by decide) rfl
  have e2 : (x >>> 19) ||| (x <<< 13) = (x >>> 19) ^^^ (x <<< 13) := rotr_or_eq_xor x 19 13 (by decide) (by decide) rfl
  rw [e1, e2]
  generalize x >>> 17 = a, x >>> 10 = b, x >>> 19 = c, x <<< 15 = d, x <<< 13 = e
  ac_rfl

end Cx.Proofs.SimdBits
