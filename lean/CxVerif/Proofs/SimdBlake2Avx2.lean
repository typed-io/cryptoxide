/-
  Proofs.SimdBlake2Avx2 — avx2.rs `compress_b` / `compress_b_avx2` (BLAKE2b on four `__m256i` rows, rotating a, c, d) equals
  `reference::compress_b` for every chaining value, counter words, block and last-block flag; same steps as
  Proofs/SimdBlake2AvxB.lean, whose rotations act on each 128-bit half.  The counter / flag register is
  `_mm256_set_epi64x(0, -1 or 0, t1, t0)`.
-/
import CxVerif.Proofs.SimdBlake2AvxB
namespace Cx.Proofs.SimdBlake2
open Cx.Impl.SimdBlake2 Cx.Proofs.SimdBits
open Cx.Spec.Blake2 (msel G loadWords)
open Cx.Impl.Blake2 (sigmaRow LastBlock reference_compress compressRows)

theorem avx2_rot16 (v : V4x64) : Avx2B.rot16 v = ⟨rotr64 v.l0 16, rotr64 v.l1 16, rotr64 v.l2 16, rotr64 v.l3 16⟩ :=
  congrArg₂ V4x64.ofHalves (avxb_rotate16 v.lo) (avxb_rotate16 v.hi)

theorem avx2_rot24 (v : V4x64) : Avx2B.rot24 v = ⟨rotr64 v.l0 24, rotr64 v.l1 24, rotr64 v.l2 24, rotr64 v.l3 24⟩ :=
  congrArg₂ V4x64.ofHalves (avxb_rotate24 v.lo) (avxb_rotate24 v.hi)

theorem avx2_rot32 (v : V4x64) : Avx2B.rot32 v = ⟨rotr64 v.l0 32, rotr64 v.l1 32, rotr64 v.l2 32, rotr64 v.l3 32⟩ :=
  congrArg₂ V4x64.ofHalves (avxb_rotate32 v.lo) (avxb_rotate32 v.hi)

theorem shr_or_add_63 (x : UInt64) : (x >>> UInt64.ofNat 63) ||| (x + x) = rotr64 x 63 := by
  rw [add_self_eq_shl]; exact shr_or_shl64 x 63 1 (by decide) (by decide) rfl

theorem avx2_rot63 (v : V4x64) :
    Avx2B.rot63 v = some ⟨rotr64 v.l0 63, rotr64 v.l1 63, rotr64 v.l2 63, rotr64 v.l3 63⟩ :=
  congrArg some (congrArg₂ V4x64.ofHalves (congrArg₂ V2x64.mk (shr_or_add_63 v.l0) (shr_or_add_63 v.l1))
    (congrArg₂ V2x64.mk (shr_or_add_63 v.l2) (shr_or_add_63 v.l3)))

def avx2Rot63 : V4x64 → V4x64 := fun v => (Avx2B.rot63 v).getD v
theorem avx2Rot63_eq (v : V4x64) : avx2Rot63 v = ⟨rotr64 v.l0 63, rotr64 v.l1 63, rotr64 v.l2 63, rotr64 v.l3 63⟩ := by
  simp [avx2Rot63, avx2_rot63]

def avx2V16 (s : Avx2B.Rows) : Vector UInt64 16 :=
  #v[s.a.l0, s.a.l1, s.a.l2, s.a.l3, s.b.l0, s.b.l1, s.b.l2, s.b.l3,
     s.c.l0, s.c.l1, s.c.l2, s.c.l3, s.d.l0, s.d.l1, s.d.l2, s.d.l3]

/-- the diagonal step of avx2.rs needs the words of diagonals 7, 4, 5, 6 in lanes 0, 1, 2, 3 -/
def avx2Expected (w : Vector UInt64 16) (σ : List Nat) : List V4x64 :=
  [⟨msel w σ 0, msel w σ 2, msel w σ 4, msel w σ 6⟩, ⟨msel w σ 1, msel w σ 3, msel w σ 5, msel w σ 7⟩,
   ⟨msel w σ 14, msel w σ 8, msel w σ 10, msel w σ 12⟩, ⟨msel w σ 15, msel w σ 9, msel w σ 11, msel w σ 13⟩]

/-- TABLE: the ten extracted gather macros of `compress_b_avx2` select `m[SIGMA[r][·]]` in the lane order of the
    a-rotating diagonalisation, every message -/
theorem avx2_loads_eq_sigma (w : Vector UInt64 16) (r : Nat) (h : r < 10) :
    Avx2B.load (Avx2B.msgVecs w) r = some (avx2Expected w (sigmaRow r)) := by
  interval_cases r <;> rfl

def rowQ (a : V4x64) : Row UInt64 := ⟨a.l0, a.l1, a.l2, a.l3⟩
def Row.q4 (r : Row UInt64) : V4x64 := ⟨r.x0, r.x1, r.x2, r.x3⟩

/-- the same rows as the matrix; the statements of Props/C16 are written with `avx2V16`, the proofs work on this view -/
def avx2M (s : Avx2B.Rows) : Mat UInt64 := ⟨rowQ s.a, rowQ s.b, rowQ s.c, rowQ s.d⟩

theorem avx2V16_eq (s : Avx2B.Rows) : avx2V16 s = (avx2M s).toVec := rfl

/-- avx2.rs order: `a + m + b` -/
theorem avx2_cols (s : Avx2B.Rows) (b0 b1 : V4x64) :
    avx2M (Avx2B.G2 avx2Rot63 (Avx2B.G1 s b0) b1) = (avx2M s).cols (G 32 24 16 63) (rowQ b0) (rowQ b1) := by
  unfold Avx2B.G1 Avx2B.G2
  rw [funext avx2_rot32, funext avx2_rot24, funext avx2_rot16, funext avx2Rot63_eq, ← laneGb_eq]
  rfl

/-- the rows after DIAGONALIZE! / UNDIAGONALIZE! -/
def avx2D (s : Avx2B.Rows) : Avx2B.Rows := ⟨(rowQ s.a).rotl.rotl.rotl.q4, s.b, (rowQ s.c).rotl.q4, (rowQ s.d).rotl.rotl.q4⟩
def avx2U (s : Avx2B.Rows) : Avx2B.Rows := ⟨(rowQ s.a).rotl.q4, s.b, (rowQ s.c).rotl.rotl.rotl.q4, (rowQ s.d).rotl.rotl.q4⟩

/-- TABLE: the extracted `_mm256_permute4x64_epi64` immediates rotate a right by 1, d by 2, c left by 1 -/
theorem avx2_diag (s : Avx2B.Rows) : Avx2B.DIAGONALIZE s = some (avx2D s) := rfl
theorem avx2_undiag (s : Avx2B.Rows) : Avx2B.UNDIAGONALIZE s = some (avx2U s) := rfl
theorem avx2M_D (s : Avx2B.Rows) : avx2M (avx2D s) = (avx2M s).diag2 := rfl
theorem avx2M_U (s : Avx2B.Rows) : avx2M (avx2U s) = (avx2M s).undiag2 := rfl

theorem avx2_ROUND (s : Avx2B.Rows) (w : Vector UInt64 16) (σ : List Nat) :
    ∃ s', Avx2B.ROUND avx2Rot63 s (avx2Expected w σ) = some s' ∧
      avx2V16 s' = Spec.Blake2.round 32 24 16 63 w (avx2V16 s) σ := by
  refine ⟨?s', ?h1, ?h2⟩
  case h1 => simp only [Avx2B.ROUND, avx2Expected, avx2_diag, avx2_undiag]; rfl
  case h2 => rw [avx2V16_eq, avx2V16_eq, round_mat2, avx2M_U, avx2_cols, avx2M_D, avx2_cols]; rfl

def avx2Impl (w : Vector UInt64 16) : RowImpl UInt64 Avx2B.Rows V4x64 32 24 16 63 where
  view := avx2M
  w := w
  E := avx2Expected w
  rounds := Avx2B.rounds avx2Rot63 (Avx2B.msgVecs w)
  load := Avx2B.load (Avx2B.msgVecs w)
  ROUND := Avx2B.ROUND avx2Rot63
  rounds_nil _ := rfl
  rounds_cons _ _ _ _ _ hl hR := by simp only [Avx2B.rounds, hl, hR]
  load_ok := avx2_loads_eq_sigma w
  round_ok s σ := avx2_ROUND s w σ

theorem b2_rows : Extracted.Simd.B_AVX2_ROUNDS.map sigmaRow = compressRows Impl.Blake2.b := by decide
theorem b2_rounds_lt : ∀ r ∈ Extracted.Simd.B_AVX2_ROUNDS, r < 10 := by decide

def avx2Init (h iv : Vector UInt64 8) (ft : V4x64) : Avx2B.Rows := ⟨(lo4 h).q4, (hi4 h).q4, (lo4 iv).q4, (hi4 iv).q4.xor ft⟩

/-- the feed-forward and store of `compress_b_avx2` -/
def avx2Out (h : Vector UInt64 8) (s : Avx2B.Rows) : Vector UInt64 8 :=
  rows8 (rowQ ((s.a.xor s.c).xor (lo4 h).q4)) (rowQ ((s.b.xor s.d).xor (hi4 h).q4))

theorem V4x64.xor_comm (a b : V4x64) : a.xor b = b.xor a := by
  simp only [V4x64.xor, UInt64.xor_comm]

/-- avx2.rs xors the chaining value in last -/
theorem avx2Out_eq (h : Vector UInt64 8) : avx2Out h = fun s => finalM h (avx2M s) := by
  funext s
  unfold avx2Out
  rw [V4x64.xor_comm _ (lo4 h).q4, V4x64.xor_comm _ (hi4 h).q4]
  rfl

theorem compress_b_avx2_eq_rounds (h : Vector UInt64 8) (block : Bytes) (iv : Vector UInt64 8) (ft : V4x64) :
    Avx2B.compress_b_avx2 h block iv ft =
      (Avx2B.rounds avx2Rot63 (Avx2B.msgVecs (loadWords block)) (avx2Init h iv ft) Extracted.Simd.B_AVX2_ROUNDS).map (avx2Out h) := by
  unfold Avx2B.compress_b_avx2
  rw [avx2_rot63]
  rfl

/-- `t_and_f = _mm256_set_epi64x(0, -1i64 or 0, t1, t0)` -/
theorem avx2Init_view (h iv : Vector UInt64 8) (t0 t1 : UInt64) (last : LastBlock) :
    avx2M (avx2Init h iv (if last = LastBlock.Yes then ⟨t0, t1, 0xFFFFFFFFFFFFFFFF, 0⟩ else ⟨t0, t1, 0, 0⟩))
      = initM iv h t0 t1 (decide (last = LastBlock.Yes)) := by
  cases last <;> simp only [avx2Init, avx2M, rowQ, Row.q4, initM, V4x64.xor, xor_allones64, UInt64.xor_zero, reduceCtorEq,
    if_true, if_false, decide_true, decide_false, Bool.false_eq_true] <;> rfl

/-- **avx2::compress_b = reference::compress_b**, every (h, t, block, last) -/
theorem avx2_compress_b_eq (h : Vector UInt64 8) (t0 t1 : Nat) (buf : Bytes) (last : LastBlock) :
    avx2_compress_b h t0 t1 buf last = some (reference_compress Impl.Blake2.b h t0 t1 buf last) := by
  unfold avx2_compress_b
  have key := (avx2Impl (loadWords buf)).compress Impl.Blake2.b.iv h buf rfl (UInt64.ofNat t0) (UInt64.ofNat t1) _ _ b2_rounds_lt _
    (avx2Init_view h _ _ _ last)
  -- show the record's fields, or `exact` unrolls `Avx2B.rounds` over the round list to compare it with `(avx2Impl _).rounds`
  dsimp only [avx2Impl] at key
  rw [b2_rows] at key
  rw [compress_b_avx2_eq_rounds, avx2Out_eq]
  exact key

end Cx.Proofs.SimdBlake2
