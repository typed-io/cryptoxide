/-
  Proofs.SimdBlake2AvxB — avx.rs `compress_b` / `compress_b_avx` (BLAKE2b on eight `__m128i` half rows) equals
  `reference::compress_b` for every chaining value, counter words, block and last-block flag.
    1. every rotation (pshufb mask / dword shuffle / shift-xor, masks and immediates EXTRACTED) is the rotation by the RFC amount;
    2. the extracted gather programs `load0! … load9!` deliver `m[SIGMA[r][·]]` in the lane order the round needs (by evaluation
       of the postfix programs on symbolic message words);
    3. `G1; G2` on rows is G on the columns of the matrix view, DIAGONALIZE/UNDIAGONALIZE its row rotations: `ROUND!` is the
       reference round (`round_mat`);
    4. the counter / flag registers (`_mm_loadu_si128(t)`, `_mm_set_epi64x(0, -1)`) view as `initM`, the feed-forward as `finalM`:
       `RowImpl.compress`.
-/
import CxVerif.Impl.SimdBlake2
import CxVerif.Proofs.SimdBits
import CxVerif.Proofs.SimdBlake2Mat
import Mathlib.Tactic.IntervalCases
namespace Cx.Proofs.SimdBlake2
open Cx.Impl.SimdBlake2 Cx.Proofs.SimdBits
open Cx.Spec.Blake2 (msel G loadWords)
open Cx.Impl.Blake2 (sigmaRow LastBlock reference_compress compressRows)

theorem avxb_rotate16 (r : V2x64) : AvxB.rotate16_epi64 r = ⟨rotr64 r.l0 16, rotr64 r.l1 16⟩ :=
  congrArg₂ V2x64.mk (ofBytes64_rot r.l0 2 (by decide) (by decide)) (ofBytes64_rot r.l1 2 (by decide) (by decide))

theorem avxb_rotate24 (r : V2x64) : AvxB.rotate24_epi64 r = ⟨rotr64 r.l0 24, rotr64 r.l1 24⟩ :=
  congrArg₂ V2x64.mk (ofBytes64_rot r.l0 3 (by decide) (by decide)) (ofBytes64_rot r.l1 3 (by decide) (by decide))

theorem avxb_rotate32 (r : V2x64) : AvxB.rotate32_epi64 r = ⟨rotr64 r.l0 32, rotr64 r.l1 32⟩ :=
  congrArg₂ V2x64.mk (dword_swap r.l0) (dword_swap r.l1)

theorem avxb_rotate63 (r : V2x64) : AvxB.rotate63_epi64 r = some ⟨rotr64 r.l0 63, rotr64 r.l1 63⟩ :=
  congrArg some (congrArg₂ V2x64.mk (shr_xor_shl64 r.l0 63 1 (by decide) (by decide) rfl) (shr_xor_shl64 r.l1 63 1 (by decide) (by decide) rfl))

/-- the total function `compress_b_avx` uses for `rotate63_epi64` -/
def avxbRot63 : V2x64 → V2x64 := fun r => (AvxB.rotate63_epi64 r).getD r
theorem avxbRot63_eq (r : V2x64) : avxbRot63 r = ⟨rotr64 r.l0 63, rotr64 r.l1 63⟩ := by
  simp [avxbRot63, avxb_rotate63]

def avxbV16 (s : AvxB.Rows) : Vector UInt64 16 :=
  #v[s.row1l.l0, s.row1l.l1, s.row1h.l0, s.row1h.l1, s.row2l.l0, s.row2l.l1, s.row2h.l0, s.row2h.l1,
     s.row3l.l0, s.row3l.l1, s.row3h.l0, s.row3h.l1, s.row4l.l0, s.row4l.l1, s.row4h.l0, s.row4h.l1]

/-- what `loadR!` must deliver for the SIGMA row `σ` -/
def avxbExpected (w : Vector UInt64 16) (σ : List Nat) : List V2x64 :=
  [⟨msel w σ 0, msel w σ 2⟩, ⟨msel w σ 4, msel w σ 6⟩, ⟨msel w σ 1, msel w σ 3⟩, ⟨msel w σ 5, msel w σ 7⟩,
   ⟨msel w σ 8, msel w σ 10⟩, ⟨msel w σ 12, msel w σ 14⟩, ⟨msel w σ 9, msel w σ 11⟩, ⟨msel w σ 13, msel w σ 15⟩]

/-- TABLE: the ten extracted gather macros of `compress_b_avx` select `m[SIGMA[r][·]]`, every message -/
theorem avxb_loads_eq_sigma (w : Vector UInt64 16) (r : Nat) (h : r < 10) :
    AvxB.load (AvxB.msgVecs w) r = some (avxbExpected w (sigmaRow r)) := by
  interval_cases r <;> rfl

def row2 (a b : V2x64) : Row UInt64 := ⟨a.l0, a.l1, b.l0, b.l1⟩
def Row.lo2 (r : Row UInt64) : V2x64 := ⟨r.x0, r.x1⟩
def Row.hi2 (r : Row UInt64) : V2x64 := ⟨r.x2, r.x3⟩

/-- the same rows as the matrix; the statements of Props/C16 are written with `avxbV16`, the proofs work on this view -/
def avxbM (s : AvxB.Rows) : Mat UInt64 :=
  ⟨row2 s.row1l s.row1h, row2 s.row2l s.row2h, row2 s.row3l s.row3h, row2 s.row4l s.row4h⟩

theorem avxbV16_eq (s : AvxB.Rows) : avxbV16 s = (avxbM s).toVec := rfl

/-- the rotations enter as functions, so that no row has to be taken apart -/
theorem avxb_cols (s : AvxB.Rows) (b0 b1 b2 b3 : V2x64) :
    avxbM (AvxB.G2 avxbRot63 (AvxB.G1 s b0 b1) b2 b3) = (avxbM s).cols (G 32 24 16 63) (row2 b0 b1) (row2 b2 b3) := by
  unfold AvxB.G1 AvxB.G2
  rw [funext avxb_rotate32, funext avxb_rotate24, funext avxb_rotate16, funext avxbRot63_eq, ← laneGb_eq]
  rfl

theorem avxb_diag (s : AvxB.Rows) : avxbM (AvxB.DIAGONALIZE s) = (avxbM s).diag := rfl
theorem avxb_undiag (s : AvxB.Rows) : avxbM (AvxB.UNDIAGONALIZE s) = (avxbM s).undiag := rfl

theorem avxb_ROUND (s : AvxB.Rows) (w : Vector UInt64 16) (σ : List Nat) :
    ∃ s', AvxB.ROUND avxbRot63 s (avxbExpected w σ) = some s' ∧
      avxbV16 s' = Spec.Blake2.round 32 24 16 63 w (avxbV16 s) σ := by
  refine ⟨_, rfl, ?_⟩
  rw [avxbV16_eq, avxbV16_eq, round_mat, avxb_undiag, avxb_cols, avxb_diag, avxb_cols]
  rfl

def avxbImpl (w : Vector UInt64 16) : RowImpl UInt64 AvxB.Rows V2x64 32 24 16 63 where
  view := avxbM
  w := w
  E := avxbExpected w
  rounds := AvxB.rounds avxbRot63 (AvxB.msgVecs w)
  load := AvxB.load (AvxB.msgVecs w)
  ROUND := AvxB.ROUND avxbRot63
  rounds_nil _ := rfl
  rounds_cons _ _ _ _ _ hl hR := by simp only [AvxB.rounds, hl, hR]
  load_ok := avxb_loads_eq_sigma w
  round_ok s σ := avxb_ROUND s w σ

theorem b_rows : Extracted.Simd.B_AVX_ROUNDS.map sigmaRow = compressRows Impl.Blake2.b := by decide
theorem b_rounds_lt : ∀ r ∈ Extracted.Simd.B_AVX_ROUNDS, r < 10 := by decide

def avxbInit (h iv : Vector UInt64 8) (t f : V2x64) : AvxB.Rows :=
  ⟨(lo4 h).lo2, (lo4 h).hi2, (hi4 h).lo2, (hi4 h).hi2, (lo4 iv).lo2, (lo4 iv).hi2, (hi4 iv).lo2.xor t, (hi4 iv).hi2.xor f⟩

/-- the feed-forward and store of `compress_b_avx` -/
def avxbOut (h : Vector UInt64 8) (s : AvxB.Rows) : Vector UInt64 8 :=
  rows8 (row2 ((lo4 h).lo2.xor (s.row3l.xor s.row1l)) ((lo4 h).hi2.xor (s.row3h.xor s.row1h)))
    (row2 ((hi4 h).lo2.xor (s.row4l.xor s.row2l)) ((hi4 h).hi2.xor (s.row4h.xor s.row2h)))

theorem V2x64.xor_comm (a b : V2x64) : a.xor b = b.xor a :=
  congrArg₂ V2x64.mk (UInt64.xor_comm _ _) (UInt64.xor_comm _ _)

/-- avx.rs xors `row3 ^ row1`, the reference `v[i] ^ v[i + 8]` -/
theorem avxbOut_eq (h : Vector UInt64 8) : avxbOut h = fun s => finalM h (avxbM s) := by
  funext s
  unfold avxbOut
  rw [V2x64.xor_comm s.row3l, V2x64.xor_comm s.row3h, V2x64.xor_comm s.row4l, V2x64.xor_comm s.row4h]
  rfl

/-- `compress_b_avx` is its rounds between the row set-up and the feed-forward (the probe of `rotate63_epi64` succeeds) -/
theorem compress_b_avx_eq_rounds (h : Vector UInt64 8) (block : Bytes) (iv : Vector UInt64 8) (t f : V2x64) :
    AvxB.compress_b_avx h block iv t f =
      (AvxB.rounds avxbRot63 (AvxB.msgVecs (loadWords block)) (avxbInit h iv t f) Extracted.Simd.B_AVX_ROUNDS).map (avxbOut h) := by
  unfold AvxB.compress_b_avx
  rw [avxb_rotate63]
  rfl

/-- the counter / flag registers: `f = _mm_set_epi64x(0, -1i64)` complements `v[14]`, zero lanes leave a word as it is -/
theorem avxbInit_view (h iv : Vector UInt64 8) (t0 t1 : UInt64) (last : LastBlock) :
    avxbM (avxbInit h iv ⟨t0, t1⟩ (if last = LastBlock.Yes then ⟨0xFFFFFFFFFFFFFFFF, 0⟩ else ⟨0, 0⟩))
      = initM iv h t0 t1 (decide (last = LastBlock.Yes)) := by
  cases last <;> simp only [avxbInit, avxbM, row2, Row.lo2, Row.hi2, initM, V2x64.xor, xor_allones64, UInt64.xor_zero, reduceCtorEq,
    if_true, if_false, decide_true, decide_false, Bool.false_eq_true] <;> rfl

/-- **avx::compress_b = reference::compress_b**, every (h, t, block, last) -/
theorem avx_compress_b_eq (h : Vector UInt64 8) (t0 t1 : Nat) (buf : Bytes) (last : LastBlock) :
    avx_compress_b h t0 t1 buf last = some (reference_compress Impl.Blake2.b h t0 t1 buf last) := by
  unfold avx_compress_b
  have key := (avxbImpl (loadWords buf)).compress Impl.Blake2.b.iv h buf rfl (UInt64.ofNat t0) (UInt64.ofNat t1) _ _ b_rounds_lt _
    (avxbInit_view h _ _ _ last)
  -- show the record's fields, or `exact` unrolls `AvxB.rounds` over the round list to compare it with `(avxbImpl _).rounds`
  dsimp only [avxbImpl] at key
  rw [b_rows] at key
  rw [compress_b_avx_eq_rounds, avxbOut_eq]
  exact key

end Cx.Proofs.SimdBlake2
