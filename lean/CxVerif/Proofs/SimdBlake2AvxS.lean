/-
  Proofs.SimdBlake2AvxS — avx.rs `compress_s` / `compress_s_avx` (BLAKE2s on four `__m128i` rows) equals
  `reference::compress_s` for every chaining value, counter words, block and last-block flag; same steps as
  Proofs/SimdBlake2AvxB.lean.  The counter / flag register is `_mm_set_epi32(0, -1 or 0, t1, t0)`.
-/
import CxVerif.Impl.SimdBlake2
import CxVerif.Proofs.SimdBits
import CxVerif.Proofs.SimdBlake2Mat
import Mathlib.Tactic.IntervalCases
namespace Cx.Proofs.SimdBlake2
open Cx.Impl.SimdBlake2 Cx.Proofs.SimdBits
open Cx.Spec.Blake2 (msel G loadWords)
open Cx.Impl.Blake2 (sigmaRow LastBlock reference_compress compressRows)

theorem V4x32.map_congr {f g : UInt32 → UInt32} (h : ∀ x, f x = g x) (r : V4x32) : r.map f = r.map g :=
  congrArg (V4x32.map · r) (funext h)

theorem avxs_rotate16 (r : V4x32) : AvxS.rotate16_epi32 r = ⟨rotr32 r.l0 16, rotr32 r.l1 16, rotr32 r.l2 16, rotr32 r.l3 16⟩ :=
  V4x32.map_congr (fun x => ofBytes32_rot x 2 (by decide) (by decide)) r

theorem avxs_rotate8 (r : V4x32) : AvxS.rotate8_epi32 r = ⟨rotr32 r.l0 8, rotr32 r.l1 8, rotr32 r.l2 8, rotr32 r.l3 8⟩ :=
  V4x32.map_congr (fun x => ofBytes32_rot x 1 (by decide) (by decide)) r

theorem avxs_rotate12 (r : V4x32) :
    AvxS.rotate12_epi32 r = some ⟨rotr32 r.l0 12, rotr32 r.l1 12, rotr32 r.l2 12, rotr32 r.l3 12⟩ :=
  congrArg some (V4x32.map_congr (fun x => shr_xor_shl32 x 12 20 (by decide) (by decide) rfl) r)

theorem avxs_rotate7 (r : V4x32) :
    AvxS.rotate7_epi32 r = some ⟨rotr32 r.l0 7, rotr32 r.l1 7, rotr32 r.l2 7, rotr32 r.l3 7⟩ :=
  congrArg some (V4x32.map_congr (fun x => shr_xor_shl32 x 7 25 (by decide) (by decide) rfl) r)

def avxsRots : AvxS.Rots := ⟨fun r => (AvxS.rotate7_epi32 r).getD r, fun r => (AvxS.rotate12_epi32 r).getD r⟩
theorem avxsRot7_eq (r : V4x32) : avxsRots.rot7 r = ⟨rotr32 r.l0 7, rotr32 r.l1 7, rotr32 r.l2 7, rotr32 r.l3 7⟩ := by
  simp [avxsRots, avxs_rotate7]
theorem avxsRot12_eq (r : V4x32) : avxsRots.rot12 r = ⟨rotr32 r.l0 12, rotr32 r.l1 12, rotr32 r.l2 12, rotr32 r.l3 12⟩ := by
  simp [avxsRots, avxs_rotate12]

def avxsV16 (s : AvxS.Rows) : Vector UInt32 16 :=
  #v[s.row1.l0, s.row1.l1, s.row1.l2, s.row1.l3, s.row2.l0, s.row2.l1, s.row2.l2, s.row2.l3,
     s.row3.l0, s.row3.l1, s.row3.l2, s.row3.l3, s.row4.l0, s.row4.l1, s.row4.l2, s.row4.l3]

def avxsExpected (w : Vector UInt32 16) (σ : List Nat) : List V4x32 :=
  [⟨msel w σ 0, msel w σ 2, msel w σ 4, msel w σ 6⟩, ⟨msel w σ 1, msel w σ 3, msel w σ 5, msel w σ 7⟩,
   ⟨msel w σ 8, msel w σ 10, msel w σ 12, msel w σ 14⟩, ⟨msel w σ 9, msel w σ 11, msel w σ 13, msel w σ 15⟩]

/-- TABLE: the ten extracted gather macros of `compress_s_avx` (blends, byte shifts, unpacks, shuffles) select
    `m[SIGMA[r][·]]`, every message -/
theorem avxs_loads_eq_sigma (w : Vector UInt32 16) (r : Nat) (h : r < 10) :
    AvxS.load (AvxS.msgVecs w) r = some (avxsExpected w (sigmaRow r)) := by
  interval_cases r <;> rfl

def row4 (a : V4x32) : Row UInt32 := ⟨a.l0, a.l1, a.l2, a.l3⟩
def Row.v4 (r : Row UInt32) : V4x32 := ⟨r.x0, r.x1, r.x2, r.x3⟩

/-- the same rows as the matrix; the statements of Props/C16 are written with `avxsV16`, the proofs work on this view -/
def avxsM (s : AvxS.Rows) : Mat UInt32 := ⟨row4 s.row1, row4 s.row2, row4 s.row3, row4 s.row4⟩

theorem avxsV16_eq (s : AvxS.Rows) : avxsV16 s = (avxsM s).toVec := rfl

theorem avxs_cols (s : AvxS.Rows) (b0 b1 : V4x32) :
    avxsM (AvxS.G2 avxsRots (AvxS.G1 avxsRots s b0) b1) = (avxsM s).cols (G 16 12 8 7) (row4 b0) (row4 b1) := by
  unfold AvxS.G1 AvxS.G2
  rw [funext avxs_rotate16, funext avxs_rotate8, funext avxsRot7_eq, funext avxsRot12_eq, ← laneGs_eq]
  rfl

/-- the rows after DIAGONALIZE! / UNDIAGONALIZE! -/
def avxsD (s : AvxS.Rows) : AvxS.Rows := ⟨s.row1, (row4 s.row2).rotl.v4, (row4 s.row3).rotl.rotl.v4, (row4 s.row4).rotl.rotl.rotl.v4⟩
def avxsU (s : AvxS.Rows) : AvxS.Rows := ⟨s.row1, (row4 s.row2).rotl.rotl.rotl.v4, (row4 s.row3).rotl.rotl.v4, (row4 s.row4).rotl.v4⟩

/-- TABLE: the extracted `_MM_SHUFFLE` immediates of DIAGONALIZE! are the lane rotations by 1, 2, 3 -/
theorem avxs_diag (s : AvxS.Rows) : AvxS.DIAGONALIZE s = some (avxsD s) := rfl
theorem avxs_undiag (s : AvxS.Rows) : AvxS.UNDIAGONALIZE s = some (avxsU s) := rfl
theorem avxsM_D (s : AvxS.Rows) : avxsM (avxsD s) = (avxsM s).diag := rfl
theorem avxsM_U (s : AvxS.Rows) : avxsM (avxsU s) = (avxsM s).undiag := rfl

theorem avxs_ROUND (s : AvxS.Rows) (w : Vector UInt32 16) (σ : List Nat) :
    ∃ s', AvxS.ROUND avxsRots s (avxsExpected w σ) = some s' ∧
      avxsV16 s' = Spec.Blake2.round 16 12 8 7 w (avxsV16 s) σ := by
  refine ⟨?s', ?h1, ?h2⟩
  case h1 => simp only [AvxS.ROUND, avxsExpected, avxs_diag, avxs_undiag]; rfl
  case h2 => rw [avxsV16_eq, avxsV16_eq, round_mat, avxsM_U, avxs_cols, avxsM_D, avxs_cols]; rfl

def avxsImpl (w : Vector UInt32 16) : RowImpl UInt32 AvxS.Rows V4x32 16 12 8 7 where
  view := avxsM
  w := w
  E := avxsExpected w
  rounds := AvxS.rounds avxsRots (AvxS.msgVecs w)
  load := AvxS.load (AvxS.msgVecs w)
  ROUND := AvxS.ROUND avxsRots
  rounds_nil _ := rfl
  rounds_cons _ _ _ _ _ hl hR := by simp only [AvxS.rounds, hl, hR]
  load_ok := avxs_loads_eq_sigma w
  round_ok s σ := avxs_ROUND s w σ

theorem s_rows : Extracted.Simd.S_AVX_ROUNDS.map sigmaRow = compressRows Impl.Blake2.s := by decide
theorem s_rounds_lt : ∀ r ∈ Extracted.Simd.S_AVX_ROUNDS, r < 10 := by decide

def avxsInit (h iv : Vector UInt32 8) (t : V4x32) : AvxS.Rows := ⟨(lo4 h).v4, (hi4 h).v4, (lo4 iv).v4, (hi4 iv).v4.xor t⟩

/-- the feed-forward and store of `compress_s_avx` -/
def avxsOut (h : Vector UInt32 8) (s : AvxS.Rows) : Vector UInt32 8 := finalM h (avxsM s)

theorem compress_s_avx_eq_rounds (h : Vector UInt32 8) (block : Bytes) (iv : Vector UInt32 8) (t : V4x32) :
    AvxS.compress_s_avx h block iv t =
      (AvxS.rounds avxsRots (AvxS.msgVecs (loadWords block)) (avxsInit h iv t) Extracted.Simd.S_AVX_ROUNDS).map (avxsOut h) := by
  unfold AvxS.compress_s_avx
  rw [avxs_rotate7, avxs_rotate12]
  rfl

/-- `t = _mm_set_epi32(0, -1i32 or 0, t1, t0)` -/
theorem avxsInit_view (h iv : Vector UInt32 8) (t0 t1 : UInt32) (last : LastBlock) :
    avxsM (avxsInit h iv (if last = LastBlock.Yes then ⟨t0, t1, 0xFFFFFFFF, 0⟩ else ⟨t0, t1, 0, 0⟩))
      = initM iv h t0 t1 (decide (last = LastBlock.Yes)) := by
  cases last <;> simp only [avxsInit, avxsM, row4, Row.v4, initM, V4x32.xor, xor_allones32, UInt32.xor_zero, reduceCtorEq,
    if_true, if_false, decide_true, decide_false, Bool.false_eq_true] <;> rfl

/-- **avx::compress_s = reference::compress_s**, every (h, t, block, last) -/
theorem avx_compress_s_eq (h : Vector UInt32 8) (t0 t1 : Nat) (buf : Bytes) (last : LastBlock) :
    avx_compress_s h t0 t1 buf last = some (reference_compress Impl.Blake2.s h t0 t1 buf last) := by
  unfold avx_compress_s
  have key := (avxsImpl (loadWords buf)).compress Impl.Blake2.s.iv h buf rfl (UInt32.ofNat t0) (UInt32.ofNat t1) _ _ s_rounds_lt _
    (avxsInit_view h _ _ _ last)
  -- show the record's fields, or `exact` unrolls `AvxS.rounds` over the round list to compare it with `(avxsImpl _).rounds`
  dsimp only [avxsImpl] at key
  rw [s_rows] at key
  rw [compress_s_avx_eq_rounds]
  exact key

end Cx.Proofs.SimdBlake2
