/-
  Proofs.SimdBlake2Ctx — the context paths of Impl.SimdBlake2 (`CtxW.*`, compression function as a parameter) are the
  context paths of Impl.Blake2 whenever the compression function agrees with `reference_compress` on every input.
-/
import CxVerif.Impl.SimdBlake2
namespace Cx.Proofs.SimdBlake2
open Cx.Impl.SimdBlake2
open Cx.Spec.Blake2 (Word Params)
open Cx.Impl.Blake2 (LastBlock Profile Engine Ctx reference_compress)

section
variable {W : Type} [Word W]

def IsReference (P : Params W) (cmp : Cmp W) : Prop :=
  ∀ h t0 t1 buf last, cmp h t0 t1 buf last = some (reference_compress P h t0 t1 buf last)

theorem compress_with_eq (P : Params W) (cmp : Cmp W) (hc : IsReference P cmp) (e : Engine W) (buf : Bytes) (last : LastBlock) :
    Engine.compress_with cmp e buf last = some (e.compress P buf last) := by
  simp only [Engine.compress_with, hc e.h e.t0 e.t1 buf last, Engine.compress]

theorem update_loop_eq (P : Params W) (cmp : Cmp W) (hc : IsReference P cmp) :
    ∀ (fuel : Nat) (e : Engine W) (input : Bytes),
      CtxW.update_loop P cmp fuel e input = Ctx.update_loop P .wrapping fuel e input := by
  intro fuel
  induction fuel with
  | zero => intro e input; rfl
  | succ n ih =>
    intro e input
    simp only [CtxW.update_loop, Ctx.update_loop]
    split
    · cases h : e.increment_counter .wrapping P.bb with
      | none => rfl
      | some e' => simp only [compress_with_eq P cmp hc, ih]
    · rfl

theorem update_mut_eq (P : Params W) (cmp : Cmp W) (hc : IsReference P cmp) (c : Ctx W) (input : Bytes) :
    CtxW.update_mut P cmp c input = Ctx.update_mut P .wrapping c input := by
  simp only [CtxW.update_mut, Ctx.update_mut]
  split
  · rfl
  · split
    · cases h : c.eng.increment_counter .wrapping P.bb with
      | none => rfl
      | some e' => simp only [compress_with_eq P cmp hc, update_loop_eq P cmp hc]; rfl
    · rfl

theorem internal_final_eq (P : Params W) (cmp : Cmp W) (hc : IsReference P cmp) (c : Ctx W) :
    CtxW.internal_final P cmp c = Ctx.internal_final P .wrapping c := by
  simp only [CtxW.internal_final, Ctx.internal_final]
  cases h : c.eng.increment_counter .wrapping (c.buflen % 2 ^ Word.bits W) with
  | none => rfl
  | some e' => simp only [compress_with_eq P cmp hc]

theorem finalize_at_eq (P : Params W) (cmp : Cmp W) (hc : IsReference P cmp) (c : Ctx W) (outlen outLen : Nat) :
    CtxW.finalize_at P cmp c outlen outLen = Ctx.finalize_at P .wrapping c outlen outLen := by
  simp only [CtxW.finalize_at, Ctx.finalize_at, internal_final_eq P cmp hc]; rfl

theorem IsReference.eq {P : Params W} {cmp : Cmp W} (hc : IsReference P cmp) :
    cmp = fun h t0 t1 buf last => some (reference_compress P h t0 t1 buf last) := by
  funext h t0 t1 buf last
  exact hc h t0 t1 buf last

theorem hash_with_congr (P : Params W) (cmp cmp' : Cmp W) (hc : IsReference P cmp) (hc' : IsReference P cmp')
    (outlen : Nat) (key : Bytes) (counter : Option (Nat × Nat)) (pieces : List Bytes) :
    hash_with P cmp outlen key counter pieces = hash_with P cmp' outlen key counter pieces := by
  rw [hc.eq, hc'.eq]

theorem hash_with_one (P : Params W) (cmp : Cmp W) (hc : IsReference P cmp) (outlen : Nat) (key msg : Bytes) :
    hash_with P cmp outlen key none [msg] = Impl.Blake2.blake2_dyn P .wrapping outlen key msg := by
  simp only [hash_with, Impl.Blake2.blake2_dyn, Impl.Blake2.ContextDyn.new_keyed, CtxW.updates,
    update_mut_eq P cmp hc, finalize_at_eq P cmp hc, Impl.Blake2.ContextDyn.update, Impl.Blake2.ContextDyn.update_mut,
    Impl.Blake2.ContextDyn.finalize_at]
  cases Ctx.new_keyed P outlen key with
  | none => rfl
  | some c =>
    simp only
    cases Ctx.update_mut P .wrapping c msg with
    | none => rfl
    | some c' => rfl

end
end Cx.Proofs.SimdBlake2
