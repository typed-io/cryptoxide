/-
  Proofs.SimdBlake2Mat — the BLAKE2 work vector as a 4×4 matrix of words, and one theorem for every implementation that keeps
  it row-wise in registers (unit `simd`, C16 (iii)).

  The sixteen words `v[0..15]` are four rows `a b c d` of four lanes.  The reference round is: G on the four columns, rotate
  rows b, c, d left by 1, 2, 3 lanes (the diagonals become columns), G on the columns again, rotate back (`round_mat`, by
  unfolding).  avx2.rs rotates a, c, d instead, which is the same followed by a rotation of all four columns (`round_mat2`).
  A vector implementation is a `RowImpl`: a view of its register state as the matrix, its `rounds` loop (`load`, then `ROUND`,
  per entry of the extracted round list), what `load` must deliver, and `ROUND` simulating the reference round.
  `RowImpl.compress`: such rounds between a set-up that views as `initM` and the feed-forward `finalM` are `compressCore`.
  Vectors are indexed in `lo4`/`hi4` only; everything else is records, so that `rfl` and `rw` see no vector literal.
-/
import CxVerif.Impl.Blake2
namespace Cx.Proofs.SimdBlake2
open Cx.Spec.Blake2 (Word msel G loadWords compressCore)
open Cx.Impl.Blake2 (sigmaRow)

structure Row (W : Type) where
  x0 : W
  x1 : W
  x2 : W
  x3 : W

structure Mat (W : Type) where
  a : Row W
  b : Row W
  c : Row W
  d : Row W

section generic
variable {W : Type}

def Row.rotl (r : Row W) : Row W := ⟨r.x1, r.x2, r.x3, r.x0⟩

def Mat.toVec (q : Mat W) : Vector W 16 :=
  #v[q.a.x0, q.a.x1, q.a.x2, q.a.x3, q.b.x0, q.b.x1, q.b.x2, q.b.x3,
     q.c.x0, q.c.x1, q.c.x2, q.c.x3, q.d.x0, q.d.x1, q.d.x2, q.d.x3]

/-- a mixing function on the four columns; `x`, `y` hold the two message words of each column -/
def Mat.cols (g : W → W → W → W → W → W → W × W × W × W) (q : Mat W) (x y : Row W) : Mat W :=
  let g0 := g q.a.x0 q.b.x0 q.c.x0 q.d.x0 x.x0 y.x0
  let g1 := g q.a.x1 q.b.x1 q.c.x1 q.d.x1 x.x1 y.x1
  let g2 := g q.a.x2 q.b.x2 q.c.x2 q.d.x2 x.x2 y.x2
  let g3 := g q.a.x3 q.b.x3 q.c.x3 q.d.x3 x.x3 y.x3
  ⟨⟨g0.1, g1.1, g2.1, g3.1⟩, ⟨g0.2.1, g1.2.1, g2.2.1, g3.2.1⟩, ⟨g0.2.2.1, g1.2.2.1, g2.2.2.1, g3.2.2.1⟩,
   ⟨g0.2.2.2, g1.2.2.2, g2.2.2.2, g3.2.2.2⟩⟩

/-- DIAGONALIZE of avx.rs: row b left by 1, row c by 2, row d by 3 -/
def Mat.diag (q : Mat W) : Mat W := ⟨q.a, q.b.rotl, q.c.rotl.rotl, q.d.rotl.rotl.rotl⟩
def Mat.undiag (q : Mat W) : Mat W := ⟨q.a, q.b.rotl.rotl.rotl, q.c.rotl.rotl, q.d.rotl⟩
/-- DIAGONALIZE of avx2.rs: row a RIGHT by 1, row c left by 1, row d by 2 (row b stays): `diag`, then every row right by 1 -/
def Mat.diag2 (q : Mat W) : Mat W := ⟨q.a.rotl.rotl.rotl, q.b, q.c.rotl, q.d.rotl.rotl⟩
def Mat.undiag2 (q : Mat W) : Mat W := ⟨q.a.rotl, q.b, q.c.rotl.rotl.rotl, q.d.rotl.rotl⟩

def selRow (m : Vector W 16) (σ : List Nat) (i0 i1 i2 i3 : Nat) : Row W := ⟨msel m σ i0, msel m σ i1, msel m σ i2, msel m σ i3⟩

def lo4 (h : Vector W 8) : Row W := ⟨h[0], h[1], h[2], h[3]⟩
def hi4 (h : Vector W 8) : Row W := ⟨h[4], h[5], h[6], h[7]⟩
def rows8 (x y : Row W) : Vector W 8 := #v[x.x0, x.x1, x.x2, x.x3, y.x0, y.x1, y.x2, y.x3]

variable [Word W]

theorem round_mat (r1 r2 r3 r4 : Nat) (m : Vector W 16) (q : Mat W) (σ : List Nat) :
    Spec.Blake2.round r1 r2 r3 r4 m q.toVec σ =
      (((q.cols (G r1 r2 r3 r4) (selRow m σ 0 2 4 6) (selRow m σ 1 3 5 7)).diag.cols (G r1 r2 r3 r4)
        (selRow m σ 8 10 12 14) (selRow m σ 9 11 13 15)).undiag).toVec := rfl

/-- with the avx2 rotation diagonal 7 lands in lane 0: the message rows come in the order 7, 4, 5, 6 -/
theorem round_mat2 (r1 r2 r3 r4 : Nat) (m : Vector W 16) (q : Mat W) (σ : List Nat) :
    Spec.Blake2.round r1 r2 r3 r4 m q.toVec σ =
      (((q.cols (G r1 r2 r3 r4) (selRow m σ 0 2 4 6) (selRow m σ 1 3 5 7)).diag2.cols (G r1 r2 r3 r4)
        (selRow m σ 14 8 10 12) (selRow m σ 15 9 11 13)).undiag2).toVec := rfl

/-- the initial work vector of `compressCore` -/
def initM (iv h : Vector W 8) (t0 t1 : W) (last : Bool) : Mat W :=
  ⟨lo4 h, hi4 h, lo4 iv,
   ⟨Word.xor (hi4 iv).x0 t0, Word.xor (hi4 iv).x1 t1, if last then Word.compl (hi4 iv).x2 else (hi4 iv).x2, (hi4 iv).x3⟩⟩

def Row.xor3 (h a c : Row W) : Row W :=
  ⟨Word.xor h.x0 (Word.xor a.x0 c.x0), Word.xor h.x1 (Word.xor a.x1 c.x1), Word.xor h.x2 (Word.xor a.x2 c.x2),
   Word.xor h.x3 (Word.xor a.x3 c.x3)⟩

/-- the last expression of `compressCore` -/
def finalM (h : Vector W 8) (q : Mat W) : Vector W 8 := rows8 ((lo4 h).xor3 q.a q.c) ((hi4 h).xor3 q.b q.d)

theorem compressCore_mat (iv : Vector W 8) (r1 r2 r3 r4 : Nat) (rows : List (List Nat)) (h : Vector W 8) (blk : Bytes)
    (t0 t1 : W) (last : Bool) (q : Mat W)
    (hq : rows.foldl (Spec.Blake2.round r1 r2 r3 r4 (loadWords blk)) (initM iv h t0 t1 last).toVec = q.toVec) :
    compressCore iv r1 r2 r3 r4 rows h blk t0 t1 last = finalM h q := by
  unfold compressCore
  dsimp only
  -- the fold occurs sixteen times; name it instead of rewriting under the vector literal
  generalize hv : List.foldl _ _ rows = v
  have e : v = q.toVec := hv.symm.trans hq
  subst e
  rfl

end generic

/-- the `rounds` loop of each of the three models (`load`, then `ROUND`, per entry of the round list), followed by any
    state `a` that a relation `Rel` ties to the rows: entry `x` of the list moves `a` to `f a x` -/
theorem rounds_sim {S V A X : Type} (rounds : S → List Nat → Option S) (load : Nat → Option (List V))
    (ROUND : S → List V → Option S) (hnil : ∀ s, rounds s [] = some s)
    (hcons : ∀ s r rs b s', load r = some b → ROUND s b = some s' → rounds s (r :: rs) = rounds s' rs)
    (Rel : S → A → Prop) (f : A → X → A) (idx : X → Nat) :
    ∀ (xs : List X), (∀ x ∈ xs, ∀ s a, Rel s a → ∃ b s', load (idx x) = some b ∧ ROUND s b = some s' ∧ Rel s' (f a x)) →
      ∀ s a, Rel s a → ∃ s', rounds s (xs.map idx) = some s' ∧ Rel s' (xs.foldl f a)
  | [], _, s, _, h => ⟨s, hnil s, h⟩
  | x :: xs, hx, s, a, h => by
    obtain ⟨b, s', hl, hR, hrel⟩ := hx x List.mem_cons_self s a h
    rw [List.map_cons, hcons s _ _ b s' hl hR]
    exact rounds_sim rounds load ROUND hnil hcons Rel f idx xs (fun y hy => hx y (List.mem_cons_of_mem _ hy)) s' _ hrel

/-- the shape of the three translator ties: the model's `rounds` from `toRows init`, then `out`, against a fold of generated
    round statements `step` over the list `loads` from `init`, then the stores `outR` — from one fact per list entry -/
theorem rounds_fold_tie {S V R X W : Type} (rounds : S → List Nat → Option S) (load : Nat → Option (List V))
    (ROUND : S → List V → Option S) (hnil : ∀ s, rounds s [] = some s)
    (hcons : ∀ s r rs b s', load r = some b → ROUND s b = some s' → rounds s (r :: rs) = rounds s' rs)
    (toRows : R → S) (loads : List X) (idx : X → Nat) (step : R → X → R)
    (hstep : ∀ x ∈ loads, ∀ rows, ∃ b, load (idx x) = some b ∧ ROUND (toRows rows) b = some (toRows (step rows x)))
    (out : S → Vector W 8) (outR : R → List W) (hout : ∀ F, outR F = (out (toRows F)).toList) (init : R) :
    ∃ o, (rounds (toRows init) (loads.map idx)).map out = some o ∧ outR (loads.foldl step init) = o.toList := by
  obtain ⟨_, hm, rfl⟩ := rounds_sim rounds load ROUND hnil hcons (· = toRows ·) step idx loads
    (fun x hx s rows e => (hstep x hx rows).elim fun b h => ⟨b, _, h.1, e ▸ h.2, rfl⟩) _ init rfl
  exact ⟨_, by rw [hm]; rfl, hout _⟩

/-- a register implementation of the BLAKE2 compression: its state `S` is the matrix through `view`; `rounds` gathers
    (`load`) and mixes (`ROUND`) per entry of the round list; the gather programs deliver `E σ` for `σ = SIGMA[r]`, and `ROUND` on
    `E σ` is the reference round on message `w` -/
structure RowImpl (W S V : Type) [Word W] (r1 r2 r3 r4 : Nat) where
  view : S → Mat W
  w : Vector W 16
  E : List Nat → List V
  rounds : S → List Nat → Option S
  load : Nat → Option (List V)
  ROUND : S → List V → Option S
  rounds_nil : ∀ s, rounds s [] = some s
  rounds_cons : ∀ s r rs b s', load r = some b → ROUND s b = some s' → rounds s (r :: rs) = rounds s' rs
  load_ok : ∀ r, r < 10 → load r = some (E (sigmaRow r))
  round_ok : ∀ s σ, ∃ s', ROUND s (E σ) = some s' ∧ (view s').toVec = Spec.Blake2.round r1 r2 r3 r4 w (view s).toVec σ

section impl
variable {W S V : Type} [Word W] {r1 r2 r3 r4 : Nat}

theorem RowImpl.run (I : RowImpl W S V r1 r2 r3 r4) (rs : List Nat) (s : S) (h : ∀ r ∈ rs, r < 10) :
    ∃ s', I.rounds s rs = some s' ∧
      (I.view s').toVec = (rs.map sigmaRow).foldl (Spec.Blake2.round r1 r2 r3 r4 I.w) (I.view s).toVec := by
  have := rounds_sim I.rounds I.load I.ROUND I.rounds_nil I.rounds_cons (fun s a => (I.view s).toVec = a)
    (fun a r => Spec.Blake2.round r1 r2 r3 r4 I.w a (sigmaRow r)) id rs
    (fun r hr s _ e => (I.round_ok s (sigmaRow r)).elim fun s' h' => ⟨_, s', I.load_ok r (h r hr), h'.1, e ▸ h'.2⟩) s _ rfl
  rwa [List.map_id, ← List.foldl_map] at this

theorem RowImpl.compress (I : RowImpl W S V r1 r2 r3 r4) (iv h : Vector W 8) (blk : Bytes) (hw : I.w = loadWords blk)
    (t0 t1 : W) (last : Bool) (rs : List Nat) (hlt : ∀ r ∈ rs, r < 10) (init : S)
    (hinit : I.view init = initM iv h t0 t1 last) :
    (I.rounds init rs).map (fun s => finalM h (I.view s)) =
      some (compressCore iv r1 r2 r3 r4 (rs.map sigmaRow) h blk t0 t1 last) := by
  obtain ⟨s', hs, ev⟩ := I.run rs init hlt
  rw [hs, Option.map_some, compressCore_mat iv r1 r2 r3 r4 _ h blk t0 t1 last (I.view s') (by rw [ev, hinit, hw])]

end impl

theorem add_right_comm64 (a x b : UInt64) : a + x + b = a + b + x := by
  rw [UInt64.add_assoc, UInt64.add_comm x b, ← UInt64.add_assoc]
theorem add_right_comm32 (a x b : UInt32) : a + x + b = a + b + x := by
  rw [UInt32.add_assoc, UInt32.add_comm x b, ← UInt32.add_assoc]
/-- the `Word` operations of the two instances, spelled with the machine operators (for `simp only`) -/
theorem wadd64 (a b : UInt64) : Word.add a b = a + b := rfl
theorem wxor64 (a b : UInt64) : Word.xor a b = a ^^^ b := rfl
theorem wrotr64 (a : UInt64) (n : Nat) : Word.rotr a n = rotr64 a n := rfl
theorem wadd32 (a b : UInt32) : Word.add a b = a + b := rfl
theorem wxor32 (a b : UInt32) : Word.xor a b = a ^^^ b := rfl
theorem wrotr32 (a : UInt32) (n : Nat) : Word.rotr a n = rotr32 a n := rfl

/-- BLAKE2b's G on one lane (`a b c d`: the lane of rows 1–4, `x y`: its two message words) in the order the macro `G!` of
    avx.rs / avx2.rs adds (`row1 + message + row2`), rotations spelled `rotr64` -/
def laneGb (a b c d x y : UInt64) : UInt64 × UInt64 × UInt64 × UInt64 :=
  let a := a + x + b
  let d := rotr64 (d ^^^ a) 32
  let c := c + d
  let b := rotr64 (b ^^^ c) 24
  let a := a + y + b
  let d := rotr64 (d ^^^ a) 16
  let c := c + d
  let b := rotr64 (b ^^^ c) 63
  (a, b, c, d)

theorem laneGb_eq : laneGb = G 32 24 16 63 := by
  funext a b c d x y
  simp only [laneGb, G, wadd64, wxor64, wrotr64]
  rw [add_right_comm64 a x b, add_right_comm64 _ y _]

def laneGs (a b c d x y : UInt32) : UInt32 × UInt32 × UInt32 × UInt32 :=
  let a := a + x + b
  let d := rotr32 (d ^^^ a) 16
  let c := c + d
  let b := rotr32 (b ^^^ c) 12
  let a := a + y + b
  let d := rotr32 (d ^^^ a) 8
  let c := c + d
  let b := rotr32 (b ^^^ c) 7
  (a, b, c, d)

theorem laneGs_eq : laneGs = G 16 12 8 7 := by
  funext a b c d x y
  simp only [laneGs, G, wadd32, wxor32, wrotr32]
  rw [add_right_comm32 a x b, add_right_comm32 _ y _]

theorem xor_allones64 (x : UInt64) : x ^^^ 0xFFFFFFFFFFFFFFFF = ~~~x := by
  have : (0xFFFFFFFFFFFFFFFF : UInt64) = -1 := by decide
  rw [this, UInt64.xor_neg_one]
theorem xor_allones32 (x : UInt32) : x ^^^ 0xFFFFFFFF = ~~~x := by
  have : (0xFFFFFFFF : UInt32) = -1 := by decide
  rw [this, UInt32.xor_neg_one]

end Cx.Proofs.SimdBlake2
