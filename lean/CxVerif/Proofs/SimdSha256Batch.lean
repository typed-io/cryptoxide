/-
  Proofs.SimdSha256Batch — from the lane-wise schedule to the block functions (C16 (ii)): `sse41::digest_block` and
  `avx::digest_block` equal `reference::digest_block` on every state and every byte string, the panic on a length
  ≢ 0 mod 64 included; hence the dispatched block function of hashing/sha2/impl256/mod.rs and the hashing contexts over it.
-/
import CxVerif.Proofs.SimdSha256Lanes
import CxVerif.Proofs.Sha2Engine
namespace Cx.Proofs.SimdSha256
open Cx.Impl Cx.Impl.Simd Cx.Impl.SimdSha256 Cx.Impl.Sha2 Cx.Spec.Sha2 Cx.Proofs.FB Cx.Proofs.Sha2Compress
open Cx.Proofs.Sha2Engine

theorem round_kw (a b c d e f g h k w : UInt32) :
    SimdSha256.round a b c d e f g h (w + k) = Impl256.round a b c d e f g h k w := by
  simp only [SimdSha256.round, Impl256.round]
  have : ∀ x : UInt32, x + (w + k) = x + k + w := by intro x; ac_rfl
  rw [this]

theorem rounds8_kw (s : W8 UInt32) (kw0 kw1 kw2 kw3 kw4 kw5 kw6 kw7 : UInt32 × UInt32) :
    SimdSha256.rounds8 s (kw0.2 + kw0.1) (kw1.2 + kw1.1) (kw2.2 + kw2.1) (kw3.2 + kw3.1) (kw4.2 + kw4.1) (kw5.2 + kw5.1)
      (kw6.2 + kw6.1) (kw7.2 + kw7.1) = Impl256.rounds8 s kw0 kw1 kw2 kw3 kw4 kw5 kw6 kw7 := by
  simp only [SimdSha256.rounds8, Impl256.rounds8, round_kw]

theorem rounds_loop_kw (n : Nat) : ∀ (s : W8 UInt32) (l : List (UInt32 × UInt32)), l.length = 8 * n →
    SimdSha256.rounds_loop s (l.map fun p => p.2 + p.1) = Impl256.rounds_loop s l := by
  induction n with
  | zero =>
    intro s l hl
    have : l = [] := List.length_eq_zero_iff.mp (by omega)
    subst this; rfl
  | succ n ih =>
    intro s l hl
    obtain ⟨x0, x1, x2, x3, x4, x5, x6, x7, rest, rfl⟩ := Cx.Proofs.Bytes.exists8 l (by omega)
    have hr : rest.length = 8 * n := by simp at hl; omega
    simp only [List.map_cons, SimdSha256.rounds_loop, Impl256.rounds_loop, rounds8_kw]
    exact ih _ rest hr

theorem mapM_some {α β : Type} (l : List α) (f : α → Option β) (g : α → β) (h : ∀ x ∈ l, f x = some (g x)) :
    l.mapM f = some (l.map g) := by
  have := Bytes.mapM_some_map l id f g h
  simpa using this

/-- `compress_once!(j)`: the `kwi` are lane `j` of the array, that is the array of block `j` (`kw_lane`): the reference single-block
    function on block `j` -/
theorem compress_once_eq {C : Cfg} (message : Bytes) (state : W8 UInt32) (j : Nat) (hj : j < C.n)
    (hb : (blockAt message j).length = 64) :
    compress_once state (kw (lanesAlg C.n) (laneW C message)) j = Impl256.digest_block_u32 state (blockAt message j) := by
  have hw : (wordsBE32 (blockAt message j)).length = 16 := by rw [Bytes.wordsBE32_length, hb]
  have hK : Impl256.K32.length = 64 := by decide
  have hs64 := schedule256_length _ hw
  have hkw : (kw (lanesAlg C.n) (laneW C message)).mapM (fun v => extract_epi32 v j)
      = some ((Impl256.K32.zip (schedule256 (wordsBE32 (blockAt message j)))).map fun p => p.2 + p.1) := by
    rw [mapM_some _ _ (fun v => v[j]) (by intro v _; simp [extract_epi32, hj]), kw_lane C message j hj, kw_word _ hw]
  unfold compress_once Impl256.digest_block_u32 read_u32v_be
  simp only [hkw, hb, List.length_map, List.length_zip, hK, hs64, ne_eq, not_true_eq_false, if_false, or_self,
    Nat.min_self, Nat.reduceMul]
  rw [rounds_loop_kw 8 _ _ (by simp [hK, hs64])]
  cases Impl256.rounds_loop state (Impl256.K32.zip (schedule256 (wordsBE32 (blockAt message j)))) <;> rfl

theorem compress_nways_eq {C : Cfg} (message : Bytes) (hm : 64 * C.n ≤ message.length) :
    ∀ (js : List Nat), (∀ j ∈ js, j < C.n) → ∀ state : W8 UInt32,
      compress_nways (kw (lanesAlg C.n) (laneW C message)) state js = some ((js.map (blockAt message)).foldl compress256 state) := by
  intro js
  induction js with
  | nil => intro _ state; rfl
  | cons j js ih =>
    intro hjs state
    have hj : j < C.n := hjs j (by simp)
    have hb : (blockAt message j).length = 64 := blockAt_length (by omega)
    simp only [compress_nways, compress_once_eq message state j hj hb, digest_block_u32_eq _ _ hb,
      List.map_cons, List.foldl_cons]
    exact ih (fun x hx => hjs x (by simp [hx])) _

/-- **one batch** (`message_schedule_Nways(&mut schedule, block); compress_Nways(state, &schedule)`) on a slice holding
    at least `N` blocks = the single-block compression folded over the first `N` blocks, in order; no panic -/
theorem batch_eq {C : Cfg} (hC : GoodCfg C) (message : Bytes) (hm : 64 * C.n ≤ message.length) (state : W8 UInt32) :
    ∃ sch, message_schedule C message = some sch ∧
      compress_nways sch state C.compressLanes = some ((takeBlocks 64 C.n message).foldl compress256 state) := by
  refine ⟨_, message_schedule_kw hC message hm, ?_⟩
  rw [hC.lanes, compress_nways_eq message hm (List.range C.n) (by intro j hj; simpa using hj) state, takeBlocks_eq_map]
  rfl

/-- `while block.len() >= BATCH { …; block = &block[BATCH..] }`: with `q` batches fitting, the state has absorbed the first
    `N·q` blocks and the remaining slice starts at byte `BATCH·q` -/
theorem batch_loop_eq {C : Cfg} (hC : GoodCfg C) (q : Nat) : ∀ (fuel : Nat) (state : W8 UInt32) (block : Bytes),
    q * (64 * C.n) ≤ block.length → block.length < (q + 1) * (64 * C.n) → q ≤ fuel →
    batch_loop C fuel state block
      = some ((takeBlocks 64 (C.n * q) block).foldl compress256 state, block.drop (64 * C.n * q)) := by
  have hB := hC.batch
  obtain ⟨B, hBe⟩ : ∃ B, B = 64 * C.n := ⟨_, rfl⟩
  rw [← hBe] at hB ⊢
  induction q with
  | zero =>
    intro fuel state block _ h2 _
    have hlt : ¬ block.length ≥ C.batchBytes := by rw [hB]; omega
    cases fuel <;> simp [batch_loop, hlt, takeBlocks]
  | succ q ih =>
    intro fuel state block h1 h2 hf
    obtain ⟨f, rfl⟩ : ∃ f, fuel = f + 1 := ⟨fuel - 1, by omega⟩
    rw [Nat.succ_mul] at h1
    rw [Nat.succ_mul] at h2
    have hge : block.length ≥ C.batchBytes := by rw [hB]; omega
    obtain ⟨sch, hs1, hs2⟩ := batch_eq hC block (by omega) state
    simp only [batch_loop, hge, if_true, hs1, hs2]
    rw [hB, ih f _ (block.drop B) (by rw [List.length_drop]; omega) (by rw [List.length_drop]; omega)
      (by omega)]
    rw [show C.n * (q + 1) = C.n + C.n * q by rw [Nat.mul_succ]; omega, takeBlocks_add, List.foldl_append, List.drop_drop,
      ← hBe]
    rw [show B * (q + 1) = B + B * q by rw [Nat.mul_succ]; omega]

/-- the loop as the drivers call it (fuel = number of bytes) -/
theorem batch_loop_full {C : Cfg} (hC : GoodCfg C) (state : W8 UInt32) (block : Bytes) :
    batch_loop C block.length state block
      = some ((takeBlocks 64 (C.n * (block.length / (64 * C.n))) block).foldl compress256 state,
              block.drop (64 * C.n * (block.length / (64 * C.n)))) := by
  have hpos : 0 < 64 * C.n := by have := hC.npos; omega
  have h1 : block.length / (64 * C.n) * (64 * C.n) ≤ block.length := Nat.div_mul_le_self _ _
  have h2 : block.length < (block.length / (64 * C.n) + 1) * (64 * C.n) := by
    rw [Nat.succ_mul]
    have := Nat.div_add_mod block.length (64 * C.n)
    have := Nat.mod_lt block.length hpos
    rw [Nat.mul_comm] at h1
    rw [Nat.mul_comm]
    omega
  exact batch_loop_eq hC _ _ state block h1 h2 (Nat.le_trans (Nat.le_mul_of_pos_right _ hpos) h1)

theorem reference_digest_block_eq (state : W8 UInt32) (block : Bytes) (h : block.length % 64 = 0) :
    Impl256.digest_block state block = some ((fullBlocks 64 block).foldl compress256 state) := by
  rw [digest_block256_total, if_pos h]

/-- a slice that is not a whole number of blocks: `&block[i..i + 64]` panics on the last, short block -/
theorem reference_digest_block_none (state : W8 UInt32) (block : Bytes) (h : block.length % 64 ≠ 0) :
    Impl256.digest_block state block = none := by
  rw [digest_block256_total, if_neg h]

theorem fullBlocks_split (block : Bytes) (B q : Nat) (hq : 64 * B * q ≤ block.length) :
    fullBlocks 64 block = takeBlocks 64 (B * q) block ++ fullBlocks 64 (block.drop (64 * B * q)) := by
  unfold fullBlocks
  have e : block.length / 64 = B * q + (block.drop (64 * B * q)).length / 64 := by
    simp only [List.length_drop]
    have : 64 * B * q = 64 * (B * q) := Nat.mul_assoc _ _ _
    omega
  rw [e, takeBlocks_add, Nat.mul_assoc]

/-- `N`-lane batches as long as one fits, then ANY engine that is `reference::digest_block` on what is left: the reference on
    the whole slice, the panic on a ragged length included -/
theorem batched_eq_reference {C : Cfg} (hC : GoodCfg C) (next : W8 UInt32 → Bytes → Option (W8 UInt32))
    (hnext : ∀ s b, next s b = Impl256.digest_block s b) (state : W8 UInt32) (block : Bytes) :
    (match batch_loop C block.length state block with
      | none => none
      | some (state, block) => next state block) = Impl256.digest_block state block := by
  rw [batch_loop_full hC]
  dsimp only
  rw [hnext]
  obtain ⟨q, hq⟩ : ∃ q, q = block.length / (64 * C.n) := ⟨_, rfl⟩
  have hle : 64 * C.n * q ≤ block.length := hq ▸ Nat.mul_div_le _ _
  rw [← hq]
  have hr : (block.drop (64 * C.n * q)).length % 64 = block.length % 64 := by
    rw [List.length_drop, Nat.mul_assoc] at *
    omega
  by_cases h : block.length % 64 = 0
  · rw [reference_digest_block_eq state block h, fullBlocks_split block C.n q hle, List.foldl_append]
    exact reference_digest_block_eq _ _ (hr.trans h)
  · rw [reference_digest_block_none state block h]
    exact reference_digest_block_none _ _ (hr ▸ h)

theorem sse41_eq_reference (state : W8 UInt32) (block : Bytes) :
    Sse41.digest_block state block = Impl256.digest_block state block := by
  refine Eq.trans ?_ (batched_eq_reference good_sse41
    (fun s b => if b.length > 0 then Impl256.digest_block s b else some s) (fun s b => ?_) state block)
  · rfl
  · split
    · rfl
    · rename_i h0
      rw [List.length_eq_zero_iff.mp (by omega : b.length = 0), digest_block256_total]
      rfl

theorem avx_eq_reference (state : W8 UInt32) (block : Bytes) :
    Avx.digest_block state block = Impl256.digest_block state block :=
  batched_eq_reference good_avx Sse41.digest_block sse41_eq_reference state block

/-- hashing/sha2/impl256/mod.rs: `impl256::digest_block` tries avx first, then sse4.1; otherwise `reference` -/
theorem dispatch_table (ft : Features) :
    selectPath ft Extracted.Simd.DISPATCH_SHA256 = (if ft.avx then 2 else if ft.sse41 then 1 else 0) := rfl

theorem digest_block_eq_reference (ft : Features) (state : W8 UInt32) (block : Bytes) :
    SimdSha256.digest_block ft state block = Impl256.digest_block state block := by
  unfold SimdSha256.digest_block
  rw [dispatch_table]
  cases ft.avx
  · cases ft.sse41
    · rfl
    · exact sse41_eq_reference state block
  · exact avx_eq_reference state block

theorem blocks_eq (ft : Features) : SimdSha256.Engine.blocks ft = Eng256.Engine.blocks := by
  funext e block
  unfold SimdSha256.Engine.blocks Eng256.Engine.blocks
  rw [digest_block_eq_reference]
  split
  · rfl
  · cases Impl256.digest_block e.h block <;> rfl

theorem inputs_abs (iv : Eng256.Engine) : ∀ (pieces : List Bytes) (e : Engine256) (msg : Bytes), Md.Abs eng256 iv e msg →
    ∃ e', Engine256W.inputs Eng256.Engine.blocks e pieces = some e' ∧ Md.Abs eng256 iv e' (msg ++ pieces.flatten) := by
  intro pieces
  induction pieces with
  | nil => intro e msg h; exact ⟨e, rfl, by simpa using h⟩
  | cons p ps ih =>
    intro e msg h
    obtain ⟨e1, he1, hA1⟩ := h.input eng256 p
    obtain ⟨e2, he2, hA2⟩ := ih e1 (msg ++ p) hA1
    refine ⟨e2, ?_, by simpa using hA2⟩
    have : Engine256W.input Eng256.Engine.blocks e p = some e1 := he1
    simp only [Engine256W.inputs, this]
    exact he2

theorem hash_with_eq_spec (ft : Features) (A : Alg256) (trunc : Bytes → Bytes) (hout : OutOK256 A trunc)
    (pieces : List Bytes) (hlen : pieces.flatten.length < 2 ^ 61) :
    hash_with (SimdSha256.Engine.blocks ft) A pieces = some (specDigest256 A trunc pieces.flatten) := by
  rw [blocks_eq]
  obtain ⟨e1, he1, hA1⟩ := inputs_abs ⟨A.state⟩ pieces (Engine256.new A.state) [] (Md.Abs.fresh eng256 rfl rfl rfl rfl rfl)
  simp only [List.nil_append] at hA1
  obtain ⟨b', he2, _⟩ := hA1.fin eng256 hlen
  have hf : Engine256W.finish Eng256.Engine.blocks e1 = some _ := he2
  simp only [hash_with, he1, hf, hashE256, hout _, specDigest256]

theorem foldlM_digest_block_u32 : ∀ (blocks : List Bytes) (state : W8 UInt32), (∀ b ∈ blocks, b.length = 64) →
    blocks.foldlM Impl256.digest_block_u32 state = some (blocks.foldl compress256 state) := by
  intro blocks
  induction blocks with
  | nil => intro state _; rfl
  | cons b bs ih =>
    intro state h
    rw [List.foldlM_cons, digest_block_u32_eq _ _ (h b (by simp))]
    exact ih _ (fun x hx => h x (by simp [hx]))

theorem fullBlocks_flatten (blocks : List Bytes) (h : ∀ b ∈ blocks, b.length = 64) :
    fullBlocks 64 blocks.flatten = blocks ∧ blocks.flatten.length % 64 = 0 := by
  have := split_unique (N := 64) (by decide) blocks [] h (by simp)
  simp only [List.append_nil] at this
  refine ⟨this.1, ?_⟩
  have hl := blockTail_length (N := 64) blocks.flatten
  rw [this.2] at hl
  simpa using hl.symm

theorem batch_eq_foldlM {C : Cfg} (hC : GoodCfg C) (message : Bytes) (hm : 64 * C.n ≤ message.length) (state : W8 UInt32) :
    ∃ sch, message_schedule C message = some sch ∧
      compress_nways sch state C.compressLanes = (takeBlocks 64 C.n message).foldlM Impl256.digest_block_u32 state ∧
      compress_nways sch state C.compressLanes = some ((takeBlocks 64 C.n message).foldl compress256 state) := by
  obtain ⟨sch, h1, h2⟩ := batch_eq hC message hm state
  exact ⟨sch, h1, by rw [h2, foldlM_digest_block_u32 _ _ (takeBlocks_all_len C.n message (by omega))], h2⟩

theorem eq_fold_of_eq_reference (D : W8 UInt32 → Bytes → Option (W8 UInt32)) (hD : ∀ s b, D s b = Impl256.digest_block s b)
    (state : W8 UInt32) (blocks : List Bytes) (h : ∀ b ∈ blocks, b.length = 64) :
    D state blocks.flatten = blocks.foldlM Impl256.digest_block_u32 state ∧
    D state blocks.flatten = some (blocks.foldl compress256 state) := by
  obtain ⟨hf, hl⟩ := fullBlocks_flatten blocks h
  have : D state blocks.flatten = some (blocks.foldl compress256 state) := by rw [hD, reference_digest_block_eq _ _ hl, hf]
  exact ⟨by rw [this, foldlM_digest_block_u32 _ _ h], this⟩

end Cx.Proofs.SimdSha256
