/-
  Proofs.SimdSha256Lanes — lane algebra of the vectorised SHA-256 message schedule (hashing/sha2/impl256/sse41.rs and
  avx.rs, C16 (ii)).  `GoodCfg` is what the EXTRACTED data of a file must be (register tables, shift amounts of
  sigma0/sigma1, gather word offsets 16·j, message offsets 4·k, byte-swap pshufb mask, `compress_once!` lanes, batch
  size); it holds for both files.  The sixteen gathers + shuffles put big-endian word k of block j in lane j of
  register k (`laneW`); `message_schedule_Nways` then leaves, without panic, the array `kw (lanesAlg n) (laneW …)`
  (`message_schedule_kw`), whose lane j is the array `kw wordRegAlg (Wf …)` of block j (`kw_lane`: N independent scalar
  schedules), which is `K32[k] + W_k` as the reference `compress` zips it (`kw_word`).
-/
import CxVerif.Proofs.SimdSha256Sched
import CxVerif.Proofs.SimdBits
import CxVerif.Proofs.Sha1Chunks
import Mathlib.Tactic.IntervalCases
namespace Cx.Proofs.SimdSha256
open Cx.Impl.Simd Cx.Impl.SimdSha256 Cx.Impl.Sha2 Cx.Spec.Sha2 Cx.Proofs.SimdBits Cx.Proofs.FB

section lanes
variable {n : Nat}
theorem getElem_add (a b : Lanes n) (j : Nat) (h : j < n) : (Lanes.add a b)[j] = a[j] + b[j] := by simp [Lanes.add]
theorem getElem_xor (a b : Lanes n) (j : Nat) (h : j < n) : (Lanes.xor a b)[j] = a[j] ^^^ b[j] := by simp [Lanes.xor]
theorem getElem_or (a b : Lanes n) (j : Nat) (h : j < n) : (Lanes.or a b)[j] = a[j] ||| b[j] := by simp [Lanes.or]
theorem getElem_srli (a : Lanes n) (k j : Nat) (h : j < n) :
    (Lanes.srli a k)[j] = if k ≥ 32 then 0 else a[j] >>> UInt32.ofNat k := by simp [Lanes.srli]
theorem getElem_slli (a : Lanes n) (k j : Nat) (h : j < n) :
    (Lanes.slli a k)[j] = if k ≥ 32 then 0 else a[j] <<< UInt32.ofNat k := by simp [Lanes.slli]
theorem getElem_set1 (x : UInt32) (j : Nat) (h : j < n) : (Lanes.set1 x : Lanes n)[j] = x := by simp [Lanes.set1]
end lanes

/-- byte swap of a 32-bit lane (what `pshufb` with `bswap_mask` does to each lane) -/
def bswap32 (x : UInt32) : UInt32 := ofBytes32 [byte32 x 3, byte32 x 2, byte32 x 1, byte32 x 0]

structure GoodCfg (C : Cfg) : Prop where
  npos : 0 < C.n
  std : StdTables C
  sig0 : ∀ {V : Type} (A : RegAlg V) (w : V), sigma0 A C w = some (A.sh.xor (A.sh.xor (A.sh.xor (A.sh.xor
    (A.sh.srli w 7) (A.sh.srli w 18)) (A.sh.srli w 3)) (A.sh.slli w 25)) (A.sh.slli w 14))
  sig1 : ∀ {V : Type} (A : RegAlg V) (w : V), sigma1 A C w = some (A.sh.xor (A.sh.xor (A.sh.xor (A.sh.xor
    (A.sh.srli w 17) (A.sh.srli w 10)) (A.sh.srli w 19)) (A.sh.slli w 15)) (A.sh.slli w 13))
  gather : C.gather = (List.range C.n).map (16 * ·)
  offs : C.msgOffsets = (List.range 16).map (4 * ·)
  bswap : ∀ v : Lanes C.n, Lanes.shuffle_epi8 v C.bswapMask = v.map bswap32
  lanes : C.compressLanes = List.range C.n
  batch : C.batchBytes = 64 * C.n

theorem vec4 {α : Type} (v : Vector α 4) : ∃ a0 a1 a2 a3, v = #v[a0, a1, a2, a3] := by
  obtain ⟨⟨l⟩, h⟩ := v
  match l, h with
  | [a0, a1, a2, a3], _ => exact ⟨a0, a1, a2, a3, rfl⟩

/-- lane `j` of a shuffle: four of the sixteen bytes its 128-bit group is shuffled to (`Vector.ofFn` does not reduce by `rfl`) -/
theorem getElem_shuffle_epi8 {n : Nat} (v : Lanes n) (mask : List Nat) (j : Nat) (hj : j < n) :
    (Lanes.shuffle_epi8 v mask)[j] = ofBytes32 (((pshufb16
      ((List.range 4).map fun k => bytes32 (v.toList.getD (4 * (j / 4) + k) 0)).flatten
      ((mask.drop (16 * (j / 4))).take 16)).drop (4 * (j % 4))).take 4) :=
  Vector.getElem_ofFn ..

theorem shuffle_bswap4 (v : Lanes 4) : Lanes.shuffle_epi8 v Extracted.Simd.SSE41_BSWAP_MASK = v.map bswap32 := by
  obtain ⟨a0, a1, a2, a3, rfl⟩ := vec4 v
  ext i hi
  rw [getElem_shuffle_epi8, Vector.getElem_map]
  interval_cases i <;> rfl

/-- `_mm256_shuffle_epi8(w, bswap_mask)`: the selectors 16…31 of the upper half act modulo 16 inside that half -/
theorem shuffle_bswap8 (v : Lanes 8) : Lanes.shuffle_epi8 v Extracted.Simd.AVX_BSWAP_MASK = v.map bswap32 := by
  obtain ⟨a0, a1, a2, a3, a4, a5, a6, a7, rfl⟩ := Cx.Proofs.Bytes.vec8 v
  ext i hi
  rw [getElem_shuffle_epi8, Vector.getElem_map]
  interval_cases i <;> rfl

theorem good_sse41 : GoodCfg Sse41.cfg where
  npos := by decide
  std := std_sse41
  sig0 := fun _ _ => rfl
  sig1 := fun _ _ => rfl
  gather := by decide
  offs := by decide
  bswap := shuffle_bswap4
  lanes := by decide
  batch := by decide

theorem good_avx : GoodCfg Avx.cfg where
  npos := by decide
  std := std_avx
  sig0 := fun _ _ => rfl
  sig1 := fun _ _ => rfl
  gather := by decide
  offs := by decide
  bswap := shuffle_bswap8
  lanes := by decide
  batch := by decide

theorem s0_eq (x : UInt32) : Impl256.s0 x = smallSigma0_256 x := rfl
theorem s1_eq (x : UInt32) : Impl256.s1 x = smallSigma1_256 x := rfl

theorem word_sigma0 {C : Cfg} (hC : GoodCfg C) (x : UInt32) : sigma0 wordRegAlg C x = some (smallSigma0_256 x) := by
  rw [hC.sig0, ← s0_eq, ← sigma0_shifts]; rfl

theorem word_sigma1 {C : Cfg} (hC : GoodCfg C) (x : UInt32) : sigma1 wordRegAlg C x = some (smallSigma1_256 x) := by
  rw [hC.sig1, ← s1_eq, ← sigma1_shifts]; rfl

theorem lanes_sigma0 {C : Cfg} (hC : GoodCfg C) (v : Lanes C.n) :
    sigma0 (lanesAlg C.n) C v = some (v.map smallSigma0_256) := by
  rw [hC.sig0]
  congr 1
  ext j hj
  simp only [lanesAlg, Lanes.alg, getElem_xor, getElem_srli, getElem_slli, Vector.getElem_map, ← s0_eq, ← sigma0_shifts]
  rfl

theorem lanes_sigma1 {C : Cfg} (hC : GoodCfg C) (v : Lanes C.n) :
    sigma1 (lanesAlg C.n) C v = some (v.map smallSigma1_256) := by
  rw [hC.sig1]
  congr 1
  ext j hj
  simp only [lanesAlg, Lanes.alg, getElem_xor, getElem_srli, getElem_slli, Vector.getElem_map, ← s1_eq, ← sigma1_shifts]
  rfl

/-- `read(p as *const i32)` (little-endian) followed by the byte swap is the big-endian word at `p` -/
theorem bswap32_read (bs : Bytes) (h : 4 ≤ bs.length) : bswap32 (ofBytes32 (bs.take 4)) = beU32 bs := by
  have hl : (bs.take 4).length = 4 := by rw [List.length_take]; omega
  show ofBytes32 (bytes32 (ofBytes32 (bs.take 4))).reverse = _
  rw [bytes32_ofBytes32 _ hl, ← UInt32.ofNat_toNat (x := ofBytes32 _), ofBytes32_toNat _ (by rw [List.length_reverse, hl]),
    Bytes.leNat_reverse]
  rfl

def blockAt (message : Bytes) (j : Nat) : Bytes := (message.drop (64 * j)).take 64

theorem blockAt_length {message : Bytes} {j : Nat} (h : 64 * j + 64 ≤ message.length) : (blockAt message j).length = 64 := by
  simp [blockAt]; omega

theorem wordsBE32_getElem? (blk : Bytes) (hl : blk.length = 64) (k : Nat) (hk : k < 16) :
    (wordsBE32 blk)[k]? = some (beU32 (blk.drop (4 * k))) := by
  unfold wordsBE32
  rw [Cx.Proofs.FB.chunks_eq_fullBlocks (by decide) blk (by rw [hl]), fullBlocks, hl, List.getElem?_map,
    takeBlocks_getElem? 4 (64 / 4) blk k (by omega)]
  simp [beU32, List.take_take]

theorem take4_blockAt (message : Bytes) (j k : Nat) (hk : k < 16) :
    ((blockAt message j).drop (4 * k)).take 4 = (message.drop (4 * k + 64 * j)).take 4 := by
  unfold blockAt
  rw [List.drop_take, List.take_take, List.drop_drop]
  congr 1
  · omega
  · congr 1; omega

def laneW (C : Cfg) (message : Bytes) (t : Nat) : Lanes C.n :=
  Vector.ofFn fun j : Fin C.n => Wf (wordsBE32 (blockAt message j.val)) t

theorem gather_eq {C : Cfg} (hC : GoodCfg C) (message : Bytes) (hm : 64 * C.n ≤ message.length) (k : Nat) (hk : k < 16) :
    gather C message (4 * k)
      = some (Vector.ofFn fun j : Fin C.n => ofBytes32 ((message.drop (4 * k + 64 * j.val)).take 4)) := by
  have hmap : C.gather.mapM (fun g => readI32 message (4 * k + 4 * g))
      = some ((List.range C.n).map fun j => ofBytes32 ((message.drop (4 * k + 64 * j)).take 4)) := by
    rw [hC.gather]
    apply Bytes.mapM_some_map
    intro j hj
    have hj' : j < C.n := by simpa using hj
    rw [readI32, if_pos (by omega)]
    congr 4; omega
  unfold gather
  simp only [hmap]
  rw [dif_pos (by simp)]
  congr 1
  ext j hj
  simp

theorem gather_bswap_laneW (C : Cfg) (message : Bytes) (hm : 64 * C.n ≤ message.length) (k : Nat) (hk : k < 16) :
    (Vector.ofFn fun j : Fin C.n => ofBytes32 ((message.drop (4 * k + 64 * j.val)).take 4)).map bswap32 = laneW C message k := by
  ext j hj
  simp only [Vector.getElem_map, Vector.getElem_ofFn, laneW]
  have hb : (blockAt message j).length = 64 := blockAt_length (by omega)
  rw [Wf_lt _ hk, List.getD_eq_getElem?_getD, wordsBE32_getElem? _ hb k hk, Option.getD_some,
    bswap32_read _ (by simp; omega)]
  simp only [beU32, take4_blockAt message j k hk]

/-- **the transposing loads**: `wK = gather(message.add(4K)); wK = shuffle_epi8(wK, bswap_mask)`, K = 0 … 15, on a
    message of at least one batch: lane `j` of register `K` is big-endian word `K` of block `j`; no refused read -/
theorem loadRegs_eq {C : Cfg} (hC : GoodCfg C) (message : Bytes) (hm : 64 * C.n ≤ message.length) :
    loadRegs C message = some ((List.range 16).map (laneW C message)) := by
  unfold loadRegs
  rw [hC.offs]
  apply Bytes.mapM_some_map
  intro k hk
  have hk' : k < 16 := by simpa using hk
  rw [gather_eq hC message hm k hk', Option.map_some, hC.bswap, gather_bswap_laneW C message hm k hk']

theorem wordsBE32_laneW (C : Cfg) (message : Bytes) (hm : 64 * C.n ≤ message.length) (k : Nat) (hk : k < 16) (j : Nat) (hj : j < C.n) :
    (wordsBE32 (blockAt message j))[k]? = some ((laneW C message k)[j]'hj) := by
  have hb : (blockAt message j).length = 64 := blockAt_length (by omega)
  have hw : k < (wordsBE32 (blockAt message j)).length := by rw [Cx.Proofs.Bytes.wordsBE32_length, hb]; omega
  simp [laneW, Wf_lt _ hk, List.getD_eq_getElem?_getD, List.getElem?_eq_getElem hw]

theorem map_Wf_range16 (m : List UInt32) (hm : m.length = 16) : (List.range 16).map (Wf m) = m := by
  apply List.ext_getElem?
  intro i
  by_cases hi : i < 16
  · simp [hi, Wf_lt m hi, List.getD_eq_getElem?_getD, List.getElem?_eq_getElem (show i < m.length by omega)]
  · rw [List.getElem?_eq_none (by simp; omega), List.getElem?_eq_none (by omega)]

theorem schedule256_getElem? (m : List UInt32) (hm : m.length = 16) (k : Nat) (w : UInt32)
    (h : (schedule256 m)[k]? = some w) : w = Wf m k := by
  rw [schedule256_eq_Wf m hm] at h
  by_cases hk : k < 64
  · simp [hk] at h; exact h.symm
  · rw [List.getElem?_eq_none (by simp; omega)] at h; cases h

theorem kw_word (m : List UInt32) (hm : m.length = 16) :
    kw wordRegAlg (Wf m) = (Impl256.K32.zip (schedule256 m)).map fun p => p.2 + p.1 := by
  refine List.mapIdx_eq_iff.mpr fun i => ?_
  rw [schedule256_eq_Wf m hm, List.getElem?_map, List.zip_eq_zipWith, List.getElem?_zipWith, List.getElem?_map]
  cases hk : Impl256.K32[i]? with
  | none => rfl
  | some kk => rw [List.getElem?_range (K32_lt hk)]; rfl

theorem word_schedule_eq {C : Cfg} (hC : GoodCfg C) (m : List UInt32) (hm : m.length = 16) :
    scheduleFromRegs wordRegAlg C m = some (kw wordRegAlg (Wf m)) := by
  have hrec : ∀ t, wordRegAlg.sh.add (wordRegAlg.sh.add (Wf m t) (Wf m (t + 9)))
      (wordRegAlg.sh.add (smallSigma0_256 (Wf m (t + 1))) (smallSigma1_256 (Wf m (t + 14)))) = Wf m (t + 16) := by
    intro t
    rw [Wf_ge]
    show (Wf m t + Wf m (t + 9)) + (smallSigma0_256 (Wf m (t + 1)) + smallSigma1_256 (Wf m (t + 14))) = _
    ac_rfl
  have := scheduleFromRegs_spec wordRegAlg C (Wf m) smallSigma0_256 smallSigma1_256 (word_sigma0 hC) (word_sigma1 hC) hrec hC.std
  rwa [map_Wf_range16 m hm] at this

theorem word_schedule {C : Cfg} (hC : GoodCfg C) (m : List UInt32) (hm : m.length = 16) :
    ∃ sch, scheduleFromRegs wordRegAlg C m = some sch ∧ sch.length = 64 ∧
      ∀ (k : Nat) (kk w : UInt32), Impl256.K32[k]? = some kk → (schedule256 m)[k]? = some w → sch[k]? = some (w + kk) :=
  ⟨_, word_schedule_eq hC m hm, kw_length .., fun k kk w hk hw => by
    rw [kw, List.getElem?_mapIdx, hk, schedule256_getElem? m hm k w hw]; rfl⟩

theorem laneW_rec (C : Cfg) (message : Bytes) (t : Nat) :
    Lanes.add (Lanes.add (laneW C message t) (laneW C message (t + 9)))
      (Lanes.add ((laneW C message (t + 1)).map smallSigma0_256) ((laneW C message (t + 14)).map smallSigma1_256))
        = laneW C message (t + 16) := by
  ext j hj
  simp only [getElem_add, Vector.getElem_map, laneW, Vector.getElem_ofFn]
  rw [Wf_ge]
  ac_rfl

/-- **`message_schedule_4ways` / `message_schedule_8ways`** on a message holding at least one batch: no panic, and the array is
    `K32[k] + W_k` of the lane vectors `laneW` -/
theorem message_schedule_kw {C : Cfg} (hC : GoodCfg C) (message : Bytes) (hm : 64 * C.n ≤ message.length) :
    message_schedule C message = some (kw (lanesAlg C.n) (laneW C message)) := by
  simp only [message_schedule, loadRegs_eq hC message hm, scheduleFromRegs_spec (lanesAlg C.n) C (laneW C message)
    (fun v => v.map smallSigma0_256) (fun v => v.map smallSigma1_256) (lanes_sigma0 hC) (lanes_sigma1 hC) (laneW_rec C message) hC.std]

theorem kw_lane (C : Cfg) (message : Bytes) (j : Nat) (hj : j < C.n) :
    (kw (lanesAlg C.n) (laneW C message)).map (fun v => v[j]'hj) = kw wordRegAlg (Wf (wordsBE32 (blockAt message j))) := by
  rw [map_kw]
  refine congrArg (List.mapIdx · Impl256.K32) (funext fun k => funext fun kk => ?_)
  simp only [lanesAlg, Lanes.alg, getElem_add, getElem_set1, laneW, Vector.getElem_ofFn]
  rfl

/-- `kw_lane` entry by entry, in the terms of the FIPS schedule -/
theorem message_schedule_lanes {C : Cfg} (hC : GoodCfg C) (message : Bytes) (hm : 64 * C.n ≤ message.length) :
    ∃ sch, message_schedule C message = some sch ∧ sch.length = 64 ∧
      ∀ (k : Nat) (kk w : UInt32) (j : Nat) (hj : j < C.n), Impl256.K32[k]? = some kk →
        (schedule256 (wordsBE32 (blockAt message j)))[k]? = some w → ∃ v, sch[k]? = some v ∧ v[j] = w + kk := by
  refine ⟨_, message_schedule_kw hC message hm, kw_length .., fun k kk w j hj hk hw => ?_⟩
  have hb : (blockAt message j).length = 64 := blockAt_length (by omega)
  have h := congrArg (·[k]?) (kw_lane C message j hj)
  simp only [List.getElem?_map, kw, List.getElem?_mapIdx, hk, Option.map_some] at h
  rw [schedule256_getElem? _ (by rw [Bytes.wordsBE32_length, hb]) k w hw]
  exact ⟨_, by rw [kw, List.getElem?_mapIdx, hk]; rfl, Option.some.inj h⟩

end Cx.Proofs.SimdSha256
