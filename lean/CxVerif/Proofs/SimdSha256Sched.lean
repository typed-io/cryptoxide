/-
  Proofs.SimdSha256Sched — the register-rotating message schedule of sse41.rs / avx.rs (`SCHEDULE_ROUND!` over sixteen
  live registers `w0 … w15`, `while i < 32 { 16 rounds }`, then sixteen tail rounds with the explicit stores
  `schedule[48 + p] = w_p + K32[48 + p]`) computes, over ANY register algebra, the FIPS recurrence:

      schedule = kw A val,   i.e.   schedule[k] = add (val k) (set1 K32[k])   for every k < 64,

  whenever `val : Nat → V` satisfies  add (add (val t) (val (t+9))) (add (σ0 (val (t+1))) (σ1 (val (t+14)))) = val (t+16)
  and the registers start as `val 0 … val 15`.  Instances: single words (`wordRegAlg`, `val = Wf m` = FIPS `W_t`) and
  lane vectors (Proofs/SimdSha256Lanes.lean).  The register numbers of every macro invocation are the extracted tables
  (`StdTables` is checked by `decide` for both files), so a changed register argument in the source breaks `std_sse41` /
  `std_avx`.
-/
import CxVerif.Impl.SimdSha256
import CxVerif.Proofs.Sha2Compress
namespace Cx.Proofs.SimdSha256
open Cx.Impl.SimdSha256 Cx.Impl.Sha2 Cx.Spec.Sha2

/-- `W_t` of FIPS 180-4 §6.2.2 step 1 for the sixteen block words `m` (only used with `m.length = 16`) -/
def Wf (m : List UInt32) (t : Nat) : UInt32 :=
  if t < 16 then m.getD t 0
  else smallSigma1_256 (Wf m (t - 2)) + Wf m (t - 7) + smallSigma0_256 (Wf m (t - 15)) + Wf m (t - 16)
termination_by t
decreasing_by all_goals omega

theorem Wf_lt (m : List UInt32) {t : Nat} (h : t < 16) : Wf m t = m.getD t 0 := by
  rw [Wf]; simp [h]

theorem Wf_ge (m : List UInt32) (t : Nat) :
    Wf m (t + 16) = smallSigma1_256 (Wf m (t + 14)) + Wf m (t + 9) + smallSigma0_256 (Wf m (t + 1)) + Wf m t := by
  rw [Wf]
  have h : ¬ t + 16 < 16 := by omega
  simp only [h, if_false]
  have e1 : t + 16 - 2 = t + 14 := by omega
  have e2 : t + 16 - 7 = t + 9 := by omega
  have e3 : t + 16 - 15 = t + 1 := by omega
  have e4 : t + 16 - 16 = t := by omega
  rw [e1, e2, e3, e4]

/-- `W_{k-1} … W_0`, newest first (the list `extend256` maintains) -/
def Wrev (m : List UInt32) : Nat → List UInt32
  | 0 => []
  | k + 1 => Wf m k :: Wrev m k

theorem extend256_Wrev (m : List UInt32) (n : Nat) : ∀ k, extend256 n (Wrev m (k + 16)) = Wrev m (k + 16 + n) := by
  induction n with
  | zero => intro k; rfl
  | succ n ih =>
    intro k
    show extend256 (n + 1) (Wf m (k + 15) :: Wf m (k + 14) :: Wf m (k + 13) :: Wf m (k + 12) :: Wf m (k + 11) ::
      Wf m (k + 10) :: Wf m (k + 9) :: Wf m (k + 8) :: Wf m (k + 7) :: Wf m (k + 6) :: Wf m (k + 5) :: Wf m (k + 4) ::
      Wf m (k + 3) :: Wf m (k + 2) :: Wf m (k + 1) :: Wf m k :: Wrev m k) = _
    rw [extend256, ← Wf_ge]
    have := ih (k + 1)
    have e : k + 16 + (n + 1) = k + 1 + 16 + n := by omega
    rw [e, ← this]
    rfl

theorem Wrev_reverse (m : List UInt32) (n : Nat) : (Wrev m n).reverse = (List.range n).map (Wf m) := by
  induction n with
  | zero => rfl
  | succ n ih => simp [Wrev, ih, List.range_succ]

theorem schedule256_eq_Wf (m : List UInt32) (h : m.length = 16) : schedule256 m = (List.range 64).map (Wf m) := by
  obtain ⟨a0, a1, a2, a3, a4, a5, a6, a7, a8, a9, a10, a11, a12, a13, a14, a15, t, rfl⟩ :=
    Cx.Proofs.Sha2Compress.exists16 m (by omega)
  have ht : t = [] := by
    cases t with
    | nil => rfl
    | cons x xs => simp at h
  subst ht
  have h0 : [a0, a1, a2, a3, a4, a5, a6, a7, a8, a9, a10, a11, a12, a13, a14, a15].reverse
      = Wrev [a0, a1, a2, a3, a4, a5, a6, a7, a8, a9, a10, a11, a12, a13, a14, a15] (0 + 16) := by
    simp [Wrev, Wf_lt]
  rw [schedule256, h0, extend256_Wrev, Wrev_reverse]

/-- `SCHEDULE_ROUND!(schedule, i, w_{t+1}, w_{t+14}, w_t, w_{t+9})`, register numbers mod 16 -/
def stdRegs (t : Nat) : List Nat := [(t + 1) % 16, (t + 14) % 16, t % 16, (t + 9) % 16]
/-- tail statement p: the round, then `schedule[48 + p] = w_p + K32[48 + p]` -/
def stdTail (p : Nat) : List Nat := [(p + 1) % 16, (p + 14) % 16, p % 16, (p + 9) % 16, 48 + p, p]

/-- what the extracted loop tables of a file must be -/
def StdTables (C : Cfg) : Prop :=
  C.loopBound = 32 ∧ C.loopBody = (List.range 16).map stdRegs ∧ C.tail = (List.range 16).map stdTail

theorem std_sse41 : StdTables Sse41.cfg := ⟨by decide, by decide, by decide⟩
theorem std_avx : StdTables Avx.cfg := ⟨by decide, by decide, by decide⟩

/-- the index of the `W` held by register `r` after `t` rounds: the unique `k ∈ [t, t+16)` with `k ≡ r (mod 16)` -/
def regIdx (t r : Nat) : Nat := t + (r + 16 - t % 16) % 16

theorem regIdx_add (t d : Nat) (hd : d < 16) : regIdx t ((t + d) % 16) = t + d := by
  unfold regIdx; omega

/-- a round overwrites register `t mod 16` (which held `W_t`) with `W_{t+16}` -/
theorem regIdx_succ (t r : Nat) (hr : r < 16) : regIdx (t + 1) r = if r = t % 16 then t + 16 else regIdx t r := by
  unfold regIdx; split <;> omega

section generic
variable {V : Type} (A : RegAlg V) (C : Cfg) (val : Nat → V)

/-- the array `message_schedule_Nways` leaves behind: entry `k` is `add (val k) (set1 K32[k])` -/
def kw : List V := Impl256.K32.mapIdx fun k kk => A.sh.add (val k) (A.set1 kk)

theorem kw_length : (kw A val).length = 64 := List.length_mapIdx

theorem map_kw {W : Type} (g : V → W) : (kw A val).map g = Impl256.K32.mapIdx fun k kk => g (A.sh.add (val k) (A.set1 kk)) :=
  (List.mapIdx_eq_iff.mpr fun i => by rw [List.getElem?_map, kw, List.getElem?_mapIdx, Option.map_map]; rfl).symm

/-- after `t` rounds (and the explicit tail stores below `hi`) -/
structure Inv (t hi : Nat) (s : Sched V) : Prop where
  wlen : s.w.length = 16
  slen : s.schedule.length = 64
  regs : ∀ r, r < 16 → s.w[r]? = some (val (regIdx t r))
  sch : ∀ k, (k < t ∨ (48 ≤ k ∧ k < hi)) → ∀ kk, Impl256.K32[k]? = some kk →
    s.schedule[k]? = some (A.sh.add (val k) (A.set1 kk))

theorem K32_some {k : Nat} (h : k < 64) : ∃ kk, Impl256.K32[k]? = some kk := by
  have hl : Impl256.K32.length = 64 := by decide
  exact ⟨Impl256.K32[k]'(by omega), List.getElem?_eq_getElem (by omega)⟩

theorem K32_lt {k : Nat} {kk : UInt32} (h : Impl256.K32[k]? = some kk) : k < 64 := by
  have hl : Impl256.K32.length = 64 := by decide
  have := (List.getElem?_eq_some_iff.mp h).1
  omega

theorem sch_set (sch : List V) (hl : sch.length = 64) (j : Nat) (kj : UInt32) (hj : Impl256.K32[j]? = some kj)
    (k : Nat) (kk : UInt32) (hk : Impl256.K32[k]? = some kk) (h : j ≠ k → sch[k]? = some (A.sh.add (val k) (A.set1 kk))) :
    (sch.set j (A.sh.add (val j) (A.set1 kj)))[k]? = some (A.sh.add (val k) (A.set1 kk)) := by
  rw [List.getElem?_set]
  by_cases hjk : j = k
  · subst hjk
    rw [hj] at hk
    rw [if_pos rfl, if_pos (hl ▸ K32_lt hj), Option.some.inj hk]
  · rw [if_neg hjk]; exact h hjk

theorem SCHEDULE_ROUND_eq (s : Sched V) (r1 r2 r3 r4 : Nat) (w1 w2 w3 w4 x0 x1 : V) (kk : UInt32)
    (h1 : s.w[r1]? = some w1) (h2 : s.w[r2]? = some w2) (h3 : s.w[r3]? = some w3) (h4 : s.w[r4]? = some w4)
    (hs0 : sigma0 A C w1 = some x0) (hs1 : sigma1 A C w2 = some x1) (hk : Impl256.K32[s.i]? = some kk)
    (hl : s.i < s.schedule.length) :
    SCHEDULE_ROUND A C s [r1, r2, r3, r4]
      = some ⟨s.w.set r3 (A.sh.add (A.sh.add w3 w4) (A.sh.add x0 x1)), s.schedule.set s.i (A.sh.add w3 (A.set1 kk)), s.i⟩ := by
  simp [SCHEDULE_ROUND, storeSchedule, h1, h2, h3, h4, hs0, hs1, hk, hl]

theorem store_spec (t hi : Nat) (s : Sched V) (hI : Inv A val t hi s) (wk : Nat) (hwk : wk < 16) (hh : 48 ≤ hi) (hh' : hi < 64)
    (hr : regIdx t wk = hi) :
    ∃ s', storeSchedule A s hi wk = some s' ∧ Inv A val t (hi + 1) s' ∧ s'.i = s.i := by
  obtain ⟨kk, hk⟩ := K32_some (k := hi) hh'
  refine ⟨⟨s.w, s.schedule.set hi (A.sh.add (val hi) (A.set1 kk)), s.i⟩, ?_, ?_, rfl⟩
  · simp [storeSchedule, hI.regs wk hwk, hr, hk, hI.slen, hh']
  · constructor
    · exact hI.wlen
    · simp [hI.slen]
    · exact hI.regs
    · intro k hk' kk' hkk
      exact sch_set A val _ hI.slen hi kk hk k kk' hkk fun _ => hI.sch k (by omega) kk' hkk

variable (σ0 σ1 : V → V) (h0 : ∀ v, sigma0 A C v = some (σ0 v)) (h1 : ∀ v, sigma1 A C v = some (σ1 v))
  (hrec : ∀ t, A.sh.add (A.sh.add (val t) (val (t + 9))) (A.sh.add (σ0 (val (t + 1))) (σ1 (val (t + 14)))) = val (t + 16))
include h0 h1 hrec

theorem round_spec (t hi : Nat) (s : Sched V) (hI : Inv A val t hi s) (hi' : s.i = t) (ht : t < 48) :
    ∃ s', SCHEDULE_ROUND A C s (stdRegs t) = some s' ∧ Inv A val (t + 1) hi s' ∧ s'.i = t := by
  obtain ⟨kk, hk⟩ := K32_some (k := t) (by omega)
  have g : ∀ d, d < 16 → s.w[(t + d) % 16]? = some (val (t + d)) := fun d hd => by
    rw [hI.regs _ (Nat.mod_lt _ (by decide)), regIdx_add t d hd]
  refine ⟨_, SCHEDULE_ROUND_eq A C s _ _ _ _ _ _ _ _ _ _ kk (g 1 (by decide)) (g 14 (by decide))
    (show s.w[t % 16]? = some (val t) from g 0 (by decide)) (g 9 (by decide)) (h0 _) (h1 _) (hi' ▸ hk) (by rw [hI.slen]; omega), ?_, hi'⟩
  rw [hrec t]
  have h16 : t % 16 < 16 := Nat.mod_lt _ (by decide)
  constructor
  · rw [List.length_set]; exact hI.wlen
  · rw [List.length_set]; exact hI.slen
  · intro r hr
    rw [List.getElem?_set, regIdx_succ t r hr, hI.wlen, if_pos h16]
    by_cases hr3 : t % 16 = r
    · rw [if_pos hr3, if_pos hr3.symm]
    · rw [if_neg hr3, if_neg (Ne.symm hr3)]; exact hI.regs r hr
  · intro k hk' kk' hkk
    rw [hi']
    exact sch_set A val _ hI.slen t kk hk k kk' hkk fun _ => hI.sch k (by omega) kk' hkk

theorem loopBody_spec (hi : Nat) (n : Nat) : ∀ (t : Nat) (s : Sched V), Inv A val t hi s → s.i = t → t + n ≤ 48 →
      ∃ s', loopBody A C s ((List.range' t n).map stdRegs) = some s' ∧ Inv A val (t + n) hi s' ∧ s'.i = t + n := by
  induction n with
  | zero => intro t s hI hi' _; exact ⟨s, rfl, hI, hi'⟩
  | succ n ih =>
    intro t s hI hi' ht
    obtain ⟨s1, hs1, hI1, hi1⟩ := round_spec A C val σ0 σ1 h0 h1 hrec t hi s hI hi' (by omega)
    obtain ⟨s2, hs2, hI2, hi2⟩ := ih (t + 1) ⟨s1.w, s1.schedule, s1.i + 1⟩ ⟨hI1.wlen, hI1.slen, hI1.regs, hI1.sch⟩
      (by simp [hi1]) (by omega)
    refine ⟨s2, ?_, by rw [show t + (n + 1) = t + 1 + n by omega]; exact hI2, by omega⟩
    simp only [List.range'_succ, List.map_cons, loopBody, SCHEDULE_ROUND_INC, hs1]
    exact hs2

theorem tailLoop_spec (n : Nat) : ∀ (p : Nat) (s : Sched V), Inv A val (32 + p) (48 + p) s → s.i = 32 + p → p + n ≤ 16 →
      ∃ s', tailLoop A C s ((List.range' p n).map stdTail) = some s' ∧ Inv A val (32 + p + n) (48 + p + n) s' := by
  induction n with
  | zero => intro p s hI _ _; exact ⟨s, rfl, hI⟩
  | succ n ih =>
    intro p s hI hi' hp
    obtain ⟨s1, hs1, hI1, hi1⟩ := round_spec A C val σ0 σ1 h0 h1 hrec (32 + p) (48 + p) s hI hi' (by omega)
    have e : stdRegs (32 + p) = [(p + 1) % 16, (p + 14) % 16, p % 16, (p + 9) % 16] := by
      simp only [stdRegs, List.cons.injEq, and_true]; omega
    rw [e] at hs1
    -- with or without the increment, the registers and the schedule are those of `s1`
    have key : ∀ s1' : Sched V, Inv A val (32 + p + 1) (48 + p) s1' →
        ∃ s2, storeSchedule A s1' (48 + p) p = some s2 ∧ Inv A val (32 + p + 1) (48 + p + 1) s2 ∧ s2.i = s1'.i := by
      intro s1' hI'
      exact store_spec A val (32 + p + 1) (48 + p) s1' hI' p (by omega) (by omega) (by omega)
        (by unfold regIdx; omega)
    simp only [List.range'_succ, List.map_cons, stdTail, tailLoop, List.isEmpty_map]
    by_cases hn : n = 0
    · subst hn
      obtain ⟨s2, hs2, hI2, _⟩ := key s1 hI1
      simp only [List.range'_zero, List.isEmpty_nil, if_true, hs1, hs2, List.map_nil, tailLoop]
      exact ⟨s2, rfl, hI2⟩
    · have hne : (List.range' (p + 1) n).isEmpty = false := by
        cases n with
        | zero => exact absurd rfl hn
        | succ m => simp [List.range'_succ]
      obtain ⟨s2, hs2, hI2, hi2⟩ := key ⟨s1.w, s1.schedule, s1.i + 1⟩ ⟨hI1.wlen, hI1.slen, hI1.regs, hI1.sch⟩
      obtain ⟨s3, hs3, hI3⟩ := ih (p + 1) s2 (by rw [show 32 + (p + 1) = 32 + p + 1 by omega, show 48 + (p + 1) = 48 + p + 1 by omega]; exact hI2)
        (by rw [hi2]; simp [hi1]; omega) (by omega)
      simp only [hne, Bool.false_eq_true, if_false, SCHEDULE_ROUND_INC, hs1, hs2]
      refine ⟨s3, hs3, ?_⟩
      rw [show 32 + p + (n + 1) = 32 + (p + 1) + n by omega, show 48 + p + (n + 1) = 48 + (p + 1) + n by omega]
      exact hI3

/-- the model's `while` loop and tail started on `val 0 … val 15` and ANY 64-entry array (the code re-uses the array
    across batches): every entry `k < 64` is overwritten with `add (val k) (set1 K32[k])`; no panic -/
theorem whileLoop_tail_spec (hT : StdTables C) (sched : List V) (hs : sched.length = 64) :
    ∃ s2 s3, whileLoop A C C.loopBound ⟨(List.range 16).map val, sched, 0⟩ = some s2 ∧ tailLoop A C s2 C.tail = some s3 ∧
      s3.schedule = kw A val := by
  obtain ⟨hB, hL, hTl⟩ := hT
  have hI0 : Inv A val 0 48 ⟨(List.range 16).map val, sched, 0⟩ := by
    constructor
    · simp
    · exact hs
    · intro r hr
      simp [hr, regIdx]
      congr 1; omega
    · intro k hk; omega
  have e0 : (List.range 16).map stdRegs = (List.range' 0 16).map stdRegs := by decide
  have e16 : (List.range 16).map stdRegs = (List.range' 16 16).map stdRegs := by decide
  have et : (List.range 16).map stdTail = (List.range' 0 16).map stdTail := by decide
  obtain ⟨s1, hs1, hI1, hi1⟩ := loopBody_spec A C val σ0 σ1 h0 h1 hrec 48 16 0 _ hI0 rfl (by omega)
  obtain ⟨s2, hs2, hI2, hi2⟩ := loopBody_spec A C val σ0 σ1 h0 h1 hrec 48 16 16 s1 hI1 hi1 (by omega)
  obtain ⟨s3, hs3, hI3⟩ := tailLoop_spec A C val σ0 σ1 h0 h1 hrec 16 0 s2 hI2 hi2 (by omega)
  rw [← e0] at hs1
  rw [← e16] at hs2
  rw [← et] at hs3
  have hkw : s3.schedule = kw A val := (List.mapIdx_eq_iff.mpr fun k => by
    cases hk : Impl256.K32[k]? with
    | none =>
      have h64 : 64 ≤ k := (show Impl256.K32.length = 64 by decide) ▸ List.getElem?_eq_none_iff.mp hk
      rw [List.getElem?_eq_none (by rw [hI3.slen]; exact h64)]; rfl
    | some kk => exact hI3.sch k (by have := K32_lt hk; omega) kk hk).symm
  refine ⟨s2, s3, ?_, hTl ▸ hs3, hkw⟩
  -- two iterations, then the exit test
  simp only [whileLoop, hB, hL, hs1, hs2, hi1, hi2]
  simp

theorem scheduleFromRegs_spec (hT : StdTables C) : scheduleFromRegs A C ((List.range 16).map val) = some (kw A val) := by
  obtain ⟨s2, s3, hw, ht, hk⟩ := whileLoop_tail_spec A C val σ0 σ1 h0 h1 hrec hT (List.replicate 64 (A.set1 0))
    (List.length_replicate ..)
  simp only [scheduleFromRegs, hw, ht, hk]

end generic
end Cx.Proofs.SimdSha256
