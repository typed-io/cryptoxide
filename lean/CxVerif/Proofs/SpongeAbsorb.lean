/-
  Proofs.SpongeAbsorb — the absorb path of `Engine::process` refines "bytes absorbed so far".
  `engine_of r m` is THE engine state after absorbing the byte string m (in any chunking):
     state  = (sponge state after the ⌊|m|/r⌋ full blocks of m) ⊕ (the remaining |m| mod r bytes ‖ 0…)
     offset = |m| mod r,  can_absorb = can_squeeze = true.
  `process_spec`: process (engine_of r m) data = engine_of r (m ++ data) for every m and data (no panic).
-/
import CxVerif.Proofs.KeccakF
import CxVerif.Proofs.SpongePad
namespace Cx.Proofs.Sponge
open Cx.Spec.Keccak Cx.Impl.Sha3 Cx.Proofs.Keccak Cx.Proofs.FB

theorem xorPad_nil (S : Bytes) : xorPad S [] = S := by cases S <;> rfl

theorem xorPad_length (S P : Bytes) : (xorPad S P).length = S.length := by
  induction S generalizing P with
  | nil => rfl
  | cons s S ih => cases P with
    | nil => rfl
    | cons p P => simp [xorPad, ih]

theorem xorPad_drop (S t : Bytes) (h : t.length ≤ S.length) : (xorPad S t).drop t.length = S.drop t.length := by
  induction t generalizing S with
  | nil => simp [xorPad_nil]
  | cons p t ih => cases S with
    | nil => simp at h
    | cons s S => simp only [xorPad, List.length_cons, List.drop_succ_cons]; exact ih S (by simpa using h)

theorem xorPad_append (S t c : Bytes) (h : t.length ≤ S.length) :
    xorPad S (t ++ c) = (xorPad S t).take t.length ++ xorPad (S.drop t.length) c := by
  induction t generalizing S with
  | nil => simp [xorPad_nil]
  | cons p t ih => cases S with
    | nil => simp at h
    | cons s S =>
      simp only [List.cons_append, xorPad, List.length_cons, List.take_succ_cons, List.drop_succ_cons]
      rw [ih S (by simpa using h)]

theorem xor_in_zero (S ds : Bytes) (h : ds.length ≤ S.length) : xor_in S 0 ds = some (xorPad S ds) := by
  induction ds generalizing S with
  | nil => simp [xor_in, xorPad_nil]
  | cons d ds ih => cases S with
    | nil => simp at h
    | cons b S => simp [xor_in, xorPad, ih S (by simpa using h)]

theorem xor_in_append (pre S ds : Bytes) (h : ds.length ≤ S.length) :
    xor_in (pre ++ S) pre.length ds = some (pre ++ xorPad S ds) := by
  induction pre with
  | nil => simpa using xor_in_zero S ds h
  | cons p pre ih =>
    cases ds with
    | nil => simp [xor_in, xorPad_nil]
    | cons d ds => simp [xor_in, ih]

/-- the byte-wise `state[offset+i] ^= data[i]` loop continues the XOR of the partial block -/
theorem xor_in_xorPad (S t c : Bytes) (h : t.length + c.length ≤ S.length) :
    xor_in (xorPad S t) t.length c = some (xorPad S (t ++ c)) := by
  have hl : t.length ≤ (xorPad S t).length := by rw [xorPad_length]; omega
  have e : xorPad S t = (xorPad S t).take t.length ++ S.drop t.length := by
    rw [← xorPad_drop S t (by omega), List.take_append_drop]
  have hp : ((xorPad S t).take t.length).length = t.length := by simp [List.length_take]; omega
  rw [e]
  have := xor_in_append ((xorPad S t).take t.length) (S.drop t.length) c (by simp [List.length_drop]; omega)
  rw [hp] at this
  rw [this, xorPad_append S t c (by omega)]

/-- Algorithm 8 step 6, one block -/
def absorb1 (S b : Bytes) : Bytes := keccakF (xorPad S b)

theorem absorbBlocks_eq (r k : Nat) (S P : Bytes) : absorbBlocks r k S P = (takeBlocks r k P).foldl absorb1 S := by
  induction k generalizing S P with
  | zero => rfl
  | succ k ih => exact ih _ _

theorem absorb1_length (S : Bytes) (bs : List Bytes) (h : S.length = 200) : (bs.foldl absorb1 S).length = 200 := by
  induction bs generalizing S with
  | nil => exact h
  | cons b bs ih => exact ih _ (keccakF_length _)

theorem absorbBlocks_length (r k : Nat) (S P : Bytes) (h : S.length = 200) : (absorbBlocks r k S P).length = 200 := by
  rw [absorbBlocks_eq]; exact absorb1_length _ _ h

/-- sponge state after the full r-byte blocks of m (Algorithm 8 step 6 on ⌊|m|/r⌋ blocks) -/
def absorbed (r : Nat) (m : Bytes) : Bytes := absorbBlocks r (m.length / r) (zeros 200) m
-- `tailOf r m` is `Cx.blockTail r m` and `absorbed r m` the fold of `absorb1` over `Cx.fullBlocks r m`: `engine_of_eq`
def tailOf (r : Nat) (m : Bytes) : Bytes := m.drop (m.length / r * r)

def engine_of (r : Nat) (m : Bytes) : Engine :=
  { state := xorPad (absorbed r m) (tailOf r m), can_absorb := true, can_squeeze := true, offset := m.length % r }

theorem engine_of_eq (r : Nat) (m : Bytes) :
    engine_of r m = { state := xorPad ((fullBlocks r m).foldl absorb1 (zeros 200)) (blockTail r m), can_absorb := true,
                      can_squeeze := true, offset := (blockTail r m).length } := by
  rw [blockTail_length]
  unfold engine_of absorbed
  rw [absorbBlocks_eq]
  rfl

theorem engine_of_nil (r : Nat) (hr : 0 < r) : engine_of r [] = Engine.new := by
  rw [engine_of_eq, fullBlocks_of_lt (by simpa using hr), blockTail_of_lt (by simpa using hr)]
  rfl

theorem engine_of_state_length (r : Nat) (m : Bytes) : (engine_of r m).state.length = 200 := by
  unfold engine_of absorbed
  simp only [xorPad_length]
  exact absorbBlocks_length _ _ _ _ (Bytes.zeros_length 200)

/-- the absorb loop feeds `data` behind the partial block `t` already XORed in -/
theorem absorb_loop_feed (r : Nat) (hr : 0 < r) (hr2 : r ≤ 200) (data : Bytes) :
    ∀ (S t : Bytes), S.length = 200 → t.length < r →
      absorb_loop r (xorPad S t) t.length data
        = some (xorPad ((fullBlocks r (t ++ data)).foldl absorb1 S) (blockTail r (t ++ data)),
                (blockTail r (t ++ data)).length) := by
  induction hn : data.length using Nat.strongRecOn generalizing data with
  | _ n ih =>
    intro S t hS ht
    by_cases hd : data = []
    · subst hd
      rw [absorb_loop, dif_pos rfl, List.append_nil, fullBlocks_of_lt ht, blockTail_of_lt ht]
      rfl
    · have hdl : 0 < data.length := List.length_pos_iff.mpr hd
      rw [absorb_loop, dif_neg hd, dif_pos ht]
      simp only
      rw [xor_in_xorPad S t _ (by rw [hS, List.length_take]; omega)]
      simp only
      by_cases hfull : t.length + min (r - t.length) data.length = r
      · -- the block is completed: it is the first full block of `t ++ data`
        have hmin : min (r - t.length) data.length = r - t.length := by omega
        rw [if_pos hfull, hmin]
        have hc : (t ++ data.take (r - t.length)).length = r := by
          simp [List.length_take]; omega
        rw [keccak_f_eq _ (by rw [xorPad_length, hS])]
        simp only
        have := ih _ (by rw [← hn, List.length_drop]; omega) (data.drop (r - t.length)) rfl
          (absorb1 S (t ++ data.take (r - t.length))) [] (keccakF_length _) hr
        rw [xorPad_nil, List.nil_append] at this
        rw [show t ++ data = (t ++ data.take (r - t.length)) ++ data.drop (r - t.length) by
            rw [List.append_assoc, List.take_append_drop],
          fullBlocks_cons hr hc, blockTail_cons hr hc]
        exact this
      · -- the data ends inside the block
        have hmin : min (r - t.length) data.length = data.length := by omega
        have hs : (t ++ data).length < r := by rw [List.length_append]; omega
        rw [if_neg hfull, hmin, List.take_length, fullBlocks_of_lt hs, blockTail_of_lt hs]
        simp

theorem process_spec (dl r : Nat) (hrate : rate dl = some r) (hr : 0 < r) (m data : Bytes) :
    Engine.process dl (engine_of r m) data = some (engine_of r (m ++ data)) := by
  have hloop := absorb_loop_feed r hr (rate_le hrate) data _ (blockTail r m)
    (absorb1_length _ (fullBlocks r m) (Bytes.zeros_length 200)) (blockTail_length_lt hr m)
  obtain ⟨e1, e2⟩ := feed_append hr absorb1 (zeros 200) m data
  rw [e1, e2] at hloop
  rw [engine_of_eq r m, engine_of_eq r (m ++ data)]
  unfold Engine.process
  simp only [hrate, Option.bind_eq_bind, Option.bind_some, blockTail_length_lt hr m, hloop]
  rfl

end Cx.Proofs.Sponge
