/-
  Proofs.SpongeCtx — the context state machine {update, update_mut, clone, swap, reset, finalize_reset, finalize}
  refines the abstract state "bytes since the last reset", for every operation history.  The machine is the one the
  correspondence driver executes (`Driver.Sha3.runImpl` on the code-shaped model, `Driver.Sha3.runSpec` on byte
  strings + Spec), so the theorem covers literally every `hctx.<alg>` line the harness can be given.
  It has the operations of `HashProg.runProg` but is the sha3 driver's own definition (its own `Op` type, the Spec side
  not in `Option`): the induction `run_refines` is over it directly, a translation to `runProg` would be an induction
  of the same size.
-/
import CxVerif.Proofs.SpongeHash
import CxVerif.Driver.Sha3
namespace Cx.Proofs.Sponge
open Cx.Spec.Keccak Cx.Impl.Sha3 Cx.Driver.Sha3

theorem reset_eq_new (e : Engine) (h : e.state.length = 200) : Engine.reset e = Engine.new := by
  unfold Engine.reset Engine.new
  rw [h]; rfl

theorem reset_engine_of (r : Nat) (m : Bytes) : Context.reset (engine_of r m) = Context.new :=
  reset_eq_new _ (engine_of_state_length r m)

theorem finalize_reset_spec {dl ds r : Nat} {sfx : List Bool} (hv : Variant dl ds r sfx) (m : Bytes) :
    Context.finalize_reset dl ds (engine_of r m) = some (Context.new, sponge r m sfx dl) := by
  unfold Context.finalize_reset
  rw [output_spec hv m]
  simp only [Option.bind_eq_bind, Option.bind_some, Option.pure_def]
  rw [reset_eq_new _ (by exact engine_of_state_length r _)]; rfl

theorem context_finalize_spec {dl ds r : Nat} {sfx : List Bool} (hv : Variant dl ds r sfx) (m : Bytes) :
    Context.finalize dl ds (engine_of r m) = some (sponge r m sfx dl) := by
  unfold Context.finalize
  rw [output_spec hv m]; rfl

structure AlgOk (a : Alg) (r : Nat) (sfx : List Bool) : Prop where
  hv : Variant a.dl a.ds r sfx
  hspec : ∀ m, a.spec m = sponge r m sfx a.dl

theorem run_refines {a : Alg} {r : Nat} {sfx : List Bool} (ok : AlgOk a r sfx) :
    ∀ (ops : List Op) (cur : Bytes) (st : List Bytes) (out : List Bytes),
      runImpl a ops (engine_of r cur) (st.map (engine_of r)) out = some (runSpec a ops cur st out) := by
  have hr := ok.hv.r_pos
  intro ops
  induction ops with
  | nil => intro cur st out; rfl
  | cons op ops ih =>
    intro cur st out
    cases op with
    | upd consuming d =>
      cases consuming with
      | true =>
        simp only [runImpl, runSpec, Context.update, process_spec a.dl r ok.hv.hrate hr cur d]
        exact ih _ _ _
      | false =>
        simp only [runImpl, runSpec, Context.update_mut, process_spec a.dl r ok.hv.hrate hr cur d]
        exact ih _ _ _
    | clone =>
      simp only [runImpl, runSpec]
      exact ih cur (cur :: st) out
    | swap =>
      cases st with
      | nil => simp only [runImpl, runSpec, List.map_nil]; exact ih cur [] out
      | cons top st => simp only [runImpl, runSpec, List.map_cons]; exact ih top (cur :: st) out
    | reset =>
      simp only [runImpl, runSpec, reset_engine_of]
      have := ih [] st out
      rw [engine_of_nil r hr] at this
      exact this
    | finReset =>
      simp only [runImpl, runSpec, finalize_reset_spec ok.hv cur, ok.hspec]
      have := ih [] st (sponge r cur sfx a.dl :: out)
      rw [engine_of_nil r hr] at this
      exact this
    | finClone =>
      simp only [runImpl, runSpec, context_finalize_spec ok.hv cur, ok.hspec]
      exact ih _ _ _

theorem algs_ok : ∀ a ∈ algs, ∃ r sfx, AlgOk a r sfx := by
  intro a ha
  simp only [algs, List.mem_cons, List.mem_nil_iff, or_false] at ha
  rcases ha with rfl | rfl | rfl | rfl | rfl | rfl | rfl | rfl
  · exact ⟨144, [false, true], variant_sha3_224, fun _ => rfl⟩
  · exact ⟨136, [false, true], variant_sha3_256, fun _ => rfl⟩
  · exact ⟨104, [false, true], variant_sha3_384, fun _ => rfl⟩
  · exact ⟨72, [false, true], variant_sha3_512, fun _ => rfl⟩
  · exact ⟨144, [], variant_keccak224, fun _ => rfl⟩
  · exact ⟨136, [], variant_keccak256, fun _ => rfl⟩
  · exact ⟨104, [], variant_keccak384, fun _ => rfl⟩
  · exact ⟨72, [], variant_keccak512, fun _ => rfl⟩

/-- every history, started from `new()`, on every algorithm: the model's digests are the Spec's digests of the
    bytes fed since the last reset, and the model never panics -/
theorem run_from_new (a : Alg) (ha : a ∈ algs) (ops : List Op) :
    runImpl a ops Context.new [] [] = some (runSpec a ops [] [] []) := by
  obtain ⟨r, sfx, ok⟩ := algs_ok a ha
  have := run_refines ok ops [] [] []
  rw [engine_of_nil r ok.hv.r_pos] at this
  exact this

theorem feed_chunks {dl r : Nat} (hrate : rate dl = some r) (hr : 0 < r) (chunks : List Bytes) (m : Bytes) :
    chunks.foldlM (Context.update_mut dl) (engine_of r m) = some (engine_of r (m ++ chunks.flatten)) := by
  induction chunks generalizing m with
  | nil => simp
  | cons c cs ih =>
    rw [List.foldlM_cons]
    simp only [Context.update_mut, process_spec dl r hrate hr m c, Option.bind_eq_bind, Option.bind_some]
    rw [ih (m ++ c)]; simp

end Cx.Proofs.Sponge
