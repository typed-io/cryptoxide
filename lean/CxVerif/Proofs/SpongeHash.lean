/-
  Proofs.SpongeHash — finalize / output / one-shot hash of the code = SPONGE of FIPS 202, for every message,
  for every instantiation `Engine<DIGESTLEN, DSLEN>` that satisfies `Variant` (all eight of the crate do).
-/
import CxVerif.Proofs.SpongeAbsorb
namespace Cx.Proofs.Sponge
open Cx.Spec.Keccak Cx.Impl.Sha3 Cx.Proofs.Keccak

/-- an instantiation of the engine: DIGESTLEN = dl, DSLEN = ds, its rate r (bytes) and the FIPS 202 suffix bits.
    `DSLEN = 2` is SHA-3 (suffix 01), `DSLEN = 0` is Keccak (no suffix). -/
structure Variant (dl ds r : Nat) (suffix : List Bool) : Prop where
  hrate : rate dl = some r
  hdl : 0 < dl
  hlt : dl < r
  hds : (ds = 2 ∧ suffix = [false, true]) ∨ (ds = 0 ∧ suffix = [])

theorem Variant.r_pos {dl ds r : Nat} {sfx : List Bool} (hv : Variant dl ds r sfx) : 0 < r := by
  have := hv.hdl; have := hv.hlt; omega

theorem Variant.r_le {dl ds r : Nat} {sfx : List Bool} (hv : Variant dl ds r sfx) : r ≤ 200 := rate_le hv.hrate

/-- the padding block that `finalize` feeds to `process` is the FIPS 202 tail  suffix ‖ pad10*1 -/
theorem impl_pad_eq {dl ds r : Nat} {sfx : List Bool} (hv : Variant dl ds r sfx) (len : Nat) :
    ((if ds != 0 then set_domain_sep (dl * 8) (zeros (r - len % r)) else pure (zeros (r - len % r))).bind (set_pad ds))
      = some (padBytes r len sfx) := by
  have hr := hv.r_pos
  have hq : 1 ≤ r - len % r := by have := Nat.mod_lt len hr; omega
  rcases hv.hds with ⟨rfl, rfl⟩ | ⟨rfl, rfl⟩
  · rw [padBytes_sha3 r len hr]
    exact impl_pad_sha3 dl _ (by have := hv.hdl; omega) hq
  · rw [padBytes_keccak r len hr]
    exact impl_pad_keccak _ hq

theorem padBytes_length {dl ds r : Nat} {sfx : List Bool} (hv : Variant dl ds r sfx) (len : Nat) :
    (padBytes r len sfx).length = r - len % r := by
  have hr := hv.r_pos
  have hq : 1 ≤ r - len % r := by have := Nat.mod_lt len hr; omega
  rcases hv.hds with ⟨_, rfl⟩ | ⟨_, rfl⟩
  · rw [padBytes_sha3 r len hr, padLit_length _ _ hq]
  · rw [padBytes_keccak r len hr, padLit_length _ _ hq]

theorem padded_length {dl ds r : Nat} {sfx : List Bool} (hv : Variant dl ds r sfx) (m : Bytes) :
    (m ++ padBytes r m.length sfx).length = r * (m.length / r + 1) := by
  have hr := hv.r_pos
  have h1 := Nat.div_add_mod m.length r
  have h2 := Nat.mod_lt m.length hr
  rw [List.length_append, padBytes_length hv, Nat.mul_succ]
  omega

/-- `Engine::finalize` absorbs exactly the FIPS 202 padding: the state becomes the one that represents
    m ‖ suffix ‖ pad10*1, with `can_absorb` cleared; it never panics (in particular the i64 arithmetic of `pad_len`
    does not overflow and its two internal `assert!`s hold) -/
theorem finalize_spec {dl ds r : Nat} {sfx : List Bool} (hv : Variant dl ds r sfx) (m : Bytes) :
    Engine.finalize dl ds (engine_of r m)
      = some { engine_of r (m ++ padBytes r m.length sfx) with can_absorb := false } := by
  have hr := hv.r_pos
  have hr2 := hv.r_le
  have hoff := Nat.mod_lt m.length hr
  have hds : ds ≤ 4 := by rcases hv.hds with ⟨rfl, _⟩ | ⟨rfl, _⟩ <;> omega
  have hpl : pad_len ds (m.length % r * 8) (r * 8) = some (r - m.length % r) := by
    rw [Nat.mul_comm _ 8, Nat.mul_comm r 8]
    exact pad_len_eq ds _ r (by omega) hoff (by omega)
  have hu1 : usizechk (m.length % r * 8) = some (m.length % r * 8) := usizechk_of_lt (by omega)
  have hu2 : usizechk (r * 8) = some (r * 8) := usizechk_of_lt (by omega)
  have hproc := process_spec dl r hv.hrate hr m (padBytes r m.length sfx)
  have hpad := impl_pad_eq hv m.length
  simp only [engine_of] at hproc
  unfold Engine.finalize
  simp only [engine_of, Bool.not_true, Bool.false_eq_true, if_false, hv.hrate, Option.bind_eq_bind, Option.bind_some, hu1, hu2, hpl]
  -- the `do` block continues inside both branches of the `if`: bring the `if` back under one `bind`
  rw [← apply_ite (Option.bind · _)]
  cases hc : (if ds != 0 then set_domain_sep (dl * 8) (zeros (r - m.length % r)) else pure (zeros (r - m.length % r))) with
  | none => rw [hc] at hpad; cases hpad
  | some p =>
    rw [hc, Option.bind_some] at hpad
    rw [Option.bind_some, hpad, Option.bind_some, hproc]
    rfl

theorem absorbed_padded {dl ds r : Nat} {sfx : List Bool} (hv : Variant dl ds r sfx) (m : Bytes) :
    engine_of r (m ++ padBytes r m.length sfx) =
      { state := absorbBlocks r ((m ++ padBytes r m.length sfx).length / r) (zeros 200) (m ++ padBytes r m.length sfx),
        can_absorb := true, can_squeeze := true, offset := 0 } := by
  rw [engine_of_eq, FB.blockTail_aligned _ (by rw [padded_length hv m]; exact Nat.mul_mod_right ..), xorPad_nil, absorbBlocks_eq]
  rfl

theorem squeeze_one (r d : Nat) (S : Bytes) (hd : 0 < d) (hdr : d ≤ r) (hS : S.length = 200) (hr : r ≤ 200) :
    squeeze r d S = S.take d := by
  obtain ⟨n, rfl⟩ : ∃ n, d = n + 1 := ⟨d - 1, by omega⟩
  unfold squeeze squeezeLoop
  rw [if_pos (by rw [List.length_take]; omega), List.take_take, Nat.min_eq_left hdr]

/-- a digest shorter than the rate is the head of the state after absorbing: no permutation while squeezing -/
theorem sponge_eq_take {dl ds r : Nat} {sfx : List Bool} (hv : Variant dl ds r sfx) (m : Bytes) :
    sponge r m sfx dl =
      (absorbBlocks r ((m ++ padBytes r m.length sfx).length / r) (zeros 200) (m ++ padBytes r m.length sfx)).take dl :=
  squeeze_one r dl _ hv.hdl (Nat.le_of_lt hv.hlt) (absorbBlocks_length _ _ _ _ (Bytes.zeros_length 200)) hv.r_le

/-- `Engine::output` into a DIGESTLEN-byte buffer on the state representing m: the bytes are the FIPS 202 sponge
    output, the engine ends with both flags cleared; it never panics -/
theorem output_spec {dl ds r : Nat} {sfx : List Bool} (hv : Variant dl ds r sfx) (m : Bytes) :
    Engine.output dl ds (engine_of r m) dl
      = some ({ engine_of r (m ++ padBytes r m.length sfx) with can_absorb := false, can_squeeze := false, offset := dl },
              sponge r m sfx dl) := by
  have hr := hv.r_pos
  have hr2 := hv.r_le
  have hdl := hv.hdl
  have hlt := hv.hlt
  have hfin := finalize_spec hv m
  rw [absorbed_padded hv m] at hfin ⊢
  generalize hS : absorbBlocks r ((m ++ padBytes r m.length sfx).length / r) (zeros 200) (m ++ padBytes r m.length sfx) = S at hfin ⊢
  have hSl : S.length = 200 := by rw [← hS]; exact absorbBlocks_length _ _ _ _ (Bytes.zeros_length 200)
  have hspec : sponge r m sfx dl = S.take dl := hS ▸ sponge_eq_take hv m
  have hdl0 : (dl != 0) = true := by simp; omega
  have hnread : squeeze_nread dl r 0 dl 0 = some dl := by
    unfold squeeze_nread
    simp only [Nat.zero_mod, Nat.sub_zero]
    rw [if_pos (by omega), if_neg (by omega)]
    congr 1
    omega
  have hloop : squeeze_loop dl r { state := S, can_absorb := false, can_squeeze := true, offset := 0 } dl 0 (zeros dl)
      = some ({ state := S, can_absorb := false, can_squeeze := true, offset := dl }, S.take dl) := by
    rw [squeeze_loop, dif_pos hdl, dif_neg (by omega)]
    simp only [hnread, Nat.zero_mod, Nat.add_zero, Nat.zero_add, List.drop_zero, List.take_zero, List.nil_append]
    rw [if_neg (by rw [hSl, Bytes.zeros_length]; omega), dif_neg (by omega)]
    simp [Bytes.zeros_length]
  unfold Engine.output
  simp only [engine_of, Bool.not_true, Bool.false_eq_true, if_false, if_true]
  simp only [engine_of] at hfin
  rw [hfin]
  simp only [Option.bind_eq_bind, Option.bind_some, hv.hrate, hdl0, if_true, hdl, not_true_eq_false, if_false, hloop, hspec]
  simp

/-- consequence for the one-shot function `X::new().update(input).finalize()` -/
theorem hash_spec {dl ds r : Nat} {sfx : List Bool} (hv : Variant dl ds r sfx) (m : Bytes) :
    Impl.Sha3.hash dl ds m = some (sponge r m sfx dl) := by
  have hp := process_spec dl r hv.hrate hv.r_pos [] m
  rw [engine_of_nil r hv.r_pos, List.nil_append] at hp
  unfold Impl.Sha3.hash Context.update Context.new Context.finalize
  rw [hp]
  simp only [Option.bind_eq_bind, Option.bind_some, output_spec hv m]
  rfl

theorem hash_one_block {dl ds r : Nat} {sfx : List Bool} (hv : Variant dl ds r sfx) (m : Bytes) (hm : m.length < r) :
    Impl.Sha3.hash dl ds m = (keccak_f (xorPad (zeros 200) (m ++ padBytes r m.length sfx))).map (·.take dl) := by
  have hl := padded_length hv m
  rw [Nat.div_eq_of_lt hm, Nat.zero_add, Nat.mul_one] at hl
  rw [hash_spec hv, sponge_eq_take hv, hl, Nat.div_self hv.r_pos, keccak_f_eq _ (by rw [xorPad_length, Bytes.zeros_length])]
  show some ((keccakF (xorPad _ (List.take r _))).take dl) = _
  rw [List.take_of_length_le (Nat.le_of_eq hl)]
  rfl

theorem variant_sha3_224 : Variant 28 2 144 [false, true] := ⟨by decide, by decide, by decide, Or.inl ⟨rfl, rfl⟩⟩
theorem variant_sha3_256 : Variant 32 2 136 [false, true] := ⟨by decide, by decide, by decide, Or.inl ⟨rfl, rfl⟩⟩
theorem variant_sha3_384 : Variant 48 2 104 [false, true] := ⟨by decide, by decide, by decide, Or.inl ⟨rfl, rfl⟩⟩
theorem variant_sha3_512 : Variant 64 2 72 [false, true] := ⟨by decide, by decide, by decide, Or.inl ⟨rfl, rfl⟩⟩
theorem variant_keccak224 : Variant 28 0 144 [] := ⟨by decide, by decide, by decide, Or.inr ⟨rfl, rfl⟩⟩
theorem variant_keccak256 : Variant 32 0 136 [] := ⟨by decide, by decide, by decide, Or.inr ⟨rfl, rfl⟩⟩
theorem variant_keccak384 : Variant 48 0 104 [] := ⟨by decide, by decide, by decide, Or.inr ⟨rfl, rfl⟩⟩
theorem variant_keccak512 : Variant 64 0 72 [] := ⟨by decide, by decide, by decide, Or.inr ⟨rfl, rfl⟩⟩

end Cx.Proofs.Sponge
