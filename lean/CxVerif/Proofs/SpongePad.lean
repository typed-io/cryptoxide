/-
  Proofs.SpongePad — padding of the sponge: the i64 computation of `pad_len` never overflows and returns
  rate − offset (in bytes); the bit-level FIPS 202 tail  suffix ‖ pad10*1  packed into bytes is
  0x06 0…0 0x80 / 0x86 (SHA-3) and 0x01 0…0 0x80 / 0x81 (Keccak); `set_domain_sep` + `set_pad` of the code build
  exactly these bytes.  The zero count of `pad10*1` is the `padZeros` of the Merkle–Damgård padding, in bits (`padBits_len`).
-/
import CxVerif.Spec.Keccak
import CxVerif.Impl.Sha3
import CxVerif.Proofs.GlueVocab
import CxVerif.Proofs.FixedBuffer
namespace Cx.Proofs.Sponge
open Cx.Spec.Keccak Cx.Impl.Sha3

theorem rate_le {dl r : Nat} (h : rate dl = some r) : r ≤ 200 := by
  unfold rate at h
  split at h
  · simp only [Option.some.injEq] at h
    have : Cx.Extracted.Sha3.B = 200 := rfl
    omega
  · simp at h

theorem usizechk_of_lt {v : Nat} (h : v < 18446744073709551616) : usizechk v = some v := GlueVocab.chk_of_lt h
theorem i64chk_of {v : Int} (h1 : -9223372036854775808 ≤ v) (h2 : v < 9223372036854775808) : i64chk v = some v := by
  unfold i64chk; rw [if_pos ⟨h1, h2⟩]
theorem usize_as_i64_small {x : Nat} (h : x < 9223372036854775808) : usize_as_i64 x = (x : Int) := by
  have : x % 18446744073709551616 = x := Nat.mod_eq_of_lt (by omega)
  simp [usize_as_i64, this, h]
theorem i64_as_usize_nonneg {x : Int} (h0 : 0 ≤ x) (h1 : x < 18446744073709551616) : i64_as_usize x = x.toNat := by
  unfold i64_as_usize; rw [Int.emod_eq_of_lt h0 h1]

/-- `pad_len` in bits: with `m = offset + DSLEN` and `m + 2 ≤ rate` the i64 computation `((-m - 2) + 2·rate) % rate`
    is `rate - m - 2` without overflow, so the result is `(rate - offset) / 8` -/
theorem pad_len_bits (ds off r : Nat) (h8 : r % 8 = 0 ∧ off % 8 = 0) (hm : off + ds + 2 ≤ r) (hr : r ≤ 2 ^ 35) :
    pad_len ds off r = some ((r - off) / 8) := by
  generalize hM : off + ds = m at hm
  have er : usize_as_i64 r = (r : Int) := usize_as_i64_small (by omega)
  have em : usize_as_i64 m = (m : Int) := usize_as_i64_small (by omega)
  have t5 : i64rem (-(m : Int) - 2 + 2 * (r : Int)) (r : Int) = some ((r - m - 2 : Nat) : Int) := by
    have hne : ¬ ((r : Int) = 0 ∨ (-(m : Int) - 2 + 2 * (r : Int) = -9223372036854775808 ∧ (r : Int) = -1)) := by omega
    rw [i64rem, if_neg hne, Int.tmod_eq_emod_of_nonneg (by omega),
      show -(m : Int) - 2 + 2 * (r : Int) = (r : Int) + ((r - m - 2 : Nat) : Int) by omega,
      Int.add_emod_left, Int.emod_eq_of_lt (by omega) (by omega)]
  have z : i64_as_usize ((r - m - 2 : Nat) : Int) = r - m - 2 := by
    rw [i64_as_usize_nonneg (Int.natCast_nonneg _) (by omega), Int.toNat_natCast]
  have m' : i64_as_usize (m : Int) = m := by
    rw [i64_as_usize_nonneg (Int.natCast_nonneg _) (by omega), Int.toNat_natCast]
  have a2 : m + (r - m - 2) + 2 = r := by omega
  have b2 : ds + (r - m - 2) + 2 = r - off := by omega
  -- every `usize` value that occurs is at most `r`
  have hu : ∀ v, v ≤ r → usizechk v = some v := fun v hv =>
    usizechk_of_lt (Nat.lt_of_le_of_lt (Nat.le_trans hv hr) (by decide))
  simp only [pad_len, h8, and_self, not_true_eq_false, if_false, hM, hu m (Nat.le_of_add_right_le hm), er, em,
    Option.bind_eq_bind, Option.bind_some, i64chk_of (show _ ≤ -(m : Int) by omega) (show -(m : Int) < _ by omega),
    i64chk_of (show _ ≤ -(m : Int) - 2 by omega) (show -(m : Int) - 2 < _ by omega),
    i64chk_of (show _ ≤ 2 * (r : Int) by omega) (show 2 * (r : Int) < _ by omega),
    i64chk_of (show _ ≤ -(m : Int) - 2 + 2 * (r : Int) by omega) (show -(m : Int) - 2 + 2 * (r : Int) < _ by omega),
    t5, z, m', hu _ (Nat.le.intro a2), a2, hu r (Nat.le_refl r),
    hu _ (Nat.le_trans (Nat.le.intro b2) (Nat.sub_le r off)), b2, hu _ (Nat.sub_le r off), Option.pure_def, ne_eq]

theorem pad_len_eq (ds o R : Nat) (hds : ds ≤ 6) (ho : o < R) (hR : R ≤ 2^32) :
    pad_len ds (8*o) (8*R) = some (R - o) := by
  rw [pad_len_bits ds (8 * o) (8 * R) (by omega) (by omega) (by omega)]
  apply congrArg some
  omega

/-- the padded tail in closed form: `sfx` carries the suffix bits and the first pad bit -/
def padLit (sfx : UInt8) (q : Nat) : Bytes :=
  if q = 1 then [sfx ||| 0x80] else sfx :: (zeros (q - 2) ++ [0x80])

theorem mul8_add_mod (len r c : Nat) (hr : 0 < r) (hc : c < 8) : (8 * len + c) % (8 * r) = 8 * (len % r) + c := by
  have h1 := Nat.div_add_mod len r
  have h2 := Nat.mod_lt len hr
  generalize len / r = k at h1
  generalize len % r = o at h1 h2
  subst h1
  have : 8 * (r * k + o) + c = (8 * r) * k + (8 * o + c) := by
    rw [Nat.mul_add, Nat.mul_assoc, Nat.add_assoc]
  rw [this, Nat.mul_add_mod, Nat.mod_eq_of_lt (by omega)]

theorem bitsToBytes_cons8 (b0 b1 b2 b3 b4 b5 b6 b7 : Bool) (rest : List Bool) :
    bitsToBytes (b0 :: b1 :: b2 :: b3 :: b4 :: b5 :: b6 :: b7 :: rest)
      = byteOfBits [b0, b1, b2, b3, b4, b5, b6, b7] :: bitsToBytes rest := rfl

theorem bitsToBytes_zeros (n : Nat) (rest : List Bool) :
    bitsToBytes (List.replicate (8 * n) false ++ rest) = zeros n ++ bitsToBytes rest := by
  induction n with
  | zero => simp [zeros]
  | succ n ih =>
    have : 8 * (n + 1) = 8 * n + 1 + 1 + 1 + 1 + 1 + 1 + 1 + 1 := by omega
    rw [this]
    simp only [List.replicate_succ, List.cons_append, bitsToBytes_cons8, ih]
    simp [zeros, List.replicate_succ]
    decide

/-- the number of zero bits of `pad10*1` is `Spec.MD.padZeros` at bit granularity: block `8·r` bits, after the message and
    suffix one `1` bit, the zeros, and a "length field" of one bit (the closing `1`) -/
theorem padBits_len (r len : Nat) (hr : 0 < r) (s : Nat) (hs : s + 2 < 8) :
    (8 * r - (8 * len + s + 2) % (8 * r)) % (8 * r) = 8 * (r - len % r - 1) + (8 - (s + 2)) := by
  have h2 := Nat.mod_lt len hr
  show Cx.Spec.MD.padZeros (8 * r) 1 (8 * len + s) = _
  rw [← FB.padZeros_mod, mul8_add_mod len r s hr (by omega), FB.padZeros_fit (by omega)]
  omega

/-- the FIPS 202 tail `sfx ‖ pad10*1` in bytes, for any suffix that leaves room for the two pad bits in the first byte:
    `d` is the first byte (suffix, first pad bit, zeros), given by evaluation for the suffix at hand -/
theorem padBytes_eq_padLit (r len : Nat) (hr : 0 < r) (sfx : List Bool) (d : UInt8) (hs : sfx.length + 2 < 8)
    (h1 : bitsToBytes (sfx ++ true :: (List.replicate (8 - (sfx.length + 2)) false ++ [true])) = [d ||| 0x80])
    (h2 : ∀ rest, bitsToBytes (sfx ++ true :: (List.replicate (8 - (sfx.length + 2)) false ++ false :: rest)) = d :: bitsToBytes rest) :
    padBytes r len sfx = padLit d (r - len % r) := by
  have h3 := Nat.mod_lt len hr
  unfold padBytes pad10star1
  rw [padBits_len r len hr sfx.length hs, List.singleton_append, List.cons_append]
  generalize hq : r - len % r = q
  have hq1 : 1 ≤ q := by omega
  unfold padLit
  by_cases hq2 : q = 1
  · subst hq2
    rw [if_pos rfl, Nat.sub_self, Nat.mul_zero, Nat.zero_add]
    exact h1
  · obtain ⟨n, rfl⟩ : ∃ n, q = n + 2 := ⟨q - 2, by omega⟩
    rw [if_neg hq2]
    have : 8 * (n + 2 - 1) + (8 - (sfx.length + 2)) = (8 - (sfx.length + 2)) + (1 + (8 * n + 7)) := by omega
    rw [this, ← List.replicate_append_replicate, ← List.replicate_append_replicate (n := 1),
      ← List.replicate_append_replicate (n := 8 * n)]
    simp only [List.replicate_one, List.append_assoc, List.cons_append, List.nil_append]
    rw [h2, bitsToBytes_zeros, Nat.add_sub_cancel]
    rfl

theorem padBytes_sha3 (r len : Nat) (hr : 0 < r) :
    padBytes r len [false, true] = padLit 0x06 (r - len % r) :=
  padBytes_eq_padLit r len hr _ _ (by decide) (by decide) (fun _ => rfl)

theorem padBytes_keccak (r len : Nat) (hr : 0 < r) :
    padBytes r len [] = padLit 0x01 (r - len % r) :=
  padBytes_eq_padLit r len hr _ _ (by decide) (by decide) (fun _ => rfl)

theorem set_domain_sep_nz (n : Nat) (hn : n ≠ 0) (buf : Bytes) : set_domain_sep n buf = set_domain_sep 8 buf := by
  have h1 : (n != 0) = true := by simp [hn]
  unfold set_domain_sep
  rw [h1]; rfl

theorem idx_cons_zero {α : Type} (b : α) (t : List α) : idx (b :: t) 0 = some b := rfl
theorem upd_cons_zero {α : Type} (b v : α) (t : List α) : upd (b :: t) 0 v = some (v :: t) := by
  simp [upd]

theorem set_domain_sep_cons (t : Bytes) : set_domain_sep 8 (0 :: t) = some (2 :: t) := by
  simp [set_domain_sep, idx_cons_zero, upd_cons_zero]

theorem clear_bits_cons (b : UInt8) (t : Bytes) (lo : Nat) :
    clear_bits (b :: t) 0 lo = some ((((List.range 8).filter (fun i => lo ≤ i)).foldl
      (fun b i => b &&& ~~~ ((1 : UInt8) <<< UInt8.ofNat i)) b) :: t) := by
  unfold clear_bits
  generalize (List.range 8).filter (fun i => decide (lo ≤ i)) = l
  induction l generalizing b with
  | nil => rfl
  | cons i l ih =>
    simp only [List.foldlM_cons, idx_cons_zero, upd_cons_zero, Option.bind_eq_bind, Option.bind_some, List.foldl_cons]
    exact ih _

theorem set_pad_long (ds : Nat) (hds : ds < 8) (b : UInt8) (n : Nat) :
    set_pad ds (b :: zeros (n + 1)) = some
      ((((List.range 8).filter (fun i => ds % 8 + 1 ≤ i)).foldl (fun b i => b &&& ~~~ ((1 : UInt8) <<< UInt8.ofNat i))
        (b ||| ((1 : UInt8) <<< UInt8.ofNat (ds % 8)))) :: (zeros n ++ [0x80])) := by
  have hs : ds / 8 = 0 := by omega
  unfold set_pad
  simp only [hs, idx_cons_zero, upd_cons_zero, clear_bits_cons, Option.bind_eq_bind, Option.bind_some]
  generalize List.foldl (fun b i => b &&& ~~~((1 : UInt8) <<< UInt8.ofNat i)) (b ||| 1 <<< UInt8.ofNat (ds % 8))
                (List.filter (fun i => decide (ds % 8 + 1 ≤ i)) (List.range 8)) = h
  have hz : (zeros (n + 1)).length = n + 1 := by simp [zeros]
  have e1 : ¬ ((h :: zeros (n + 1)).length < 0 + 1) := by simp
  have e2 : ¬ ((b :: zeros (n + 1)).length = 0) := by simp
  have e3 : List.take (0 + 1) (h :: zeros (n + 1)) ++ zeros ((h :: zeros (n + 1)).length - (0 + 1)) = h :: zeros (n + 1) := by
    simp [hz]
  have e4 : (b :: zeros (n + 1)).length - 1 = n + 1 := by simp [hz]
  rw [if_neg e1, if_neg e2, e3, e4]
  have e5 : idx (h :: zeros (n + 1)) (n + 1) = some 0 := by
    simp only [idx, List.getElem?_cons_succ]; exact Bytes.zeros_get_last n
  have e6 : upd (h :: zeros (n + 1)) (n + 1) ((0 : UInt8) ||| 128) = some (h :: (zeros n ++ [0x80])) := by
    have : n + 1 < (h :: zeros (n + 1)).length := by simp [hz]
    unfold upd; rw [if_pos this, List.set_cons_succ, Bytes.zeros_set_last]; rfl
  rw [e5]; exact e6

/-- the padding block built by `finalize` for SHA-3 (`DSLEN = 2`, `DIGESTLEN ≠ 0`) -/
theorem impl_pad_sha3 (dl q : Nat) (hdl : dl ≠ 0) (hq : 1 ≤ q) :
    (set_domain_sep (dl * 8) (zeros q)).bind (set_pad 2) = some (padLit 0x06 q) := by
  rw [set_domain_sep_nz (dl * 8) (by omega)]
  by_cases h1 : q = 1
  · subst h1; decide
  · obtain ⟨n, rfl⟩ : ∃ n, q = n + 2 := ⟨q - 2, by omega⟩
    rw [Bytes.zeros_succ, set_domain_sep_cons, Option.bind_some, set_pad_long 2 (by omega)]
    unfold padLit
    rw [if_neg h1]
    simp only [Nat.add_sub_cancel]
    congr 2

/-- the padding block built by `finalize` for Keccak (`DSLEN = 0`: no `set_domain_sep`) -/
theorem impl_pad_keccak (q : Nat) (hq : 1 ≤ q) : set_pad 0 (zeros q) = some (padLit 0x01 q) := by
  by_cases h1 : q = 1
  · subst h1; decide
  · obtain ⟨n, rfl⟩ : ∃ n, q = n + 2 := ⟨q - 2, by omega⟩
    rw [Bytes.zeros_succ, set_pad_long 0 (by omega)]
    unfold padLit
    rw [if_neg h1]
    simp only [Nat.add_sub_cancel]
    congr 2

theorem padLit_length (sfx : UInt8) (q : Nat) (hq : 1 ≤ q) : (padLit sfx q).length = q := by
  unfold padLit
  by_cases h1 : q = 1
  · simp [h1]
  · rw [if_neg h1]; simp [zeros]; omega

end Cx.Proofs.Sponge
