/-
  Proofs.StreamBytes — the keystream and the stream `encrypt` of Spec.Stream as byte strings, for any block function.
  Used by the stream-context refinement (Proofs/StreamCtx.lean), the blockwise evaluation (StreamFast), the DRG (StreamDrg) and
  the AEAD proofs (Proofs/AeadBytes.lean).  Core Lean only.
-/
import CxVerif.Spec.Stream
import CxVerif.Proofs.ByteLemmas
namespace Cx.Proofs.Stream
open Cx.Spec.Stream
open Cx.Proofs.Bytes (xorBytes_append xorBytes_invol)

theorem keystream_length (KS : Nat → Bytes) (p n : Nat) : (keystream KS p n).length = n := by
  simp [keystream]

theorem keystream_zero (KS : Nat → Bytes) (p : Nat) : keystream KS p 0 = [] := rfl

theorem encrypt_nil (KS : Nat → Bytes) (p : Nat) : encrypt KS p [] = [] := rfl

theorem keystream_add (KS : Nat → Bytes) (p a b : Nat) :
    keystream KS p (a + b) = keystream KS p a ++ keystream KS (p + a) b := by
  unfold keystream
  rw [← List.map_append]
  congr 1
  rw [List.range'_append_1]

theorem keystream_drop_take (blk : Nat → Bytes) (p r l n : Nat) (h : r + l ≤ n) :
    ((keystream blk p n).drop r).take l = keystream blk (p + r) l := by
  obtain ⟨k, rfl⟩ := Nat.exists_eq_add_of_le h
  rw [keystream_add, keystream_add, List.append_assoc, List.drop_left' (keystream_length ..),
    List.take_left' (keystream_length ..)]

/-- a 64-byte block IS the keystream segment at its position; every other fact about blocks follows from this one -/
theorem keystream_block (KS : Nat → Bytes) (hlen : ∀ n, (KS n).length = 64) (b : Nat) : keystream KS (64 * b) 64 = KS b := by
  apply List.ext_getElem (by rw [keystream_length, hlen])
  intro i h1 h2
  rw [keystream_length] at h1
  simp only [keystream, List.getElem_map, List.getElem_range', ksByte]
  have e1 : (64 * b + 1 * i) / 64 = b := by omega
  have e2 : (64 * b + 1 * i) % 64 = i := by omega
  rw [e1, e2]
  simp [List.getD_eq_getElem?_getD, List.getElem?_eq_getElem h2]

theorem encrypt_length (KS : Nat → Bytes) (p : Nat) (d : Bytes) : (encrypt KS p d).length = d.length := by
  simp [encrypt, Bytes.xorBytes_length, keystream_length]

theorem encrypt_append (KS : Nat → Bytes) (p : Nat) (a b : Bytes) :
    encrypt KS p (a ++ b) = encrypt KS p a ++ encrypt KS (p + a.length) b := by
  unfold encrypt
  rw [List.length_append, keystream_add, xorBytes_append _ _ _ _ (by rw [keystream_length])]

theorem encrypt_invol (KS : Nat → Bytes) (p : Nat) (d : Bytes) : encrypt KS p (encrypt KS p d) = d := by
  unfold encrypt
  rw [Bytes.xorBytes_length, keystream_length, Nat.min_self]
  exact xorBytes_invol d _ (by rw [keystream_length]; exact Nat.le_refl _)

theorem encrypt_zeros (KS : Nat → Bytes) (p n : Nat) : encrypt KS p (zeros n) = keystream KS p n := by
  unfold encrypt
  rw [Bytes.zeros_length]
  have := Bytes.xorBytes_zeros (keystream KS p n)
  rwa [keystream_length] at this

/-- partition independence at the level of the specification: encrypting piece after piece, each from the position the
    previous one reached, is encrypting the concatenation -/
theorem encrypt_pieces (KS : Nat → Bytes) : ∀ (pieces : List Bytes) (acc : Bytes) (p : Nat),
    (pieces.foldl (fun (acc : Bytes × Nat) d => (acc.1 ++ encrypt KS acc.2 d, acc.2 + d.length)) (acc, p)).1
      = acc ++ encrypt KS p pieces.flatten := by
  intro pieces
  induction pieces with
  | nil => intro acc p; simp [encrypt_nil]
  | cons d ds ih =>
    intro acc p
    simp only [List.foldl_cons, List.flatten_cons, ih, encrypt_append, List.append_assoc]

end Cx.Proofs.Stream
