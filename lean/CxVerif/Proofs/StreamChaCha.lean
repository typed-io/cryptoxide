/-
  Proofs.StreamChaCha — ChaCha: the portable engine model (src/chacha/reference.rs) = Spec (RFC 8439 inner_block on
  the indexed state): rounds, feed-forward, output bytes.
-/
import CxVerif.Impl.ChaCha
import CxVerif.Spec.ChaCha
namespace Cx.Proofs.ChaCha
open Cx.Impl Cx.Impl.ChaCha Cx.Spec.Stream

def toVec (w : W16) : Spec.ChaCha.State :=
  #v[w.x0,w.x1,w.x2,w.x3,w.x4,w.x5,w.x6,w.x7,w.x8,w.x9,w.x10,w.x11,w.x12,w.x13,w.x14,w.x15]

theorem QR_eq (a b c d : UInt32) : Reference.QR a b c d = Spec.ChaCha.quarterRound a b c d := rfl

theorem qround_0_4_8_12 (x0 x1 x2 x3 x4 x5 x6 x7 x8 x9 x10 x11 x12 x13 x14 x15 : UInt32) :
    Spec.ChaCha.qround #v[x0,x1,x2,x3,x4,x5,x6,x7,x8,x9,x10,x11,x12,x13,x14,x15] 0 4 8 12 =
      (match Reference.QR x0 x4 x8 x12 with | (a,b,c,d) => #v[a,x1,x2,x3,b,x5,x6,x7,c,x9,x10,x11,d,x13,x14,x15]) := by
  unfold Spec.ChaCha.qround; rfl  -- `qround` opened by name: `rfl` then only evaluates the four `set`s on the literal
theorem qround_1_5_9_13 (x0 x1 x2 x3 x4 x5 x6 x7 x8 x9 x10 x11 x12 x13 x14 x15 : UInt32) :
    Spec.ChaCha.qround #v[x0,x1,x2,x3,x4,x5,x6,x7,x8,x9,x10,x11,x12,x13,x14,x15] 1 5 9 13 =
      (match Reference.QR x1 x5 x9 x13 with | (a,b,c,d) => #v[x0,a,x2,x3,x4,b,x6,x7,x8,c,x10,x11,x12,d,x14,x15]) := by
  unfold Spec.ChaCha.qround; rfl
theorem qround_2_6_10_14 (x0 x1 x2 x3 x4 x5 x6 x7 x8 x9 x10 x11 x12 x13 x14 x15 : UInt32) :
    Spec.ChaCha.qround #v[x0,x1,x2,x3,x4,x5,x6,x7,x8,x9,x10,x11,x12,x13,x14,x15] 2 6 10 14 =
      (match Reference.QR x2 x6 x10 x14 with | (a,b,c,d) => #v[x0,x1,a,x3,x4,x5,b,x7,x8,x9,c,x11,x12,x13,d,x15]) := by
  unfold Spec.ChaCha.qround; rfl
theorem qround_3_7_11_15 (x0 x1 x2 x3 x4 x5 x6 x7 x8 x9 x10 x11 x12 x13 x14 x15 : UInt32) :
    Spec.ChaCha.qround #v[x0,x1,x2,x3,x4,x5,x6,x7,x8,x9,x10,x11,x12,x13,x14,x15] 3 7 11 15 =
      (match Reference.QR x3 x7 x11 x15 with | (a,b,c,d) => #v[x0,x1,x2,a,x4,x5,x6,b,x8,x9,x10,c,x12,x13,x14,d]) := by
  unfold Spec.ChaCha.qround; rfl
theorem qround_0_5_10_15 (x0 x1 x2 x3 x4 x5 x6 x7 x8 x9 x10 x11 x12 x13 x14 x15 : UInt32) :
    Spec.ChaCha.qround #v[x0,x1,x2,x3,x4,x5,x6,x7,x8,x9,x10,x11,x12,x13,x14,x15] 0 5 10 15 =
      (match Reference.QR x0 x5 x10 x15 with | (a,b,c,d) => #v[a,x1,x2,x3,x4,b,x6,x7,x8,x9,c,x11,x12,x13,x14,d]) := by
  unfold Spec.ChaCha.qround; rfl
theorem qround_1_6_11_12 (x0 x1 x2 x3 x4 x5 x6 x7 x8 x9 x10 x11 x12 x13 x14 x15 : UInt32) :
    Spec.ChaCha.qround #v[x0,x1,x2,x3,x4,x5,x6,x7,x8,x9,x10,x11,x12,x13,x14,x15] 1 6 11 12 =
      (match Reference.QR x1 x6 x11 x12 with | (a,b,c,d) => #v[x0,a,x2,x3,x4,x5,b,x7,x8,x9,x10,c,d,x13,x14,x15]) := by
  unfold Spec.ChaCha.qround; rfl
theorem qround_2_7_8_13 (x0 x1 x2 x3 x4 x5 x6 x7 x8 x9 x10 x11 x12 x13 x14 x15 : UInt32) :
    Spec.ChaCha.qround #v[x0,x1,x2,x3,x4,x5,x6,x7,x8,x9,x10,x11,x12,x13,x14,x15] 2 7 8 13 =
      (match Reference.QR x2 x7 x8 x13 with | (a,b,c,d) => #v[x0,x1,a,x3,x4,x5,x6,b,c,x9,x10,x11,x12,d,x14,x15]) := by
  unfold Spec.ChaCha.qround; rfl
theorem qround_3_4_9_14 (x0 x1 x2 x3 x4 x5 x6 x7 x8 x9 x10 x11 x12 x13 x14 x15 : UInt32) :
    Spec.ChaCha.qround #v[x0,x1,x2,x3,x4,x5,x6,x7,x8,x9,x10,x11,x12,x13,x14,x15] 3 4 9 14 =
      (match Reference.QR x3 x4 x9 x14 with | (a,b,c,d) => #v[x0,x1,x2,a,b,x5,x6,x7,x8,c,x10,x11,x12,x13,d,x15]) := by
  unfold Spec.ChaCha.qround; rfl

theorem doubleRound_eq (w : W16) : toVec (Reference.doubleRound w) = Spec.ChaCha.innerBlock (toVec w) := by
  cases w
  simp only [toVec, Spec.ChaCha.innerBlock, Reference.doubleRound,
    qround_0_4_8_12, qround_1_5_9_13, qround_2_6_10_14, qround_3_7_11_15,
    qround_0_5_10_15, qround_1_6_11_12, qround_2_7_8_13, qround_3_4_9_14]

theorem loop_eq (n : Nat) : ∀ w, toVec (Reference.loop Reference.doubleRound n w) = iter Spec.ChaCha.innerBlock n (toVec w) := by
  induction n with
  | zero => intro w; rfl
  | succ n ih => intro w; simp only [Reference.loop, iter, ih, doubleRound_eq]

theorem rounds_eq (R : Nat) (w : W16) : toVec (Reference.rounds R w) = Spec.ChaCha.rounds R (toVec w) :=
  loop_eq (R / 2) w

/-- the feed-forward of ChaCha and of Salsa alike: wordwise addition.  (Through lists: unfolding `Vector.ofFn` by `rfl` is slow.) -/
theorem toVec_add_back (a b : W16) : toVec (W16.add_back a b) = Vector.ofFn fun i => (toVec a)[i] + (toVec b)[i] := by
  apply Vector.toList_inj.1
  simp only [Vector.toList_ofFn, List.ofFn_succ, List.ofFn_zero]
  rfl

theorem add_back_eq (a b : W16) : toVec (Reference.add_back a b) = Spec.ChaCha.addState (toVec a) (toVec b) :=
  toVec_add_back a b

theorem output_bytes_eq (w : W16) : Reference.output_bytes w = Spec.ChaCha.serialize (toVec w) := by
  cases w; rfl

theorem ref_hblock_eq (R : Nat) (w : W16) :
    Reference.output_ad_bytes (Reference.rounds R w) = Spec.ChaCha.hOfState R (toVec w) := by
  unfold Spec.ChaCha.hOfState
  rw [← rounds_eq]
  generalize Reference.rounds R w = z
  cases z; rfl

end Cx.Proofs.ChaCha
