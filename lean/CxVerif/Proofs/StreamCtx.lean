/-
  Proofs.StreamCtx — the refinement behind every statement about the stream contexts (C03, C04, the refusals of C20,
  the AEAD of C06), for any block generator:
  the context model of Impl.StreamCtx (cached 64-byte block + offset + engine state) refines the abstract state
  "absolute keystream position" (`Refines`: what is asked of the engine; `Abs`: the relation; `process_mut_refines`,
  `seek_abs`);
  histories of operations on a context and its clones refine the abstract machine `absStep` / `absRun` on positions
  (`MethodsRefine`: what is asked of a context type's method table; `step_refines`, `run_refines`; `Agrees` relates
  the two results);
  a constructor call is summed up as `Opens new m stateAt KS` (it succeeds, the type refines `KS`, the fresh context stands at 0),
  from which the statements about fresh contexts are projections (`Opens.ok`, `Opens.history`, `Opens.update`, `Opens.fresh`).
  What holds of `keystream` / `encrypt` on the specification alone is in Proofs/StreamBytes.lean.
-/
import CxVerif.Impl.StreamCtx
import CxVerif.Proofs.StreamBytes
namespace Cx.Proofs.Stream
open Cx.Impl.StreamCtx Cx.Spec.Stream

variable {σ : Type} {g : BlockGen σ} {m : Methods σ} {mk : Nat → σ} {KS : Nat → Bytes}

/-- what the refinement needs from an engine: `mk n` = the engine state whose block counter is `n` (reduced into
    the counter width by `mk` itself), `KS n` = the specified block number `n` -/
structure Refines (g : BlockGen σ) (mk : Nat → σ) (KS : Nat → Bytes) : Prop where
  block_eq : ∀ n, g.block (mk n) = KS n
  len : ∀ n, (KS n).length = 64
  inc : ∀ n, g.increment (mk n) = mk (n + 1)

/-- abstraction relation: context `c` stands at absolute keystream position `p`.  Two forms, as the code has two: `offset = 64`,
    nothing is cached and the engine state is that of the block to come; `offset < 64`, `output` caches block `p / 64` and the engine
    is already one block ahead.  A block start is represented by both (offset 64, or offset 0 right after a refill). -/
def Abs (mk : Nat → σ) (KS : Nat → Bytes) (c : Ctx σ) (p : Nat) : Prop :=
  (c.offset = 64 ∧ p % 64 = 0 ∧ c.state = mk (p / 64)) ∨
  (c.offset < 64 ∧ c.offset = p % 64 ∧ c.output = KS (p / 64) ∧ c.state = mk (p / 64 + 1))

theorem update_mk (R : Refines g mk KS) {c : Ctx σ} {n : Nat} (h : c.state = mk n) :
    update g c = ⟨mk (n + 1), KS n, 0⟩ := by
  rw [update, h, R.inc, R.block_eq]

theorem block_chunk (KS : Nat → Bytes) (hlen : ∀ n, (KS n).length = 64) (p cnt : Nat) (h : p % 64 + cnt ≤ 64) :
    ((KS (p / 64)).drop (p % 64)).take cnt = keystream KS p cnt := by
  have := keystream_drop_take KS (64 * (p / 64)) (p % 64) cnt 64 h
  rwa [keystream_block KS hlen, show 64 * (p / 64) + p % 64 = p by omega] at this

theorem xor_chunk (KS : Nat → Bytes) (hlen : ∀ n, (KS n).length = 64) (p : Nat) (data : Bytes) (cnt : Nat)
    (h : p % 64 + cnt ≤ 64) (hd : cnt ≤ data.length) :
    xor_keystream_mut (data.take cnt) ((KS (p / 64)).drop (p % 64)) = .ok (encrypt KS p (data.take cnt)) := by
  unfold xor_keystream_mut
  have hl : (data.take cnt).length = cnt := by simp; omega
  have : (data.take cnt).length ≤ ((KS (p / 64)).drop (p % 64)).length := by
    rw [hl, List.length_drop, hlen]; omega
  rw [if_pos this]
  congr 1
  rw [List.zipWith_eq_zipWith_take_min, Nat.min_eq_left this, List.take_length, hl, block_chunk KS hlen p cnt h]
  simp [encrypt, xorBytes, hl]

theorem process_mut_nil (g : BlockGen σ) (c : Ctx σ) : process_mut g c [] = .ok (c, []) := by
  rw [process_mut]

/-- one iteration of the `while` loop, with the `if` already decided -/
theorem process_mut_cons (g : BlockGen σ) (c : Ctx σ) (d : UInt8) (ds : Bytes)
    (c1 : Ctx σ) (hc1 : c1 = if c.offset = 64 then update g c else c) (hlt : c1.offset < 64) :
    process_mut g c (d :: ds) =
      (match xor_keystream_mut ((d :: ds).take (min (64 - c1.offset) (ds.length + 1))) (c1.output.drop c1.offset) with
       | .error e => .error e
       | .ok out =>
         match process_mut g { c1 with offset := c1.offset + min (64 - c1.offset) (ds.length + 1) }
                 ((d :: ds).drop (min (64 - c1.offset) (ds.length + 1))) with
         | .error e => .error e
         | .ok (c', rest) => .ok (c', out ++ rest)) := by
  subst hc1
  rw [process_mut]
  simp only [hlt, dite_true]
  rfl

theorem process_mut_refines (R : Refines g mk KS)
    (c : Ctx σ) (p : Nat) (data : Bytes) (habs : Abs mk KS c p) :
    ∃ c', process_mut g c data = .ok (c', encrypt KS p data) ∧ Abs mk KS c' (p + data.length) := by
  induction hn : data.length using Nat.strongRecOn generalizing c p data with
  | ind n ih =>
    subst hn
    cases data with
    | nil => exact ⟨c, by rw [process_mut_nil, encrypt_nil], by simpa using habs⟩
    | cons d ds =>
      -- the context after the optional refill
      have hc1 : ∃ c1, c1 = (if c.offset = 64 then update g c else c) ∧ c1.offset < 64 ∧ c1.offset = p % 64 ∧
          c1.output = KS (p / 64) ∧ c1.state = mk (p / 64 + 1) := by
        rcases habs with ⟨h1, h2, h3⟩ | ⟨h1, h2, h3, h4⟩
        · refine ⟨_, rfl, ?_⟩
          rw [if_pos h1, update_mk R h3]
          exact ⟨Nat.zero_lt_succ 63, h2.symm, rfl, rfl⟩
        · exact ⟨_, rfl, by rw [if_neg (by omega)]; exact ⟨h1, h2, h3, h4⟩⟩
      obtain ⟨c1, e1, hlt, hoff, hout, hst⟩ := hc1
      rw [process_mut_cons g c d ds c1 e1 hlt]
      generalize hcnt : min (64 - c1.offset) (ds.length + 1) = cnt
      have hcnt1 : 1 ≤ cnt := by omega
      have hcnt2 : cnt ≤ (d :: ds).length := by simp only [List.length_cons]; omega
      have hcnt3 : p % 64 + cnt ≤ 64 := by omega
      rw [hout, hoff, xor_chunk KS R.len p (d :: ds) cnt hcnt3 hcnt2]
      -- the context handed to the next iteration stands at p + cnt
      have habs2 : Abs mk KS { c1 with offset := p % 64 + cnt } (p + cnt) := by
        by_cases hfull : p % 64 + cnt = 64
        · have hq : (p + cnt) / 64 = p / 64 + 1 ∧ (p + cnt) % 64 = 0 := by omega
          exact .inl ⟨hfull, hq.2, by rw [hq.1]; exact hst⟩
        · have hq : (p + cnt) / 64 = p / 64 ∧ (p + cnt) % 64 = p % 64 + cnt := by omega
          exact .inr ⟨by show p % 64 + cnt < 64; omega, hq.2.symm, by rw [hq.1]; exact hout, by rw [hq.1]; exact hst⟩
      have hlen2 : ((d :: ds).drop cnt).length < (d :: ds).length := by
        rw [List.length_drop]; omega
      obtain ⟨c', hrun, habs'⟩ := ih _ hlen2 _ (p + cnt) ((d :: ds).drop cnt) habs2 rfl
      refine ⟨c', ?_, ?_⟩
      · rw [hout] at hrun
        have hl : ((d :: ds).take cnt).length = cnt := by
          rw [List.length_take]; simp only [List.length_cons] at hcnt2 ⊢; omega
        have := encrypt_append KS p ((d :: ds).take cnt) ((d :: ds).drop cnt)
        rw [List.take_append_drop, hl] at this
        rw [this, hrun]
      · have : p + cnt + ((d :: ds).drop cnt).length = p + (d :: ds).length := by
          rw [List.length_drop]; simp only [List.length_cons] at hcnt2 ⊢; omega
        rw [← this]; exact habs'

theorem process_refines (R : Refines g mk KS)
    (c : Ctx σ) (p : Nat) (data : Bytes) (h : Abs mk KS c p) :
    ∃ c', process g c data data.length = .ok (c', encrypt KS p data) ∧ Abs mk KS c' (p + data.length) := by
  unfold process; simp only [if_true]; exact process_mut_refines R c p data h

theorem mk_abs (mk : Nat → σ) (KS : Nat → Bytes) (n : Nat) : Abs mk KS (Impl.StreamCtx.mk (mk n)) (64 * n) := by
  left; refine ⟨rfl, by omega, ?_⟩
  show mk n = mk (64 * n / 64); congr 1; omega

theorem seek_abs {τ : Type} (mk : Nat → σ) (KS : Nat → Bytes) (setCounter : σ → τ → σ) (toBlock : τ → Nat)
    (hset : ∀ n t, setCounter (mk n) t = mk (toBlock t)) (c : Ctx σ) (p : Nat) (t : τ) (h : Abs mk KS c p) :
    Abs mk KS (seek setCounter c t) (64 * toBlock t) := by
  left
  refine ⟨rfl, by omega, ?_⟩
  show setCounter c.state t = mk (64 * toBlock t / 64)
  have e : 64 * toBlock t / 64 = toBlock t := by omega
  rw [e]
  rcases h with ⟨_, _, h3⟩ | ⟨_, _, _, h4⟩
  · rw [h3, hset]
  · rw [h4, hset]

/-! ### histories: the abstract machine "absolute position (+ positions of the clones)" -/

def absStep (KS : Nat → Bytes) (hasSeek hasSet64 : Bool) (a : Nat × List Nat) :
    Op → Except String ((Nat × List Nat) × List Bytes)
  | .process d => .ok ((a.1 + d.length, a.2), [encrypt KS a.1 d])
  | .processBad d n => if d.length = n then .ok ((a.1 + d.length, a.2), [encrypt KS a.1 d]) else .error "PANIC"
  | .processMut d => .ok ((a.1 + d.length, a.2), [encrypt KS a.1 d])
  | .seek n => if hasSeek then .ok ((64 * n.toNat, a.2), []) else .error "bad-args"
  | .setCounter64 n => if hasSet64 then .ok ((64 * n.toNat, a.2), []) else .error "bad-args"
  | .clone => .ok ((a.1, a.1 :: a.2), [])
  | .swap => match a.2 with
    | t :: rest => .ok ((t, a.1 :: rest), [])
    | [] => .error "bad-args"

def absRun (KS : Nat → Bytes) (hasSeek hasSet64 : Bool) (a : Nat × List Nat) :
    List Op → Except String ((Nat × List Nat) × List Bytes)
  | [] => .ok (a, [])
  | op :: ops =>
    match absStep KS hasSeek hasSet64 a op with
    | .error e => .error e
    | .ok (a', o) =>
      match absRun KS hasSeek hasSet64 a' ops with
      | .error e => .error e
      | .ok (a'', os) => .ok (a'', o ++ os)

def AbsList (mk : Nat → σ) (KS : Nat → Bytes) : List (Ctx σ) → List Nat → Prop
  | [], [] => True
  | c :: cs, p :: ps => Abs mk KS c p ∧ AbsList mk KS cs ps
  | _, _ => False

def AbsSt (mk : Nat → σ) (KS : Nat → Bytes) (st : Ctx σ × List (Ctx σ)) (a : Nat × List Nat) : Prop :=
  Abs mk KS st.1 a.1 ∧ AbsList mk KS st.2 a.2

structure MethodsRefine (m : Methods σ) (mk : Nat → σ) (KS : Nat → Bytes) : Prop where
  gen : Refines m.gen mk KS
  seek : ∀ f, m.seek = some f → ∀ n (t : UInt32), f (mk n) t = mk t.toNat
  set64 : ∀ f, m.setCounter64 = some f → ∀ n (t : UInt64), f (mk n) t = mk t.toNat

theorem methodsRefine_of_set64 {set : σ → UInt64 → σ} {s0 : σ} {blk : UInt64 → Bytes}
    (hblk : ∀ c, g.block (set s0 c) = blk c) (hlen : ∀ c, (blk c).length = 64)
    (hinc : ∀ c, g.increment (set s0 c) = set s0 (c + 1)) (hset : ∀ c c', set (set s0 c) c' = set s0 c') :
    MethodsRefine ⟨g, none, some set⟩ (fun n => set s0 (UInt64.ofNat n)) (fun n => blk (UInt64.ofNat n)) where
  gen := {
    block_eq := fun _ => hblk _
    len := fun _ => hlen _
    inc := fun n => by rw [hinc, UInt64.ofNat_add]; rfl }
  seek := fun _ hf => nomatch hf
  set64 := fun _ hf n t => by cases hf; rw [hset, UInt64.ofNat_toNat]

def Agrees (mk : Nat → σ) (KS : Nat → Bytes) (r : Except String ((Ctx σ × List (Ctx σ)) × List Bytes))
    (ra : Except String ((Nat × List Nat) × List Bytes)) : Prop :=
  match ra with
  | .error e => r = .error e
  | .ok (a', out) => ∃ st', r = .ok (st', out) ∧ AbsSt mk KS st' a'

theorem step_refines (M : MethodsRefine m mk KS)
    (st : Ctx σ × List (Ctx σ)) (a : Nat × List Nat) (h : AbsSt mk KS st a) (op : Op) :
    Agrees mk KS (step m st op) (absStep KS m.seek.isSome m.setCounter64.isSome a op) := by
  obtain ⟨c, stk⟩ := st
  obtain ⟨p, ps⟩ := a
  obtain ⟨hc, hs⟩ := h
  cases op with
  | process d =>
    obtain ⟨c', h1, h2⟩ := process_refines M.gen c p d hc
    simp only [step, absStep, Agrees, h1]
    exact ⟨_, rfl, h2, hs⟩
  | processBad d n =>
    simp only [step, absStep]
    by_cases hn : d.length = n
    · subst hn
      obtain ⟨c', h1, h2⟩ := process_refines M.gen c p d hc
      simp only [if_true, Agrees, h1]
      exact ⟨_, rfl, h2, hs⟩
    · simp only [hn, if_false, Agrees, process]
  | processMut d =>
    obtain ⟨c', h1, h2⟩ := process_mut_refines M.gen c p d hc
    simp only [step, absStep, Agrees, h1]
    exact ⟨_, rfl, h2, hs⟩
  | seek n =>
    simp only [step, absStep]
    cases hsk : m.seek with
    | none => simp [Agrees]
    | some f =>
      simp only [Option.isSome_some, if_true, Agrees]
      exact ⟨_, rfl, seek_abs mk KS f (fun t => t.toNat) (M.seek f hsk) c p n hc, hs⟩
  | setCounter64 n =>
    simp only [step, absStep]
    cases hsk : m.setCounter64 with
    | none => simp [Agrees]
    | some f =>
      simp only [Option.isSome_some, if_true, Agrees]
      exact ⟨_, rfl, seek_abs mk KS f (fun t => t.toNat) (M.set64 f hsk) c p n hc, hs⟩
  | clone =>
    simp only [step, absStep, Agrees]
    exact ⟨_, rfl, hc, hc, hs⟩
  | swap =>
    simp only [step, absStep]
    cases stk with
    | nil =>
      cases ps with
      | nil => simp [Agrees]
      | cons q qs => exact absurd hs (by simp [AbsList])
    | cons t ts =>
      cases ps with
      | nil => exact absurd hs (by simp [AbsList])
      | cons q qs =>
        simp only [Agrees]
        exact ⟨_, rfl, hs.1, hc, hs.2⟩

theorem run_refines (M : MethodsRefine m mk KS) :
    ∀ (ops : List Op) (st : Ctx σ × List (Ctx σ)) (a : Nat × List Nat), AbsSt mk KS st a →
      Agrees mk KS (run m st ops) (absRun KS m.seek.isSome m.setCounter64.isSome a ops) := by
  intro ops
  induction ops with
  | nil => intro st a h; exact ⟨st, rfl, h⟩
  | cons op ops ih =>
    intro st a h
    have hs := step_refines M st a h op
    simp only [run, absRun]
    revert hs
    cases absStep KS m.seek.isSome m.setCounter64.isSome a op with
    | error e => intro hs; rw [show step m st op = _ from hs]; rfl
    | ok r =>
      obtain ⟨a', o⟩ := r
      rintro ⟨st', h1, h2⟩
      have hr := ih st' a' h2
      rw [h1]
      simp only []
      revert hr
      cases absRun KS m.seek.isSome m.setCounter64.isSome a' ops with
      | error e => intro hr; rw [show run m st' ops = _ from hr]; rfl
      | ok r2 => rintro ⟨st'', h3, h4⟩; rw [h3]; exact ⟨_, rfl, h4⟩

/-- a constructor call `new` opens a context on the keystream `KS`: it succeeds with some engine state `s0`, the context
    type `m` refines positions in `KS` with `stateAt s0 n` as the engine state of block `n`, and the fresh context stands at 0 -/
def Opens (new : Except String (Ctx σ)) (m : Methods σ) (stateAt : σ → Nat → σ) (KS : Nat → Bytes) : Prop :=
  ∃ s0, new = .ok (Impl.StreamCtx.mk s0) ∧ MethodsRefine m (stateAt s0) KS ∧ Abs (stateAt s0) KS (Impl.StreamCtx.mk s0) 0

/-- how a constructor statement is proved: `new` returns `s0`; the type refines the keystream `KS0` of the state's own words;
    for the words `new` has laid out that keystream is the specified `KS`; and `s0` is the state of block 0 -/
theorem Opens.intro {new : Except String (Ctx σ)} {stateAt : σ → Nat → σ} {KS0 : Nat → Bytes} (s0 : σ)
    (hnew : new = .ok (Impl.StreamCtx.mk s0)) (M : MethodsRefine m (stateAt s0) KS0) (hKS : ∀ n, KS0 n = KS n)
    (h0 : s0 = stateAt s0 0) : Opens new m stateAt KS := by
  obtain rfl : KS0 = KS := funext hKS
  exact ⟨s0, hnew, M, .inl ⟨rfl, rfl, h0⟩⟩

theorem Opens.ok {new : Except String (Ctx σ)} {stateAt : σ → Nat → σ} (O : Opens new m stateAt KS) : ∃ c, new = .ok c := by
  obtain ⟨s0, e, _⟩ := O
  exact ⟨_, e⟩

theorem Opens.history {new : Except String (Ctx σ)} {stateAt : σ → Nat → σ} (O : Opens new m stateAt KS) (ops : List Op) :
    ∃ c0 s0, new = .ok c0 ∧ Agrees (stateAt s0) KS (run m (c0, []) ops)
      (absRun KS m.seek.isSome m.setCounter64.isSome (0, []) ops) := by
  obtain ⟨s0, h1, M, h3⟩ := O
  exact ⟨_, s0, h1, run_refines M ops _ _ ⟨h3, trivial⟩⟩

theorem Opens.update {new : Except String (Ctx σ)} {stateAt : σ → Nat → σ} (O : Opens new m stateAt KS) :
    ∃ s0, new = .ok (Impl.StreamCtx.mk s0) ∧ ∀ n, update m.gen ⟨stateAt s0 n, zeros 64, 64⟩ = ⟨stateAt s0 (n + 1), KS n, 0⟩ := by
  obtain ⟨s0, h1, M, _⟩ := O
  exact ⟨s0, h1, fun _ => update_mk M.gen rfl⟩

theorem Opens.fresh {new : Except String (Ctx σ)} {stateAt : σ → Nat → σ} (O : Opens new m stateAt KS) {c : Ctx σ}
    (h : new = .ok c) : ∃ s0, c = Impl.StreamCtx.mk s0 ∧ s0 = stateAt s0 0 := by
  obtain ⟨s0, e, _, habs⟩ := O
  rw [e] at h; cases h
  rcases habs with ⟨_, _, h3⟩ | ⟨h1, _⟩
  · exact ⟨s0, rfl, h3⟩
  · exact absurd h1 (Nat.lt_irrefl 64)

end Cx.Proofs.Stream
