/-
  Proofs.StreamDrg — the ChaCha DRG: every request sequence hands out successive keystream bytes.
-/
import CxVerif.Impl.Drg
import CxVerif.Proofs.StreamCtx
namespace Cx.Proofs.Drg
open Cx.Impl Cx.Impl.ChaCha Cx.Impl.StreamCtx Cx.Impl.Drg Cx.Spec.Stream Cx.Proofs.Stream

variable {σ : Type} {E : Engine σ} {R : Nat} {mk : Nat → σ} {KS : Nat → Bytes}

def reqLen : Req → Nat
  | .bytes n => n
  | .fillBytes p => p.length
  | .fillSlice p => p.length
  | .u32 => 4
  | .u64 => 8

def decode : Req → Bytes → Out
  | .u32, b => .w32 (beU32 b)
  | .u64, b => .w64 (beU64 b)
  | _, b => .buf b

/-- specification: request i receives the next `reqLen` keystream bytes -/
def chunks (KS : Nat → Bytes) : Nat → List Req → List Bytes
  | _, [] => []
  | p, r :: rs => keystream KS p (reqLen r) :: chunks KS (p + reqLen r) rs

def specOuts (KS : Nat → Bytes) : Nat → List Req → List Out
  | _, [] => []
  | p, r :: rs => decode r (keystream KS p (reqLen r)) :: specOuts KS (p + reqLen r) rs

/-- what a `fill_*` request receives does not depend on what its buffer held, only on its length -/
theorem specOuts_fill_congr (KS : Nat → Bytes) {p1 p2 : Bytes} (hl : p1.length = p2.length) : ∀ (pre : List Req) (p : Nat),
    specOuts KS p (pre ++ [.fillBytes p1]) = specOuts KS p (pre ++ [.fillBytes p2]) := by
  intro pre
  induction pre with
  | nil => intro p; simp [specOuts, reqLen, decode, hl]
  | cons r rs ih => intro p; simp [specOuts, ih]

def total (reqs : List Req) : Nat := (reqs.map reqLen).sum

/-- independence of request sizing: the chunks concatenate to one keystream segment -/
theorem chunks_flatten (KS : Nat → Bytes) : ∀ (reqs : List Req) (p : Nat),
    (chunks KS p reqs).flatten = keystream KS p (total reqs) := by
  intro reqs
  induction reqs with
  | nil => intro p; simp [chunks, total, keystream_zero]
  | cons r rs ih =>
    intro p
    simp only [chunks, List.flatten_cons, ih, total, List.map_cons, List.sum_cons]
    rw [keystream_add]

theorem draw {g : BlockGen σ} (Rf : Refines g mk KS)
    (c : Ctx σ) (p : Nat) (h : Abs mk KS c p) (n : Nat) :
    ∃ c', process_mut g c (zeros n) = .ok (c', keystream KS p n) ∧ Abs mk KS c' (p + n) := by
  obtain ⟨c', h1, h2⟩ := process_mut_refines Rf c p (zeros n) h
  rw [encrypt_zeros] at h1
  rw [Bytes.zeros_length] at h2
  exact ⟨c', h1, h2⟩

theorem step_spec (Rf : Refines (ChaCha.gen E R) mk KS)
    (c : Ctx σ) (p : Nat) (h : Abs mk KS c p) (r : Req) :
    ∃ c', Drg.step E R false c r = .ok (c', decode r (keystream KS p (reqLen r))) ∧ Abs mk KS c' (p + reqLen r) := by
  obtain ⟨c', h1, h2⟩ := draw Rf c p h (reqLen r)
  refine ⟨c', ?_, h2⟩
  cases r <;> simp only [reqLen] at h1 <;>
    simp [Drg.step, Drg.bytes, Drg.fill_bytes, Drg.fill_slice, Drg.u32, Drg.u64, ChaCha.process_mut, h1, decode, reqLen]

theorem run_spec (Rf : Refines (ChaCha.gen E R) mk KS) :
    ∀ (reqs : List Req) (c : Ctx σ) (p : Nat), Abs mk KS c p →
      ∃ c', Drg.run E R false c reqs = .ok (c', specOuts KS p reqs) ∧ Abs mk KS c' (p + total reqs) := by
  intro reqs
  induction reqs with
  | nil => intro c p h; exact ⟨c, rfl, by simpa [total] using h⟩
  | cons r rs ih =>
    intro c p h
    obtain ⟨c1, h1, h2⟩ := step_spec Rf c p h r
    obtain ⟨c2, h3, h4⟩ := ih c1 _ h2
    refine ⟨c2, by simp [Drg.run, h1, h3, specOuts], ?_⟩
    have : p + total (r :: rs) = p + reqLen r + total rs := by simp [total]; omega
    rw [this]; exact h4

/-- the pre-repair `fill_bytes` handed out `prior ⊕ keystream` -/
theorem fillOld_spec (Rf : Refines (ChaCha.gen E R) mk KS)
    (c : Ctx σ) (p : Nat) (h : Abs mk KS c p) (prior : Bytes) :
    ∃ c', Drg.fill_bytesOld E R c prior = .ok (c', encrypt KS p prior) :=
  let ⟨c', h1, _⟩ := process_mut_refines Rf c p prior h
  ⟨c', h1⟩

end Cx.Proofs.Drg
