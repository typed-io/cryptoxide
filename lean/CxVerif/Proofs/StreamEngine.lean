/-
  Proofs.StreamEngine — both ChaCha engine models behave as "sixteen words + the portable operations"
  (`EngineSim`), hence every theorem about contexts holds for the portable AND the SSE2 engine; counters;
  a context runs the keystream of its own sixteen words with the counter set (`refines32` for `ChaCha<R>`/`XChaCha<R>`,
  `refines64` for `ChaChaOriginal<R>`: `MethodsRefine` with no key or nonce in sight); which (key, nonce) the words stand for
  is said by the constructor statements `chacha_opens`, `chachaorig_opens`, `xchacha_opens` (`Opens`).
-/
import CxVerif.Proofs.StreamLayout
import CxVerif.Proofs.StreamCtx
namespace Cx.Proofs.ChaCha
open Cx.Impl Cx.Impl.ChaCha Cx.Proofs.Stream

variable {σ : Type}

/-- engine `E`, seen through `α` as sixteen words, is the portable engine.  `inj`: what `Refines`/`MethodsRefine` ask for are
    equations between engine STATES (`increment (mk n) = mk (n + 1)`), proved on the views. -/
structure EngineSim (E : Engine σ) (α : σ → W16) : Prop where
  inj : ∀ s t, α s = α t → s = t
  init : ∀ key nonce, Spec.ChaCha.validKey key → validNonce nonce →
    (E.init key nonce).map (fun s => toVec (α s)) = .ok (Spec.ChaCha.layoutState key nonce)
  rounds : ∀ R s, α (E.rounds R s) = Reference.rounds R (α s)
  add_back : ∀ s i, α (E.add_back s i) = Reference.add_back (α s) (α i)
  output_bytes : ∀ s, E.output_bytes s = Reference.output_bytes (α s)
  output_ad_bytes : ∀ s, E.output_ad_bytes s = Reference.output_ad_bytes (α s)
  set_counter : ∀ s c, α (E.set_counter s c) = Reference.set_counter (α s) c
  set_counter64 : ∀ s c, α (E.verif_set_counter64 s c) = Reference.verif_set_counter64 (α s) c
  increment : ∀ s, α (E.increment s) = Reference.increment (α s)
  increment64 : ∀ s, α (E.increment64 s) = Reference.increment64 (α s)

theorem referenceSim : EngineSim referenceEngine id where
  inj := fun _ _ h => h
  init := reference_init
  rounds := fun _ _ => rfl
  add_back := fun _ _ => rfl
  output_bytes := fun _ => rfl
  output_ad_bytes := fun _ => rfl
  set_counter := fun _ _ => rfl
  set_counter64 := fun _ _ => rfl
  increment := fun _ => rfl
  increment64 := fun _ => rfl

theorem toRef_inj (s t : Sse2.State) (h : toRef s = toRef t) : s = t := by
  obtain ⟨⟨a0,a1,a2,a3⟩,⟨b0,b1,b2,b3⟩,⟨c0,c1,c2,c3⟩,⟨d0,d1,d2,d3⟩⟩ := s
  obtain ⟨⟨a0',a1',a2',a3'⟩,⟨b0',b1',b2',b3'⟩,⟨c0',c1',c2',c3'⟩,⟨d0',d1',d2',d3'⟩⟩ := t
  simp only [toRef, W16.mk.injEq] at h
  simp only [h]

theorem sse2Sim : EngineSim sse2Engine toRef where
  inj := toRef_inj
  init := sse2_init
  rounds := sse2_rounds
  add_back := sse2_add_back
  output_bytes := sse2_output_bytes
  output_ad_bytes := sse2_output_ad_bytes
  set_counter := fun _ _ => rfl
  set_counter64 := fun _ _ => rfl
  increment := fun _ => rfl
  increment64 := sse2_increment64

theorem block_eq {E : Engine σ} {α : σ → W16} (S : EngineSim E α) (R : Nat) (s : σ) :
    E.block R s = Spec.ChaCha.blockOfState R (toVec (α s)) := by
  rw [Engine.block, S.output_bytes, S.add_back, S.rounds, output_bytes_eq, add_back_eq, rounds_eq]
  rfl

theorem hblock_eq {E : Engine σ} {α : σ → W16} (S : EngineSim E α) (R : Nat) (s : σ) :
    E.hblock R s = Spec.ChaCha.hOfState R (toVec (α s)) := by
  rw [Engine.hblock, S.output_ad_bytes, S.rounds, ref_hblock_eq]

theorem serialize_length (s : Spec.ChaCha.State) : (Spec.ChaCha.serialize s).length = 64 := by
  unfold Spec.ChaCha.serialize
  rw [Bytes.flatMap_u32le_length]; simp

theorem blockOfState_length (R : Nat) (s : Spec.ChaCha.State) : (Spec.ChaCha.blockOfState R s).length = 64 :=
  serialize_length _

theorem block_length (R : Nat) (key nonce : Bytes) (c : UInt32) : (Spec.ChaCha.block R key nonce c).length = 64 :=
  blockOfState_length _ _
theorem blockOrig_length (R : Nat) (key nonce : Bytes) (c : UInt64) : (Spec.ChaCha.blockOrig R key nonce c).length = 64 :=
  blockOfState_length _ _
theorem hchacha_length (R : Nat) (key nonce : Bytes) : (Spec.ChaCha.hchacha R key nonce).length = 32 := by
  unfold Spec.ChaCha.hchacha Spec.ChaCha.hOfState
  rw [Bytes.flatMap_u32le_length]; rfl

theorem toVec_set_counter (w : W16) (c : UInt32) :
    toVec (Reference.set_counter w c) = Spec.ChaCha.setCounter32 (toVec w) c := by cases w; rfl
theorem toVec_increment (w : W16) :
    toVec (Reference.increment w) = Spec.ChaCha.incCounter32 (toVec w) := by cases w; rfl
theorem toVec_set_counter64 (w : W16) (c : UInt64) :
    toVec (Reference.verif_set_counter64 w c) = Spec.ChaCha.setCounter64 (toVec w) c := by cases w; rfl

theorem set_set (w : W16) (c c' : UInt32) :
    Reference.set_counter (Reference.set_counter w c) c' = Reference.set_counter w c' := rfl
theorem inc_set (w : W16) (c : UInt32) :
    Reference.increment (Reference.set_counter w c) = Reference.set_counter w (c + 1) := rfl
theorem set64_set64 (w : W16) (c c' : UInt64) :
    Reference.verif_set_counter64 (Reference.verif_set_counter64 w c) c' = Reference.verif_set_counter64 w c' := rfl

/-- two words `lo`, `hi` read as one 64-bit number: `+1` on `lo` with a carry into `hi` exactly when `lo` wraps to 0
    is `+1` mod 2^64 -/
theorem ctr_succ (lo hi : UInt32) :
    (if lo + 1 = 0 then (lo + 1).toNat + 2 ^ 32 * (hi + 1).toNat else (lo + 1).toNat + 2 ^ 32 * hi.toNat) =
      (lo.toNat + 2 ^ 32 * hi.toNat + 1) % 2 ^ 64 := by
  have h1 := lo.toNat_lt
  have h2 := hi.toNat_lt
  have hz : lo + 1 = 0 ↔ (lo.toNat + 1) % 2 ^ 32 = 0 := by
    rw [← UInt32.toNat_inj, UInt32.toNat_add]; rfl
  simp only [hz, UInt32.toNat_add, UInt32.toNat_one]
  split <;> omega

theorem split64 (c : UInt64) : c.toUInt32.toNat + 2 ^ 32 * (c >>> 32).toUInt32.toNat = c.toNat := by
  have := c.toNat_lt
  rw [UInt64.toNat_toUInt32, UInt64.toNat_toUInt32, UInt64.toNat_shiftRight]
  simp [Nat.shiftRight_eq_div_pow]; omega

theorem words_inj {a b a' b' : UInt32} (h : a.toNat + 2 ^ 32 * b.toNat = a'.toNat + 2 ^ 32 * b'.toNat) :
    a = a' ∧ b = b' := by
  have := a.toNat_lt
  have := a'.toNat_lt
  exact ⟨UInt32.toNat.inj (by omega), UInt32.toNat.inj (by omega)⟩

theorem succ64 (c : UInt64) :
    (c + 1).toUInt32 = c.toUInt32 + 1 ∧
    ((c + 1) >>> 32).toUInt32 = if c.toUInt32 + 1 = 0 then (c >>> 32).toUInt32 + 1 else (c >>> 32).toUInt32 := by
  apply words_inj
  have h := ctr_succ c.toUInt32 (c >>> 32).toUInt32
  rw [split64 c] at h
  rw [split64 (c + 1), UInt64.toNat_add, UInt64.toNat_one, ← h]
  split <;> rfl

theorem inc64_set64 (w : W16) (c : UInt64) :
    Reference.increment64 (Reference.verif_set_counter64 w c) = Reference.verif_set_counter64 w (c + 1) := by
  simp only [Reference.increment64, Reference.verif_set_counter64, succ64 c]
  by_cases h : c.toUInt32 + 1 = 0 <;> simp [h]

theorem toVec_inj {a b : W16} (h : toVec a = toVec b) : a = b := by
  cases a; cases b
  injection h with h; injection h with h
  simp only [List.cons.injEq] at h
  simp only [h]

section
variable {E : Engine σ} {α : σ → W16}

def mk32 (E : Engine σ) (s0 : σ) (n : Nat) : σ := E.set_counter s0 (UInt32.ofNat n)
def mk64 (E : Engine σ) (s0 : σ) (n : Nat) : σ := E.verif_set_counter64 s0 (UInt64.ofNat n)

theorem mk32_zero (S : EngineSim E α) (s0 : σ) (h : Spec.ChaCha.setCounter32 (toVec (α s0)) 0 = toVec (α s0)) :
    s0 = mk32 E s0 0 := by
  apply S.inj; apply toVec_inj
  rw [mk32, S.set_counter, toVec_set_counter]; exact h.symm

theorem mk64_zero (S : EngineSim E α) (s0 : σ) (h : Spec.ChaCha.setCounter64 (toVec (α s0)) 0 = toVec (α s0)) :
    s0 = mk64 E s0 0 := by
  apply S.inj; apply toVec_inj
  rw [mk64, S.set_counter64, toVec_set_counter64]; exact h.symm

theorem mk32_inc (S : EngineSim E α) (s0 : σ) (n : Nat) : E.increment (mk32 E s0 n) = mk32 E s0 (n + 1) := by
  apply S.inj
  simp only [mk32, S.increment, S.set_counter, inc_set, UInt32.ofNat_add]
  rfl

theorem mk32_seek (S : EngineSim E α) (s0 : σ) (n : Nat) (t : UInt32) : E.set_counter (mk32 E s0 n) t = mk32 E s0 t.toNat := by
  apply S.inj
  simp only [mk32, S.set_counter, set_set, UInt32.ofNat_toNat]

/-- a `ChaCha<R>` or `XChaCha<R>` context (the two method tables are the same) runs the keystream of its own state: block `n`
    is the block of the sixteen words with the counter word set to `n` mod 2^32.  Which (key, nonce) the words stand for is the
    business of the constructor. -/
theorem refines32 (S : EngineSim E α) (R : Nat) (s0 : σ) :
    MethodsRefine (ChaCha.ChaCha.methods E R) (mk32 E s0)
      (fun n => Spec.ChaCha.blockOfState R (Spec.ChaCha.setCounter32 (toVec (α s0)) (UInt32.ofNat n))) where
  gen := {
    block_eq := fun n => by
      show E.block R (mk32 E s0 n) = _
      rw [block_eq S, mk32, S.set_counter, toVec_set_counter]
    len := fun _ => blockOfState_length _ _
    inc := mk32_inc S s0 }
  seek := fun _ hf => by cases hf; exact mk32_seek S s0
  set64 := fun _ hf => nomatch hf

theorem refines64 (S : EngineSim E α) (R : Nat) (s0 : σ) :
    MethodsRefine (ChaCha.ChaChaOriginal.methods E R) (mk64 E s0)
      (fun n => Spec.ChaCha.blockOfState R (Spec.ChaCha.setCounter64 (toVec (α s0)) (UInt64.ofNat n))) :=
  methodsRefine_of_set64 (g := ChaCha.ChaChaOriginal.gen E R)
    (blk := fun c => Spec.ChaCha.blockOfState R (Spec.ChaCha.setCounter64 (toVec (α s0)) c))
    (fun c => by
      show E.block R _ = _
      rw [block_eq S, S.set_counter64, toVec_set_counter64])
    (fun _ => blockOfState_length _ _)
    (fun c => S.inj _ _ (by
      show α (E.increment64 _) = _
      rw [S.increment64, S.set_counter64, S.set_counter64, inc64_set64]))
    (fun c c' => S.inj _ _ (by rw [S.set_counter64, S.set_counter64, S.set_counter64, set64_set64]))

theorem roundsOk_iff (R : Nat) : roundsOk R = true ↔ Spec.ChaCha.validRounds R := by
  simp [roundsOk, Spec.ChaCha.validRounds, or_assoc]

theorem hchacha_eq (S : EngineSim E α) (R : Nat) (key : Bytes) {nonce : Bytes} (hn : nonce.length = 16) (h : σ)
    (hv : toVec (α h) = Spec.ChaCha.layoutState key nonce) : E.hblock R h = Spec.ChaCha.hchacha R key nonce := by
  rw [hblock_eq S, hv, layoutState_16 key hn]; rfl

theorem chacha_opens (S : EngineSim E α) (R : Nat) (key nonce : Bytes) (hk : Spec.ChaCha.validKey key)
    (hn : nonce.length = 12) (hR : Spec.ChaCha.validRounds R) :
    Opens (ChaCha.ChaCha.new E R key nonce) (ChaCha.ChaCha.methods E R) (mk32 E) (Spec.ChaCha.blockAt R key nonce) := by
  obtain ⟨s0, hi, hv⟩ := ok_of_map_eq_ok (S.init key nonce hk (Or.inr (Or.inl hn)))
  rw [layoutState_12 key hn] at hv
  -- `blockAt R key nonce n` unfolds to `blockOfState R (ietfState key nonce (ofNat n))`: the last `rfl`
  refine .intro s0 ?_ (refines32 S R s0) (fun n => by rw [hv, setCounter32_ietf]; rfl) (mk32_zero S s0 (by rw [hv, setCounter32_ietf]))
  have hk' : key.length = 16 ∨ key.length = 32 := hk
  simp [ChaCha.ChaCha.new, hn, hk', (roundsOk_iff R).2 hR, hi]

theorem chachaorig_opens (S : EngineSim E α) (R : Nat) (key nonce : Bytes) (hk : Spec.ChaCha.validKey key)
    (hn : nonce.length = 8) (hR : Spec.ChaCha.validRounds R) :
    Opens (ChaCha.ChaChaOriginal.new E R key nonce) (ChaCha.ChaChaOriginal.methods E R) (mk64 E)
      (Spec.ChaCha.blockAtOrig R key nonce) := by
  obtain ⟨s0, hi, hv⟩ := ok_of_map_eq_ok (S.init key nonce hk (Or.inl hn))
  rw [layoutState_8 key hn] at hv
  refine .intro s0 ?_ (refines64 S R s0) (fun n => by rw [hv, setCounter64_orig]; rfl) (mk64_zero S s0 (by rw [hv, setCounter64_orig]))
  have hk' : key.length = 16 ∨ key.length = 32 := hk
  simp [ChaCha.ChaChaOriginal.new, hn, hk', (roundsOk_iff R).2 hR, hi]

theorem blockAtX_length (R : Nat) (key nonce : Bytes) (n : Nat) : (Spec.ChaCha.blockAtX R key nonce n).length = 64 := by
  unfold Spec.ChaCha.blockAtX Spec.ChaCha.xchachaBlock; exact block_length _ _ _ _

/-- `XChaCha::<R>::new`: HChaCha subkey (no feed-forward), then the 8-byte-nonce layout of nonce[16..24] -/
theorem xchacha_opens (S : EngineSim E α) (R : Nat) (key nonce : Bytes) (hk : key.length = 32)
    (hn : nonce.length = 24) (hR : Spec.ChaCha.validRounds R) :
    Opens (ChaCha.XChaCha.new E R key nonce) (ChaCha.XChaCha.methods E R) (mk32 E) (Spec.ChaCha.blockAtX R key nonce) := by
  have h16 : (nonce.take 16).length = 16 := by simp [hn]
  have h8 : (nonce.drop 16).length = 8 := by simp [hn]
  obtain ⟨h, hi, hv⟩ := ok_of_map_eq_ok (S.init key (nonce.take 16) (Or.inr hk) (Or.inr (Or.inr h16)))
  have hsub := hchacha_eq S R key h16 h hv
  have hsubk : Spec.ChaCha.validKey (Spec.ChaCha.hchacha R key (nonce.take 16)) := Or.inr (hchacha_length _ _ _)
  obtain ⟨s0, hi2, hv2⟩ := ok_of_map_eq_ok (S.init _ (nonce.drop 16) hsubk (Or.inl h8))
  rw [layoutState_8 _ h8] at hv2
  have htake : (nonce.drop 16).take 8 = nonce.drop 16 := List.take_of_length_le (by omega)
  -- `blockAtX` unfolds to the IETF block under the subkey and the padded nonce; the low counter word of `origState … 0` is 0
  refine .intro s0 ?_ (refines32 S R s0) (fun n => by rw [hv2, ← ietf_of_orig]; rfl) (mk32_zero S s0 (by rw [hv2]; rfl))
  simp [ChaCha.XChaCha.new, hn, hk, (roundsOk_iff R).2 hR, hi, hsub, htake, hi2]

end
end Cx.Proofs.ChaCha
