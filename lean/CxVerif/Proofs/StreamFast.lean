/-
  Proofs.StreamFast — the blockwise evaluation `keystreamFast`/`encryptFast` of Spec.Stream equals the position-indexed
  definition `keystream`/`encrypt` for block functions returning 64 bytes (`flatMap_blocks`, `keystreamFast_eq`, `encryptFast_eq`),
  from three facts of Proofs/StreamBytes.lean: a block IS a keystream segment (`keystream_block`), segments concatenate
  (`keystream_add`), and dropping/taking inside a segment is a segment (`keystream_drop_take`).
-/
import CxVerif.Proofs.StreamBytes
namespace Cx.Proofs.Stream
open Cx.Spec.Stream

theorem flatMap_blocks (blk : Nat → Bytes) (hlen : ∀ n, (blk n).length = 64) :
    ∀ (m b : Nat), (List.range' b m).flatMap blk = keystream blk (64 * b) (64 * m) := by
  intro m
  induction m with
  | zero => intro b; rfl
  | succ m ih =>
    intro b
    rw [List.range'_succ, List.flatMap_cons, ih, ← keystream_block blk hlen b, Nat.mul_succ 64 m, Nat.add_comm (64 * m), keystream_add, Nat.mul_succ]

theorem keystreamFast_eq (blk : Nat → Bytes) (hlen : ∀ n, (blk n).length = 64) (pos len : Nat) :
    keystreamFast blk pos len = keystream blk pos len := by
  unfold keystreamFast
  rw [flatMap_blocks blk hlen, keystream_drop_take _ _ _ _ _ (by omega)]
  congr 1; omega

theorem encryptFast_eq (blk : Nat → Bytes) (hlen : ∀ n, (blk n).length = 64) (pos : Nat) (data : Bytes) :
    encryptFast blk pos data = encrypt blk pos data := by
  unfold encryptFast encrypt; rw [keystreamFast_eq blk hlen]

end Cx.Proofs.Stream
