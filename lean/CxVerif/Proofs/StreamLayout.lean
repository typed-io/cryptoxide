/-
  Proofs.StreamLayout — ChaCha state layouts: `init` of each engine model = the Spec's initial state `layoutState`, for every
  (key length, nonce length); `layoutState` by nonce length (`layoutState_16/12/8`) and the XChaCha nonce padding
  (`ietf_of_orig`); constant tables; the pre-repair `init` of the portable engine for 32-byte keys (its 16-byte-key defect: Props/C03/Stream.lean).
-/
import CxVerif.Proofs.StreamSse2
namespace Cx.Proofs.ChaCha
open Cx.Impl Cx.Impl.ChaCha Cx.Spec.Stream

theorem word_eq_read (bs : Bytes) (j : Nat) : word bs j = read_u32_le bs (4 * j) := by
  simp [word, read_u32_le, leU32, List.take_take]

theorem read_append_left (a b : Bytes) (i : Nat) (h : i + 4 ≤ a.length) :
    read_u32_le (a ++ b) i = read_u32_le a i := by
  unfold read_u32_le
  rw [List.drop_append_of_le_length (by omega), List.take_append_of_le_length (by simp; omega)]

theorem read_append_right (a b : Bytes) (i : Nat) :
    read_u32_le (a ++ b) (a.length + i) = read_u32_le b i := by
  unfold read_u32_le
  have : List.drop (a.length + i) (a ++ b) = List.drop i b := by simp [List.drop_append]
  rw [this]

theorem read_take (a : Bytes) (n i : Nat) (h : i + 4 ≤ n) : read_u32_le (a.take n) i = read_u32_le a i := by
  unfold read_u32_le
  rw [List.drop_take, List.take_take]
  congr 2; omega

theorem read_drop (a : Bytes) (n i : Nat) : read_u32_le (a.drop n) i = read_u32_le a (n + i) := by
  unfold read_u32_le
  rw [List.drop_drop]

/-! ### constant tables (re-extracted from /repo on every run) -/

theorem cst32_reference : Reference.CST32 =
    (word Spec.ChaCha.sigma 0, word Spec.ChaCha.sigma 1, word Spec.ChaCha.sigma 2, word Spec.ChaCha.sigma 3) := by decide +kernel
theorem cst16_reference : Reference.CST16 =
    (word Spec.ChaCha.tau 0, word Spec.ChaCha.tau 1, word Spec.ChaCha.tau 2, word Spec.ChaCha.tau 3) := by decide +kernel
theorem cst32_sse2 : Sse2.CST32 =
    (word Spec.ChaCha.sigma 0, word Spec.ChaCha.sigma 1, word Spec.ChaCha.sigma 2, word Spec.ChaCha.sigma 3) := by decide +kernel
theorem cst16_sse2 : Sse2.CST16 =
    (word Spec.ChaCha.tau 0, word Spec.ChaCha.tau 1, word Spec.ChaCha.tau 2, word Spec.ChaCha.tau 3) := by decide +kernel

theorem dup_lo (key : Bytes) (hk : key.length = 16) (i : Nat) (h : i + 4 ≤ 16) :
    read_u32_le (key ++ key) i = read_u32_le key i := read_append_left key key i (by omega)
theorem dup_hi (key : Bytes) (hk : key.length = 16) (i : Nat) :
    read_u32_le (key ++ key) (i + 16) = read_u32_le key i := by rw [Nat.add_comm, ← hk, read_append_right]

/-- the Spec's initial state as a record of sixteen words.  The key rows are rewritten inside this record: inside the
    `Vector` literal of `initState` every rewrite has to carry the length proof along. -/
def initW (key : Bytes) (a b c d : UInt32) : W16 :=
  let cs := Spec.ChaCha.constants key
  let k := Spec.ChaCha.keyBytes key
  ⟨word cs 0, word cs 1, word cs 2, word cs 3, word k 0, word k 1, word k 2, word k 3,
   word k 4, word k 5, word k 6, word k 7, a, b, c, d⟩

theorem initState_eq (key : Bytes) (a b c d : UInt32) : Spec.ChaCha.initState key a b c d = toVec (initW key a b c d) := rfl

def validNonce (nonce : Bytes) : Prop := nonce.length = 8 ∨ nonce.length = 12 ∨ nonce.length = 16

/-- the Spec layout in the words `init` loads: a 16-byte key is read twice, a 32-byte key in two halves; the nonce fills
    the end of the last row, the counter words before it are 0 -/
theorem layout_rows (key nonce : Bytes) (hk : Spec.ChaCha.validKey key) (hn : validNonce nonce) :
    Spec.ChaCha.layoutState key nonce = toVec
      ⟨word (Spec.ChaCha.constants key) 0, word (Spec.ChaCha.constants key) 1, word (Spec.ChaCha.constants key) 2,
       word (Spec.ChaCha.constants key) 3, read_u32_le key 0, read_u32_le key 4, read_u32_le key 8, read_u32_le key 12,
       read_u32_le key (key.length - 16), read_u32_le key (key.length - 12), read_u32_le key (key.length - 8),
       read_u32_le key (key.length - 4),
       if nonce.length = 16 then read_u32_le nonce 0 else 0,
       if 12 ≤ nonce.length then read_u32_le nonce (nonce.length - 12) else 0,
       read_u32_le nonce (nonce.length - 8), read_u32_le nonce (nonce.length - 4)⟩ := by
  rcases hk with hk | hk <;> rcases hn with hn | hn | hn <;>
    simp only [Spec.ChaCha.layoutState, Spec.ChaCha.ietfState, Spec.ChaCha.origState, initState_eq, initW,
      Spec.ChaCha.keyBytes, hk, hn, word_eq_read nonce, word_eq_read key, word_eq_read (key ++ key), dup_hi key,
      dup_lo key, Nat.reduceMul, Nat.reduceAdd, Nat.reduceSub, Nat.reduceLeDiff, Nat.reduceEqDiff, if_true, if_false] <;>
    rfl

/-! `layoutState` by nonce length: the HChaCha input, the IETF state of block 0, Bernstein's state of block 0 -/

theorem layoutState_16 {nonce : Bytes} (key : Bytes) (hn : nonce.length = 16) : Spec.ChaCha.layoutState key nonce =
    Spec.ChaCha.initState key (word nonce 0) (word nonce 1) (word nonce 2) (word nonce 3) := by
  rw [Spec.ChaCha.layoutState, if_pos hn]
theorem layoutState_12 {nonce : Bytes} (key : Bytes) (hn : nonce.length = 12) :
    Spec.ChaCha.layoutState key nonce = Spec.ChaCha.ietfState key nonce 0 := by
  rw [Spec.ChaCha.layoutState, if_neg (by omega), if_pos hn]
theorem layoutState_8 {nonce : Bytes} (key : Bytes) (hn : nonce.length = 8) :
    Spec.ChaCha.layoutState key nonce = Spec.ChaCha.origState key nonce 0 := by
  rw [Spec.ChaCha.layoutState, if_neg (by omega), if_neg (by omega)]

/-! Setting the counter word(s) of a block's state gives the state of the block named (a `Vector.set` at a literal index of the
    literal of `initState`, by evaluation).  With the three lemmas above this is what ties the keystream of a context's own words
    to the keystream of (key, nonce) in the constructor theorems. -/

theorem setCounter32_ietf (key nonce : Bytes) (c c' : UInt32) :
    Spec.ChaCha.setCounter32 (Spec.ChaCha.ietfState key nonce c) c' = Spec.ChaCha.ietfState key nonce c' := rfl
theorem setCounter64_orig (key nonce : Bytes) (c c' : UInt64) :
    Spec.ChaCha.setCounter64 (Spec.ChaCha.origState key nonce c) c' = Spec.ChaCha.origState key nonce c' := rfl

theorem ietf_of_orig (key n8 : Bytes) (c : UInt32) :
    Spec.ChaCha.ietfState key (zeros 4 ++ n8) c = Spec.ChaCha.setCounter32 (Spec.ChaCha.origState key n8 0) c := by
  have e0 : read_u32_le (zeros 4 ++ n8) 0 = 0 := by rw [read_append_left _ _ _ (by simp [zeros])]; decide
  have hr : ∀ i, read_u32_le (zeros 4 ++ n8) (i + 4) = read_u32_le n8 i := fun i => by
    rw [Nat.add_comm]; exact read_append_right (zeros 4) n8 i
  simp only [Spec.ChaCha.ietfState, Spec.ChaCha.origState, word_eq_read, Nat.reduceMul, hr, e0]
  rfl

theorem ok_of_map_eq_ok {α β : Type} {x : Except String α} {f : α → β} {v : β} (h : x.map f = .ok v) :
    ∃ s, x = .ok s ∧ f s = v := by
  cases x with
  | error e => simp [Except.map] at h
  | ok s => exact ⟨s, rfl, by simpa [Except.map] using h⟩

theorem reference_init (key nonce : Bytes) (hk : Spec.ChaCha.validKey key) (hn : validNonce nonce) :
    (Reference.init key nonce).map toVec = .ok (Spec.ChaCha.layoutState key nonce) := by
  rw [layout_rows key nonce hk hn]
  rcases hk with hk | hk <;> rcases hn with hn | hn | hn <;>
    simp [Reference.init, Reference.initNonce, Spec.ChaCha.constants, hk, hn, Except.map, cst16_reference, cst32_reference,
      W16.zero]

/-- the pre-repair `init` agreed with the Spec for 32-byte keys (for 16-byte keys it did not: `Cx.Props.C03.portable_initOld_defect`) -/
theorem referenceOld_init_32 (key nonce : Bytes) (hk : key.length = 32) (hn : validNonce nonce) :
    (Reference.initOld key nonce).map toVec = .ok (Spec.ChaCha.layoutState key nonce) := by
  have : Reference.initOld key nonce = Reference.init key nonce := by simp [Reference.initOld, hk]
  rw [this]; exact reference_init key nonce (Or.inr hk) hn

theorem sse2_init (key nonce : Bytes) (hk : Spec.ChaCha.validKey key) (hn : validNonce nonce) :
    (Sse2.init key nonce).map (fun s => toVec (toRef s)) = .ok (Spec.ChaCha.layoutState key nonce) := by
  rw [layout_rows key nonce hk hn]
  rcases hk with hk | hk <;> rcases hn with hn | hn | hn <;>
    simp [Sse2.init, Sse2.nonce, Sse2.key16, Sse2.key32, Sse2.constant16, Sse2.constant32, Sse2.ofWords,
      Sse2._mm_loadu_si128, Spec.ChaCha.constants, hk, hn, Except.map, toRef, cst16_sse2, cst32_sse2]

/-- C16: SSE2 lane loading = portable init, word for word -/
theorem sse2_init_eq_reference (key nonce : Bytes) (hk : Spec.ChaCha.validKey key) (hn : validNonce nonce) :
    (Sse2.init key nonce).map (fun s => toVec (toRef s)) = (Reference.init key nonce).map toVec := by
  rw [sse2_init key nonce hk hn, reference_init key nonce hk hn]

end Cx.Proofs.ChaCha
