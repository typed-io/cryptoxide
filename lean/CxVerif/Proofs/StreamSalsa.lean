/-
  Proofs.StreamSalsa — Salsa20: the code model (Impl.Salsa) = Bernstein's specification (Spec.Salsa): double round,
  expansion layout for every (key length, nonce length), 64-bit counter carry, HSalsa word selection,
  the refinement `refines` (a context runs the keystream of its own sixteen words, counter words 8 and 9 set), and the
  constructor statements `salsa_opens`, `xsalsa_opens`.
-/
import CxVerif.Impl.Salsa
import CxVerif.Spec.Salsa
import CxVerif.Proofs.StreamEngine
namespace Cx.Proofs.Salsa
open Cx.Impl Cx.Spec.Stream Cx.Proofs.Stream
open Cx.Proofs.ChaCha (toVec toVec_add_back word_eq_read read_take read_drop succ64
  ok_of_map_eq_ok toVec_inj dup_lo dup_hi)

theorem QR_eq (a b c d : UInt32) : Impl.Salsa.QR a b c d = Spec.Salsa.quarterRound a b c d := rfl

theorem qround_0_4_8_12 (x0 x1 x2 x3 x4 x5 x6 x7 x8 x9 x10 x11 x12 x13 x14 x15 : UInt32) :
    Spec.Salsa.qround #v[x0,x1,x2,x3,x4,x5,x6,x7,x8,x9,x10,x11,x12,x13,x14,x15] 0 4 8 12 =
      (match Impl.Salsa.QR x0 x4 x8 x12 with | (a,b,c,d) => #v[a,x1,x2,x3,b,x5,x6,x7,c,x9,x10,x11,d,x13,x14,x15]) := by
  unfold Spec.Salsa.qround; rfl
theorem qround_5_9_13_1 (x0 x1 x2 x3 x4 x5 x6 x7 x8 x9 x10 x11 x12 x13 x14 x15 : UInt32) :
    Spec.Salsa.qround #v[x0,x1,x2,x3,x4,x5,x6,x7,x8,x9,x10,x11,x12,x13,x14,x15] 5 9 13 1 =
      (match Impl.Salsa.QR x5 x9 x13 x1 with | (a,b,c,d) => #v[x0,d,x2,x3,x4,a,x6,x7,x8,b,x10,x11,x12,c,x14,x15]) := by
  unfold Spec.Salsa.qround; rfl
theorem qround_10_14_2_6 (x0 x1 x2 x3 x4 x5 x6 x7 x8 x9 x10 x11 x12 x13 x14 x15 : UInt32) :
    Spec.Salsa.qround #v[x0,x1,x2,x3,x4,x5,x6,x7,x8,x9,x10,x11,x12,x13,x14,x15] 10 14 2 6 =
      (match Impl.Salsa.QR x10 x14 x2 x6 with | (a,b,c,d) => #v[x0,x1,c,x3,x4,x5,d,x7,x8,x9,a,x11,x12,x13,b,x15]) := by
  unfold Spec.Salsa.qround; rfl
theorem qround_15_3_7_11 (x0 x1 x2 x3 x4 x5 x6 x7 x8 x9 x10 x11 x12 x13 x14 x15 : UInt32) :
    Spec.Salsa.qround #v[x0,x1,x2,x3,x4,x5,x6,x7,x8,x9,x10,x11,x12,x13,x14,x15] 15 3 7 11 =
      (match Impl.Salsa.QR x15 x3 x7 x11 with | (a,b,c,d) => #v[x0,x1,x2,b,x4,x5,x6,c,x8,x9,x10,d,x12,x13,x14,a]) := by
  unfold Spec.Salsa.qround; rfl
theorem qround_0_1_2_3 (x0 x1 x2 x3 x4 x5 x6 x7 x8 x9 x10 x11 x12 x13 x14 x15 : UInt32) :
    Spec.Salsa.qround #v[x0,x1,x2,x3,x4,x5,x6,x7,x8,x9,x10,x11,x12,x13,x14,x15] 0 1 2 3 =
      (match Impl.Salsa.QR x0 x1 x2 x3 with | (a,b,c,d) => #v[a,b,c,d,x4,x5,x6,x7,x8,x9,x10,x11,x12,x13,x14,x15]) := by
  unfold Spec.Salsa.qround; rfl
theorem qround_5_6_7_4 (x0 x1 x2 x3 x4 x5 x6 x7 x8 x9 x10 x11 x12 x13 x14 x15 : UInt32) :
    Spec.Salsa.qround #v[x0,x1,x2,x3,x4,x5,x6,x7,x8,x9,x10,x11,x12,x13,x14,x15] 5 6 7 4 =
      (match Impl.Salsa.QR x5 x6 x7 x4 with | (a,b,c,d) => #v[x0,x1,x2,x3,d,a,b,c,x8,x9,x10,x11,x12,x13,x14,x15]) := by
  unfold Spec.Salsa.qround; rfl
theorem qround_10_11_8_9 (x0 x1 x2 x3 x4 x5 x6 x7 x8 x9 x10 x11 x12 x13 x14 x15 : UInt32) :
    Spec.Salsa.qround #v[x0,x1,x2,x3,x4,x5,x6,x7,x8,x9,x10,x11,x12,x13,x14,x15] 10 11 8 9 =
      (match Impl.Salsa.QR x10 x11 x8 x9 with | (a,b,c,d) => #v[x0,x1,x2,x3,x4,x5,x6,x7,c,d,a,b,x12,x13,x14,x15]) := by
  unfold Spec.Salsa.qround; rfl
theorem qround_15_12_13_14 (x0 x1 x2 x3 x4 x5 x6 x7 x8 x9 x10 x11 x12 x13 x14 x15 : UInt32) :
    Spec.Salsa.qround #v[x0,x1,x2,x3,x4,x5,x6,x7,x8,x9,x10,x11,x12,x13,x14,x15] 15 12 13 14 =
      (match Impl.Salsa.QR x15 x12 x13 x14 with | (a,b,c,d) => #v[x0,x1,x2,x3,x4,x5,x6,x7,x8,x9,x10,x11,b,c,d,a]) := by
  unfold Spec.Salsa.qround; rfl

theorem doubleRound_eq (w : W16) : toVec (Impl.Salsa.doubleRound w) = Spec.Salsa.doubleRound (toVec w) := by
  cases w
  simp only [toVec, Spec.Salsa.doubleRound, Spec.Salsa.rowRound, Spec.Salsa.columnRound, Impl.Salsa.doubleRound,
    qround_0_4_8_12, qround_5_9_13_1, qround_10_14_2_6, qround_15_3_7_11,
    qround_0_1_2_3, qround_5_6_7_4, qround_10_11_8_9, qround_15_12_13_14]

theorem loop_eq (n : Nat) : ∀ w, toVec (Impl.Salsa.loop Impl.Salsa.doubleRound n w) = iter Spec.Salsa.doubleRound n (toVec w) := by
  induction n with
  | zero => intro w; rfl
  | succ n ih => intro w; simp only [Impl.Salsa.loop, iter, ih, doubleRound_eq]

theorem rounds_eq (R : Nat) (w : W16) : toVec (Impl.Salsa.rounds R w) = Spec.Salsa.rounds R (toVec w) := loop_eq (R / 2) w

theorem add_back_eq (a b : W16) : toVec (Impl.Salsa.add_back a b) = Spec.Salsa.addState (toVec a) (toVec b) :=
  toVec_add_back a b
theorem output_bytes_eq (w : W16) : Impl.Salsa.output_bytes w = Spec.Salsa.serialize (toVec w) := by cases w; rfl

theorem block_eq (R : Nat) (w : W16) : Impl.Salsa.block R w = Spec.Salsa.hash R (toVec w) := by
  simp only [Impl.Salsa.block, output_bytes_eq, add_back_eq, rounds_eq, Spec.Salsa.hash]

theorem serialize_length (s : Spec.Salsa.State) : (Spec.Salsa.serialize s).length = 64 := Cx.Proofs.ChaCha.serialize_length s
theorem block_length (R : Nat) (key nonce : Bytes) (c : UInt64) : (Spec.Salsa.block R key nonce c).length = 64 :=
  serialize_length _
theorem hsalsa_length (R : Nat) (key nonce : Bytes) : (Spec.Salsa.hsalsa R key nonce).length = 32 := by
  unfold Spec.Salsa.hsalsa
  rw [Bytes.flatMap_u32le_length]; rfl

theorem cst16 : Cx.Extracted.Stream.SALSA_CST16 = Spec.Salsa.tau := by decide +kernel
theorem cst32 : Cx.Extracted.Stream.SALSA_CST32 = Spec.Salsa.sigma := by decide +kernel

/-- the expansion as a record of sixteen words (`toVec` of it is `expand`, by `rfl`); the key words are rewritten here -/
def expandW (key : Bytes) (a b c d : UInt32) : W16 :=
  let cs := Spec.Salsa.constants key
  let k := Spec.Salsa.keyBytes key
  ⟨word cs 0, word k 0, word k 1, word k 2, word k 3, word cs 1, a, b, c, d, word cs 2, word k 4, word k 5, word k 6, word k 7,
   word cs 3⟩

theorem expand_eq (key : Bytes) (a b c d : UInt32) : Spec.Salsa.expand key a b c d = toVec (expandW key a b c d) := rfl

/-- the 16 input bytes `n` of the expansion by nonce length: nonce ‖ counter 0, or the HSalsa input -/
def layoutState (key nonce : Bytes) : Spec.Salsa.State :=
  if nonce.length = 16 then Spec.Salsa.expand key (word nonce 0) (word nonce 1) (word nonce 2) (word nonce 3)
  else Spec.Salsa.expand key (word nonce 0) (word nonce 1) 0 0

def validNonce (nonce : Bytes) : Prop := nonce.length = 8 ∨ nonce.length = 16

theorem layoutState_16 (key nonce : Bytes) (hn : nonce.length = 16) : layoutState key nonce =
    Spec.Salsa.expand key (word nonce 0) (word nonce 1) (word nonce 2) (word nonce 3) := by
  rw [layoutState, if_pos hn]

theorem layoutState_8 (key nonce : Bytes) (hn : nonce.length = 8) :
    layoutState key nonce = Spec.Salsa.expand key (word nonce 0) (word nonce 1) 0 0 := by
  simp only [layoutState, hn, show ¬ ((8 : Nat) = 16) by decide, if_false]

theorem init_layout (key nonce : Bytes) (hk : Spec.ChaCha.validKey key) (hn : validNonce nonce) :
    (Impl.Salsa.init key nonce).map toVec = .ok (layoutState key nonce) := by
  rcases hk with hk | hk <;> rcases hn with hn | hn <;>
    simp only [layoutState, expand_eq, expandW, Spec.Salsa.constants, Spec.Salsa.keyBytes, hk, hn, word_eq_read,
      dup_hi key, dup_lo key, Nat.reduceMul, Nat.reduceAdd, Nat.reduceLeDiff, Nat.reduceEqDiff, if_true, if_false] <;>
    simp [Impl.Salsa.init, hk, hn, Except.map, toVec, cst16, cst32, read_take, read_drop]

theorem hsalsa_eq (R : Nat) (key nonce : Bytes) (hn : nonce.length = 16) (h : W16) (hv : toVec h = layoutState key nonce) :
    Impl.Salsa.output_ad_bytes (Impl.Salsa.rounds R h) = Spec.Salsa.hsalsa R key nonce := by
  rw [layoutState_16 key nonce hn] at hv
  unfold Spec.Salsa.hsalsa
  rw [← hv, ← rounds_eq]
  generalize Impl.Salsa.rounds R h = z
  cases z; rfl

theorem inc_set64 (w : W16) (c : UInt64) :
    Impl.Salsa.increment (Impl.Salsa.verif_set_counter64 w c) = Impl.Salsa.verif_set_counter64 w (c + 1) := by
  simp only [Impl.Salsa.increment, Impl.Salsa.verif_set_counter64, succ64 c]
  by_cases h : c.toUInt32 + 1 = 0 <;> simp [h]

theorem set64_set64 (w : W16) (c c' : UInt64) :
    Impl.Salsa.verif_set_counter64 (Impl.Salsa.verif_set_counter64 w c) c' = Impl.Salsa.verif_set_counter64 w c' := rfl

/-- the 64-bit block counter of the specification's state: words 8 (low) and 9.  (Bounds by `decide`: the default bound tactic
    is slow on `Vector` indices.) -/
def setCounter (v : Spec.Salsa.State) (c : UInt64) : Spec.Salsa.State :=
  (v.set 8 c.toUInt32 (by decide)).set 9 (c >>> 32).toUInt32 (by decide)

theorem toVec_set64 (w : W16) (c : UInt64) : toVec (Impl.Salsa.verif_set_counter64 w c) = setCounter (toVec w) c := by
  cases w; rfl

def mkS (s0 : W16) (n : Nat) : W16 := Impl.Salsa.verif_set_counter64 s0 (UInt64.ofNat n)

/-- a `Salsa<R>` or `XSalsa<R>` context runs the keystream of its own state: block `n` is the Salsa20 hash of the sixteen
    words with the counter words 8, 9 set to `n` mod 2^64 -/
theorem refines (R : Nat) (s0 : W16) :
    MethodsRefine (Impl.Salsa.methods R) (mkS s0) (fun n => Spec.Salsa.hash R (setCounter (toVec s0) (UInt64.ofNat n))) :=
  methodsRefine_of_set64 (g := Impl.Salsa.gen R) (blk := fun c => Spec.Salsa.hash R (setCounter (toVec s0) c))
    (fun c => by
      show Impl.Salsa.block R _ = _
      rw [block_eq, toVec_set64])
    (fun _ => serialize_length _) (inc_set64 s0) (set64_set64 s0)

/-- setting the counter words of the expansion gives the expansion with that counter (a `Vector.set` on the literal of `expand`);
    with `layoutState_8` this ties the keystream of a context's own words to `Spec.Salsa.block` in the constructor theorems -/
theorem setCounter_expand (key : Bytes) (a b : UInt32) (c : UInt64) :
    setCounter (Spec.Salsa.expand key a b 0 0) c = Spec.Salsa.expand key a b c.toUInt32 (c >>> 32).toUInt32 := rfl

theorem mkS_zero (s0 : W16) (h : setCounter (toVec s0) 0 = toVec s0) : s0 = mkS s0 0 := by
  apply toVec_inj
  rw [mkS, toVec_set64]; exact h.symm

/-- `Impl.Salsa.roundsOk` and `Impl.ChaCha.roundsOk` are the same test -/
theorem roundsOk_iff (R : Nat) : Impl.Salsa.roundsOk R = true ↔ Spec.ChaCha.validRounds R := Cx.Proofs.ChaCha.roundsOk_iff R

theorem salsa_opens (R : Nat) (key nonce : Bytes) (hk : Spec.ChaCha.validKey key) (hn : nonce.length = 8)
    (hR : Spec.ChaCha.validRounds R) :
    Opens (Impl.Salsa.Salsa.new R key nonce) (Impl.Salsa.methods R) mkS (Spec.Salsa.blockAt R key nonce) := by
  obtain ⟨s0, hi, hv⟩ := ok_of_map_eq_ok (init_layout key nonce hk (Or.inl hn))
  rw [layoutState_8 key nonce hn] at hv
  -- `blockAt R key nonce n` unfolds to the hash of the expansion with counter `ofNat n`: the `rfl`s
  refine .intro s0 ?_ (refines R s0) (fun n => by rw [hv, setCounter_expand]; rfl) (mkS_zero s0 (by rw [hv, setCounter_expand]; rfl))
  have hk' : key.length = 16 ∨ key.length = 32 := hk
  simp [Impl.Salsa.Salsa.new, hn, hk', (roundsOk_iff R).2 hR, hi]

theorem blockAtX_length (R : Nat) (key nonce : Bytes) (n : Nat) : (Spec.Salsa.blockAtX R key nonce n).length = 64 := by
  unfold Spec.Salsa.blockAtX Spec.Salsa.xsalsaBlock; exact block_length _ _ _ _

/-- `XSalsa::<R>::new`: HSalsa subkey (words 0,5,10,15,6,7,8,9, no feed-forward), then Salsa with nonce[16..24] -/
theorem xsalsa_opens (R : Nat) (key nonce : Bytes) (hk : key.length = 32) (hn : nonce.length = 24)
    (hR : Spec.ChaCha.validRounds R) :
    Opens (Impl.Salsa.XSalsa.new R key nonce) (Impl.Salsa.methods R) mkS (Spec.Salsa.blockAtX R key nonce) := by
  have h16 : (nonce.take 16).length = 16 := by simp [hn]
  have h8 : (nonce.drop 16).length = 8 := by simp [hn]
  obtain ⟨h, hi, hv⟩ := ok_of_map_eq_ok (init_layout key (nonce.take 16) (Or.inr hk) (Or.inr h16))
  have hsub := hsalsa_eq R key (nonce.take 16) h16 h hv
  have hsubk : Spec.ChaCha.validKey (Spec.Salsa.hsalsa R key (nonce.take 16)) := Or.inr (hsalsa_length _ _ _)
  obtain ⟨s0, hi2, hv2⟩ := ok_of_map_eq_ok (init_layout _ (nonce.drop 16) hsubk (Or.inl h8))
  rw [layoutState_8 _ _ h8] at hv2
  have htake : (nonce.drop 16).take 8 = nonce.drop 16 := List.take_of_length_le (by omega)
  refine .intro s0 ?_ (refines R s0) (fun n => by rw [hv2, setCounter_expand]; rfl) (mkS_zero s0 (by rw [hv2, setCounter_expand]; rfl))
  simp [Impl.Salsa.XSalsa.new, hn, hk, (roundsOk_iff R).2 hR, hi, hsub, htake, hi2]

end Cx.Proofs.Salsa
