/-
  Proofs.StreamSse2 — C16(i): the SSE2-style row model (rows a,b,c,d of four lanes; `swizzle!` = lane rotations)
  computes the column/diagonal rounds of the portable engine, for every state and every R; counters, feed-forward
  and serialisation commute with the row↔word view `toRef`.
-/
import CxVerif.Proofs.StreamChaCha
import CxVerif.Proofs.SimdBits
namespace Cx.Proofs.ChaCha
open Cx.Impl Cx.Impl.ChaCha

/-- `(c << d) ^ (c >> (32 - d))` is the rotation, for every shift count 0 < d < 32: the two shifted halves do not overlap -/
theorem rot_xor_or (x : UInt32) (n : Nat) (h0 : 0 < n) (h : n < 32) :
    Sse2.shl x n ^^^ Sse2.shr x (32 - n) = rotl32 x n := by
  have h2 : 32 - n < 32 := by omega
  simp only [Sse2.shl, Sse2.shr, h, h2, if_true, rotl32]
  rw [show n % 32 = n by omega, show (32 - n) % 32 = 32 - n by omega, UInt32.xor_comm, UInt32.or_comm]
  exact (SimdBits.rotr_or_eq_xor x (32 - n) n (by omega) h0 (by omega)).symm

def toRef (s : Sse2.State) : W16 :=
  ⟨s.a.l0, s.a.l1, s.a.l2, s.a.l3, s.b.l0, s.b.l1, s.b.l2, s.b.l3,
   s.c.l0, s.c.l1, s.c.l2, s.c.l3, s.d.l0, s.d.l1, s.d.l2, s.d.l3⟩

def colR (w : W16) : W16 :=
  let q0 := Reference.QR w.x0 w.x4 w.x8 w.x12
  let q1 := Reference.QR w.x1 w.x5 w.x9 w.x13
  let q2 := Reference.QR w.x2 w.x6 w.x10 w.x14
  let q3 := Reference.QR w.x3 w.x7 w.x11 w.x15
  ⟨q0.1, q1.1, q2.1, q3.1, q0.2.1, q1.2.1, q2.2.1, q3.2.1, q0.2.2.1, q1.2.2.1, q2.2.2.1, q3.2.2.1, q0.2.2.2, q1.2.2.2, q2.2.2.2, q3.2.2.2⟩

/-- rows b,c,d rotated left by 1,2,3 lanes: diagonals become columns -/
def perm (w : W16) : W16 :=
  ⟨w.x0, w.x1, w.x2, w.x3, w.x5, w.x6, w.x7, w.x4, w.x10, w.x11, w.x8, w.x9, w.x15, w.x12, w.x13, w.x14⟩
def unperm (w : W16) : W16 :=
  ⟨w.x0, w.x1, w.x2, w.x3, w.x7, w.x4, w.x5, w.x6, w.x10, w.x11, w.x8, w.x9, w.x13, w.x14, w.x15, w.x12⟩

theorem ref_doubleRound (w : W16) : Reference.doubleRound w = unperm (colR (perm (colR w))) := by
  obtain ⟨x0,x1,x2,x3,x4,x5,x6,x7,x8,x9,x10,x11,x12,x13,x14,x15⟩ := w
  simp only [Reference.doubleRound, colR, perm, unperm]

theorem round_eq (s : Sse2.State) : toRef (Sse2.round s) = colR (toRef s) := by
  obtain ⟨⟨a0,a1,a2,a3⟩,⟨b0,b1,b2,b3⟩,⟨c0,c1,c2,c3⟩,⟨d0,d1,d2,d3⟩⟩ := s
  simp only [Sse2.round, Sse2.add_rotate_xor, Sse2._mm_add_epi32, Sse2._mm_xor_si128, Sse2._mm_slli_epi32,
    Sse2._mm_srli_epi32, toRef, colR, Reference.QR,
    rot_xor_or _ 16 (by omega) (by omega), rot_xor_or _ 12 (by omega) (by omega),
    rot_xor_or _ 8 (by omega) (by omega), rot_xor_or _ 7 (by omega) (by omega)]

/-- `swizzle!(b, c, d)` -/
def swz (s : Sse2.State) : Sse2.State :=
  match Sse2.swizzle s.b s.c s.d with | (b, c, d) => { s with b := b, c := c, d := d }
/-- `swizzle!(d, c, b)` -/
def unswz (s : Sse2.State) : Sse2.State :=
  match Sse2.swizzle s.d s.c s.b with | (d, c, b) => { s with b := b, c := c, d := d }

theorem swz_eq (s : Sse2.State) : toRef (swz s) = perm (toRef s) := rfl
theorem unswz_eq (s : Sse2.State) : toRef (unswz s) = unperm (toRef s) := rfl

theorem sse2_doubleRound_unfold (s : Sse2.State) : Sse2.doubleRound s = unswz (Sse2.round (swz (Sse2.round s))) := rfl

theorem sse2_doubleRound (s : Sse2.State) : toRef (Sse2.doubleRound s) = Reference.doubleRound (toRef s) := by
  rw [sse2_doubleRound_unfold, unswz_eq, round_eq, swz_eq, round_eq, ref_doubleRound]

theorem sse2_loop (n : Nat) : ∀ s, toRef (Sse2.loop Sse2.doubleRound n s) = Reference.loop Reference.doubleRound n (toRef s) := by
  induction n with
  | zero => intro s; rfl
  | succ n ih => intro s; simp only [Sse2.loop, Reference.loop, ih, sse2_doubleRound]

theorem sse2_rounds (R : Nat) (s : Sse2.State) : toRef (Sse2.rounds R s) = Reference.rounds R (toRef s) :=
  sse2_loop (R / 2) s

theorem sse2_add_back (s i : Sse2.State) : toRef (Sse2.add_back s i) = Reference.add_back (toRef s) (toRef i) := rfl
theorem sse2_output_bytes (s : Sse2.State) : Sse2.output_bytes s = Reference.output_bytes (toRef s) := by
  simp only [Sse2.output_bytes, Sse2._mm_storeu_si128, Reference.output_bytes, W16.output_bytes, W16.toList, toRef,
    List.flatMap_cons, List.flatMap_nil, List.append_assoc, List.append_nil]
theorem sse2_output_ad_bytes (s : Sse2.State) : Sse2.output_ad_bytes s = Reference.output_ad_bytes (toRef s) := by
  simp only [Sse2.output_ad_bytes, Sse2._mm_storeu_si128, Reference.output_ad_bytes, toRef,
    List.flatMap_cons, List.flatMap_nil, List.append_assoc, List.append_nil]

theorem u32_succ_eq_zero (x : UInt32) : x + 1 = 0 ↔ x = 0xFFFFFFFF := by
  constructor
  · intro h
    have : x = x + 1 - 1 := by rw [UInt32.add_sub_cancel]
    rw [this, h]; rfl
  · intro h; subst h; rfl

/-- `overflowing_add(1)` (SSE2) and `wrapping_add(1) == 0` (portable) are the same carry test -/
theorem sse2_increment64 (s : Sse2.State) : toRef (Sse2.increment64 s) = Reference.increment64 (toRef s) := by
  simp only [Sse2.increment64, Reference.increment64, toRef, u32_succ_eq_zero]
  split <;> rfl

end Cx.Proofs.ChaCha
