/-
  Proofs.X25519Arith — one ladder iteration of `curve25519`: the field arithmetic refines the
  RFC 7748 formulas (`BB + 121666·E = AA + 121665·E` since `E = AA − BB`).
-/
import CxVerif.Proofs.Fe64Chain
import CxVerif.Proofs.Fe64Pred
import CxVerif.Proofs.Fe64FromBytes
import CxVerif.Impl.X25519
import CxVerif.Proofs.X25519Step
namespace Cx.Proofs.X25519
open Cx.Spec Cx.Impl.Fe64 Cx.Impl.X25519 Cx.Proofs.Fe64

theorem a24_lemma (AA BB : Nat) :
    Field25519.add BB (Field25519.mul (Field25519.sub AA BB) 121666)
      = Field25519.add AA (Field25519.mul 121665 (Field25519.sub AA BB)) := by
  unfold Field25519.add Field25519.mul Field25519.sub
  simp only [p_eq]
  omega

/-- what the two variants of `z5` need: `&x1 * &t2` (x1 Tight, denotes `x1v`) or `t2.mul_small::<k>()` (`x1v = k`) -/
def Z5Ok (z5k : Z5) (x1v : Nat) : Prop :=
  match z5k with
  | .mulX1 x1 => Tight x1 ∧ eval x1 = x1v
  | .small k => k < 2^32 ∧ x1v = k

theorem A24P1_eq : A24P1 = 121666 := by decide
theorem A24P1_BASE_eq : A24P1_BASE = 121666 := by decide
theorem NINE_eq : NINE = 9 := by decide

theorem ladderArith_spec (z5k : Z5) (x1v : Nat) (hz5 : Z5Ok z5k x1v) (x2 z2 x3 z3 : Fe)
    (hx2 : Tight x2) (hz2 : Tight z2) (hx3 : Tight x3) (hz3 : Tight z3) :
    ∃ r, ladderArith 121666 z5k x2 z2 x3 z3 = some r ∧
      Tight r.1 ∧ Tight r.2.1 ∧ Tight r.2.2.1 ∧ Tight r.2.2.2 ∧
      (eval r.1, eval r.2.1, eval r.2.2.1, eval r.2.2.2) = specArith x1v (eval x2) (eval z2) (eval x3) (eval z3) := by
  simp only [ladderArith]
  refine bind_ok (sub_spec x3 z3 hx3.loose hz3.subOk) fun d ⟨td, vd⟩ => ?_
  refine bind_ok (sub_spec x2 z2 hx2.loose hz2.subOk) fun b ⟨tb, vb⟩ => ?_
  refine bind_ok (add_spec x2 z2 hx2.loose hz2.loose) fun a ⟨ta, va⟩ => ?_
  refine bind_ok (add_spec x3 z3 hx3.loose hz3.loose) fun c ⟨tc, vc⟩ => ?_
  refine bind_ok (mul_spec d a td.loose ta.loose) fun da ⟨tda, vda⟩ => ?_
  refine bind_ok (mul_spec c b tc.loose tb.loose) fun cb ⟨tcb, vcb⟩ => ?_
  refine bind_ok (square_spec b tb.loose) fun bb ⟨tbb, vbb⟩ => ?_
  refine bind_ok (square_spec a ta.loose) fun aa ⟨taa, vaa⟩ => ?_
  refine bind_ok (add_spec da cb tda.loose tcb.loose) fun t0 ⟨tt0, vt0⟩ => ?_
  refine bind_ok (sub_spec da cb tda.loose tcb.subOk) fun t1 ⟨tt1, vt1⟩ => ?_
  refine bind_ok (mul_spec aa bb taa.loose tbb.loose) fun x4 ⟨tx4, vx4⟩ => ?_
  refine bind_ok (sub_spec aa bb taa.loose tbb.subOk) fun ee ⟨tee, vee⟩ => ?_
  refine bind_ok (square_spec t1 tt1.loose) fun t2 ⟨tt2, vt2⟩ => ?_
  refine bind_ok (mul_small_spec ee 121666 tee.loose (by decide)) fun t3 ⟨tt3, vt3⟩ => ?_
  refine bind_ok (square_spec t0 tt0.loose) fun x5 ⟨tx5, vx5⟩ => ?_
  refine bind_ok (add_spec bb t3 tbb.loose tt3.loose) fun t4 ⟨tt4, vt4⟩ => ?_
  have hz5' : ∃ z5, z5Of z5k t2 = some z5 ∧ Tight z5 ∧ eval z5 = Field25519.mul x1v (eval t2) := by
    unfold z5Of
    cases z5k with
    | mulX1 x1 =>
      obtain ⟨h1, h2⟩ := hz5
      obtain ⟨z5, e, tz5, vz5⟩ := mul_spec x1 t2 h1.loose tt2.loose
      exact ⟨z5, e, tz5, by rw [vz5, h2]⟩
    | small k =>
      obtain ⟨h1, h2⟩ := hz5
      obtain ⟨z5, e, tz5, vz5⟩ := mul_small_spec t2 k tt2.loose h1
      exact ⟨z5, e, tz5, by rw [vz5, h2, Field25519.fmul_comm]⟩
  refine bind_ok hz5' fun z5 ⟨tz5, vz5⟩ => ?_
  refine bind_ok (mul_spec ee t4 tee.loose tt4.loose) fun z4 ⟨tz4, vz4⟩ => ?_
  refine ⟨_, rfl, tx4, tz4, tx5, tz5, ?_⟩
  simp only [specArith, X25519.a24]
  rw [vx4, vz4, vx5, vz5, vt4, vt3, vt2, vee, vt1, vt0, vaa, vbb, vcb, vda, vc, va, vb, vd, a24_lemma]

end Cx.Proofs.X25519
