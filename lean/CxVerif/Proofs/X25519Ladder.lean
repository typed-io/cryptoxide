/-
  Proofs.X25519Ladder — the Montgomery ladder of `curve25519` refines the RFC 7748 loop:
  bit extraction, masked swaps (C18), loop induction, final swap / inversion / encoding.
-/
import CxVerif.Proofs.X25519Arith
namespace Cx.Proofs.X25519
open Cx.Spec Cx.Impl.Fe64 Cx.Impl.X25519 Cx.Impl.CT Cx.Proofs.Fe64
open Cx.Props.C18 (Choice.ofBool)

theorem u8_bit (x : UInt8) (s : Nat) (hs : s < 8) :
    ((x >>> UInt8.ofNat s) &&& 1).toNat = x.toNat / 2^s % 2 := by
  rw [UInt8.toNat_and, UInt8.toNat_shiftRight]
  have : (UInt8.ofNat s).toNat % 8 = s := by
    simp only [UInt8.toNat_ofNat']; omega
  rw [this, Nat.shiftRight_eq_div_pow]
  exact Nat.and_one_is_mod _

theorem bitChoice_spec (e : Bytes) (he : e.length = 32) (pos : Nat) (hp : pos < 255) :
    bitChoice e he pos hp = Choice.ofBool (leNat e / 2^pos % 2 = 1) := by
  unfold bitChoice
  rw [Cx.Props.C18.u8_ct_nonzero_spec]
  have h7 : pos &&& 7 = pos % 8 := Nat.and_two_pow_sub_one_eq_mod pos 3
  have hb := u8_bit (e[pos / 8]'(by omega)) (pos &&& 7) (by omega)
  rw [h7] at hb
  rw [Bits.leNat_bit e pos (by omega), ← hb, h7]
  have h2 : (((e[pos / 8]'(by omega)) >>> UInt8.ofNat (pos % 8)) &&& 1).toNat < 2 := by
    rw [hb]; exact Nat.mod_lt _ (by decide)
  generalize ((e[pos / 8]'(by omega)) >>> UInt8.ofNat (pos % 8)) &&& 1 = y at h2
  unfold Choice.ofBool
  by_cases hy : y = 0
  · subst hy; simp
  · have : y.toNat ≠ 0 := fun h => hy (UInt8.toNat_inj.mp (by simpa using h))
    have : y.toNat = 1 := by omega
    simp [hy, this]

/-- the simulation relation between the code's registers and the RFC's variables -/
structure R (s : Ladder) (t : X25519.State) : Prop where
  tx2 : Tight s.x2
  tz2 : Tight s.z2
  tx3 : Tight s.x3
  tz3 : Tight s.z3
  vx2 : eval s.x2 = t.x2
  vz2 : eval s.z2 = t.z2
  vx3 : eval s.x3 = t.x3
  vz3 : eval s.z3 = t.z3
  sw : ∃ c : Bool, s.swap = Choice.ofBool c ∧ t.swap = c.toNat

theorem Tight.word {f : Fe} (h : Tight f) : Bnd (2^64) f := Bnd.mono (by decide) h

theorem arith_R (z5k : Z5) (x1v : Nat) (hz5 : Z5Ok z5k x1v) (a za b zb : Fe)
    (ta : Tight a) (tza : Tight za) (tb : Tight b) (tzb : Tight zb) (kb : Bool) :
    ∃ s', (ladderArith 121666 z5k a za b zb).map
        (fun r => (⟨r.1, r.2.1, r.2.2.1, r.2.2.2, Choice.ofBool kb⟩ : Ladder)) = some s' ∧
      R s' (let r := specArith x1v (eval a) (eval za) (eval b) (eval zb)
            ⟨r.1, r.2.1, r.2.2.1, r.2.2.2, kb.toNat⟩) := by
  obtain ⟨r, ea, t4, tz4, t5, tz5, hv⟩ := ladderArith_spec z5k x1v hz5 a za b zb ta tza tb tzb
  rw [ea, ← hv]
  exact ⟨_, rfl, t4, tz4, t5, tz5, rfl, rfl, rfl, rfl, kb, rfl, rfl⟩

theorem step_spec (e : Bytes) (he : e.length = 32) (z5k : Z5) (x1v : Nat) (hz5 : Z5Ok z5k x1v)
    (s : Ladder) (t : X25519.State) (hR : R s t) (pos : Nat) (hp : pos < 255) :
    ∃ s', ladderStep e he 121666 z5k s pos hp = some s' ∧ R s' (X25519.step (leNat e) x1v t pos) := by
  obtain ⟨tx2, tz2, tx3, tz3, vx2, vz2, vx3, vz3, c, hc, hct⟩ := hR
  unfold ladderStep ladderStepCore
  rw [bitChoice_spec e he pos hp, hc, Cx.Props.C18.choice_xor,
    maybe_swap_with_spec _ _ (Tight.word tx2) (Tight.word tx3),
    maybe_swap_with_spec _ _ (Tight.word tz2) (Tight.word tz3), step_bool _ _ _ _ c hct, ← vx2, ← vz2, ← vx3, ← vz3]
  generalize decide (leNat e / 2 ^ pos % 2 = 1) = kb
  cases c ^^ kb
  · exact arith_R z5k x1v hz5 s.x2 s.z2 s.x3 s.z3 tx2 tz2 tx3 tz3 kb
  · exact arith_R z5k x1v hz5 s.x3 s.z3 s.x2 s.z2 tx3 tz3 tx2 tz2 kb

theorem loop_spec (e : Bytes) (he : e.length = 32) (z5k : Z5) (x1v : Nat) (hz5 : Z5Ok z5k x1v) :
    ∀ (k : Nat) (hk : k ≤ 255) (s : Ladder) (t : X25519.State), R s t →
      ∃ s', ladderLoop e he 121666 z5k k hk s = some s' ∧
        R s' ((List.range k).reverse.foldl (X25519.step (leNat e) x1v) t) := by
  intro k
  induction k with
  | zero => intro hk s t hR; exact ⟨s, rfl, hR⟩
  | succ k ih =>
    intro hk s t hR
    obtain ⟨s1, h1, hR1⟩ := step_spec e he z5k x1v hz5 s t hR k (by omega)
    obtain ⟨s2, h2, hR2⟩ := ih (by omega) s1 _ hR1
    refine ⟨s2, ?_, ?_⟩
    · rw [ladderLoop, h1, Option.bind_some]; exact h2
    · rw [range_succ_reverse, List.foldl_cons]; exact hR2

theorem clampE_eq (n : Bytes) : clampE n = X25519.clamp n := rfl

theorem init_swap : u64_ct_zero 1 = Choice.ofBool false := by decide

theorem ladderMain_spec (n : Bytes) (hn : n.length = 32) (x1 : Fe) (hx1 : Tight x1) (z5k : Z5)
    (hz5 : Z5Ok z5k (eval x1)) :
    ladderMain n hn x1 121666 z5k
      = some (Field25519.encode (X25519.ladder (X25519.decodeScalar25519 n) (eval x1))) := by
  unfold ladderMain
  simp only []
  have hR0 : R ⟨Fe.ONE, Fe.ZERO, x1, Fe.ONE, u64_ct_zero 1⟩ ⟨1, 0, eval x1, 1, 0⟩ :=
    ⟨bnd51_tight ONE_spec.1, bnd51_tight ZERO_spec.1, hx1, bnd51_tight ONE_spec.1,
      ONE_spec.2, ZERO_spec.2, rfl, ONE_spec.2, ⟨false, init_swap, rfl⟩⟩
  obtain ⟨s, hs, hR⟩ := loop_spec (clampE n) (by rw [clampE_length]; exact hn) z5k (eval x1) hz5 255
    (by omega) _ _ hR0
  replace hR : R s (X25519.ladderState (X25519.decodeScalar25519 n) (eval x1)) := hR
  rw [hs, some_bind, ladder_sel]
  obtain ⟨tx2, tz2, tx3, tz3, vx2, vz2, vx3, vz3, c, hc, hct⟩ := hR
  rw [hc, maybe_swap_with_spec _ _ (Tight.word tx2) (Tight.word tx3),
    maybe_swap_with_spec _ _ (Tight.word tz2) (Tight.word tz3), hct]
  cases c
  · simp only [Bool.false_eq_true, if_false, Bool.toNat_false, Nat.zero_ne_one]
    obtain ⟨zi, e, tzi, vzi⟩ := invert_spec s.z2 tz2.loose; rw [e, some_bind]
    obtain ⟨r, e, tr, vr⟩ := mul_spec zi s.x2 tzi.loose tx2.loose; rw [e, some_bind]
    rw [to_bytes_spec r tr.loose, vr, vzi, vx2, vz2, Field25519.fmul_comm]
    rfl
  · simp only [if_true, Bool.toNat_true]
    obtain ⟨zi, e, tzi, vzi⟩ := invert_spec s.z3 tz3.loose; rw [e, some_bind]
    obtain ⟨r, e, tr, vr⟩ := mul_spec zi s.x3 tzi.loose tx3.loose; rw [e, some_bind]
    rw [to_bytes_spec r tr.loose, vr, vzi, vx3, vz3, Field25519.fmul_comm]
    rfl

end Cx.Proofs.X25519
