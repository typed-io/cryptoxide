/-
  Proofs.X25519Step — the RFC 7748 loop of `Spec.X25519` taken apart: one iteration is a swap decision followed
  by the field formulas `specArith`; the result is the register pair selected by the last pending swap.
  Shared by the refinement proofs of both backends and by the proof that the ladder multiplies on the curve.
-/
import CxVerif.Spec.X25519
namespace Cx.Proofs.X25519
open Cx.Spec
open Cx.Spec.Field25519 (p)

/-- the RFC 7748 formulas of one iteration on the (already swapped) registers -/
def specArith (x1 x2 z2 x3 z3 : Nat) : Nat × Nat × Nat × Nat :=
  let A := Field25519.add x2 z2
  let AA := Field25519.sq A
  let B := Field25519.sub x2 z2
  let BB := Field25519.sq B
  let E := Field25519.sub AA BB
  let C := Field25519.add x3 z3
  let D := Field25519.sub x3 z3
  let DA := Field25519.mul D A
  let CB := Field25519.mul C B
  (Field25519.mul AA BB, Field25519.mul E (Field25519.add AA (Field25519.mul X25519.a24 E)),
   Field25519.sq (Field25519.add DA CB), Field25519.mul x1 (Field25519.sq (Field25519.sub DA CB)))

theorem step_eq (k x1 : Nat) (s : X25519.State) (t : Nat) :
    X25519.step k x1 s t =
      (if (s.swap + k / 2 ^ t % 2) % 2 = 1 then
        let r := specArith x1 s.x3 s.z3 s.x2 s.z2
        ⟨r.1, r.2.1, r.2.2.1, r.2.2.2, k / 2 ^ t % 2⟩
      else
        let r := specArith x1 s.x2 s.z2 s.x3 s.z3
        ⟨r.1, r.2.1, r.2.2.1, r.2.2.2, k / 2 ^ t % 2⟩) := by
  simp only [X25519.step, X25519.cswap, specArith]
  split <;> rfl

/-- the same with the swap decision in Booleans, as the code computes it: pending swap `c`, key bit `k_t`, swap iff `c ^^ k_t` -/
theorem step_bool (k x1 : Nat) (s : X25519.State) (t : Nat) (c : Bool) (hc : s.swap = c.toNat) :
    X25519.step k x1 s t =
      (let r :=
        if (c ^^ decide (k / 2 ^ t % 2 = 1)) = true then specArith x1 s.x3 s.z3 s.x2 s.z2
        else specArith x1 s.x2 s.z2 s.x3 s.z3
      ⟨r.1, r.2.1, r.2.2.1, r.2.2.2, (decide (k / 2 ^ t % 2 = 1)).toNat⟩) := by
  rw [step_eq, hc]
  rcases Nat.mod_two_eq_zero_or_one (k / 2 ^ t) with h | h <;> rw [h] <;> cases c <;> rfl

theorem range_succ_reverse (k : Nat) : (List.range (k + 1)).reverse = k :: (List.range k).reverse := by
  rw [List.range_succ, List.reverse_append]; rfl

theorem ladder_sel (k u : Nat) : X25519.ladder k u =
    if (X25519.ladderState k u).swap = 1
    then Field25519.mul (X25519.ladderState k u).x3 (Field25519.pow (X25519.ladderState k u).z3 (p - 2))
    else Field25519.mul (X25519.ladderState k u).x2 (Field25519.pow (X25519.ladderState k u).z2 (p - 2)) := by
  rw [X25519.ladder]
  -- `cases` (not `unfold`/`generalize`) keeps the 255-fold `ladderState k u` out of every definitional unfolding
  cases X25519.ladderState k u with | mk x2 z2 x3 z3 sw =>
  by_cases h : sw = 1 <;> simp only [X25519.cswap, h, ↓reduceIte]

end Cx.Proofs.X25519
