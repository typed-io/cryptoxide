/-
  Proofs.X25519_32Ladder — the Montgomery ladder of `curve25519` on the 32-BIT field backend refines the RFC 7748 loop.
  Counterpart of Proofs/X25519Arith.lean + Proofs/X25519Ladder.lean, whose backend-independent parts are reused (the
  RFC formulas `specArith`, `a24_lemma`, the extracted constants, `bitChoice_spec`, the clamping).
  Weight discipline of one iteration (registers x2 z2 x3 z3 of weight 1 on entry and on exit):
      d, b, a, c = x ∓ z                 2        da, cb, bb, aa (products / squares of weight-2 operands)   1
      t0, t1 = da ± cb;  e = aa − bb     2        x4 = aa·bb, t2 = t1², x5 = t0²                             1
      t3 = e.mul_small::<121666>()       1   (operand weight 2 ≤ 3, constant ≤ 2^18)
      t4 = bb + t3                       2        z5 = x1·t2 | t2.mul_small::<9>(),  z4 = e·t4               1
  and the masked swaps act on `[i32; 10]` arrays whose limbs are `i32` values (weight ≤ 63).
-/
import CxVerif.Proofs.Ge32Refine
import CxVerif.Proofs.Fe32Bytes
import CxVerif.Proofs.Fe32FromBytes
import CxVerif.Proofs.X25519Ladder
import CxVerif.Impl.X25519_32
namespace Cx.Proofs.X25519_32
open Cx.Spec Cx.Impl.Fe32 Cx.Impl.X25519_32 Cx.Impl.CT Cx.Proofs.Fe32
open Cx.Spec.Field25519 (p)
open Cx.Props.C18 (Choice.ofBool)
open Cx.Impl.X25519 (clampE clampE_length)
open Cx.Proofs.X25519 (specArith a24_lemma bitChoice_spec range_succ_reverse init_swap step_bool ladder_sel)

/-- what the two variants of `z5` need: `&x1 * &t2` (x1 W 1, denotes `x1v`) or `t2.mul_small::<k>()` (`x1v = k`) -/
def Z5Ok (z5k : Z5) (x1v : Nat) : Prop :=
  match z5k with
  | .mulX1 x1 => W 1 x1 ∧ eval x1 = x1v
  | .small k => k ≤ 2^18 ∧ x1v = k

theorem ladderArith_spec (z5k : Z5) (x1v : Nat) (hz5 : Z5Ok z5k x1v) (x2 z2 x3 z3 : Fe)
    (hx2 : W 1 x2) (hz2 : W 1 z2) (hx3 : W 1 x3) (hz3 : W 1 z3) :
    ∃ r, ladderArith 121666 z5k x2 z2 x3 z3 = some r ∧
      W 1 r.1 ∧ W 1 r.2.1 ∧ W 1 r.2.2.1 ∧ W 1 r.2.2.2 ∧
      (eval r.1, eval r.2.1, eval r.2.2.1, eval r.2.2.2) = specArith x1v (eval x2) (eval z2) (eval x3) (eval z3) := by
  simp only [ladderArith]
  refine bind_ok (sub_specN x3 z3 hx3 hz3) fun d ⟨td, vd⟩ => ?_
  refine bind_ok (sub_specN x2 z2 hx2 hz2) fun b ⟨tb, vb⟩ => ?_
  refine bind_ok (add_specN x2 z2 hx2 hz2) fun a ⟨ta, va⟩ => ?_
  refine bind_ok (add_specN x3 z3 hx3 hz3) fun c ⟨tc, vc⟩ => ?_
  refine bind_ok (mul_spec d a td.w3 ta.w3) fun da ⟨tda, vda⟩ => ?_
  refine bind_ok (mul_spec c b tc.w3 tb.w3) fun cb ⟨tcb, vcb⟩ => ?_
  refine bind_ok (square_spec b tb.w3) fun bb ⟨tbb, vbb⟩ => ?_
  refine bind_ok (square_spec a ta.w3) fun aa ⟨taa, vaa⟩ => ?_
  refine bind_ok (add_specN da cb tda tcb) fun t0 ⟨tt0, vt0⟩ => ?_
  refine bind_ok (sub_specN da cb tda tcb) fun t1 ⟨tt1, vt1⟩ => ?_
  refine bind_ok (mul_spec aa bb taa.w3 tbb.w3) fun x4 ⟨tx4, vx4⟩ => ?_
  refine bind_ok (sub_specN aa bb taa tbb) fun ee ⟨tee, vee⟩ => ?_
  refine bind_ok (square_spec t1 tt1.w3) fun t2 ⟨tt2, vt2⟩ => ?_
  refine bind_ok (mul_small_spec ee 121666 tee.w3 (by decide)) fun t3 ⟨tt3, vt3⟩ => ?_
  refine bind_ok (square_spec t0 tt0.w3) fun x5 ⟨tx5, vx5⟩ => ?_
  refine bind_ok (add_specN bb t3 tbb tt3) fun t4 ⟨tt4, vt4⟩ => ?_
  have hz5' : ∃ z5, z5Of z5k t2 = some z5 ∧ W 1 z5 ∧ eval z5 = Field25519.mul x1v (eval t2) := by
    unfold z5Of
    cases z5k with
    | mulX1 x1 =>
      obtain ⟨h1, h2⟩ := hz5
      obtain ⟨z5, e, tz5, vz5⟩ := mul_spec x1 t2 h1.w3 tt2.w3
      exact ⟨z5, e, tz5, by rw [vz5, h2]⟩
    | small k =>
      obtain ⟨h1, h2⟩ := hz5
      obtain ⟨z5, e, tz5, vz5⟩ := mul_small_spec t2 k tt2.w3 h1
      exact ⟨z5, e, tz5, by rw [vz5, h2, Field25519.fmul_comm]⟩
  refine bind_ok hz5' fun z5 ⟨tz5, vz5⟩ => ?_
  refine bind_ok (mul_spec ee t4 tee.w3 tt4.w3) fun z4 ⟨tz4, vz4⟩ => ?_
  refine ⟨_, rfl, tx4, tz4, tx5, tz5, ?_⟩
  simp only [specArith, X25519.a24]
  rw [vx4, vz4, vx5, vz5, vt4, vt3, vt2, vee, vt1, vt0, vaa, vbb, vcb, vda, vc, va, vb, vd, a24_lemma]

/-- the simulation relation between the code's registers and the RFC's variables -/
structure R (s : Ladder) (t : X25519.State) : Prop where
  tx2 : W 1 s.x2
  tz2 : W 1 s.z2
  tx3 : W 1 s.x3
  tz3 : W 1 s.z3
  vx2 : eval s.x2 = t.x2
  vz2 : eval s.z2 = t.z2
  vx3 : eval s.x3 = t.x3
  vz3 : eval s.z3 = t.z3
  sw : ∃ c : Bool, s.swap = Choice.ofBool c ∧ t.swap = c.toNat

theorem arith_R (z5k : Z5) (x1v : Nat) (hz5 : Z5Ok z5k x1v) (a za b zb : Fe)
    (ta : W 1 a) (tza : W 1 za) (tb : W 1 b) (tzb : W 1 zb) (kb : Bool) :
    ∃ s', (ladderArith 121666 z5k a za b zb).map
        (fun r => (⟨r.1, r.2.1, r.2.2.1, r.2.2.2, Choice.ofBool kb⟩ : Ladder)) = some s' ∧
      R s' (let r := specArith x1v (eval a) (eval za) (eval b) (eval zb)
            ⟨r.1, r.2.1, r.2.2.1, r.2.2.2, kb.toNat⟩) := by
  obtain ⟨r, ea, t4, tz4, t5, tz5, hv⟩ := ladderArith_spec z5k x1v hz5 a za b zb ta tza tb tzb
  rw [ea, ← hv]
  exact ⟨_, rfl, t4, tz4, t5, tz5, rfl, rfl, rfl, rfl, kb, rfl, rfl⟩

theorem step_spec (e : Bytes) (he : e.length = 32) (z5k : Z5) (x1v : Nat) (hz5 : Z5Ok z5k x1v)
    (s : Ladder) (t : X25519.State) (hR : R s t) (pos : Nat) (hp : pos < 255) :
    ∃ s', ladderStep e he 121666 z5k s pos hp = some s' ∧ R s' (X25519.step (leNat e) x1v t pos) := by
  obtain ⟨tx2, tz2, tx3, tz3, vx2, vz2, vx3, vz3, c, hc, hct⟩ := hR
  unfold ladderStep ladderStepCore
  rw [bitChoice_spec e he pos hp, hc, Cx.Props.C18.choice_xor,
    maybe_swap_with_spec _ _ tx2.i32 tx3.i32, maybe_swap_with_spec _ _ tz2.i32 tz3.i32,
    step_bool _ _ _ _ c hct, ← vx2, ← vz2, ← vx3, ← vz3]
  generalize decide (leNat e / 2 ^ pos % 2 = 1) = kb
  cases c ^^ kb
  · exact arith_R z5k x1v hz5 s.x2 s.z2 s.x3 s.z3 tx2 tz2 tx3 tz3 kb
  · exact arith_R z5k x1v hz5 s.x3 s.z3 s.x2 s.z2 tx3 tz3 tx2 tz2 kb

theorem loop_spec (e : Bytes) (he : e.length = 32) (z5k : Z5) (x1v : Nat) (hz5 : Z5Ok z5k x1v) :
    ∀ (k : Nat) (hk : k ≤ 255) (s : Ladder) (t : X25519.State), R s t →
      ∃ s', ladderLoop e he 121666 z5k k hk s = some s' ∧
        R s' ((List.range k).reverse.foldl (X25519.step (leNat e) x1v) t) := by
  intro k
  induction k with
  | zero => intro hk s t hR; exact ⟨s, rfl, hR⟩
  | succ k ih =>
    intro hk s t hR
    obtain ⟨s1, h1, hR1⟩ := step_spec e he z5k x1v hz5 s t hR k (by omega)
    obtain ⟨s2, h2, hR2⟩ := ih (by omega) s1 _ hR1
    refine ⟨s2, ?_, ?_⟩
    · rw [ladderLoop, h1, Option.bind_some]; exact h2
    · rw [range_succ_reverse, List.foldl_cons]; exact hR2

theorem finish_spec (x z : Fe) (tx : W 1 x) (tz : W 1 z) :
    (do let zi ← invert z; let r ← mul zi x; to_bytes r)
      = some (Field25519.encode (Field25519.mul (eval x) (Field25519.pow (eval z) (p - 2)))) := by
  obtain ⟨zi, e, tzi, vzi⟩ := invert_spec z tz.w3; rw [e, some_bind]
  obtain ⟨r, e, tr, vr⟩ := mul_spec zi x tzi.w3 tx.w3; rw [e, some_bind]
  rw [to_bytes_spec r tr.w6, vr, vzi, Field25519.fmul_comm]
  rfl

theorem ladderMain_spec (n : Bytes) (hn : n.length = 32) (x1 : Fe) (hx1 : W 1 x1) (z5k : Z5)
    (hz5 : Z5Ok z5k (eval x1)) :
    ladderMain n hn x1 121666 z5k
      = some (Field25519.encode (X25519.ladder (X25519.decodeScalar25519 n) (eval x1))) := by
  have hR0 : R ⟨Fe.ONE, Fe.ZERO, x1, Fe.ONE, u64_ct_zero 1⟩ ⟨1, 0, eval x1, 1, 0⟩ :=
    ⟨ONE_spec.1, ZERO_spec.1, hx1, ONE_spec.1,
      ONE_spec.2, ZERO_spec.2, rfl, ONE_spec.2, ⟨false, init_swap, rfl⟩⟩
  obtain ⟨s, hs, hR⟩ := loop_spec (clampE n) (by rw [clampE_length]; exact hn) z5k (eval x1) hz5 255
    (by omega) _ _ hR0
  replace hR : R s (X25519.ladderState (X25519.decodeScalar25519 n) (eval x1)) := hR
  obtain ⟨tx2, tz2, tx3, tz3, vx2, vz2, vx3, vz3, c, hc, hct⟩ := hR
  unfold ladderMain
  simp only []
  rw [hs, some_bind, ladder_sel, hc, maybe_swap_with_spec _ _ tx2.i32 tx3.i32,
    maybe_swap_with_spec _ _ tz2.i32 tz3.i32, hct, ← vx2, ← vz2, ← vx3, ← vz3]
  cases c
  · exact finish_spec s.x2 s.z2 tx2 tz2
  · exact finish_spec s.x3 s.z3 tx3 tz3

/-- `curve25519(n, p)` on the 32-bit backend does not overflow and is X25519 of RFC 7748, for all 32-byte inputs -/
theorem curve25519_eq (n u : Bytes) (hn : n.length = 32) (hu : u.length = 32) :
    curve25519 n u hn hu = some (X25519.x25519 n u) := by
  obtain ⟨x1, e1, t1, _, v1⟩ := from_bytes_spec u hu
  unfold curve25519
  rw [e1, Option.bind_some]
  have hz : Z5Ok (.mulX1 x1) (eval x1) := ⟨t1, rfl⟩
  rw [Cx.Proofs.X25519.A24P1_eq, ladderMain_spec n hn _ t1 _ hz, v1]
  rfl

end Cx.Proofs.X25519_32
