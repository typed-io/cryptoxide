/-
  Props.C01.Blake2 — C01 (iv), (vi) for BLAKE2b / BLAKE2s: the one-shot digests of the code-shaped model
  (Impl.Blake2: Context<BITS> / ContextDyn, key block, lazy last block, two-word counter, last-block flag,
  parameter word, output truncation) equal RFC 7693 (Spec.Blake2) for EVERY message, every legal output length
  and every legal key; refused parameters are exactly those outside the RFC's domain; table obligations.

  `.wrapping` is the code as it is (increment_counter uses wrapping_add); the theorems for it carry NO length
  hypothesis (the model agrees with the Spec's `F`, which reduces the offset counter mod 2^(2w); the RFC's own
  domain is total length < 2^128 for b, < 2^64 for s).  `.checked` is the former `+=` in an overflow-checked
  build: equal to the Spec below 2^64 (b) / 2^32 (s) bytes, a panic from there on (C20, Props/C20/Blake2.lean).
  Helpers: Proofs/Blake2.lean, Proofs/Blake2Tables.lean.  The compression core (G, round, F skeleton) is one
  definition used by Spec and Impl (`Spec.Blake2.compressCore`); that the source text of `compress_b` / `compress_s` in
  reference.rs IS that core is the tie of Props/C01/KernelTieBlake2.lean; its instantiation with the extracted tables
  vs the RFC constants is `compress_eq_F_*` below.
-/
import CxVerif.Proofs.Blake2
namespace Cx.Props.C01
open Cx.Proofs.Blake2
open Cx.Impl.Blake2 (Profile)

/-- BLAKE2b through `ContextDyn` = RFC 7693, ∀ msg, 1 ≤ outlen ≤ 64, keylen ≤ 64 (the code as it is) -/
theorem blake2b_eq_spec (outlen : Nat) (key msg : Bytes) (ho : 1 ≤ outlen ∧ outlen ≤ 64) (hk : key.length ≤ 64) :
    Impl.Blake2.blake2b .wrapping outlen key msg = some (Spec.Blake2.blake2b outlen key msg) := by
  unfold Impl.Blake2.blake2b
  rw [impl_b_eq_spec_b]
  exact blake2_dyn_eq_spec Spec.Blake2.b good_b .wrapping outlen key msg ho hk (fits_wrapping _ _)

/-- BLAKE2s through `ContextDyn` = RFC 7693, ∀ msg, 1 ≤ outlen ≤ 32, keylen ≤ 32 -/
theorem blake2s_eq_spec (outlen : Nat) (key msg : Bytes) (ho : 1 ≤ outlen ∧ outlen ≤ 32) (hk : key.length ≤ 32) :
    Impl.Blake2.blake2s .wrapping outlen key msg = some (Spec.Blake2.blake2s outlen key msg) := by
  unfold Impl.Blake2.blake2s
  rw [impl_s_eq_spec_s]
  exact blake2_dyn_eq_spec Spec.Blake2.s good_s .wrapping outlen key msg ho hk (fits_wrapping _ _)

/-- BLAKE2b through `Context<BITS>` (output bytes = ⌈BITS/8⌉), ∀ msg, 1 ≤ BITS, ⌈BITS/8⌉ ≤ 64, keylen ≤ 64 -/
theorem blake2b_ctx_eq_spec (BITS : Nat) (key msg : Bytes) (hb : 0 < BITS ∧ (BITS + 7) / 8 ≤ 64) (hk : key.length ≤ 64) :
    Impl.Blake2.blake2b_ctx .wrapping BITS key msg = some (Spec.Blake2.blake2b ((BITS + 7) / 8) key msg) := by
  unfold Impl.Blake2.blake2b_ctx
  rw [impl_b_eq_spec_b]
  exact blake2_ctx_eq_spec Spec.Blake2.b good_b .wrapping BITS key msg hb hk (fits_wrapping _ _)

theorem blake2s_ctx_eq_spec (BITS : Nat) (key msg : Bytes) (hb : 0 < BITS ∧ (BITS + 7) / 8 ≤ 32) (hk : key.length ≤ 32) :
    Impl.Blake2.blake2s_ctx .wrapping BITS key msg = some (Spec.Blake2.blake2s ((BITS + 7) / 8) key msg) := by
  unfold Impl.Blake2.blake2s_ctx
  rw [impl_s_eq_spec_s]
  exact blake2_ctx_eq_spec Spec.Blake2.s good_s .wrapping BITS key msg hb hk (fits_wrapping _ _)

/-- the one-shot functions `hashing::blake2b_224/256/384/512(input)` = `Blake2b::<BITS>::new().update(input).finalize()`
    = RFC 7693 unkeyed BLAKE2b with nn = BITS/8, ∀ input -/
theorem hashing_blake2b_fixed (BITS : Nat) (hB : BITS ∈ [224, 256, 384, 512]) (msg : Bytes) :
    Impl.Blake2.hashing_blake2 Impl.Blake2.b .wrapping BITS msg
      = some (Spec.Blake2.blake2b (BITS / 8) [] msg) := by
  rw [impl_b_eq_spec_b]
  have h : BITS % 8 = 0 ∧ 0 < BITS ∧ BITS / 8 ≤ 64 := by
    simp only [List.mem_cons, List.not_mem_nil, or_false] at hB
    rcases hB with h | h | h | h <;> subst h <;> decide
  unfold Spec.Blake2.blake2b
  exact blake2_fixed_eq_spec Spec.Blake2.b good_b .wrapping BITS msg h.1 h.2 (fits_wrapping _ _)

/-- `hashing::blake2s_224/256` -/
theorem hashing_blake2s_fixed (BITS : Nat) (hB : BITS ∈ [224, 256]) (msg : Bytes) :
    Impl.Blake2.hashing_blake2 Impl.Blake2.s .wrapping BITS msg
      = some (Spec.Blake2.blake2s (BITS / 8) [] msg) := by
  rw [impl_s_eq_spec_s]
  have h : BITS % 8 = 0 ∧ 0 < BITS ∧ BITS / 8 ≤ 32 := by
    simp only [List.mem_cons, List.not_mem_nil, or_false] at hB
    rcases hB with h | h <;> subst h <;> decide
  unfold Spec.Blake2.blake2s
  exact blake2_fixed_eq_spec Spec.Blake2.s good_s .wrapping BITS msg h.1 h.2 (fits_wrapping _ _)

/-- the former `+=` in an overflow-checked build: equal to RFC 7693 while the low counter word cannot overflow,
    i.e. key block + message < 2^64 bytes (BLAKE2b) -/
theorem blake2b_eq_spec_checked (outlen : Nat) (key msg : Bytes) (ho : 1 ≤ outlen ∧ outlen ≤ 64) (hk : key.length ≤ 64)
    (hlen : (if key.isEmpty then 0 else 128) + msg.length < 2 ^ 64) :
    Impl.Blake2.blake2b .checked outlen key msg = some (Spec.Blake2.blake2b outlen key msg) := by
  unfold Impl.Blake2.blake2b
  rw [impl_b_eq_spec_b]
  exact blake2_dyn_eq_spec Spec.Blake2.b good_b .checked outlen key msg ho hk
    (Or.inr (show 0 % 2 ^ 64 + ((if key.isEmpty then 0 else 128) + msg.length) < 2 ^ 64 by
      rw [Nat.zero_mod, Nat.zero_add]; exact hlen))

/-- … < 2^32 bytes (BLAKE2s) -/
theorem blake2s_eq_spec_checked (outlen : Nat) (key msg : Bytes) (ho : 1 ≤ outlen ∧ outlen ≤ 32) (hk : key.length ≤ 32)
    (hlen : (if key.isEmpty then 0 else 64) + msg.length < 2 ^ 32) :
    Impl.Blake2.blake2s .checked outlen key msg = some (Spec.Blake2.blake2s outlen key msg) := by
  unfold Impl.Blake2.blake2s
  rw [impl_s_eq_spec_s]
  exact blake2_dyn_eq_spec Spec.Blake2.s good_s .checked outlen key msg ho hk
    (Or.inr (show 0 % 2 ^ 32 + ((if key.isEmpty then 0 else 64) + msg.length) < 2 ^ 32 by
      rw [Nat.zero_mod, Nat.zero_add]; exact hlen))

/-- hypotheses are satisfiable by non-trivial inputs (keyed BLAKE2b-256 of a 3-block message) -/
example : (1 ≤ 32 ∧ 32 ≤ 64) ∧ ([7, 7, 7, 7] : Bytes).length ≤ 64 ∧
    (if ([7, 7, 7, 7] : Bytes).isEmpty then 0 else 128) + (List.replicate 300 (1 : UInt8)).length < 2 ^ 64 := by
  rw [List.length_replicate]; decide

/-- refusal (C20 part): outside `1 ≤ outlen ≤ 64 ∧ keylen ≤ 64` the constructor panics, no value is returned -/
theorem blake2b_refuses (pr : Profile) (outlen : Nat) (key msg : Bytes) (h : ¬ (0 < outlen ∧ outlen ≤ 64 ∧ key.length ≤ 64)) :
    Impl.Blake2.blake2b pr outlen key msg = none := by
  unfold Impl.Blake2.blake2b
  rw [impl_b_eq_spec_b]
  exact blake2_dyn_refuses Spec.Blake2.b pr outlen key msg h

theorem blake2s_refuses (pr : Profile) (outlen : Nat) (key msg : Bytes) (h : ¬ (0 < outlen ∧ outlen ≤ 32 ∧ key.length ≤ 32)) :
    Impl.Blake2.blake2s pr outlen key msg = none := by
  unfold Impl.Blake2.blake2s
  rw [impl_s_eq_spec_s]
  exact blake2_dyn_refuses Spec.Blake2.s pr outlen key msg h

theorem blake2b_ctx_refuses (pr : Profile) (BITS : Nat) (key msg : Bytes)
    (h : ¬ (0 < BITS ∧ (BITS + 7) / 8 ≤ 64 ∧ key.length ≤ 64)) : Impl.Blake2.blake2b_ctx pr BITS key msg = none := by
  unfold Impl.Blake2.blake2b_ctx
  rw [impl_b_eq_spec_b]
  exact blake2_ctx_refuses Spec.Blake2.b pr BITS key msg h

theorem blake2s_ctx_refuses (pr : Profile) (BITS : Nat) (key msg : Bytes)
    (h : ¬ (0 < BITS ∧ (BITS + 7) / 8 ≤ 32 ∧ key.length ≤ 32)) : Impl.Blake2.blake2s_ctx pr BITS key msg = none := by
  unfold Impl.Blake2.blake2s_ctx
  rw [impl_s_eq_spec_s]
  exact blake2_ctx_refuses Spec.Blake2.s pr BITS key msg h

/-! ### compression: the code's instantiation of the shared core = the RFC's `F` -/

/-- `reference::compress_b` (extracted IV, rotation constants, 12-row SIGMA, unrolled 10 + 2 rounds, counter words
    `t[0], t[1]`) = `F(h, m, t, f)` with `t = t0 + 2^64 t1` -/
theorem compress_eq_F_b (h : Vector UInt64 8) (t0 t1 : Nat) (h0 : t0 < 2 ^ 64) (h1 : t1 < 2 ^ 64) (blk : Bytes)
    (last : Impl.Blake2.LastBlock) :
    Impl.Blake2.reference_compress Impl.Blake2.b h t0 t1 blk last
      = Spec.Blake2.F Spec.Blake2.b h blk (t0 + 2 ^ 64 * t1) (decide (last = .Yes)) := by
  rw [impl_b_eq_spec_b]
  exact compress_h Spec.Blake2.b good_b ⟨h, t0, t1⟩ _ (counts_words h t0 t1 h0 h1) blk last

theorem compress_eq_F_s (h : Vector UInt32 8) (t0 t1 : Nat) (h0 : t0 < 2 ^ 32) (h1 : t1 < 2 ^ 32) (blk : Bytes)
    (last : Impl.Blake2.LastBlock) :
    Impl.Blake2.reference_compress Impl.Blake2.s h t0 t1 blk last
      = Spec.Blake2.F Spec.Blake2.s h blk (t0 + 2 ^ 32 * t1) (decide (last = .Yes)) := by
  rw [impl_s_eq_spec_s]
  exact compress_h Spec.Blake2.s good_s ⟨h, t0, t1⟩ _ (counts_words h t0 t1 h0 h1) blk last

/-- RFC 7693 section 3.3 (array of padded data blocks) = the streaming formulation the code follows -/
theorem blake2b_rfc_eq_streaming (outlen : Nat) (key msg : Bytes) (hk : key.length ≤ 64) :
    Spec.Blake2.blake2b outlen key msg = Spec.Blake2.blake2At Spec.Blake2.b 0 outlen key msg :=
  blake2_eq_stream Spec.Blake2.b good_b.bb_pos outlen key msg (Nat.le_trans hk (by decide))

theorem blake2s_rfc_eq_streaming (outlen : Nat) (key msg : Bytes) (hk : key.length ≤ 32) :
    Spec.Blake2.blake2s outlen key msg = Spec.Blake2.blake2At Spec.Blake2.s 0 outlen key msg :=
  blake2_eq_stream Spec.Blake2.s good_s.bb_pos outlen key msg (Nat.le_trans hk (by decide))

/-! ### table obligations (re-extracted from /repo on every run) -/

/-- IV (b) = ⌊2^64 · frac √p⌋ for the first eight primes (the SHA-512 initial values), `isqrt` certified -/
theorem table_iv_b : Extracted.Blake2.B_IV = (List.range 8).map (Spec.Blake2.ivNat 64) ∧
    ∀ p ∈ Spec.Blake2.primes8,
      Spec.Blake2.isqrt (p * 2 ^ 128) * Spec.Blake2.isqrt (p * 2 ^ 128) ≤ p * 2 ^ 128 ∧
      p * 2 ^ 128 < (Spec.Blake2.isqrt (p * 2 ^ 128) + 1) * (Spec.Blake2.isqrt (p * 2 ^ 128) + 1) :=
  ⟨iv_b_formula, fun p hp => isqrt_spec_iv 64 (by decide) p hp⟩

/-- IV (s) = ⌊2^32 · frac √p⌋ (the SHA-256 initial values) = high halves of the b IV -/
theorem table_iv_s : Extracted.Blake2.S_IV = (List.range 8).map (Spec.Blake2.ivNat 32) ∧
    Extracted.Blake2.S_IV = Extracted.Blake2.B_IV.map (· / 2 ^ 32) ∧
    ∀ p ∈ Spec.Blake2.primes8,
      Spec.Blake2.isqrt (p * 2 ^ 64) * Spec.Blake2.isqrt (p * 2 ^ 64) ≤ p * 2 ^ 64 ∧
      p * 2 ^ 64 < (Spec.Blake2.isqrt (p * 2 ^ 64) + 1) * (Spec.Blake2.isqrt (p * 2 ^ 64) + 1) :=
  ⟨iv_s_formula, iv_s_high_half, fun p hp => isqrt_spec_iv 32 (by decide) p hp⟩

/-- SIGMA: 12 rows, every row a permutation of 0..15, rows 10, 11 = rows 0, 1, row r = RFC row r mod 10 -/
theorem table_sigma : Extracted.Blake2.SIGMA.length = 12 ∧
    (∀ row ∈ Extracted.Blake2.SIGMA, row.length = 16 ∧ ∀ k < 16, k ∈ row) ∧
    (Impl.Blake2.sigmaRow 10 = Impl.Blake2.sigmaRow 0 ∧ Impl.Blake2.sigmaRow 11 = Impl.Blake2.sigmaRow 1) ∧
    (∀ r < 12, Impl.Blake2.sigmaRow r = Spec.Blake2.SIGMA.getD (r % 10) []) :=
  ⟨sigma_len, sigma_rows_perm, sigma_rows_10_11, sigma_rows_eq_spec⟩

/-- block sizes, round counts, rotation constants (32,24,16,63 / 16,12,8,7), limits; the code's parameter sets
    are the RFC's -/
theorem table_consts :
    [Extracted.Blake2.B_BLOCK_BYTES, Extracted.Blake2.B_ROUNDS, Extracted.Blake2.B_R1, Extracted.Blake2.B_R2,
      Extracted.Blake2.B_R3, Extracted.Blake2.B_R4, Extracted.Blake2.B_MAX_OUTLEN, Extracted.Blake2.B_MAX_KEYLEN]
      = [128, 12, 32, 24, 16, 63, 64, 64] ∧
    [Extracted.Blake2.S_BLOCK_BYTES, Extracted.Blake2.S_ROUNDS, Extracted.Blake2.S_R1, Extracted.Blake2.S_R2,
      Extracted.Blake2.S_R3, Extracted.Blake2.S_R4, Extracted.Blake2.S_MAX_OUTLEN, Extracted.Blake2.S_MAX_KEYLEN]
      = [64, 10, 16, 12, 8, 7, 32, 32] ∧
    Impl.Blake2.b = Spec.Blake2.b ∧ Impl.Blake2.s = Spec.Blake2.s :=
  ⟨consts_b, consts_s, impl_b_eq_spec_b, impl_s_eq_spec_s⟩

/-! ### tests (samples, not theorems): RFC 7693 appendix A / B vectors evaluated by the kernel -/

set_option maxRecDepth 100000 in
example : Hex.encode (Spec.Blake2.blake2b 64 [] [0x61, 0x62, 0x63]) =
    "ba80a53f981c4d0d6a2797b69f12f6e94c212f14685ac4b74b12bb6fdbffa2d17d87c5392aab792dc252d5de4533cc9518d38aa8dbf1925ab92386edd4009923" := by
  decide +kernel

set_option maxRecDepth 100000 in
example : Hex.encode (Spec.Blake2.blake2s 32 [] [0x61, 0x62, 0x63]) =
    "508c5e8c327c14e2e1a72ba34eeb452f37458b209ed63a294d999b4c86675982" := by
  decide +kernel

end Cx.Props.C01
