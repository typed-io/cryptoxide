/-
  Props.C01.GlueTieMd — the translator tie for the STATEFUL GLUE of the Merkle–Damgård hashes.

  `Extracted/GlueMd.lean` is regenerated on every run by tools/ktx_glue.py (kernel specs tools/kernels/glue_md.py) from
  the CURRENT text of src/cryptoutil.rs (`FixedBuffer<N>`: new / input / reset / zero_until / next / full_buffer /
  standard_padding; `zero`; the byte writers and readers) and src/hashing/sha2/{mod,eng256,eng512}.rs (`Engine256`,
  `Engine512`: new / reset / input / finish; `Engine::{new, reset, blocks, output_*bits_at}`; the six contexts that `digest!`
  defines, `Context512/384/512_256/512_224/256/224`: new / update_mut / update / reset / finalize / finalize_reset, on which
  Props/C01/GlueTieMdSpec.lean builds): a statement-by-statement
  translation of the imperative Rust into the Option monad (`none` = panic), with the meaning of the slice primitives
  fixed once in Util/GlueRt.lean.

  Every theorem below says: the generated definition `<fn>_src` IS the hand model `Impl.….<fn>` the C01 / C02 / C08 / C13
  theorems are about — for ALL states (no invariant is needed: the hand models keep the whole array, stale tail
  included, and fail exactly where the code panics) and ALL inputs of every length.  So a changed comparison, bound,
  index, length field or statement order in the buffering / padding code breaks a proof obligation even if no sampled
  input reaches it.

  A tie is `rfl` where the translator emits the model's shape (`kernel_rfl` where the shape is a generic text of
  Proofs/GlueMd.lean, `writeLoop` / `readLoop`, of which the generated loop is a copy); elsewhere the shapes differ (a `return`
  continuation as a separate definition, the `zero()` call vs an inlined `zeros`, the `try_from` length test, `<< 3`
  vs `* 8`, a Rust loop vs `flatMap`/`chunks`) and the equality is a theorem (case analysis / induction).
  Where the crate has no hand-modelled counterpart as a separate definition (`zero`, the little-endian writers) the
  closed form is stated instead (`…_src_eq`).

  Axioms: propext, Classical.choice, Quot.sound (the check's audit prints them per theorem).
-/
import CxVerif.Extracted.GlueMd
import CxVerif.Proofs.GlueMd
import CxVerif.Proofs.GlueSha2Drv
import CxVerif.Proofs.KernelRfl
namespace Cx.Props.C01.GlueTieMd
open Cx.Impl Cx.Impl.Sha2 Cx.Proofs.GlueMd

/-! ### structure declarations (the generated constructors elaborate only against the same field lists) -/

theorem FixedBuffer_mk_src_eq_model (buffer : Bytes) (buffer_idx : Nat) :
    Extracted.GlueMd.FixedBuffer.mk_src buffer buffer_idx = ⟨buffer, buffer_idx⟩ := rfl
theorem Eng256_Engine_mk_src_eq_model (h : Spec.Sha2.W8 UInt32) : Extracted.GlueMd.Eng256.Engine.mk_src h = ⟨h⟩ := rfl
theorem Eng512_Engine_mk_src_eq_model (h : Spec.Sha2.W8 UInt64) : Extracted.GlueMd.Eng512.Engine.mk_src h = ⟨h⟩ := rfl
theorem Engine256_mk_src_eq_model (pb : Nat) (b : FixedBuffer) (s : Eng256.Engine) (f : Bool) :
    Extracted.GlueMd.Engine256.mk_src pb b s f = ⟨pb, b, s, f⟩ := rfl
theorem Engine512_mk_src_eq_model (pb : Nat) (b : FixedBuffer) (s : Eng512.Engine) :
    Extracted.GlueMd.Engine512.mk_src pb b s = ⟨pb, b, s⟩ := rfl

/-! ### cryptoutil.rs: `zero`, `FixedBuffer<N>` -/

/-- `zero(dst)` never fails and leaves `dst.len()` zero bytes (the hand models inline this as `zeros`) -/
theorem zero_src_eq (dst : Bytes) : Extracted.GlueMd.zero_src dst = some (zeros dst.length) := by
  exact Proofs.GlueVocab.copy_full (Proofs.GlueVocab.fill_length _ _)

theorem new_src_eq_model (N : Nat) : Extracted.GlueMd.FixedBuffer.new_src N = FixedBuffer.new N := rfl

/-- the continuation of `input` after the first `if` (generated as a join point because one branch `return`s) is the
    hand model's `input_rest`.  The generated text refuses `remaining / N` for `N = 0` (Rust panics on a zero divisor),
    the hand model does not mention that case: the tie holds for every instantiated buffer size (`N ≠ 0`; 64 and 128 in the crate) -/
theorem input_src_k1_eq_model {σ : Type} (N : Nat) (hN : N ≠ 0) (self : FixedBuffer) (input : Bytes)
    (func : σ → Bytes → Option σ) (st : σ) (i : Nat) :
    Extracted.GlueMd.FixedBuffer.input_src_k1 N self input func st i = FixedBuffer.input_rest N self input i func st := by
  unfold Extracted.GlueMd.FixedBuffer.input_src_k1 FixedBuffer.input_rest
  simp only [hN, if_false]
  rfl

/-- for `N = 0` the source panics as soon as it divides: the generated definition says so (the hand model is not used there) -/
theorem input_src_k1_zero {σ : Type} (self : FixedBuffer) (input : Bytes) (func : σ → Bytes → Option σ) (st : σ) (i : Nat) :
    Extracted.GlueMd.FixedBuffer.input_src_k1 0 self input func st i = none := by
  unfold Extracted.GlueMd.FixedBuffer.input_src_k1
  by_cases h : input.length < i <;> simp [h]

/-- `FixedBuffer::input`, all three regimes, any callback (the texts differ in `0 + r` vs `r`, `!=` vs `≠`) -/
theorem input_src_eq_model {σ : Type} (N : Nat) (hN : N ≠ 0) (self : FixedBuffer) (input : Bytes)
    (func : σ → Bytes → Option σ) (st : σ) :
    Extracted.GlueMd.FixedBuffer.input_src N self input func st = self.input N input func st := by
  unfold Extracted.GlueMd.FixedBuffer.input_src FixedBuffer.input
  simp only [input_src_k1_eq_model N hN, Nat.zero_add, bne_iff_ne, ne_eq, ite_not]
  rfl

theorem reset_src_eq_model (self : FixedBuffer) : Extracted.GlueMd.FixedBuffer.reset_src self = self.reset := rfl

/-- `zero_until`: the code slices the tail, calls `zero`, and the borrow writes it back; the model stores `zeros` -/
theorem zero_until_src_eq_model (self : FixedBuffer) (idx : Nat) :
    Extracted.GlueMd.FixedBuffer.zero_until_src self idx = self.zero_until idx := by
  unfold Extracted.GlueMd.FixedBuffer.zero_until_src FixedBuffer.zero_until
  simp only [Extracted.GlueMd.zero_src, Glue.slice, Glue.copy_from_slice, Glue.fill, Cx.Impl.copy_from_slice, zeros]
  by_cases h0 : idx < self.buffer_idx
  · simp [h0]
  · have h0' : self.buffer_idx ≤ idx := by omega
    by_cases h1 : idx ≤ self.buffer.length
    · have : min (idx - self.buffer_idx) (self.buffer.length - self.buffer_idx) = idx - self.buffer_idx := by omega
      simp [h0, h0', h1, this]
    · simp [h0, h0', h1]

/-- `*self.next::<I>() = v`: index bump, range check, `try_from` length test, store -/
theorem next_write_src_eq_model (I : Nat) (self : FixedBuffer) (v : Bytes) :
    Extracted.GlueMd.FixedBuffer.next_write_src I self v = self.next_write I v := by
  unfold Extracted.GlueMd.FixedBuffer.next_write_src FixedBuffer.next_write
  simp only [Glue.slice, Glue.copy_from_slice, Cx.Impl.copy_from_slice]
  by_cases h1 : self.buffer_idx + I ≤ self.buffer.length <;> by_cases h2 : v.length = I <;>
    simp [h1, h2, Nat.add_sub_cancel_left] <;> omega

theorem full_buffer_src_eq_model (N : Nat) (self : FixedBuffer) :
    Extracted.GlueMd.FixedBuffer.full_buffer_src N self = self.full_buffer N := rfl

/-- `standard_padding(rem, func)`: the 0x80 byte, the `N - idx < rem` branch, both `zero_until`s -/
theorem standard_padding_src_eq_model {σ : Type} (N : Nat) (self : FixedBuffer) (rem : Nat)
    (func : σ → Bytes → Option σ) (st : σ) :
    Extracted.GlueMd.FixedBuffer.standard_padding_src N self rem func st = self.standard_padding N rem func st := by
  unfold Extracted.GlueMd.FixedBuffer.standard_padding_src FixedBuffer.standard_padding
  simp only [zero_until_src_eq_model, next_write_src_eq_model, full_buffer_src_eq_model]
  rfl

/-! ### cryptoutil.rs: byte writers -/

theorem write_u32_be_src_eq_model (dst : Bytes) (x : UInt32) :
    Extracted.GlueMd.write_u32_be_src dst x = write_u32_be dst.length x := rfl
theorem write_u32_le_src_eq (dst : Bytes) (x : UInt32) :
    Extracted.GlueMd.write_u32_le_src dst x = if dst.length ≠ 4 then none else some (u32le x) := rfl
theorem write_u64_le_src_eq (dst : Bytes) (x : UInt64) :
    Extracted.GlueMd.write_u64_le_src dst x = if dst.length ≠ 8 then none else some (u64le x) := rfl

/-- the generated element loop is `writeLoop` at its encoder: the same recursion (likewise the three below) -/
theorem write_u32v_be_loop (SZ : Nat) : ∀ (xs : List UInt32) (dst : Bytes) (off : Nat),
    Extracted.GlueMd.write_u32v_be_src_loop1 SZ xs dst off = writeLoop u32be SZ xs dst off := by
  intros; kernel_rfl
theorem write_u32v_le_loop (SZ : Nat) : ∀ (xs : List UInt32) (dst : Bytes) (off : Nat),
    Extracted.GlueMd.write_u32v_le_src_loop1 SZ xs dst off = writeLoop u32le SZ xs dst off := by
  intros; kernel_rfl
theorem write_u64v_be_loop (SZ : Nat) : ∀ (xs : List UInt64) (dst : Bytes) (off : Nat),
    Extracted.GlueMd.write_u64v_be_src_loop1 SZ xs dst off = writeLoop u64be SZ xs dst off := by
  intros; kernel_rfl
theorem write_u64v_le_loop (SZ : Nat) : ∀ (xs : List UInt64) (dst : Bytes) (off : Nat),
    Extracted.GlueMd.write_u64v_le_src_loop1 SZ xs dst off = writeLoop u64le SZ xs dst off := by
  intros; kernel_rfl

/-- `write_u32v_be` (`write_array_type!`): the assert + the element loop = `flatMap u32be` (`writeLoop_full`) -/
theorem write_u32v_be_src_eq_model (dst : Bytes) (input : List UInt32) :
    Extracted.GlueMd.write_u32v_be_src dst input = write_u32v_be dst.length input := by
  unfold Extracted.GlueMd.write_u32v_be_src write_u32v_be
  by_cases h : dst.length = 4 * input.length
  · simp only [write_u32v_be_loop, writeLoop_full u32be 4 Cx.Proofs.Bytes.u32be_length input dst h, h, ne_eq, not_true_eq_false, ite_false]
  · simp only [h, ne_eq, not_false_eq_true, ite_true]
theorem write_u64v_be_src_eq_model (dst : Bytes) (input : List UInt64) :
    Extracted.GlueMd.write_u64v_be_src dst input = write_u64v_be dst.length input := by
  unfold Extracted.GlueMd.write_u64v_be_src write_u64v_be
  by_cases h : dst.length = 8 * input.length
  · simp only [write_u64v_be_loop, writeLoop_full u64be 8 Cx.Proofs.Bytes.u64be_length input dst h, h, ne_eq, not_true_eq_false, ite_false]
  · simp only [h, ne_eq, not_false_eq_true, ite_true]
theorem write_u32v_le_src_eq (dst : Bytes) (input : List UInt32) :
    Extracted.GlueMd.write_u32v_le_src dst input = if dst.length ≠ 4 * input.length then none else some (input.flatMap u32le) := by
  unfold Extracted.GlueMd.write_u32v_le_src
  by_cases h : dst.length = 4 * input.length
  · simp only [write_u32v_le_loop, writeLoop_full u32le 4 Cx.Proofs.Bytes.u32le_length input dst h, h, ne_eq, not_true_eq_false, ite_false]
  · simp only [h, ne_eq, not_false_eq_true, ite_true]
theorem write_u64v_le_src_eq (dst : Bytes) (input : List UInt64) :
    Extracted.GlueMd.write_u64v_le_src dst input = if dst.length ≠ 8 * input.length then none else some (input.flatMap u64le) := by
  unfold Extracted.GlueMd.write_u64v_le_src
  by_cases h : dst.length = 8 * input.length
  · simp only [write_u64v_le_loop, writeLoop_full u64le 8 Cx.Proofs.Bytes.u64le_length input dst h, h, ne_eq, not_true_eq_false, ite_false]
  · simp only [h, ne_eq, not_false_eq_true, ite_true]

/-! ### cryptoutil.rs: byte readers (`read_array_type!`: an `unsafe` pointer-cursor loop; out-of-range = failure) -/

/-- the generated cursor loop is `readLoop` at its decoder: the same recursion (likewise the three below) -/
theorem read_u32v_be_loop (input : Bytes) (SZ : Nat) : ∀ (cnt i : Nat) (dst : List UInt32) (x y : Nat),
    Extracted.GlueMd.read_u32v_be_src_loop1 input SZ cnt i dst x y = readLoop beU32 input SZ cnt i dst x y := by
  intros; kernel_rfl
/-- `read_u32v_be`: the assert + the cursor loop = the big-endian 32-bit words of the input (`readLoop_words`) -/
theorem read_u32v_be_src_eq_model (dst : List UInt32) (input : Bytes) :
    Extracted.GlueMd.read_u32v_be_src dst input = read_u32v_be dst.length input := by
  unfold Extracted.GlueMd.read_u32v_be_src read_u32v_be
  by_cases h : dst.length * 4 = input.length
  · simp only [read_u32v_be_loop, readLoop_words beU32 4 (by decide) dst input h, h, ne_eq, not_true_eq_false, ite_false, wordsBE32]
  · simp only [h, ne_eq, not_false_eq_true, ite_true]

theorem read_u64v_be_loop (input : Bytes) (SZ : Nat) : ∀ (cnt i : Nat) (dst : List UInt64) (x y : Nat),
    Extracted.GlueMd.read_u64v_be_src_loop1 input SZ cnt i dst x y = readLoop beU64 input SZ cnt i dst x y := by
  intros; kernel_rfl
/-- `read_u64v_be`: the same with big-endian 64-bit words -/
theorem read_u64v_be_src_eq_model (dst : List UInt64) (input : Bytes) :
    Extracted.GlueMd.read_u64v_be_src dst input = read_u64v_be dst.length input := by
  unfold Extracted.GlueMd.read_u64v_be_src read_u64v_be
  by_cases h : dst.length * 8 = input.length
  · simp only [read_u64v_be_loop, readLoop_words beU64 8 (by decide) dst input h, h, ne_eq, not_true_eq_false, ite_false, wordsBE64]
  · simp only [h, ne_eq, not_false_eq_true, ite_true]

theorem read_u32v_le_loop (input : Bytes) (SZ : Nat) : ∀ (cnt i : Nat) (dst : List UInt32) (x y : Nat),
    Extracted.GlueMd.read_u32v_le_src_loop1 input SZ cnt i dst x y = readLoop leU32 input SZ cnt i dst x y := by
  intros; kernel_rfl
/-- `read_u32v_le`: little-endian 32-bit words; the crate has no hand-modelled counterpart, the closed form is stated -/
theorem read_u32v_le_src_eq (dst : List UInt32) (input : Bytes) :
    Extracted.GlueMd.read_u32v_le_src dst input = if dst.length * 4 ≠ input.length then none else some (wordsLE32 input) := by
  unfold Extracted.GlueMd.read_u32v_le_src
  by_cases h : dst.length * 4 = input.length
  · simp only [read_u32v_le_loop, readLoop_words leU32 4 (by decide) dst input h, h, ne_eq, not_true_eq_false, ite_false, wordsLE32]
  · simp only [h, ne_eq, not_false_eq_true, ite_true]

theorem read_u64v_le_loop (input : Bytes) (SZ : Nat) : ∀ (cnt i : Nat) (dst : List UInt64) (x y : Nat),
    Extracted.GlueMd.read_u64v_le_src_loop1 input SZ cnt i dst x y = readLoop leU64 input SZ cnt i dst x y := by
  intros; kernel_rfl
/-- `read_u64v_le`: the same with little-endian 64-bit words -/
theorem read_u64v_le_src_eq (dst : List UInt64) (input : Bytes) :
    Extracted.GlueMd.read_u64v_le_src dst input = if dst.length * 8 ≠ input.length then none else some (wordsLE64 input) := by
  unfold Extracted.GlueMd.read_u64v_le_src
  by_cases h : dst.length * 8 = input.length
  · simp only [read_u64v_le_loop, readLoop_words leU64 8 (by decide) dst input h, h, ne_eq, not_true_eq_false, ite_false, wordsLE64]
  · simp only [h, ne_eq, not_false_eq_true, ite_true]

theorem read_u32_le_src_eq (input : Bytes) :
    Extracted.GlueMd.read_u32_le_src input = if input.length ≠ 4 then none else some (leU32 input) := rfl

/-! ### sha2/eng256.rs -/

theorem eng256_new_src_eq_model (h : Spec.Sha2.W8 UInt32) :
    Extracted.GlueMd.Eng256.Engine.new_src h = Eng256.Engine.new h := rfl
theorem eng256_reset_src_eq_model (self : Eng256.Engine) (h : Spec.Sha2.W8 UInt32) :
    Extracted.GlueMd.Eng256.Engine.reset_src self h = self.reset h := rfl
/-- `blocks`: the `assert_eq!(len % BLOCK_LEN_BYTES, 0)` (constant re-derived from the source) + `digest_block` = the GENERATED
    dispatcher `impl256::digest_block` (baseline cfg set, Extracted/GlueSha2Drv.lean), which is the model's `Impl256.digest_block`
    by Proofs/GlueSha2Drv.lean (`dispatch256_baseline_eq_model`: generated dispatcher -> generated `while` driver -> hand model) -/
theorem eng256_blocks_src_eq_model (self : Eng256.Engine) (block : Bytes) :
    Extracted.GlueMd.Eng256.Engine.blocks_src self block = self.blocks block := by
  unfold Extracted.GlueMd.Eng256.Engine.blocks_src Eng256.Engine.blocks
  rw [Cx.Proofs.GlueSha2Drv.dispatch256_baseline_eq_model]; rfl

theorem w8_slice {α : Type} (h : Spec.Sha2.W8 α) (n : Nat) (hn : n ≤ 8) :
    Glue.slice h.toList 0 n = some (h.toList.take n) := by
  exact Cx.Proofs.GlueVocab.slice_prefix (by simpa [Spec.Sha2.W8.toList] using hn)

/-- `output_224bits_at`: `write_u32v_be(&mut out[0..28], &self.h[0..7])` (`h[0..7]` is in range: `w8_slice`) -/
theorem eng256_output_224bits_at_src_eq_model (self : Eng256.Engine) (out : Bytes) :
    Extracted.GlueMd.Eng256.Engine.output_224bits_at_src self out = self.output_224bits_at out := by
  unfold Extracted.GlueMd.Eng256.Engine.output_224bits_at_src Eng256.Engine.output_224bits_at
  simp only [w8_slice self.h 7 (by decide), write_u32v_be_src_eq_model]
  rfl
theorem eng256_output_256bits_at_src_eq_model (self : Eng256.Engine) (out : Bytes) :
    Extracted.GlueMd.Eng256.Engine.output_256bits_at_src self out = self.output_256bits_at out := by
  unfold Extracted.GlueMd.Eng256.Engine.output_256bits_at_src Eng256.Engine.output_256bits_at
  simp only [write_u32v_be_src_eq_model]
  rfl

/-! ### sha2/mod.rs: Engine256 -/

theorem blocks256_fun : (fun (s : Eng256.Engine) (b : Bytes) => Extracted.GlueMd.Eng256.Engine.blocks_src s b) = Eng256.Engine.blocks := by
  funext s b; exact eng256_blocks_src_eq_model s b

theorem engine256_new_src_eq_model (h : Spec.Sha2.W8 UInt32) :
    Extracted.GlueMd.Engine256.new_src h = Engine256.new h := rfl
theorem engine256_reset_src_eq_model (self : Engine256) (h : Spec.Sha2.W8 UInt32) :
    Extracted.GlueMd.Engine256.reset_src self h = self.reset h := rfl
/-- `Engine256::input`: the `finished` assert, the wrapping byte counter, `FixedBuffer::input` with the `blocks` closure -/
theorem engine256_input_src_eq_model (self : Engine256) (input : Bytes) :
    Extracted.GlueMd.Engine256.input_src self input = self.input input := by
  unfold Extracted.GlueMd.Engine256.input_src Engine256.input
  simp only [blocks256_fun, input_src_eq_model 64 (by decide)]
  rfl
/-- `(processed_bytes << 3).to_be_bytes()` for the `u64` counter is the model's `len_be64` -/
theorem len_be64_src (pb : Nat) : natToBE 8 ((pb <<< 3) % 2 ^ 64) = len_be64 pb := by
  simp only [len_be64, Nat.shiftLeft_eq]
/-- `Engine256::finish`: early return when finished, padding with 8 length bytes, the BE-64 bit length, last block -/
theorem engine256_finish_src_eq_model (self : Engine256) :
    Extracted.GlueMd.Engine256.finish_src self = self.finish := by
  unfold Extracted.GlueMd.Engine256.finish_src Engine256.finish
  simp only [blocks256_fun, standard_padding_src_eq_model, next_write_src_eq_model, full_buffer_src_eq_model,
    len_be64_src]
  rfl

/-! ### sha2/eng512.rs -/

theorem eng512_new_src_eq_model (h : Spec.Sha2.W8 UInt64) :
    Extracted.GlueMd.Eng512.Engine.new_src h = Eng512.Engine.new h := rfl
theorem eng512_reset_src_eq_model (self : Eng512.Engine) (h : Spec.Sha2.W8 UInt64) :
    Extracted.GlueMd.Eng512.Engine.reset_src self h = self.reset h := rfl
theorem eng512_blocks_src_eq_model (self : Eng512.Engine) (block : Bytes) :
    Extracted.GlueMd.Eng512.Engine.blocks_src self block = self.blocks block := by
  unfold Extracted.GlueMd.Eng512.Engine.blocks_src Eng512.Engine.blocks
  rw [Cx.Proofs.GlueSha2Drv.dispatch512_baseline_eq_model]; rfl

/-- `output_224bits_at` of the 64-bit engine: three words + the high half of `h[3]` (`>> 32`, `as u32`) -/
theorem eng512_output_224bits_at_src_eq_model (self : Eng512.Engine) (out : Bytes) :
    Extracted.GlueMd.Eng512.Engine.output_224bits_at_src self out = self.output_224bits_at out := by
  unfold Extracted.GlueMd.Eng512.Engine.output_224bits_at_src Eng512.Engine.output_224bits_at
  simp only [w8_slice self.h 3 (by decide), write_u64v_be_src_eq_model, write_u32_be_src_eq_model]
  rfl
theorem eng512_output_256bits_at_src_eq_model (self : Eng512.Engine) (out : Bytes) :
    Extracted.GlueMd.Eng512.Engine.output_256bits_at_src self out = self.output_256bits_at out := by
  unfold Extracted.GlueMd.Eng512.Engine.output_256bits_at_src Eng512.Engine.output_256bits_at
  simp only [w8_slice self.h 4 (by decide), write_u64v_be_src_eq_model]
theorem eng512_output_384bits_at_src_eq_model (self : Eng512.Engine) (out : Bytes) :
    Extracted.GlueMd.Eng512.Engine.output_384bits_at_src self out = self.output_384bits_at out := by
  unfold Extracted.GlueMd.Eng512.Engine.output_384bits_at_src Eng512.Engine.output_384bits_at
  simp only [w8_slice self.h 6 (by decide), write_u64v_be_src_eq_model]
theorem eng512_output_512bits_at_src_eq_model (self : Eng512.Engine) (out : Bytes) :
    Extracted.GlueMd.Eng512.Engine.output_512bits_at_src self out = self.output_512bits_at out := by
  unfold Extracted.GlueMd.Eng512.Engine.output_512bits_at_src Eng512.Engine.output_512bits_at
  simp only [w8_slice self.h 8 (by decide), write_u64v_be_src_eq_model]

/-! ### sha2/mod.rs: Engine512 -/

theorem blocks512_fun : (fun (s : Eng512.Engine) (b : Bytes) => Extracted.GlueMd.Eng512.Engine.blocks_src s b) = Eng512.Engine.blocks := by
  funext s b; exact eng512_blocks_src_eq_model s b

theorem engine512_new_src_eq_model (h : Spec.Sha2.W8 UInt64) :
    Extracted.GlueMd.Engine512.new_src h = Engine512.new h := rfl
theorem engine512_reset_src_eq_model (self : Engine512) (h : Spec.Sha2.W8 UInt64) :
    Extracted.GlueMd.Engine512.reset_src self h = self.reset h := rfl
theorem engine512_input_src_eq_model (self : Engine512) (input : Bytes) :
    Extracted.GlueMd.Engine512.input_src self input = self.input input := by
  unfold Extracted.GlueMd.Engine512.input_src Engine512.input
  simp only [blocks512_fun, input_src_eq_model 128 (by decide)]
  rfl
/-- the 128-bit length field of SHA-512 -/
theorem len_be128_src (pb : Nat) : natToBE 16 ((pb <<< 3) % 2 ^ 128) = len_be128 pb := by
  simp only [len_be128, Nat.shiftLeft_eq]
/-- `Engine512::finish`: padding that reserves 16 length bytes, the BE-128 bit length, last block -/
theorem engine512_finish_src_eq_model (self : Engine512) :
    Extracted.GlueMd.Engine512.finish_src self = self.finish := by
  unfold Extracted.GlueMd.Engine512.finish_src Engine512.finish
  simp only [blocks512_fun, standard_padding_src_eq_model, next_write_src_eq_model, full_buffer_src_eq_model,
    len_be128_src]
  rfl

/-! ### sha2/mod.rs: the six contexts defined by `digest!` (the public API), each tied to the hand model's generic
    `Ctx256` / `Ctx512` at the algorithm descriptor (`Alg256` / `Alg512`: IV, output bits, output function) -/

-- not needed for the proofs to go through: with the output functions unfoldable the unifier runs them symbolically while it
-- compares two `match`es on their result, and the section takes twice the work to check
attribute [local irreducible] Eng512.Engine.output_512bits_at Eng512.Engine.output_384bits_at
  Eng512.Engine.output_256bits_at Eng512.Engine.output_224bits_at Eng256.Engine.output_256bits_at
  Eng256.Engine.output_224bits_at

theorem Context512_mk_src_eq_model (e : Engine512) : Extracted.GlueMd.Context512.mk_src e = ⟨e⟩ := rfl
theorem Context512_new_src_eq_model : Extracted.GlueMd.Context512.new_src = Ctx512.new Sha512 := rfl
/-- `digest!` expands `update_mut` and `update` to one body: the ties of the other 512-bit contexts, and of `update`, cite this one -/
theorem Context512_update_mut_src_eq_model (self : Ctx512) (input : Bytes) :
    Extracted.GlueMd.Context512.update_mut_src self input = self.update_mut input := by
  unfold Extracted.GlueMd.Context512.update_mut_src Ctx512.update_mut
  simp only [engine512_input_src_eq_model]; rfl
theorem Context512_update_src_eq_model (self : Ctx512) (input : Bytes) :
    Extracted.GlueMd.Context512.update_src self input = self.update input :=
  Context512_update_mut_src_eq_model self input
theorem Context512_reset_src_eq_model (self : Ctx512) : Extracted.GlueMd.Context512.reset_src self = Ctx512.reset Sha512 self := rfl
theorem Context512_finalize_src_eq_model (self : Ctx512) :
    Extracted.GlueMd.Context512.finalize_src self = Ctx512.finalize Sha512 self := by
  unfold Extracted.GlueMd.Context512.finalize_src Ctx512.finalize
  simp only [engine512_finish_src_eq_model, eng512_output_512bits_at_src_eq_model]; rfl
theorem Context512_finalize_reset_src_eq_model (self : Ctx512) :
    Extracted.GlueMd.Context512.finalize_reset_src self = Ctx512.finalize_reset Sha512 self := by
  unfold Extracted.GlueMd.Context512.finalize_reset_src Ctx512.finalize_reset
  simp only [engine512_finish_src_eq_model, eng512_output_512bits_at_src_eq_model, Context512_reset_src_eq_model]; rfl

theorem Context384_mk_src_eq_model (e : Engine512) : Extracted.GlueMd.Context384.mk_src e = ⟨e⟩ := rfl
theorem Context384_new_src_eq_model : Extracted.GlueMd.Context384.new_src = Ctx512.new Sha384 := rfl
theorem Context384_update_mut_src_eq_model (self : Ctx512) (input : Bytes) :
    Extracted.GlueMd.Context384.update_mut_src self input = self.update_mut input :=
  Context512_update_mut_src_eq_model self input
theorem Context384_update_src_eq_model (self : Ctx512) (input : Bytes) :
    Extracted.GlueMd.Context384.update_src self input = self.update input :=
  Context512_update_mut_src_eq_model self input
theorem Context384_reset_src_eq_model (self : Ctx512) : Extracted.GlueMd.Context384.reset_src self = Ctx512.reset Sha384 self := rfl
theorem Context384_finalize_src_eq_model (self : Ctx512) :
    Extracted.GlueMd.Context384.finalize_src self = Ctx512.finalize Sha384 self := by
  unfold Extracted.GlueMd.Context384.finalize_src Ctx512.finalize
  simp only [engine512_finish_src_eq_model, eng512_output_384bits_at_src_eq_model]; rfl
theorem Context384_finalize_reset_src_eq_model (self : Ctx512) :
    Extracted.GlueMd.Context384.finalize_reset_src self = Ctx512.finalize_reset Sha384 self := by
  unfold Extracted.GlueMd.Context384.finalize_reset_src Ctx512.finalize_reset
  simp only [engine512_finish_src_eq_model, eng512_output_384bits_at_src_eq_model, Context384_reset_src_eq_model]; rfl

theorem Context512_256_mk_src_eq_model (e : Engine512) : Extracted.GlueMd.Context512_256.mk_src e = ⟨e⟩ := rfl
theorem Context512_256_new_src_eq_model : Extracted.GlueMd.Context512_256.new_src = Ctx512.new Sha512Trunc256 := rfl
theorem Context512_256_update_mut_src_eq_model (self : Ctx512) (input : Bytes) :
    Extracted.GlueMd.Context512_256.update_mut_src self input = self.update_mut input :=
  Context512_update_mut_src_eq_model self input
theorem Context512_256_update_src_eq_model (self : Ctx512) (input : Bytes) :
    Extracted.GlueMd.Context512_256.update_src self input = self.update input :=
  Context512_update_mut_src_eq_model self input
theorem Context512_256_reset_src_eq_model (self : Ctx512) : Extracted.GlueMd.Context512_256.reset_src self = Ctx512.reset Sha512Trunc256 self := rfl
theorem Context512_256_finalize_src_eq_model (self : Ctx512) :
    Extracted.GlueMd.Context512_256.finalize_src self = Ctx512.finalize Sha512Trunc256 self := by
  unfold Extracted.GlueMd.Context512_256.finalize_src Ctx512.finalize
  simp only [engine512_finish_src_eq_model, eng512_output_256bits_at_src_eq_model]; rfl
theorem Context512_256_finalize_reset_src_eq_model (self : Ctx512) :
    Extracted.GlueMd.Context512_256.finalize_reset_src self = Ctx512.finalize_reset Sha512Trunc256 self := by
  unfold Extracted.GlueMd.Context512_256.finalize_reset_src Ctx512.finalize_reset
  simp only [engine512_finish_src_eq_model, eng512_output_256bits_at_src_eq_model, Context512_256_reset_src_eq_model]; rfl

theorem Context512_224_mk_src_eq_model (e : Engine512) : Extracted.GlueMd.Context512_224.mk_src e = ⟨e⟩ := rfl
theorem Context512_224_new_src_eq_model : Extracted.GlueMd.Context512_224.new_src = Ctx512.new Sha512Trunc224 := rfl
theorem Context512_224_update_mut_src_eq_model (self : Ctx512) (input : Bytes) :
    Extracted.GlueMd.Context512_224.update_mut_src self input = self.update_mut input :=
  Context512_update_mut_src_eq_model self input
theorem Context512_224_update_src_eq_model (self : Ctx512) (input : Bytes) :
    Extracted.GlueMd.Context512_224.update_src self input = self.update input :=
  Context512_update_mut_src_eq_model self input
theorem Context512_224_reset_src_eq_model (self : Ctx512) : Extracted.GlueMd.Context512_224.reset_src self = Ctx512.reset Sha512Trunc224 self := rfl
theorem Context512_224_finalize_src_eq_model (self : Ctx512) :
    Extracted.GlueMd.Context512_224.finalize_src self = Ctx512.finalize Sha512Trunc224 self := by
  unfold Extracted.GlueMd.Context512_224.finalize_src Ctx512.finalize
  simp only [engine512_finish_src_eq_model, eng512_output_224bits_at_src_eq_model]; rfl
theorem Context512_224_finalize_reset_src_eq_model (self : Ctx512) :
    Extracted.GlueMd.Context512_224.finalize_reset_src self = Ctx512.finalize_reset Sha512Trunc224 self := by
  unfold Extracted.GlueMd.Context512_224.finalize_reset_src Ctx512.finalize_reset
  simp only [engine512_finish_src_eq_model, eng512_output_224bits_at_src_eq_model, Context512_224_reset_src_eq_model]; rfl

theorem Context256_mk_src_eq_model (e : Engine256) : Extracted.GlueMd.Context256.mk_src e = ⟨e⟩ := rfl
theorem Context256_new_src_eq_model : Extracted.GlueMd.Context256.new_src = Ctx256.new Sha256 := rfl
theorem Context256_update_mut_src_eq_model (self : Ctx256) (input : Bytes) :
    Extracted.GlueMd.Context256.update_mut_src self input = self.update_mut input := by
  unfold Extracted.GlueMd.Context256.update_mut_src Ctx256.update_mut
  simp only [engine256_input_src_eq_model]; rfl
theorem Context256_update_src_eq_model (self : Ctx256) (input : Bytes) :
    Extracted.GlueMd.Context256.update_src self input = self.update input :=
  Context256_update_mut_src_eq_model self input
theorem Context256_reset_src_eq_model (self : Ctx256) : Extracted.GlueMd.Context256.reset_src self = Ctx256.reset Sha256 self := rfl
theorem Context256_finalize_src_eq_model (self : Ctx256) :
    Extracted.GlueMd.Context256.finalize_src self = Ctx256.finalize Sha256 self := by
  unfold Extracted.GlueMd.Context256.finalize_src Ctx256.finalize
  simp only [engine256_finish_src_eq_model, eng256_output_256bits_at_src_eq_model]; rfl
theorem Context256_finalize_reset_src_eq_model (self : Ctx256) :
    Extracted.GlueMd.Context256.finalize_reset_src self = Ctx256.finalize_reset Sha256 self := by
  unfold Extracted.GlueMd.Context256.finalize_reset_src Ctx256.finalize_reset
  simp only [engine256_finish_src_eq_model, eng256_output_256bits_at_src_eq_model, Context256_reset_src_eq_model]; rfl

theorem Context224_mk_src_eq_model (e : Engine256) : Extracted.GlueMd.Context224.mk_src e = ⟨e⟩ := rfl
theorem Context224_new_src_eq_model : Extracted.GlueMd.Context224.new_src = Ctx256.new Sha224 := rfl
theorem Context224_update_mut_src_eq_model (self : Ctx256) (input : Bytes) :
    Extracted.GlueMd.Context224.update_mut_src self input = self.update_mut input :=
  Context256_update_mut_src_eq_model self input
theorem Context224_update_src_eq_model (self : Ctx256) (input : Bytes) :
    Extracted.GlueMd.Context224.update_src self input = self.update input :=
  Context256_update_mut_src_eq_model self input
theorem Context224_reset_src_eq_model (self : Ctx256) : Extracted.GlueMd.Context224.reset_src self = Ctx256.reset Sha224 self := rfl
theorem Context224_finalize_src_eq_model (self : Ctx256) :
    Extracted.GlueMd.Context224.finalize_src self = Ctx256.finalize Sha224 self := by
  unfold Extracted.GlueMd.Context224.finalize_src Ctx256.finalize
  simp only [engine256_finish_src_eq_model, eng256_output_224bits_at_src_eq_model]; rfl
theorem Context224_finalize_reset_src_eq_model (self : Ctx256) :
    Extracted.GlueMd.Context224.finalize_reset_src self = Ctx256.finalize_reset Sha224 self := by
  unfold Extracted.GlueMd.Context224.finalize_reset_src Ctx256.finalize_reset
  simp only [engine256_finish_src_eq_model, eng256_output_224bits_at_src_eq_model, Context224_reset_src_eq_model]; rfl

end Cx.Props.C01.GlueTieMd
