/-
  Props.C01.GlueTieMdSpec — capstone of the glue tie: the SHA-2 contexts AS TRANSLATED FROM THE CURRENT SOURCE
  (`Extracted/GlueMd.lean`: `digest!` contexts -> `Engine256/512` -> `FixedBuffer` -> byte writers, and `Engine::blocks` ->
  the generated dispatcher and multi-block driver `digest_block` of `Extracted/GlueSha2Drv.lean`, tied by
  Props/C01/GlueTieSha2Drv.lean; the one-block functions `digest_block_u32` / `digest_block_u64` are tied separately by
  Props/C01/KernelTieSha256/512) compute the FIPS 180-4 functions:
      Context::new().update(msg).finalize()  =  SHA-2(msg)      for every message inside the standard's domain,
  and never panic.  Obtained from the C01 theorems about the hand models through the tie theorems of
  Props/C01/GlueTieMd.lean — no hand-written model occurs in the statements.
-/
import CxVerif.Props.C01.GlueTieMd
import CxVerif.Props.C01.Sha2
namespace Cx.Props.C01.GlueTieMdSpec
open Cx.Props.C01.GlueTieMd

theorem sha512_src_eq_spec (msg : Bytes) (h : msg.length < 2 ^ 125) :
    (match Extracted.GlueMd.Context512.update_src Extracted.GlueMd.Context512.new_src msg with
     | none => none
     | some c => Extracted.GlueMd.Context512.finalize_src c) = some (Spec.Sha2.sha512 msg) := by
  simp only [Context512_new_src_eq_model, Context512_update_src_eq_model, Context512_finalize_src_eq_model]
  exact Cx.Props.C01.Sha2.sha512_eq_spec msg h

theorem sha384_src_eq_spec (msg : Bytes) (h : msg.length < 2 ^ 125) :
    (match Extracted.GlueMd.Context384.update_src Extracted.GlueMd.Context384.new_src msg with
     | none => none
     | some c => Extracted.GlueMd.Context384.finalize_src c) = some (Spec.Sha2.sha384 msg) := by
  simp only [Context384_new_src_eq_model, Context384_update_src_eq_model, Context384_finalize_src_eq_model]
  exact Cx.Props.C01.Sha2.sha384_eq_spec msg h

theorem sha512_256_src_eq_spec (msg : Bytes) (h : msg.length < 2 ^ 125) :
    (match Extracted.GlueMd.Context512_256.update_src Extracted.GlueMd.Context512_256.new_src msg with
     | none => none
     | some c => Extracted.GlueMd.Context512_256.finalize_src c) = some (Spec.Sha2.sha512_256 msg) := by
  simp only [Context512_256_new_src_eq_model, Context512_256_update_src_eq_model, Context512_256_finalize_src_eq_model]
  exact Cx.Props.C01.Sha2.sha512_256_eq_spec msg h

theorem sha512_224_src_eq_spec (msg : Bytes) (h : msg.length < 2 ^ 125) :
    (match Extracted.GlueMd.Context512_224.update_src Extracted.GlueMd.Context512_224.new_src msg with
     | none => none
     | some c => Extracted.GlueMd.Context512_224.finalize_src c) = some (Spec.Sha2.sha512_224 msg) := by
  simp only [Context512_224_new_src_eq_model, Context512_224_update_src_eq_model, Context512_224_finalize_src_eq_model]
  exact Cx.Props.C01.Sha2.sha512_224_eq_spec msg h

theorem sha256_src_eq_spec (msg : Bytes) (h : msg.length < 2 ^ 61) :
    (match Extracted.GlueMd.Context256.update_src Extracted.GlueMd.Context256.new_src msg with
     | none => none
     | some c => Extracted.GlueMd.Context256.finalize_src c) = some (Spec.Sha2.sha256 msg) := by
  simp only [Context256_new_src_eq_model, Context256_update_src_eq_model, Context256_finalize_src_eq_model]
  exact Cx.Props.C01.Sha2.sha256_eq_spec msg h

theorem sha224_src_eq_spec (msg : Bytes) (h : msg.length < 2 ^ 61) :
    (match Extracted.GlueMd.Context224.update_src Extracted.GlueMd.Context224.new_src msg with
     | none => none
     | some c => Extracted.GlueMd.Context224.finalize_src c) = some (Spec.Sha2.sha224 msg) := by
  simp only [Context224_new_src_eq_model, Context224_update_src_eq_model, Context224_finalize_src_eq_model]
  exact Cx.Props.C01.Sha2.sha224_eq_spec msg h

/-- a 200-byte message is inside both domains -/
example : (List.replicate 200 (7 : UInt8)).length < 2 ^ 61 ∧ (List.replicate 200 (7 : UInt8)).length < 2 ^ 125 := by
  rw [List.length_replicate]; omega

end Cx.Props.C01.GlueTieMdSpec
