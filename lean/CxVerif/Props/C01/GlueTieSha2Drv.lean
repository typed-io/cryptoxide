/-
  Props.C01.GlueTieSha2Drv — the translator tie for the SHA-2 MULTI-BLOCK DRIVERS and the cfg DISPATCHERS.

  `Extracted/GlueSha2Drv.lean` is regenerated on every run by tools/ktx_glue.py (kernel specs tools/kernels/sha2_drivers.py) from the
  CURRENT text of
    src/hashing/sha2/impl256/reference.rs  `digest_block`: `let mut i = 0; while i < block.len() { digest_block_u32(state, &block[i..i + 64]); i += 64; }`
    src/hashing/sha2/impl512/reference.rs  `digest_block`: `let mut block2 = [0u64; 16]; while !block.is_empty() { read_u64v_be(&mut block2[..],
                                            &block[0..128]); digest_block_u64(state, &block2); block = &block[128..]; }`  — SHA-512's only
                                            byte-to-word load and the advance of the slice
    src/hashing/sha2/impl256/mod.rs        `digest_block` (cfg dispatch) with its `#[cfg]` attributes evaluated for x86_64 WITHOUT sse4.1 / avx
    src/hashing/sha2/impl512/mod.rs        `digest_block` (cfg dispatch) under the four cfg sets {baseline, +sse4.1, +avx, +avx2}
    src/cryptoutil.rs                      `read_u64v_be` / `read_u64v_le` (the `read_array_type!` expansions the SHA-512 driver calls).
  The callees `digest_block_u32` / `digest_block_u64` are the compression functions tied by Props/C01/KernelTieSha256 / KernelTieSha512.
  `Extracted/GlueMd.lean` (`eng256::Engine::blocks`, `eng512::Engine::blocks`) and `Extracted/GlueSimd.lean` (the scalar tail of
  `sse41::digest_block`) CALL these generated definitions (no hand model is substituted for them); their ties
  (Props/C01/GlueTieMd.lean, Props/C16/GlueTieSimdSha.lean) go through the theorems below.
  The cfg sets with SIMD and the BLAKE2 engine dispatch: Props/C16/GlueTieSha2Disp.lean.

  Every theorem holds for ALL chaining values and ALL byte strings of every length — in particular the panic (`none`) for a length that is
  not a multiple of the block size — and the `*_any_fuel` theorems show that the loop fuel the translator passes (`block.len()`) is never
  the reason for a `none`: every fuel `≥ ⌈len / block⌉` gives the same answer.

  Axioms: propext, Classical.choice, Quot.sound.
-/
import CxVerif.Proofs.GlueSha2Drv
import CxVerif.Proofs.SimdSha256Batch
namespace Cx.Props.C01.GlueTieSha2Drv
open Cx.Impl Cx.Spec.Sha2 Cx.Proofs.GlueSha2Drv
open Cx.Extracted.GlueSha2Drv

/-! ### src/cryptoutil.rs: the readers the SHA-512 driver uses -/

/-- `read_u64v_be(dst, input)`: `assert!(dst.len() * 8 == input.len())`, then the cursor loop = the big-endian words -/
theorem read_u64v_be_src_eq_model (dst : List UInt64) (input : Bytes) :
    read_u64v_be_src dst input = read_u64v_be dst.length input :=
  Cx.Proofs.GlueSha2Drv.read_u64v_be_src_eq_model dst input

open Cx.Proofs.GlueMd in
/-- `read_u64v_le` (translated so that exchanging the two readers in the driver changes a DEFINITION, not just a name): the little-endian words -/
theorem read_u64v_le_src_eq (dst : List UInt64) (input : Bytes) :
    read_u64v_le_src dst input = if dst.length * 8 ≠ input.length then none else some (wordsLE64 input) := by
  unfold read_u64v_le_src
  by_cases h : dst.length * 8 = input.length
  · simp only [read_u64v_le_loop, readLoop_words leU64 8 (by decide) dst input h, h, ne_eq, not_true_eq_false, ite_false, wordsLE64]
  · simp only [h, ne_eq, not_false_eq_true, ite_true]

/-- the two readers differ (so the tie of the SHA-512 driver pins the byte order) -/
example : read_u64v_be_src [0] [1, 0, 0, 0, 0, 0, 0, 0] ≠ read_u64v_le_src [0] [1, 0, 0, 0, 0, 0, 0, 0] := by decide

/-! ### impl256/reference.rs `digest_block` -/

/-- **the tie (SHA-256 driver)**: the translated `while` loop IS the hand model `Impl256.digest_block`, every state, every byte string -/
theorem reference_digest_block256_src_eq_model (state : W8 UInt32) (block : Bytes) :
    Impl256.reference_digest_block_src state block = Impl.Sha2.Impl256.digest_block state block :=
  reference256_eq_model state block

/-- **fuel is never the reason**: with ANY fuel of at least one unit per 64 bytes the generated loop returns the model's answer (the translator
    passes `block.len()`) -/
theorem reference_digest_block256_any_fuel (state : W8 UInt32) (block : Bytes) (fuel : Nat) (hf : block.length ≤ 64 * fuel) :
    (Impl256.reference_digest_block_src_loop1 block fuel state 0).map Prod.fst = Impl.Sha2.Impl256.digest_block state block :=
  loop256_any_fuel state block fuel hf

example : (List.replicate 130 (7 : UInt8)).length ≤ 64 * 3 := by rw [List.length_replicate]; decide

theorem reference_digest_block256_src_eq_fold (state : W8 UInt32) (block : Bytes) (h : block.length % 64 = 0) :
    Impl256.reference_digest_block_src state block = some ((fullBlocks 64 block).foldl compress256 state) := by
  rw [reference256_eq_model]; exact Cx.Proofs.SimdSha256.reference_digest_block_eq state block h

/-- a length that is not a multiple of 64: `&block[i..i + 64]` panics on the last, short block -/
theorem reference_digest_block256_src_ragged (state : W8 UInt32) (block : Bytes) (h : block.length % 64 ≠ 0) :
    Impl256.reference_digest_block_src state block = none := by
  rw [reference256_eq_model]; exact Cx.Proofs.SimdSha256.reference_digest_block_none state block h

example : (List.replicate 128 (7 : UInt8)).length % 64 = 0 ∧ (List.replicate 100 (7 : UInt8)).length % 64 ≠ 0 := by
  rw [List.length_replicate, List.length_replicate]; decide

/-! ### impl512/reference.rs `digest_block` -/

/-- **the tie (SHA-512 driver)**: `read_u64v_be` on `&block[0..128]` into the sixteen-word scratch array, the compression, `&block[128..]` —
    IS the hand model `Impl512.digest_block`, every state, every byte string -/
theorem reference_digest_block512_src_eq_model (state : W8 UInt64) (block : Bytes) :
    Impl512.reference_digest_block_src state block = Impl.Sha2.Impl512.digest_block state block :=
  reference512_eq_model state block

/-- **fuel is never the reason** (any fuel of at least one unit per 128 bytes; any sixteen-word scratch array) -/
theorem reference_digest_block512_any_fuel (state : W8 UInt64) (block : Bytes) (fuel : Nat) (hf : block.length ≤ 128 * fuel)
    (block2 : List UInt64) (h2 : block2.length = 16) :
    (Impl512.reference_digest_block_src_loop1 fuel block2 state block).map (fun r => r.2.1)
      = Impl.Sha2.Impl512.digest_block state block :=
  loop512_any_fuel state block fuel hf block2 h2

example : (List.replicate 300 (7 : UInt8)).length ≤ 128 * 3 ∧ (Glue.fill 16 (0 : UInt64)).length = 16 := by
  refine ⟨by rw [List.length_replicate]; decide, by simp [Glue.fill]⟩

theorem reference_digest_block512_src_eq_fold (state : W8 UInt64) (block : Bytes) (h : block.length % 128 = 0) :
    Impl512.reference_digest_block_src state block = some ((fullBlocks 128 block).foldl compress512 state) := by
  rw [reference512_eq_model, Cx.Proofs.Sha2Engine.digest_block512_total, if_pos h]

/-- a length that is not a multiple of 128: `&block[0..128]` panics on the last, short block -/
theorem reference_digest_block512_src_ragged (state : W8 UInt64) (block : Bytes) (h : block.length % 128 ≠ 0) :
    Impl512.reference_digest_block_src state block = none := by
  rw [reference512_eq_model, Cx.Proofs.Sha2Engine.digest_block512_total, if_neg h]

/-! ### the cfg dispatchers that reach only the reference drivers -/

/-- `impl256::digest_block` with the `#[cfg]`s evaluated for x86_64 without sse4.1 / avx (both `if HAS_…` blocks and the aarch64 block are
    compiled out; `HAS_AVX = HAS_SSE41 = false`): the reference driver -/
theorem digest_block256_baseline_src_eq_model (state : W8 UInt32) (block : Bytes) :
    Impl256.digest_block_baseline_src state block = Impl.Sha2.Impl256.digest_block state block :=
  dispatch256_baseline_eq_model state block

/-- `impl512::digest_block`: the two cfg blocks are empty, so every cfg set gives the reference driver -/
theorem digest_block512_src_eq_model (state : W8 UInt64) (block : Bytes) :
    Impl512.digest_block_baseline_src state block = Impl.Sha2.Impl512.digest_block state block ∧
    Impl512.digest_block_sse41_src state block = Impl.Sha2.Impl512.digest_block state block ∧
    Impl512.digest_block_avx_src state block = Impl.Sha2.Impl512.digest_block state block ∧
    Impl512.digest_block_avx2_src state block = Impl.Sha2.Impl512.digest_block state block :=
  ⟨reference512_eq_model state block, reference512_eq_model state block, reference512_eq_model state block,
   reference512_eq_model state block⟩

/-! ### closing the chain: the hand models ARE the generated definitions (for readers that start from the model side) -/

theorem model_digest_block256_eq_generated (state : W8 UInt32) (block : Bytes) :
    Impl.Sha2.Impl256.digest_block state block = Impl256.digest_block_baseline_src state block :=
  (dispatch256_baseline_eq_model state block).symm

theorem model_digest_block512_eq_generated (state : W8 UInt64) (block : Bytes) :
    Impl.Sha2.Impl512.digest_block state block = Impl512.digest_block_baseline_src state block :=
  (dispatch512_baseline_eq_model state block).symm

end Cx.Props.C01.GlueTieSha2Drv
