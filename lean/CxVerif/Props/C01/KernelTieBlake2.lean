/-
  Props.C01.KernelTieBlake2 — the translator tie for the portable BLAKE2b / BLAKE2s compression functions.
  `Extracted/KernelsBlake2.lean` is regenerated from /repo/src/hashing/blake2/reference.rs (macros `compressbody!`,
  `round!`, `G!`), /repo/src/hashing/blake2/mod.rs (`EngineB/EngineS::compress`, cfg dispatch evaluated for the build
  without AVX) and /repo/src/hashing/blake2/common.rs (`b::IV, R1..R4, ROUNDS`, `s::…`, `SIGMA`) on every run by
  tools/ktx_words.py: the macros are expanded as rustc does, `$conmod::…` constants and `SIGMA[r][2i+j]` indices are
  resolved from the source, `if $conmod::ROUNDS == 12` is decided, the run-time test `last == LastBlock::Yes` becomes an
  `if` on a `Bool`; every assignment of `G!` is one `let` on `UInt64` / `UInt32`.
  The compression core `Spec.Blake2.compressCore` (with `G`, `round`) is SHARED between Spec and Impl, so no theorem
  that compares Spec and Impl ties it to the code.  The theorems below, re-checked by the kernel on every build, say
  that this shared core, as instantiated by `Impl.Blake2.reference_compress` (tables extracted from the source), computes
  exactly what the current text of `compress_b` / `compress_s` says — for ALL chaining values, counters, blocks and both
  flag values.
  (`read_uNNv_le`, `rotate_right`, `wrapping_add` are primitives: `Spec.Blake2.loadWords`, `rotr64`/`rotr32`, `+`.)
-/
import CxVerif.Extracted.KernelsBlake2
import CxVerif.Impl.Blake2
import CxVerif.Proofs.ByteLemmas
import CxVerif.Proofs.KernelRfl
namespace Cx.Props.C01.KernelTieBlake2
-- a small heartbeat budget makes a FAILING check (elaborator `rfl` or kernel) stop after seconds instead of minutes
set_option maxHeartbeats 20000
open Cx.Impl.Blake2 Cx.Extracted.KernelsBlake2
open Cx.Spec.Blake2 (loadWords)

/-- the `i`-th little-endian word of the block: what `read_u64v_le(&mut ms, buf)` / `read_u32v_le` puts into `ms[i]` -/
abbrev mb (buf : Bytes) (i : Fin 16) : UInt64 := (loadWords buf : Vector UInt64 16)[i]
abbrev ms (buf : Bytes) (i : Fin 16) : UInt32 := (loadWords buf : Vector UInt32 16)[i]

/-- `compress_b` as written in the source = the shared core instantiated with the BLAKE2b parameters -/
theorem compress_b_src_eq_shared_core_words (h0 h1 h2 h3 h4 h5 h6 h7 : UInt64) (t0 t1 : Nat) (buf : Bytes) (last : LastBlock) :
    reference_compress b #v[h0, h1, h2, h3, h4, h5, h6, h7] t0 t1 buf last =
      compress_b_src h0 h1 h2 h3 h4 h5 h6 h7 (UInt64.ofNat t0) (UInt64.ofNat t1)
        (mb buf 0) (mb buf 1) (mb buf 2) (mb buf 3) (mb buf 4) (mb buf 5) (mb buf 6) (mb buf 7)
        (mb buf 8) (mb buf 9) (mb buf 10) (mb buf 11) (mb buf 12) (mb buf 13) (mb buf 14) (mb buf 15)
        (decide (last = LastBlock.Yes)) := by
  kernel_rfl

/-- `compress_s` as written in the source = the shared core instantiated with the BLAKE2s parameters -/
theorem compress_s_src_eq_shared_core_words (h0 h1 h2 h3 h4 h5 h6 h7 : UInt32) (t0 t1 : Nat) (buf : Bytes) (last : LastBlock) :
    reference_compress s #v[h0, h1, h2, h3, h4, h5, h6, h7] t0 t1 buf last =
      compress_s_src h0 h1 h2 h3 h4 h5 h6 h7 (UInt32.ofNat t0) (UInt32.ofNat t1)
        (ms buf 0) (ms buf 1) (ms buf 2) (ms buf 3) (ms buf 4) (ms buf 5) (ms buf 6) (ms buf 7)
        (ms buf 8) (ms buf 9) (ms buf 10) (ms buf 11) (ms buf 12) (ms buf 13) (ms buf 14) (ms buf 15)
        (decide (last = LastBlock.Yes)) := by
  kernel_rfl

/-- **the tie (BLAKE2b)**: `Impl.Blake2.reference_compress b` — i.e. the shared `compressCore` with the extracted
    BLAKE2b tables — IS the translated source, for every chaining value, counter words, block and flag -/
theorem compress_b_src_eq_shared_core (h : Vector UInt64 8) (t0 t1 : Nat) (buf : Bytes) (last : LastBlock) :
    reference_compress b h t0 t1 buf last =
      compress_b_src h[0] h[1] h[2] h[3] h[4] h[5] h[6] h[7] (UInt64.ofNat t0) (UInt64.ofNat t1)
        (mb buf 0) (mb buf 1) (mb buf 2) (mb buf 3) (mb buf 4) (mb buf 5) (mb buf 6) (mb buf 7)
        (mb buf 8) (mb buf 9) (mb buf 10) (mb buf 11) (mb buf 12) (mb buf 13) (mb buf 14) (mb buf 15)
        (decide (last = LastBlock.Yes)) := by
  obtain ⟨h0, h1, h2, h3, h4, h5, h6, h7, rfl⟩ := Cx.Proofs.Bytes.vec8 h
  exact compress_b_src_eq_shared_core_words h0 h1 h2 h3 h4 h5 h6 h7 t0 t1 buf last

theorem compress_s_src_eq_shared_core (h : Vector UInt32 8) (t0 t1 : Nat) (buf : Bytes) (last : LastBlock) :
    reference_compress s h t0 t1 buf last =
      compress_s_src h[0] h[1] h[2] h[3] h[4] h[5] h[6] h[7] (UInt32.ofNat t0) (UInt32.ofNat t1)
        (ms buf 0) (ms buf 1) (ms buf 2) (ms buf 3) (ms buf 4) (ms buf 5) (ms buf 6) (ms buf 7)
        (ms buf 8) (ms buf 9) (ms buf 10) (ms buf 11) (ms buf 12) (ms buf 13) (ms buf 14) (ms buf 15)
        (decide (last = LastBlock.Yes)) := by
  obtain ⟨h0, h1, h2, h3, h4, h5, h6, h7, rfl⟩ := Cx.Proofs.Bytes.vec8 h
  exact compress_s_src_eq_shared_core_words h0 h1 h2 h3 h4 h5 h6 h7 t0 t1 buf last

/-! ### the engines' `compress` (blake2/mod.rs), build without AVX: dispatch + `reference::compress_*` inlined -/

/-- the text of `EngineB::compress` is the text of `reference::compress_b` (inlined by the dispatch) beside the unchanged
    counter words: two straight-line programs on the same variables, compared by the kernel -/
theorem EngineB_src_eq (h0 h1 h2 h3 h4 h5 h6 h7 t0 t1 m0 m1 m2 m3 m4 m5 m6 m7 m8 m9 m10 m11 m12 m13 m14 m15 : UInt64) (last : Bool) :
    EngineB_compress_src h0 h1 h2 h3 h4 h5 h6 h7 t0 t1 m0 m1 m2 m3 m4 m5 m6 m7 m8 m9 m10 m11 m12 m13 m14 m15 last =
      (compress_b_src h0 h1 h2 h3 h4 h5 h6 h7 t0 t1 m0 m1 m2 m3 m4 m5 m6 m7 m8 m9 m10 m11 m12 m13 m14 m15 last, t0, t1) := by
  kernel_rfl

theorem EngineS_src_eq (h0 h1 h2 h3 h4 h5 h6 h7 t0 t1 m0 m1 m2 m3 m4 m5 m6 m7 m8 m9 m10 m11 m12 m13 m14 m15 : UInt32) (last : Bool) :
    EngineS_compress_src h0 h1 h2 h3 h4 h5 h6 h7 t0 t1 m0 m1 m2 m3 m4 m5 m6 m7 m8 m9 m10 m11 m12 m13 m14 m15 last =
      (compress_s_src h0 h1 h2 h3 h4 h5 h6 h7 t0 t1 m0 m1 m2 m3 m4 m5 m6 m7 m8 m9 m10 m11 m12 m13 m14 m15 last, t0, t1) := by
  kernel_rfl

/-- **the tie (EngineB::compress)**: new `h` and unchanged counter words, for every engine state, block and flag -/
theorem EngineB_compress_src_eq_model (e : Engine UInt64) (buf : Bytes) (last : LastBlock) :
    ((Engine.compress b e buf last).h, UInt64.ofNat (Engine.compress b e buf last).t0,
      UInt64.ofNat (Engine.compress b e buf last).t1) =
      EngineB_compress_src e.h[0] e.h[1] e.h[2] e.h[3] e.h[4] e.h[5] e.h[6] e.h[7] (UInt64.ofNat e.t0) (UInt64.ofNat e.t1)
        (mb buf 0) (mb buf 1) (mb buf 2) (mb buf 3) (mb buf 4) (mb buf 5) (mb buf 6) (mb buf 7)
        (mb buf 8) (mb buf 9) (mb buf 10) (mb buf 11) (mb buf 12) (mb buf 13) (mb buf 14) (mb buf 15)
        (decide (last = LastBlock.Yes)) := by
  rw [EngineB_src_eq, ← compress_b_src_eq_shared_core]
  rfl

theorem EngineS_compress_src_eq_model (e : Engine UInt32) (buf : Bytes) (last : LastBlock) :
    ((Engine.compress s e buf last).h, UInt32.ofNat (Engine.compress s e buf last).t0,
      UInt32.ofNat (Engine.compress s e buf last).t1) =
      EngineS_compress_src e.h[0] e.h[1] e.h[2] e.h[3] e.h[4] e.h[5] e.h[6] e.h[7] (UInt32.ofNat e.t0) (UInt32.ofNat e.t1)
        (ms buf 0) (ms buf 1) (ms buf 2) (ms buf 3) (ms buf 4) (ms buf 5) (ms buf 6) (ms buf 7)
        (ms buf 8) (ms buf 9) (ms buf 10) (ms buf 11) (ms buf 12) (ms buf 13) (ms buf 14) (ms buf 15)
        (decide (last = LastBlock.Yes)) := by
  rw [EngineS_src_eq, ← compress_s_src_eq_shared_core]
  rfl

/-- the two ties on explicit state words -/
theorem EngineB_compress_src_eq_model_words (h0 h1 h2 h3 h4 h5 h6 h7 : UInt64) (t0 t1 : Nat) (buf : Bytes) (last : LastBlock) :
    (let e := Engine.compress b ⟨#v[h0, h1, h2, h3, h4, h5, h6, h7], t0, t1⟩ buf last
     (e.h, UInt64.ofNat e.t0, UInt64.ofNat e.t1)) =
      EngineB_compress_src h0 h1 h2 h3 h4 h5 h6 h7 (UInt64.ofNat t0) (UInt64.ofNat t1)
        (mb buf 0) (mb buf 1) (mb buf 2) (mb buf 3) (mb buf 4) (mb buf 5) (mb buf 6) (mb buf 7)
        (mb buf 8) (mb buf 9) (mb buf 10) (mb buf 11) (mb buf 12) (mb buf 13) (mb buf 14) (mb buf 15)
        (decide (last = LastBlock.Yes)) :=
  EngineB_compress_src_eq_model ⟨#v[h0, h1, h2, h3, h4, h5, h6, h7], t0, t1⟩ buf last

theorem EngineS_compress_src_eq_model_words (h0 h1 h2 h3 h4 h5 h6 h7 : UInt32) (t0 t1 : Nat) (buf : Bytes) (last : LastBlock) :
    (let e := Engine.compress s ⟨#v[h0, h1, h2, h3, h4, h5, h6, h7], t0, t1⟩ buf last
     (e.h, UInt32.ofNat e.t0, UInt32.ofNat e.t1)) =
      EngineS_compress_src h0 h1 h2 h3 h4 h5 h6 h7 (UInt32.ofNat t0) (UInt32.ofNat t1)
        (ms buf 0) (ms buf 1) (ms buf 2) (ms buf 3) (ms buf 4) (ms buf 5) (ms buf 6) (ms buf 7)
        (ms buf 8) (ms buf 9) (ms buf 10) (ms buf 11) (ms buf 12) (ms buf 13) (ms buf 14) (ms buf 15)
        (decide (last = LastBlock.Yes)) :=
  EngineS_compress_src_eq_model ⟨#v[h0, h1, h2, h3, h4, h5, h6, h7], t0, t1⟩ buf last

end Cx.Props.C01.KernelTieBlake2
