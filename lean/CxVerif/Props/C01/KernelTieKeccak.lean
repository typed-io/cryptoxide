/-
  Props.C01.KernelTieKeccak — the translator tie for `keccak_f` (SHA-3 / Keccak permutation, compact64 organisation).
  `Extracted/KernelsKeccak.lean` is regenerated from /repo/src/hashing/sha3.rs on every run by tools/ktx_words.py:
  the loops `for round in 0..NROUNDS`, `for x in 0..5`, `for y in 0..5`, `for x in 0..24` are unrolled, the index tables
  `M5`, `PIL`, the rotation offsets `ROTC` and the round constants `RC` are read from the source, every lane update is
  one `let` on `UInt64` (2040 of them).  The theorems, re-checked by the kernel on every build, say that the hand-written
  loop-shaped model `Impl.Sha3.keccak_f_lanes` (`theta`/`rho_pi`/`chi`/`iota` as `foldlM`s in the `Option` monad over an
  `Array UInt64`, about which `Proofs/KeccakF` proves equality with FIPS 202 and on which all SHA-3/Keccak variants,
  their HMACs and the sponge theorems rest) computes exactly what the source says now, for ALL 25-lane states — and in
  particular never hits an index panic.  A changed loop bound, index expression, table entry, rotation, operand or
  operator in `keccak_f` breaks a proof obligation even when no sampled input reaches it.
  (`read_u64v_le`, `write_u64v_le`, `u64::rotate_left` are primitives: the model's `read_u64v_le`/`write_u64v_le`, `rotl64`.)
  How it is checked: the kernel evaluates ONE round of the model on 25 lane variables against the closed form `roundLanes`
  (the model's checked array updates are what is slow to evaluate, so this is done once and not 24 times), then 24
  closed-form rounds with the constants `RC` against the 2040 `let`s of the source.
-/
import CxVerif.Extracted.KernelsKeccak
import CxVerif.Impl.Sha3
import CxVerif.Proofs.KernelTieWords
import CxVerif.Proofs.KernelRfl
namespace Cx.Props.C01.KernelTieKeccak
-- a small heartbeat budget makes a FAILING check (elaborator `rfl` or kernel) stop after seconds instead of minutes
set_option maxHeartbeats 20000
open Cx.Impl.Sha3 Cx.Extracted.KernelsKeccak Cx.Proofs.KernelTieWords

/-- one round of Keccak-f on 25 named lanes, in closed form: the column parities `c` and the θ masks `d`, the lanes `b` after
    θ, ρ and π (`b_p = rotl (a_q ⊕ d_q) k` along the walk `PIL`/`ROTC`), then χ row by row with ι on lane 0 -/
def roundLanes : UInt64 → List UInt64 → List UInt64
  | rc, [a0, a1, a2, a3, a4, a5, a6, a7, a8, a9, a10, a11, a12, a13, a14, a15, a16, a17, a18, a19, a20, a21, a22, a23, a24] =>
    let c0 := a0 ^^^ a5 ^^^ a10 ^^^ a15 ^^^ a20
    let c1 := a1 ^^^ a6 ^^^ a11 ^^^ a16 ^^^ a21
    let c2 := a2 ^^^ a7 ^^^ a12 ^^^ a17 ^^^ a22
    let c3 := a3 ^^^ a8 ^^^ a13 ^^^ a18 ^^^ a23
    let c4 := a4 ^^^ a9 ^^^ a14 ^^^ a19 ^^^ a24
    let d0 := c4 ^^^ rotl64 c1 1
    let d1 := c0 ^^^ rotl64 c2 1
    let d2 := c1 ^^^ rotl64 c3 1
    let d3 := c2 ^^^ rotl64 c4 1
    let d4 := c3 ^^^ rotl64 c0 1
    let b0 := a0 ^^^ d0
    let b10 := rotl64 (a1 ^^^ d1) 1
    let b7 := rotl64 (a10 ^^^ d0) 3
    let b11 := rotl64 (a7 ^^^ d2) 6
    let b17 := rotl64 (a11 ^^^ d1) 10
    let b18 := rotl64 (a17 ^^^ d2) 15
    let b3 := rotl64 (a18 ^^^ d3) 21
    let b5 := rotl64 (a3 ^^^ d3) 28
    let b16 := rotl64 (a5 ^^^ d0) 36
    let b8 := rotl64 (a16 ^^^ d1) 45
    let b21 := rotl64 (a8 ^^^ d3) 55
    let b24 := rotl64 (a21 ^^^ d1) 2
    let b4 := rotl64 (a24 ^^^ d4) 14
    let b15 := rotl64 (a4 ^^^ d4) 27
    let b23 := rotl64 (a15 ^^^ d0) 41
    let b19 := rotl64 (a23 ^^^ d3) 56
    let b13 := rotl64 (a19 ^^^ d4) 8
    let b12 := rotl64 (a13 ^^^ d3) 25
    let b2 := rotl64 (a12 ^^^ d2) 43
    let b20 := rotl64 (a2 ^^^ d2) 62
    let b14 := rotl64 (a20 ^^^ d0) 18
    let b22 := rotl64 (a14 ^^^ d4) 39
    let b9 := rotl64 (a22 ^^^ d2) 61
    let b6 := rotl64 (a9 ^^^ d4) 20
    let b1 := rotl64 (a6 ^^^ d1) 44
    [b0 ^^^ ((~~~b1) &&& b2) ^^^ rc, b1 ^^^ ((~~~b2) &&& b3), b2 ^^^ ((~~~b3) &&& b4), b3 ^^^ ((~~~b4) &&& b0), b4 ^^^ ((~~~b0) &&& b1),
     b5 ^^^ ((~~~b6) &&& b7), b6 ^^^ ((~~~b7) &&& b8), b7 ^^^ ((~~~b8) &&& b9), b8 ^^^ ((~~~b9) &&& b5), b9 ^^^ ((~~~b5) &&& b6),
     b10 ^^^ ((~~~b11) &&& b12), b11 ^^^ ((~~~b12) &&& b13), b12 ^^^ ((~~~b13) &&& b14), b13 ^^^ ((~~~b14) &&& b10), b14 ^^^ ((~~~b10) &&& b11),
     b15 ^^^ ((~~~b16) &&& b17), b16 ^^^ ((~~~b17) &&& b18), b17 ^^^ ((~~~b18) &&& b19), b18 ^^^ ((~~~b19) &&& b15), b19 ^^^ ((~~~b15) &&& b16),
     b20 ^^^ ((~~~b21) &&& b22), b21 ^^^ ((~~~b22) &&& b23), b22 ^^^ ((~~~b23) &&& b24), b23 ^^^ ((~~~b24) &&& b20), b24 ^^^ ((~~~b20) &&& b21)]
  | _, l => l

/-- the model's round (θ, ρπ, χ as `foldlM`s over a checked array, ι with the constant `rc`) on 25 lanes is `roundLanes` -/
theorem round_lanes (rc a0 a1 a2 a3 a4 a5 a6 a7 a8 a9 a10 a11 a12 a13 a14 a15 a16 a17 a18 a19 a20 a21 a22 a23 a24 : UInt64) :
    (do let s ← chi (← rho_pi (← theta #[a0, a1, a2, a3, a4, a5, a6, a7, a8, a9, a10, a11, a12, a13, a14, a15, a16, a17, a18, a19, a20, a21, a22, a23, a24])); aupd s 0 ((← aidx s 0) ^^^ rc)) =
      some (roundLanes rc [a0, a1, a2, a3, a4, a5, a6, a7, a8, a9, a10, a11, a12, a13, a14, a15, a16, a17, a18, a19, a20, a21, a22, a23, a24]).toArray := by
  kernel_rfl

theorem round_eq_lanes (i : Nat) (hi : i < 24) (l : List UInt64) (hl : l.length = 25) :
    round l.toArray i = some (roundLanes (Cx.Extracted.Sha3.RC.getD i 0) l).toArray ∧
      (roundLanes (Cx.Extracted.Sha3.RC.getD i 0) l).length = 25 := by
  obtain ⟨a0, a1, a2, a3, a4, a5, a6, a7, a8, a9, a10, a11, a12, a13, a14, a15, a16, a17, a18, a19, a20, a21, a22, a23, a24, rfl⟩ :=
    Cx.Proofs.Bytes.list25 l hl
  refine ⟨?_, rfl⟩
  have hrc : idx Cx.Extracted.Sha3.RC i = some (Cx.Extracted.Sha3.RC.getD i 0) := by
    have : i < Cx.Extracted.Sha3.RC.length := hi
    simp [idx, List.getD, this]
  unfold round iota
  rw [hrc]
  exact round_lanes _ a0 a1 a2 a3 a4 a5 a6 a7 a8 a9 a10 a11 a12 a13 a14 a15 a16 a17 a18 a19 a20 a21 a22 a23 a24

theorem rounds_eq_lanes (is : List Nat) (his : ∀ i ∈ is, i < 24) : ∀ (l : List UInt64), l.length = 25 →
    is.foldlM round l.toArray = some (is.foldl (fun l i => roundLanes (Cx.Extracted.Sha3.RC.getD i 0) l) l).toArray := by
  induction is with
  | nil => intro l _; rfl
  | cons i is ih =>
    intro l hl
    obtain ⟨h1, h2⟩ := round_eq_lanes i (his i (by simp)) l hl
    rw [List.foldlM_cons, h1]
    exact ih (fun j hj => his j (by simp [hj])) _ h2

theorem src_eq_rounds (a0 a1 a2 a3 a4 a5 a6 a7 a8 a9 a10 a11 a12 a13 a14 a15 a16 a17 a18 a19 a20 a21 a22 a23 a24 : UInt64) :
    ((List.range 24).foldl (fun l i => roundLanes (Cx.Extracted.Sha3.RC.getD i 0) l) [a0, a1, a2, a3, a4, a5, a6, a7, a8, a9, a10, a11, a12, a13, a14, a15, a16, a17, a18, a19, a20, a21, a22, a23, a24]).toArray = keccak_f_src a0 a1 a2 a3 a4 a5 a6 a7 a8 a9 a10 a11 a12 a13 a14 a15 a16 a17 a18 a19 a20 a21 a22 a23 a24 := by
  kernel_rfl

theorem keccak_f_src_eq_model_lanes
    (a0 a1 a2 a3 a4 a5 a6 a7 a8 a9 a10 a11 a12 a13 a14 a15 a16 a17 a18 a19 a20 a21 a22 a23 a24 : UInt64) :
    keccak_f_lanes #[a0, a1, a2, a3, a4, a5, a6, a7, a8, a9, a10, a11, a12, a13, a14, a15, a16, a17, a18, a19, a20, a21, a22, a23, a24]
      = some (keccak_f_src a0 a1 a2 a3 a4 a5 a6 a7 a8 a9 a10 a11 a12 a13 a14 a15 a16 a17 a18 a19 a20 a21 a22 a23 a24) := by
  rw [← src_eq_rounds]
  exact rounds_eq_lanes (List.range 24) (fun i hi => by simpa using hi) _ rfl

theorem read_u64v_le_size {n : Nat} {input : Bytes} {s : Array UInt64} (h : read_u64v_le n input = some s) : s.size = n := by
  unfold read_u64v_le at h
  split at h
  · cases h; simp
  · cases h

theorem keccak_f_lanes_then_store (n : Nat) (s : Array UInt64) (hs : s.size = 25) :
    (keccak_f_lanes s).bind (write_u64v_le n) =
        match s.toList with
        | [a0, a1, a2, a3, a4, a5, a6, a7, a8, a9, a10, a11, a12, a13, a14, a15, a16, a17, a18, a19, a20, a21, a22, a23, a24] =>
          write_u64v_le n
            (keccak_f_src a0 a1 a2 a3 a4 a5 a6 a7 a8 a9 a10 a11 a12 a13 a14 a15 a16 a17 a18 a19 a20 a21 a22 a23 a24)
        | _ => none := by
  obtain ⟨a0, a1, a2, a3, a4, a5, a6, a7, a8, a9, a10, a11, a12, a13, a14, a15, a16, a17, a18, a19, a20, a21, a22, a23, a24, rfl⟩ :=
      array25 s hs
  rw [keccak_f_src_eq_model_lanes, Option.bind_some]

/-- **the tie**: the model function `Impl.Sha3.keccak_f` IS: load 25 lanes (`read_u64v_le`), the translated source,
    store (`write_u64v_le`) — for every byte string (`none` = the `assert!` of `read_u64v_le`, i.e. `state.len() ≠ 200`) -/
theorem keccak_f_src_eq_model (state : Bytes) :
    keccak_f state =
      match read_u64v_le 25 state with
      | none => none
      | some s =>
        match s.toList with
        | [a0, a1, a2, a3, a4, a5, a6, a7, a8, a9, a10, a11, a12, a13, a14, a15, a16, a17, a18, a19, a20, a21, a22, a23, a24] =>
          write_u64v_le state.length
            (keccak_f_src a0 a1 a2 a3 a4 a5 a6 a7 a8 a9 a10 a11 a12 a13 a14 a15 a16 a17 a18 a19 a20 a21 a22 a23 a24)
        | _ => none := by
  unfold keccak_f
  cases h : read_u64v_le 25 state with
  | none => rfl
  | some s => exact keccak_f_lanes_then_store _ s (read_u64v_le_size h)

end Cx.Props.C01.KernelTieKeccak
