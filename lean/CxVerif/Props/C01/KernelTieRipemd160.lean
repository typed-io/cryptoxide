/-
  Props.C01.KernelTieRipemd160 — the translator tie for the RIPEMD-160 block function.
  `Extracted/KernelsRipemd160.lean` is regenerated from /repo/src/hashing/ripemd160.rs on every run by
  tools/ktx_words.py: the `process_block!` invocation (160 argument lines matched by the macro's ten `$( … )*`
  groups) and the nested `round!` invocations are expanded as rustc does and executed symbolically — 2×80 steps on
  `bb` / `bbb` and the `Combine results` block, one `let` chain on `UInt32`.
  The hand model `Impl.Ripemd160.process_block` instead INTERPRETS the extracted line tables
  (`Extracted.Sha1Ripemd.RIPEMD_LEFT/RIGHT`) with a hand-written `round`/`fnEval`; the theorems below, re-checked by the
  kernel on every build, say that this interpretation is exactly the macro expansion of the source as it is now, for
  ALL chaining values and ALL blocks: a changed `round!` body, boolean function, constant, shift, index, register
  order or combine line breaks a proof obligation even when no sampled input reaches it.
  (`read_u32v_le`, `u32::rotate_left`, `wrapping_add` are primitives: `wordsLE32`, `rotl32`, `+` on `UInt32`.)
-/
import CxVerif.Extracted.KernelsRipemd160
import CxVerif.Proofs.KernelTieWords
import CxVerif.Proofs.KernelRfl
namespace Cx.Props.C01.KernelTieRipemd160
-- a small heartbeat budget makes a FAILING check (elaborator `rfl` or kernel) stop after seconds instead of minutes
set_option maxHeartbeats 20000
open Cx.Impl.Ripemd160 Cx.Extracted.KernelsRipemd160 Cx.Proofs.KernelTieWords
open Cx.Spec.Ripemd160 (Hash)

theorem process_msg_block_src_eq_model_words (h0 h1 h2 h3 h4 : UInt32)
    (m0 m1 m2 m3 m4 m5 m6 m7 m8 m9 m10 m11 m12 m13 m14 m15 : UInt32) :
    process_block ⟨h0, h1, h2, h3, h4⟩ [m0, m1, m2, m3, m4, m5, m6, m7, m8, m9, m10, m11, m12, m13, m14, m15]
      = some (process_msg_block_src h0 h1 h2 h3 h4 m0 m1 m2 m3 m4 m5 m6 m7 m8 m9 m10 m11 m12 m13 m14 m15) := by
  kernel_rfl

/-- **the tie**: the model function `Impl.Ripemd160.process_msg_block` IS the translated source applied to the words
    that `read_u32v_le(&mut w[0..16], data)` loads — for every chaining value and every byte string `data`
    (`none` = the `assert!` of `read_u32v_le` fails, i.e. `data.len() ≠ 64`) -/
theorem process_msg_block_src_eq_model (data : Bytes) (h : Hash) :
    process_msg_block data h =
      if data.length = 64 then
        match wordsLE32 data with
        | [m0, m1, m2, m3, m4, m5, m6, m7, m8, m9, m10, m11, m12, m13, m14, m15] =>
          some (process_msg_block_src h.a h.b h.c h.d h.e m0 m1 m2 m3 m4 m5 m6 m7 m8 m9 m10 m11 m12 m13 m14 m15)
        | _ => none
      else none := by
  unfold process_msg_block
  by_cases hl : data.length = 64
  · simp only [hl, ↓reduceIte]
    obtain ⟨m0, m1, m2, m3, m4, m5, m6, m7, m8, m9, m10, m11, m12, m13, m14, m15, hw⟩ :=
      list16 (wordsLE32 data) (by rw [Cx.Proofs.Bytes.wordsLE32_length, hl])
    rw [hw]
    cases h
    exact process_msg_block_src_eq_model_words _ _ _ _ _ m0 m1 m2 m3 m4 m5 m6 m7 m8 m9 m10 m11 m12 m13 m14 m15
  · simp only [hl, ↓reduceIte]

end Cx.Props.C01.KernelTieRipemd160
