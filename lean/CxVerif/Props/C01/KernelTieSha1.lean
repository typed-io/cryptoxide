/-
  Props.C01.KernelTieSha1 — the translator tie for the SHA-1 block function (emulated SHA-NI intrinsics on u32x4).
  `Extracted/KernelsSha1.lean` is regenerated from /repo/src/hashing/sha1.rs (+ the portable `impl Add/BitXor for
  u32x4` of /repo/src/simd.rs) on every run by tools/ktx_words.py.  The theorems, re-checked by the kernel on every
  build, say that the hand-written model `Impl.Sha1` (helper by helper, and the whole `digest_block_u32`) is exactly
  what the source says now, for ALL states and ALL sixteen-word blocks.
  (`u32::rotate_left`, `wrapping_add` are primitives: `Impl.Sha1.rotate_left` = `rotl32`, `+` on `UInt32`.)
-/
import CxVerif.Extracted.KernelsSha1
import CxVerif.Proofs.KernelRfl
namespace Cx.Props.C01.KernelTieSha1
-- a small heartbeat budget makes a FAILING check (elaborator `rfl` or kernel) stop after seconds instead of minutes
set_option maxHeartbeats 20000
open Cx.Impl.Sha1 Cx.Extracted.KernelsSha1
open Cx.Spec.Sha1 (Hash)

theorem sha1_first_src_eq_model (w0 : u32x4) : sha1_first_src w0 = sha1_first w0 := rfl
theorem sha1_first_add_src_eq_model (e : UInt32) (w0 : u32x4) : sha1_first_add_src e w0 = sha1_first_add e w0 := rfl
theorem sha1msg1_src_eq_model (a b : u32x4) : sha1msg1_src a b = sha1msg1 a b := rfl
theorem sha1msg2_src_eq_model (a b : u32x4) : sha1msg2_src a b = sha1msg2 a b := rfl
theorem sha1_schedule_x4_src_eq_model (v0 v1 v2 v3 : u32x4) :
    sha1_schedule_x4_src v0 v1 v2 v3 = sha1_schedule_x4 v0 v1 v2 v3 := rfl
theorem sha1_first_half_src_eq_model (abcd msg : u32x4) : sha1_first_half_src abcd msg = sha1_first_half abcd msg := rfl
theorem sha1rnds4c_src_eq_model (abcd msg : u32x4) : sha1rnds4c_src abcd msg = sha1rnds4c abcd msg := rfl
theorem sha1rnds4p_src_eq_model (abcd msg : u32x4) : sha1rnds4p_src abcd msg = sha1rnds4p abcd msg := rfl
theorem sha1rnds4m_src_eq_model (abcd msg : u32x4) : sha1rnds4m_src abcd msg = sha1rnds4m abcd msg := rfl
/-- the four reachable arms of `match i` in `sha1_digest_round_x4` (every call site passes a literal 0..3) -/
theorem sha1_digest_round_x4_0_src_eq_model (abcd work : u32x4) :
    sha1_digest_round_x4 abcd work 0 = some (sha1_digest_round_x4_0_src abcd work) := rfl
theorem sha1_digest_round_x4_1_src_eq_model (abcd work : u32x4) :
    sha1_digest_round_x4 abcd work 1 = some (sha1_digest_round_x4_1_src abcd work) := rfl
theorem sha1_digest_round_x4_2_src_eq_model (abcd work : u32x4) :
    sha1_digest_round_x4 abcd work 2 = some (sha1_digest_round_x4_2_src abcd work) := rfl
theorem sha1_digest_round_x4_3_src_eq_model (abcd work : u32x4) :
    sha1_digest_round_x4 abcd work 3 = some (sha1_digest_round_x4_3_src abcd work) := rfl

theorem digest_block_u32_src_eq_model_words (state : Hash)
    (b0 b1 b2 b3 b4 b5 b6 b7 b8 b9 b10 b11 b12 b13 b14 b15 : UInt32) :
    digest_block_u32 state [b0, b1, b2, b3, b4, b5, b6, b7, b8, b9, b10, b11, b12, b13, b14, b15]
      = some (digest_block_u32_src state b0 b1 b2 b3 b4 b5 b6 b7 b8 b9 b10 b11 b12 b13 b14 b15) := by
  kernel_rfl

/-- **the tie**: the model function `Impl.Sha1.digest_block_u32` IS the translated source, for every state and every
    word list (`none` = not sixteen words, which `&[u32; 16]` excludes in Rust) -/
theorem digest_block_u32_src_eq_model (state : Hash) (block : List UInt32) :
    digest_block_u32 state block =
      match block with
      | [b0, b1, b2, b3, b4, b5, b6, b7, b8, b9, b10, b11, b12, b13, b14, b15] =>
        some (digest_block_u32_src state b0 b1 b2 b3 b4 b5 b6 b7 b8 b9 b10 b11 b12 b13 b14 b15)
      | _ => none := by
  rcases block with _ | ⟨a0, _ | ⟨a1, _ | ⟨a2, _ | ⟨a3, _ | ⟨a4, _ | ⟨a5, _ | ⟨a6, _ | ⟨a7, _ | ⟨a8, _ | ⟨a9, _ | ⟨a10,
    _ | ⟨a11, _ | ⟨a12, _ | ⟨a13, _ | ⟨a14, _ | ⟨a15, _ | ⟨a16, t⟩⟩⟩⟩⟩⟩⟩⟩⟩⟩⟩⟩⟩⟩⟩⟩⟩
  all_goals first
    | exact digest_block_u32_src_eq_model_words state a0 a1 a2 a3 a4 a5 a6 a7 a8 a9 a10 a11 a12 a13 a14 a15
    | rfl

end Cx.Props.C01.KernelTieSha1
