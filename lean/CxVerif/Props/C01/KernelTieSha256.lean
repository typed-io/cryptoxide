/-
  Props.C01.KernelTieSha256 — the translator tie for the portable SHA-256 block function.
  `Extracted/KernelsSha256.lean` is regenerated from /repo/src/hashing/sha2/impl256/reference.rs on every run by
  tools/ktx_words.py (symbolic execution of the Rust source: macros expanded, loops unrolled, helper fns inlined;
  one straight-line `let` chain on `UInt32`).  The theorems below, re-checked by the kernel on every build, say that
  the hand-written model `Impl.Sha2.Impl256` — about which the C01/C02/C08/C16 theorems are proved — and the shared
  message-schedule core `Spec.Sha2.schedule256` compute exactly what the source says now, for ALL chaining values
  and ALL blocks.  A changed rotation constant, operand, index, loop bound or `K32` entry in the source changes the
  generated definition and breaks a proof obligation here, even when no sampled input reaches it.
  (`read_u32v_be`, `u32::rotate_right`, `wrapping_add` are primitives: the hand model's `read_u32v_be`,
  `Impl256.rotate_right`, `+` on `UInt32`.)
-/
import CxVerif.Extracted.KernelsSha256
import CxVerif.Proofs.KernelTieWords
import CxVerif.Proofs.KernelRfl
namespace Cx.Props.C01.KernelTieSha256
-- a small heartbeat budget makes a FAILING check (elaborator `rfl` or kernel) stop after seconds instead of minutes
set_option maxHeartbeats 20000
open Cx.Impl Cx.Impl.Sha2 Cx.Spec.Sha2 Cx.Extracted.KernelsSha256 Cx.Proofs.KernelTieWords

theorem e0_src_eq_model (x : UInt32) : e0_src x = Impl256.e0 x := rfl
theorem e1_src_eq_model (x : UInt32) : e1_src x = Impl256.e1 x := rfl
theorem s0_src_eq_model (x : UInt32) : s0_src x = Impl256.s0 x := rfl
theorem s1_src_eq_model (x : UInt32) : s1_src x = Impl256.s1 x := rfl

/-- **schedule = shared core**: the loop `for i in 16..64 { w[i] = s1(w[i-2]) + w[i-7] + s0(w[i-15]) + w[i-16] }` of the
    source, on the sixteen loaded words, is `Spec.Sha2.schedule256` (the definition both Spec and Impl use) -/
theorem schedule_src_eq_shared_core (m0 m1 m2 m3 m4 m5 m6 m7 m8 m9 m10 m11 m12 m13 m14 m15 : UInt32) :
    schedule_src m0 m1 m2 m3 m4 m5 m6 m7 m8 m9 m10 m11 m12 m13 m14 m15
      = schedule256 [m0, m1, m2, m3, m4, m5, m6, m7, m8, m9, m10, m11, m12, m13, m14, m15] := by
  kernel_rfl

/-- `digest_block_u32` as written in the source (schedule, 64 `round!` steps, feed-forward) on the words of the block
    = the model's `rounds_loop` over `K32.zip (schedule256 …)` plus feed-forward, for every state and block words -/
theorem digest_block_u32_src_eq_model_words (state : W8 UInt32)
    (m0 m1 m2 m3 m4 m5 m6 m7 m8 m9 m10 m11 m12 m13 m14 m15 : UInt32) :
    (match (some [m0, m1, m2, m3, m4, m5, m6, m7, m8, m9, m10, m11, m12, m13, m14, m15] : Option (List UInt32)) with
      | none => none
      | some w16 =>
        let w := Spec.Sha2.schedule256 w16
        if Impl256.K32.length ≠ 64 ∨ w.length ≠ 64 then none else
        match Impl256.rounds_loop state (Impl256.K32.zip w) with
        | none => none
        | some r =>
          some (⟨state.a + r.a, state.b + r.b, state.c + r.c, state.d + r.d,
                 state.e + r.e, state.f + r.f, state.g + r.g, state.h + r.h⟩ : W8 UInt32))
      = some (digest_block_u32_src state m0 m1 m2 m3 m4 m5 m6 m7 m8 m9 m10 m11 m12 m13 m14 m15) := by
  kernel_rfl

/-- **the tie**: the model function `Impl256.digest_block_u32` IS the translated source applied to the words that the
    primitive `read_u32v_be(&mut w[0..16], buf)` loads — for every chaining value and every byte string `buf`
    (`none` = the `assert!` of `read_u32v_be` fails, i.e. `buf.len() ≠ 64`) -/
theorem digest_block_u32_src_eq_model (state : W8 UInt32) (buf : Bytes) :
    Impl256.digest_block_u32 state buf =
      match read_u32v_be 16 buf with
      | some [m0, m1, m2, m3, m4, m5, m6, m7, m8, m9, m10, m11, m12, m13, m14, m15] =>
        some (digest_block_u32_src state m0 m1 m2 m3 m4 m5 m6 m7 m8 m9 m10 m11 m12 m13 m14 m15)
      | _ => none := by
  unfold Impl256.digest_block_u32
  cases h : read_u32v_be 16 buf with
  | none => rfl
  | some w =>
    obtain ⟨m0, m1, m2, m3, m4, m5, m6, m7, m8, m9, m10, m11, m12, m13, m14, m15, rfl⟩ :=
      list16 w (read_u32v_be_length h)
    exact digest_block_u32_src_eq_model_words state m0 m1 m2 m3 m4 m5 m6 m7 m8 m9 m10 m11 m12 m13 m14 m15

end Cx.Props.C01.KernelTieSha256
