/-
  Props.C01.KernelTieSha512 — the translator tie for the portable SHA-512 block function (u64x2 pair lanes).
  `Extracted/KernelsSha512.lean` is regenerated from /repo/src/hashing/sha2/impl512/reference.rs (+ the portable
  `impl Add for u64x2` of /repo/src/simd.rs) on every run by tools/ktx_words.py.  The theorems, re-checked by the
  kernel on every build, say that the hand-written model `Impl.Sha2.Impl512` (about which `Proofs/Sha2Compress512`
  proves equality with FIPS 180-4 and on which SHA-384/512/512-224/512-256, HMAC, HKDF, PBKDF2, Ed25519 rest) is exactly
  what the source says now, for ALL chaining values and ALL sixteen-word blocks.
  (`u64::rotate_left/right`, `wrapping_add` are primitives: `Impl512.rotate_left/right`, `+` on `UInt64`.)
-/
import CxVerif.Extracted.KernelsSha512
import CxVerif.Proofs.KernelRfl
namespace Cx.Props.C01.KernelTieSha512
-- a small heartbeat budget makes a FAILING check (elaborator `rfl` or kernel) stop after seconds instead of minutes
set_option maxHeartbeats 20000
open Cx.Impl.Sha2 Cx.Spec.Sha2 Cx.Extracted.KernelsSha512

theorem sha512load_src_eq_model (v0 v1 : Impl512.u64x2) : sha512load_src v0 v1 = Impl512.sha512load v0 v1 := rfl
theorem schedule_x2_src_eq_model (v0 v1 v4to5 v7 : Impl512.u64x2) :
    schedule_x2_src v0 v1 v4to5 v7 = Impl512.schedule_x2 v0 v1 v4to5 v7 := rfl
theorem digest_round_src_eq_model (ae bf cg dh : Impl512.u64x2) (wk0 : UInt64) :
    digest_round_src ae bf cg dh wk0 = Impl512.digest_round ae bf cg dh wk0 := rfl

theorem digest_block_u64_src_eq_model_words (state : W8 UInt64)
    (b0 b1 b2 b3 b4 b5 b6 b7 b8 b9 b10 b11 b12 b13 b14 b15 : UInt64) :
    Impl512.digest_block_u64 state [b0, b1, b2, b3, b4, b5, b6, b7, b8, b9, b10, b11, b12, b13, b14, b15]
      = some (digest_block_u64_src state b0 b1 b2 b3 b4 b5 b6 b7 b8 b9 b10 b11 b12 b13 b14 b15) := by
  kernel_rfl

/-- **the tie**: the model function `Impl512.digest_block_u64` IS the translated source, for every state and every
    word list (`none` = not sixteen words, which `&[u64; 16]` excludes in Rust) -/
theorem digest_block_u64_src_eq_model (state : W8 UInt64) (block : List UInt64) :
    Impl512.digest_block_u64 state block =
      match block with
      | [b0, b1, b2, b3, b4, b5, b6, b7, b8, b9, b10, b11, b12, b13, b14, b15] =>
        some (digest_block_u64_src state b0 b1 b2 b3 b4 b5 b6 b7 b8 b9 b10 b11 b12 b13 b14 b15)
      | _ => none := by
  rcases block with _ | ⟨a0, _ | ⟨a1, _ | ⟨a2, _ | ⟨a3, _ | ⟨a4, _ | ⟨a5, _ | ⟨a6, _ | ⟨a7, _ | ⟨a8, _ | ⟨a9, _ | ⟨a10,
    _ | ⟨a11, _ | ⟨a12, _ | ⟨a13, _ | ⟨a14, _ | ⟨a15, _ | ⟨a16, t⟩⟩⟩⟩⟩⟩⟩⟩⟩⟩⟩⟩⟩⟩⟩⟩⟩
  all_goals first
    | exact digest_block_u64_src_eq_model_words state a0 a1 a2 a3 a4 a5 a6 a7 a8 a9 a10 a11 a12 a13 a14 a15
    | rfl

end Cx.Props.C01.KernelTieSha512
