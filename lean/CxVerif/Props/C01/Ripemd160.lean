/-
  Props.C01 (unit sha1ripemd, RIPEMD-160) — `cryptoxide::hashing::ripemd160` and `ripemd160::Context` return the
  RIPEMD-160 digest of the Dobbertin–Bosselaers–Preneel paper, for ALL messages of fewer than 2^61 bytes.

  Model: Impl/Ripemd160.lean interprets the argument list of the `process_block!` invocation (160 lines, re-extracted
  on every run together with the constants and boolean functions of the macro body; the `round!` body and the combine
  block are hand-modelled and their source text is pinned by the extractor).  Spec: Spec/Ripemd160.lean (ρ, π,
  shift-by-word table, two lines, combination) + Spec/MerkleDamgard.lean.
  Trusted: the extractor's parse of the macro; `processed_bytes +=` modelled wrapping.
  Only property theorems here; helpers in Proofs/{Ripemd160,Ripemd160Stream,MdRefine,FixedBuffer}.
-/
import CxVerif.Proofs.Ripemd160Stream
namespace Cx.Props.C01.Ripemd160
open Cx.Impl.Ripemd160

/-! ### the compression function: 160 macro lines = two lines of the paper -/

/-- the expansion of `process_block!` (80 + 80 `round!` steps on `bb`/`bbb` with rotating register roles, then
    "Combine results") computes the paper's compression function for EVERY chaining value and block -/
theorem ripemd160_compress_is_paper (h : Spec.Ripemd160.Hash) (M : List UInt32) :
    process_block h M = some (Spec.Ripemd160.compress h M) :=
  Cx.Proofs.Ripemd160.process_block_eq_compress h M

/-- on bytes: `process_msg_block` never panics on a 64-byte block -/
theorem ripemd160_process_msg_block (h : Spec.Ripemd160.Hash) (blk : Bytes) (hl : blk.length = 64) :
    process_msg_block blk h = some (Spec.Ripemd160.compressBytes h blk) :=
  Cx.Proofs.Ripemd160Stream.blockFn_spec h blk hl

example : (List.replicate 64 (0x5a : UInt8)).length = 64 := rfl

/-- **`cryptoxide::hashing::ripemd160(msg)` = RIPEMD-160(msg)** for every message of fewer than 2^61 bytes
    (padding, the length written as two LE 32-bit words incl. the `>> 29` high word, any number of blocks) -/
theorem ripemd160_is_paper (msg : Bytes) (hlen : msg.length < 2 ^ 61) :
    Impl.Ripemd160.ripemd160 msg = some (Spec.Ripemd160.ripemd160 msg) :=
  Cx.Proofs.Ripemd160Stream.oneShot_eq msg hlen

/-- `Context::new().update(msg).finalize()` -/
theorem ripemd160_context_finalize_is_paper (msg : Bytes) (hlen : msg.length < 2 ^ 61) :
    (fam.update fam.new msg).bind fam.finalize = some (Spec.Ripemd160.ripemd160 msg) := by
  have := Cx.Proofs.Ripemd160Stream.oneShot_eq msg hlen
  unfold Impl.Ripemd160.ripemd160 at this
  unfold fam
  cases h : Context.new.update msg with
  | none => simp [h] at this
  | some c => simpa [h] using this

example : ([0x61, 0x62, 0x63] : Bytes).length < 2 ^ 61 := by decide

/-! ### tables (extracted from the source on every run; complete, kernel-decided) -/

section
open Cx.Proofs.Ripemd160

/-- all 80 left-line rows: register roles rotate by one per step, message word r(j), shift s(j), constant K(j),
    boolean function of round j/16 -/
theorem ripemd160_left_table : leftLines = some ((List.range 80).map specLineL) := left_lines_eq

/-- all 80 right-line rows: r'(j), s'(j), K'(j), boolean function of round 4 − j/16 -/
theorem ripemd160_right_table : rightLines = some ((List.range 80).map specLineR) := right_lines_eq

/-- every register index of the schedule is < 5, every message-word index < 16, every shift < 32, every constant
    < 2^32, every function number < 5: no default of the model's array accessors is ever taken -/
theorem ripemd160_schedule_wellformed :
    ∀ l ∈ (List.range 80).map specLineL ++ (List.range 80).map specLineR,
      l.o0 < 5 ∧ l.o1 < 5 ∧ l.o2 < 5 ∧ l.o3 < 5 ∧ l.o4 < 5 ∧ l.data_index < 16 ∧ l.roll_shift < 32 ∧
      l.add < 2 ^ 32 ∧ l.fn < 5 := schedule_wellformed

end

/-- the code's two length words `(pb << 3) as u32`, `(pb >> 29) as u32`, written little-endian one after the
    other, are the 64-bit little-endian bit length -/
theorem ripemd160_length_field (pb : UInt64) (len : Nat) (hpb : pb.toNat = len % 2 ^ 64) (hlen : len < 2 ^ 61) :
    write_u32_le (pb <<< 3).toUInt32 ++ write_u32_le (pb >>> 29).toUInt32 = Spec.MD.le64 (8 * len) := by
  rw [Cx.Proofs.Ripemd160Stream.len_lo_eq, Cx.Proofs.Ripemd160Stream.len_hi_eq, hpb,
    Cx.Proofs.FB.len_le64_split_eq hlen]

example : ((2 ^ 32 + 5 : Nat).toUInt64).toNat = (2 ^ 32 + 5) % 2 ^ 64 ∧ 2 ^ 32 + 5 < 2 ^ 61 := by decide

section
open Cx.Proofs.Ripemd160 Cx.Spec.Ripemd160

/-- the Spec's tables (derived from ρ, π and the shift-by-word table) are the appendix listings of the paper -/
theorem ripemd160_tables_are_appendix :
    (List.range 80).map r = appendix_r ∧ (List.range 80).map r' = appendix_r' ∧
    (List.range 80).map s = appendix_s ∧ (List.range 80).map s' = appendix_s' := tables_eq_appendix

/-- left constants ⌊2^30·√n⌋ (n = 2, 3, 5, 7), right constants ⌊2^30·∛n⌋ -/
theorem ripemd160_constants_are_roots :
    (K 0 = 0 ∧
     (∀ c, c = (K 16).toNat → c ^ 2 ≤ 2 * 2 ^ 60 ∧ 2 * 2 ^ 60 < (c + 1) ^ 2) ∧
     (∀ c, c = (K 32).toNat → c ^ 2 ≤ 3 * 2 ^ 60 ∧ 3 * 2 ^ 60 < (c + 1) ^ 2) ∧
     (∀ c, c = (K 48).toNat → c ^ 2 ≤ 5 * 2 ^ 60 ∧ 5 * 2 ^ 60 < (c + 1) ^ 2) ∧
     (∀ c, c = (K 64).toNat → c ^ 2 ≤ 7 * 2 ^ 60 ∧ 7 * 2 ^ 60 < (c + 1) ^ 2)) ∧
    ((∀ c, c = (K' 0).toNat → c ^ 3 ≤ 2 * 2 ^ 90 ∧ 2 * 2 ^ 90 < (c + 1) ^ 3) ∧
     (∀ c, c = (K' 16).toNat → c ^ 3 ≤ 3 * 2 ^ 90 ∧ 3 * 2 ^ 90 < (c + 1) ^ 3) ∧
     (∀ c, c = (K' 32).toNat → c ^ 3 ≤ 5 * 2 ^ 90 ∧ 5 * 2 ^ 90 < (c + 1) ^ 3) ∧
     (∀ c, c = (K' 48).toNat → c ^ 3 ≤ 7 * 2 ^ 90 ∧ 7 * 2 ^ 90 < (c + 1) ^ 3) ∧
     K' 64 = 0) :=
  ⟨Cx.Proofs.Ripemd160.K_sqrt, Cx.Proofs.Ripemd160.K'_cbrt⟩

/-- `H` of ripemd160.rs is the paper's initial value -/
theorem ripemd160_H_table : Impl.Ripemd160.H = Spec.Ripemd160.H0 := Cx.Proofs.Ripemd160.H_eq

/-! ### tests of the Spec transcription (kernel evaluation of the paper's vectors; tests, not theorems) -/

/-- RIPEMD-160("abc") = 8eb208f7e05d987a9b044a8e98c6b087f15a0bfc -/
example : Spec.Ripemd160.ripemd160 [0x61, 0x62, 0x63] =
    [0x8e, 0xb2, 0x08, 0xf7, 0xe0, 0x5d, 0x98, 0x7a, 0x9b, 0x04, 0x4a, 0x8e, 0x98, 0xc6, 0xb0, 0x87, 0xf1, 0x5a,
     0x0b, 0xfc] := by decide +kernel

/-- RIPEMD-160("") = 9c1185a5c5e9fc54612808977ee8f548b2258d31 -/
example : Spec.Ripemd160.ripemd160 [] =
    [0x9c, 0x11, 0x85, 0xa5, 0xc5, 0xe9, 0xfc, 0x54, 0x61, 0x28, 0x08, 0x97, 0x7e, 0xe8, 0xf5, 0x48, 0xb2, 0x25,
     0x8d, 0x31] := by decide +kernel

end

end Cx.Props.C01.Ripemd160
