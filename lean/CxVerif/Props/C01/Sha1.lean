/-
  Props.C01 (unit sha1ripemd, SHA-1) — `cryptoxide::hashing::sha1` and `sha1::Context` return the FIPS 180-4 SHA-1
  digest, for ALL messages inside the standard's length domain (len < 2^61 bytes).

  Model: Impl/Sha1.lean (SHA-NI emulation on u32x4 lanes exactly as written, `FixedBuffer<64>` = Impl/FixedBuffer.lean,
  `mk_result`), tied to /repo by the correspondence run (`hash.sha1`, `hctx.sha1`) and the re-extracted constants
  (Extracted/Sha1Ripemd.lean).  Spec: Spec/Sha1.lean + Spec/MerkleDamgard.lean, written from FIPS 180-4.
  Trusted: byte-level reading of the FIPS bit padding (Spec/MerkleDamgard.lean); `processed_bytes +=` modelled wrapping
  (overflow-checked builds panic beyond 2^64 bytes — outside every hypothesis below).
  Only property theorems here; helpers in Proofs/{Sha1,Sha1Stream,MdRefine,FixedBuffer}.
-/
import CxVerif.Proofs.Sha1Stream
namespace Cx.Props.C01.Sha1
open Cx.Impl.Sha1

/-! ### the compression function: SHA-NI emulation = the FIPS 80-round loop -/

/-- `digest_block_u32` — 20 emulated `sha1rnds4` (lanes), `sha1nexte` (`rotl30` of the previous first lane) and
    16 emulated `sha1msg1/sha1msg2` schedule steps — computes FIPS 180-4 §6.1.2 (W_t recurrence, f_t/K_t by round
    range, 80 iterations, final addition) for EVERY chaining value and EVERY 16-word block. -/
theorem sha1_compress_is_fips (state : Spec.Sha1.Hash) (M : List UInt32) (hM : M.length = 16) :
    digest_block_u32 state M = some (Spec.Sha1.compress state M) :=
  Cx.Proofs.Sha1.digest_block_u32_eq state M hM

example : ([0x61626380, 0, 0, 0, 0, 0, 0, 0, 0, 0, 0, 0, 0, 0, 0, 0x18] : List UInt32).length = 16 := rfl

/-- on bytes: `digest_block` never panics on a 64-byte block and is the FIPS compression of its big-endian words -/
theorem sha1_digest_block_is_fips (state : Spec.Sha1.Hash) (blk : Bytes) (h : blk.length = 64) :
    digest_block state blk = some (Spec.Sha1.compressBytes state blk) :=
  Cx.Proofs.Sha1Stream.digest_block_spec state blk h

example : (List.replicate 64 (0x5a : UInt8)).length = 64 := rfl

/-- **`cryptoxide::hashing::sha1(msg)` = FIPS 180-4 SHA-1(msg)** for every message of fewer than 2^61 bytes
    (padding incl. both `standard_padding` branches, BE-64 bit length, any number of blocks); no panic. -/
theorem sha1_is_fips (msg : Bytes) (hlen : msg.length < 2 ^ 61) :
    Impl.Sha1.sha1 msg = some (Spec.Sha1.sha1 msg) :=
  Cx.Proofs.Sha1Stream.oneShot_eq msg hlen

/-- `Context::new().update(msg).finalize()` (the second answer field of the `hash.sha1` op) -/
theorem sha1_context_finalize_is_fips (msg : Bytes) (hlen : msg.length < 2 ^ 61) :
    (fam.update fam.new msg).bind fam.finalize = some (Spec.Sha1.sha1 msg) := by
  have := Cx.Proofs.Sha1Stream.oneShot_eq msg hlen
  unfold Impl.Sha1.sha1 at this
  unfold fam
  cases h : Context.new.update msg with
  | none => simp [h] at this
  | some c => simpa [h] using this

example : ([0x61, 0x62, 0x63] : Bytes).length < 2 ^ 61 := by decide

/-- the padding of the Spec is FIPS 180-4 §5.1.1 at byte granularity: the padded length is a multiple of 64 and the
    number of zero bytes is the smallest that achieves it (`ℓ + 1 + k ≡ 448 mod 512`, k least) -/
theorem sha1_padding_is_least_solution (len : Nat) :
    (len + 1 + Spec.MD.padZeros 64 8 len + 8) % 64 = 0
    ∧ ∀ z, z < Spec.MD.padZeros 64 8 len → (len + 1 + z + 8) % 64 ≠ 0 :=
  Cx.Proofs.FB.padZeros_spec (by decide)

/-- the code's length field `(processed_bytes << 3).to_be_bytes()` is the 64-bit big-endian bit length -/
theorem sha1_length_field (pb : UInt64) (len : Nat) (hpb : pb.toNat = len % 2 ^ 64) (hlen : len < 2 ^ 61) :
    u64be (pb <<< 3) = Spec.MD.be64 (8 * len) := by
  rw [Cx.Proofs.Sha1Stream.len_bytes_eq, hpb, Cx.Proofs.FB.len_be64_eq hlen]

example : (12345 : UInt64).toNat = 12345 % 2 ^ 64 ∧ 12345 < 2 ^ 61 := by decide

/-! ### constants: the extracted values of the source against the FIPS constants -/

/-- `K0..K3` of sha1.rs are the FIPS constants of rounds 0–19, 20–39, 40–59, 60–79 -/
theorem sha1_K_table : (K0, K1, K2, K3) = (Spec.Sha1.K 0, Spec.Sha1.K 20, Spec.Sha1.K 40, Spec.Sha1.K 60) := by decide

/-- the FIPS constants are ⌊2^30·√2⌋, ⌊2^30·√3⌋, ⌊2^30·√5⌋, ⌊2^30·√10⌋ -/
theorem sha1_K_are_square_roots :
    (∀ c, c = (Spec.Sha1.K 0).toNat → c ^ 2 ≤ 2 * 2 ^ 60 ∧ 2 * 2 ^ 60 < (c + 1) ^ 2) ∧
    (∀ c, c = (Spec.Sha1.K 20).toNat → c ^ 2 ≤ 3 * 2 ^ 60 ∧ 3 * 2 ^ 60 < (c + 1) ^ 2) ∧
    (∀ c, c = (Spec.Sha1.K 40).toNat → c ^ 2 ≤ 5 * 2 ^ 60 ∧ 5 * 2 ^ 60 < (c + 1) ^ 2) ∧
    (∀ c, c = (Spec.Sha1.K 60).toNat → c ^ 2 ≤ 10 * 2 ^ 60 ∧ 10 * 2 ^ 60 < (c + 1) ^ 2) :=
  Cx.Proofs.Sha1.K_sqrt

/-- `H` of sha1.rs is the FIPS §5.3.1 initial hash value -/
theorem sha1_H_table : Impl.Sha1.H = Spec.Sha1.H0 := Cx.Proofs.Sha1.H_eq

/-! ### tests of the Spec transcription (kernel evaluation of published vectors; tests, not theorems) -/

/-- FIPS 180-1 appendix A: SHA-1("abc") -/
example : Spec.Sha1.sha1 [0x61, 0x62, 0x63] =
    [0xa9, 0x99, 0x3e, 0x36, 0x47, 0x06, 0x81, 0x6a, 0xba, 0x3e, 0x25, 0x71, 0x78, 0x50, 0xc2, 0x6c, 0x9c, 0xd0,
     0xd8, 0x9d] :=
  -- through the code model (its streaming schedule evaluates faster than the Spec's list-indexing one)
  Option.some.inj ((sha1_is_fips _ (by decide)).symm.trans (by decide +kernel))

/-- SHA-1("") -/
example : Spec.Sha1.sha1 [] =
    [0xda, 0x39, 0xa3, 0xee, 0x5e, 0x6b, 0x4b, 0x0d, 0x32, 0x55, 0xbf, 0xef, 0x95, 0x60, 0x18, 0x90, 0xaf, 0xd8,
     0x07, 0x09] :=
  Option.some.inj ((sha1_is_fips _ (by decide)).symm.trans (by decide +kernel))

end Cx.Props.C01.Sha1
