/-
  Props.C01 (unit sha2) — every SHA-2 digest of the crate equals its FIPS 180-4 function, for ALL messages inside the
  standard's length domain (len < 2^61 bytes for SHA-224/256, len < 2^125 bytes for SHA-384/512/512-224/512-256).

  Model: Impl/FixedBuffer.lean, Impl/MdEngine.lean, Impl/Sha2.lean (code-shaped, tied to /repo by the correspondence
  run and by the re-extracted tables).  Spec: Spec/Sha2.lean + Spec/MerkleDamgard.lean (FIPS text, constants by formula).
  Trusted: byte-level reading of the FIPS bit padding (stated in Spec/MerkleDamgard.lean); overflow-checked builds panic
  instead of wrapping `processed_bytes` beyond 2^64 / 2^128 bytes (outside every hypothesis below).  The model's SHA-256
  message schedule is the Spec's `schedule256`; the source's loop is tied to it in Props/C01/KernelTieSha256.lean.
  Only property theorems here; helpers are in Proofs/{FixedBuffer,Sha2Tables,Sha2Compress,Sha2Compress512,Sha2Engine}.
-/
import CxVerif.Proofs.Sha2Engine
namespace Cx.Props.C01.Sha2
open Cx.Impl Cx.Proofs.FB

/-! ### (i) FixedBuffer.input: any chunking -/

/-- After ANY sequence of `input` calls (every chunking, empty chunks included) on a well-formed buffer, the
    compression callback has been applied to exactly the full `N`-byte blocks of `live bytes ++ concatenation`, in
    order, and the buffer holds the remaining tail (`< N` bytes); no call panics.  Generic in the block size and the
    compression function (instantiated for SHA-2 below, for SHA-1/RIPEMD-160 by unit sha1ripemd). -/
theorem fixedbuffer_input_any_chunking {σ : Type} {N : Nat} (hN : 0 < N) (func : σ → Bytes → Option σ)
    (compress : σ → Bytes → σ) (hf : FuncIsBlocks N func compress) (chunks : List Bytes)
    (b : FixedBuffer) (st : σ) (hwf : WF N b) :
    ∃ b', inputMany N func chunks b st
        = some (b', (fullBlocks N (b.data ++ chunks.flatten)).foldl compress st)
      ∧ WF N b' ∧ b'.data = blockTail N (b.data ++ chunks.flatten) :=
  inputMany_spec hN func compress hf chunks b st hwf

/-- the hypotheses are met by the real closure of `Engine256::input` on a fresh buffer -/
example : FuncIsBlocks 64 Impl.Sha2.Eng256.Engine.blocks Cx.Proofs.Sha2Engine.compressE256 ∧ WF 64 (FixedBuffer.new 64) :=
  ⟨Cx.Proofs.Sha2Engine.blocks256_isBlocks, new_WF (by decide)⟩

/-! ### (ii) standard_padding + length field = FIPS padding, both branches -/

/-- `standard_padding(rem, f); *next::<rem>() = lenBytes; f(full_buffer())` never panics and compresses exactly
    `live ‖ 0x80 ‖ 0^z ‖ lenBytes` with `z = Spec.MD.padZeros N rem |live|`, whichever branch
    (`N − idx − 1 < rem` or not) is taken; the buffer index ends at 0. -/
theorem standard_padding_is_fips_padding {σ : Type} {N rem : Nat} (hN : 0 < N) (hrem : rem ≤ N) (b : FixedBuffer)
    (lenBytes : Bytes) (hlb : lenBytes.length = rem) (func : σ → Bytes → Option σ) (compress : σ → Bytes → σ)
    (st : σ) (hwf : WF N b) (hf : FuncOneBlock N func compress) :
    ∃ b', md_finish N rem lenBytes b func st
        = some (b', (fullBlocks N (b.data ++ [(0x80 : UInt8)] ++ zeros (Spec.MD.padZeros N rem b.data.length)
                      ++ lenBytes)).foldl compress st)
      ∧ WF N b' ∧ b'.buffer_idx = 0 :=
  md_finish_spec hN hrem b lenBytes hlb func compress st hwf hf

example : (Impl.len_be64 12345).length = 8 ∧ 8 ≤ 64 ∧ WF 64 (FixedBuffer.new 64) :=
  ⟨len_be64_length _, by decide, new_WF (by decide)⟩

/-- `padZeros` is "the smallest non-negative solution" of FIPS 180-4 §5.1.1 / §5.1.2 (byte granularity) -/
theorem padZeros_is_least_solution {B L len : Nat} (hB : 0 < B) :
    (len + 1 + Spec.MD.padZeros B L len + L) % B = 0
    ∧ ∀ z, z < Spec.MD.padZeros B L len → (len + 1 + z + L) % B ≠ 0 :=
  padZeros_spec hB

/-- Merkle–Damgård end to end, generic: fresh/reset buffer, any chunking, finish = `Spec.MD.hash` -/
theorem md_any_chunking_is_spec {σ : Type} {N rem : Nat} (hN : 0 < N) (hrem : rem ≤ N)
    (func funcFin : σ → Bytes → Option σ) (compress : σ → Bytes → σ)
    (hf : FuncIsBlocks N func compress) (hf1 : FuncOneBlock N funcFin compress)
    (lenEnc : Nat → Bytes) (wr : FixedBuffer → Option FixedBuffer)
    (chunks : List Bytes) (hlen : (lenEnc (8 * chunks.flatten.length)).length = rem)
    (hwr : WritesLen N wr (lenEnc (8 * chunks.flatten.length)))
    (b0 : FixedBuffer) (iv : σ) (hwf : WF N b0) (h0 : b0.buffer_idx = 0) :
    ∃ b1 st1 b2, inputMany N func chunks b0 iv = some (b1, st1)
      ∧ md_finish_with N rem wr b1 funcFin st1
          = some (b2, Spec.MD.hash N rem lenEnc compress iv chunks.flatten)
      ∧ WF N b2 ∧ b2.buffer_idx = 0 := by
  obtain ⟨b1, e1, hw1, hd1⟩ := inputMany_from_empty hN func compress hf chunks b0 iv hwf h0
  obtain ⟨b2, e2, hw2, hz2⟩ := md_finish_with_spec hN hrem b1 wr _ hlen hwr funcFin compress
    ((fullBlocks N chunks.flatten).foldl compress iv) hw1 hf1
  exact ⟨b1, _, b2, e1, by rw [e2, hd1, md_hash_split hN], hw2, hz2⟩

/-! ### one-shot digests = FIPS 180-4, all messages in the domain -/

section
open Cx.Proofs.Sha2Engine

/-- `hashing::sha256(msg)` = `Sha256::new().update(msg).finalize()` = SHA-256(msg) and does not panic -/
theorem sha256_eq_spec (msg : Bytes) (h : msg.length < 2 ^ 61) :
    Impl.Sha2.sha256? msg = some (Spec.Sha2.sha256 msg) := by
  rw [← specDigest256_sha256]; exact oneShot256_eq _ _ outOK_sha256 msg h

theorem sha224_eq_spec (msg : Bytes) (h : msg.length < 2 ^ 61) :
    Impl.Sha2.sha224? msg = some (Spec.Sha2.sha224 msg) := by
  rw [← specDigest256_sha224]; exact oneShot256_eq _ _ outOK_sha224 msg h

theorem sha512_eq_spec (msg : Bytes) (h : msg.length < 2 ^ 125) :
    Impl.Sha2.sha512? msg = some (Spec.Sha2.sha512 msg) := by
  rw [← specDigest512_sha512]; exact oneShot512_eq _ _ outOK_sha512 msg h

theorem sha384_eq_spec (msg : Bytes) (h : msg.length < 2 ^ 125) :
    Impl.Sha2.sha384? msg = some (Spec.Sha2.sha384 msg) := by
  rw [← specDigest512_sha384]; exact oneShot512_eq _ _ outOK_sha384 msg h

/-- SHA-512/224, including the `(h[3] >> 32) as u32` half word -/
theorem sha512_224_eq_spec (msg : Bytes) (h : msg.length < 2 ^ 125) :
    Impl.Sha2.sha512_224? msg = some (Spec.Sha2.sha512_224 msg) := by
  rw [← specDigest512_sha512_224]; exact oneShot512_eq _ _ outOK_sha512_224 msg h

theorem sha512_256_eq_spec (msg : Bytes) (h : msg.length < 2 ^ 125) :
    Impl.Sha2.sha512_256? msg = some (Spec.Sha2.sha512_256 msg) := by
  rw [← specDigest512_sha512_256]; exact oneShot512_eq _ _ outOK_sha512_256 msg h

end

/-- a 200-byte message is inside both domains (hypotheses are satisfiable by non-trivial, multi-block input) -/
example : (List.replicate 200 (7 : UInt8)).length < 2 ^ 61 ∧ (List.replicate 200 (7 : UInt8)).length < 2 ^ 125 := by
  rw [List.length_replicate]; omega

/-- the total forms exported to later units (HMAC, HKDF, PBKDF2, Ed25519 …) -/
theorem sha256_total (msg : Bytes) (h : msg.length < 2 ^ 61) : Impl.Sha2.sha256 msg = Spec.Sha2.sha256 msg := by
  simp [Impl.Sha2.sha256, sha256_eq_spec msg h, Impl.Sha2.orEmpty]
theorem sha224_total (msg : Bytes) (h : msg.length < 2 ^ 61) : Impl.Sha2.sha224 msg = Spec.Sha2.sha224 msg := by
  simp [Impl.Sha2.sha224, sha224_eq_spec msg h, Impl.Sha2.orEmpty]
theorem sha512_total (msg : Bytes) (h : msg.length < 2 ^ 125) : Impl.Sha2.sha512 msg = Spec.Sha2.sha512 msg := by
  simp [Impl.Sha2.sha512, sha512_eq_spec msg h, Impl.Sha2.orEmpty]
theorem sha384_total (msg : Bytes) (h : msg.length < 2 ^ 125) : Impl.Sha2.sha384 msg = Spec.Sha2.sha384 msg := by
  simp [Impl.Sha2.sha384, sha384_eq_spec msg h, Impl.Sha2.orEmpty]
theorem sha512_224_total (msg : Bytes) (h : msg.length < 2 ^ 125) :
    Impl.Sha2.sha512_224 msg = Spec.Sha2.sha512_224 msg := by
  simp [Impl.Sha2.sha512_224, sha512_224_eq_spec msg h, Impl.Sha2.orEmpty]
theorem sha512_256_total (msg : Bytes) (h : msg.length < 2 ^ 125) :
    Impl.Sha2.sha512_256 msg = Spec.Sha2.sha512_256 msg := by
  simp [Impl.Sha2.sha512_256, sha512_256_eq_spec msg h, Impl.Sha2.orEmpty]

/-! ### (v) compression functions -/

/-- SHA-256: the 8-way unrolled, register-renamed block function with `g ^ (e & (f ^ g))` and
    `(a & b) | (c & (a | b))` = FIPS 180-4 §6.2.2, every block, every chaining value; no panic -/
theorem sha256_block_function_is_fips (state : Spec.Sha2.W8 UInt32) (block : Bytes) (h : block.length = 64) :
    Impl.Sha2.Impl256.digest_block_u32 state block = some (Spec.Sha2.compress256 state block) :=
  Cx.Proofs.Sha2Compress.digest_block_u32_eq state block h

/-- SHA-512: the u64x2 pair-lane block function (fully unrolled, sliding schedule window, `K64X2`) = FIPS §6.4.2 -/
theorem sha512_block_function_is_fips (state : Spec.Sha2.W8 UInt64) (block : Bytes) (h : block.length = 128) :
    Impl.Sha2.Impl512.digest_block_u64 state (wordsBE64 block) = some (Spec.Sha2.compress512 state block) := by
  rw [Cx.Proofs.Sha2Compress512.compress512_eq_w]
  exact Cx.Proofs.Sha2Compress512.digest_block_u64_eq state _
    (by rw [Cx.Proofs.Bytes.wordsBE64_length, h])

example : (List.replicate 64 (1 : UInt8)).length = 64 ∧ (List.replicate 128 (1 : UInt8)).length = 128 := by decide

/-! ### (vi) tables: the extracted tables of the source equal the formula-defined constants -/

section
open Cx.Spec.Sha2 Cx.Proofs.Sha2Tables

/-- every constant table of the SHA-2 source equals the FIPS constant (K by cube roots of primes, H by square roots,
    SHA-512/t IVs by the IV generation function); `K64X2` is `K64` pairwise swapped -/
theorem sha2_tables_are_fips :
    Extracted.Sha2.K32 = K256 ∧ Extracted.Sha2.K64 = K512
    ∧ Extracted.Sha2.K64X2 = swapPairs Extracted.Sha2.K64
    ∧ Impl.Sha2.H256 = H256 ∧ Impl.Sha2.H224 = H224 ∧ Impl.Sha2.H512 = H512 ∧ Impl.Sha2.H384 = H384
    ∧ Impl.Sha2.H512_TRUNC_224 = H512_224 ∧ Impl.Sha2.H512_TRUNC_256 = H512_256
    ∧ Impl.Sha2.Eng256.BLOCK_LEN_BYTES = 64 ∧ Impl.Sha2.Eng512.BLOCK_LEN_BYTES = 128 :=
  ⟨K32_eq, K64_eq, K64X2_eq, H256_eq, H224_eq, H512_eq, H384_eq, H512_TRUNC_224_eq, H512_TRUNC_256_eq,
   block_len_eq.1, block_len_eq.2⟩

/-- the Spec constants are what the standard's formulas say: `firstPrimes 80` is exactly the list of the first 80
    primes, and every root taken is the exact floor root (so `fracRoot` is the leading bits of the fractional part) -/
theorem sha2_constants_follow_the_formulas :
    ((firstPrimes 80).length = 80 ∧ strictlyIncreasing (firstPrimes 80) = true
      ∧ (∀ p ∈ firstPrimes 80, p < 410) ∧ ∀ n, n < 410 → (n ∈ firstPrimes 80 ↔ IsPrimeDef n))
    ∧ (∀ p ∈ firstPrimes 64, IsFloorRoot 3 (p * 2 ^ (3 * 32)) (iroot 3 (p * 2 ^ (3 * 32))))
    ∧ (∀ p ∈ firstPrimes 80, IsFloorRoot 3 (p * 2 ^ (3 * 64)) (iroot 3 (p * 2 ^ (3 * 64))))
    ∧ (∀ p ∈ firstPrimes 8, IsFloorRoot 2 (p * 2 ^ (2 * 32)) (iroot 2 (p * 2 ^ (2 * 32))))
    ∧ (∀ p ∈ firstPrimes 16, IsFloorRoot 2 (p * 2 ^ (2 * 64)) (iroot 2 (p * 2 ^ (2 * 64)))) :=
  ⟨firstPrimes80_spec, fun _ _ => iroot_spec (by decide) _, fun _ _ => iroot_spec (by decide) _,
   fun _ _ => iroot_spec (by decide) _, fun _ _ => iroot_spec (by decide) _⟩

end

/-! ### tests (samples, not theorems): FIPS 180-4 example "abc" through the code-shaped model -/
example : (Impl.Sha2.sha256? [0x61, 0x62, 0x63]).map Hex.encode
    = some "ba7816bf8f01cfea414140de5dae2223b00361a396177a9cb410ff61f20015ad" := by decide +kernel

end Cx.Props.C01.Sha2
