/-
  Props.C01.Sha3 — C01 for the sha3 unit: SHA3-224/256/384/512 and Keccak-224/256/384/512 of the crate return,
  for EVERY message, the digest FIPS 202 defines (Keccak: the same sponge without the SHA-3 suffix bits).
  Only property theorems live here; the proofs are in Proofs/Keccak*.lean and Proofs/Sponge*.lean.

  What the statements mean.  `Impl.Sha3.*` is the code-shaped model of src/hashing/sha3.rs + keccak.rs (+ the one-shot
  wrappers of hashing/mod.rs); it returns `none` where the Rust code would panic.  `Spec.Keccak.*` is FIPS 202
  (lane-level step mappings θ ρ π χ ι with formula-generated constants, Algorithm 8 sponge, bit-level pad10*1).
  Every theorem is for all messages / all states — there is no length bound (FIPS 202 has none).
-/
import CxVerif.Proofs.SpongeCtx
import CxVerif.Proofs.KeccakVectors
namespace Cx.Props.C01
open Cx.Proofs.Sponge Cx.Proofs.Keccak

/-! ## (iii)+(v): the eight hash functions, all messages -/

theorem sha3_224_eq_spec (m : Bytes) : Impl.Sha3.sha3_224 m = some (Spec.Keccak.sha3_224 m) := hash_spec variant_sha3_224 m
theorem sha3_256_eq_spec (m : Bytes) : Impl.Sha3.sha3_256 m = some (Spec.Keccak.sha3_256 m) := hash_spec variant_sha3_256 m
theorem sha3_384_eq_spec (m : Bytes) : Impl.Sha3.sha3_384 m = some (Spec.Keccak.sha3_384 m) := hash_spec variant_sha3_384 m
theorem sha3_512_eq_spec (m : Bytes) : Impl.Sha3.sha3_512 m = some (Spec.Keccak.sha3_512 m) := hash_spec variant_sha3_512 m
theorem keccak224_eq_spec (m : Bytes) : Impl.Sha3.keccak224 m = some (Spec.Keccak.keccak224 m) := hash_spec variant_keccak224 m
theorem keccak256_eq_spec (m : Bytes) : Impl.Sha3.keccak256 m = some (Spec.Keccak.keccak256 m) := hash_spec variant_keccak256 m
theorem keccak384_eq_spec (m : Bytes) : Impl.Sha3.keccak384 m = some (Spec.Keccak.keccak384 m) := hash_spec variant_keccak384 m
theorem keccak512_eq_spec (m : Bytes) : Impl.Sha3.keccak512 m = some (Spec.Keccak.keccak512 m) := hash_spec variant_keccak512 m

/-- the same fact for every instantiation `Engine<DIGESTLEN, DSLEN>` with DSLEN ∈ {0, 2}, 0 < DIGESTLEN < rate:
    `X::new().update(m).finalize()` is SPONGE[Keccak-p[1600,24], pad10*1, 8·rate](m ‖ suffix, 8·DIGESTLEN) -/
theorem hash_eq_sponge (dl ds r : Nat) (sfx : List Bool) (hv : Variant dl ds r sfx) (m : Bytes) :
    Impl.Sha3.hash dl ds m = some (Spec.Keccak.sponge r m sfx dl) := hash_spec hv m

/-- the hypotheses of `hash_eq_sponge` are met by the instantiations of the crate (here SHA3-256, Keccak-512) -/
example : Variant 32 2 136 [false, true] ∧ Variant 64 0 72 [] := ⟨variant_sha3_256, variant_keccak512⟩

/-! ## (v): Keccak-f — the compact implementation is FIPS 202's ι∘χ∘π∘ρ∘θ, 24 rounds, on every state -/

/-- one round: θ with M5, the in-place ρπ walk with PIL/ROTC, χ with M5 and ι with RC[ir]
    equal Rnd(A, ir) = ι(χ(π(ρ(θ(A)))), ir); no index is ever out of bounds -/
theorem keccak_round_eq_fips (A : Spec.Keccak.State) (ir : Nat) (h : ir < 24) :
    Impl.Sha3.round A.toArray ir = some (Spec.Keccak.Rnd A ir).toArray := round_eq A ir h

theorem keccak_f_lanes_eq_fips (A : Spec.Keccak.State) :
    Impl.Sha3.keccak_f_lanes A.toArray = some (Spec.Keccak.keccakP A).toArray := keccak_f_lanes_eq A

/-- `keccak_f(&mut [u8; 200])` = Keccak-f[1600] on the state string, for every 200-byte state, and never panics -/
theorem keccak_f_eq_fips (st : Bytes) (h : st.length = 200) :
    Impl.Sha3.keccak_f st = some (Spec.Keccak.keccakF st) := keccak_f_eq st h

example : (zeros 200).length = 200 := Cx.Proofs.Bytes.zeros_length 200

/-! ## (iii): padding -/

/-- `pad_len` (i64 arithmetic, two asserts): for every byte offset o < R it returns R − o, and no intermediate
    value leaves the i64 / usize range (stated for rates up to 2^32 bytes; the crate's are ≤ 144) -/
theorem pad_len_eq_rate_minus_offset (ds o R : Nat) (hds : ds ≤ 6) (ho : o < R) (hR : R ≤ 2 ^ 32) :
    Impl.Sha3.pad_len ds (8 * o) (8 * R) = some (R - o) := pad_len_eq ds o R hds ho hR

example : Impl.Sha3.pad_len 2 (8 * 135) (8 * 136) = some 1 := pad_len_eq 2 135 136 (by omega) (by omega) (by omega)

/-- FIPS 202 at bit level → bytes: SHA-3's tail `01 ‖ pad10*1` is 0x06 0…0 0x80, or the single byte 0x86 when
    one byte is left in the block; for all rates and message lengths -/
theorem sha3_padding_bytes (r len : Nat) (hr : 0 < r) :
    Spec.Keccak.padBytes r len [false, true] =
      (if r - len % r = 1 then [(0x86 : UInt8)] else (0x06 : UInt8) :: (zeros (r - len % r - 2) ++ [(0x80 : UInt8)])) := by
  rw [padBytes_sha3 r len hr]; unfold padLit; split <;> rfl

/-- Keccak's tail `pad10*1` is 0x01 0…0 0x80, or 0x81 -/
theorem keccak_padding_bytes (r len : Nat) (hr : 0 < r) :
    Spec.Keccak.padBytes r len [] =
      (if r - len % r = 1 then [(0x81 : UInt8)] else (0x01 : UInt8) :: (zeros (r - len % r - 2) ++ [(0x80 : UInt8)])) := by
  rw [padBytes_keccak r len hr]; unfold padLit; split <;> rfl

/-- `Engine::finalize` (pad_len, vec of zeros, set_domain_sep, set_pad, process): from the state that represents the
    absorbed bytes m it reaches the state that represents m ‖ suffix ‖ pad10*1 and clears `can_absorb`; no panic -/
theorem finalize_pads_per_fips (dl ds r : Nat) (sfx : List Bool) (hv : Variant dl ds r sfx) (m : Bytes) :
    Impl.Sha3.Engine.finalize dl ds (engine_of r m)
      = some { engine_of r (m ++ Spec.Keccak.padBytes r m.length sfx) with can_absorb := false } := finalize_spec hv m

/-! ## (vi): table obligations: the extracted tables of the source against the formula-generated constants -/

/-- RC = the LFSR-generated round constants (FIPS 202 Algorithms 5, 6) -/
theorem RC_is_lfsr : Cx.Extracted.Sha3.RC.map UInt64.toNat = (List.range 24).map Spec.Keccak.RCnat := RC_table

/-- ROTC = (t+1)(t+2)/2 mod 64 along the walk -/
theorem ROTC_is_triangular :
    Cx.Extracted.Sha3.ROTC = (List.range 24).map (fun t => ((t + 1) * (t + 2) / 2) % 64) := by decide

/-- PIL = the walk (x,y) ← (y, 2x+3y) from (1,0), as lane indices 5y+x, shifted by one step (= π) -/
theorem PIL_is_walk :
    Cx.Extracted.Sha3.PIL = (List.range 24).map (fun t => (Spec.Keccak.rhoWalk (t + 1)).1 + 5 * (Spec.Keccak.rhoWalk (t + 1)).2) := by decide

/-- the walk visits every lane except (0,0) exactly once: PIL is a permutation of 1..24 -/
theorem PIL_is_permutation : ∀ i, i < 25 → 1 ≤ i → Cx.Extracted.Sha3.PIL.count i = 1 := by decide

theorem M5_is_mod5 : Cx.Extracted.Sha3.M5 = (List.range 10).map (· % 5) := by decide

theorem B_and_NROUNDS : Cx.Extracted.Sha3.B = 200 ∧ Cx.Extracted.Sha3.NROUNDS = 24 := by decide

/-- the macro invocations fix (bits, DIGESTLEN, DSLEN) as modelled, and each one-shot function of hashing/mod.rs
    uses the context of its own name -/
theorem variants_as_modelled :
    Cx.Extracted.Sha3.SHA3_VARIANTS = [[224, 28, 2], [256, 32, 2], [384, 48, 2], [512, 64, 2]] ∧
    Cx.Extracted.Sha3.KECCAK_VARIANTS = [[224, 28, 0], [256, 32, 0], [384, 48, 0], [512, 64, 0]] ∧
    Cx.Extracted.Sha3.ONESHOTS = [[3, 224, 28, 3, 224], [3, 256, 32, 3, 256], [3, 384, 48, 3, 384], [3, 512, 64, 3, 512],
                                  [0, 224, 28, 0, 224], [0, 256, 32, 0, 256], [0, 384, 48, 0, 384], [0, 512, 64, 0, 512]] :=
  variants_table

/-- rates (`BLOCK_BYTES`) of the eight variants -/
theorem rates : Impl.Sha3.rate 28 = some 144 ∧ Impl.Sha3.rate 32 = some 136 ∧ Impl.Sha3.rate 48 = some 104 ∧
    Impl.Sha3.rate 64 = some 72 := by decide

open Cx.Driver.Sha3 Cx.Impl.Sha3 Cx.Spec.Keccak in
/-- protocol level: for each of the eight algorithms and EVERY request line `hash.<alg> …` (well-formed or not) the
    code-shaped model and the Spec give the same answer line — the model never answers PANIC -/
theorem hash_lines_agree (a : Cx.Driver.Sha3.Alg) (ha : a ∈ Cx.Driver.Sha3.algs) (args : List String) :
    Cx.Driver.Sha3.hashImpl a args = Cx.Driver.Sha3.hashSpec a args := by
  obtain ⟨r, sfx, ok⟩ := algs_ok a ha
  unfold hashImpl hashSpec h1
  match args with
  | [] => rfl
  | [p] =>
    simp only
    cases hexArg p with
    | none => rfl
    | some msg =>
      have h1 := hash_spec ok.hv msg
      have h2 : (Context.update a.dl Context.new msg).bind (Context.finalize a.dl a.ds) = some (sponge r msg sfx a.dl) := h1
      simp only [Option.map_some, h1, h2, ok.hspec]
  | _ :: _ :: _ => rfl

end Cx.Props.C01
