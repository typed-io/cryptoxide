/-
  Props.C02.Blake2 — C02 for the BLAKE2b / BLAKE2s contexts (Context<BITS> and ContextDyn share the model
  `Impl.Blake2.Ctx`; the const generic / stored output length is the parameter `outlen`).

  Refinement to the abstract state (key, bytes since last reset): EVERY history over
  {update, update_mut, reset, reset_with_key, finalize_reset, finalize_reset_with_key, finalize, clone, swap}
  emits exactly the RFC 7693 digests of the concatenations, and panics exactly where the abstract machine refuses
  (a rekey with a key longer than the maximum).  `clone`/`swap` model forking: a stack of context values, each
  continued independently (the model's values are immutable; that the two Rust copies do not alias is a
  correspondence obligation — hctx `c`/`x` ops).  State equalities: `reset_with_key k` = `new_keyed k`,
  `reset` = `new`, for every reachable context.  The lazy last block (strict `>`: a full block stays buffered
  until more input or finalisation) is the lemma `Proofs.Blake2.update_mut_spec`.
  Helpers and the two state machines (`stepC`, `stepA`, `runC`, `runA`): Proofs/Blake2Hist.lean.
-/
import CxVerif.Proofs.Blake2Hist
namespace Cx.Props.C02
open Cx.Proofs.Blake2
open Cx.Impl.Blake2 (Ctx Profile)
open Cx.Spec.Blake2 (Word Params)

/-- generic form: from `new_keyed(outlen, key)`, any history gives on the code-shaped model the same digests, in
    the same order, as the abstract machine whose digests are `Spec.blake2 outlen key (bytes since reset)`; one side
    panics iff the other refuses -/
theorem history_generic {W : Type} [Word W] (P : Params W) (g : Good P) (outlen : Nat) (key : Bytes) (ops : List Op)
    (ho : 0 < outlen ∧ outlen ≤ P.maxOut) (hk : key.length ≤ P.maxKey) :
    ∃ c0, Ctx.new_keyed P outlen key = some c0 ∧
      (runC P .wrapping outlen (c0, []) ops []).map (·.2) = (runA P outlen ((key, []), []) ops []).map (·.2) := by
  exact ⟨newState P outlen key, new_keyed_eq P outlen key ho hk,
    (runC_sim P g outlen ho ops _ _ [] (newState_relSt P g outlen ho.2 key hk)).outs⟩

/-- BLAKE2b contexts: every history, 1 ≤ outlen ≤ 64, keylen ≤ 64 -/
theorem blake2b_history (outlen : Nat) (key : Bytes) (ops : List Op) (ho : 0 < outlen ∧ outlen ≤ 64) (hk : key.length ≤ 64) :
    ∃ c0, Ctx.new_keyed Impl.Blake2.b outlen key = some c0 ∧
      (runC Impl.Blake2.b .wrapping outlen (c0, []) ops []).map (·.2)
        = (runA Spec.Blake2.b outlen ((key, []), []) ops []).map (·.2) := by
  rw [impl_b_eq_spec_b]; exact history_generic Spec.Blake2.b good_b outlen key ops ho hk

/-- BLAKE2s contexts: every history, 1 ≤ outlen ≤ 32, keylen ≤ 32 -/
theorem blake2s_history (outlen : Nat) (key : Bytes) (ops : List Op) (ho : 0 < outlen ∧ outlen ≤ 32) (hk : key.length ≤ 32) :
    ∃ c0, Ctx.new_keyed Impl.Blake2.s outlen key = some c0 ∧
      (runC Impl.Blake2.s .wrapping outlen (c0, []) ops []).map (·.2)
        = (runA Spec.Blake2.s outlen ((key, []), []) ops []).map (·.2) := by
  rw [impl_s_eq_spec_s]; exact history_generic Spec.Blake2.s good_s outlen key ops ho hk

/-- a non-trivial history satisfying the hypotheses: keyed, split over a block boundary, fork, rekey, reuse -/
example : (0 < 32 ∧ 32 ≤ 64) ∧ ([1, 2, 3] : Bytes).length ≤ 64 ∧
    [Op.update (List.replicate 128 7), .clone, .update_mut [1], .finalize, .swap, .finalize_reset,
      .reset_with_key [9], .update [], .finalize].length = 9 := by decide

/-- the abstract machine really is "digest of the concatenation since the last reset": any split into pieces
    (empty pieces included, consuming or in-place updates) followed by `finalize` emits the one-shot digest -/
theorem runA_updates {W : Type} [Word W] (P : Params W) (outlen : Nat) (key : Bytes) (chunks : List Bytes) :
    ∀ (m : Bytes) (st : List AVal) (outs : List Bytes),
      runA P outlen ((key, m), st) (chunks.map Op.update ++ [Op.finalize]) outs
        = some (((key, m ++ chunks.flatten), st), outs ++ [Spec.Blake2.blake2 P outlen key (m ++ chunks.flatten)]) := by
  induction chunks with
  | nil => intro m st outs; simp [runA, stepA, addOut]
  | cons d ds ih =>
    intro m st outs
    simp only [List.map_cons, List.cons_append, runA, stepA, addOut, List.flatten_cons]
    rw [ih (m ++ d) st outs, List.append_assoc]

/-- split independence for BLAKE2b: `new_keyed(key).update(c₁)…update(cₙ).finalize()` = `blake2b(c₁ ++ … ++ cₙ)` -/
theorem blake2b_split_independent (outlen : Nat) (key : Bytes) (chunks : List Bytes)
    (ho : 0 < outlen ∧ outlen ≤ 64) (hk : key.length ≤ 64) :
    ∃ c0, Ctx.new_keyed Impl.Blake2.b outlen key = some c0 ∧
      (runC Impl.Blake2.b .wrapping outlen (c0, []) (chunks.map Op.update ++ [Op.finalize]) []).map (·.2)
        = some [Spec.Blake2.blake2b outlen key chunks.flatten] := by
  obtain ⟨c0, h0, h1⟩ := blake2b_history outlen key (chunks.map Op.update ++ [Op.finalize]) ho hk
  refine ⟨c0, h0, ?_⟩
  rw [h1, runA_updates Spec.Blake2.b outlen key chunks [] [] []]
  rfl

theorem blake2s_split_independent (outlen : Nat) (key : Bytes) (chunks : List Bytes)
    (ho : 0 < outlen ∧ outlen ≤ 32) (hk : key.length ≤ 32) :
    ∃ c0, Ctx.new_keyed Impl.Blake2.s outlen key = some c0 ∧
      (runC Impl.Blake2.s .wrapping outlen (c0, []) (chunks.map Op.update ++ [Op.finalize]) []).map (·.2)
        = some [Spec.Blake2.blake2s outlen key chunks.flatten] := by
  obtain ⟨c0, h0, h1⟩ := blake2s_history outlen key (chunks.map Op.update ++ [Op.finalize]) ho hk
  refine ⟨c0, h0, ?_⟩
  rw [h1, runA_updates Spec.Blake2.s outlen key chunks [] [] []]
  rfl

/-- every context reachable by a history satisfies the buffer invariant (`buf` is the whole block array and
    `buflen ≤ BLOCK_BYTES`): the slice operations of update_mut / internal_final never go out of bounds -/
theorem reachable_inv {W : Type} [Word W] (P : Params W) (g : Good P) (outlen : Nat) (key : Bytes) (ops : List Op)
    (ho : 0 < outlen ∧ outlen ≤ P.maxOut) (hk : key.length ≤ P.maxKey) (s : CSt W) (outs : List Bytes)
    (h : runC P .wrapping outlen (newState P outlen key, []) ops [] = some (s, outs)) : Inv P s.1 := by
  obtain ⟨_, _, hr⟩ := (runC_sim P g outlen ho ops _ _ [] (newState_relSt P g outlen ho.2 key hk)).rel h
  exact hr.1.inv

/-- `reset_with_key k` ≈ `new_keyed k` as a STATE EQUALITY (engine, whole buffer, buffer length), on every context
    satisfying the invariant (all reachable ones), including the refusal of a long key -/
theorem reset_with_key_eq_new_keyed {W : Type} [Word W] (P : Params W) (c : Ctx W) (hi : Inv P c) (outlen : Nat) (k : Bytes)
    (ho : 0 < outlen ∧ outlen ≤ P.maxOut) : Ctx.reset_with_key P c outlen k = Ctx.new_keyed P outlen k := by
  by_cases hk : k.length ≤ P.maxKey
  · rw [reset_with_key_eq P c hi outlen k hk, new_keyed_eq P outlen k ho hk]
  · rw [reset_with_key_none P c outlen k hk, new_keyed_none P outlen k (fun h => hk h.2.2)]

/-- `reset` ≈ `new` as a state equality -/
theorem reset_eq_new {W : Type} [Word W] (P : Params W) (c : Ctx W) (hi : Inv P c) (outlen : Nat)
    (ho : 0 < outlen ∧ outlen ≤ P.maxOut) : some (Ctx.reset P c outlen) = Ctx.new_keyed P outlen [] := by
  rw [reset_eq P c hi outlen, new_keyed_eq P outlen [] ho (Nat.zero_le _)]

/-- `finalize_reset` leaves the state of `new` (the modern API resets to the UNKEYED state, as documented) -/
theorem finalize_reset_state {W : Type} [Word W] (P : Params W) (g : Good P) (pr : Profile) (c : Ctx W) (outlen : Nat)
    (c' : Ctx W) (out : Bytes) (hi : Inv P c)
    (h : Ctx.finalize_reset_at P pr c outlen outlen = some (c', out)) : c' = newState P outlen [] := by
  unfold Ctx.finalize_reset_at at h
  rw [if_neg (by simp)] at h
  split at h
  · cases h
  · rename_i cf h0
    cases h
    exact reset_eq P cf (internal_final_inv P pr g.bb_ge c cf hi h0) outlen

end Cx.Props.C02
