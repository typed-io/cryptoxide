/-
  Props.C02.GlueTieSponge — the translator tie for the STATEFUL GLUE of the sponge (src/hashing/sha3.rs `Engine`, the
  `sha3_impl!` contexts) and of the BLAKE2 engines/contexts (src/hashing/blake2/mod.rs, blake2b.rs, blake2s.rs).

  `Extracted/GlueSponge.lean` is regenerated from the CURRENT Rust source on every run by tools/ktx_glue_sponge.py, a
  generic imperative -> `Option`-monad translation (checked `usize` arithmetic, bounds-checked indexing / slicing,
  `assert!`/`panic!` = `none`, `for`/`while` loops as structural recursion, `&mut self` = returned new state).  The
  theorems below prove every generated definition `<fn>_src` equal to the hand model of Impl/Sha3.lean / Impl/Blake2.lean —
  the definitions the property theorems of C01, C02, C08, C09, C11, C20 are about — for ALL states (also the ones in which
  the code panics) and ALL inputs of every length.  A semantic change of the glue (an offset, a flag, a loop bound, a
  `>` turned `>=`, a skipped wipe …) changes the generated definition and the corresponding theorem stops checking, even
  if no sampled input reaches the change.

  Hypotheses.  For the sponge `….length < 2 ^ 64` only: every Rust slice is shorter than `isize::MAX` while `Bytes` is unbounded, and the
  translation keeps the overflow checks (`in_pos + nread`, `self.offset + nread`, …) that the hand model leaves out; so
  the theorems also say that those checks never fire.  `output` is stated for an arbitrary caller buffer through
  `Proofs.GlueSponge.outputOn` (the text of the hand model `Engine.output` with `out` in place of `zeros out_len`) and, for
  the fresh buffers all callers in the crate pass, for the hand model itself.  The BLAKE2 ties carry in addition the
  buffer invariant and the type-level facts explained at the head of their section, and `BITS + 7 < 2 ^ 64` where the
  source computes `(BITS + 7) / 8` in checked `usize` arithmetic (`BITS` is a `usize` const parameter).
  All proofs stand below their statements.  Proofs/GlueSponge.lean has the primitives of the translation as rewriting rules and
  the loops of the sponge engine against the recursions of the model; Proofs/GlueSpongeBlake2.lean what the BLAKE2 ties share
  (the buffer invariant, `update_mut` for all four context types, the common text of the `new_keyed`, of `internal_final` and of the `finalize*_at`).
-/
import CxVerif.Proofs.GlueSpongeBlake2
import CxVerif.Proofs.SpongeHash
import CxVerif.Props.C01.KernelTieKeccak
namespace Cx.Props.C02.GlueTieSponge

/-! ## SHA-3 / Keccak sponge `Engine<DIGESTLEN, DSLEN>` (src/hashing/sha3.rs) -/
namespace Sha3
open Cx.Impl.Sha3 Cx.Extracted.GlueSponge Cx.Extracted.GlueSponge.Sha3 Cx.Proofs.GlueSponge

/-- the struct definitions the state mapping of the translation was written for are token-identical in the source
    (otherwise the generated constants are failure stubs of another type and this does not typecheck) -/
theorem structs_checked : Engine_struct_src = () ∧ Context_struct_src = () ∧ Imports_src = () := ⟨rfl, rfl, rfl⟩

/-- `fn rate(&self)`: the checked `DIGESTLEN * 2` and `B - …` fail exactly when the model's guard does -/
theorem Engine.rate_src_eq_model (dl ds : Nat) (e : Engine) : Engine.rate_src dl ds e = rate dl := by
  simp only [Engine.rate_src, rate, usizechk, usub, Cx.Extracted.Sha3.B]
  by_cases h : dl * 2 < 18446744073709551616
  · simp [h]
  · have : ¬ dl * 2 ≤ 200 := by omega
    simp [h, this]

theorem Engine.new_src_eq_model (dl ds : Nat) : Engine.new_src dl ds = some Engine.new := rfl

/-- nested `fn set_domain_sep` of `finalize` -/
theorem set_domain_sep_src_eq_model (n : Nat) (buf : Bytes) : set_domain_sep_src n buf = set_domain_sep n buf := by
  unfold set_domain_sep_src set_domain_sep
  cases buf with
  | nil => simp
  | cons b t =>
    by_cases hn : n = 0
    · subst hn; simp
    · simp [hn]

/-- nested `fn pad_len::<DSLEN>`: the `i64` arithmetic with every overflow check -/
theorem pad_len_src_eq_model (ds offset rate : Nat) : pad_len_src ds offset rate = pad_len ds offset rate := by
  unfold pad_len_src pad_len
  by_cases h1 : rate % 8 = 0 <;> by_cases h2 : offset % 8 = 0 <;> simp [h1, h2]

/-- nested `fn set_pad::<DSLEN>`: `|=` of the first pad bit, the `for i in (offset % 8) + 1..8` loop (`clear_bits`), the
    `iter_mut` wipe of the tail (`take ++ zeros`), `|= 0x80` on the last byte -/
theorem set_pad_src_eq_model (ds : Nat) (buf : Bytes) (hb : buf.length < 2 ^ 64) : set_pad_src ds buf = set_pad ds buf := by
  unfold set_pad_src set_pad
  have hm : ds % 8 < 8 := Nat.mod_lt _ (by decide)
  simp only [shlU8, hm, if_true, Option.bind_eq_bind, Option.pure_def, Option.bind_some]
  refine Option.bind_congr fun v h1 => Option.bind_congr fun b1 h2 => ?_
  have hi := idx_lt h1
  have hl1 := upd_length h2
  rw [Proofs.Sponge.usizechk_of_lt (by omega), Option.bind_some,
    forRange_clear_bits ds ds (ds / 8) buf.length (8 - (ds % 8 + 1)) (ds % 8 + 1) b1 (by omega)]
  refine Option.bind_congr fun b2 h3 => ?_
  have hl2 := clear_bits_length h3
  have hle : ds / 8 + 1 ≤ b2.length := by omega
  have hcp : copyInto b2 (ds / 8 + 1) b2.length (zeros (b2.drop (ds / 8 + 1)).length) =
      some (List.take (ds / 8 + 1) b2 ++ zeros (b2.length - (ds / 8 + 1))) := copyInto_zeroFrom hle rfl
  simp only [Proofs.Sponge.usizechk_of_lt (show ds / 8 + 1 < 2 ^ 64 by omega), Option.bind_some, sliceFrom_eq hle, mapM_zero, hcp,
    usub_of_le (show 1 ≤ buf.length by omega), if_neg (show ¬ b2.length < ds / 8 + 1 by omega), if_neg (show ¬ buf.length = 0 by omega)]

/-- `fn process` (absorb): the byte-wise `for` loop is `xor_in`, the `while in_pos < in_len` loop with `offset`, `break`
    and `keccak_f` is `absorb_loop` — for every engine state and every input -/
theorem Engine.process_src_eq_model (dl ds : Nat) (e : Engine) (data : Bytes) (hd : data.length < 2 ^ 64) :
    Engine.process_src dl ds e data = e.process dl data := by
  unfold Engine.process_src Engine.process
  rw [Engine.rate_src_eq_model]
  cases hca : e.can_absorb with
  | false => simp
  | true =>
    cases hr : rate dl with
    | none => simp
    | some r =>
      have hr200 := Proofs.Sponge.rate_le hr
      by_cases ho : e.offset < r
      · have := absorb_whileLoop_eq dl ds data r hd (by omega) (data.length - 0 + 1) e 0 (by omega) (by omega) ho
        simp only [Option.bind_eq_bind, Option.bind_some, Option.pure_def, ho, not_true_eq_false, if_false, Bool.not_true]
        rw [this]
        simp only [List.drop_zero]
        cases absorb_loop r e.state e.offset data with
        | none => simp
        | some p => simp [hca]
      · have : r ≤ e.offset := by omega
        simp [this]

/-- `fn finalize`: `pad_len`, the zeroed pad vector, the domain separation bits, `set_pad`, absorbing the pad, `can_absorb = false` -/
theorem Engine.finalize_src_eq_model (dl ds : Nat) (e : Engine) : Engine.finalize_src dl ds e = e.finalize dl ds := by
  unfold Engine.finalize_src Engine.finalize
  rw [Engine.rate_src_eq_model]
  cases hca : e.can_absorb with
  | false => simp
  | true =>
    simp only [not_true_eq_false, if_false, Bool.not_true, Option.bind_eq_bind, Option.pure_def, Bool.false_eq_true, pad_len_src_eq_model,
      set_domain_sep_src_eq_model]
    cases hr : rate dl with
    | none => cases usizechk (e.offset * 8) <;> simp
    | some r =>
      have hdl := rate_dl_le hr
      simp only [Option.bind_some]
      refine Option.bind_congr fun o8 _ => Option.bind_congr fun r8 _ => Option.bind_congr fun p_len hp => ?_
      have hpl := pad_len_lt hp
      -- the optional domain separation: both sides bind the branch result; the source checks `DIGESTLEN * 8` first
      have hsep : (if ds ≠ 0 then (usizechk (dl * 8)).bind fun t7 => set_domain_sep t7 (List.replicate p_len (0 : UInt8))
            else some (List.replicate p_len (0 : UInt8))) =
          (if (ds != 0) = true then set_domain_sep (dl * 8) (zeros p_len) else some (zeros p_len)) := by
        by_cases hds : ds = 0
        · simp [hds, zeros]
        · simp [hds, Proofs.Sponge.usizechk_of_lt (show dl * 8 < 2 ^ 64 by omega), zeros]
      rw [Proofs.GlueVocab.bind_ite_some, hsep]
      refine Option.bind_congr fun p1 h1 => ?_
      have hl1 : p1.length = p_len := by
        split at h1
        · rw [set_domain_sep_length h1, Cx.Proofs.Bytes.zeros_length]
        · cases h1; exact Cx.Proofs.Bytes.zeros_length _
      rw [set_pad_src_eq_model ds p1 (by omega)]
      refine Option.bind_congr fun p2 h2 => ?_
      rw [Engine.process_src_eq_model dl ds e p2 (by rw [set_pad_length h2]; omega)]

/-- `fn reset`: both flags, the offset, the wipe of the whole state -/
theorem Engine.reset_src_eq_model (dl ds : Nat) (e : Engine) : Engine.reset_src dl ds e = some e.reset := rfl

/-- `fn output` (squeeze) into an arbitrary caller buffer: `can_squeeze`, the implicit `finalize`, the asserts, the
    `while` loop with `offset % r`, the `DIGESTLEN` cap, `copy_from_slice`, `keccak_f`, the final `can_squeeze = false` -/
theorem Engine.output_src_eq_model_on (dl ds : Nat) (e : Engine) (out : Bytes) (ho : out.length < 2 ^ 64) :
    Engine.output_src dl ds e out = outputOn dl ds e out := by
  unfold Engine.output_src outputOn
  cases hcs : e.can_squeeze with
  | false => simp
  | true =>
    simp only [not_true_eq_false, if_false, Bool.not_true, Bool.false_eq_true, Option.bind_eq_bind, Option.pure_def, Option.bind_some,
      Engine.finalize_src_eq_model, Engine.rate_src_eq_model]
    rw [Proofs.GlueVocab.bind_ite_some]
    refine Option.bind_congr fun e1 _ => Option.bind_congr fun r hr => ?_
    have hr200 := Proofs.Sponge.rate_le hr
    have hdl := rate_dl_le hr
    have hsq := fun h => squeeze_whileLoop_eq dl ds r out.length (by omega) (by omega) ho (out.length + 1) e1 0 out (by omega) (by omega) h
    by_cases hD : dl = 0
    · subst hD
      by_cases hoff : e1.offset < r
      · simp only [ne_eq, not_true_eq_false, if_false, hoff, Option.bind_some, bne_self_eq_false, Bool.false_eq_true, Bool.false_and,
          Nat.sub_zero, ← hsq fun _ => hoff, Option.bind_assoc, false_and]
      · simp [hoff]
    · have hb : (dl != 0) = true := by simp [hD]
      by_cases hoff : e1.offset < dl
      · simp only [ne_eq, hD, not_false_eq_true, if_true, hoff, not_true_eq_false, if_false, Option.bind_some, hb, Bool.true_and,
          Nat.sub_zero, ← hsq fun h => absurd h hD, Option.bind_assoc]
        refine Option.bind_congr fun p _ => ?_
        by_cases hfin : dl = p.2.2.offset <;> simp [hfin]
      · simp [hoff, hD]

/-- the hand model `Engine.output` is `outputOn` on a zeroed buffer -/
theorem Engine.output_model_eq_on (dl ds : Nat) (e : Engine) (n : Nat) : e.output dl ds n = outputOn dl ds e (zeros n) := by
  unfold Engine.output outputOn
  rw [Cx.Proofs.Bytes.zeros_length]

/-- `fn output` on a fresh buffer `[0; n]` (what every caller in the crate passes) = the hand model -/
theorem Engine.output_src_eq_model (dl ds : Nat) (e : Engine) (n : Nat) (hn : n < 2 ^ 64) :
    Engine.output_src dl ds e (zeros n) = e.output dl ds n := by
  rw [Engine.output_model_eq_on]
  exact Engine.output_src_eq_model_on dl ds e (zeros n) (by simpa [zeros] using hn)

/-- when `rate` panics (`DIGESTLEN * 2 > B`) so does `output` (in the model: `outputOn_none_of_rate`) -/
theorem Engine.output_src_none_of_rate (D ds : Nat) (e : Engine) (out : Bytes) (h : rate D = none) :
    Engine.output_src D ds e out = none := by
  unfold Engine.output_src
  simp only [Engine.finalize_src_eq_model, Engine.rate_src_eq_model]
  unfold Engine.finalize
  cases e.can_squeeze <;> cases e.can_absorb <;> simp [h]

/-- `fn output` on `[0; DIGESTLEN]` — the form the contexts use — unconditionally: a `DIGESTLEN` that does not fit `usize` makes `rate`
    panic first -/
theorem Engine.output_src_digest (D ds : Nat) (e : Engine) : Engine.output_src D ds e (zeros D) = e.output D ds D := by
  cases hr : rate D with
  | none => rw [Engine.output_model_eq_on, outputOn_none_of_rate D ds e _ hr, Engine.output_src_none_of_rate D ds e _ hr]
  | some r => have := rate_dl_le hr; exact Engine.output_src_eq_model D ds e D (by omega)

/-! ### the contexts generated by `sha3_impl!` (`struct $context(Engine<$digestlength, 2>)`) -/

theorem Context.new_src_eq_model (dl : Nat) : Context.new_src dl = some Context.new := rfl

theorem Context.update_mut_src_eq_model (dl : Nat) (c : Context) (data : Bytes) (hd : data.length < 2 ^ 64) :
    Context.update_mut_src dl c data = Context.update_mut dl c data := by
  unfold Context.update_mut_src Context.update_mut
  rw [Engine.process_src_eq_model dl 2 c data hd]

theorem Context.update_src_eq_model (dl : Nat) (c : Context) (data : Bytes) (hd : data.length < 2 ^ 64) :
    Context.update_src dl c data = Context.update dl c data := by
  unfold Context.update_src Context.update
  rw [Engine.process_src_eq_model dl 2 c data hd]

/-- `finalize_reset`: `out = [0; $digestlength]`, `output`, `reset` — unconditional (a digest length that does not fit
    `usize` makes `rate` panic first, in the source and in the model) -/
theorem Context.finalize_reset_src_eq_model (dl : Nat) (c : Context) :
    Context.finalize_reset_src dl c = Context.finalize_reset dl 2 c := by
  unfold Context.finalize_reset_src Context.finalize_reset
  show (Engine.output_src dl 2 c (zeros dl)).bind _ = _
  rw [Engine.output_src_digest]
  cases Engine.output dl 2 c dl with
  | none => rfl
  | some p => rfl

theorem Context.finalize_src_eq_model (dl : Nat) (c : Context) : Context.finalize_src dl c = Context.finalize dl 2 c := by
  unfold Context.finalize_src Context.finalize
  show (Engine.output_src dl 2 c (zeros dl)).bind _ = _
  rw [Engine.output_src_digest]
  cases Engine.output dl 2 c dl with
  | none => rfl
  | some p => rfl

theorem Context.reset_src_eq_model (dl : Nat) (c : Context) : Context.reset_src dl c = some (Context.reset c) := rfl

/-- `impl $C { pub fn new() }` (the marker types `Sha3_224` … `Sha3_512`) -/
theorem Algorithm.new_src_eq_model (dl : Nat) : Algorithm.new_src dl = some Context.new := rfl

/-- test (not a theorem about all inputs): the translated source computes SHA3-256("abc").
    Evaluated through the ties: the glue is the hand model, a message shorter than a block costs one `keccak_f`, and that
    one is evaluated in its translated form `keccak_f_src` (the checked array updates of the hand model cost the kernel far
    more). -/
example : ((Context.new_src 32).bind fun c => (Context.update_src 32 c [0x61, 0x62, 0x63]).bind (Context.finalize_src 32)).map
    (fun d => d.take 4) = some [0x3a, 0x98, 0x5d, 0xa7] := by
  rw [Context.new_src_eq_model, Option.bind_some, Context.update_src_eq_model 32 _ _ (by decide), funext (Context.finalize_src_eq_model 32)]
  show (Impl.Sha3.hash 32 2 _).map _ = _
  rw [Proofs.Sponge.hash_one_block Proofs.Sponge.variant_sha3_256 _ (by decide), Props.C01.KernelTieKeccak.keccak_f_src_eq_model]
  decide +kernel

end Sha3

/-! ## BLAKE2b: `EngineB` (src/hashing/blake2/mod.rs), `Context<BITS>` / `ContextDyn` / `context_finalize!` (src/hashing/blake2b.rs)

  The hand model (Impl/Blake2.lean, generic over `P : Params W`, here `P = b`, `W = UInt64`, profile `.wrapping` = the
  code as it is) does not check the slice bounds that hold by the buffer invariant
  `Inv b c := c.buf.length = BLOCK_BYTES ∧ c.buflen ≤ BLOCK_BYTES` (Proofs/Blake2.lean); the translation does.  So the ties of
  the functions that touch the buffer are stated for all states satisfying `Inv` (`DynInv` = `Inv` + `outlen ≤ MAX_OUTLEN`
  for `ContextDyn`), and the invariant is proved to be established by `new_keyed` and preserved by every operation
  (`…_inv` below; Props/C02/Blake2.lean proves it for every reachable state of an operation history).  `Context<BITS>`
  theorems about `finalize*` carry the type-level fact `(BITS + 7) / 8 ≤ MAX_OUTLEN` asserted by `new`/`new_keyed`. -/
namespace Blake2b
open Cx.Impl.Blake2 Cx.Extracted.GlueSponge Cx.Extracted.GlueSponge.Blake2b Cx.Proofs.GlueSponge
open Cx.Proofs.Blake2 (Inv internal_final_inv)
open Cx.Proofs.GlueSponge.B (DynInv)

/-- the struct definitions (and the `use … EngineB as Engine`) the state mapping was written for are unchanged -/
theorem structs_checked : Engine_struct_src = () ∧ Context_struct_src = () ∧ ContextDyn_struct_src = () ∧ Engine_alias_src = () ∧
    Imports_src = () := ⟨rfl, rfl, rfl, rfl, rfl⟩

theorem Engine.consts_src_eq_model : Engine.BLOCK_BYTES_src = b.bb ∧ Engine.MAX_OUTLEN_src = b.maxOut ∧
    Engine.MAX_KEYLEN_src = b.maxKey ∧ Engine.BLOCK_BYTES_NATIVE_src = b.bb := ⟨rfl, rfl, rfl, by decide⟩

/-- `EngineB::new`: the two asserts, `h = IV; h[0] ^= 0x01010000 ^ (keylen << 8) ^ outlen`, `t = [0, 0]` -/
theorem Engine.new_src_eq_model (outlen keylen : Nat) : Engine.new_src outlen keylen = Engine.new b outlen keylen := by
  unfold Engine.new_src Engine.new
  by_cases h1 : outlen > 0 <;> by_cases h2 : outlen ≤ b.maxOut <;> by_cases h3 : keylen ≤ b.maxKey <;> simp [h1, h2, h3] <;> rfl

theorem Engine.reset_src_eq_model (e : Engine UInt64) (outlen keylen : Nat) :
    Engine.reset_src e outlen keylen = some (Engine.reset b e outlen keylen) := rfl

/-- `increment_counter`: `wrapping_add` on `t[0]`, the carry `if t[0] < inc` into `t[1]` -/
theorem Engine.increment_counter_src_eq_model (e : Engine UInt64) (inc : Nat) :
    Engine.increment_counter_src e inc = Engine.increment_counter .wrapping e inc := rfl

/-! ### `Context<BITS>` -/

theorem Context.new_keyed_src_eq_model (BITS : Nat) (key : Bytes) : Context.new_keyed_src BITS key = Context.new_keyed b BITS key := by
  unfold Context.new_keyed_src Context.new_keyed Context.outlen
  simp only [Engine.consts_src_eq_model.1, Engine.consts_src_eq_model.2.1, Engine.consts_src_eq_model.2.2.1, Engine.new_src_eq_model, Option.bind_eq_bind,
    Option.pure_def]
  by_cases hB : BITS + 7 < 2 ^ 64
  · simp only [Proofs.Sponge.usizechk_of_lt hB, Option.bind_some]
    by_cases ho : BITS > 0 ∧ (BITS + 7) / 8 ≤ b.maxOut
    · rw [if_neg (not_not_intro ho.1), if_neg (not_not_intro ho.2), if_neg (not_not_intro ho),
        new_keyed_core b (by decide) _ key ⟨by omega, ho.2⟩, Option.bind_fun_some]
    · by_cases h1 : BITS > 0 <;> simp_all
  · -- `BITS + 7` does not fit `usize`: the source panics in the check, the model in the assert on the output length
    have h' : Impl.Sha3.usizechk (BITS + 7) = none := if_neg hB
    have : ¬ (BITS + 7) / 8 ≤ b.maxOut := by rw [Cx.Proofs.Blake2.maxOut_b]; omega
    by_cases h1 : BITS > 0 <;> simp [h1, this, h']

theorem Context.new_src_eq_model (BITS : Nat) : Context.new_src BITS = Context.new b BITS := by
  unfold Context.new_src Context.new Context.outlen
  simp only [Engine.consts_src_eq_model.2.1, Context.new_keyed_src_eq_model]
  by_cases hB : BITS + 7 < 2 ^ 64
  · simp only [Proofs.Sponge.usizechk_of_lt hB, Option.bind_eq_bind, Option.bind_some]
    by_cases h1 : BITS > 0 <;> by_cases h2 : (BITS + 7) / 8 ≤ b.maxOut <;> simp [h1, h2]
  · have : ¬ (BITS + 7) / 8 ≤ b.maxOut := by rw [Cx.Proofs.Blake2.maxOut_b]; omega
    have h' : Impl.Sha3.usizechk (BITS + 7) = none := if_neg hB
    by_cases h1 : BITS > 0 <;> simp [h1, this, h']

/-- the marker type `Blake2b<BITS>`: `new()`, `new_keyed(key)` -/
theorem Algorithm.new_src_eq_model (BITS : Nat) : Algorithm.new_src BITS = Context.new b BITS := by
  unfold Algorithm.new_src
  rw [Context.new_src_eq_model]
theorem Algorithm.new_keyed_src_eq_model (BITS : Nat) (key : Bytes) : Algorithm.new_keyed_src BITS key = Context.new_keyed b BITS key := by
  unfold Algorithm.new_keyed_src
  rw [Context.new_keyed_src_eq_model]

/-- `update_mut`: the empty-input return, `fill`, the STRICT `>` (a full block stays buffered), the first block through the
    buffer, the `while input.len() > BLOCK_BYTES` loop, the final copy and `buflen +=` — every input length -/
theorem Context.update_mut_src_eq_model (BITS : Nat) (c : Ctx UInt64) (input : Bytes) (hi : Inv b c) :
    Context.update_mut_src BITS c input = Context.update_mut b .wrapping c input := by
  rw [update_mut_tie b (by decide) (by decide) (fun c : Ctx UInt64 => c) (fun _ c => c) (fun _ _ => rfl) (fun _ _ _ => rfl) (fun _ => rfl)
    (Context.update_mut_src_while1 BITS) (Context.update_mut_src BITS) (fun _ _ _ => rfl) (fun _ _ => rfl) c input hi]
  exact Option.bind_fun_some _

theorem Context.update_src_eq_model (BITS : Nat) (c : Ctx UInt64) (input : Bytes) (hi : Inv b c) :
    Context.update_src BITS c input = Context.update b .wrapping c input := by
  unfold Context.update_src Context.update
  rw [Context.update_mut_src_eq_model BITS c input hi]
  unfold Context.update_mut
  cases Ctx.update_mut b Profile.wrapping c input <;> rfl

/-- `internal_final`: counter += buflen, wipe of `buf[buflen..]`, last-block compression, all 8 words of `h` written to `buf[0..64]` -/
theorem Context.internal_final_src_eq_model (BITS : Nat) (c : Ctx UInt64) (hi : Inv b c) :
    Context.internal_final_src BITS c = Ctx.internal_final b .wrapping c := by
  unfold Context.internal_final_src
  simp only [Engine.consts_src_eq_model.1, Engine.increment_counter_src_eq_model, Option.bind_eq_bind, Option.pure_def]
  exact internal_final_core b (by decide) c hi write_u64v_le fun _ _ => rfl

theorem Context.reset_src_eq_model (BITS : Nat) (c : Ctx UInt64) (hB : BITS + 7 < 2 ^ 64) :
    Context.reset_src BITS c = some (Context.reset b BITS c) := by
  unfold Context.reset_src Context.reset Ctx.reset Context.outlen
  simp only [Proofs.Sponge.usizechk_of_lt hB, Engine.reset_src_eq_model, Option.bind_eq_bind, Option.bind_some, Option.pure_def,
    slice_to_end (Nat.zero_le _), wipe_all]

/-- `reset_with_key`: the assert, engine reset with the key length, wipe of the WHOLE buffer, key block or empty buffer -/
theorem Context.reset_with_key_src_eq_model (BITS : Nat) (c : Ctx UInt64) (key : Bytes) (hi : Inv b c) (hB : BITS + 7 < 2 ^ 64) :
    Context.reset_with_key_src BITS c key = Context.reset_with_key b BITS c key := by
  obtain ⟨hbl, hle⟩ := hi
  have hzl : (zeroFrom c.buf 0).length = c.buf.length := Cx.Proofs.Blake2.zeroFrom_length _ _ (Nat.zero_le _)
  unfold Context.reset_with_key_src Context.reset_with_key Ctx.reset_with_key Context.outlen
  simp only [Proofs.Sponge.usizechk_of_lt hB, Engine.reset_src_eq_model, Option.bind_eq_bind, Option.bind_some, Option.pure_def,
    slice_to_end (Nat.zero_le _), wipe_all, Engine.consts_src_eq_model.1, Engine.consts_src_eq_model.2.2.1]
  split
  · rfl
  · rename_i hk
    rw [copyInto_setSlice (Nat.zero_add _).symm (by have := Decidable.not_not.mp hk; rw [Cx.Proofs.Blake2.maxKey_b] at this; rw [B.bb_eq] at hbl; omega)]
    split <;> rfl

/-- `finalize_at(out)`: only `out.len()` matters (the whole of `out` is overwritten) -/
theorem Context.finalize_at_src_eq_model (BITS : Nat) (c : Ctx UInt64) (out : Bytes) (hi : Inv b c) (hB : (BITS + 7) / 8 ≤ b.maxOut) :
    Context.finalize_at_src BITS c out = Context.finalize_at b .wrapping BITS c out.length := by
  have hmo := Cx.Proofs.Blake2.maxOut_b
  unfold Context.finalize_at_src Context.finalize_at Ctx.finalize_at Context.outlen
  simp only [Proofs.Sponge.usizechk_of_lt (show BITS + 7 < 2 ^ 64 by omega), Context.internal_final_src_eq_model BITS c hi, Option.bind_eq_bind,
    Option.bind_some]
  have h := finalize_prefix b (by decide) (by decide) c out _ hi hB fun _ o => some o
  simp only [Option.bind_fun_some] at h
  rw [h]
  split
  · rfl
  · cases Ctx.internal_final b .wrapping c <;> rfl

theorem Context.finalize_reset_at_src_eq_model (BITS : Nat) (c : Ctx UInt64) (out : Bytes) (hi : Inv b c)
    (hB : (BITS + 7) / 8 ≤ b.maxOut) :
    Context.finalize_reset_at_src BITS c out = Context.finalize_reset_at b .wrapping BITS c out.length := by
  have hmo := Cx.Proofs.Blake2.maxOut_b
  unfold Context.finalize_reset_at_src Context.finalize_reset_at Ctx.finalize_reset_at Context.outlen
  simp only [Proofs.Sponge.usizechk_of_lt (show BITS + 7 < 2 ^ 64 by omega), Context.internal_final_src_eq_model BITS c hi, Option.bind_eq_bind,
    Option.bind_some, Option.pure_def, Context.reset_src_eq_model BITS _ (show BITS + 7 < 2 ^ 64 by omega)]
  rw [finalize_prefix b (by decide) (by decide) c out _ hi hB fun c' o => some (Context.reset b BITS c', o)]
  split
  · rfl
  · cases Ctx.internal_final b .wrapping c <;> rfl

theorem Context.finalize_reset_with_key_at_src_eq_model (BITS : Nat) (c : Ctx UInt64) (key out : Bytes) (hi : Inv b c)
    (hB : (BITS + 7) / 8 ≤ b.maxOut) :
    Context.finalize_reset_with_key_at_src BITS c key out = Context.finalize_reset_with_key_at b .wrapping BITS c key out.length := by
  have hmo := Cx.Proofs.Blake2.maxOut_b
  unfold Context.finalize_reset_with_key_at_src Context.finalize_reset_with_key_at Ctx.finalize_reset_with_key_at Context.outlen
  simp only [Proofs.Sponge.usizechk_of_lt (show BITS + 7 < 2 ^ 64 by omega), Context.internal_final_src_eq_model BITS c hi, Option.bind_eq_bind,
    Option.bind_some, Option.pure_def]
  rw [finalize_prefix b (by decide) (by decide) c out _ hi hB fun c' o => (Context.reset_with_key_src BITS c' key).bind fun s => some (s, o)]
  split
  · rfl
  · cases hf : Ctx.internal_final b .wrapping c with
    | none => rfl
    | some c' =>
      rw [Option.bind_some, Context.reset_with_key_src_eq_model BITS c' key (internal_final_inv b .wrapping (by decide) c c' hi hf) (by omega)]
      dsimp only
      unfold Context.reset_with_key Context.outlen
      cases Ctx.reset_with_key b c' ((BITS + 7) / 8) key <;> rfl

/-- `context_finalize!($size)`: `out = [0; $size / 8]` -/
theorem Context.finalize_src_eq_model (BITS : Nat) (c : Ctx UInt64) (hi : Inv b c) (hB : (BITS + 7) / 8 ≤ b.maxOut) :
    Context.finalize_src BITS c = Context.finalize b .wrapping BITS c := by
  unfold Context.finalize_src Context.finalize
  simp only [Context.finalize_at_src_eq_model BITS c _ hi hB, Cx.Proofs.Bytes.zeros_length]

theorem Context.finalize_reset_src_eq_model (BITS : Nat) (c : Ctx UInt64) (hi : Inv b c) (hB : (BITS + 7) / 8 ≤ b.maxOut) :
    Context.finalize_reset_src BITS c = Context.finalize_reset b .wrapping BITS c := by
  unfold Context.finalize_reset_src Context.finalize_reset
  simp only [Context.finalize_reset_at_src_eq_model BITS c _ hi hB, Option.bind_eq_bind, Option.pure_def, Cx.Proofs.Bytes.zeros_length]
  cases Context.finalize_reset_at b Profile.wrapping BITS c (BITS / 8) <;> rfl

theorem Context.finalize_reset_with_key_src_eq_model (BITS : Nat) (c : Ctx UInt64) (key : Bytes) (hi : Inv b c)
    (hB : (BITS + 7) / 8 ≤ b.maxOut) :
    Context.finalize_reset_with_key_src BITS c key = Context.finalize_reset_with_key b .wrapping BITS c key := by
  unfold Context.finalize_reset_with_key_src Context.finalize_reset_with_key
  simp only [Context.finalize_reset_with_key_at_src_eq_model BITS c key _ hi hB, Option.bind_eq_bind, Option.pure_def,
    Cx.Proofs.Bytes.zeros_length]
  cases Context.finalize_reset_with_key_at b Profile.wrapping BITS c key (BITS / 8) <;> rfl

/-! ### the invariant: established by `new_keyed`, preserved by every operation -/

theorem Context.new_keyed_inv (n : Nat) (key : Bytes) (c : Ctx UInt64) (h : Ctx.new_keyed b n key = some c) : Inv b c :=
  Proofs.GlueSponge.new_keyed_inv b (by decide) n key c h
theorem Context.update_mut_inv (c c' : Ctx UInt64) (input : Bytes) (hi : Inv b c) (h : Ctx.update_mut b .wrapping c input = some c') :
    Inv b c' := Proofs.Blake2.update_mut_inv b .wrapping (by decide) c c' input hi h
theorem Context.internal_final_inv (c c' : Ctx UInt64) (hi : Inv b c) (h : Ctx.internal_final b .wrapping c = some c') : Inv b c' :=
  Proofs.Blake2.internal_final_inv b .wrapping (by decide) c c' hi h
theorem Context.reset_inv (c : Ctx UInt64) (n : Nat) (hi : Inv b c) : Inv b (Ctx.reset b c n) := Proofs.GlueSponge.reset_inv b c n hi
theorem Context.reset_with_key_inv (c c' : Ctx UInt64) (n : Nat) (key : Bytes) (hi : Inv b c)
    (h : Ctx.reset_with_key b c n key = some c') : Inv b c' := Proofs.GlueSponge.reset_with_key_inv b (by decide) c c' n key hi h

/-- the hypotheses are satisfiable by a non-trivial state (5 pending bytes) -/
example : Inv b ({ eng := { h := b.iv, t0 := 128, t1 := 0 }, buf := [1, 2, 3, 4, 5] ++ zeros 123, buflen := 5 } : Ctx UInt64) :=
  ⟨by simp [zeros]; rfl, by show 5 ≤ b.bb; decide⟩

/-! ### `ContextDyn` -/

theorem ContextDyn.new_keyed_src_eq_model (n : Nat) (key : Bytes) : ContextDyn.new_keyed_src n key = ContextDyn.new_keyed b n key := by
  unfold ContextDyn.new_keyed_src ContextDyn.new_keyed
  simp only [Engine.consts_src_eq_model.1, Engine.consts_src_eq_model.2.1, Engine.consts_src_eq_model.2.2.1, Engine.new_src_eq_model, Option.bind_eq_bind,
    Option.pure_def]
  by_cases ho : n > 0 ∧ n ≤ b.maxOut
  · rw [if_neg (not_not_intro ho.1), if_neg (not_not_intro ho.2),
      new_keyed_core b (by decide) n key ho fun c => some ({ ctx := c, outlen := n } : ContextDyn UInt64)]
    cases Ctx.new_keyed b n key <;> rfl
  · unfold Ctx.new_keyed
    by_cases h1 : n > 0 <;> simp_all

theorem ContextDyn.new_src_eq_model (n : Nat) : ContextDyn.new_src n = ContextDyn.new b n := by
  unfold ContextDyn.new_src ContextDyn.new
  simp only [Engine.consts_src_eq_model.2.1, ContextDyn.new_keyed_src_eq_model]
  by_cases h1 : n > 0 <;> by_cases h2 : n ≤ b.maxOut <;> simp [h1, h2]

theorem ContextDyn.update_mut_src_eq_model (d : ContextDyn UInt64) (input : Bytes) (hi : DynInv d) :
    ContextDyn.update_mut_src d input = ContextDyn.update_mut b .wrapping d input := by
  rw [update_mut_tie b (by decide) (by decide) (fun d : ContextDyn UInt64 => d.ctx) (fun d c => { d with ctx := c }) (fun _ _ => rfl)
    (fun _ _ _ => rfl) (fun _ => rfl) ContextDyn.update_mut_src_while1 ContextDyn.update_mut_src (fun _ _ _ => rfl) (fun _ _ => rfl) d input hi.1]
  unfold ContextDyn.update_mut
  cases Ctx.update_mut b .wrapping d.ctx input <;> rfl

theorem ContextDyn.update_src_eq_model (d : ContextDyn UInt64) (input : Bytes) (hi : DynInv d) :
    ContextDyn.update_src d input = ContextDyn.update b .wrapping d input := by
  unfold ContextDyn.update_src ContextDyn.update
  rw [ContextDyn.update_mut_src_eq_model d input hi]

/-- `internal_final` (the model has one `Ctx.internal_final` for both context types): through the `Context<BITS>` tie, at any
    `BITS`, say 0, since the generated `Context.internal_final_src BITS` does not use it -/
theorem ContextDyn.internal_final_src_eq_model (d : ContextDyn UInt64) (hi : DynInv d) :
    ContextDyn.internal_final_src d = (Ctx.internal_final b .wrapping d.ctx).bind fun x => some { d with ctx := x } := by
  rw [← Context.internal_final_src_eq_model 0 d.ctx hi.1]
  unfold ContextDyn.internal_final_src Context.internal_final_src
  simp only [Option.bind_eq_bind, Option.pure_def, Option.bind_assoc, Option.bind_some]

theorem ContextDyn.reset_src_eq_model (d : ContextDyn UInt64) : ContextDyn.reset_src d = some (ContextDyn.reset b d) := by
  unfold ContextDyn.reset_src ContextDyn.reset Ctx.reset
  simp only [Engine.reset_src_eq_model, Option.bind_eq_bind, Option.bind_some, Option.pure_def, slice_to_end (Nat.zero_le _), wipe_all]

theorem ContextDyn.reset_with_key_src_eq_model (d : ContextDyn UInt64) (key : Bytes) (hi : DynInv d) :
    ContextDyn.reset_with_key_src d key = ContextDyn.reset_with_key b d key := by
  obtain ⟨⟨hbl, hle⟩, _⟩ := hi
  have hzl : (zeroFrom d.ctx.buf 0).length = d.ctx.buf.length := Cx.Proofs.Blake2.zeroFrom_length _ _ (Nat.zero_le _)
  unfold ContextDyn.reset_with_key_src ContextDyn.reset_with_key Ctx.reset_with_key
  simp only [Engine.reset_src_eq_model, Option.bind_eq_bind, Option.bind_some, Option.pure_def,
    slice_to_end (Nat.zero_le _), wipe_all, Engine.consts_src_eq_model.1, Engine.consts_src_eq_model.2.2.1]
  split
  · rfl
  · rename_i hk
    rw [copyInto_setSlice (Nat.zero_add _).symm (by have := Decidable.not_not.mp hk; rw [Cx.Proofs.Blake2.maxKey_b] at this; rw [B.bb_eq] at hbl; omega)]
    split <;> rfl

theorem ContextDyn.finalize_at_src_eq_model (d : ContextDyn UInt64) (out : Bytes) (hi : DynInv d) :
    ContextDyn.finalize_at_src d out = ContextDyn.finalize_at b .wrapping d out.length := by
  unfold ContextDyn.finalize_at_src ContextDyn.finalize_at Ctx.finalize_at
  simp only [ContextDyn.internal_final_src_eq_model d hi, Option.bind_eq_bind, Option.bind_assoc, Option.bind_some]
  have h := finalize_prefix b (by decide) (by decide) d.ctx out _ hi.1 hi.2 fun _ o => some o
  simp only [Option.bind_fun_some] at h
  rw [h]
  split
  · rfl
  · cases Ctx.internal_final b .wrapping d.ctx <;> rfl

theorem ContextDyn.finalize_reset_at_src_eq_model (d : ContextDyn UInt64) (out : Bytes) (hi : DynInv d) :
    ContextDyn.finalize_reset_at_src d out = ContextDyn.finalize_reset_at b .wrapping d out.length := by
  unfold ContextDyn.finalize_reset_at_src ContextDyn.finalize_reset_at Ctx.finalize_reset_at
  simp only [ContextDyn.internal_final_src_eq_model d hi, Option.bind_eq_bind, Option.bind_assoc, Option.bind_some, Option.pure_def,
    ContextDyn.reset_src_eq_model]
  rw [finalize_prefix b (by decide) (by decide) d.ctx out _ hi.1 hi.2 fun c' o => some (ContextDyn.reset b { d with ctx := c' }, o)]
  split
  · rfl
  · cases Ctx.internal_final b .wrapping d.ctx <;> rfl

theorem ContextDyn.finalize_reset_with_key_at_src_eq_model (d : ContextDyn UInt64) (key out : Bytes) (hi : DynInv d) :
    ContextDyn.finalize_reset_with_key_at_src d key out = ContextDyn.finalize_reset_with_key_at b .wrapping d key out.length := by
  unfold ContextDyn.finalize_reset_with_key_at_src ContextDyn.finalize_reset_with_key_at Ctx.finalize_reset_with_key_at
  simp only [ContextDyn.internal_final_src_eq_model d hi, Option.bind_eq_bind, Option.bind_assoc, Option.bind_some, Option.pure_def]
  rw [finalize_prefix b (by decide) (by decide) d.ctx out _ hi.1 hi.2 fun c' o =>
    (ContextDyn.reset_with_key_src { d with ctx := c' } key).bind fun s => some (s, o)]
  split
  · rfl
  · cases hf : Ctx.internal_final b .wrapping d.ctx with
    | none => rfl
    | some c' =>
      rw [Option.bind_some, ContextDyn.reset_with_key_src_eq_model { d with ctx := c' } key
        ⟨internal_final_inv b .wrapping (by decide) d.ctx c' hi.1 hf, hi.2⟩]
      unfold ContextDyn.reset_with_key
      dsimp only
      cases Ctx.reset_with_key b c' d.outlen key <;> rfl

theorem ContextDyn.output_bits_src_eq_model (d : ContextDyn UInt64) (hi : DynInv d) :
    ContextDyn.output_bits_src d = some (ContextDyn.output_bits d) := by
  have hmo := Cx.Proofs.Blake2.maxOut_b
  unfold ContextDyn.output_bits_src ContextDyn.output_bits
  have := hi.2
  simp [Proofs.Sponge.usizechk_of_lt (show d.outlen * 8 < 2 ^ 64 by omega)]

theorem ContextDyn.new_keyed_inv (n : Nat) (key : Bytes) (d : ContextDyn UInt64) (h : ContextDyn.new_keyed b n key = some d) : DynInv d :=
  Proofs.GlueSponge.dyn_new_keyed_inv b (by decide) n key d h
theorem ContextDyn.update_mut_inv (d d' : ContextDyn UInt64) (input : Bytes) (hi : DynInv d)
    (h : ContextDyn.update_mut b .wrapping d input = some d') : DynInv d' := Proofs.GlueSponge.dyn_update_mut_inv b .wrapping (by decide) d d' input hi h
theorem ContextDyn.reset_inv (d : ContextDyn UInt64) (hi : DynInv d) : DynInv (ContextDyn.reset b d) :=
  ⟨Proofs.GlueSponge.reset_inv b d.ctx d.outlen hi.1, hi.2⟩
theorem ContextDyn.reset_with_key_inv (d d' : ContextDyn UInt64) (key : Bytes) (hi : DynInv d)
    (h : ContextDyn.reset_with_key b d key = some d') : DynInv d' := Proofs.GlueSponge.dyn_reset_with_key_inv b (by decide) d d' key hi h

end Blake2b

/-! ## BLAKE2s: `EngineS` (src/hashing/blake2/mod.rs), `Context<BITS>` / `ContextDyn` / `context_finalize!` (src/hashing/blake2s.rs)

  As for BLAKE2b, with `P = s`, `W = UInt32`: the two Rust files are the same text up to the word type and the sizes, and so
  are the statements and proofs of this section. -/
namespace Blake2s
open Cx.Impl.Blake2 Cx.Extracted.GlueSponge Cx.Extracted.GlueSponge.Blake2s Cx.Proofs.GlueSponge
open Cx.Proofs.Blake2 (Inv internal_final_inv)
open Cx.Proofs.GlueSponge.S (DynInv)

/-- the struct definitions (and the `use … EngineS as Engine`) the state mapping was written for are unchanged -/
theorem structs_checked : Engine_struct_src = () ∧ Context_struct_src = () ∧ ContextDyn_struct_src = () ∧ Engine_alias_src = () ∧
    Imports_src = () := ⟨rfl, rfl, rfl, rfl, rfl⟩

theorem Engine.consts_src_eq_model : Engine.BLOCK_BYTES_src = s.bb ∧ Engine.MAX_OUTLEN_src = s.maxOut ∧
    Engine.MAX_KEYLEN_src = s.maxKey ∧ Engine.BLOCK_BYTES_NATIVE_src = s.bb := ⟨rfl, rfl, rfl, by decide⟩

/-- `EngineS::new`: the two asserts, `h = IV; h[0] ^= 0x01010000 ^ (keylen << 8) ^ outlen`, `t = [0, 0]` -/
theorem Engine.new_src_eq_model (outlen keylen : Nat) : Engine.new_src outlen keylen = Engine.new s outlen keylen := by
  unfold Engine.new_src Engine.new
  by_cases h1 : outlen > 0 <;> by_cases h2 : outlen ≤ s.maxOut <;> by_cases h3 : keylen ≤ s.maxKey <;> simp [h1, h2, h3] <;> rfl

theorem Engine.reset_src_eq_model (e : Engine UInt32) (outlen keylen : Nat) :
    Engine.reset_src e outlen keylen = some (Engine.reset s e outlen keylen) := rfl

/-- `increment_counter`: `wrapping_add` on `t[0]`, the carry `if t[0] < inc` into `t[1]` -/
theorem Engine.increment_counter_src_eq_model (e : Engine UInt32) (inc : Nat) :
    Engine.increment_counter_src e inc = Engine.increment_counter .wrapping e inc := rfl

/-! ### `Context<BITS>` -/

theorem Context.new_keyed_src_eq_model (BITS : Nat) (key : Bytes) : Context.new_keyed_src BITS key = Context.new_keyed s BITS key := by
  unfold Context.new_keyed_src Context.new_keyed Context.outlen
  simp only [Engine.consts_src_eq_model.1, Engine.consts_src_eq_model.2.1, Engine.consts_src_eq_model.2.2.1, Engine.new_src_eq_model, Option.bind_eq_bind,
    Option.pure_def]
  by_cases hB : BITS + 7 < 2 ^ 64
  · simp only [Proofs.Sponge.usizechk_of_lt hB, Option.bind_some]
    by_cases ho : BITS > 0 ∧ (BITS + 7) / 8 ≤ s.maxOut
    · rw [if_neg (not_not_intro ho.1), if_neg (not_not_intro ho.2), if_neg (not_not_intro ho),
        new_keyed_core s (by decide) _ key ⟨by omega, ho.2⟩, Option.bind_fun_some]
    · by_cases h1 : BITS > 0 <;> simp_all
  · -- `BITS + 7` does not fit `usize`: the source panics in the check, the model in the assert on the output length
    have h' : Impl.Sha3.usizechk (BITS + 7) = none := if_neg hB
    have : ¬ (BITS + 7) / 8 ≤ s.maxOut := by rw [Cx.Proofs.Blake2.maxOut_s]; omega
    by_cases h1 : BITS > 0 <;> simp [h1, this, h']

theorem Context.new_src_eq_model (BITS : Nat) : Context.new_src BITS = Context.new s BITS := by
  unfold Context.new_src Context.new Context.outlen
  simp only [Engine.consts_src_eq_model.2.1, Context.new_keyed_src_eq_model]
  by_cases hB : BITS + 7 < 2 ^ 64
  · simp only [Proofs.Sponge.usizechk_of_lt hB, Option.bind_eq_bind, Option.bind_some]
    by_cases h1 : BITS > 0 <;> by_cases h2 : (BITS + 7) / 8 ≤ s.maxOut <;> simp [h1, h2]
  · have : ¬ (BITS + 7) / 8 ≤ s.maxOut := by rw [Cx.Proofs.Blake2.maxOut_s]; omega
    have h' : Impl.Sha3.usizechk (BITS + 7) = none := if_neg hB
    by_cases h1 : BITS > 0 <;> simp [h1, this, h']

/-- the marker type `Blake2s<BITS>`: `new()`, `new_keyed(key)` -/
theorem Algorithm.new_src_eq_model (BITS : Nat) : Algorithm.new_src BITS = Context.new s BITS := by
  unfold Algorithm.new_src
  rw [Context.new_src_eq_model]
theorem Algorithm.new_keyed_src_eq_model (BITS : Nat) (key : Bytes) : Algorithm.new_keyed_src BITS key = Context.new_keyed s BITS key := by
  unfold Algorithm.new_keyed_src
  rw [Context.new_keyed_src_eq_model]

/-- `update_mut`: the empty-input return, `fill`, the STRICT `>` (a full block stays buffered), the first block through the
    buffer, the `while input.len() > BLOCK_BYTES` loop, the final copy and `buflen +=` — every input length -/
theorem Context.update_mut_src_eq_model (BITS : Nat) (c : Ctx UInt32) (input : Bytes) (hi : Inv s c) :
    Context.update_mut_src BITS c input = Context.update_mut s .wrapping c input := by
  rw [update_mut_tie s (by decide) (by decide) (fun c : Ctx UInt32 => c) (fun _ c => c) (fun _ _ => rfl) (fun _ _ _ => rfl) (fun _ => rfl)
    (Context.update_mut_src_while1 BITS) (Context.update_mut_src BITS) (fun _ _ _ => rfl) (fun _ _ => rfl) c input hi]
  exact Option.bind_fun_some _

theorem Context.update_src_eq_model (BITS : Nat) (c : Ctx UInt32) (input : Bytes) (hi : Inv s c) :
    Context.update_src BITS c input = Context.update s .wrapping c input := by
  unfold Context.update_src Context.update
  rw [Context.update_mut_src_eq_model BITS c input hi]
  unfold Context.update_mut
  cases Ctx.update_mut s Profile.wrapping c input <;> rfl

/-- `internal_final`: counter += buflen, wipe of `buf[buflen..]`, last-block compression, all 8 words of `h` written to `buf[0..32]` -/
theorem Context.internal_final_src_eq_model (BITS : Nat) (c : Ctx UInt32) (hi : Inv s c) :
    Context.internal_final_src BITS c = Ctx.internal_final s .wrapping c := by
  unfold Context.internal_final_src
  simp only [Engine.consts_src_eq_model.1, Engine.increment_counter_src_eq_model, Option.bind_eq_bind, Option.pure_def]
  exact internal_final_core s (by decide) c hi write_u32v_le fun _ _ => rfl

theorem Context.reset_src_eq_model (BITS : Nat) (c : Ctx UInt32) (hB : BITS + 7 < 2 ^ 64) :
    Context.reset_src BITS c = some (Context.reset s BITS c) := by
  unfold Context.reset_src Context.reset Ctx.reset Context.outlen
  simp only [Proofs.Sponge.usizechk_of_lt hB, Engine.reset_src_eq_model, Option.bind_eq_bind, Option.bind_some, Option.pure_def,
    slice_to_end (Nat.zero_le _), wipe_all]

/-- `reset_with_key`: the assert, engine reset with the key length, wipe of the WHOLE buffer, key block or empty buffer -/
theorem Context.reset_with_key_src_eq_model (BITS : Nat) (c : Ctx UInt32) (key : Bytes) (hi : Inv s c) (hB : BITS + 7 < 2 ^ 64) :
    Context.reset_with_key_src BITS c key = Context.reset_with_key s BITS c key := by
  obtain ⟨hbl, hle⟩ := hi
  have hzl : (zeroFrom c.buf 0).length = c.buf.length := Cx.Proofs.Blake2.zeroFrom_length _ _ (Nat.zero_le _)
  unfold Context.reset_with_key_src Context.reset_with_key Ctx.reset_with_key Context.outlen
  simp only [Proofs.Sponge.usizechk_of_lt hB, Engine.reset_src_eq_model, Option.bind_eq_bind, Option.bind_some, Option.pure_def,
    slice_to_end (Nat.zero_le _), wipe_all, Engine.consts_src_eq_model.1, Engine.consts_src_eq_model.2.2.1]
  split
  · rfl
  · rename_i hk
    rw [copyInto_setSlice (Nat.zero_add _).symm (by have := Decidable.not_not.mp hk; rw [Cx.Proofs.Blake2.maxKey_s] at this; rw [S.bb_eq] at hbl; omega)]
    split <;> rfl

/-- `finalize_at(out)`: only `out.len()` matters (the whole of `out` is overwritten) -/
theorem Context.finalize_at_src_eq_model (BITS : Nat) (c : Ctx UInt32) (out : Bytes) (hi : Inv s c) (hB : (BITS + 7) / 8 ≤ s.maxOut) :
    Context.finalize_at_src BITS c out = Context.finalize_at s .wrapping BITS c out.length := by
  have hmo := Cx.Proofs.Blake2.maxOut_s
  unfold Context.finalize_at_src Context.finalize_at Ctx.finalize_at Context.outlen
  simp only [Proofs.Sponge.usizechk_of_lt (show BITS + 7 < 2 ^ 64 by omega), Context.internal_final_src_eq_model BITS c hi, Option.bind_eq_bind,
    Option.bind_some]
  have h := finalize_prefix s (by decide) (by decide) c out _ hi hB fun _ o => some o
  simp only [Option.bind_fun_some] at h
  rw [h]
  split
  · rfl
  · cases Ctx.internal_final s .wrapping c <;> rfl

theorem Context.finalize_reset_at_src_eq_model (BITS : Nat) (c : Ctx UInt32) (out : Bytes) (hi : Inv s c)
    (hB : (BITS + 7) / 8 ≤ s.maxOut) :
    Context.finalize_reset_at_src BITS c out = Context.finalize_reset_at s .wrapping BITS c out.length := by
  have hmo := Cx.Proofs.Blake2.maxOut_s
  unfold Context.finalize_reset_at_src Context.finalize_reset_at Ctx.finalize_reset_at Context.outlen
  simp only [Proofs.Sponge.usizechk_of_lt (show BITS + 7 < 2 ^ 64 by omega), Context.internal_final_src_eq_model BITS c hi, Option.bind_eq_bind,
    Option.bind_some, Option.pure_def, Context.reset_src_eq_model BITS _ (show BITS + 7 < 2 ^ 64 by omega)]
  rw [finalize_prefix s (by decide) (by decide) c out _ hi hB fun c' o => some (Context.reset s BITS c', o)]
  split
  · rfl
  · cases Ctx.internal_final s .wrapping c <;> rfl

theorem Context.finalize_reset_with_key_at_src_eq_model (BITS : Nat) (c : Ctx UInt32) (key out : Bytes) (hi : Inv s c)
    (hB : (BITS + 7) / 8 ≤ s.maxOut) :
    Context.finalize_reset_with_key_at_src BITS c key out = Context.finalize_reset_with_key_at s .wrapping BITS c key out.length := by
  have hmo := Cx.Proofs.Blake2.maxOut_s
  unfold Context.finalize_reset_with_key_at_src Context.finalize_reset_with_key_at Ctx.finalize_reset_with_key_at Context.outlen
  simp only [Proofs.Sponge.usizechk_of_lt (show BITS + 7 < 2 ^ 64 by omega), Context.internal_final_src_eq_model BITS c hi, Option.bind_eq_bind,
    Option.bind_some, Option.pure_def]
  rw [finalize_prefix s (by decide) (by decide) c out _ hi hB fun c' o => (Context.reset_with_key_src BITS c' key).bind fun s => some (s, o)]
  split
  · rfl
  · cases hf : Ctx.internal_final s .wrapping c with
    | none => rfl
    | some c' =>
      rw [Option.bind_some, Context.reset_with_key_src_eq_model BITS c' key (internal_final_inv s .wrapping (by decide) c c' hi hf) (by omega)]
      dsimp only
      unfold Context.reset_with_key Context.outlen
      cases Ctx.reset_with_key s c' ((BITS + 7) / 8) key <;> rfl

/-- `context_finalize!($size)`: `out = [0; $size / 8]` -/
theorem Context.finalize_src_eq_model (BITS : Nat) (c : Ctx UInt32) (hi : Inv s c) (hB : (BITS + 7) / 8 ≤ s.maxOut) :
    Context.finalize_src BITS c = Context.finalize s .wrapping BITS c := by
  unfold Context.finalize_src Context.finalize
  simp only [Context.finalize_at_src_eq_model BITS c _ hi hB, Cx.Proofs.Bytes.zeros_length]

theorem Context.finalize_reset_src_eq_model (BITS : Nat) (c : Ctx UInt32) (hi : Inv s c) (hB : (BITS + 7) / 8 ≤ s.maxOut) :
    Context.finalize_reset_src BITS c = Context.finalize_reset s .wrapping BITS c := by
  unfold Context.finalize_reset_src Context.finalize_reset
  simp only [Context.finalize_reset_at_src_eq_model BITS c _ hi hB, Option.bind_eq_bind, Option.pure_def, Cx.Proofs.Bytes.zeros_length]
  cases Context.finalize_reset_at s Profile.wrapping BITS c (BITS / 8) <;> rfl

theorem Context.finalize_reset_with_key_src_eq_model (BITS : Nat) (c : Ctx UInt32) (key : Bytes) (hi : Inv s c)
    (hB : (BITS + 7) / 8 ≤ s.maxOut) :
    Context.finalize_reset_with_key_src BITS c key = Context.finalize_reset_with_key s .wrapping BITS c key := by
  unfold Context.finalize_reset_with_key_src Context.finalize_reset_with_key
  simp only [Context.finalize_reset_with_key_at_src_eq_model BITS c key _ hi hB, Option.bind_eq_bind, Option.pure_def,
    Cx.Proofs.Bytes.zeros_length]
  cases Context.finalize_reset_with_key_at s Profile.wrapping BITS c key (BITS / 8) <;> rfl

/-! ### the invariant: established by `new_keyed`, preserved by every operation -/

theorem Context.new_keyed_inv (n : Nat) (key : Bytes) (c : Ctx UInt32) (h : Ctx.new_keyed s n key = some c) : Inv s c :=
  Proofs.GlueSponge.new_keyed_inv s (by decide) n key c h
theorem Context.update_mut_inv (c c' : Ctx UInt32) (input : Bytes) (hi : Inv s c) (h : Ctx.update_mut s .wrapping c input = some c') :
    Inv s c' := Proofs.Blake2.update_mut_inv s .wrapping (by decide) c c' input hi h
theorem Context.internal_final_inv (c c' : Ctx UInt32) (hi : Inv s c) (h : Ctx.internal_final s .wrapping c = some c') : Inv s c' :=
  Proofs.Blake2.internal_final_inv s .wrapping (by decide) c c' hi h
theorem Context.reset_inv (c : Ctx UInt32) (n : Nat) (hi : Inv s c) : Inv s (Ctx.reset s c n) := Proofs.GlueSponge.reset_inv s c n hi
theorem Context.reset_with_key_inv (c c' : Ctx UInt32) (n : Nat) (key : Bytes) (hi : Inv s c)
    (h : Ctx.reset_with_key s c n key = some c') : Inv s c' := Proofs.GlueSponge.reset_with_key_inv s (by decide) c c' n key hi h

/-- the hypotheses are satisfiable by a non-trivial state (5 pending bytes) -/
example : Inv s ({ eng := { h := s.iv, t0 := 64, t1 := 0 }, buf := [1, 2, 3, 4, 5] ++ zeros 59, buflen := 5 } : Ctx UInt32) :=
  ⟨by simp [zeros]; rfl, by show 5 ≤ s.bb; decide⟩

/-! ### `ContextDyn` -/

theorem ContextDyn.new_keyed_src_eq_model (n : Nat) (key : Bytes) : ContextDyn.new_keyed_src n key = ContextDyn.new_keyed s n key := by
  unfold ContextDyn.new_keyed_src ContextDyn.new_keyed
  simp only [Engine.consts_src_eq_model.1, Engine.consts_src_eq_model.2.1, Engine.consts_src_eq_model.2.2.1, Engine.new_src_eq_model, Option.bind_eq_bind,
    Option.pure_def]
  by_cases ho : n > 0 ∧ n ≤ s.maxOut
  · rw [if_neg (not_not_intro ho.1), if_neg (not_not_intro ho.2),
      new_keyed_core s (by decide) n key ho fun c => some ({ ctx := c, outlen := n } : ContextDyn UInt32)]
    cases Ctx.new_keyed s n key <;> rfl
  · unfold Ctx.new_keyed
    by_cases h1 : n > 0 <;> simp_all

theorem ContextDyn.new_src_eq_model (n : Nat) : ContextDyn.new_src n = ContextDyn.new s n := by
  unfold ContextDyn.new_src ContextDyn.new
  simp only [Engine.consts_src_eq_model.2.1, ContextDyn.new_keyed_src_eq_model]
  by_cases h1 : n > 0 <;> by_cases h2 : n ≤ s.maxOut <;> simp [h1, h2]

theorem ContextDyn.update_mut_src_eq_model (d : ContextDyn UInt32) (input : Bytes) (hi : DynInv d) :
    ContextDyn.update_mut_src d input = ContextDyn.update_mut s .wrapping d input := by
  rw [update_mut_tie s (by decide) (by decide) (fun d : ContextDyn UInt32 => d.ctx) (fun d c => { d with ctx := c }) (fun _ _ => rfl)
    (fun _ _ _ => rfl) (fun _ => rfl) ContextDyn.update_mut_src_while1 ContextDyn.update_mut_src (fun _ _ _ => rfl) (fun _ _ => rfl) d input hi.1]
  unfold ContextDyn.update_mut
  cases Ctx.update_mut s .wrapping d.ctx input <;> rfl

theorem ContextDyn.update_src_eq_model (d : ContextDyn UInt32) (input : Bytes) (hi : DynInv d) :
    ContextDyn.update_src d input = ContextDyn.update s .wrapping d input := by
  unfold ContextDyn.update_src ContextDyn.update
  rw [ContextDyn.update_mut_src_eq_model d input hi]

/-- `internal_final` (the model has one `Ctx.internal_final` for both context types): through the `Context<BITS>` tie, at any
    `BITS`, say 0, since the generated `Context.internal_final_src BITS` does not use it -/
theorem ContextDyn.internal_final_src_eq_model (d : ContextDyn UInt32) (hi : DynInv d) :
    ContextDyn.internal_final_src d = (Ctx.internal_final s .wrapping d.ctx).bind fun x => some { d with ctx := x } := by
  rw [← Context.internal_final_src_eq_model 0 d.ctx hi.1]
  unfold ContextDyn.internal_final_src Context.internal_final_src
  simp only [Option.bind_eq_bind, Option.pure_def, Option.bind_assoc, Option.bind_some]

theorem ContextDyn.reset_src_eq_model (d : ContextDyn UInt32) : ContextDyn.reset_src d = some (ContextDyn.reset s d) := by
  unfold ContextDyn.reset_src ContextDyn.reset Ctx.reset
  simp only [Engine.reset_src_eq_model, Option.bind_eq_bind, Option.bind_some, Option.pure_def, slice_to_end (Nat.zero_le _), wipe_all]

theorem ContextDyn.reset_with_key_src_eq_model (d : ContextDyn UInt32) (key : Bytes) (hi : DynInv d) :
    ContextDyn.reset_with_key_src d key = ContextDyn.reset_with_key s d key := by
  obtain ⟨⟨hbl, hle⟩, _⟩ := hi
  have hzl : (zeroFrom d.ctx.buf 0).length = d.ctx.buf.length := Cx.Proofs.Blake2.zeroFrom_length _ _ (Nat.zero_le _)
  unfold ContextDyn.reset_with_key_src ContextDyn.reset_with_key Ctx.reset_with_key
  simp only [Engine.reset_src_eq_model, Option.bind_eq_bind, Option.bind_some, Option.pure_def,
    slice_to_end (Nat.zero_le _), wipe_all, Engine.consts_src_eq_model.1, Engine.consts_src_eq_model.2.2.1]
  split
  · rfl
  · rename_i hk
    rw [copyInto_setSlice (Nat.zero_add _).symm (by have := Decidable.not_not.mp hk; rw [Cx.Proofs.Blake2.maxKey_s] at this; rw [S.bb_eq] at hbl; omega)]
    split <;> rfl

theorem ContextDyn.finalize_at_src_eq_model (d : ContextDyn UInt32) (out : Bytes) (hi : DynInv d) :
    ContextDyn.finalize_at_src d out = ContextDyn.finalize_at s .wrapping d out.length := by
  unfold ContextDyn.finalize_at_src ContextDyn.finalize_at Ctx.finalize_at
  simp only [ContextDyn.internal_final_src_eq_model d hi, Option.bind_eq_bind, Option.bind_assoc, Option.bind_some]
  have h := finalize_prefix s (by decide) (by decide) d.ctx out _ hi.1 hi.2 fun _ o => some o
  simp only [Option.bind_fun_some] at h
  rw [h]
  split
  · rfl
  · cases Ctx.internal_final s .wrapping d.ctx <;> rfl

theorem ContextDyn.finalize_reset_at_src_eq_model (d : ContextDyn UInt32) (out : Bytes) (hi : DynInv d) :
    ContextDyn.finalize_reset_at_src d out = ContextDyn.finalize_reset_at s .wrapping d out.length := by
  unfold ContextDyn.finalize_reset_at_src ContextDyn.finalize_reset_at Ctx.finalize_reset_at
  simp only [ContextDyn.internal_final_src_eq_model d hi, Option.bind_eq_bind, Option.bind_assoc, Option.bind_some, Option.pure_def,
    ContextDyn.reset_src_eq_model]
  rw [finalize_prefix s (by decide) (by decide) d.ctx out _ hi.1 hi.2 fun c' o => some (ContextDyn.reset s { d with ctx := c' }, o)]
  split
  · rfl
  · cases Ctx.internal_final s .wrapping d.ctx <;> rfl

theorem ContextDyn.finalize_reset_with_key_at_src_eq_model (d : ContextDyn UInt32) (key out : Bytes) (hi : DynInv d) :
    ContextDyn.finalize_reset_with_key_at_src d key out = ContextDyn.finalize_reset_with_key_at s .wrapping d key out.length := by
  unfold ContextDyn.finalize_reset_with_key_at_src ContextDyn.finalize_reset_with_key_at Ctx.finalize_reset_with_key_at
  simp only [ContextDyn.internal_final_src_eq_model d hi, Option.bind_eq_bind, Option.bind_assoc, Option.bind_some, Option.pure_def]
  rw [finalize_prefix s (by decide) (by decide) d.ctx out _ hi.1 hi.2 fun c' o =>
    (ContextDyn.reset_with_key_src { d with ctx := c' } key).bind fun s => some (s, o)]
  split
  · rfl
  · cases hf : Ctx.internal_final s .wrapping d.ctx with
    | none => rfl
    | some c' =>
      rw [Option.bind_some, ContextDyn.reset_with_key_src_eq_model { d with ctx := c' } key
        ⟨internal_final_inv s .wrapping (by decide) d.ctx c' hi.1 hf, hi.2⟩]
      unfold ContextDyn.reset_with_key
      dsimp only
      cases Ctx.reset_with_key s c' d.outlen key <;> rfl

theorem ContextDyn.output_bits_src_eq_model (d : ContextDyn UInt32) (hi : DynInv d) :
    ContextDyn.output_bits_src d = some (ContextDyn.output_bits d) := by
  have hmo := Cx.Proofs.Blake2.maxOut_s
  unfold ContextDyn.output_bits_src ContextDyn.output_bits
  have := hi.2
  simp [Proofs.Sponge.usizechk_of_lt (show d.outlen * 8 < 2 ^ 64 by omega)]

theorem ContextDyn.new_keyed_inv (n : Nat) (key : Bytes) (d : ContextDyn UInt32) (h : ContextDyn.new_keyed s n key = some d) : DynInv d :=
  Proofs.GlueSponge.dyn_new_keyed_inv s (by decide) n key d h
theorem ContextDyn.update_mut_inv (d d' : ContextDyn UInt32) (input : Bytes) (hi : DynInv d)
    (h : ContextDyn.update_mut s .wrapping d input = some d') : DynInv d' := Proofs.GlueSponge.dyn_update_mut_inv s .wrapping (by decide) d d' input hi h
theorem ContextDyn.reset_inv (d : ContextDyn UInt32) (hi : DynInv d) : DynInv (ContextDyn.reset s d) :=
  ⟨Proofs.GlueSponge.reset_inv s d.ctx d.outlen hi.1, hi.2⟩
theorem ContextDyn.reset_with_key_inv (d d' : ContextDyn UInt32) (key : Bytes) (hi : DynInv d)
    (h : ContextDyn.reset_with_key s d key = some d') : DynInv d' := Proofs.GlueSponge.dyn_reset_with_key_inv s (by decide) d d' key hi h

end Blake2s

end Cx.Props.C02.GlueTieSponge
