/-
  Props.C02 (unit sha1ripemd) — SHA-1 and RIPEMD-160 contexts: any split, clone, reset or reuse gives the one-shot digest.

  The theorems are about `Cx.HashProg.runProg`, the very function the driver ops `hctx.sha1` / `hctx.ripemd160` run
  on the code-shaped contexts (`Impl.Sha1.fam`, `Impl.Ripemd160.fam`): for EVERY operation history over
      {update(c), update_mut(c), clone-push, swap-with-clone, reset, finalize_reset, finalize-of-a-clone}
  — every chunk content and length, empty chunks included, any nesting of clones — the emitted digests are those of
  the abstract machine whose state is "the bytes since creation / the last reset" hashed with the standard function,
  and nothing panics.  Domain guard (`Guard ok`): at each finalisation the bytes since the last reset are < 2^61.

  `clone` is the identity on immutable model values: that the two Rust copies do not alias is a correspondence
  obligation (checked by the `c`/`x` ops of the harness), not a theorem.
-/
import CxVerif.Proofs.Sha1Stream
import CxVerif.Proofs.Ripemd160Stream
namespace Cx.Props.C02.Sha1Ripemd
open Cx.HashProg Cx.Proofs.HashProg

def ok (m : Bytes) : Prop := m.length < 2 ^ 61

theorem sha1_refines : Refines Impl.Sha1.fam Spec.Sha1.sha1 Cx.Proofs.Sha1Stream.Abs ok :=
  Cx.Proofs.Sha1Stream.refines

theorem ripemd160_refines : Refines Impl.Ripemd160.fam Spec.Ripemd160.ripemd160 Cx.Proofs.Ripemd160Stream.Abs ok :=
  Cx.Proofs.Ripemd160Stream.refines

/-- **sha1::Context**: for every operation history starting from `Context::new()`, the digests emitted (by
    `finalize_reset` and by `finalize` of a clone) are the SHA-1 digests of the bytes fed since the last reset —
    whatever the splitting, cloning, swapping and resetting in between — and no call panics. -/
theorem sha1_every_history (ops : List Op) (hG : Guard ok ops [] []) :
    runProg Impl.Sha1.fam ops Impl.Sha1.Context.new [] [] = runProg (famSpec Spec.Sha1.sha1) ops [] [] [] :=
  runProg_new sha1_refines ops hG

theorem ripemd160_every_history (ops : List Op) (hG : Guard ok ops [] []) :
    runProg Impl.Ripemd160.fam ops Impl.Ripemd160.Context.new [] []
      = runProg (famSpec Spec.Ripemd160.ripemd160) ops [] [] [] :=
  runProg_new ripemd160_refines ops hG

/-- a non-trivial history satisfying the guard: split across a block boundary, fork, diverge, reset, reuse -/
example : Guard ok
    [Op.update (List.replicate 63 1), Op.clone, Op.update_mut (List.replicate 130 2), Op.finalize, Op.swap,
     Op.update [], Op.finalize_reset, Op.update [3], Op.reset, Op.finalize] [] [] := by
  simp only [Guard, ok, List.append_nil, List.nil_append, List.length_append, List.length_replicate,
    List.length_nil, and_true]
  omega

theorem sha1_every_history_from (ops : List Op) (cur : Impl.Sha1.Context) (stack : List Impl.Sha1.Context)
    (out : List Bytes) (m : Bytes) (ms : List Bytes) (hR : Cx.Proofs.Sha1Stream.Abs cur m)
    (hS : StackRel Cx.Proofs.Sha1Stream.Abs stack ms) (hG : Guard ok ops m ms) :
    runProg Impl.Sha1.fam ops cur stack out = runProg (famSpec Spec.Sha1.sha1) ops m ms out :=
  runProg_sim sha1_refines ops cur stack out m ms hR hS hG

theorem ripemd160_every_history_from (ops : List Op) (cur : Impl.Ripemd160.Context)
    (stack : List Impl.Ripemd160.Context) (out : List Bytes) (m : Bytes) (ms : List Bytes)
    (hR : Cx.Proofs.Ripemd160Stream.Abs cur m) (hS : StackRel Cx.Proofs.Ripemd160Stream.Abs stack ms)
    (hG : Guard ok ops m ms) :
    runProg Impl.Ripemd160.fam ops cur stack out = runProg (famSpec Spec.Ripemd160.ripemd160) ops m ms out :=
  runProg_sim ripemd160_refines ops cur stack out m ms hR hS hG

example : Cx.Proofs.Sha1Stream.Abs Impl.Sha1.Context.new [] := sha1_refines.new
example : Cx.Proofs.Ripemd160Stream.Abs Impl.Ripemd160.Context.new [] := ripemd160_refines.new

/-- split independence: any sequence of `update` / `update_mut` calls with arbitrary (also empty) pieces, then
    `finalize`, gives the one-shot digest of the concatenation -/
theorem sha1_split_independence (cs : List (Bool × Bytes)) (h : (chunkBytes cs).length < 2 ^ 61) :
    runProg Impl.Sha1.fam (cs.map chunkOp ++ [Op.finalize]) Impl.Sha1.Context.new [] []
      = some [Spec.Sha1.sha1 (chunkBytes cs)] :=
  split_independence sha1_refines cs h

theorem ripemd160_split_independence (cs : List (Bool × Bytes)) (h : (chunkBytes cs).length < 2 ^ 61) :
    runProg Impl.Ripemd160.fam (cs.map chunkOp ++ [Op.finalize]) Impl.Ripemd160.Context.new [] []
      = some [Spec.Ripemd160.ripemd160 (chunkBytes cs)] :=
  split_independence ripemd160_refines cs h

example : (chunkBytes [(false, [1, 2]), (true, []), (true, List.replicate 70 9)]).length < 2 ^ 61 := by
  have : (chunkBytes [(false, [1, 2]), (true, []), (true, List.replicate 70 9)]).length = 72 := by
    simp [chunkBytes]
  omega

/-- the readable state of a context: everything but the dead bytes of the buffer array beyond `buffer_idx` -/
def view1 (c : Impl.Sha1.Context) : Spec.Sha1.Hash × UInt64 × Nat × Bytes :=
  (c.h, c.processed_bytes, c.buffer.buffer_idx, c.buffer.data)
def viewR (c : Impl.Ripemd160.Context) : Spec.Ripemd160.Hash × UInt64 × Nat × Bytes :=
  (c.h, c.processed_bytes, c.buffer.buffer_idx, c.buffer.data)

/-- `reset` ≈ `new`, as equality of the readable state, from ANY context; and the reset context is in the
    abstraction relation with the empty message, so by `sha1_every_history_from` it has the futures of `new` -/
theorem sha1_reset_is_new (c : Impl.Sha1.Context) :
    view1 c.reset = view1 Impl.Sha1.Context.new
    ∧ (c.buffer.buffer.length = 64 → Cx.Proofs.Sha1Stream.Abs c.reset []) := by
  refine ⟨?_, fun hl => (Cx.Proofs.Sha1Stream.abs_iff ..).mpr (Cx.Proofs.Sha1Stream.abs_fresh rfl hl rfl rfl)⟩
  simp [view1, Impl.Sha1.Context.reset, Impl.Sha1.Context.new, Impl.FixedBuffer.reset, Impl.FixedBuffer.new,
    Impl.FixedBuffer.data]

theorem ripemd160_reset_is_new (c : Impl.Ripemd160.Context) :
    viewR c.reset = viewR Impl.Ripemd160.Context.new
    ∧ (c.buffer.buffer.length = 64 → Cx.Proofs.Ripemd160Stream.Abs c.reset []) := by
  refine ⟨?_, fun hl => (Cx.Proofs.Ripemd160Stream.abs_iff ..).mpr (Cx.Proofs.Ripemd160Stream.abs_fresh rfl hl rfl rfl)⟩
  simp [viewR, Impl.Ripemd160.Context.reset, Impl.Ripemd160.Context.new, Impl.FixedBuffer.reset,
    Impl.FixedBuffer.new, Impl.FixedBuffer.data]

example : (Impl.Sha1.Context.new).buffer.buffer.length = 64 := by decide

/-- reuse after `reset`: from any reachable context, `reset` followed by ANY history emits what the same history
    emits from `new` -/
theorem sha1_reset_then_history (c : Impl.Sha1.Context) (m : Bytes) (h : Cx.Proofs.Sha1Stream.Abs c m)
    (ops : List Op) (hG : Guard ok ops [] []) :
    runProg Impl.Sha1.fam (Op.reset :: ops) c [] [] = runProg Impl.Sha1.fam ops Impl.Sha1.Context.new [] [] :=
  reset_then_history sha1_refines c m h ops hG

theorem ripemd160_reset_then_history (c : Impl.Ripemd160.Context) (m : Bytes)
    (h : Cx.Proofs.Ripemd160Stream.Abs c m) (ops : List Op) (hG : Guard ok ops [] []) :
    runProg Impl.Ripemd160.fam (Op.reset :: ops) c [] []
      = runProg Impl.Ripemd160.fam ops Impl.Ripemd160.Context.new [] [] :=
  reset_then_history ripemd160_refines c m h ops hG

/-- `finalize_reset` returns the digest of what was absorbed and leaves the readable state of `new` -/
theorem sha1_finalize_reset_leaves_fresh (c : Impl.Sha1.Context) (m : Bytes)
    (h : Cx.Proofs.Sha1Stream.Abs c m) (hm : m.length < 2 ^ 61) :
    ∃ c', c.finalize_reset = some (c', Spec.Sha1.sha1 m) ∧ view1 c' = view1 Impl.Sha1.Context.new
      ∧ Cx.Proofs.Sha1Stream.Abs c' [] := by
  obtain ⟨b', he, hl, _⟩ := ((Cx.Proofs.Sha1Stream.abs_iff ..).mp h).fin Cx.Proofs.Sha1Stream.eng hm
  exact ⟨_, by simp only [Impl.Sha1.Context.finalize_reset, show Impl.Sha1.Context.mk_result c = _ from he]; rfl,
    (sha1_reset_is_new _).1, (sha1_reset_is_new _).2 hl⟩

theorem ripemd160_finalize_reset_leaves_fresh (c : Impl.Ripemd160.Context) (m : Bytes)
    (h : Cx.Proofs.Ripemd160Stream.Abs c m) (hm : m.length < 2 ^ 61) :
    ∃ c', c.finalize_reset = some (c', Spec.Ripemd160.ripemd160 m) ∧ viewR c' = viewR Impl.Ripemd160.Context.new
      ∧ Cx.Proofs.Ripemd160Stream.Abs c' [] := by
  obtain ⟨b', he, hl, _⟩ := ((Cx.Proofs.Ripemd160Stream.abs_iff ..).mp h).fin Cx.Proofs.Ripemd160Stream.eng hm
  exact ⟨_, he, (ripemd160_reset_is_new _).1, (ripemd160_reset_is_new _).2 hl⟩

end Cx.Props.C02.Sha1Ripemd
