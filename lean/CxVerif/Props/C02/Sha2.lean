/-
  Props.C02 (unit sha2) — SHA-2 contexts: any split, clone, reset or reuse gives the one-shot digest.

  The theorems are about `Cx.HashProg.runProg`, the very function the driver op `hctx.<alg>` runs on the code-shaped
  contexts (`Impl.Sha2.fam256 A`, `fam512 A`): for EVERY operation history over
      {update(c), update_mut(c), clone-push, swap-with-clone, reset, finalize_reset, finalize-of-a-clone}
  — every chunk content and length, empty chunks included, any nesting of clones — the emitted digests are those of
  the abstract machine whose state is "the bytes since creation / the last reset" hashed with the FIPS function, and
  nothing panics.  Domain guard (`Guard`): at each finalisation the bytes since the last reset are < 2^61 (2^125).

  `clone` is the identity on immutable model values: that the two Rust copies do not alias is a correspondence
  obligation (checked by the `c`/`x` ops of the harness), not a theorem.  The `finished` flag of Engine256 is never
  set in a reachable context (`Abs256` keeps it false; `finalize(self)` consumes, `finalize_reset` resets it).
-/
import CxVerif.Proofs.Sha2Engine
namespace Cx.Props.C02.Sha2
open Cx.HashProg Cx.Proofs.HashProg Cx.Proofs.Sha2Engine Cx.Impl.Sha2

def ok256 (m : Bytes) : Prop := m.length < 2 ^ 61
def ok512 (m : Bytes) : Prop := m.length < 2 ^ 125

theorem sha256_refines : Refines (fam256 Sha256) Spec.Sha2.sha256 (fun c m => Abs256 Sha256.state c.engine m) ok256 :=
  funext specDigest256_sha256 ▸ refines256 Sha256 id outOK_sha256

theorem sha224_refines : Refines (fam256 Sha224) Spec.Sha2.sha224 (fun c m => Abs256 Sha224.state c.engine m) ok256 :=
  funext specDigest256_sha224 ▸ refines256 Sha224 (List.take 28) outOK_sha224

theorem sha512_refines : Refines (fam512 Sha512) Spec.Sha2.sha512 (fun c m => Abs512 Sha512.state c.engine m) ok512 :=
  funext specDigest512_sha512 ▸ refines512 Sha512 64 outOK_sha512

theorem sha384_refines : Refines (fam512 Sha384) Spec.Sha2.sha384 (fun c m => Abs512 Sha384.state c.engine m) ok512 :=
  funext specDigest512_sha384 ▸ refines512 Sha384 48 outOK_sha384

theorem sha512_224_refines :
    Refines (fam512 Sha512Trunc224) Spec.Sha2.sha512_224 (fun c m => Abs512 Sha512Trunc224.state c.engine m) ok512 :=
  funext specDigest512_sha512_224 ▸ refines512 Sha512Trunc224 28 outOK_sha512_224

theorem sha512_256_refines :
    Refines (fam512 Sha512Trunc256) Spec.Sha2.sha512_256 (fun c m => Abs512 Sha512Trunc256.state c.engine m) ok512 :=
  funext specDigest512_sha512_256 ▸ refines512 Sha512Trunc256 32 outOK_sha512_256

/-- **Context256**: for every operation history starting from `Context256::new()`, the digests emitted (by
    `finalize_reset` and by `finalize` of a clone) are the SHA-256 digests of the bytes fed since the last reset —
    whatever the splitting, cloning, swapping and resetting in between — and no call panics. -/
theorem sha256_every_history (ops : List Op) (hG : Guard ok256 ops [] []) :
    runProg (fam256 Sha256) ops (Ctx256.new Sha256) [] [] = runProg (famSpec Spec.Sha2.sha256) ops [] [] [] :=
  runProg_new sha256_refines ops hG

theorem sha224_every_history (ops : List Op) (hG : Guard ok256 ops [] []) :
    runProg (fam256 Sha224) ops (Ctx256.new Sha224) [] [] = runProg (famSpec Spec.Sha2.sha224) ops [] [] [] :=
  runProg_new sha224_refines ops hG

theorem sha512_every_history (ops : List Op) (hG : Guard ok512 ops [] []) :
    runProg (fam512 Sha512) ops (Ctx512.new Sha512) [] [] = runProg (famSpec Spec.Sha2.sha512) ops [] [] [] :=
  runProg_new sha512_refines ops hG

theorem sha384_every_history (ops : List Op) (hG : Guard ok512 ops [] []) :
    runProg (fam512 Sha384) ops (Ctx512.new Sha384) [] [] = runProg (famSpec Spec.Sha2.sha384) ops [] [] [] :=
  runProg_new sha384_refines ops hG

theorem sha512_224_every_history (ops : List Op) (hG : Guard ok512 ops [] []) :
    runProg (fam512 Sha512Trunc224) ops (Ctx512.new Sha512Trunc224) [] []
      = runProg (famSpec Spec.Sha2.sha512_224) ops [] [] [] :=
  runProg_new sha512_224_refines ops hG

theorem sha512_256_every_history (ops : List Op) (hG : Guard ok512 ops [] []) :
    runProg (fam512 Sha512Trunc256) ops (Ctx512.new Sha512Trunc256) [] []
      = runProg (famSpec Spec.Sha2.sha512_256) ops [] [] [] :=
  runProg_new sha512_256_refines ops hG

/-- a non-trivial history satisfying the guard: split across a block boundary, fork, diverge, reset, reuse -/
example : Guard ok256
    [Op.update (List.replicate 63 1), Op.clone, Op.update_mut (List.replicate 130 2), Op.finalize, Op.swap,
     Op.update [], Op.finalize_reset, Op.update [3], Op.reset, Op.finalize] [] [] := by
  simp only [Guard, ok256, List.append_nil, List.nil_append, List.length_append, List.length_replicate,
    List.length_nil, and_true]
  omega

/-- From any reachable state and clone stack.  Context256 only; the other five are the same instance of
    `runProg_sim`. -/
theorem sha256_every_history_from (ops : List Op) (cur : Ctx256) (stack : List Ctx256) (out : List Bytes)
    (m : Bytes) (ms : List Bytes) (hR : Abs256 Sha256.state cur.engine m)
    (hS : StackRel (fun c m => Abs256 Sha256.state c.engine m) stack ms) (hG : Guard ok256 ops m ms) :
    runProg (fam256 Sha256) ops cur stack out = runProg (famSpec Spec.Sha2.sha256) ops m ms out :=
  runProg_sim sha256_refines ops cur stack out m ms hR hS hG

example : Abs256 Sha256.state (Ctx256.new Sha256).engine [] :=
  (abs256_iff ..).mpr (Cx.Proofs.Md.Abs.fresh eng256 rfl rfl rfl rfl rfl)

/-- split independence: any sequence of `update` / `update_mut` calls with arbitrary (also empty) pieces, then
    `finalize`, gives the one-shot digest of the concatenation -/
theorem sha256_split_independence (cs : List (Bool × Bytes)) (h : (chunkBytes cs).length < 2 ^ 61) :
    runProg (fam256 Sha256) (cs.map chunkOp ++ [Op.finalize]) (Ctx256.new Sha256) [] []
      = some [Spec.Sha2.sha256 (chunkBytes cs)] :=
  split_independence sha256_refines cs h

theorem sha512_split_independence (cs : List (Bool × Bytes)) (h : (chunkBytes cs).length < 2 ^ 125) :
    runProg (fam512 Sha512) (cs.map chunkOp ++ [Op.finalize]) (Ctx512.new Sha512) [] []
      = some [Spec.Sha2.sha512 (chunkBytes cs)] :=
  split_independence sha512_refines cs h

example : (chunkBytes [(false, [1, 2]), (true, []), (true, List.replicate 70 9)]).length < 2 ^ 61 := by
  have : (chunkBytes [(false, [1, 2]), (true, []), (true, List.replicate 70 9)]).length = 72 := by
    simp [chunkBytes]
  omega

/-- `reset` ≈ `new`, as equality of the readable state (everything but dead buffer bytes), from any reachable
    context; by `abs256_of_view_eq` + `sha256_every_history_from` equal views have equal futures -/
theorem reset_is_new_256 (A : Alg256) (c : Ctx256) (m : Bytes) (h : Abs256 A.state c.engine m) :
    view256 (Ctx256.reset A c).engine = view256 (Ctx256.new A).engine
    ∧ Abs256 A.state (Ctx256.reset A c).engine [] :=
  ⟨reset256_view A.state c.engine h.2.1.1, (abs256_iff ..).mpr (Cx.Proofs.Md.Abs.fresh eng256 rfl h.2.1.1 rfl rfl rfl)⟩

theorem reset_is_new_512 (A : Alg512) (c : Ctx512) (m : Bytes) (h : Abs512 A.state c.engine m) :
    view512 (Ctx512.reset A c).engine = view512 (Ctx512.new A).engine
    ∧ Abs512 A.state (Ctx512.reset A c).engine [] :=
  ⟨reset512_view A.state c.engine h.2.1.1, (abs512_iff ..).mpr (Cx.Proofs.Md.Abs.fresh eng512 rfl h.2.1.1 rfl rfl trivial)⟩

theorem finalize_reset_leaves_fresh_256 (c : Ctx256) (m : Bytes) (h : Abs256 Sha256.state c.engine m)
    (hm : m.length < 2 ^ 61) :
    ∃ c', Ctx256.finalize_reset Sha256 c = some (c', Spec.Sha2.sha256 m)
      ∧ view256 c'.engine = view256 (Ctx256.new Sha256).engine := by
  obtain ⟨c', e, hA⟩ := sha256_refines.finalize_reset c m h hm
  exact ⟨c', e, abs256_nil_view _ _ hA⟩

theorem finalize_reset_leaves_fresh_512 (c : Ctx512) (m : Bytes) (h : Abs512 Sha512.state c.engine m)
    (hm : m.length < 2 ^ 125) :
    ∃ c', Ctx512.finalize_reset Sha512 c = some (c', Spec.Sha2.sha512 m)
      ∧ view512 c'.engine = view512 (Ctx512.new Sha512).engine := by
  obtain ⟨c', e, hA⟩ := sha512_refines.finalize_reset c m h hm
  exact ⟨c', e, abs512_nil_view _ _ hA⟩

end Cx.Props.C02.Sha2
