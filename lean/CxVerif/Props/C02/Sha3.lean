/-
  Props.C02.Sha3 — C02 for the sha3 unit: for the SHA-3 / Keccak contexts the digest depends only on the bytes fed
  since creation or the last reset, for EVERY operation history.

  Abstraction.  `engine_of r m` (Proofs.SpongeAbsorb) is the engine state determined by the byte string m:
  sponge state after the full blocks of m, XOR the partial block, `offset = |m| mod r`, both flags set.  The
  refinement is functional: every reachable context IS `engine_of r (bytes since last reset)` (state equality).
  `clone` is the identity on model values; the independence of the two Rust copies is a correspondence obligation
  (hctx ops `c`/`x`), not a theorem.
-/
import CxVerif.Proofs.SpongeCtx
namespace Cx.Props.C02
open Cx.Proofs.Sponge Cx.Impl.Sha3

/-- `update` and `update_mut` are both `Engine::process`; `data` may be empty, and `some` says no panic. -/
theorem update_refines (dl r : Nat) (hrate : rate dl = some r) (hr : 0 < r) (m data : Bytes) :
    Context.update_mut dl (engine_of r m) data = some (engine_of r (m ++ data)) ∧
    Context.update dl (engine_of r m) data = some (engine_of r (m ++ data)) :=
  ⟨process_spec dl r hrate hr m data, process_spec dl r hrate hr m data⟩

example : rate 32 = some 136 ∧ 0 < 136 := by decide

theorem new_refines (r : Nat) (hr : 0 < r) : Context.new = engine_of r [] := (engine_of_nil r hr).symm

theorem reset_is_new (r : Nat) (m : Bytes) : Context.reset (engine_of r m) = Context.new := reset_engine_of r m

theorem finalize_reset_fresh (dl ds r : Nat) (sfx : List Bool) (hv : Variant dl ds r sfx) (m : Bytes) :
    Context.finalize_reset dl ds (engine_of r m) = some (Context.new, Spec.Keccak.sponge r m sfx dl) :=
  finalize_reset_spec hv m

theorem finalize_refines (dl ds r : Nat) (sfx : List Bool) (hv : Variant dl ds r sfx) (m : Bytes) :
    Context.finalize dl ds (engine_of r m) = some (Spec.Keccak.sponge r m sfx dl) := context_finalize_spec hv m

/-- split independence: feeding any list of pieces (any sizes, empty ones included) and finalizing gives the
    one-shot digest of the concatenation -/
theorem split_independent (dl ds r : Nat) (sfx : List Bool) (hv : Variant dl ds r sfx) (chunks : List Bytes) :
    (chunks.foldlM (Context.update_mut dl) Context.new).bind (Context.finalize dl ds)
      = Impl.Sha3.hash dl ds chunks.flatten := by
  rw [show Context.new = engine_of r [] from (engine_of_nil r hv.r_pos).symm,
    feed_chunks hv.hrate hv.r_pos chunks [], Option.bind_some, List.nil_append, context_finalize_spec hv, hash_spec hv]

example : Variant 28 2 144 [false, true] := variant_sha3_224

/-- the refinement lifted over ARBITRARY operation histories, for all eight algorithms: running any program of
    {update, update_mut, clone (push), swap, reset, finalize_reset, finalize-of-clone} from `new()` on the
    code-shaped model never panics and emits exactly the Spec digests of "bytes since the last reset" at every
    finalisation (the abstract machine `runSpec` keeps only byte strings) -/
theorem history_refines (a : Cx.Driver.Sha3.Alg) (ha : a ∈ Cx.Driver.Sha3.algs) (ops : List Cx.Driver.Sha3.Op) :
    Cx.Driver.Sha3.runImpl a ops Context.new [] [] = some (Cx.Driver.Sha3.runSpec a ops [] [] []) :=
  run_from_new a ha ops

/-- the invariant behind `history_refines`: from ANY configuration whose current context and stacked clones
    represent byte strings, every program continues to do so -/
theorem history_refines_from (a : Cx.Driver.Sha3.Alg) (r : Nat) (sfx : List Bool) (ok : AlgOk a r sfx)
    (ops : List Cx.Driver.Sha3.Op) (cur : Bytes) (st out : List Bytes) :
    Cx.Driver.Sha3.runImpl a ops (engine_of r cur) (st.map (engine_of r)) out
      = some (Cx.Driver.Sha3.runSpec a ops cur st out) := run_refines ok ops cur st out

open Cx.Driver.Sha3 Cx.Spec.Keccak in
/-- protocol level: for each of the eight algorithms and EVERY request line `hctx.<alg> <program>` the code-shaped
    model and the abstract machine over "bytes since last reset" give the same answer line -/
theorem hctx_lines_agree (a : Cx.Driver.Sha3.Alg) (ha : a ∈ Cx.Driver.Sha3.algs) (args : List String) :
    Cx.Driver.Sha3.hctxImpl a args = Cx.Driver.Sha3.hctxSpec a args := by
  unfold hctxImpl hctxSpec h1
  match args with
  | [] => rfl
  | [p] =>
    simp only
    cases parseProg p with
    | none => rfl
    | some ops => simp only [Option.map_some, run_from_new a ha ops]
  | _ :: _ :: _ => rfl

end Cx.Props.C02
