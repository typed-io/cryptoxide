/-
  Props.C03.KernelTie — the translator tie for the portable ChaCha engine (src/chacha/reference.rs) and the Salsa20
  core (src/salsa20.rs).  `Extracted/KernelsChaChaRef.lean` / `Extracted/KernelsSalsa.lean` are regenerated from the
  CURRENT Rust sources on every run by tools/ktx_misc.py (kernel specs tools/kernels/chacha_ref.py, salsa.py): the
  `QR!` macros, one loop iteration of `rounds`, `rounds`, the counter functions, `add_back`, and the key / nonce
  layout of `init`, translated statement by statement.  The theorems below (re-checked by the kernel on every build)
  say that the hand-written models `Impl.ChaCha.Reference.*` / `Impl.Salsa.*`, which the C03/C04/C06/C16 theorems are
  about, compute exactly what the source says now, for ALL inputs: a changed rotation constant, operand, word index or
  key offset in the source breaks a proof obligation even if no sampled input reaches it.
-/
import CxVerif.Extracted.KernelsChaChaRef
import CxVerif.Extracted.KernelsSalsa
namespace Cx.Props.C03
open Cx.Impl

namespace ChaChaRef
open Cx.Impl.ChaCha.Reference Cx.Extracted.KernelsChaChaRef

theorem QR_src_eq_model (a b c d : UInt32) : QR_src a b c d = QR a b c d := rfl
theorem doubleRound_src_eq_model (w : W16) : doubleRound_src w = doubleRound w := rfl
theorem rounds_src_eq_model (R : Nat) (w : W16) : rounds_src R w = rounds R w := by
  have h : doubleRound_src = doubleRound := funext doubleRound_src_eq_model
  unfold rounds_src rounds
  rw [h]
theorem set_counter_src_eq_model (w : W16) (counter : UInt32) : set_counter_src w counter = set_counter w counter := rfl
theorem increment_src_eq_model (w : W16) : increment_src w = increment w := rfl
theorem verif_set_counter64_src_eq_model (w : W16) (counter : UInt64) :
    verif_set_counter64_src w counter = verif_set_counter64 w counter := rfl
theorem increment64_src_eq_model (w : W16) : increment64_src w = increment64 w := rfl
theorem add_back_src_eq_model (s initial : W16) : add_back_src s initial = add_back s initial := rfl
/-- the key / nonce layout of `State::init` (after the repair of defect a: 16-byte keys are loaded twice) -/
theorem init_src_eq_model (key nonce : Bytes) : init_src key nonce = init key nonce := rfl

end ChaChaRef

namespace Salsa
open Cx.Impl.Salsa Cx.Extracted.KernelsSalsa

theorem QR_src_eq_model (a b c d : UInt32) : QR_src a b c d = QR a b c d := rfl
theorem doubleRound_src_eq_model (w : W16) : doubleRound_src w = doubleRound w := rfl
theorem rounds_src_eq_model (R : Nat) (w : W16) : rounds_src R w = rounds R w := by
  have h : doubleRound_src = doubleRound := funext doubleRound_src_eq_model
  unfold rounds_src rounds
  rw [h]
theorem add_back_src_eq_model (s initial : W16) : add_back_src s initial = add_back s initial := rfl
theorem verif_set_counter64_src_eq_model (w : W16) (counter : UInt64) :
    verif_set_counter64_src w counter = verif_set_counter64 w counter := rfl
theorem increment_src_eq_model (w : W16) : increment_src w = increment w := rfl
/-- HSalsa20 output selection (words 0, 5, 10, 15, 6, 7, 8, 9) -/
theorem output_ad_bytes_src_eq_model (w : W16) : output_ad_bytes_src w = output_ad_bytes w := rfl
/-- constant / key / nonce layout of `State::init`, including every panic path (slices beyond the length,
    `unreachable!()` key lengths): the translation branches as the source does, the model tests the lengths first -/
theorem init_src_eq_model (key nonce : Bytes) : init_src key nonce = init key nonce := by
  unfold init_src init
  by_cases h16 : key.length = 16 <;> by_cases h32 : key.length = 32 <;> by_cases hn : nonce.length = 16 <;>
    by_cases h8 : 8 ≤ nonce.length <;> simp [h16, h32, hn, h8] <;> omega

end Salsa
end Cx.Props.C03
