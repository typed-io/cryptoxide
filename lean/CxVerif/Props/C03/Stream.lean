/-
  Props.C03 (stream unit) — ChaCha and Salsa families produce exactly the specified keystream.
  `ctr64` / `salsaCtr64` read a state's 64-bit block counter as a number.  `E`/`α`/`S : EngineSim E α` ranges
  over the engine models; `referenceSim` (portable) and `sse2Sim` (SSE2 rows) are its two instances, so every
  theorem stated with `S` holds for both engines.  All statements are for ALL keys/nonces/data/counters; the
  hypotheses are the domain guards of the standards (key 16|32 bytes, R ∈ {8,12,20}, the nonce length of the
  variant).
-/
import CxVerif.Proofs.StreamSalsa
import CxVerif.Proofs.StreamFast
namespace Cx.Props.C03
open Cx.Impl Cx.Impl.ChaCha Cx.Impl.StreamCtx Cx.Spec.Stream Cx.Proofs.Stream Cx.Proofs.ChaCha

variable {σ : Type} {E : Engine σ} {α : σ → W16}

theorem portable_engine_sim : EngineSim referenceEngine id := referenceSim
theorem sse2_engine_sim : EngineSim sse2Engine toRef := sse2Sim

/-! ## constant tables extracted from /repo = words of "expand 32-byte k" / "expand 16-byte k" -/

theorem chacha_constants :
    Reference.CST32 = (word Spec.ChaCha.sigma 0, word Spec.ChaCha.sigma 1, word Spec.ChaCha.sigma 2, word Spec.ChaCha.sigma 3) ∧
    Reference.CST16 = (word Spec.ChaCha.tau 0, word Spec.ChaCha.tau 1, word Spec.ChaCha.tau 2, word Spec.ChaCha.tau 3) ∧
    Sse2.CST32 = Reference.CST32 ∧ Sse2.CST16 = Reference.CST16 :=
  ⟨cst32_reference, cst16_reference, by rw [cst32_sse2, cst32_reference], by rw [cst16_sse2, cst16_reference]⟩

theorem salsa_constants :
    Cx.Extracted.Stream.SALSA_CST16 = Spec.Salsa.tau ∧ Cx.Extracted.Stream.SALSA_CST32 = Spec.Salsa.sigma :=
  ⟨Cx.Proofs.Salsa.cst16, Cx.Proofs.Salsa.cst32⟩

/-! ## state layout: `init` = the Spec's initial state, every (engine, key length, nonce length) -/

theorem chacha_init_layout (S : EngineSim E α) (key nonce : Bytes) (hk : Spec.ChaCha.validKey key) (hn : validNonce nonce) :
    (E.init key nonce).map (fun s => toVec (α s)) = .ok (Spec.ChaCha.layoutState key nonce) :=
  S.init key nonce hk hn

example : Spec.ChaCha.validKey (List.replicate 16 (7 : UInt8)) ∧ validNonce (List.replicate 12 (1 : UInt8)) := by
  constructor <;> simp [Spec.ChaCha.validKey, validNonce]

theorem salsa_init_layout (key nonce : Bytes) (hk : Spec.ChaCha.validKey key) (hn : Cx.Proofs.Salsa.validNonce nonce) :
    (Impl.Salsa.init key nonce).map toVec = .ok (Cx.Proofs.Salsa.layoutState key nonce) :=
  Cx.Proofs.Salsa.init_layout key nonce hk hn

/-- WITNESS of defect (a) on the pre-repair portable `init` (kept as documentation; /repo be8904e repaired it):
    for EVERY 16-byte key the key words state[4..12] stayed 0 … -/
theorem portable_initOld_key16_zero (key nonce : Bytes) (hk : key.length = 16) (hn : nonce.length = 12) :
    ∃ w, Reference.initOld key nonce = .ok w ∧ w.x4 = 0 ∧ w.x5 = 0 ∧ w.x6 = 0 ∧ w.x7 = 0 ∧
      w.x8 = 0 ∧ w.x9 = 0 ∧ w.x10 = 0 ∧ w.x11 = 0 := by
  simp only [Reference.initOld, Reference.initNonce, hk, hn, if_true, show ¬ ((12 : Nat) = 16) by decide, if_false]
  exact ⟨_, rfl, by simp [W16.zero]⟩

/-- … so it disagreed with the Spec layout, e.g. for key 01 01 … 01 -/
theorem portable_initOld_defect :
    ∃ key nonce, Spec.ChaCha.validKey key ∧ nonce.length = 12 ∧
      ∀ w, Reference.initOld key nonce = .ok w → toVec w ≠ Spec.ChaCha.layoutState key nonce := by
  refine ⟨List.replicate 16 1, zeros 12, Or.inl rfl, rfl, ?_⟩
  intro w hw heq
  obtain ⟨w', h1, h4, _⟩ := portable_initOld_key16_zero (List.replicate 16 1) (zeros 12) rfl rfl
  rw [hw] at h1
  cases h1
  have : (toVec w)[4] = 0 := by cases w; exact h4
  rw [heq] at this
  revert this
  decide

/-! ## rounds: the code's loop = R/2 double rounds of the standard, every state, every R -/

theorem chacha_rounds_spec (S : EngineSim E α) (R : Nat) (s : σ) :
    toVec (α (E.rounds R s)) = Spec.ChaCha.rounds R (toVec (α s)) := by rw [S.rounds, rounds_eq]

theorem chacha_block_spec (S : EngineSim E α) (R : Nat) (s : σ) :
    E.block R s = Spec.ChaCha.blockOfState R (toVec (α s)) := block_eq S R s

theorem salsa_rounds_spec (R : Nat) (w : W16) : toVec (Impl.Salsa.rounds R w) = Spec.Salsa.rounds R (toVec w) :=
  Cx.Proofs.Salsa.rounds_eq R w

theorem salsa_block_spec (R : Nat) (w : W16) : Impl.Salsa.block R w = Spec.Salsa.hash R (toVec w) :=
  Cx.Proofs.Salsa.block_eq R w

/-! ## counters: 32-bit wrap, 64-bit carry, for ALL counter values -/

def ctr64 (w : W16) : Nat := w.x12.toNat + 2 ^ 32 * w.x13.toNat
def salsaCtr64 (w : W16) : Nat := w.x8.toNat + 2 ^ 32 * w.x9.toNat

theorem chacha_increment_wraps (S : EngineSim E α) (s : σ) :
    (α (E.increment s)).x12.toNat = ((α s).x12.toNat + 1) % 2 ^ 32 ∧ (α (E.increment s)).x13 = (α s).x13 := by
  rw [S.increment]; simp [Reference.increment]

theorem chacha_increment64_carries (S : EngineSim E α) (s : σ) :
    ctr64 (α (E.increment64 s)) = (ctr64 (α s) + 1) % 2 ^ 64 := by
  rw [S.increment64]
  unfold ctr64 Reference.increment64
  rw [← ctr_succ]
  split <;> rename_i h
  · rw [if_pos h]
  · rw [if_neg h]

theorem salsa_increment_carries (w : W16) :
    salsaCtr64 (Impl.Salsa.increment w) = (salsaCtr64 w + 1) % 2 ^ 64 := by
  unfold salsaCtr64 Impl.Salsa.increment
  rw [← ctr_succ]
  split <;> rename_i h
  · rw [if_pos h]
  · rw [if_neg h]

/-! ## `update` = block(counter) then increment; the engine state of block n -/

/-- IETF: after `new`, the engine state with counter n produces RFC 8439 block n (n mod 2^32) and `increment`
    leads to the state of block n+1 -/
theorem chacha_update_spec (S : EngineSim E α) (R : Nat) (key nonce : Bytes) (hk : Spec.ChaCha.validKey key)
    (hn : nonce.length = 12) (hR : Spec.ChaCha.validRounds R) :
    ∃ s0, ChaCha.ChaCha.new E R key nonce = .ok (Impl.StreamCtx.mk s0) ∧ ∀ n : Nat,
      (update (ChaCha.ChaCha.gen E R) ⟨mk32 E s0 n, zeros 64, 64⟩) =
        ⟨mk32 E s0 (n + 1), Spec.ChaCha.block R key nonce (UInt32.ofNat n), 0⟩ :=
  (chacha_opens S R key nonce hk hn hR).update

theorem chachaorig_update_spec (S : EngineSim E α) (R : Nat) (key nonce : Bytes) (hk : Spec.ChaCha.validKey key)
    (hn : nonce.length = 8) (hR : Spec.ChaCha.validRounds R) :
    ∃ s0, ChaCha.ChaChaOriginal.new E R key nonce = .ok (Impl.StreamCtx.mk s0) ∧ ∀ n : Nat,
      (update (ChaCha.ChaChaOriginal.gen E R) ⟨mk64 E s0 n, zeros 64, 64⟩) =
        ⟨mk64 E s0 (n + 1), Spec.ChaCha.blockOrig R key nonce (UInt64.ofNat n), 0⟩ :=
  (chachaorig_opens S R key nonce hk hn hR).update

theorem salsa_update_spec (R : Nat) (key nonce : Bytes) (hk : Spec.ChaCha.validKey key)
    (hn : nonce.length = 8) (hR : Spec.ChaCha.validRounds R) :
    ∃ s0, Impl.Salsa.Salsa.new R key nonce = .ok (Impl.StreamCtx.mk s0) ∧ ∀ n : Nat,
      (update (Impl.Salsa.gen R) ⟨Cx.Proofs.Salsa.mkS s0 n, zeros 64, 64⟩) =
        ⟨Cx.Proofs.Salsa.mkS s0 (n + 1), Spec.Salsa.block R key nonce (UInt64.ofNat n), 0⟩ :=
  (Cx.Proofs.Salsa.salsa_opens R key nonce hk hn hR).update

/-! ## the output of `process`/`process_mut` = data ⊕ specified keystream from the positioned block -/

/- In the five proofs below the pattern `⟨c0, _, h1, st, h4, _⟩` makes Lean evaluate `absRun` on the two-operation history (and
   `m.seek.isSome` on the method table): `Agrees … (.ok …)` is an `∃` only then, and the bytes it names are the statement's
   `Spec.….encrypt …` by unfolding. -/
theorem chacha_process_spec (S : EngineSim E α) (R : Nat) (key nonce : Bytes) (hk : Spec.ChaCha.validKey key)
    (hn : nonce.length = 12) (hR : Spec.ChaCha.validRounds R) (n : UInt32) (data : Bytes) :
    ∃ c0 st, ChaCha.ChaCha.new E R key nonce = .ok c0 ∧
      run (ChaCha.ChaCha.methods E R) (c0, []) [.seek n, .processMut data] =
        .ok (st, [Spec.ChaCha.encrypt R key nonce (64 * n.toNat) data]) := by
  obtain ⟨c0, _, h1, st, h4, _⟩ := (chacha_opens S R key nonce hk hn hR).history [.seek n, .processMut data]
  exact ⟨c0, st, h1, h4⟩

theorem xchacha_process_spec (S : EngineSim E α) (R : Nat) (key nonce : Bytes) (hk : key.length = 32)
    (hn : nonce.length = 24) (hR : Spec.ChaCha.validRounds R) (n : UInt32) (data : Bytes) :
    ∃ c0 st, ChaCha.XChaCha.new E R key nonce = .ok c0 ∧
      run (ChaCha.XChaCha.methods E R) (c0, []) [.seek n, .processMut data] =
        .ok (st, [Spec.ChaCha.encryptX R key nonce (64 * n.toNat) data]) := by
  obtain ⟨c0, _, h1, st, h4, _⟩ := (xchacha_opens S R key nonce hk hn hR).history [.seek n, .processMut data]
  exact ⟨c0, st, h1, h4⟩

theorem chachaorig_process_spec (S : EngineSim E α) (R : Nat) (key nonce : Bytes) (hk : Spec.ChaCha.validKey key)
    (hn : nonce.length = 8) (hR : Spec.ChaCha.validRounds R) (n : UInt64) (data : Bytes) :
    ∃ c0 st, ChaCha.ChaChaOriginal.new E R key nonce = .ok c0 ∧
      run (ChaCha.ChaChaOriginal.methods E R) (c0, []) [.setCounter64 n, .processMut data] =
        .ok (st, [Spec.ChaCha.encryptOrig R key nonce (64 * n.toNat) data]) := by
  obtain ⟨c0, _, h1, st, h4, _⟩ := (chachaorig_opens S R key nonce hk hn hR).history [.setCounter64 n, .processMut data]
  exact ⟨c0, st, h1, h4⟩

theorem salsa_process_spec (R : Nat) (key nonce : Bytes) (hk : Spec.ChaCha.validKey key)
    (hn : nonce.length = 8) (hR : Spec.ChaCha.validRounds R) (n : UInt64) (data : Bytes) :
    ∃ c0 st, Impl.Salsa.Salsa.new R key nonce = .ok c0 ∧
      run (Impl.Salsa.methods R) (c0, []) [.setCounter64 n, .processMut data] =
        .ok (st, [Spec.Salsa.encrypt R key nonce (64 * n.toNat) data]) := by
  obtain ⟨c0, _, h1, st, h4, _⟩ := (Cx.Proofs.Salsa.salsa_opens R key nonce hk hn hR).history [.setCounter64 n, .processMut data]
  exact ⟨c0, st, h1, h4⟩

theorem xsalsa_process_spec (R : Nat) (key nonce : Bytes) (hk : key.length = 32)
    (hn : nonce.length = 24) (hR : Spec.ChaCha.validRounds R) (n : UInt64) (data : Bytes) :
    ∃ c0 st, Impl.Salsa.XSalsa.new R key nonce = .ok c0 ∧
      run (Impl.Salsa.methods R) (c0, []) [.setCounter64 n, .processMut data] =
        .ok (st, [Spec.Salsa.encryptX R key nonce (64 * n.toNat) data]) := by
  obtain ⟨c0, _, h1, st, h4, _⟩ := (Cx.Proofs.Salsa.xsalsa_opens R key nonce hk hn hR).history [.setCounter64 n, .processMut data]
  exact ⟨c0, st, h1, h4⟩

example : Spec.ChaCha.validKey (zeros 32) ∧ (zeros 12).length = 12 ∧ Spec.ChaCha.validRounds 20 := by
  refine ⟨Or.inr rfl, rfl, Or.inr (Or.inr rfl)⟩

/-! ## HChaCha / HSalsa: word selection, no feed-forward -/

/-- `rounds(); output_ad_bytes()` on the state initialised with a 16-byte nonce = HChaCha(key, nonce) -/
theorem hchacha_spec (S : EngineSim E α) (R : Nat) (key nonce16 : Bytes) (hk : Spec.ChaCha.validKey key)
    (hn : nonce16.length = 16) :
    ∃ h, E.init key nonce16 = .ok h ∧ E.hblock R h = Spec.ChaCha.hchacha R key nonce16 := by
  obtain ⟨h, hi, hv⟩ := ok_of_map_eq_ok (S.init key nonce16 hk (Or.inr (Or.inr hn)))
  exact ⟨h, hi, hchacha_eq S R key hn h hv⟩

theorem hsalsa_spec (R : Nat) (key nonce16 : Bytes) (hk : Spec.ChaCha.validKey key) (hn : nonce16.length = 16) :
    ∃ h, Impl.Salsa.init key nonce16 = .ok h ∧
      Impl.Salsa.output_ad_bytes (Impl.Salsa.rounds R h) = Spec.Salsa.hsalsa R key nonce16 := by
  obtain ⟨h, hi, hv⟩ := ok_of_map_eq_ok (Cx.Proofs.Salsa.init_layout key nonce16 hk (Or.inr hn))
  exact ⟨h, hi, Cx.Proofs.Salsa.hsalsa_eq R key nonce16 hn h hv⟩

/-- every specified block has 64 bytes (so `ksByte` never takes its default) -/
theorem block_lengths (R : Nat) (key nonce : Bytes) (n : Nat) :
    (Spec.ChaCha.blockAt R key nonce n).length = 64 ∧ (Spec.ChaCha.blockAtOrig R key nonce n).length = 64 ∧
    (Spec.ChaCha.blockAtX R key nonce n).length = 64 ∧ (Spec.Salsa.blockAt R key nonce n).length = 64 ∧
    (Spec.Salsa.blockAtX R key nonce n).length = 64 :=
  ⟨block_length _ _ _ _, blockOrig_length _ _ _ _, blockAtX_length _ _ _ _, Cx.Proofs.Salsa.block_length _ _ _ _,
   Cx.Proofs.Salsa.blockAtX_length _ _ _ _⟩

/-- the blockwise evaluation exported for long messages (AEAD unit) is the same function -/
theorem chacha_encryptFast_eq (R : Nat) (key nonce : Bytes) (pos : Nat) (data : Bytes) :
    Spec.ChaCha.encryptFast R key nonce pos data = Spec.ChaCha.encrypt R key nonce pos data :=
  encryptFast_eq _ (fun _ => block_length _ _ _ _) pos data

/-- RFC 8439 §2.3.2 (first 16 bytes of the block) -/
example : (Spec.ChaCha.block 20 ((List.range 32).map UInt8.ofNat)
    [0,0,0,9,0,0,0,0x4a,0,0,0,0] 1).take 16 =
    [0x10,0xf1,0xe7,0xe4,0xd1,0x3b,0x59,0x15,0x50,0x0f,0xdd,0x1f,0xa3,0x20,0x71,0xc4] := by decide +kernel

end Cx.Props.C03
