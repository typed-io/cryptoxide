/-
  Props.C04.GlueTieStream — the translator tie for the STATEFUL GLUE of the stream ciphers, the DRG and the AEAD objects.

  `Extracted/GlueStream.lean` is regenerated from the CURRENT Rust sources on every run by tools/ktx_glue_stream.py (kernel
  specs tools/kernels/glue_stream.py): `new`, `update`, `process_mut`, `process`, `seek` / `verif_set_counter64` of the five
  context types of chacha20.rs / salsa20.rs (each of the five textual copies separately), `cryptoutil::xor_keystream_mut`
  (raw-pointer loop), `drg::chacha::Drg`, and everything of chacha20poly1305.rs (`Context`, `ContextEncryption`,
  `ContextDecryption`, `pad16`, `finalize_raw`, `Tag ==`, the one-shot `ChaChaPoly1305`), translated statement by statement:
  struct fields, offsets, flags, length bookkeeping, the data-dependent loops, every bounds test and checked addition.
  The theorems below prove each generated definition `f_src` equal to the hand model `Impl.….f` that the C03/C04/C06/C07/C20
  theorems are about, for ALL states and ALL inputs (no invariant is needed: the models and the code agree also on contexts with
  an out-of-range offset or a cached block of the wrong length, where both panic).  The only hypotheses are the domain guards of
  the Rust types: a buffer length is a `usize` (`< 2^64`; `xor_keystream_mut` casts it to `isize`: `< 2^63`).
  A semantic change of this glue code changes the generated definition and breaks one of these proof obligations even if no
  sampled input reaches it.

  The engine functions (`E.init`, `E.rounds`, … / `Salsa.init`, … / `Poly1305.input`, `raw_result`, `CT.array_u8_ct_eq`) are the
  MODEL's functions, tied to the code by Props/C03/KernelTie.lean, Props/C05/KernelTie.lean, Props/C18KernelTie.lean.
-/
import CxVerif.Proofs.GlueStream
import CxVerif.Impl.Drg
namespace Cx.Props.C04.GlueTieStream
open Cx.Impl Cx.Impl.StreamCtx Cx.Extracted.GlueStream Cx.Proofs.GlueStream

variable {σ : Type}

/-- `cryptoutil::xor_keystream_mut`: the `unsafe` index loop is `zipWith xor` under the `assert!`; no access leaves the buffers
    (no `"UB"` result).  `buf.len() as isize` needs `buf.len() ≤ isize::MAX` (true of every Rust slice). -/
theorem xor_keystream_mut_src_eq_model (buf keystream : Bytes) (h : buf.length < 2 ^ 63) :
    xor_keystream_mut_src buf keystream = StreamCtx.xor_keystream_mut buf keystream :=
  xor_keystream_mut_src_eq buf keystream h

example : xor_keystream_mut_src [1, 2, 3] [7, 7, 7, 7] = .ok [6, 5, 4] := by rfl

/-- the generated round assertion; `Impl.Salsa.roundsOk` unfolds to the same test, so the two Salsa constructors use this too -/
theorem roundsOk_iff (R : Nat) : ((R = 8 ∨ R = 12) ∨ R = 20) ↔ Cx.Impl.ChaCha.roundsOk R = true := by
  simp [Cx.Impl.ChaCha.roundsOk, or_assoc]

/-! ### `ChaCha<ROUNDS>`, `XChaCha<ROUNDS>`, `ChaChaOriginal<ROUNDS>` (chacha20.rs) -/
namespace ChaCha
open Cx.Impl.ChaCha

theorem update_src_eq_model (E : Engine σ) (R : Nat) (c : Ctx σ) :
    ChaCha.update_src E R c = StreamCtx.update (ChaCha.gen E R) c := rfl
theorem seek_src_eq_model (E : Engine σ) (c : Ctx σ) (position : UInt32) :
    ChaCha.seek_src E c position = ChaCha.seek E c position := rfl
theorem loop_body_src_eq (E : Engine σ) (R len : Nat) :
    ChaCha.process_mut_loop1_body_src E R len = bodyG (StreamCtx.update (ChaCha.gen E R)) len := by
  -- both sides opened by name: `rfl` then compares the two texts step by step (through `update_src = update`)
  unfold ChaCha.process_mut_loop1_body_src bodyG; rfl
theorem loop_cond_src_eq (len : Nat) : ChaCha.process_mut_loop1_cond_src (σ := σ) len = condG len := rfl
theorem process_mut_src_eq_model (E : Engine σ) (R : Nat) (c : Ctx σ) (data : Bytes) (h : data.length < 2 ^ 64) :
    ChaCha.process_mut_src E R c data = ChaCha.process_mut E R c data := by
  simp only [ChaCha.process_mut_src, ChaCha.process_mut, loop_body_src_eq, loop_cond_src_eq, loop0 _ c data h]
  cases StreamCtx.process_mut (ChaCha.gen E R) c data <;> rfl
theorem process_src_eq_model (E : Engine σ) (R : Nat) (c : Ctx σ) (input output : Bytes) (h : input.length < 2 ^ 64) :
    ChaCha.process_src E R c input output = ChaCha.process E R c input output.length := by
  simp only [ChaCha.process_src, ChaCha.process, StreamCtx.process, process_mut_src_eq_model E R c input h, ChaCha.process_mut]
  cases StreamCtx.process_mut (ChaCha.gen E R) c input <;> exact assert_eq_len _ _ _
theorem new_src_eq_model (E : Engine σ) (R : Nat) (key nonce : Bytes) :
    ChaCha.new_src E R key nonce = ChaCha.new E R key nonce := by
  simp only [ChaCha.new_src, ChaCha.new, roundsOk_iff]
  cases E.init key nonce <;> rfl
end ChaCha

namespace XChaCha
open Cx.Impl.ChaCha

theorem update_src_eq_model (E : Engine σ) (R : Nat) (c : Ctx σ) :
    XChaCha.update_src E R c = StreamCtx.update (XChaCha.gen E R) c := rfl
theorem seek_src_eq_model (E : Engine σ) (c : Ctx σ) (position : UInt32) :
    XChaCha.seek_src E c position = XChaCha.seek E c position := rfl
theorem loop_body_src_eq (E : Engine σ) (R len : Nat) :
    XChaCha.process_mut_loop1_body_src E R len = bodyG (StreamCtx.update (XChaCha.gen E R)) len := by
  unfold XChaCha.process_mut_loop1_body_src bodyG; rfl
theorem loop_cond_src_eq (len : Nat) : XChaCha.process_mut_loop1_cond_src (σ := σ) len = condG len := rfl
theorem process_mut_src_eq_model (E : Engine σ) (R : Nat) (c : Ctx σ) (data : Bytes) (h : data.length < 2 ^ 64) :
    XChaCha.process_mut_src E R c data = XChaCha.process_mut E R c data := by
  simp only [XChaCha.process_mut_src, XChaCha.process_mut, loop_body_src_eq, loop_cond_src_eq, loop0 _ c data h]
  cases StreamCtx.process_mut (XChaCha.gen E R) c data <;> rfl
theorem process_src_eq_model (E : Engine σ) (R : Nat) (c : Ctx σ) (input output : Bytes) (h : input.length < 2 ^ 64) :
    XChaCha.process_src E R c input output = XChaCha.process E R c input output.length := by
  simp only [XChaCha.process_src, XChaCha.process, StreamCtx.process, process_mut_src_eq_model E R c input h, XChaCha.process_mut]
  cases StreamCtx.process_mut (XChaCha.gen E R) c input <;> exact assert_eq_len _ _ _
theorem new_src_eq_model (E : Engine σ) (R : Nat) (key nonce : Bytes) :
    XChaCha.new_src E R key nonce = XChaCha.new E R key nonce := by
  simp only [XChaCha.new_src, XChaCha.new, roundsOk_iff]
  cases E.init key (nonce.take 16) with
  | error e => rfl
  | ok hchacha =>
    simp only [Engine.hblock]
    cases E.init (E.output_ad_bytes (E.rounds R hchacha)) ((nonce.drop 16).take 8) <;> rfl
end XChaCha

namespace ChaChaOriginal
open Cx.Impl.ChaCha

theorem update_src_eq_model (E : Engine σ) (R : Nat) (c : Ctx σ) :
    ChaChaOriginal.update_src E R c = StreamCtx.update (ChaChaOriginal.gen E R) c := rfl
theorem verif_set_counter64_src_eq_model (E : Engine σ) (c : Ctx σ) (counter : UInt64) :
    ChaChaOriginal.verif_set_counter64_src E c counter = ChaChaOriginal.verif_set_counter64 E c counter := rfl
theorem loop_body_src_eq (E : Engine σ) (R len : Nat) :
    ChaChaOriginal.process_mut_loop1_body_src E R len = bodyG (StreamCtx.update (ChaChaOriginal.gen E R)) len := by
  unfold ChaChaOriginal.process_mut_loop1_body_src bodyG; rfl
theorem loop_cond_src_eq (len : Nat) : ChaChaOriginal.process_mut_loop1_cond_src (σ := σ) len = condG len := rfl
theorem process_mut_src_eq_model (E : Engine σ) (R : Nat) (c : Ctx σ) (data : Bytes) (h : data.length < 2 ^ 64) :
    ChaChaOriginal.process_mut_src E R c data = ChaChaOriginal.process_mut E R c data := by
  simp only [ChaChaOriginal.process_mut_src, ChaChaOriginal.process_mut, loop_body_src_eq, loop_cond_src_eq, loop0 _ c data h]
  cases StreamCtx.process_mut (ChaChaOriginal.gen E R) c data <;> rfl
theorem process_src_eq_model (E : Engine σ) (R : Nat) (c : Ctx σ) (input output : Bytes) (h : input.length < 2 ^ 64) :
    ChaChaOriginal.process_src E R c input output = ChaChaOriginal.process E R c input output.length := by
  simp only [ChaChaOriginal.process_src, ChaChaOriginal.process, StreamCtx.process, process_mut_src_eq_model E R c input h, ChaChaOriginal.process_mut]
  cases StreamCtx.process_mut (ChaChaOriginal.gen E R) c input <;> exact assert_eq_len _ _ _
theorem new_src_eq_model (E : Engine σ) (R : Nat) (key nonce : Bytes) :
    ChaChaOriginal.new_src E R key nonce = ChaChaOriginal.new E R key nonce := by
  simp only [ChaChaOriginal.new_src, ChaChaOriginal.new, roundsOk_iff]
  cases E.init key nonce <;> rfl
end ChaChaOriginal

/-! ### `Salsa<ROUNDS>` (salsa20.rs) -/
namespace Salsa
open Cx.Impl.Salsa

theorem update_src_eq_model (R : Nat) (c : Ctx W16) :
    Salsa.update_src R c = StreamCtx.update (Cx.Impl.Salsa.gen R) c := rfl
theorem verif_set_counter64_src_eq_model (c : Ctx W16) (counter : UInt64) :
    Salsa.verif_set_counter64_src c counter = Salsa.verif_set_counter64 c counter := rfl
theorem loop_body_src_eq (R len : Nat) :
    Salsa.process_mut_loop1_body_src R len = bodyG (StreamCtx.update (Cx.Impl.Salsa.gen R)) len := by
  unfold Salsa.process_mut_loop1_body_src bodyG; rfl
theorem loop_cond_src_eq (len : Nat) : Salsa.process_mut_loop1_cond_src len = condG (σ := W16) len := rfl
theorem process_mut_src_eq_model (R : Nat) (c : Ctx W16) (data : Bytes) (h : data.length < 2 ^ 64) :
    Salsa.process_mut_src R c data = Salsa.process_mut R c data := by
  simp only [Salsa.process_mut_src, Salsa.process_mut, loop_body_src_eq, loop_cond_src_eq, loop0 _ c data h]
  cases StreamCtx.process_mut (Cx.Impl.Salsa.gen R) c data <;> rfl
theorem process_src_eq_model (R : Nat) (c : Ctx W16) (input output : Bytes) (h : input.length < 2 ^ 64) :
    Salsa.process_src R c input output = Salsa.process R c input output.length := by
  simp only [Salsa.process_src, Salsa.process, StreamCtx.process, process_mut_src_eq_model R c input h, Salsa.process_mut]
  cases StreamCtx.process_mut (Cx.Impl.Salsa.gen R) c input <;> exact assert_eq_len _ _ _
theorem new_src_eq_model (R : Nat) (key nonce : Bytes) :
    Salsa.new_src R key nonce = Salsa.new R key nonce := by
  simp only [Salsa.new_src, Salsa.new, roundsOk_iff]
  cases Cx.Impl.Salsa.init key nonce <;> rfl
end Salsa

/-! ### `XSalsa<ROUNDS>` (salsa20.rs) -/
namespace XSalsa
open Cx.Impl.Salsa

theorem update_src_eq_model (R : Nat) (c : Ctx W16) :
    XSalsa.update_src R c = StreamCtx.update (Cx.Impl.Salsa.gen R) c := rfl
theorem verif_set_counter64_src_eq_model (c : Ctx W16) (counter : UInt64) :
    XSalsa.verif_set_counter64_src c counter = XSalsa.verif_set_counter64 c counter := rfl
theorem loop_body_src_eq (R len : Nat) :
    XSalsa.process_mut_loop1_body_src R len = bodyG (StreamCtx.update (Cx.Impl.Salsa.gen R)) len := by
  unfold XSalsa.process_mut_loop1_body_src bodyG; rfl
theorem loop_cond_src_eq (len : Nat) : XSalsa.process_mut_loop1_cond_src len = condG (σ := W16) len := rfl
theorem process_mut_src_eq_model (R : Nat) (c : Ctx W16) (data : Bytes) (h : data.length < 2 ^ 64) :
    XSalsa.process_mut_src R c data = XSalsa.process_mut R c data := by
  simp only [XSalsa.process_mut_src, XSalsa.process_mut, loop_body_src_eq, loop_cond_src_eq, loop0 _ c data h]
  cases StreamCtx.process_mut (Cx.Impl.Salsa.gen R) c data <;> rfl
theorem process_src_eq_model (R : Nat) (c : Ctx W16) (input output : Bytes) (h : input.length < 2 ^ 64) :
    XSalsa.process_src R c input output = XSalsa.process R c input output.length := by
  simp only [XSalsa.process_src, XSalsa.process, StreamCtx.process, process_mut_src_eq_model R c input h, XSalsa.process_mut]
  cases StreamCtx.process_mut (Cx.Impl.Salsa.gen R) c input <;> exact assert_eq_len _ _ _
theorem new_src_eq_model (R : Nat) (key nonce : Bytes) :
    XSalsa.new_src R key nonce = XSalsa.new R key nonce := by
  simp only [XSalsa.new_src, XSalsa.new, roundsOk_iff]
  cases Cx.Impl.Salsa.init key (nonce.take 16) with
  | error e => rfl
  | ok hsalsa =>
    simp only []
    cases Cx.Impl.Salsa.init (output_ad_bytes (rounds R hsalsa)) ((nonce.drop 16).take 8) <;> rfl
end XSalsa

/-! ### `Drg<ROUNDS>` (drg/chacha.rs) -/
namespace Drg
open Cx.Impl.ChaCha

theorem new_src_eq_model (E : Engine σ) (R : Nat) (seed : Bytes) : Drg.new_src E R seed = Cx.Impl.Drg.new E R seed := by
  unfold Drg.new_src Cx.Impl.Drg.new
  split
  · rfl
  · rw [ChaCha.new_src_eq_model]; cases ChaCha.new E R seed (zeros 12) <;> rfl
theorem bytes_src_eq_model (E : Engine σ) (R : Nat) (c : Ctx σ) (N : Nat) (h : N < 2 ^ 64) :
    Drg.bytes_src E R c N = Cx.Impl.Drg.bytes E R c N := by
  simp only [Drg.bytes_src, Cx.Impl.Drg.bytes]
  rw [ChaCha.process_mut_src_eq_model E R c (zeros N) (by simpa [zeros] using h)]
  cases ChaCha.process_mut E R c (zeros N) <;> rfl
theorem fill_bytes_src_eq_model (E : Engine σ) (R : Nat) (c : Ctx σ) (out : Bytes) (h : out.length < 2 ^ 64) :
    Drg.fill_bytes_src E R c out = Cx.Impl.Drg.fill_bytes E R c out := by
  simp only [Drg.fill_bytes_src, Cx.Impl.Drg.fill_bytes]
  rw [ChaCha.process_mut_src_eq_model E R c (zeros out.length) (by simpa [zeros] using h)]
  cases ChaCha.process_mut E R c (zeros out.length) <;> rfl
theorem fill_slice_src_eq_model (E : Engine σ) (R : Nat) (c : Ctx σ) (out : Bytes) (h : out.length < 2 ^ 64) :
    Drg.fill_slice_src E R c out = Cx.Impl.Drg.fill_slice E R c out := by
  simp only [Drg.fill_slice_src, Cx.Impl.Drg.fill_slice]
  rw [ChaCha.process_mut_src_eq_model E R c (zeros out.length) (by simpa [zeros] using h)]
  cases ChaCha.process_mut E R c (zeros out.length) <;> rfl
theorem u64_src_eq_model (E : Engine σ) (R : Nat) (c : Ctx σ) : Drg.u64_src E R c = Cx.Impl.Drg.u64 E R c := by
  unfold Drg.u64_src Cx.Impl.Drg.u64
  rw [bytes_src_eq_model E R c 8 (by decide)]
  cases Cx.Impl.Drg.bytes E R c 8 <;> rfl
theorem u32_src_eq_model (E : Engine σ) (R : Nat) (c : Ctx σ) : Drg.u32_src E R c = Cx.Impl.Drg.u32 E R c := by
  unfold Drg.u32_src Cx.Impl.Drg.u32
  rw [bytes_src_eq_model E R c 4 (by decide)]
  cases Cx.Impl.Drg.bytes E R c 4 <;> rfl
end Drg

/-! ### chacha20poly1305.rs -/
namespace Aead
open Cx.Impl.ChaCha Cx.Impl.Aead

/-- `pad16`: the branch on `len % 16`, `16 - len % 16` (no underflow), `&padding[0..sz]` (in bounds) -/
theorem pad16_src_eq_model (mac : Poly1305.State) (len : Nat) : Aead.pad16_src mac len = pad16 mac len := by
  unfold Aead.pad16_src pad16
  by_cases h : len % 16 ≠ 0
  · have h1 : len % 16 ≤ 16 := by omega
    have h2 : 16 - len % 16 ≤ 15 := by omega
    rw [if_pos h, if_pos h]
    simp only [subChk_ok h1, guard_pos h2]
    cases liftP (Poly1305.input mac (List.take (16 - len % 16) (zeros 15))) <;> rfl
  · rw [if_neg h, if_neg h]

theorem add_encrypted_src_eq_model (c : Context σ) (encrypted : Bytes) :
    Aead.Context.add_encrypted_src c encrypted = Context.add_encrypted c encrypted := by
  unfold Aead.Context.add_encrypted_src Context.add_encrypted
  cases liftP (Poly1305.input c.mac encrypted) with
  | error e => rfl
  | ok mac =>
    simp only [addChk_eq_addU64]
    cases addU64 c.data_len encrypted.length <;> rfl

/-- `add_data`: `aad_len` is ACCUMULATED (checked `+=`), then the data goes to the MAC -/
theorem add_data_src_eq_model (c : Context σ) (aad : Bytes) :
    Aead.Context.add_data_src c aad = Context.add_data c aad := by
  unfold Aead.Context.add_data_src Context.add_data
  simp only [addChk_eq_addU64]
  cases addU64 c.aad_len aad.length with
  | error e => rfl
  | ok n => cases liftP (Poly1305.input c.mac aad) <;> rfl

theorem to_encryption_src_eq_model (c : Context σ) : Aead.Context.to_encryption_src c = Context.to_encryption c := by
  unfold Aead.Context.to_encryption_src Context.to_encryption
  rw [pad16_src_eq_model]
  cases pad16 c.mac c.aad_len <;> rfl

theorem to_decryption_src_eq_model (c : Context σ) : Aead.Context.to_decryption_src c = Context.to_decryption c := by
  unfold Aead.Context.to_decryption_src Context.to_decryption
  rw [pad16_src_eq_model]
  cases pad16 c.mac c.aad_len <;> rfl

/-- `Context::new`: key-length assert, the one-time key = first 32 bytes of keystream block 0 (the cipher then stands at block 1) -/
theorem new_src_eq_model (E : Engine σ) (R : Nat) (key nonce : Bytes) :
    Aead.Context.new_src E R key nonce = Context.new E R key nonce := by
  unfold Aead.Context.new_src Context.new
  refine ite_congr rfl (fun _ => rfl) fun _ => guard_eq fun _ => ?_
  rw [ChaCha.new_src_eq_model]
  cases ChaCha.new E R key nonce with
  | error e => rfl
  | ok cipher =>
    simp only []
    rw [ChaCha.process_src_eq_model E R cipher (zeros 64) (zeros 64) (by simp [zeros]),
      show (zeros 64).length = 64 by simp [zeros]]
    cases ChaCha.process E R cipher (zeros 64) 64 <;> rfl

/-- `finalize_raw`: pad16 of the data, the length block `aad_len ‖ data_len` (little endian u64), the raw tag -/
theorem finalize_raw_src_eq_model (c : Context σ) : Aead.finalize_raw_src c = finalize_raw c := by
  unfold Aead.finalize_raw_src finalize_raw
  rw [pad16_src_eq_model]
  cases pad16 c.mac c.data_len with
  | error e => rfl
  | ok mac =>
    simp only [len_block]
    cases liftP (Poly1305.input mac (natToLE 8 c.aad_len ++ natToLE 8 c.data_len)) with
    | error e => rfl
    | ok mac2 =>
      simp only []
      cases liftP (Poly1305.raw_result Poly1305.codeVariant mac2 16) <;> rfl

theorem encrypt_mut_src_eq_model (E : Engine σ) (R : Nat) (c : Context σ) (buf : Bytes) (h : buf.length < 2 ^ 64) :
    Aead.ContextEncryption.encrypt_mut_src E R c buf = ContextEncryption.encrypt_mut E R c buf := by
  unfold Aead.ContextEncryption.encrypt_mut_src ContextEncryption.encrypt_mut
  rw [ChaCha.process_mut_src_eq_model E R c.cipher buf h]
  cases ChaCha.process_mut E R c.cipher buf with
  | error e => rfl
  | ok r =>
    simp only [add_encrypted_src_eq_model]
    cases Context.add_encrypted { c with cipher := r.1 } r.2 <;> rfl

theorem encrypt_src_eq_model (E : Engine σ) (R : Nat) (c : Context σ) (input output : Bytes) (h : input.length < 2 ^ 64) :
    Aead.ContextEncryption.encrypt_src E R c input output = ContextEncryption.encrypt E R c input output.length := by
  unfold Aead.ContextEncryption.encrypt_src ContextEncryption.encrypt
  refine guard_eq fun _ => ?_
  rw [ChaCha.process_src_eq_model E R c.cipher input output h]
  cases ChaCha.process E R c.cipher input output.length with
  | error e => rfl
  | ok r =>
    simp only [add_encrypted_src_eq_model]
    cases Context.add_encrypted { c with cipher := r.1 } r.2 <;> rfl

theorem enc_finalize_src_eq_model (c : Context σ) : Aead.ContextEncryption.finalize_src c = ContextEncryption.finalize c := by
  unfold Aead.ContextEncryption.finalize_src ContextEncryption.finalize
  rw [finalize_raw_src_eq_model]
  cases finalize_raw c <;> rfl

/-- `Tag ==` goes through the constant-time `ct_eq` of `[u8; 16]` -/
theorem tag_ct_eq_src_eq_model (a b : Bytes) : Aead.Tag.ct_eq_src a b = CT.array_u8_ct_eq a b := rfl
theorem tag_eq_src_eq_model (a b : Bytes) : Aead.Tag.eq_src a b = Tag.eq a b := rfl

theorem decrypt_mut_src_eq_model (E : Engine σ) (R : Nat) (c : Context σ) (buf : Bytes) (h : buf.length < 2 ^ 64) :
    Aead.ContextDecryption.decrypt_mut_src E R c buf = ContextDecryption.decrypt_mut E R c buf := by
  unfold Aead.ContextDecryption.decrypt_mut_src ContextDecryption.decrypt_mut
  rw [add_encrypted_src_eq_model]
  cases Context.add_encrypted c buf with
  | error e => rfl
  | ok c2 =>
    simp only []
    rw [ChaCha.process_mut_src_eq_model E R c2.cipher buf h]
    cases ChaCha.process_mut E R c2.cipher buf <;> rfl

theorem decrypt_src_eq_model (E : Engine σ) (R : Nat) (c : Context σ) (input output : Bytes) (h : input.length < 2 ^ 64) :
    Aead.ContextDecryption.decrypt_src E R c input output = ContextDecryption.decrypt E R c input output.length := by
  unfold Aead.ContextDecryption.decrypt_src ContextDecryption.decrypt
  refine guard_eq fun _ => ?_
  rw [add_encrypted_src_eq_model]
  cases Context.add_encrypted c input with
  | error e => rfl
  | ok c2 =>
    simp only []
    rw [ChaCha.process_src_eq_model E R c2.cipher input output h]
    cases ChaCha.process E R c2.cipher input output.length <;> rfl

/-- `ContextDecryption::finalize`: the verdict is `Tag ==` of the computed and the expected tag -/
theorem dec_finalize_src_eq_model (c : Context σ) (expected_tag : Bytes) :
    Aead.ContextDecryption.finalize_src c expected_tag = ContextDecryption.finalize c expected_tag := by
  unfold Aead.ContextDecryption.finalize_src ContextDecryption.finalize
  split
  · rfl
  · rw [finalize_raw_src_eq_model]
    cases finalize_raw c with
    | error e => rfl
    | ok r =>
      simp only [tag_eq_src_eq_model]
      exact congrArg _ (ite_bool_id _)

theorem oneshot_new_src_eq_model (E : Engine σ) (R : Nat) (key nonce aad : Bytes) :
    Aead.ChaChaPoly1305.new_src E R key nonce aad = ChaChaPoly1305.new E R key nonce aad := by
  unfold Aead.ChaChaPoly1305.new_src ChaChaPoly1305.new
  rw [new_src_eq_model]
  split
  · rename_i h
    rw [Context.new, if_pos h]
  · cases Context.new E R key nonce with
    | error e => rfl
    | ok ctx =>
      simp only [add_data_src_eq_model]
      cases Context.add_data ctx aad <;> rfl

/-- one-shot `encrypt`: the three asserts in source order, `finished` set BEFORE the work, tag copied out -/
theorem oneshot_encrypt_src_eq_model (E : Engine σ) (R : Nat) (s : ChaChaPoly1305 σ) (input output out_tag : Bytes)
    (h : input.length < 2 ^ 64) :
    Aead.ChaChaPoly1305.encrypt_src E R s input output out_tag
      = ChaChaPoly1305.encrypt E R s input output.length out_tag.length := by
  unfold Aead.ChaChaPoly1305.encrypt_src ChaChaPoly1305.encrypt
  refine guard_eq fun _ => guard_not_eq fun _ => guard_eq fun h3 => ?_
  simp only [to_encryption_src_eq_model]
  cases Context.to_encryption s.context with
  | error e => rfl
  | ok ctx =>
    simp only []
    rw [encrypt_src_eq_model E R ctx input output h]
    cases ContextEncryption.encrypt E R ctx input output.length with
    | error e => rfl
    | ok r =>
      simp only [enc_finalize_src_eq_model]
      cases ContextEncryption.finalize r.1 with
      | error e => rfl
      | ok tag => simp only [guard_pos h3]

/-- one-shot `decrypt`: asserts in source order (tag length first), `finished` set before the check, verdict = tag comparison -/
theorem oneshot_decrypt_src_eq_model (E : Engine σ) (R : Nat) (s : ChaChaPoly1305 σ) (input output tag : Bytes)
    (h : input.length < 2 ^ 64) :
    Aead.ChaChaPoly1305.decrypt_src E R s input output tag
      = ChaChaPoly1305.decrypt E R s input output.length tag := by
  unfold Aead.ChaChaPoly1305.decrypt_src ChaChaPoly1305.decrypt
  refine guard_eq fun h0 => guard_eq fun _ => guard_not_eq fun _ => ?_
  simp only [guard_pos h0.symm, to_decryption_src_eq_model]
  cases Context.to_decryption s.context with
  | error e => rfl
  | ok ctx =>
    simp only []
    rw [decrypt_src_eq_model E R ctx input output h]
    cases ContextDecryption.decrypt E R ctx input output.length with
    | error e => rfl
    | ok r =>
      simp only [dec_finalize_src_eq_model]
      cases ContextDecryption.finalize r.1 tag with
      | error e => rfl
      | ok v => simp only [Bool.decide_eq_true]

end Aead

end Cx.Props.C04.GlueTieStream
