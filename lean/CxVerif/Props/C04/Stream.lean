/-
  Props.C04 (stream unit) — stream position semantics: every history of {process, process_mut, seek /
  verif_set_counter64, clone, swap} on every cipher context refines the abstract state "absolute keystream
  position" (induction over the history); corollaries: partition independence, involution, seek from mid-block,
  a clone continues identically.  DRG: every request sequence returns the successive keystream bytes,
  independent of request sizing and of prior buffer contents; witness of the pre-repair `fill_*` behaviour.

  `absRun KS hasSeek hasSet64 (pos, stack) ops` (Proofs.StreamCtx) is the abstract machine: process/process_mut
  emit `data ⊕ KS[pos, pos+len)` and advance pos, seek n sets pos := 64·n, clone pushes pos, swap exchanges.
  `Agrees` = same refusal, or same emitted bytes and related final states.
  `S : EngineSim E α` ranges over both engine models (`referenceSim`, `sse2Sim`).
  Clone is the identity on the immutable model values; that the two Rust copies are independent objects is a
  correspondence obligation (ops `c`/`x` of the line protocol), not a theorem.
-/
import CxVerif.Proofs.StreamSalsa
import CxVerif.Proofs.StreamDrg
namespace Cx.Props.C04
open Cx.Impl Cx.Impl.ChaCha Cx.Impl.StreamCtx Cx.Spec.Stream Cx.Proofs.Stream Cx.Proofs.ChaCha

variable {σ : Type} {E : Engine σ} {α : σ → W16}

theorem chacha_history (S : EngineSim E α) (R : Nat) (key nonce : Bytes) (hk : Spec.ChaCha.validKey key)
    (hn : nonce.length = 12) (hR : Spec.ChaCha.validRounds R) (ops : List Op) :
    ∃ c0 s0, ChaCha.ChaCha.new E R key nonce = .ok c0 ∧
      Agrees (mk32 E s0) (Spec.ChaCha.blockAt R key nonce) (run (ChaCha.ChaCha.methods E R) (c0, []) ops)
        (absRun (Spec.ChaCha.blockAt R key nonce) true false (0, []) ops) :=
  (chacha_opens S R key nonce hk hn hR).history ops

theorem xchacha_history (S : EngineSim E α) (R : Nat) (key nonce : Bytes) (hk : key.length = 32)
    (hn : nonce.length = 24) (hR : Spec.ChaCha.validRounds R) (ops : List Op) :
    ∃ c0 s0, ChaCha.XChaCha.new E R key nonce = .ok c0 ∧
      Agrees (mk32 E s0) (Spec.ChaCha.blockAtX R key nonce) (run (ChaCha.XChaCha.methods E R) (c0, []) ops)
        (absRun (Spec.ChaCha.blockAtX R key nonce) true false (0, []) ops) :=
  (xchacha_opens S R key nonce hk hn hR).history ops

theorem chachaorig_history (S : EngineSim E α) (R : Nat) (key nonce : Bytes) (hk : Spec.ChaCha.validKey key)
    (hn : nonce.length = 8) (hR : Spec.ChaCha.validRounds R) (ops : List Op) :
    ∃ c0 s0, ChaCha.ChaChaOriginal.new E R key nonce = .ok c0 ∧
      Agrees (mk64 E s0) (Spec.ChaCha.blockAtOrig R key nonce) (run (ChaCha.ChaChaOriginal.methods E R) (c0, []) ops)
        (absRun (Spec.ChaCha.blockAtOrig R key nonce) false true (0, []) ops) :=
  (chachaorig_opens S R key nonce hk hn hR).history ops

theorem salsa_history (R : Nat) (key nonce : Bytes) (hk : Spec.ChaCha.validKey key)
    (hn : nonce.length = 8) (hR : Spec.ChaCha.validRounds R) (ops : List Op) :
    ∃ c0 s0, Impl.Salsa.Salsa.new R key nonce = .ok c0 ∧
      Agrees (Cx.Proofs.Salsa.mkS s0) (Spec.Salsa.blockAt R key nonce) (run (Impl.Salsa.methods R) (c0, []) ops)
        (absRun (Spec.Salsa.blockAt R key nonce) false true (0, []) ops) :=
  (Cx.Proofs.Salsa.salsa_opens R key nonce hk hn hR).history ops

theorem xsalsa_history (R : Nat) (key nonce : Bytes) (hk : key.length = 32)
    (hn : nonce.length = 24) (hR : Spec.ChaCha.validRounds R) (ops : List Op) :
    ∃ c0 s0, Impl.Salsa.XSalsa.new R key nonce = .ok c0 ∧
      Agrees (Cx.Proofs.Salsa.mkS s0) (Spec.Salsa.blockAtX R key nonce) (run (Impl.Salsa.methods R) (c0, []) ops)
        (absRun (Spec.Salsa.blockAtX R key nonce) false true (0, []) ops) :=
  (Cx.Proofs.Salsa.xsalsa_opens R key nonce hk hn hR).history ops

/-- the hypotheses `hk hn hR` of `chachaorig_history` / `salsa_history` are satisfiable: 16-byte key, 8-byte nonce, R = 8 -/
example : Spec.ChaCha.validKey (zeros 16) ∧ (zeros 8).length = 8 ∧ Spec.ChaCha.validRounds 8 :=
  ⟨Or.inl rfl, rfl, Or.inl rfl⟩

/-! ## the single calls, for ANY context standing at ANY position (generic in the context type:
    `Rf : Refines g mk KS` is provided by `refines32`, `refines64`, `Cx.Proofs.Salsa.refines` — `.gen` of each — for the
    keystream of the state's own words, and by `chacha_opens` &c. for the keystream of (key, nonce)) -/

theorem process_mut_at {g : BlockGen σ} {mk : Nat → σ} {KS : Nat → Bytes} (Rf : Refines g mk KS)
    (c : Ctx σ) (pos : Nat) (data : Bytes) (h : Abs mk KS c pos) :
    ∃ c', process_mut g c data = .ok (c', encrypt KS pos data) ∧ Abs mk KS c' (pos + data.length) :=
  process_mut_refines Rf c pos data h

theorem process_at {g : BlockGen σ} {mk : Nat → σ} {KS : Nat → Bytes} (Rf : Refines g mk KS)
    (c : Ctx σ) (pos : Nat) (data : Bytes) (h : Abs mk KS c pos) :
    ∃ c', process g c data data.length = .ok (c', encrypt KS pos data) ∧ Abs mk KS c' (pos + data.length) :=
  process_refines Rf c pos data h

theorem process_len_mismatch (g : BlockGen σ) (c : Ctx σ) (data : Bytes) (n : Nat) (h : data.length ≠ n) :
    process g c data n = .error "PANIC" := by simp [process, h]

/-- partition independence: two successive calls = one call on the concatenation (same bytes, same final
    position) — from any position, any offset inside a block, any piece lengths (also empty pieces) -/
theorem partition_independence {g : BlockGen σ} {mk : Nat → σ} {KS : Nat → Bytes} (Rf : Refines g mk KS)
    (c : Ctx σ) (pos : Nat) (d1 d2 : Bytes) (h : Abs mk KS c pos) :
    ∃ c1 c2 c12 o1 o2, process_mut g c d1 = .ok (c1, o1) ∧ process_mut g c1 d2 = .ok (c2, o2) ∧
      process_mut g c (d1 ++ d2) = .ok (c12, o1 ++ o2) ∧
      Abs mk KS c2 (pos + (d1 ++ d2).length) ∧ Abs mk KS c12 (pos + (d1 ++ d2).length) := by
  obtain ⟨c1, h1, a1⟩ := process_mut_refines Rf c pos d1 h
  obtain ⟨c2, h2, a2⟩ := process_mut_refines Rf c1 _ d2 a1
  obtain ⟨c12, h3, a3⟩ := process_mut_refines Rf c pos (d1 ++ d2) h
  refine ⟨c1, c2, c12, _, _, h1, h2, ?_, ?_, a3⟩
  · rw [h3, encrypt_append]
  · rw [List.length_append, ← Nat.add_assoc]; exact a2

/-- the same for any number of pieces, at the level of the emitted bytes -/
theorem partition_independence_pieces (KS : Nat → Bytes) (pieces : List Bytes) (pos : Nat) :
    encrypt KS pos pieces.flatten =
      (pieces.foldl (fun (acc : Bytes × Nat) d => (acc.1 ++ encrypt KS acc.2 d, acc.2 + d.length)) ([], pos)).1 :=
  (encrypt_pieces KS pieces [] pos).symm

/-- involution: a context at the same position (e.g. a clone taken before the call) maps the output back to the
    input -/
theorem involution {g : BlockGen σ} {mk : Nat → σ} {KS : Nat → Bytes} (Rf : Refines g mk KS)
    (c : Ctx σ) (pos : Nat) (data : Bytes) (h : Abs mk KS c pos) :
    ∃ c1 out, process_mut g c data = .ok (c1, out) ∧ ∃ c2, process_mut g c out = .ok (c2, data) := by
  obtain ⟨c1, h1, _⟩ := process_mut_refines Rf c pos data h
  obtain ⟨c2, h2, _⟩ := process_mut_refines Rf c pos (encrypt KS pos data) h
  rw [encrypt_invol] at h2
  exact ⟨c1, _, h1, c2, h2⟩

/-- seek from ANY position (also mid-block): the next byte is the first byte of block n -/
theorem seek_from_anywhere {τ : Type} {g : BlockGen σ} {mk : Nat → σ} {KS : Nat → Bytes} (Rf : Refines g mk KS)
    (setCounter : σ → τ → σ) (toBlock : τ → Nat) (hset : ∀ n t, setCounter (mk n) t = mk (toBlock t))
    (c : Ctx σ) (pos : Nat) (t : τ) (data : Bytes) (h : Abs mk KS c pos) :
    ∃ c', process_mut g (seek setCounter c t) data = .ok (c', encrypt KS (64 * toBlock t) data) :=
  let ⟨c', h1, _⟩ := process_mut_refines Rf _ _ data (seek_abs mk KS setCounter toBlock hset c pos t h)
  ⟨c', h1⟩

/-- two contexts at the same position (a context and its clone) produce the same bytes for the same input -/
theorem clone_continues_identically {g : BlockGen σ} {mk : Nat → σ} {KS : Nat → Bytes} (Rf : Refines g mk KS)
    (c c' : Ctx σ) (pos : Nat) (data : Bytes) (h : Abs mk KS c pos) (h' : Abs mk KS c' pos) :
    ∃ c1 c1' out, process_mut g c data = .ok (c1, out) ∧ process_mut g c' data = .ok (c1', out) := by
  obtain ⟨c1, h1, _⟩ := process_mut_refines Rf c pos data h
  obtain ⟨c1', h1', _⟩ := process_mut_refines Rf c' pos data h'
  exact ⟨c1, c1', _, h1, h1'⟩

open Cx.Impl.Drg Cx.Proofs.Drg

/-- every request sequence over {bytes⟨N⟩, fill_bytes, fill_slice, u32, u64} returns the successive bytes of the
    ChaCha<R> keystream of (seed, nonce 0) — buffers as they are, integers big-endian — whatever the
    destination buffers held before (`specOuts` does not look at the prior contents) -/
theorem drg_requests (S : EngineSim E α) (R : Nat) (seed : Bytes) (hs : seed.length = 32)
    (hR : Spec.ChaCha.validRounds R) (reqs : List Req) :
    ∃ c0 c', Drg.new E R seed = .ok c0 ∧
      Drg.run E R false c0 reqs = .ok (c', specOuts (Spec.ChaCha.blockAt R seed (zeros 12)) 0 reqs) := by
  obtain ⟨s0, h1, M, h3⟩ := chacha_opens S R seed (zeros 12) (Or.inr hs) rfl hR
  obtain ⟨c', h4, _⟩ := run_spec M.gen reqs _ 0 h3
  exact ⟨_, c', by simp [Drg.new, hs, h1], h4⟩

theorem drg_outputs_are_chunks (KS : Nat → Bytes) (reqs : List Req) (pos : Nat) :
    specOuts KS pos reqs = List.zipWith decode reqs (Cx.Proofs.Drg.chunks KS pos reqs) := by
  induction reqs generalizing pos with
  | nil => rfl
  | cons r rs ih => simp [specOuts, Cx.Proofs.Drg.chunks, ih]

/-- independence of request sizing: the byte chunks handed out concatenate to ONE keystream segment, so two
    request sequences of the same total length draw the same bytes -/
theorem drg_sizing (KS : Nat → Bytes) (pos : Nat) (reqs reqs' : List Req) (h : total reqs = total reqs') :
    (Cx.Proofs.Drg.chunks KS pos reqs).flatten = (Cx.Proofs.Drg.chunks KS pos reqs').flatten ∧
    (Cx.Proofs.Drg.chunks KS pos reqs).flatten = keystream KS pos (total reqs) := by
  refine ⟨?_, chunks_flatten KS reqs pos⟩
  rw [chunks_flatten, chunks_flatten, h]

/-- independence of prior buffer contents (repaired `fill_*`): two buffers of the same length get the same bytes -/
theorem drg_fill_independent (S : EngineSim E α) (R : Nat) (seed : Bytes) (hs : seed.length = 32)
    (hR : Spec.ChaCha.validRounds R) (pre : List Req) (p1 p2 : Bytes) (hl : p1.length = p2.length) :
    ∃ c0 c1 c2 o, Drg.new E R seed = .ok c0 ∧
      Drg.run E R false c0 (pre ++ [.fillBytes p1]) = .ok (c1, o) ∧
      Drg.run E R false c0 (pre ++ [.fillBytes p2]) = .ok (c2, o) := by
  obtain ⟨c0, c1, h0, h1⟩ := drg_requests S R seed hs hR (pre ++ [.fillBytes p1])
  obtain ⟨c0', c2, h0', h2⟩ := drg_requests S R seed hs hR (pre ++ [.fillBytes p2])
  rw [h0] at h0'; cases h0'
  refine ⟨c0, c1, c2, _, h0, h1, ?_⟩
  rw [h2, specOuts_fill_congr _ hl.symm]

/-- WITNESS of defect (b) on the pre-repair `fill_bytes` (kept as documentation; /repo 1b3253e repaired it):
    on a fresh generator, for every seed, a buffer holding ff and a buffer holding 00 received DIFFERENT bytes -/
theorem drg_fillOld_depends_on_prior (S : EngineSim E α) (R : Nat) (seed : Bytes) (hs : seed.length = 32)
    (hR : Spec.ChaCha.validRounds R) :
    ∃ c0 c1 c2 o1 o2, Drg.new E R seed = .ok c0 ∧ Drg.fill_bytesOld E R c0 [0xff] = .ok (c1, o1) ∧
      Drg.fill_bytesOld E R c0 [0x00] = .ok (c2, o2) ∧ o1 ≠ o2 := by
  obtain ⟨s0, h1, M, h3⟩ := chacha_opens S R seed (zeros 12) (Or.inr hs) rfl hR
  obtain ⟨c1, e1⟩ := fillOld_spec M.gen _ 0 h3 [0xff]
  obtain ⟨c2, e2⟩ := fillOld_spec M.gen _ 0 h3 [0x00]
  refine ⟨_, c1, c2, _, _, by simp [Drg.new, hs, h1], e1, e2, ?_⟩
  intro heq
  have := congrArg (encrypt (Spec.ChaCha.blockAt R seed (zeros 12)) 0) heq
  rw [encrypt_invol, encrypt_invol] at this
  exact absurd this (by decide)

end Cx.Props.C04
