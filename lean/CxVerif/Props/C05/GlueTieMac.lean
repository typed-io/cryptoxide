/-
  Props.C05.GlueTieMac — the translator tie for the STATEFUL GLUE of the MAC objects.

  `Extracted/GlueMac.lean` is regenerated from /repo/src/poly1305.rs, /repo/src/hmac.rs and /repo/src/mac.rs on every
  run by tools/ktx_glue_mac.py (specs: tools/kernels/glue_mac.py): a statement-by-statement translation of
      Poly1305::new / block (choice of hibit) / finish (final partial block, 0x01 marker, `finalized`) and
      `impl Mac for Poly1305` (input: staging buffer, top-up branch, whole-block loop, tail; reset; raw_result; result;
      output_bytes),
      derive_key / expand_key / create_keys / Hmac::new and `impl Mac for Hmac<D>`,
      MacResult (structure generated from the declaration), MacResult::new / new_from_owned / code / eq.
  The theorems below, re-checked by the kernel on every build, say that the hand models of Impl/Poly1305.lean,
  Impl/Hmac.lean and Impl/ConstantTime.lean (`macResultEq`) — about which C05–C10 are proved — compute exactly what
  the source says NOW, for ALL states satisfying the stated data-structure invariant and ALL inputs of every length.
  A semantic change of the glue (an offset, a flag, a split point, a comparison, a loop bound) changes the generated
  definition and breaks one of these proofs even when no sampled input reaches it.

  Invariants / abstractions (each explicit in the statement):
    * `st.buffer.length = 16`: the Rust field is `buffer: [u8; 16]` (the translator takes the 16 of its bounds checks from
      that declaration; the model uses `buffer.length`); established by `new`, preserved by every operation (`wf_*`);
    * out-parameters: the model's `raw_result` takes `output.len()` and answers the first 16 bytes; the source-level
      function takes and returns the whole `output` — related by `withRest` (tag ++ untouched rest);
    * `result()` returns a `MacResult` whose `code` is the model's byte string (`asMacResult`, `asMacResultO`);
    * HMAC is generic in the digest: `ResultLen D` (a `&mut [u8]` handed to `Digest::result` keeps its length) is the one
      fact about the dictionary `D : DigestModel δ` that is needed; the wrapper digests satisfy it (`legacy_resultLen`);
    * the `while` loop of `input` runs on fuel `m.len() + 1`: `input_loop_fuel_adequate` shows the loop ends because its
      condition is false, never because the fuel ran out.
-/
import CxVerif.Proofs.GlueMac
import CxVerif.Props.C05.Poly1305
import CxVerif.Proofs.MacHmac
namespace Cx.Props.C05.GlueTieMac
open Cx.Impl.Poly1305 Cx.Extracted.GlueMac Cx.Proofs.GlueMac

/-! ## src/poly1305.rs -/

/-- `Poly1305::new` (clamp, limb split, pad words, empty buffer) -/
theorem new_src_eq_model (key : Bytes) : Poly1305.new_src key = new key := rfl

/-- `Poly1305::block`: hibit from the `finalized` flag, then the limb kernel (KernelTie), `h` stored -/
theorem block_src_eq_model (st : State) (m : Bytes) : Poly1305.block_src st m = block st m := block_src_eq st m

/-- `Poly1305::finish`: the final partial block (0x01 marker, zero fill, `finalized` before `block`), `finalized` set in BOTH
    branches, then the limb kernel -/
theorem finish_src_eq_model (st : State) (hb : st.buffer.length = 16) :
    Poly1305.finish_src st = finish codeVariant st := finish_src_eq st hb

/-- `input`: `assert!(!finalized)`, the top-up of a partial staging buffer (`want = min(16 - leftover, len)`, copy, split at
    `want`, early return, flush), the whole-block loop, the tail copy and `leftover` — for every state and every `data` -/
theorem input_src_eq_model (st : State) (data : Bytes) (hb : st.buffer.length = 16) :
    Poly1305.input_src st data = input st data := input_src_eq st data hb

/-- the pieces of `input` separately: whole-block loop = `blocks`, continuation = `inputTail` (the top-up loop = `copyInto` is
    `Proofs.GlueMac.input_loop2_eq`, used inside `input_src_eq`) -/
theorem input_loop_src_eq_model (fuel : Nat) (st : State) (m : Bytes) (hf : m.length ≤ fuel) :
    Poly1305.input_loop1_src (fuel + 1) st m = blocks fuel st m := input_loop1_eq fuel st m hf

/-- running out of fuel is a FAILURE of the generated loop, never a success value -/
theorem input_loop_src_fuel_exhausted (st : State) (m : Bytes) :
    Poly1305.input_loop1_src 0 st m = .error .diverge := rfl

theorem input_tail_src_eq_model (st : State) (m : Bytes) (hb : st.buffer.length = 16) :
    Poly1305.input_k1_src st m = inputTail st m := input_k1_eq st m hb

/-- fuel adequacy of the `while m.len() >= 16` loop: started with the fuel the generated code passes (`m.len() + 1`) it never ends in
    `.diverge`, and when it returns it stops with fewer than 16 bytes left -/
theorem input_loop_fuel_adequate (st st' : State) (m m' : Bytes)
    (h : Poly1305.input_loop1_src (m.length + 1) st m = .ok (st', m')) : m'.length < 16 := by
  rw [input_loop1_eq m.length st m (Nat.le_refl _)] at h
  exact blocks_exit m.length st st' m m' (Nat.le_refl _) h

theorem input_loop_never_diverges (st : State) (m : Bytes) :
    Poly1305.input_loop1_src (m.length + 1) st m ≠ .error .diverge := by
  rw [input_loop1_eq m.length st m (Nat.le_refl _)]
  exact blocks_ne_diverge m.length st m

theorem reset_src_eq_model (st : State) : Poly1305.reset_src st = reset st := rfl

/-- `raw_result(&mut output)`: the assertion on `output.len()`, `finish` unless already finalized, the four stores; the
    bytes of `output` beyond the first 16 are untouched -/
theorem raw_result_src_eq_model (st : State) (output : Bytes) (hb : st.buffer.length = 16) :
    Poly1305.raw_result_src st output = withRest output (raw_result codeVariant st output.length) :=
  raw_result_src_eq st output hb

/-- `result()`: a 16-byte buffer through `raw_result`, wrapped by `MacResult::new` -/
theorem result_src_eq_model (st : State) (hb : st.buffer.length = 16) :
    Poly1305.result_src st = asMacResult (result codeVariant st) := by
  show Poly1305.result_src st = asMacResult (result .repaired st)
  unfold Poly1305.result_src result asMacResult
  simp only [raw_result_src_eq _ _ hb]
  have hz : (zeros 16).length = 16 := by simp [zeros]
  rw [hz]
  unfold withRest
  cases raw_result .repaired st 16 with
  | error e => rfl
  | ok p =>
    obtain ⟨st', tag⟩ := p
    have : (zeros 16).drop 16 = [] := by simp [zeros]
    simp only [this, List.append_nil]
    rfl

theorem output_bytes_src_eq_model (st : State) : Poly1305.output_bytes_src st = output_bytes st := rfl

theorem wf_new (key : Bytes) : (new key).buffer.length = 16 := new_wf key

theorem wf_preserved (st : State) (hb : st.buffer.length = 16) :
    (reset st).buffer.length = 16 ∧
    (∀ data st', input st data = .ok st' → st'.buffer.length = 16) ∧
    (∀ v n st' tag, raw_result v st n = .ok (st', tag) → st'.buffer.length = 16) ∧
    (∀ v st' tag, result v st = .ok (st', tag) → st'.buffer.length = 16) :=
  ⟨hb, fun _ _ h => input_wf hb h, fun _ _ _ _ h => raw_result_wf hb h,
    fun _ _ _ h => raw_result_wf hb h⟩

/-- the hypothesis is met by a non-trivial state: a fresh object after absorbing 21 bytes -/
example : ∃ st, input (new (zeros 32)) (zeros 21) = .ok st ∧ st.buffer.length = 16 ∧ st.leftover = 5 := by
  refine ⟨_, rfl, ?_, ?_⟩ <;> decide

/-- **End to end, through the GENERATED functions only**: for ALL keys, ALL messages, ALL splits into `input` calls and
    every output buffer of at least 16 bytes, the object API as the source says it now (`Poly1305::new`, one `input` per
    chunk, `raw_result(&mut output)`) does not panic and writes the RFC 8439 tag of the concatenated message into
    `output[..16]`, leaving the rest of `output` untouched.  (The hand model is only the intermediate of the proof:
    tie theorems above + `Props.C05.poly1305_mac_eq_spec`.) -/
theorem poly1305_src_mac_eq_spec (key : Bytes) (chunks : List Bytes) (output : Bytes) (ho : 16 ≤ output.length) :
    macSrc key chunks output = .ok (Spec.Poly1305.mac key chunks.flatten ++ output.drop 16) := by
  -- the generated run is the model's `mac` followed by the untouched rest of `output`
  have macSrc_eq : macSrc key chunks output =
      match Impl.Poly1305.mac .repaired key chunks with
      | .error e => .error e
      | .ok tag => .ok (tag ++ output.drop 16) := by
    unfold macSrc Impl.Poly1305.mac
    have hn : Poly1305.new_src key = new key := rfl
    rw [hn, inputsSrc_eq chunks (new key) (new_wf key)]
    cases hi : inputs (new key) chunks with
    | error e => rfl
    | ok st =>
      have hb : st.buffer.length = 16 := inputs_wf chunks _ _ (new_wf key) hi
      simp only [raw_result_src_eq st output hb, raw_result_len _ st _ ho]
      unfold withRest
      cases raw_result .repaired st 16 with
      | error e => rfl
      | ok p => obtain ⟨s, t⟩ := p; rfl
  rw [macSrc_eq, Cx.Props.C05.poly1305_mac_eq_spec]

/-- the hypothesis is met, e.g., by the 16-byte buffer of `result()` -/
example : 16 ≤ (zeros 16).length := by decide

/-! ## src/mac.rs -/

theorem MacResult_new_src_eq_model (code : Bytes) : (MacResult.new_src code).code = code := rfl
theorem MacResult_new_from_owned_src_eq_model (code : Bytes) : (MacResult.new_from_owned_src code).code = code := rfl
theorem MacResult_code_src_eq_model (r : MacResult) : MacResult.code_src r = r.code := rfl

/-- `impl PartialEq for MacResult`: the length test, then the constant-time comparison (which cannot hit its own
    `assert_eq!` on the lengths) -/
theorem MacResult_eq_src_eq_model (a b : MacResult) :
    MacResult.eq_src a b = some (Impl.CT.macResultEq a.code b.code) := by
  unfold MacResult.eq_src MacResult.code_src Impl.CT.macResultEq Impl.CT.slice_u8_ct_eq
  by_cases h : a.code.length = b.code.length
  · simp only [if_pos h]
  · simp only [if_neg h]

/-! ## src/hmac.rs -/

section hmac
open Cx.Impl.Digest Cx.Impl.Hmac
variable {δ : Type} (D : DigestModel δ)

theorem derive_key_src_eq_model (key : Bytes) (mask : UInt8) : Hmac.derive_key_src D key mask = derive_key key mask :=
  hmac_derive_key_eq D key mask

/-- `expand_key`: `key.len() <= block_size` → zero padded copy; otherwise hashed into the front of the zero block -/
theorem expand_key_src_eq_model (hD : ResultLen D) (digest : δ) (key : Bytes) :
    Hmac.expand_key_src D digest key = expand_key D digest key :=
  hmac_expand_key_eq_at D digest key fun _ d1 _ => hD d1

theorem create_keys_src_eq_model (hD : ResultLen D) (digest : δ) (key : Bytes) :
    Hmac.create_keys_src D digest key = create_keys D digest key :=
  hmac_create_keys_eq_at D digest key fun _ d1 _ => hD d1

theorem hmac_new_src_eq_model (hD : ResultLen D) (digest : δ) (key : Bytes) :
    Hmac.new_src D digest key = Hmac.new D digest key := hmac_new_eq D hD digest key

theorem hmac_input_src_eq_model (self : Hmac δ) (data : Bytes) :
    Hmac.input_src D self data = Hmac.input D self data := hmac_input_eq D self data

theorem hmac_reset_src_eq_model (self : Hmac δ) : Hmac.reset_src D self = Hmac.reset D self := by
  unfold Hmac.reset_src Hmac.reset
  cases D.reset self.digest with
  | none => rfl
  | some d => rfl

theorem hmac_raw_result_src_eq_model (hD : ResultLen D) (self : Hmac δ) (output : Bytes) :
    Hmac.raw_result_src D self output = Hmac.raw_result D self output.length :=
  hmac_raw_result_eq_at D self output (hD _)

theorem hmac_result_src_eq_model (hD : ResultLen D) (self : Hmac δ) :
    Hmac.result_src D self = asMacResultO (Hmac.result D self) := hmac_result_eq D hD self

theorem hmac_output_bytes_src_eq_model (self : Hmac δ) :
    Hmac.output_bytes_src D self = Hmac.output_bytes D self := hmac_output_bytes_eq D self

/-- **End to end, through the GENERATED functions only** (generic in the digest): if the digest object satisfies the
    digest-object contract of Proofs.MacObj for the hash function `H` (block size `B`, output `L ≤ B` bytes), then
    `Hmac::new(d0, key)`, one `input` per chunk, `result()` — as the source says them now — return the RFC 2104
    `HMAC_H(key, concatenation)` for EVERY key length and EVERY chunking.  Both hypotheses on `D` are discharged for the 16
    macro-generated digest wrappers: the contract in Props/C08/Hmac.lean (`hmac_legacy`, `hmac_sha256`, …), `ResultLen` by
    `legacy_resultLen` (examples below). -/
theorem hmac_src_rfc2104 (hL : ResultLen D) (H : Proofs.MacObj.Fn) (B : Nat) (key : Bytes)
    (RelD : δ → Proofs.MacObj.Fn → Bytes → Prop) (FinD : δ → Proofs.MacObj.Fn → Prop)
    {L bits : Nat} {okD : Proofs.MacObj.Fn → Bytes → Prop}
    (hD : Proofs.MacObj.Contract (digestFam D) L [L, bits, B] (fun _ => none) okD RelD FinD) (hLB : L ≤ B)
    (d0 : δ) (h0 : RelD d0 H []) (chunks : List Bytes) (hk : key.length ≤ B ∨ okD H key)
    (hok : Proofs.MacHmac.okH H B key okD (Spec.Hmac.hmac H B key) chunks.flatten) :
    ∃ h h' h'', Hmac.new_src D d0 key = some h ∧ chunks.foldlM (Hmac.input_src D) h = some h' ∧
      Hmac.result_src D h' = some (h'', ⟨Spec.Hmac.hmac H B key chunks.flatten⟩) := by
  obtain ⟨h, h', h'', e1, e2, e3, _⟩ :=
    Proofs.MacHmac.hmac_rfc2104 D H B key RelD FinD hD hLB d0 h0 chunks hk hok
  refine ⟨h, h', h'', ?_, ?_, ?_⟩
  · rw [hmac_new_eq D hL]; exact e1
  · exact e2
  · rw [hmac_result_eq D hL, e3]; rfl

/-- the hypothesis `ResultLen` holds for the digest objects HMAC is used with (all 16 macro-generated wrappers) -/
example : ResultLen (legacyDigest sha256Ctx) := legacy_resultLen _
example : ResultLen (legacyDigest sha3_512Ctx) := legacy_resultLen _

end hmac

end Cx.Props.C05.GlueTieMac
