/-
  Props.C05.KernelTie — the translator tie for the Poly1305 limb kernels.
  `Extracted/KernelsPoly1305.lean` is regenerated from /repo/src/poly1305.rs on every run by
  tools/kernel_translate.py (a statement-by-statement translation of `fn block` and `fn finish`).
  These theorems, re-checked by the kernel on every build, say that the hand-written arithmetic models
  `blockArith` / `finishArith` (about which the C05 refinement theorems are proved) compute exactly what the
  source says now, for ALL limb values — so a changed carry, mask, shift or constant in the source breaks a proof
  obligation even when no sampled input reaches it.
-/
import CxVerif.Extracted.KernelsPoly1305
namespace Cx.Props.C05
open Cx Cx.Impl.Poly1305 Cx.Extracted.KernelsPoly1305

theorem block_src_eq_model (r h : L5) (m : Bytes) (hibit : Nat) :
    block_src r h m hibit = (blockArith r h (loadBlock m hibit)).out := by
  rfl

/-- `fn finish` from `// fully carry h` on -/
theorem finish_src_eq_model (h : L5) (pad : L4) :
    finish_src h pad = (finishArith h pad).out := by
  rfl

end Cx.Props.C05
