/-
  Props.C05.Poly1305 — C05: "Poly1305 returns the specified tag for every key and message".

  Spec = RFC 8439 §2.5 on Nat (Spec/Poly1305.lean). Impl = the u32/u64 limb code of src/poly1305.rs
  (Impl/Poly1305.lean), every checked operation guarded, so each theorem below also states that the checked
  build does not panic (the overflow-freedom part of C20 for this file).
-/
import CxVerif.Proofs.Poly1305Stream
import CxVerif.Extracted.Poly1305
namespace Cx.Props.C05
open Cx Cx.Impl.Poly1305 Cx.Proofs.Poly1305
open Cx.Spec.Poly1305 (p)

/-- For EVERY key (clamped or not) the five `r` limbs are the 26-bit split of
    `le(key[0..16]) & 0x0ffffffc0ffffffc0ffffffc0fffffff`, they obey the mask bounds `RInv`, `val r` is the clamped
    `r` of RFC 8439, and `pad` holds `s = le(key[16..32])` as four u32. -/
theorem new_clamps_and_splits (key : Bytes) :
    ((new key).r.l0 = Spec.Poly1305.rOf key % 2^26 ∧
     (new key).r.l1 = (Spec.Poly1305.rOf key / 2^26) % 2^26 ∧
     (new key).r.l2 = (Spec.Poly1305.rOf key / 2^52) % 2^26 ∧
     (new key).r.l3 = (Spec.Poly1305.rOf key / 2^78) % 2^26 ∧
     (new key).r.l4 = Spec.Poly1305.rOf key / 2^104) ∧
    RInv (new key).r ∧ val (new key).r = Spec.Poly1305.rOf key ∧
    PadInv (new key).pad ∧ val4 (new key).pad = Spec.Poly1305.sOf key :=
  new_spec key

/-- the constants of `new`/`block`/`finish` re-extracted from src/poly1305.rs on every run are the ones the
    model uses (offsets, shifts, masks of the limb loads; hibit; the `* 5`; carry shift and mask; `1 << 26`;
    the packing shifts) -/
theorem extracted_constants :
    Cx.Extracted.Poly1305.R_LOADS = [[0, 0, 0x3ffffff], [3, 2, 0x3ffff03], [6, 4, 0x3ffc0ff], [9, 6, 0x3f03fff], [12, 8, 0x00fffff]] ∧
    Cx.Extracted.Poly1305.PAD_OFFSETS = [16, 20, 24, 28] ∧
    Cx.Extracted.Poly1305.M_LOADS = [[0, 0, 0x3ffffff], [3, 2, 0x3ffffff], [6, 4, 0x3ffffff], [9, 6, 0x3ffffff], [12, 8, -1]] ∧
    Cx.Extracted.Poly1305.HIBIT = [0, 0x1000000] ∧
    Cx.Extracted.Poly1305.S_MULT = [5, 5, 5, 5] ∧
    Cx.Extracted.Poly1305.CARRY = [[26], [0x3ffffff], [5]] ∧
    Cx.Extracted.Poly1305.FINISH = [[6, 12, 18, 26], [0x3ffffff, 0xffffffff], [5], [5], [0x4000000], [31],
      [0, 26, 6, 20, 12, 14, 18, 8]] := by
  decide

def limbOf (m : Bytes) : List Int → Nat
  | [off, sh, mask] => (rd32 m off.toNat >>> sh.toNat) &&& mask.toNat
  | _ => 0

/-- `new` computes its limbs with exactly the (offset, shift, mask) triples found in the source -/
theorem new_uses_extracted (key : Bytes) :
    [(new key).r.l0, (new key).r.l1, (new key).r.l2, (new key).r.l3, (new key).r.l4]
      = Cx.Extracted.Poly1305.R_LOADS.map (limbOf key) ∧
    [(new key).pad.w0, (new key).pad.w1, (new key).pad.w2, (new key).pad.w3]
      = Cx.Extracted.Poly1305.PAD_OFFSETS.map (fun o => rd32 key o.toNat) := by
  constructor <;> rfl

/-- **block arithmetic.** Under the TRUE limb bounds — `r` within the clamp masks, accumulator limbs
    `h0,h2,h3,h4 < 2^26`, `h1 < 2^26 + 64`, message limbs `< 2^26` (`t4 < 2^25` with the hibit) — none of the
    21 checked u32/u64 operations of `block` overflows, the output satisfies the accumulator invariant again, and
    `val h' ≡ (val h + val t) · val r (mod 2^130 − 5)`. -/
theorem block_arith (r h t : L5) (hr : RInv r) (hh : Inv h) (ht : TInv t) :
    (blockArith r h t).Ok ∧ Inv (blockArith r h t).out ∧
    val (blockArith r h t).out % p = ((val h + val t) * val r) % p :=
  blockArith_spec r h t hr hh ht

/-- non-vacuity: the bounds are met by the all-maximal limbs (r = the clamp mask, h at the top of the invariant,
    t = ff…ff with hibit), and the theorem's conclusion is then a concrete computation -/
example : RInv ⟨0x3ffffff, 0x3ffff03, 0x3ffc0ff, 0x3f03fff, 0x00fffff⟩ ∧
    Inv ⟨0x3ffffff, 0x3ffffff + 64, 0x3ffffff, 0x3ffffff, 0x3ffffff⟩ ∧
    TInv ⟨0x3ffffff, 0x3ffffff, 0x3ffffff, 0x3ffffff, 0x1ffffff⟩ := by decide

/-- the bound on `h1` cannot be dropped: with `h1` near 2^32 the checked build panics (so `Inv` is needed) -/
example : ¬ (blockArith ⟨0x3ffffff, 0x3ffff03, 0x3ffc0ff, 0x3f03fff, 0x00fffff⟩ ⟨0, 0xffffffff, 0, 0, 0⟩
    ⟨0x3ffffff, 0x3ffffff, 0x3ffffff, 0x3ffffff, 0x1ffffff⟩).Ok := by decide

/-- **block on states**: with a clamped `r`, an accumulator inside the invariant and a 16-byte slice, `block`
    does not panic, changes only `h`, keeps the invariant, and
    `val h' ≡ (val h + le(m) + hibit·2^128) · r (mod 2^130 − 5)` where hibit = 0 iff `finalized`. -/
theorem block_state (st : State) (m : Bytes) (hr : RInv st.r) (hh : Inv st.h) (hm : m.length = 16) :
    ∃ h', block st m = .ok { st with h := h' } ∧ Inv h' ∧
      val h' % p = ((val st.h + (leNat m + (if st.finalized then 0 else 2 ^ 128))) * val st.r) % p :=
  block_spec st m hr hh hm

example : RInv (new (List.replicate 32 0xff)).r ∧ Inv (new (List.replicate 32 0xff)).h ∧
    (List.replicate 16 (0xff : UInt8)).length = 16 := by decide

/-- **finish arithmetic.** For EVERY accumulator satisfying the invariant — including all values in
    `[2^130 − 5, 2^130)` and the non-canonical `h1 ≥ 2^26` — none of the 10 checked operations overflows and the four
    output words are `((val h mod (2^130 − 5)) + pad) mod 2^128` (full carry, `g = h + 5 − 2^130`, mask select,
    packing, 128-bit addition). -/
theorem finish_arith (h : L5) (pad : L4) (hh : Inv h) (hp : PadInv pad) :
    (finishArith h pad).Ok ∧
    (finishArith h pad).out.w0 < 2^32 ∧ (finishArith h pad).out.w1 < 2^32 ∧
    (finishArith h pad).out.w2 < 2^32 ∧ (finishArith h pad).out.w3 < 2^32 ∧
    val4 (finishArith h pad).out = (val h % p + val4 pad) % 2^128 :=
  finishArith_spec h pad hh hp

/-- non-vacuity at the wrap-around: `h = 2^130 − 1 ∈ [p, 2^130)` satisfies the invariant; the result is 4 -/
example : Inv ⟨0x3ffffff, 0x3ffffff, 0x3ffffff, 0x3ffffff, 0x3ffffff⟩ ∧ PadInv ⟨0, 0, 0, 0⟩ ∧
    p ≤ val ⟨0x3ffffff, 0x3ffffff, 0x3ffffff, 0x3ffffff, 0x3ffffff⟩ ∧
    (finishArith ⟨0x3ffffff, 0x3ffffff, 0x3ffffff, 0x3ffffff, 0x3ffffff⟩ ⟨0, 0, 0, 0⟩).out = ⟨4, 0, 0, 0⟩ := by decide

/-- `finish` on states: no panic, the RFC tag of the whole message in `h[0..4]`; the last partial block gets the
    0x01 marker and no hibit; `finalized` afterwards = (a partial block was pending) ∨ repaired variant. -/
theorem finish_state (v : Variant) (key : Bytes) (st : State) (msg : Bytes) (h : Absorbing key st msg) :
    ∃ st', finish v st = .ok st' ∧ Static key st' ∧ tagBytes st'.h = Spec.Poly1305.mac key msg ∧
      st'.finalized = (decide (st.leftover > 0) || decide (v = .repaired)) :=
  finish_spec v key st msg h

/-- **any split yields the same block sequence.** `Absorbing key st msg` says: `st` has processed a whole number
    of 16-byte blocks `pre` of `msg` (accumulator ≡ the RFC polynomial of `pre`), the rest of `msg` (< 16 bytes) is
    staged in `buffer[..leftover]`. One `input` call — whatever is staged, whatever the length of `data`, empty
    included — does not panic and leads to `Absorbing key st' (msg ++ data)`. -/
theorem input_any_split (key : Bytes) (st : State) (msg data : Bytes) (h : Absorbing key st msg) :
    ∃ st', input st data = .ok st' ∧ Absorbing key st' (msg ++ data) :=
  input_spec key st msg data h

example (key : Bytes) : Absorbing key (new key) [] := new_absorbing key

theorem chunking_irrelevant (v : Variant) (key : Bytes) (c1 c2 : List Bytes) (h : c1.flatten = c2.flatten) :
    Impl.Poly1305.mac v key c1 = Impl.Poly1305.mac v key c2 := by
  rw [mac_eq, mac_eq, h]

/-- **C05.** For ALL keys, ALL messages and ALL splits into `input` calls (empty pieces, partial-then-partial, …),
    in BOTH variants of `finish`, `new; input…; raw_result` does not panic (no overflow in a checked build, no
    failed assert, no index out of range) and returns exactly the RFC 8439 tag of the concatenated message. -/
theorem poly1305_mac_eq_spec (v : Variant) (key : Bytes) (chunks : List Bytes) :
    Impl.Poly1305.mac v key chunks = .ok (Spec.Poly1305.mac key chunks.flatten) :=
  mac_eq v key chunks

/-- the same for the code as it is now; the key length (32 by the type of `Poly1305::new`) plays no part -/
theorem mac_eq_codeVariant (key : Bytes) (chunks : List Bytes) (_hk : key.length = 32) :
    Impl.Poly1305.mac codeVariant key chunks = .ok (Spec.Poly1305.mac key chunks.flatten) :=
  mac_eq codeVariant key chunks

/-- RFC 8439 §2.5.2 vector evaluated by the kernel on the Spec -/
example : Spec.Poly1305.mac
    [0x85, 0xd6, 0xbe, 0x78, 0x57, 0x55, 0x6d, 0x33, 0x7f, 0x44, 0x52, 0xfe, 0x42, 0xd5, 0x06, 0xa8,
     0x01, 0x03, 0x80, 0x8a, 0xfb, 0x0d, 0xb2, 0xfd, 0x4a, 0xbf, 0xf6, 0xaf, 0x41, 0x49, 0xf5, 0x1b]
    "Cryptographic Forum Research Group".toUTF8.toList
    = [0xa8, 0x06, 0x1d, 0xc1, 0x30, 0x51, 0x36, 0xc6, 0xc2, 0x2b, 0x8b, 0xaf, 0x0c, 0x01, 0x27, 0xa9] := by
  decide +kernel

end Cx.Props.C05
