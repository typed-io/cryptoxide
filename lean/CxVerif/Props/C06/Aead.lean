/-
  Props.C06.Aead — ChaCha20-Poly1305 (src/chacha20poly1305.rs, model Impl.Aead) equals RFC 8439 §2.8 (Spec.Aead);
  decrypt inverts encrypt; one-shot = streamed for EVERY partition of the AAD and of the data, in place or buffer to
  buffer.

  The theorems `aead_*` have NO hypothesis beyond the domain guards: both engine models (`S : EngineSim E α`, instances
  `referenceSim` and `sse2Sim`), key lengths 16 and 32, 12-byte nonces, R ∈ {8, 12, 20} (`Spec.Aead.Valid`), all AAD /
  data lengths below 2^64 (the RFC's own limit; `aad_len`/`data_len` are u64 and `+=` is overflow-checked).  Each obtains
  the stream unit's refinement `D : CipherDeps E R key nonce At` (C04: the `ChaCha<R>` context refines the absolute
  keystream position) through `with_valid` / `with_cipher` and applies the lemmas of Proofs.Aead / AeadHist / AeadOneShot, which are
  stated for ANY engine, round count, key and nonce with such a `D` (`run_refines`, `runNew_encProg`, `runNew_decProg`,
  `oneshot_new`, `oneshot_encrypt`, `oneshot_decrypt`); being closed, the `aead_*` theorems also follow from one another.
-/
import CxVerif.Proofs.AeadOneShot
import CxVerif.Proofs.AeadDeps
namespace Cx.Props.C06.Aead
open Cx.Impl Cx.Impl.Aead Cx.Proofs.Aead
open Cx.Proofs.Stream (encrypt_length encrypt_invol)

variable {σ : Type}
variable {E : ChaCha.Engine σ} {R : Nat} {key nonce : Bytes} {At : StreamCtx.Ctx σ → Nat → Prop}

/-- `Context::new` keys Poly1305 with the first 32 bytes of the ChaCha block with counter 0 (RFC 8439 §2.6) and
    leaves the cipher at absolute keystream position 64 = start of block 1; both counters are 0 -/
theorem new_otk_block0_data_block1 (D : CipherDeps E R key nonce At) :
    ∃ c, Context.new E R key nonce = .ok c ∧
      c.mac = Poly1305.new ((Spec.ChaCha.block R key nonce 0).take 32) ∧
      At c.cipher 64 ∧ c.aad_len = 0 ∧ c.data_len = 0 := by
  obtain ⟨c, h1, h2, h3⟩ := new_inv D
  exact ⟨c, h1, h2, h3.cipher, h3.aad_len, h3.data_len⟩

/-- For every history of `add_data` / `to_encryption` / `to_decryption` / `encrypt` / `encrypt_mut` / `decrypt` /
    `decrypt_mut` calls that the API allows (abstract machine `absRun`: `a.aad` = concatenation of the `add_data`
    arguments, `a.ct` = concatenation of the ciphertext pieces), the model runs without panic, emits what the
    abstract machine emits, its Poly1305 object has absorbed exactly `aad ‖ pad16(aad) ‖ ct`, and `finalize_raw`
    completes this to `mac_data = aad ‖ pad16 ‖ ct ‖ pad16 ‖ le64|aad| ‖ le64|ct|` and returns its Poly1305 tag
    under the one-time key. -/
theorem mac_input_any_history (D : CipherDeps E R key nonce At) (ops : List Op) (a : AbsSt)
    (outs : List Out) (h : absRun R key nonce ⟨.aad, [], []⟩ ops = some (a, outs))
    (hph : a.phase = .enc ∨ a.phase = .dec) (hb : a.aad.length < 2 ^ 64 ∧ a.ct.length < 2 ^ 64) :
    ∃ c st, Context.new E R key nonce = .ok c ∧ run E R (.aad, c) ops = .ok (st, outs) ∧
      MacAbs (Spec.Aead.polyKeyGen R key nonce) st.2.mac (a.aad ++ Spec.Aead.pad16 a.aad ++ a.ct) ∧
      st.2.aad_len = a.aad.length ∧ st.2.data_len = a.ct.length ∧
      ∃ c', finalize_raw st.2 =
        .ok (c', Spec.Poly1305.mac (Spec.Aead.polyKeyGen R key nonce) (Spec.Aead.macData a.aad a.ct)) := by
  obtain ⟨c, hnew, hrel⟩ := new_rel D
  obtain ⟨st, hr, _, hinv⟩ := run_refines D ops (.aad, c) _ a outs hrel h hb
  have hinv' : CtxInv R key nonce At st.2 (a.aad ++ Spec.Aead.pad16 a.aad ++ a.ct) a.aad.length a.ct.length := by
    rcases hph with hp | hp <;> (rw [hp] at hinv; exact hinv)
  exact ⟨c, st, hnew, hr, hinv'.mac, hinv'.aad_len, hinv'.data_len, finalize_raw_inv st.2 a.aad a.ct hinv'⟩

theorem pad16_spec (x : Bytes) :
    (x.length % 16 = 0 → Spec.Aead.pad16 x = []) ∧ (x ++ Spec.Aead.pad16 x).length % 16 = 0 ∧
    (Spec.Aead.pad16 x).length < 16 ∧ ∀ b ∈ Spec.Aead.pad16 x, b = 0 := by
  refine ⟨fun h => by simp [Spec.Aead.pad16, h, zeros], padded_length x, by rw [pad16_length]; omega, ?_⟩
  intro b hb
  simp only [Spec.Aead.pad16, zeros, List.mem_replicate] at hb
  exact hb.2

/-- nothing is lost by cutting: the emitted pieces concatenate to the whole ciphertext -/
theorem streamed_pieces_concat (R : Nat) (key nonce aad : Bytes) (ps : List (Bytes × Bool)) :
    (cutAt (ps.map (·.1.length)) (Spec.Aead.encrypt R key nonce aad (ps.map (·.1)).flatten).1).flatten =
      (Spec.Aead.encrypt R key nonce aad (ps.map (·.1)).flatten).1 := by
  apply cutAt_flatten
  simp only [Spec.Aead.encrypt, cipher_length, List.length_flatten, List.map_map, Function.comp_def]

theorem spec_roundtrip (R : Nat) (key nonce aad pt : Bytes) :
    Spec.Aead.decrypt R key nonce aad (Spec.Aead.encrypt R key nonce aad pt).1
      (Spec.Aead.encrypt R key nonce aad pt).2 = some pt := by
  simp [Spec.Aead.decrypt, Spec.Aead.encrypt, cipher_invol]

section closed
open Cx.Proofs.ChaCha
variable {α : σ → W16}

theorem aead_new (S : EngineSim E α) (hk : Spec.ChaCha.validKey key) (hn : nonce.length = 12)
    (hR : Spec.ChaCha.validRounds R) :
    ∃ At, CipherDeps E R key nonce At ∧ ∃ c, Context.new E R key nonce = .ok c ∧
      c.mac = Poly1305.new ((Spec.ChaCha.block R key nonce 0).take 32) ∧
      At c.cipher 64 ∧ c.aad_len = 0 ∧ c.data_len = 0 :=
  with_cipher S hk hn hR fun At D => ⟨At, D, new_otk_block0_data_block1 D⟩

/-- **C06, streamed encryption = RFC 8439 for every partition**: for ANY lists of AAD pieces and data pieces (each
    piece buffer-to-buffer or in place, empty pieces and empty lists included) the calls emit the RFC ciphertext of
    the whole plaintext, cut at the call boundaries, and then the RFC tag of the whole (AAD, ciphertext). -/
theorem aead_streamed_encrypt (S : EngineSim E α) (as : List Bytes) (ps : List (Bytes × Bool))
    (hv : Spec.Aead.Valid R key nonce as.flatten (ps.map (·.1)).flatten) :
    runNew E R key nonce (encProg as ps) =
      .ok ((cutAt (ps.map (·.1.length)) (Spec.Aead.encrypt R key nonce as.flatten (ps.map (·.1)).flatten).1).map Out.bytes
           ++ [.bytes (Spec.Aead.encrypt R key nonce as.flatten (ps.map (·.1)).flatten).2]) :=
  with_valid hv S fun _ D => runNew_encProg D as ps hv.aad_lt hv.data_lt

/-- **C06, streamed decryption for every partition**: the calls emit the decryption of the whole ciphertext cut at
    the call boundaries, and the verdict is `true` exactly when the expected tag is the RFC tag of the whole
    (AAD, ciphertext). -/
theorem aead_streamed_decrypt (S : EngineSim E α) (as : List Bytes) (ps : List (Bytes × Bool))
    (t : Bytes) (ht : t.length = 16) (hv : Spec.Aead.Valid R key nonce as.flatten (ps.map (·.1)).flatten) :
    runNew E R key nonce (decProg as ps t) =
      .ok ((cutAt (ps.map (·.1.length)) (Spec.Aead.cipher R key nonce (ps.map (·.1)).flatten)).map Out.bytes
           ++ [.verdict (decide (t = Spec.Aead.tag R key nonce as.flatten (ps.map (·.1)).flatten))]) :=
  with_valid hv S fun _ D => runNew_decProg D as ps t ht hv.aad_lt hv.data_lt

/-- a fresh one-shot object, and what `encrypt` / `decrypt` answer on it -/
theorem oneshot (S : EngineSim E α) (aad : Bytes) (hk : Spec.ChaCha.validKey key) (hn : nonce.length = 12)
    (hR : Spec.ChaCha.validRounds R) (hA : aad.length < 2 ^ 64) :
    ∃ o, ChaChaPoly1305.new E R key nonce aad = .ok o ∧
      (∀ pt : Bytes, pt.length < 2 ^ 64 → ChaChaPoly1305.encrypt E R o pt pt.length 16 =
        .ok ({ o with finished := true }, Spec.Aead.cipher R key nonce pt,
             Spec.Aead.tag R key nonce aad (Spec.Aead.cipher R key nonce pt))) ∧
      (∀ ct tag : Bytes, ct.length < 2 ^ 64 → tag.length = 16 → ChaChaPoly1305.decrypt E R o ct ct.length tag =
        .ok ({ o with finished := true }, Spec.Aead.cipher R key nonce ct,
             decide (tag = Spec.Aead.tag R key nonce aad ct))) :=
  with_cipher S hk hn hR fun _ D => by
    obtain ⟨o, hnew, hfin, hinv⟩ := oneshot_new D aad hA
    exact ⟨o, hnew, fun pt => oneshot_encrypt D o aad pt hfin hinv,
      fun ct tag => oneshot_decrypt D o aad ct tag hfin hinv⟩

/-- **C06, one-shot encryption = RFC 8439** (`ChaChaPoly1305::new(key, nonce, aad).encrypt(pt, out, tag)`) -/
theorem aead_oneshot_encrypt (S : EngineSim E α) (aad pt : Bytes)
    (hv : Spec.Aead.Valid R key nonce aad pt) :
    ∃ o o', ChaChaPoly1305.new E R key nonce aad = .ok o ∧
      ChaChaPoly1305.encrypt E R o pt pt.length 16 =
        .ok (o', (Spec.Aead.encrypt R key nonce aad pt).1, (Spec.Aead.encrypt R key nonce aad pt).2) ∧
      o'.finished = true := by
  obtain ⟨o, hnew, henc, _⟩ := oneshot S aad hv.key hv.nonce hv.rounds hv.aad_lt
  exact ⟨o, _, hnew, henc pt hv.data_lt, rfl⟩

/-- **C06, one-shot decryption = RFC 8439**: the output buffer receives ct ⊕ keystream (whatever the verdict) and the
    verdict is `true` exactly when the tag is the RFC tag — `(output, verdict)` agree with `Spec.Aead.decrypt` -/
theorem aead_oneshot_decrypt (S : EngineSim E α) (aad ct tag : Bytes) (ht : tag.length = 16)
    (hv : Spec.Aead.Valid R key nonce aad ct) :
    ∃ o o' out v, ChaChaPoly1305.new E R key nonce aad = .ok o ∧
      ChaChaPoly1305.decrypt E R o ct ct.length tag = .ok (o', out, v) ∧ o'.finished = true ∧
      (if v then some out else none) = Spec.Aead.decrypt R key nonce aad ct tag := by
  obtain ⟨o, hnew, _, hdec⟩ := oneshot S aad hv.key hv.nonce hv.rounds hv.aad_lt
  refine ⟨o, _, _, _, hnew, hdec ct tag hv.data_lt ht, rfl, ?_⟩
  unfold Spec.Aead.decrypt
  by_cases h : tag = Spec.Aead.tag R key nonce aad ct <;> simp [h]

/-- **C06, one-shot = streamed**: whatever the partition of the same AAD and plaintext, the incremental interface
    emits the one-shot ciphertext cut at the call boundaries and the one-shot tag -/
theorem aead_oneshot_eq_streamed (S : EngineSim E α) (as : List Bytes) (ps : List (Bytes × Bool))
    (hv : Spec.Aead.Valid R key nonce as.flatten (ps.map (·.1)).flatten) :
    ∃ o o' ct tag, ChaChaPoly1305.new E R key nonce as.flatten = .ok o ∧
      ChaChaPoly1305.encrypt E R o (ps.map (·.1)).flatten (ps.map (·.1)).flatten.length 16 = .ok (o', ct, tag) ∧
      runNew E R key nonce (encProg as ps) = .ok ((cutAt (ps.map (·.1.length)) ct).map Out.bytes ++ [.bytes tag]) := by
  obtain ⟨o, o', h1, h2, _⟩ := aead_oneshot_encrypt S as.flatten (ps.map (·.1)).flatten hv
  exact ⟨o, o', _, _, h1, h2, aead_streamed_encrypt S as ps hv⟩

/-- **C06, decrypt (encrypt …) = (pt, true)**, one-shot: a fresh object with the same parameters decrypts what
    `encrypt` produced to the plaintext and reports success -/
theorem aead_oneshot_roundtrip (S : EngineSim E α) (aad pt : Bytes)
    (hv : Spec.Aead.Valid R key nonce aad pt) :
    ∃ o o1 ct tag o2, ChaChaPoly1305.new E R key nonce aad = .ok o ∧
      ChaChaPoly1305.encrypt E R o pt pt.length 16 = .ok (o1, ct, tag) ∧
      ChaChaPoly1305.decrypt E R o ct ct.length tag = .ok (o2, pt, true) := by
  obtain ⟨o, hnew, henc, hdec⟩ := oneshot S aad hv.key hv.nonce hv.rounds hv.aad_lt
  have hd := hdec (Spec.Aead.cipher R key nonce pt) (Spec.Aead.tag R key nonce aad (Spec.Aead.cipher R key nonce pt))
    (by rw [cipher_length]; exact hv.data_lt) (tag_length _ _ _ _ _)
  rw [cipher_invol, decide_eq_true rfl] at hd
  exact ⟨o, _, _, _, _, hnew, henc pt hv.data_lt, hd⟩

/-- **C06, decrypt (encrypt …) = (pt, true)**, streamed: decrypting the RFC ciphertext of `P`, cut in ANY way
    (independent of how it was cut when encrypting), with the RFC tag, emits `P` cut at those boundaries and `true` -/
theorem aead_streamed_roundtrip (S : EngineSim E α) (as : List Bytes) (pt : Bytes)
    (cs : List (Bytes × Bool)) (hcs : (cs.map (·.1)).flatten = (Spec.Aead.encrypt R key nonce as.flatten pt).1)
    (hv : Spec.Aead.Valid R key nonce as.flatten pt) :
    runNew E R key nonce (decProg as cs (Spec.Aead.encrypt R key nonce as.flatten pt).2) =
      .ok ((cutAt (cs.map (·.1.length)) pt).map Out.bytes ++ [.verdict true]) := by
  have hcs' : (cs.map (·.1)).flatten = Spec.Aead.cipher R key nonce pt := hcs
  rw [aead_streamed_decrypt S as cs (Spec.Aead.encrypt R key nonce as.flatten pt).2 (tag_length _ _ _ _ _)
    ⟨hv.rounds, hv.key, hv.nonce, hv.aad_lt, by rw [hcs', cipher_length]; exact hv.data_lt⟩, hcs', cipher_invol]
  simp [Spec.Aead.encrypt]

theorem aead_mac_input_any_history (S : EngineSim E α) (hk : Spec.ChaCha.validKey key)
    (hn : nonce.length = 12) (hR : Spec.ChaCha.validRounds R) (ops : List Op) (a : AbsSt)
    (outs : List Out) (h : absRun R key nonce ⟨.aad, [], []⟩ ops = some (a, outs))
    (hph : a.phase = .enc ∨ a.phase = .dec) (hb : a.aad.length < 2 ^ 64 ∧ a.ct.length < 2 ^ 64) :
    ∃ c st, Context.new E R key nonce = .ok c ∧ run E R (.aad, c) ops = .ok (st, outs) ∧
      MacAbs (Spec.Aead.polyKeyGen R key nonce) st.2.mac (a.aad ++ Spec.Aead.pad16 a.aad ++ a.ct) ∧
      st.2.aad_len = a.aad.length ∧ st.2.data_len = a.ct.length ∧
      ∃ c', finalize_raw st.2 =
        .ok (c', Spec.Poly1305.mac (Spec.Aead.polyKeyGen R key nonce) (Spec.Aead.macData a.aad a.ct)) :=
  with_cipher S hk hn hR fun _ D => mac_input_any_history D ops a outs h hph hb

end closed

section tests
def tKey : Bytes := (List.range 32).map (fun i => UInt8.ofNat (0x80 + i))
def tNonce : Bytes := [0x07, 0, 0, 0, 0x40, 0x41, 0x42, 0x43, 0x44, 0x45, 0x46, 0x47]
def tAad : Bytes := [0x50, 0x51, 0x52, 0x53, 0xc0, 0xc1, 0xc2, 0xc3, 0xc4, 0xc5, 0xc6, 0xc7]
def tPt : Bytes :=
  "Ladies and Gentlemen of the class of '99: If I could offer you only one tip for the future, sunscreen would be it.".toList.map
    (fun c => UInt8.ofNat c.toNat)
def tTag : Bytes := [0x1a, 0xe1, 0x0b, 0x59, 0x4f, 0x09, 0xe2, 0x6a, 0x7e, 0x90, 0x2e, 0xcb, 0xd0, 0x60, 0x06, 0x91]
def okEq (r : Except String (List Out)) (e : List Out) : Bool :=
  match r with
  | .ok outs => decide (outs = e)
  | .error _ => false

/-- the plaintext as bytes; decoding the string literal is by far the dearest step of evaluating anything that
    mentions `tPt`, so it is done once (on the literal cut in four: the kernel's decoding is superlinear in the
    length of a literal; at this length the cut saves about a quarter) -/
theorem tPt_bytes : tPt =
    [76, 97, 100, 105, 101, 115, 32, 97, 110, 100, 32, 71, 101, 110, 116, 108, 101, 109, 101, 110, 32, 111, 102,
    32, 116, 104, 101, 32, 99, 108, 97, 115, 115, 32, 111, 102, 32, 39, 57, 57, 58, 32, 73, 102, 32, 73, 32, 99,
    111, 117, 108, 100, 32, 111, 102, 102, 101, 114, 32, 121, 111, 117, 32, 111, 110, 108, 121, 32, 111, 110, 101,
    32, 116, 105, 112, 32, 102, 111, 114, 32, 116, 104, 101, 32, 102, 117, 116, 117, 114, 101, 44, 32, 115, 117,
    110, 115, 99, 114, 101, 101, 110, 32, 119, 111, 117, 108, 100, 32, 98, 101, 32, 105, 116, 46] := by
  have e : "Ladies and Gentlemen of the class of '99: If I could offer you only one tip for the future, sunscreen would be it."
      = "Ladies and Gentlemen of the class" ++ " of '99: If I could offer you " ++ "only one tip for the future, "
        ++ "sunscreen would be it." := by decide +kernel
  unfold tPt
  rw [e]
  simp only [String.toList_append, List.map_append]
  decide +kernel

/-- the hypotheses are satisfiable: both engine models, a valid RFC input (key 32), a 16-byte key -/
example : Cx.Proofs.ChaCha.EngineSim ChaCha.sse2Engine Cx.Proofs.ChaCha.toRef := Cx.Proofs.ChaCha.sse2Sim
example : Cx.Proofs.ChaCha.EngineSim ChaCha.referenceEngine id := Cx.Proofs.ChaCha.referenceSim
example : Spec.Aead.Valid 20 tKey tNonce tAad tPt := by rw [tPt_bytes]; decide +kernel
example : Spec.Aead.Valid 8 (tKey.take 16) tNonce [] [] := by decide +kernel
set_option maxRecDepth 100000 in
/-- an instance of what `Proofs.Poly1305.mac_eq` asserts (two chunks, the second one partial) -/
example : (match Poly1305.mac Poly1305.codeVariant tKey [tPt.take 37, tPt.drop 37] with
    | .ok t => decide (t = Spec.Poly1305.mac tKey tPt) | .error _ => false) = true := by rw [tPt_bytes]; decide +kernel
/-- a history that `absRun` allows, ending in the encryption phase (hypotheses of `mac_input_any_history`) -/
example : ∃ a outs, absRun 20 tKey tNonce ⟨.aad, [], []⟩ [.addData [1, 2], .toEnc, .encryptMut [3]] = some (a, outs) ∧
    a.phase = .enc ∧ a.aad = [1, 2] ∧ a.ct.length = 1 := ⟨_, _, rfl, rfl, rfl, by simp [encrypt_length, Spec.ChaCha.encrypt]⟩

theorem rfc8439_vector : (Spec.Aead.encryptFast 20 tKey tNonce tAad tPt).2 = tTag
    ∧ (Spec.Aead.encryptFast 20 tKey tNonce tAad tPt).1.take 4 = [0xd3, 0x1a, 0x8d, 0x34] := by rw [tPt_bytes]; decide +kernel
set_option maxRecDepth 100000 in
/-- TEST: the Spec reproduces the RFC 8439 §2.8.2 tag (and ciphertext prefix d3 1a 8d 34) -/
example : (Spec.Aead.encryptFast 20 tKey tNonce tAad tPt).2 = tTag
    ∧ (Spec.Aead.encryptFast 20 tKey tNonce tAad tPt).1.take 4 = [0xd3, 0x1a, 0x8d, 0x34] := rfc8439_vector
set_option maxRecDepth 100000 in
/-- TEST: the model, streamed over a 5+7 / 70+44 partition (buffer-to-buffer then in place), emits the Spec
    ciphertext cut at 70 and the RFC tag -/
example : okEq (runNew ChaCha.sse2Engine 20 tKey tNonce
      (encProg [tAad.take 5, tAad.drop 5] [(tPt.take 70, false), (tPt.drop 70, true)]))
    [.bytes ((Spec.Aead.encryptFast 20 tKey tNonce tAad tPt).1.take 70),
     .bytes ((Spec.Aead.encryptFast 20 tKey tNonce tAad tPt).1.drop 70), .bytes tTag] = true := by
  have hv : Spec.Aead.Valid 20 tKey tNonce tAad tPt := by rw [tPt_bytes]; decide +kernel
  refine with_valid hv Cx.Proofs.ChaCha.sse2Sim fun _ D => ?_
  have hn : tPt.length = 70 + 44 := by rw [tPt_bytes]; rfl
  have e0 : [tAad.take 5, tAad.drop 5].flatten = tAad := by decide
  have e1 : ([(tPt.take 70, false), (tPt.drop 70, true)].map (·.1)).flatten = tPt := by simp
  have c1 : [(tPt.take 70, false), (tPt.drop 70, true)].map (·.1.length) = [70, 44] := by simp [hn]
  have hl : (Spec.Aead.encryptFast 20 tKey tNonce tAad tPt).1.length = 70 + 44 := by
    simp only [encryptFast_eq, Spec.Aead.encrypt, cipher_length, hn]
  rw [runNew_encProg D _ _ (by rw [e0]; exact hv.aad_lt) (by rw [e1]; exact hv.data_lt), e0, e1, c1,
    ← encryptFast_eq, rfc8439_vector.1, cutAt_pair 70 44 _ hl]
  simp [okEq]
end tests

end Cx.Props.C06.Aead
