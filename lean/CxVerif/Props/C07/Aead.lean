/-
  Props.C07.Aead — AEAD decryption (src/chacha20poly1305.rs, model Impl.Aead) reports success IF AND ONLY IF the
  supplied 16-byte tag is the RFC 8439 tag of exactly (key, nonce, aad, ciphertext); the one-shot and the
  incremental interface give the same verdict; the MAC-input encoding is injective, so re-splitting, truncating or
  extending AAD / ciphertext changes the authenticated string; every one of the 128 single-bit changes of the tag is
  rejected.

  The theorems `aead_*` have no hypothesis beyond the domain guards (`Spec.Aead.Valid`: key lengths 16 and 32,
  12-byte nonces, R ∈ {8, 12, 20}, lengths below 2^64; `S : EngineSim E α`: both engine models).  The two verdict theorems obtain the stream
  unit's refinement through `with_valid` and apply `oneshot_decrypt` / `runNew_decProg` (Proofs.AeadOneShot, stated for
  any engine with a `CipherDeps`); the others are their corollaries.

  STATED LIMIT.  The clause of C07 "changing any bit of the ciphertext, AAD, nonce or key makes it report failure"
  is NOT a theorem about this (or any) Poly1305-based AEAD: it holds up to a Poly1305 collision only.  What is
  proved is the exact decision (`…_verdict_iff`): a modified input is accepted iff its RFC tag happens to equal the
  supplied one; for modified (aad, ct) under the same key/nonce that is (`aead_accept_modified_iff_collision`) a collision
  of Poly1305 under the one-time key on two DIFFERENT messages (different by `Proofs.Aead.macData_injective`), which for a
  uniformly random one-time key has probability ≤ 8⌈len/16⌉ / 2^106 — a cryptographic, not a logical, fact.  Those
  clauses are therefore SAMPLED by the correspondence run (tools/gens/aead.py gen_C07: bit flips of ct / aad / key /
  nonce, boundary moves, swapped lengths, pad confusion, truncation / extension), not proved.  The tag clause is
  proved exhaustively (`aead_tag_bitflip_rejected_*`, all 128 positions).
-/
import CxVerif.Proofs.AeadOneShot
import CxVerif.Proofs.AeadDeps
namespace Cx.Props.C07.Aead
open Cx.Impl Cx.Impl.Aead Cx.Proofs.Aead
open Cx.Proofs.Stream (encrypt_length)

variable {σ : Type}
variable {E : ChaCha.Engine σ} {R : Nat} {key nonce : Bytes}

/-- `impl PartialEq for Tag` (through `CtEqual for &[u8; 16]`, C18) is equality of all bytes -/
theorem tag_eq_all_bytes (a b : Bytes) (ha : a.length = 16) (hb : b.length = 16) :
    Tag.eq a b = true ↔ a = b := by
  rw [tag_eq_spec a b (by rw [ha, hb])]; simp

/-- a tag of another length is refused by the one-shot interface (the incremental `Tag([u8; 16])` cannot have one) -/
theorem oneshot_taglen_refused (o : ChaChaPoly1305 σ) (ct tag : Bytes) (n : Nat) (ht : tag.length ≠ 16) :
    ChaChaPoly1305.decrypt E R o ct n tag = .error "PANIC" :=
  oneshot_decrypt_refuses_lengths o ct n tag (Or.inr ht)

theorem any_change_changes_macData (aad ct aad' ct' : Bytes)
    (ha : aad.length < 2 ^ 64) (hc : ct.length < 2 ^ 64) (ha' : aad'.length < 2 ^ 64) (hc' : ct'.length < 2 ^ 64)
    (hne : aad ≠ aad' ∨ ct ≠ ct') : Spec.Aead.macData aad ct ≠ Spec.Aead.macData aad' ct' := by
  intro h
  obtain ⟨e1, e2⟩ := macData_injective aad ct aad' ct' ha hc ha' hc' h
  rcases hne with hne | hne
  · exact hne e1
  · exact hne e2

/-- truncating or extending the ciphertext or the AAD (any change of a length) changes the authenticated string -/
theorem length_change_changes_macData (aad ct aad' ct' : Bytes)
    (ha : aad.length < 2 ^ 64) (hc : ct.length < 2 ^ 64) (ha' : aad'.length < 2 ^ 64) (hc' : ct'.length < 2 ^ 64)
    (hne : aad.length ≠ aad'.length ∨ ct.length ≠ ct'.length) :
    Spec.Aead.macData aad ct ≠ Spec.Aead.macData aad' ct' :=
  any_change_changes_macData aad ct aad' ct' ha hc ha' hc'
    (hne.imp (mt (congrArg List.length)) (mt (congrArg List.length)))

set_option linter.unusedVariables false in
/-- re-splitting: moving bytes across the AAD / ciphertext boundary (same concatenation, different boundary)
    changes the authenticated string.  `hcat` only describes the situation meant (the same bytes, cut elsewhere); the
    conclusion needs `hne` alone. -/
theorem resplit_changes_macData (aad ct aad' ct' : Bytes)
    (ha : aad.length < 2 ^ 64) (hc : ct.length < 2 ^ 64) (ha' : aad'.length < 2 ^ 64) (hc' : ct'.length < 2 ^ 64)
    (hcat : aad ++ ct = aad' ++ ct') (hne : aad.length ≠ aad'.length) :
    Spec.Aead.macData aad ct ≠ Spec.Aead.macData aad' ct' :=
  length_change_changes_macData aad ct aad' ct' ha hc ha' hc' (Or.inl hne)

section closed
open Cx.Proofs.ChaCha
variable {α : σ → W16}

/-- **C07, one-shot**: `ChaChaPoly1305::new(key, nonce, aad).decrypt(ct, out, tag)` returns `true`
    iff `tag` is the RFC 8439 tag of (key, nonce, aad, ct) -/
theorem aead_oneshot_verdict_iff (S : EngineSim E α) (aad ct tag : Bytes) (ht : tag.length = 16)
    (hv : Spec.Aead.Valid R key nonce aad ct) :
    ∃ o o' out v, ChaChaPoly1305.new E R key nonce aad = .ok o ∧
      ChaChaPoly1305.decrypt E R o ct ct.length tag = .ok (o', out, v) ∧
      (v = true ↔ tag = Spec.Aead.tag R key nonce aad ct) :=
  with_valid hv S fun _ D => by
    obtain ⟨o, hnew, hfin, hinv⟩ := oneshot_new D aad hv.aad_lt
    exact ⟨o, _, _, _, hnew, oneshot_decrypt D o aad ct tag hfin hinv hv.data_lt ht, by simp⟩

/-- **C07, incremental**: for ANY partition of the AAD over `add_data` calls and of the ciphertext over `decrypt` /
    `decrypt_mut` calls, `finalize(&Tag t)` answers `Match` iff `t` is the RFC 8439 tag of the concatenations -/
theorem aead_incremental_verdict_iff (S : EngineSim E α) (as : List Bytes)
    (ps : List (Bytes × Bool)) (t : Bytes) (ht : t.length = 16)
    (hv : Spec.Aead.Valid R key nonce as.flatten (ps.map (·.1)).flatten) :
    ∃ outs v, runNew E R key nonce (decProg as ps t) = .ok (outs ++ [.verdict v]) ∧
      (v = true ↔ t = Spec.Aead.tag R key nonce as.flatten (ps.map (·.1)).flatten) :=
  with_valid hv S fun _ D =>
    ⟨_, _, runNew_decProg D as ps t ht hv.aad_lt hv.data_lt, by simp⟩

/-- two verdicts decided by the same condition are the same; one decided by a false condition is `false` -/
theorem verdict_eq {v v' : Bool} {P : Prop} (h : v = true ↔ P) (h' : v' = true ↔ P) : v = v' := by
  cases v <;> cases v' <;> simp_all
theorem verdict_false {v : Bool} {P : Prop} (h : v = true ↔ P) (hn : ¬ P) : v = false := by
  cases v
  · rfl
  · exact absurd (h.mp rfl) hn

/-- **C07, both interfaces give the same verdict** on the same (aad, ciphertext, tag), however the incremental
    calls split them -/
theorem aead_same_verdict (S : EngineSim E α) (as : List Bytes)
    (ps : List (Bytes × Bool)) (t : Bytes) (ht : t.length = 16)
    (hv : Spec.Aead.Valid R key nonce as.flatten (ps.map (·.1)).flatten) :
    ∃ o o' out outs v, ChaChaPoly1305.new E R key nonce as.flatten = .ok o ∧
      ChaChaPoly1305.decrypt E R o (ps.map (·.1)).flatten (ps.map (·.1)).flatten.length t = .ok (o', out, v) ∧
      runNew E R key nonce (decProg as ps t) = .ok (outs ++ [.verdict v]) := by
  obtain ⟨o, o', out, v, h1, h2, hv1⟩ := aead_oneshot_verdict_iff S as.flatten (ps.map (·.1)).flatten t ht hv
  obtain ⟨outs, v', h3, hv2⟩ := aead_incremental_verdict_iff S as ps t ht hv
  exact ⟨o, o', out, outs, v, h1, h2, verdict_eq hv1 hv2 ▸ h3⟩

/-- **C07, any tag other than the RFC tag is rejected** -/
theorem aead_wrong_tag_rejected (S : EngineSim E α) (aad ct tag : Bytes) (ht : tag.length = 16)
    (hv : Spec.Aead.Valid R key nonce aad ct) (hne : tag ≠ Spec.Aead.tag R key nonce aad ct) :
    ∃ o o' out, ChaChaPoly1305.new E R key nonce aad = .ok o ∧
      ChaChaPoly1305.decrypt E R o ct ct.length tag = .ok (o', out, false) := by
  obtain ⟨o, o', out, v, h1, h2, hv1⟩ := aead_oneshot_verdict_iff S aad ct tag ht hv
  exact ⟨o, o', out, h1, verdict_false hv1 hne ▸ h2⟩

/-- **C07, every one of the 128 tag bits**, one-shot: the valid tag with bit `i` flipped is rejected -/
theorem aead_tag_bitflip_rejected_oneshot (S : EngineSim E α) (aad ct : Bytes)
    (hv : Spec.Aead.Valid R key nonce aad ct) (i : Nat) (hi : i < 128) :
    ∃ o o' out, ChaChaPoly1305.new E R key nonce aad = .ok o ∧
      ChaChaPoly1305.decrypt E R o ct ct.length (flipBit (Spec.Aead.tag R key nonce aad ct) i) = .ok (o', out, false) :=
  aead_wrong_tag_rejected S aad ct _ (by rw [flipBit_length, tag_length]) hv
    (flipBit_ne _ i (by rw [tag_length]; omega))

/-- **C07, every one of the 128 tag bits**, incremental, any partition -/
theorem aead_tag_bitflip_rejected_incremental (S : EngineSim E α) (as : List Bytes)
    (ps : List (Bytes × Bool)) (hv : Spec.Aead.Valid R key nonce as.flatten (ps.map (·.1)).flatten)
    (i : Nat) (hi : i < 128) :
    ∃ outs, runNew E R key nonce
        (decProg as ps (flipBit (Spec.Aead.tag R key nonce as.flatten (ps.map (·.1)).flatten) i)) =
      .ok (outs ++ [.verdict false]) := by
  obtain ⟨outs, v, h1, hv1⟩ := aead_incremental_verdict_iff S as ps
    (flipBit (Spec.Aead.tag R key nonce as.flatten (ps.map (·.1)).flatten) i) (by rw [flipBit_length, tag_length]) hv
  exact ⟨outs, verdict_false hv1 (flipBit_ne _ i (by rw [tag_length]; omega)) ▸ h1⟩

/-- **C07, the stated limit**.  Let `tag` be the valid tag of (aad, ct).  A DIFFERENT pair (aad', ct') presented with
    that tag under the same key and nonce is accepted iff Poly1305 under the one-time key collides on the two
    authenticated strings — which are different strings (injectivity).  Rejection of every such modification is
    therefore exactly collision-freeness of Poly1305 for this one-time key on this pair: not a theorem (see the
    header), sampled. -/
theorem aead_accept_modified_iff_collision (S : EngineSim E α) (aad ct aad' ct' : Bytes)
    (hv : Spec.Aead.Valid R key nonce aad ct) (hv' : Spec.Aead.Valid R key nonce aad' ct')
    (hne : aad ≠ aad' ∨ ct ≠ ct') :
    Spec.Aead.macData aad ct ≠ Spec.Aead.macData aad' ct' ∧
    ∃ o o' out v, ChaChaPoly1305.new E R key nonce aad' = .ok o ∧
      ChaChaPoly1305.decrypt E R o ct' ct'.length (Spec.Aead.tag R key nonce aad ct) = .ok (o', out, v) ∧
      (v = true ↔ Spec.Poly1305.mac (Spec.Aead.polyKeyGen R key nonce) (Spec.Aead.macData aad ct) =
                  Spec.Poly1305.mac (Spec.Aead.polyKeyGen R key nonce) (Spec.Aead.macData aad' ct')) :=
  ⟨any_change_changes_macData aad ct aad' ct' hv.aad_lt hv.data_lt hv'.aad_lt hv'.data_lt hne,
    aead_oneshot_verdict_iff S aad' ct' _ (tag_length _ _ _ _ _) hv'⟩

end closed

section tests
def tKey : Bytes := (List.range 32).map (fun i => UInt8.ofNat (0x80 + i))
def tNonce : Bytes := [0x07, 0, 0, 0, 0x40, 0x41, 0x42, 0x43, 0x44, 0x45, 0x46, 0x47]
def tAad : Bytes := [0x50, 0x51, 0x52, 0x53, 0xc0, 0xc1, 0xc2, 0xc3, 0xc4, 0xc5, 0xc6, 0xc7]
def tCt : Bytes := [0xd3, 0x1a, 0x8d, 0x34, 0x64, 0x8e, 0x60, 0xdb, 0x7b, 0x86, 0xaf, 0xbc, 0x53, 0xef, 0x7e, 0xc2, 0xa4]
def okEq (r : Except String (List Out)) (e : List Out) : Bool :=
  match r with
  | .ok outs => decide (outs = e)
  | .error _ => false

/-- the hypotheses are satisfiable -/
example : Spec.Aead.Valid 20 tKey tNonce tAad tCt := by decide +kernel
example : (Spec.Aead.tag 20 tKey tNonce tAad tCt).length = 16 := tag_length _ _ _ _ _
/-- hypotheses of `resplit_changes_macData`: one byte moved from the ciphertext to the AAD -/
example : tAad ++ tCt = (tAad ++ tCt.take 1) ++ tCt.drop 1 ∧ tAad.length ≠ (tAad ++ tCt.take 1).length := by decide
/-- `flipBit` flips exactly the named bit -/
example : flipBit [0x00, 0xff, 0x10] 9 = [0x00, 0xfd, 0x10] := by decide
/-- the two padded strings of a "pad confusion" pair are equal, the MAC inputs are not (only the length word differs) -/
example : tAad ++ Spec.Aead.pad16 tAad = (tAad ++ [0, 0]) ++ Spec.Aead.pad16 (tAad ++ [0, 0])
    ∧ Spec.Aead.macData tAad tCt ≠ Spec.Aead.macData (tAad ++ [0, 0]) tCt := by decide

set_option maxRecDepth 100000 in
/-- TEST: on the model, incremental decryption of a 17-byte ciphertext in pieces 16+1 accepts the Spec tag and
    rejects the tag with bit 77 flipped -/
example : okEq (runNew ChaCha.sse2Engine 20 tKey tNonce
      (decProg [tAad] [(tCt.take 16, false), (tCt.drop 16, true)] (Spec.Aead.tag 20 tKey tNonce tAad tCt)))
    [.bytes ((Spec.Aead.cipherFast 20 tKey tNonce tCt).take 16), .bytes ((Spec.Aead.cipherFast 20 tKey tNonce tCt).drop 16),
     .verdict true] = true
  ∧ okEq (runNew ChaCha.sse2Engine 20 tKey tNonce
      (decProg [tAad] [(tCt, true)] (flipBit (Spec.Aead.tag 20 tKey tNonce tAad tCt) 77)))
    [.bytes (Spec.Aead.cipherFast 20 tKey tNonce tCt), .verdict false] = true := by
  have hv : Spec.Aead.Valid 20 tKey tNonce tAad tCt := by decide +kernel
  refine with_valid hv Cx.Proofs.ChaCha.sse2Sim fun _ D => ?_
  have e1 : ([(tCt.take 16, false), (tCt.drop 16, true)].map (·.1)).flatten = tCt := by decide
  have e2 : ([(tCt, true)].map (·.1)).flatten = tCt := by decide
  have e0 : [tAad].flatten = tAad := by decide
  rw [runNew_decProg D _ _ _ (tag_length _ _ _ _ _) (by decide) (by decide),
    runNew_decProg D _ _ _ (by rw [flipBit_length, tag_length]) (by decide) (by decide), e0, e1, e2]
  have hl : (Spec.Aead.cipherFast 20 tKey tNonce tCt).length = 16 + 1 := by
    rw [cipherFast_eq]; exact encrypt_length _ _ _
  have hne := flipBit_ne (Spec.Aead.tag 20 tKey tNonce tAad tCt) 77 (by rw [tag_length]; decide)
  rw [← cipherFast_eq]
  generalize Spec.Aead.cipherFast 20 tKey tNonce tCt = w at hl ⊢
  have c1 : [(tCt.take 16, false), (tCt.drop 16, true)].map (·.1.length) = [16, 1] := by decide
  have c2 : [(tCt, true)].map (·.1.length) = [17] := by decide
  rw [c1, c2, cutAt_pair 16 1 w hl]
  simp [okEq, cutAt, hne, List.take_of_length_le, hl]
end tests

end Cx.Props.C07.Aead
