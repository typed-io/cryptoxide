/-
  Props.C08 (unit mackdf) — HMAC equals RFC 2104 for every supported digest, key and message.

  * `hmac_generic`: for ANY digest type `D` whose object model satisfies the digest-object contract
    ("result after inputs = H(concatenation of the inputs since reset); reset = fresh; refuses after a result";
    `Proofs.MacObj.Contract` for `digestFam D`), `Hmac<D>` (Impl.Hmac, the model of src/hmac.rs) returns
        H((K' ⊕ opad) ‖ H((K' ⊕ ipad) ‖ message)),   K' = key zero-padded to B bytes, or H(key) zero-padded if |key| > B,
    for EVERY key (any length) and EVERY split of the message into `input` calls (any number of chunks, empty ones
    included), and reports `output_bytes()` = the digest size.  Induction over the chunk list; the key-length case
    split is `Proofs.MacHmac.hmac_new`.
  * `HmacCorrect M H B L ok`: the same statement for one legacy wrapper (`struct { ctx, computed }` over the context
    model `M`); proved for all 16 macro-generated wrappers from the hash units' context refinements
    (Props/C02: SHA-1, RIPEMD-160, SHA-224/256/384/512/512-224/512-256, SHA3-224/256/384/512, Keccak-224/256/384/512).
    Domain guards: the standards' own (`< 2^61` bytes for the 64-byte-block hashes, `< 2^125` for the 128-byte-block
    ones, none for the sponges), applied to the two strings HMAC hashes (and to the key when it is longer than B).
  * `legacy_sizes_table`: the `block_size()` / `output_bits()` the 16 wrappers report (re-extracted from /repo on every
    run) are the standard values: block 64 / 128 bytes (FIPS 180-4), rate (1600 − 2d)/8 = 144, 136, 104, 72 (FIPS 202),
    and each wrapper stores the context type of the function whose sizes it reports.
  BLAKE2b / BLAKE2s as `D` (the legacy wrappers of src/blake2b.rs / src/blake2s.rs used through `impl Digest`, fresh
  object `Blake2b::new(nn)` / `Blake2s::new(nn)`): Props/C08/HmacBlake2.lean.  `blake2b_digest_contract` /
  `blake2s_digest_contract` (from `blake2_digest_contract` of Proofs/MacInstBlake2.lean, i.e. the keyed-MAC contract of Proofs/MacBlake2.lean)
  are the digest-object contract for EVERY output length 1 ≤ nn ≤ 64 resp. 32 (L = nn, bits = 8·nn, B = 128 / 64, no
  length guard), and `hmac_blake2b`, `hmac_blake2s` instantiate `hmac_generic` with them: RFC 2104 with
  H = BLAKE2b-nn / BLAKE2s-nn for every key length and every chunking (`HmacCorrectObj`).
-/
import CxVerif.Proofs.MacInst
import CxVerif.Proofs.MacInstSha3
namespace Cx.Props.C08
open Cx.Impl.Digest Cx.Impl.Hmac Cx.Proofs.MacObj Cx.Proofs.MacHmac Cx.Proofs.MacLegacy

/-- **C08, generic over the digest object.**  `d0` is a fresh digest object (`RelD d0 H []`), `L ≤ B` is RFC 2104's
    requirement on the hash.  Guards: `okD H` (the domain of `H`) holds for the two hashed strings, and for the key if
    it is longer than a block. -/
theorem hmac_generic {δ : Type} (D : DigestModel δ) (H : Fn) (B L bits : Nat) (okD : Fn → Bytes → Prop)
    (RelD : δ → Fn → Bytes → Prop) (FinD : δ → Fn → Prop)
    (hD : Contract (digestFam D) L [L, bits, B] (fun _ => none) okD RelD FinD) (hLB : L ≤ B)
    (d0 : δ) (h0 : RelD d0 H []) (key : Bytes) (chunks : List Bytes)
    (hk : key.length ≤ B ∨ okD H key)
    (h1 : okD H (ikey H B key ++ chunks.flatten))
    (h2 : okD H (okey H B key ++ H (ikey H B key ++ chunks.flatten))) :
    ∃ h h' h'', Hmac.new D d0 key = some h ∧ chunks.foldlM (Hmac.input D) h = some h' ∧
      Hmac.result D h' = some (h'', Spec.Hmac.hmac H B key chunks.flatten) ∧
      (Spec.Hmac.hmac H B key chunks.flatten).length = L ∧
      Hmac.output_bytes D h = L ∧ Hmac.output_bytes D h' = L :=
  hmac_rfc2104 D H B key RelD FinD hD hLB d0 h0 chunks hk ⟨h1, h2⟩

/-- C08 for one legacy wrapper type: `Hmac::new(X::new(), key)`, any chunking, `result()`, `output_bytes()` -/
def HmacCorrect {γ : Type} (M : CtxModel γ) (H : Fn) (B L : Nat) (ok : Bytes → Prop) : Prop :=
  ∀ (key : Bytes) (chunks : List Bytes),
    (key.length ≤ B ∨ ok key) →
    ok (ikey H B key ++ chunks.flatten) →
    ok (okey H B key ++ H (ikey H B key ++ chunks.flatten)) →
    ∃ h h' h'', Hmac.new (legacyDigest M) (Legacy.new M) key = some h ∧
      chunks.foldlM (Hmac.input (legacyDigest M)) h = some h' ∧
      Hmac.result (legacyDigest M) h' = some (h'', Spec.Hmac.hmac H B key chunks.flatten) ∧
      (Spec.Hmac.hmac H B key chunks.flatten).length = L ∧
      Hmac.output_bytes (legacyDigest M) h = L

theorem hmac_legacy {γ : Type} (M : CtxModel γ) (H : Fn) (R : γ → Bytes → Prop) (ok : Bytes → Prop)
    (hc : CtxContract M H R ok) (B L : Nat) (hB : M.BLOCK_BYTES = B) (hL : (M.OUTPUT_BITS + 7) / 8 = L) (hLB : L ≤ B) :
    HmacCorrect M H B L ok := by
  intro key chunks hk h1 h2
  have hD := legacy_contract_sized M H R hc hL hB
  obtain ⟨h, h', h'', e1, e2, e3, e4, e5, _⟩ :=
    hmac_generic (legacyDigest M) H B L M.OUTPUT_BITS (fun _ m => ok m) (RelL H R) (FinL H R) hD hLB
      (Legacy.new M) (legacy_new M H R hc) key chunks hk h1 h2
  exact ⟨h, h', h'', e1, e2, e3, e4, e5⟩

open Cx.Proofs.MacInst Cx.Proofs.MacInstSha3 Cx.Props.C02.Sha2

theorem hmac_sha1 : HmacCorrect sha1Ctx Spec.Sha1.sha1 64 20 Cx.Props.C02.Sha1Ripemd.ok :=
  hmac_legacy _ _ _ _ sha1_ctx 64 20 (by decide) (by decide) (by decide)
theorem hmac_ripemd160 : HmacCorrect ripemd160Ctx Spec.Ripemd160.ripemd160 64 20 Cx.Props.C02.Sha1Ripemd.ok :=
  hmac_legacy _ _ _ _ ripemd160_ctx 64 20 (by decide) (by decide) (by decide)
theorem hmac_sha224 : HmacCorrect sha224Ctx Spec.Sha2.sha224 64 28 ok256 :=
  hmac_legacy _ _ _ _ sha224_ctx 64 28 (by decide) (by decide) (by decide)
theorem hmac_sha256 : HmacCorrect sha256Ctx Spec.Sha2.sha256 64 32 ok256 :=
  hmac_legacy _ _ _ _ sha256_ctx 64 32 (by decide) (by decide) (by decide)
theorem hmac_sha384 : HmacCorrect sha384Ctx Spec.Sha2.sha384 128 48 ok512 :=
  hmac_legacy _ _ _ _ sha384_ctx 128 48 (by decide) (by decide) (by decide)
theorem hmac_sha512 : HmacCorrect sha512Ctx Spec.Sha2.sha512 128 64 ok512 :=
  hmac_legacy _ _ _ _ sha512_ctx 128 64 (by decide) (by decide) (by decide)
theorem hmac_sha512_224 : HmacCorrect sha512_224Ctx Spec.Sha2.sha512_224 128 28 ok512 :=
  hmac_legacy _ _ _ _ sha512_224_ctx 128 28 (by decide) (by decide) (by decide)
theorem hmac_sha512_256 : HmacCorrect sha512_256Ctx Spec.Sha2.sha512_256 128 32 ok512 :=
  hmac_legacy _ _ _ _ sha512_256_ctx 128 32 (by decide) (by decide) (by decide)
theorem hmac_sha3_224 : HmacCorrect sha3_224Ctx Spec.Keccak.sha3_224 144 28 (fun _ => True) :=
  hmac_legacy _ _ _ _ sha3_224_ctx 144 28 (by decide) (by decide) (by decide)
theorem hmac_sha3_256 : HmacCorrect sha3_256Ctx Spec.Keccak.sha3_256 136 32 (fun _ => True) :=
  hmac_legacy _ _ _ _ sha3_256_ctx 136 32 (by decide) (by decide) (by decide)
theorem hmac_sha3_384 : HmacCorrect sha3_384Ctx Spec.Keccak.sha3_384 104 48 (fun _ => True) :=
  hmac_legacy _ _ _ _ sha3_384_ctx 104 48 (by decide) (by decide) (by decide)
theorem hmac_sha3_512 : HmacCorrect sha3_512Ctx Spec.Keccak.sha3_512 72 64 (fun _ => True) :=
  hmac_legacy _ _ _ _ sha3_512_ctx 72 64 (by decide) (by decide) (by decide)
theorem hmac_keccak224 : HmacCorrect keccak224Ctx Spec.Keccak.keccak224 144 28 (fun _ => True) :=
  hmac_legacy _ _ _ _ keccak224_ctx 144 28 (by decide) (by decide) (by decide)
theorem hmac_keccak256 : HmacCorrect keccak256Ctx Spec.Keccak.keccak256 136 32 (fun _ => True) :=
  hmac_legacy _ _ _ _ keccak256_ctx 136 32 (by decide) (by decide) (by decide)
theorem hmac_keccak384 : HmacCorrect keccak384Ctx Spec.Keccak.keccak384 104 48 (fun _ => True) :=
  hmac_legacy _ _ _ _ keccak384_ctx 104 48 (by decide) (by decide) (by decide)
theorem hmac_keccak512 : HmacCorrect keccak512Ctx Spec.Keccak.keccak512 72 64 (fun _ => True) :=
  hmac_legacy _ _ _ _ keccak512_ctx 72 64 (by decide) (by decide) (by decide)

/-- the hypotheses of `hmac_sha256` are met by a non-trivial input: a 131-byte key (hashed first) and a message fed
    as three chunks, one of them empty -/
example : (131 ≤ 64 ∨ ok256 (List.replicate 131 (0xaa : UInt8))) ∧
    ok256 (ikey Spec.Sha2.sha256 64 (List.replicate 131 0xaa) ++ [[1, 2], [], [3]].flatten) := by
  refine ⟨Or.inr ?_, ?_⟩
  · show (List.replicate 131 (0xaa : UInt8)).length < 2 ^ 61
    simp
  · show (ikey Spec.Sha2.sha256 64 (List.replicate 131 0xaa) ++ [[1, 2], [], [3]].flatten).length < 2 ^ 61
    simp [ikey, Spec.Hmac.xorPad, Spec.Hmac.keyBlock, sha256_length, zeros]

/-- **table obligation**: the rows `[id, OUTPUT_BITS, BLOCK_BYTES, paired]` re-extracted from the wrappers of /repo
    (ids 0 sha1, 1 sha224, 2 sha256, 3 sha384, 4 sha512, 5 sha512_224, 6 sha512_256, 7–10 sha3_224/256/384/512,
    11–14 keccak224/256/384/512, 15 ripemd160) are the standard values — digest bits; block bytes 64 / 128 per
    FIPS 180-4 (and RIPEMD-160's 64), rate (1600 − 2·d)/8 per FIPS 202 — and every wrapper is paired with its own
    context type. -/
theorem legacy_sizes_table :
    Extracted.MacKdf.LEGACY_DIGESTS =
      [[0, 8 * Spec.Sha1.digestBytes, Spec.Sha1.blockBytes, 1],
       [1, 224, Spec.Sha2.blockBytes256, 1], [2, 256, Spec.Sha2.blockBytes256, 1],
       [3, 384, Spec.Sha2.blockBytes512, 1], [4, 512, Spec.Sha2.blockBytes512, 1],
       [5, 224, Spec.Sha2.blockBytes512, 1], [6, 256, Spec.Sha2.blockBytes512, 1],
       [7, 224, Spec.Keccak.rateBytes 224, 1], [8, 256, Spec.Keccak.rateBytes 256, 1],
       [9, 384, Spec.Keccak.rateBytes 384, 1], [10, 512, Spec.Keccak.rateBytes 512, 1],
       [11, 224, Spec.Keccak.rateBytes 224, 1], [12, 256, Spec.Keccak.rateBytes 256, 1],
       [13, 384, Spec.Keccak.rateBytes 384, 1], [14, 512, Spec.Keccak.rateBytes 512, 1],
       [15, 8 * Spec.Ripemd160.digestBytes, 64, 1]] := by decide

theorem legacy_sizes_numbers :
    Extracted.MacKdf.LEGACY_DIGESTS.map (fun row => (row.getD 1 0, row.getD 2 0)) =
      [(160, 64), (224, 64), (256, 64), (384, 128), (512, 128), (224, 128), (256, 128),
       (224, 144), (256, 136), (384, 104), (512, 72), (224, 144), (256, 136), (384, 104), (512, 72), (160, 64)] := by
  decide

/-- the BLAKE2 wrappers report the block sizes of RFC 7693 (`bb` = 128 / 64) -/
theorem blake2_block_sizes :
    Extracted.Blake2.B_BLOCK_BYTES = Spec.Blake2.b.bb ∧ Extracted.Blake2.S_BLOCK_BYTES = Spec.Blake2.s.bb := by decide

/-- the masks of `create_keys` are RFC 2104's ipad / opad -/
theorem hmac_pads_table : Extracted.MacKdf.HMAC_PADS = [Spec.Hmac.ipad.toNat, Spec.Hmac.opad.toNat] := by decide

end Cx.Props.C08
