/-
  Props.C08.HmacBlake2 (unit mackdf) — HMAC (C08), and HKDF / PBKDF2-HMAC (C10), over the legacy BLAKE2b / BLAKE2s
  digest wrappers (`impl Digest for Blake2b / Blake2s` of src/blake2b.rs, src/blake2s.rs; model
  `Impl.Digest.blake2bDigest codeVariant` / `blake2sDigest codeVariant`, fresh object `Blake2.new Impl.Blake2.b nn` —
  exactly what the driver's `blake2b_<nn>` / `blake2s_<nn>` digest tokens run), for EVERY output length
  1 ≤ nn ≤ 64 (BLAKE2b) resp. 1 ≤ nn ≤ 32 (BLAKE2s), every key length (L < B/2 included: the only relation RFC 2104
  needs is L ≤ B) and with no length guard (the byte counter of the engine wraps as RFC 7693's does).  HKDF and
  PBKDF2-HMAC are instances of the generic theorems of Props/C10/Kdf.lean.

  `ResultLen` (the one fact the translator tie of src/hmac.rs needs of the digest dictionary, Proofs/GlueMac.lean) is
  FALSE for the BLAKE2 dictionaries on junk objects that no constructor builds (`outlen` field > 64 / 32); it holds on
  the data-structure invariant `outlen ≤ MAX_OUTLEN`, which `new` establishes (`outlen_new`; `new_keyed` asserts the same bound) and every method preserves.
  The source-level capstone does not need it as a hypothesis: `hmac_src_rfc2104_contract` derives the two uses from
  the digest-object contract.

  Precondition on the digest object: none beyond "built by a constructor" — in the tree as it is (`.repaired`, /repo
  c8ec1e5) a keyed object handed to `Hmac::new` would simply make H the keyed BLAKE2 (contract `RelB` with the retained
  key); `Hmac::new(Blake2b::new(nn), key)` receives the unkeyed one (`blake2b_new_fresh`: `o.key = []`).
-/
import CxVerif.Proofs.MacInstBlake2
import CxVerif.Props.C08.Hmac
import CxVerif.Props.C10.Kdf
namespace Cx.Props.C08
open Cx Cx.Impl.Digest Cx.Impl.Hmac Cx.Impl.Kdf Cx.Proofs.MacObj Cx.Proofs.MacHmac Cx.Proofs.MacBlake2
open Cx.Proofs.MacInstBlake2

/-- `impl Digest for Blake2b`, every 1 ≤ nn ≤ 64: the shape `hmac_generic` / `hkdf_*_generic` require
    (L = nn, bits = 8·nn, B = 128; `fun _ => none`: `trait Digest` has no `reset_with_key`; guard `True`) -/
theorem blake2b_digest_contract (nn : Nat) (h : 1 ≤ nn ∧ nn ≤ 64) :
    Contract (digestFam (blake2bDigest codeVariant)) nn [nn, nn * 8, 128] (fun _ => none) (fun _ _ => True)
      (RelB Spec.Blake2.b nn) (FinB Spec.Blake2.b nn) := by
  have := blake2_digest_contract Spec.Blake2.b Proofs.Blake2.good_b nn h 128
  simpa only [blake2bDigest, codeVariant, Proofs.Blake2.impl_b_eq_spec_b, b_block] using this

/-- `impl Digest for Blake2s`, every 1 ≤ nn ≤ 32 (L = nn, bits = 8·nn, B = 64) -/
theorem blake2s_digest_contract (nn : Nat) (h : 1 ≤ nn ∧ nn ≤ 32) :
    Contract (digestFam (blake2sDigest codeVariant)) nn [nn, nn * 8, 64] (fun _ => none) (fun _ _ => True)
      (RelB Spec.Blake2.s nn) (FinB Spec.Blake2.s nn) := by
  have := blake2_digest_contract Spec.Blake2.s Proofs.Blake2.good_s nn h 64
  simpa only [blake2sDigest, codeVariant, Proofs.Blake2.impl_s_eq_spec_s, s_block] using this

/-- `Blake2b::new(nn)`: for 1 ≤ nn ≤ 64 the fresh, unkeyed object of H = BLAKE2b-nn; refused for every other nn -/
theorem blake2b_new_fresh (nn : Nat) :
    (1 ≤ nn ∧ nn ≤ 64 → ∃ o, Blake2.new Impl.Blake2.b nn = some o ∧ o.key = [] ∧
      RelB Spec.Blake2.b nn o (Spec.Blake2.blake2b nn []) []) ∧
    (¬ (1 ≤ nn ∧ nn ≤ 64) → Blake2.new Impl.Blake2.b nn = none) :=
  ⟨blake2b_new_rel nn, blake2b_new_refuses nn⟩

theorem blake2s_new_fresh (nn : Nat) :
    (1 ≤ nn ∧ nn ≤ 32 → ∃ o, Blake2.new Impl.Blake2.s nn = some o ∧ o.key = [] ∧
      RelB Spec.Blake2.s nn o (Spec.Blake2.blake2s nn []) []) ∧
    (¬ (1 ≤ nn ∧ nn ≤ 32) → Blake2.new Impl.Blake2.s nn = none) :=
  ⟨blake2s_new_rel nn, blake2s_new_refuses nn⟩

/-- **every history** of `Blake2b::new(nn)` through `trait Digest` (input, result into a buffer of any length, reset,
    clone / swap, sizes): the values are BLAKE2b-nn of the bytes since the last reset, the panics are exactly the
    abstract object's refusals (second result, input after result, wrong buffer length),
    `output_bytes / output_bits / block_size` = nn / 8·nn / 128 -/
theorem blake2b_digest_every_history (nn : Nat) (h : 1 ≤ nn ∧ nn ≤ 64) (ops : List Op) :
    ∃ o, Blake2.new Impl.Blake2.b nn = some o ∧
      runHist (digestFam (blake2bDigest codeVariant)) ops o [] []
        = runHist (absFam [nn, nn * 8, 128] (fun _ => none)) ops
            (Spec.MacObj.fresh (Spec.Blake2.blake2b nn []) nn) [] [] := by
  obtain ⟨o, e, _, hr⟩ := blake2b_new_rel nn h
  exact ⟨o, e, runHist_fresh (blake2b_digest_contract nn h) o _ hr ops (guard_trivial ops _ _)⟩

theorem blake2s_digest_every_history (nn : Nat) (h : 1 ≤ nn ∧ nn ≤ 32) (ops : List Op) :
    ∃ o, Blake2.new Impl.Blake2.s nn = some o ∧
      runHist (digestFam (blake2sDigest codeVariant)) ops o [] []
        = runHist (absFam [nn, nn * 8, 64] (fun _ => none)) ops
            (Spec.MacObj.fresh (Spec.Blake2.blake2s nn []) nn) [] [] := by
  obtain ⟨o, e, _, hr⟩ := blake2s_new_rel nn h
  exact ⟨o, e, runHist_fresh (blake2s_digest_contract nn h) o _ hr ops (guard_trivial ops _ _)⟩

/-- the hypotheses are satisfiable: BLAKE2b-160 / BLAKE2s-160 -/
example : 1 ≤ 20 ∧ 20 ≤ 64 := by decide
example : 1 ≤ 20 ∧ 20 ≤ 32 := by decide

/-- C08 for a digest type given by its dictionary `D` and its constructor call `new` (an `Option`: the constructor
    may assert): `Hmac::new(new, key)`, any chunking, `result()`, `output_bytes()` — for EVERY key and chunk list;
    the shape of `HmacCorrect` (Props/C08/Hmac.lean) with the trivial domain guard -/
def HmacCorrectObj {δ : Type} (D : DigestModel δ) (new : Option δ) (H : Fn) (B L : Nat) : Prop :=
  ∃ d0, new = some d0 ∧ ∀ (key : Bytes) (chunks : List Bytes),
    ∃ h h' h'', Hmac.new D d0 key = some h ∧
      chunks.foldlM (Hmac.input D) h = some h' ∧
      Hmac.result D h' = some (h'', Spec.Hmac.hmac H B key chunks.flatten) ∧
      (Spec.Hmac.hmac H B key chunks.flatten).length = L ∧
      Hmac.output_bytes D h = L

theorem hmac_obj {δ : Type} (D : DigestModel δ) (new : Option δ) (H : Fn) (B L bits : Nat)
    (RelD : δ → Fn → Bytes → Prop) (FinD : δ → Fn → Prop)
    (hD : Contract (digestFam D) L [L, bits, B] (fun _ => none) (fun _ _ => True) RelD FinD) (hLB : L ≤ B)
    (hnew : ∃ d0, new = some d0 ∧ RelD d0 H []) : HmacCorrectObj D new H B L := by
  obtain ⟨d0, e0, h0⟩ := hnew
  refine ⟨d0, e0, fun key chunks => ?_⟩
  obtain ⟨h, h', h'', e1, e2, e3, e4, e5, _⟩ :=
    hmac_generic D H B L bits (fun _ _ => True) RelD FinD hD hLB d0 h0 key chunks (Or.inr trivial) trivial trivial
  exact ⟨h, h', h'', e1, e2, e3, e4, e5⟩

/-- **HMAC-BLAKE2b-nn = RFC 2104** with H = unkeyed BLAKE2b with nn output bytes, B = 128, L = nn; every 1 ≤ nn ≤ 64,
    every key (any length), every chunking -/
theorem hmac_blake2b (nn : Nat) (h : 1 ≤ nn ∧ nn ≤ 64) :
    HmacCorrectObj (blake2bDigest codeVariant) (Blake2.new Impl.Blake2.b nn) (Spec.Blake2.blake2b nn []) 128 nn := by
  obtain ⟨o, e, _, hr⟩ := blake2b_new_rel nn h
  exact hmac_obj _ _ _ 128 nn (nn * 8) _ _ (blake2b_digest_contract nn h) (by omega) ⟨o, e, hr⟩

/-- **HMAC-BLAKE2s-nn = RFC 2104** with H = unkeyed BLAKE2s with nn output bytes, B = 64, L = nn; every 1 ≤ nn ≤ 32 -/
theorem hmac_blake2s (nn : Nat) (h : 1 ≤ nn ∧ nn ≤ 32) :
    HmacCorrectObj (blake2sDigest codeVariant) (Blake2.new Impl.Blake2.s nn) (Spec.Blake2.blake2s nn []) 64 nn := by
  obtain ⟨o, e, _, hr⟩ := blake2s_new_rel nn h
  exact hmac_obj _ _ _ 64 nn (nn * 8) _ _ (blake2s_digest_contract nn h) (by omega) ⟨o, e, hr⟩

/-- instance: HMAC-BLAKE2b-160 (L = 20 < B/2) -/
example : HmacCorrectObj (blake2bDigest codeVariant) (Blake2.new Impl.Blake2.b 20) (Spec.Blake2.blake2b 20 []) 128 20 :=
  hmac_blake2b 20 (by decide)
example : HmacCorrectObj (blake2sDigest codeVariant) (Blake2.new Impl.Blake2.s 20) (Spec.Blake2.blake2s 20 []) 64 20 :=
  hmac_blake2s 20 (by decide)

/-- HKDF for a digest type (`hkdf_extract(new, …)`, `hkdf_expand(new, …)`): RFC 5869 §2.2 (refusing a PRK buffer whose
    length is not L), §2.3 as an equality of `Option`s, and the refusal exactly for a PRK shorter than L
    (`assert!(prk.len() >= digest.output_bytes())`) or an output beyond 255·L -/
def HkdfCorrectObj {δ : Type} (D : DigestModel δ) (new : Option δ) (H : Fn) (B L : Nat) : Prop :=
  ∃ d0, new = some d0 ∧
    (∀ (salt ikm : Bytes) (prkLen : Nat),
      hkdf_extract D d0 salt ikm prkLen = if prkLen = L then some (Spec.Kdf.hkdfExtract H B salt ikm) else none) ∧
    (∀ (prk info : Bytes) (okmLen : Nat),
      hkdf_expand D d0 prk info okmLen = Spec.Kdf.hkdfExpand H B L prk info okmLen) ∧
    (∀ (prk info : Bytes) (okmLen : Nat),
      hkdf_expand D d0 prk info okmLen = none ↔ (prk.length < L ∨ 255 * L < okmLen))

theorem hkdf_obj {δ : Type} (D : DigestModel δ) (new : Option δ) (H : Fn) (B L bits : Nat)
    (RelD : δ → Fn → Bytes → Prop) (FinD : δ → Fn → Prop)
    (hD : Contract (digestFam D) L [L, bits, B] (fun _ => none) (fun _ _ => True) RelD FinD) (hLB : L ≤ B) (hL : 0 < L)
    (hnew : ∃ d0, new = some d0 ∧ RelD d0 H []) : HkdfCorrectObj D new H B L := by
  obtain ⟨d0, e0, h0⟩ := hnew
  have hexp : ∀ (prk info : Bytes) (okmLen : Nat),
      hkdf_expand D d0 prk info okmLen = Spec.Kdf.hkdfExpand H B L prk info okmLen := fun prk info okmLen =>
    Cx.Props.C10.hkdf_expand_generic D H B L bits (fun _ _ => True) RelD FinD hD hLB hL d0 [] (Or.inl h0) prk info okmLen
      (Or.inr trivial) (fun _ _ => ⟨trivial, trivial⟩)
  refine ⟨d0, e0, fun salt ikm prkLen => ?_, hexp, fun prk info okmLen => ?_⟩
  · exact Cx.Props.C10.hkdf_extract_generic D H B L bits (fun _ _ => True) RelD FinD hD hLB d0 [] (Or.inl h0) salt ikm
      prkLen (Or.inr trivial) trivial trivial
  · rw [hexp]; exact Cx.Props.C10.hkdf_expand_limit H B L prk info okmLen

/-- **HKDF-BLAKE2b-nn = RFC 5869** (HashLen = nn, HMAC block 128), every 1 ≤ nn ≤ 64 -/
theorem hkdf_blake2b (nn : Nat) (h : 1 ≤ nn ∧ nn ≤ 64) :
    HkdfCorrectObj (blake2bDigest codeVariant) (Blake2.new Impl.Blake2.b nn) (Spec.Blake2.blake2b nn []) 128 nn := by
  obtain ⟨o, e, _, hr⟩ := blake2b_new_rel nn h
  exact hkdf_obj _ _ _ 128 nn (nn * 8) _ _ (blake2b_digest_contract nn h) (by omega) h.1 ⟨o, e, hr⟩

/-- **HKDF-BLAKE2s-nn = RFC 5869** (HashLen = nn, HMAC block 64), every 1 ≤ nn ≤ 32 -/
theorem hkdf_blake2s (nn : Nat) (h : 1 ≤ nn ∧ nn ≤ 32) :
    HkdfCorrectObj (blake2sDigest codeVariant) (Blake2.new Impl.Blake2.s nn) (Spec.Blake2.blake2s nn []) 64 nn := by
  obtain ⟨o, e, _, hr⟩ := blake2s_new_rel nn h
  exact hkdf_obj _ _ _ 64 nn (nn * 8) _ _ (blake2s_digest_contract nn h) (by omega) h.1 ⟨o, e, hr⟩

/-- PBKDF2 with PRF = HMAC over a digest type: `pbkdf2(&mut Hmac::new(new, pwd), salt, c, out[dkLen])` = RFC 8018 §5.2
    as an equality of `Option`s (refusal exactly for c = 0 or dkLen > (2^32 − 1)·L, `Props.C10.pbkdf2_limit`) -/
def Pbkdf2HmacCorrectObj {δ : Type} (D : DigestModel δ) (new : Option δ) (H : Fn) (B L : Nat) : Prop :=
  ∃ d0, new = some d0 ∧ ∀ (pwd salt : Bytes) (c dkLen : Nat),
    ∃ mac, Hmac.new D d0 pwd = some mac ∧
      (pbkdf2 (hmacMac D) mac salt c dkLen).map (·.2) = Spec.Kdf.pbkdf2Hmac H B L pwd salt c dkLen ∧
      ((pbkdf2 (hmacMac D) mac salt c dkLen).isNone ↔ (c = 0 ∨ (2 ^ 32 - 1) * L < dkLen))

theorem pbkdf2_hmac_obj {δ : Type} (D : DigestModel δ) (new : Option δ) (H : Fn) (B L bits : Nat)
    (RelD : δ → Fn → Bytes → Prop) (FinD : δ → Fn → Prop)
    (hD : Contract (digestFam D) L [L, bits, B] (fun _ => none) (fun _ _ => True) RelD FinD) (hLB : L ≤ B) (hL : 0 < L)
    (hnew : ∃ d0, new = some d0 ∧ RelD d0 H []) : Pbkdf2HmacCorrectObj D new H B L := by
  obtain ⟨d0, e0, h0⟩ := hnew
  refine ⟨d0, e0, fun pwd salt c dkLen => ?_⟩
  obtain ⟨mac, e, hr⟩ := hmac_new D H B pwd RelD FinD hD hLB d0 h0 (Or.inr trivial)
  have hv : (pbkdf2 (hmacMac D) mac salt c dkLen).map (·.2) = Spec.Kdf.pbkdf2Hmac H B L pwd salt c dkLen :=
    Cx.Props.C10.pbkdf2_generic (hmacMac D) L [L] (fun _ => none) _ _ _ (hmac_contract D H B pwd RelD FinD hD) hL
      (Spec.Hmac.hmac H B) pwd salt (fun _ => ⟨trivial, trivial⟩) (fun _ _ => ⟨trivial, trivial⟩) mac hr c dkLen
  refine ⟨mac, e, hv, ?_⟩
  rw [← Cx.Props.C10.pbkdf2_limit (Spec.Hmac.hmac H B) L pwd salt c dkLen]
  show _ ↔ Spec.Kdf.pbkdf2Hmac H B L pwd salt c dkLen = none
  rw [← hv]
  cases pbkdf2 (hmacMac D) mac salt c dkLen <;> simp

/-- **PBKDF2-HMAC-BLAKE2b-nn = RFC 8018 §5.2** (hLen = nn), every 1 ≤ nn ≤ 64, password, salt, c, dkLen -/
theorem pbkdf2_hmac_blake2b (nn : Nat) (h : 1 ≤ nn ∧ nn ≤ 64) :
    Pbkdf2HmacCorrectObj (blake2bDigest codeVariant) (Blake2.new Impl.Blake2.b nn) (Spec.Blake2.blake2b nn []) 128 nn := by
  obtain ⟨o, e, _, hr⟩ := blake2b_new_rel nn h
  exact pbkdf2_hmac_obj _ _ _ 128 nn (nn * 8) _ _ (blake2b_digest_contract nn h) (by omega) h.1 ⟨o, e, hr⟩

/-- **PBKDF2-HMAC-BLAKE2s-nn = RFC 8018 §5.2** (hLen = nn), every 1 ≤ nn ≤ 32 -/
theorem pbkdf2_hmac_blake2s (nn : Nat) (h : 1 ≤ nn ∧ nn ≤ 32) :
    Pbkdf2HmacCorrectObj (blake2sDigest codeVariant) (Blake2.new Impl.Blake2.s nn) (Spec.Blake2.blake2s nn []) 64 nn := by
  obtain ⟨o, e, _, hr⟩ := blake2s_new_rel nn h
  exact pbkdf2_hmac_obj _ _ _ 64 nn (nn * 8) _ _ (blake2s_digest_contract nn h) (by omega) h.1 ⟨o, e, hr⟩

example := hkdf_blake2b 64 (by decide)
example := hkdf_blake2s 32 (by decide)
example := pbkdf2_hmac_blake2b 20 (by decide)
example := pbkdf2_hmac_blake2s 20 (by decide)

section src
open Cx.Extracted.GlueMac Cx.Proofs.GlueMac Cx.Proofs.Blake2

/-- **`ResultLen` of the BLAKE2 `Digest` dictionaries** (either code variant, b or s), on the data-structure invariant
    `outlen ≤ MAX_OUTLEN`: a `&mut [u8]` handed to `Digest::result` keeps its length -/
theorem blake2_resultLen {W : Type} [Spec.Blake2.Word W] (v : CodeVariant) (P : Spec.Blake2.Params W) (g : Good P)
    (bb : Nat) : ResultLenOn (blake2Digest v P bb) (fun d => d.ctx.outlen ≤ P.maxOut) :=
  blake2_resultLenOn v P g bb

theorem blake2b_resultLen : ResultLenOn (blake2bDigest codeVariant) (fun d => d.ctx.outlen ≤ 64) := by
  have : ResultLenOn _ (fun d : Blake2 UInt64 => d.ctx.outlen ≤ 64) := blake2_resultLenOn codeVariant Spec.Blake2.b good_b 128
  simpa only [blake2bDigest, impl_b_eq_spec_b, b_block] using this

theorem blake2s_resultLen : ResultLenOn (blake2sDigest codeVariant) (fun d => d.ctx.outlen ≤ 32) := by
  have : ResultLenOn _ (fun d : Blake2 UInt32 => d.ctx.outlen ≤ 32) := blake2_resultLenOn codeVariant Spec.Blake2.s good_s 64
  simpa only [blake2sDigest, impl_s_eq_spec_s, s_block] using this

theorem blake2_outlen_invariant {W : Type} [Spec.Blake2.Word W] (v : CodeVariant) (P : Spec.Blake2.Params W) (bb : Nat) :
    (∀ nn o, Blake2.new P nn = some o → o.ctx.outlen ≤ P.maxOut) ∧
    (∀ s s' b, (blake2Digest v P bb).input s b = some s' → s'.ctx.outlen = s.ctx.outlen) ∧
    (∀ s s' n out, (blake2Digest v P bb).result s n = some (s', out) → s'.ctx.outlen = s.ctx.outlen) ∧
    (∀ s s', (blake2Digest v P bb).reset s = some s' → s'.ctx.outlen = s.ctx.outlen) :=
  ⟨outlen_new P, outlen_update P, outlen_finalize P, outlen_reset v P⟩

/-- the hypothesis of `blake2b_resultLen` is met by every constructed object, e.g. `Blake2b::new(20)` -/
example : ∃ o, Blake2.new Impl.Blake2.b 20 = some o ∧ o.ctx.outlen ≤ 64 := by
  obtain ⟨o, e, _, hr⟩ := blake2b_new_rel 20 (by decide)
  exact ⟨o, e, by rw [hr.outlen]; decide⟩

/-- WITHOUT the invariant `ResultLen` fails: a junk object with `outlen` = 65 / 33 (which no constructor builds — both
    assert `outlen ≤ MAX_OUTLEN`) answers a 65 / 33-byte buffer with 64 / 32 bytes.  This is why
    `Props.C05.GlueTieMac.hmac_src_rfc2104` cannot be instantiated through its `ResultLen D` hypothesis. -/
theorem blake2_resultLen_unrestricted_false :
    ¬ ResultLen (blake2bDigest codeVariant) ∧ ¬ ResultLen (blake2sDigest codeVariant) :=
  ⟨resultLen_junk _ _ _, resultLen_junk _ _ _⟩

/-- **the source-level capstone from the digest-object contract alone** (no `ResultLen` hypothesis): generic in the
    digest dictionary; the GENERATED `Hmac::new_src`, `input_src` per chunk, `result_src` return RFC 2104 -/
theorem hmac_src_rfc2104_contract {δ : Type} (D : DigestModel δ) (H : Fn) (B : Nat) (key : Bytes)
    (RelD : δ → Fn → Bytes → Prop) (FinD : δ → Fn → Prop) {L bits : Nat} {okD : Fn → Bytes → Prop}
    (hD : Contract (digestFam D) L [L, bits, B] (fun _ => none) okD RelD FinD) (hLB : L ≤ B)
    (d0 : δ) (h0 : RelD d0 H []) (chunks : List Bytes) (hk : key.length ≤ B ∨ okD H key)
    (hok : okH H B key okD (Spec.Hmac.hmac H B key) chunks.flatten) :
    ∃ h h' h'', Hmac.new_src D d0 key = some h ∧ chunks.foldlM (Hmac.input_src D) h = some h' ∧
      Hmac.result_src D h' = some (h'', ⟨Spec.Hmac.hmac H B key chunks.flatten⟩) :=
  hmac_src_rfc2104_of_contract D H B key RelD FinD hD hLB d0 h0 chunks hk hok

/-- **`hmac_src_rfc2104` for BLAKE2b**: through the generated functions of src/hmac.rs over `impl Digest for Blake2b`,
    `Hmac::new(Blake2b::new(nn), key)`; one `input` per chunk; `result()` = RFC 2104 HMAC-BLAKE2b-nn (B = 128), for every
    1 ≤ nn ≤ 64, key and chunking -/
theorem hmac_src_rfc2104_blake2b (nn : Nat) (h : 1 ≤ nn ∧ nn ≤ 64) (key : Bytes) (chunks : List Bytes) :
    ∃ d0 m m' m'', Blake2.new Impl.Blake2.b nn = some d0 ∧
      Hmac.new_src (blake2bDigest codeVariant) d0 key = some m ∧
      chunks.foldlM (Hmac.input_src (blake2bDigest codeVariant)) m = some m' ∧
      Hmac.result_src (blake2bDigest codeVariant) m' =
        some (m'', ⟨Spec.Hmac.hmac (Spec.Blake2.blake2b nn []) 128 key chunks.flatten⟩) := by
  obtain ⟨o, e, _, hr⟩ := blake2b_new_rel nn h
  obtain ⟨m, m', m'', e1, e2, e3⟩ := hmac_src_rfc2104_of_contract (blake2bDigest codeVariant) (Spec.Blake2.blake2b nn [])
    128 key _ _ (blake2b_digest_contract nn h) (by omega) o hr chunks (Or.inr trivial) ⟨trivial, trivial⟩
  exact ⟨o, m, m', m'', e, e1, e2, e3⟩

/-- **`hmac_src_rfc2104` for BLAKE2s** (B = 64), every 1 ≤ nn ≤ 32 -/
theorem hmac_src_rfc2104_blake2s (nn : Nat) (h : 1 ≤ nn ∧ nn ≤ 32) (key : Bytes) (chunks : List Bytes) :
    ∃ d0 m m' m'', Blake2.new Impl.Blake2.s nn = some d0 ∧
      Hmac.new_src (blake2sDigest codeVariant) d0 key = some m ∧
      chunks.foldlM (Hmac.input_src (blake2sDigest codeVariant)) m = some m' ∧
      Hmac.result_src (blake2sDigest codeVariant) m' =
        some (m'', ⟨Spec.Hmac.hmac (Spec.Blake2.blake2s nn []) 64 key chunks.flatten⟩) := by
  obtain ⟨o, e, _, hr⟩ := blake2s_new_rel nn h
  obtain ⟨m, m', m'', e1, e2, e3⟩ := hmac_src_rfc2104_of_contract (blake2sDigest codeVariant) (Spec.Blake2.blake2s nn [])
    64 key _ _ (blake2s_digest_contract nn h) (by omega) o hr chunks (Or.inr trivial) ⟨trivial, trivial⟩
  exact ⟨o, m, m', m'', e, e1, e2, e3⟩

example := hmac_src_rfc2104_blake2b 20 (by decide) (List.replicate 200 0xaa) [[1, 2], [], [3]]

end src

end Cx.Props.C08
