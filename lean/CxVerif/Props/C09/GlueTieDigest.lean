/-
  Props.C09.GlueTieDigest — the translator tie for the STATEFUL GLUE of the legacy `Digest` objects and of the hash contexts.

  `Extracted/GlueDigest.lean` is regenerated on every run by tools/ktx_glue_digest.py (specs: tools/kernels/glue_digest.py) from
      src/digest.rs             `Digest::output_bytes`, `input_str`, `result_str` (provided methods, for EVERY implementation)
      src/sha1.rs, sha2.rs, sha3.rs, ripemd160.rs   the 16 wrappers `{ ctx, computed }` — the `digest!` macros are expanded, one
                                Lean def per invocation and function: new / reset / input / result / output_bits / block_size
      src/blake2b.rs, blake2s.rs   `Blake2b` / `Blake2s`: new, new_keyed, update, finalize, reset, reset_with_key, the static
                                one-shot, `impl Digest`, `impl Mac`
      src/hashing/sha1.rs       digest_block, digest_blocks, mk_result, Context::{new, update_mut, update, reset, finalize,
                                finalize_reset}, Sha1::new
      src/hashing/ripemd160.rs  process_msg_blocks, Context::{new, update_mut, update, reset, finalize_reset, finalize},
                                Ripemd160::new
      src/hashing/sha2/mod.rs   the six `digest!` invocations: $ctxname::{new, update_mut, update, reset, finalize,
                                finalize_reset}, $name::new (above the model's Engine256 / Engine512)
      src/hashing/mod.rs        the 20 one-shot functions
  — a statement-by-statement translation.  The theorems below, re-checked by the kernel on every build, say that the hand
  models of Impl/Digest.lean, Impl/Sha1.lean, Impl/Ripemd160.lean, Impl/Sha2.lean (about which C01, C02, C08, C09, C10, C20
  are proved) compute exactly what the source says NOW, for ALL states (satisfying the stated invariant) and ALL inputs of every
  length.  A semantic change of the glue (a flag, an assertion, a reset that forgets a field, a size taken from the wrong
  constant, a shift of the length field, a chunk size, a key that is not retained) changes the generated definition and breaks
  one of these proofs even when no sampled input reaches it.

  Conventions and abstractions (each explicit in the statements)
    * the reported sizes are evaluated from the `impl` blocks of src/hashing by the translator and compared with the
      re-extracted table of Impl/Digest.lean;
    * the legacy BLAKE2 objects: the Rust struct keeps `key: [u8; N]` and `keylen`, the model keeps
      `key[..keylen]` — `B2b.abs` / `B2s.abs`, under the invariant `B2b.Inv` / `B2s.Inv` (`key.length = N ∧ keylen ≤ N`,
      established by the constructors and preserved by every method: the `*_src_inv` theorems);
    * out-parameters: `result(&mut out)`-style functions take and return the whole slice, the models take its LENGTH and return
      the new contents (they overwrite all of it or panic); `mk_result` writes all of `rs: &mut [u8; 20]` (hypothesis
      `rs.length = 20`, a typing fact; its two callers pass `[0; 20]`);
    * `result_str`: the `String` is its UTF-8 bytes; `hexAscii` is proved to be the hex codec of Util/Bytes.lean.
  What the generated functions CALL but this file does not tie (the model's functions, tied by the other translators):
  `FixedBuffer` (Props/C01/GlueTieMd.lean), Engine256/512 (ibid.), the SHA-3 / Keccak contexts and the BLAKE2 contexts
  (Props/C02/GlueTieSponge.lean), the compression cores `digest_block_u32` / `process_msg_block` (Props/C01/KernelTie*.lean),
  `MacResult::new_from_owned` (Props/C05/GlueTieMac.lean).  Byte counters: `processed_bytes += len` is the wrapping operation
  of the models (release semantics; the overflow-checked build is C20's business, Props/C20/HashLen.lean).
  The last section composes the ties of the one-shot functions with the C01 theorems: source = standard.
-/
import CxVerif.Proofs.GlueDigest
import CxVerif.Proofs.KernelRfl
import CxVerif.Props.C01.Sha1
import CxVerif.Props.C01.Ripemd160
import CxVerif.Props.C01.Sha2
import CxVerif.Props.C01.Sha3
import CxVerif.Props.C01.Blake2
namespace Cx.Props.C09.GlueTieDigest
open Cx.Impl.Digest Cx.Extracted.GlueDigest Cx.Proofs.GlueDigest

/-! ## src/digest.rs — the provided methods of `trait Digest`, for EVERY implementation `D : DigestModel δ` -/

/-- `output_bytes` = `(output_bits() + 7) / 8` -/
theorem Digest.output_bytes_src_eq_model {δ : Type} (D : DigestModel δ) (self : δ) :
    Digest.output_bytes_src D self = D.output_bytes self := rfl

/-- `input_str(s)` = `input(s.as_bytes())` -/
theorem Digest.input_str_src_eq_model {δ : Type} (D : DigestModel δ) (self : δ) (input : Bytes) :
    Digest.input_str_src D self input = D.input self input := by
  unfold Digest.input_str_src
  cases D.input self input <;> rfl

/-- `result_str()`: `result` into a buffer of `(output_bits() + 7) / 8` zero bytes, then two lowercase hex digits per byte,
    high nibble first; the table look-ups never panic -/
theorem Digest.result_str_src_eq_model {δ : Type} (D : DigestModel δ) (self : δ) :
    Digest.result_str_src D self = (D.result self (D.output_bytes self)).map (fun p => (p.1, hexAscii p.2)) := by
  unfold Digest.result_str_src DigestModel.output_bytes
  have hz := Cx.Proofs.Bytes.zeros_length ((D.output_bits self + 7) / 8)
  simp only [hz]
  cases D.result self ((D.output_bits self + 7) / 8) with
  | none => rfl
  | some p => simp [result_str_loop]

/-- the bytes `result_str` returns are the hex codec the line protocol uses (Util/Bytes.lean `Hex.encodeChars`) -/
theorem Digest.result_str_is_hex (d : Bytes) :
    (hexAscii d).map (fun b => Char.ofNat b.toNat) = Hex.encodeChars d := by
  induction d with
  | nil => rfl
  | cons b bs ih =>
    obtain ⟨_, _, _, _, h5, h6⟩ := nib b
    have : hexAscii (b :: bs) = hexNibble (b >>> 4) :: hexNibble (b &&& 15) :: hexAscii bs := by
      simp [hexAscii]
    rw [this]
    simp only [List.map_cons, Hex.encodeChars, ih, h5, h6]

/-! ## src/sha1.rs, src/sha2.rs, src/sha3.rs, src/ripemd160.rs — the 16 wrappers `{ ctx, computed }`
  Each generated `input` is the text of the model's `Legacy.input`, each `result` the text of `legacy_result` (Proofs/GlueDigest.lean), at
  its context model. -/

theorem Sha1.new_src_eq_model : Legacy.Sha1.new_src = Impl.Digest.Legacy.new sha1Ctx := rfl
theorem Sha1.reset_src_eq_model (self : Legacy _) : Legacy.Sha1.reset_src self = Impl.Digest.Legacy.reset sha1Ctx self := rfl
theorem Sha1.input_src_eq_model (self : Legacy _) (msg : Bytes) :
    Legacy.Sha1.input_src self msg = Impl.Digest.Legacy.input sha1Ctx self msg := by kernel_rfl
theorem Sha1.result_src_eq_model (self : Legacy _) (slice : Bytes) :
    Legacy.Sha1.result_src self slice = Impl.Digest.Legacy.result sha1Ctx self slice.length := by
  rw [← legacy_result]; kernel_rfl
theorem Sha1.output_bits_src_eq_model (self : Legacy _) :
    Legacy.Sha1.output_bits_src self = Impl.Digest.Legacy.output_bits sha1Ctx self := rfl
theorem Sha1.block_size_src_eq_model (self : Legacy _) :
    Legacy.Sha1.block_size_src self = Impl.Digest.Legacy.block_size sha1Ctx self := rfl

theorem Sha512.new_src_eq_model : Legacy.Sha512.new_src = Impl.Digest.Legacy.new sha512Ctx := rfl
theorem Sha512.reset_src_eq_model (self : Legacy _) : Legacy.Sha512.reset_src self = Impl.Digest.Legacy.reset sha512Ctx self := rfl
theorem Sha512.input_src_eq_model (self : Legacy _) (msg : Bytes) :
    Legacy.Sha512.input_src self msg = Impl.Digest.Legacy.input sha512Ctx self msg := by kernel_rfl
theorem Sha512.result_src_eq_model (self : Legacy _) (slice : Bytes) :
    Legacy.Sha512.result_src self slice = Impl.Digest.Legacy.result sha512Ctx self slice.length := by
  rw [← legacy_result]; kernel_rfl
theorem Sha512.output_bits_src_eq_model (self : Legacy _) :
    Legacy.Sha512.output_bits_src self = Impl.Digest.Legacy.output_bits sha512Ctx self := rfl
theorem Sha512.block_size_src_eq_model (self : Legacy _) :
    Legacy.Sha512.block_size_src self = Impl.Digest.Legacy.block_size sha512Ctx self := rfl

theorem Sha384.new_src_eq_model : Legacy.Sha384.new_src = Impl.Digest.Legacy.new sha384Ctx := rfl
theorem Sha384.reset_src_eq_model (self : Legacy _) : Legacy.Sha384.reset_src self = Impl.Digest.Legacy.reset sha384Ctx self := rfl
theorem Sha384.input_src_eq_model (self : Legacy _) (msg : Bytes) :
    Legacy.Sha384.input_src self msg = Impl.Digest.Legacy.input sha384Ctx self msg := by kernel_rfl
theorem Sha384.result_src_eq_model (self : Legacy _) (slice : Bytes) :
    Legacy.Sha384.result_src self slice = Impl.Digest.Legacy.result sha384Ctx self slice.length := by
  rw [← legacy_result]; kernel_rfl
theorem Sha384.output_bits_src_eq_model (self : Legacy _) :
    Legacy.Sha384.output_bits_src self = Impl.Digest.Legacy.output_bits sha384Ctx self := rfl
theorem Sha384.block_size_src_eq_model (self : Legacy _) :
    Legacy.Sha384.block_size_src self = Impl.Digest.Legacy.block_size sha384Ctx self := rfl

theorem Sha512Trunc256.new_src_eq_model : Legacy.Sha512Trunc256.new_src = Impl.Digest.Legacy.new sha512_256Ctx := rfl
theorem Sha512Trunc256.reset_src_eq_model (self : Legacy _) : Legacy.Sha512Trunc256.reset_src self = Impl.Digest.Legacy.reset sha512_256Ctx self := rfl
theorem Sha512Trunc256.input_src_eq_model (self : Legacy _) (msg : Bytes) :
    Legacy.Sha512Trunc256.input_src self msg = Impl.Digest.Legacy.input sha512_256Ctx self msg := by kernel_rfl
theorem Sha512Trunc256.result_src_eq_model (self : Legacy _) (slice : Bytes) :
    Legacy.Sha512Trunc256.result_src self slice = Impl.Digest.Legacy.result sha512_256Ctx self slice.length := by
  rw [← legacy_result]; kernel_rfl
theorem Sha512Trunc256.output_bits_src_eq_model (self : Legacy _) :
    Legacy.Sha512Trunc256.output_bits_src self = Impl.Digest.Legacy.output_bits sha512_256Ctx self := rfl
theorem Sha512Trunc256.block_size_src_eq_model (self : Legacy _) :
    Legacy.Sha512Trunc256.block_size_src self = Impl.Digest.Legacy.block_size sha512_256Ctx self := rfl

theorem Sha512Trunc224.new_src_eq_model : Legacy.Sha512Trunc224.new_src = Impl.Digest.Legacy.new sha512_224Ctx := rfl
theorem Sha512Trunc224.reset_src_eq_model (self : Legacy _) : Legacy.Sha512Trunc224.reset_src self = Impl.Digest.Legacy.reset sha512_224Ctx self := rfl
theorem Sha512Trunc224.input_src_eq_model (self : Legacy _) (msg : Bytes) :
    Legacy.Sha512Trunc224.input_src self msg = Impl.Digest.Legacy.input sha512_224Ctx self msg := by kernel_rfl
theorem Sha512Trunc224.result_src_eq_model (self : Legacy _) (slice : Bytes) :
    Legacy.Sha512Trunc224.result_src self slice = Impl.Digest.Legacy.result sha512_224Ctx self slice.length := by
  rw [← legacy_result]; kernel_rfl
theorem Sha512Trunc224.output_bits_src_eq_model (self : Legacy _) :
    Legacy.Sha512Trunc224.output_bits_src self = Impl.Digest.Legacy.output_bits sha512_224Ctx self := rfl
theorem Sha512Trunc224.block_size_src_eq_model (self : Legacy _) :
    Legacy.Sha512Trunc224.block_size_src self = Impl.Digest.Legacy.block_size sha512_224Ctx self := rfl

theorem Sha256.new_src_eq_model : Legacy.Sha256.new_src = Impl.Digest.Legacy.new sha256Ctx := rfl
theorem Sha256.reset_src_eq_model (self : Legacy _) : Legacy.Sha256.reset_src self = Impl.Digest.Legacy.reset sha256Ctx self := rfl
theorem Sha256.input_src_eq_model (self : Legacy _) (msg : Bytes) :
    Legacy.Sha256.input_src self msg = Impl.Digest.Legacy.input sha256Ctx self msg := by kernel_rfl
theorem Sha256.result_src_eq_model (self : Legacy _) (slice : Bytes) :
    Legacy.Sha256.result_src self slice = Impl.Digest.Legacy.result sha256Ctx self slice.length := by
  rw [← legacy_result]; kernel_rfl
theorem Sha256.output_bits_src_eq_model (self : Legacy _) :
    Legacy.Sha256.output_bits_src self = Impl.Digest.Legacy.output_bits sha256Ctx self := rfl
theorem Sha256.block_size_src_eq_model (self : Legacy _) :
    Legacy.Sha256.block_size_src self = Impl.Digest.Legacy.block_size sha256Ctx self := rfl

theorem Sha224.new_src_eq_model : Legacy.Sha224.new_src = Impl.Digest.Legacy.new sha224Ctx := rfl
theorem Sha224.reset_src_eq_model (self : Legacy _) : Legacy.Sha224.reset_src self = Impl.Digest.Legacy.reset sha224Ctx self := rfl
theorem Sha224.input_src_eq_model (self : Legacy _) (msg : Bytes) :
    Legacy.Sha224.input_src self msg = Impl.Digest.Legacy.input sha224Ctx self msg := by kernel_rfl
theorem Sha224.result_src_eq_model (self : Legacy _) (slice : Bytes) :
    Legacy.Sha224.result_src self slice = Impl.Digest.Legacy.result sha224Ctx self slice.length := by
  rw [← legacy_result]; kernel_rfl
theorem Sha224.output_bits_src_eq_model (self : Legacy _) :
    Legacy.Sha224.output_bits_src self = Impl.Digest.Legacy.output_bits sha224Ctx self := rfl
theorem Sha224.block_size_src_eq_model (self : Legacy _) :
    Legacy.Sha224.block_size_src self = Impl.Digest.Legacy.block_size sha224Ctx self := rfl

theorem Sha3_512.new_src_eq_model : Legacy.Sha3_512.new_src = Impl.Digest.Legacy.new sha3_512Ctx := rfl
theorem Sha3_512.reset_src_eq_model (self : Legacy _) : Legacy.Sha3_512.reset_src self = Impl.Digest.Legacy.reset sha3_512Ctx self := rfl
theorem Sha3_512.input_src_eq_model (self : Legacy _) (msg : Bytes) :
    Legacy.Sha3_512.input_src self msg = Impl.Digest.Legacy.input sha3_512Ctx self msg := by kernel_rfl
theorem Sha3_512.result_src_eq_model (self : Legacy _) (slice : Bytes) :
    Legacy.Sha3_512.result_src self slice = Impl.Digest.Legacy.result sha3_512Ctx self slice.length := by
  rw [← legacy_result]; kernel_rfl
theorem Sha3_512.output_bits_src_eq_model (self : Legacy _) :
    Legacy.Sha3_512.output_bits_src self = Impl.Digest.Legacy.output_bits sha3_512Ctx self := rfl
theorem Sha3_512.block_size_src_eq_model (self : Legacy _) :
    Legacy.Sha3_512.block_size_src self = Impl.Digest.Legacy.block_size sha3_512Ctx self := rfl

theorem Sha3_384.new_src_eq_model : Legacy.Sha3_384.new_src = Impl.Digest.Legacy.new sha3_384Ctx := rfl
theorem Sha3_384.reset_src_eq_model (self : Legacy _) : Legacy.Sha3_384.reset_src self = Impl.Digest.Legacy.reset sha3_384Ctx self := rfl
theorem Sha3_384.input_src_eq_model (self : Legacy _) (msg : Bytes) :
    Legacy.Sha3_384.input_src self msg = Impl.Digest.Legacy.input sha3_384Ctx self msg := by kernel_rfl
theorem Sha3_384.result_src_eq_model (self : Legacy _) (slice : Bytes) :
    Legacy.Sha3_384.result_src self slice = Impl.Digest.Legacy.result sha3_384Ctx self slice.length := by
  rw [← legacy_result]; kernel_rfl
theorem Sha3_384.output_bits_src_eq_model (self : Legacy _) :
    Legacy.Sha3_384.output_bits_src self = Impl.Digest.Legacy.output_bits sha3_384Ctx self := rfl
theorem Sha3_384.block_size_src_eq_model (self : Legacy _) :
    Legacy.Sha3_384.block_size_src self = Impl.Digest.Legacy.block_size sha3_384Ctx self := rfl

theorem Sha3_256.new_src_eq_model : Legacy.Sha3_256.new_src = Impl.Digest.Legacy.new sha3_256Ctx := rfl
theorem Sha3_256.reset_src_eq_model (self : Legacy _) : Legacy.Sha3_256.reset_src self = Impl.Digest.Legacy.reset sha3_256Ctx self := rfl
theorem Sha3_256.input_src_eq_model (self : Legacy _) (msg : Bytes) :
    Legacy.Sha3_256.input_src self msg = Impl.Digest.Legacy.input sha3_256Ctx self msg := by kernel_rfl
theorem Sha3_256.result_src_eq_model (self : Legacy _) (slice : Bytes) :
    Legacy.Sha3_256.result_src self slice = Impl.Digest.Legacy.result sha3_256Ctx self slice.length := by
  rw [← legacy_result]; kernel_rfl
theorem Sha3_256.output_bits_src_eq_model (self : Legacy _) :
    Legacy.Sha3_256.output_bits_src self = Impl.Digest.Legacy.output_bits sha3_256Ctx self := rfl
theorem Sha3_256.block_size_src_eq_model (self : Legacy _) :
    Legacy.Sha3_256.block_size_src self = Impl.Digest.Legacy.block_size sha3_256Ctx self := rfl

theorem Sha3_224.new_src_eq_model : Legacy.Sha3_224.new_src = Impl.Digest.Legacy.new sha3_224Ctx := rfl
theorem Sha3_224.reset_src_eq_model (self : Legacy _) : Legacy.Sha3_224.reset_src self = Impl.Digest.Legacy.reset sha3_224Ctx self := rfl
theorem Sha3_224.input_src_eq_model (self : Legacy _) (msg : Bytes) :
    Legacy.Sha3_224.input_src self msg = Impl.Digest.Legacy.input sha3_224Ctx self msg := by kernel_rfl
theorem Sha3_224.result_src_eq_model (self : Legacy _) (slice : Bytes) :
    Legacy.Sha3_224.result_src self slice = Impl.Digest.Legacy.result sha3_224Ctx self slice.length := by
  rw [← legacy_result]; kernel_rfl
theorem Sha3_224.output_bits_src_eq_model (self : Legacy _) :
    Legacy.Sha3_224.output_bits_src self = Impl.Digest.Legacy.output_bits sha3_224Ctx self := rfl
theorem Sha3_224.block_size_src_eq_model (self : Legacy _) :
    Legacy.Sha3_224.block_size_src self = Impl.Digest.Legacy.block_size sha3_224Ctx self := rfl

theorem Keccak512.new_src_eq_model : Legacy.Keccak512.new_src = Impl.Digest.Legacy.new keccak512Ctx := rfl
theorem Keccak512.reset_src_eq_model (self : Legacy _) : Legacy.Keccak512.reset_src self = Impl.Digest.Legacy.reset keccak512Ctx self := rfl
theorem Keccak512.input_src_eq_model (self : Legacy _) (msg : Bytes) :
    Legacy.Keccak512.input_src self msg = Impl.Digest.Legacy.input keccak512Ctx self msg := by kernel_rfl
theorem Keccak512.result_src_eq_model (self : Legacy _) (slice : Bytes) :
    Legacy.Keccak512.result_src self slice = Impl.Digest.Legacy.result keccak512Ctx self slice.length := by
  rw [← legacy_result]; kernel_rfl
theorem Keccak512.output_bits_src_eq_model (self : Legacy _) :
    Legacy.Keccak512.output_bits_src self = Impl.Digest.Legacy.output_bits keccak512Ctx self := rfl
theorem Keccak512.block_size_src_eq_model (self : Legacy _) :
    Legacy.Keccak512.block_size_src self = Impl.Digest.Legacy.block_size keccak512Ctx self := rfl

theorem Keccak384.new_src_eq_model : Legacy.Keccak384.new_src = Impl.Digest.Legacy.new keccak384Ctx := rfl
theorem Keccak384.reset_src_eq_model (self : Legacy _) : Legacy.Keccak384.reset_src self = Impl.Digest.Legacy.reset keccak384Ctx self := rfl
theorem Keccak384.input_src_eq_model (self : Legacy _) (msg : Bytes) :
    Legacy.Keccak384.input_src self msg = Impl.Digest.Legacy.input keccak384Ctx self msg := by kernel_rfl
theorem Keccak384.result_src_eq_model (self : Legacy _) (slice : Bytes) :
    Legacy.Keccak384.result_src self slice = Impl.Digest.Legacy.result keccak384Ctx self slice.length := by
  rw [← legacy_result]; kernel_rfl
theorem Keccak384.output_bits_src_eq_model (self : Legacy _) :
    Legacy.Keccak384.output_bits_src self = Impl.Digest.Legacy.output_bits keccak384Ctx self := rfl
theorem Keccak384.block_size_src_eq_model (self : Legacy _) :
    Legacy.Keccak384.block_size_src self = Impl.Digest.Legacy.block_size keccak384Ctx self := rfl

theorem Keccak256.new_src_eq_model : Legacy.Keccak256.new_src = Impl.Digest.Legacy.new keccak256Ctx := rfl
theorem Keccak256.reset_src_eq_model (self : Legacy _) : Legacy.Keccak256.reset_src self = Impl.Digest.Legacy.reset keccak256Ctx self := rfl
theorem Keccak256.input_src_eq_model (self : Legacy _) (msg : Bytes) :
    Legacy.Keccak256.input_src self msg = Impl.Digest.Legacy.input keccak256Ctx self msg := by kernel_rfl
theorem Keccak256.result_src_eq_model (self : Legacy _) (slice : Bytes) :
    Legacy.Keccak256.result_src self slice = Impl.Digest.Legacy.result keccak256Ctx self slice.length := by
  rw [← legacy_result]; kernel_rfl
theorem Keccak256.output_bits_src_eq_model (self : Legacy _) :
    Legacy.Keccak256.output_bits_src self = Impl.Digest.Legacy.output_bits keccak256Ctx self := rfl
theorem Keccak256.block_size_src_eq_model (self : Legacy _) :
    Legacy.Keccak256.block_size_src self = Impl.Digest.Legacy.block_size keccak256Ctx self := rfl

theorem Keccak224.new_src_eq_model : Legacy.Keccak224.new_src = Impl.Digest.Legacy.new keccak224Ctx := rfl
theorem Keccak224.reset_src_eq_model (self : Legacy _) : Legacy.Keccak224.reset_src self = Impl.Digest.Legacy.reset keccak224Ctx self := rfl
theorem Keccak224.input_src_eq_model (self : Legacy _) (msg : Bytes) :
    Legacy.Keccak224.input_src self msg = Impl.Digest.Legacy.input keccak224Ctx self msg := by kernel_rfl
theorem Keccak224.result_src_eq_model (self : Legacy _) (slice : Bytes) :
    Legacy.Keccak224.result_src self slice = Impl.Digest.Legacy.result keccak224Ctx self slice.length := by
  rw [← legacy_result]; kernel_rfl
theorem Keccak224.output_bits_src_eq_model (self : Legacy _) :
    Legacy.Keccak224.output_bits_src self = Impl.Digest.Legacy.output_bits keccak224Ctx self := rfl
theorem Keccak224.block_size_src_eq_model (self : Legacy _) :
    Legacy.Keccak224.block_size_src self = Impl.Digest.Legacy.block_size keccak224Ctx self := rfl

theorem Ripemd160.new_src_eq_model : Legacy.Ripemd160.new_src = Impl.Digest.Legacy.new ripemd160Ctx := rfl
theorem Ripemd160.reset_src_eq_model (self : Legacy _) : Legacy.Ripemd160.reset_src self = Impl.Digest.Legacy.reset ripemd160Ctx self := rfl
theorem Ripemd160.input_src_eq_model (self : Legacy _) (msg : Bytes) :
    Legacy.Ripemd160.input_src self msg = Impl.Digest.Legacy.input ripemd160Ctx self msg := by kernel_rfl
theorem Ripemd160.result_src_eq_model (self : Legacy _) (slice : Bytes) :
    Legacy.Ripemd160.result_src self slice = Impl.Digest.Legacy.result ripemd160Ctx self slice.length := by
  rw [← legacy_result]; kernel_rfl
theorem Ripemd160.output_bits_src_eq_model (self : Legacy _) :
    Legacy.Ripemd160.output_bits_src self = Impl.Digest.Legacy.output_bits ripemd160Ctx self := rfl
theorem Ripemd160.block_size_src_eq_model (self : Legacy _) :
    Legacy.Ripemd160.block_size_src self = Impl.Digest.Legacy.block_size ripemd160Ctx self := rfl

/-! ## src/blake2b.rs, src/blake2s.rs — the legacy BLAKE2 objects -/

/-! ### `Blake2b` (src/blake2b.rs) -/

/-- `Blake2b::new(outlen)`: the context, `computed = false`, an all-zero key array, `keylen = 0` -/
theorem Blake2b.new_src_eq_model (outlen : Nat) :
    (Blake2b.new_src outlen).map B2b.abs = Impl.Digest.Blake2.new Impl.Blake2.b outlen := by
  unfold Blake2b.new_src Impl.Digest.Blake2.new
  cases Impl.Blake2.ContextDyn.new Impl.Blake2.b outlen <;> simp [B2b.abs]
theorem Blake2b.new_src_inv (outlen : Nat) (s : Blake2b.Obj) (h : Blake2b.new_src outlen = some s) : B2b.Inv s := by
  unfold Blake2b.new_src at h
  cases hc : Impl.Blake2.ContextDyn.new Impl.Blake2.b outlen <;> simp [hc] at h
  subst h; simp [B2b.Inv, zeros]

/-- `Blake2b::new_keyed(outlen, key)`: `assert!(key.len() <= 64)`, the keyed context, the key stored at the front of a zeroed
    array (a copy that cannot fail once the context accepted the key), `keylen` -/
theorem Blake2b.new_keyed_src_eq_model (outlen : Nat) (key : Bytes) :
    (Blake2b.new_keyed_src outlen key).map B2b.abs = Impl.Digest.Blake2.new_keyed Impl.Blake2.b bKeyAssert outlen key := by
  unfold Blake2b.new_keyed_src Impl.Digest.Blake2.new_keyed
  have : bKeyAssert = 64 := by decide
  rw [this]
  by_cases hk : key.length ≤ 64
  · cases Impl.Blake2.ContextDyn.new_keyed Impl.Blake2.b outlen key <;> simp [hk, B2b.abs]
  · simp [hk]
theorem Blake2b.new_keyed_src_inv (outlen : Nat) (key : Bytes) (s : Blake2b.Obj)
    (h : Blake2b.new_keyed_src outlen key = some s) : B2b.Inv s := by
  unfold Blake2b.new_keyed_src at h
  by_cases hk : key.length ≤ 64
  · cases hc : Impl.Blake2.ContextDyn.new_keyed Impl.Blake2.b outlen key with
    | none => simp [hk, hc] at h
    | some c =>
      simp [hk, hc] at h
      subst h
      refine ⟨?_, hk⟩
      simp [zeros]; omega
  · simp [hk] at h

/-- `update`: `assert!(!self.computed)`, `ctx.update_mut` -/
theorem Blake2b.update_src_eq_model (s : Blake2b.Obj) (input : Bytes) :
    (Blake2b.update_src s input).map B2b.abs = Impl.Digest.Blake2.update Impl.Blake2.b (B2b.abs s) input := by
  unfold Blake2b.update_src Impl.Digest.Blake2.update
  cases hcomp : s.computed <;> cases hc : Impl.Blake2.ContextDyn.update_mut Impl.Blake2.b blakeProfile s.ctx input <;> simp [B2b.abs, hcomp, hc]
theorem Blake2b.update_src_inv (s s' : Blake2b.Obj) (input : Bytes) (hi : B2b.Inv s)
    (h : Blake2b.update_src s input = some s') : B2b.Inv s' := by
  unfold Blake2b.update_src at h
  cases hcomp : s.computed <;> cases hc : Impl.Blake2.ContextDyn.update_mut Impl.Blake2.b blakeProfile s.ctx input <;> simp [hcomp, hc] at h
  subst h; exact hi

/-- `finalize(slice)`: `assert!(!self.computed)`, `ctx.finalize_reset_at(slice)`, `computed = true` -/
theorem Blake2b.finalize_src_eq_model (s : Blake2b.Obj) (slice : Bytes) :
    (Blake2b.finalize_src s slice).map (fun p => (B2b.abs p.1, p.2))
      = Impl.Digest.Blake2.finalize Impl.Blake2.b (B2b.abs s) slice.length := by
  unfold Blake2b.finalize_src Impl.Digest.Blake2.finalize
  cases hcomp : s.computed <;> cases hc : Impl.Blake2.ContextDyn.finalize_reset_at Impl.Blake2.b blakeProfile s.ctx slice.length <;>
    simp [B2b.abs, hcomp, hc]
theorem Blake2b.finalize_src_inv (s s' : Blake2b.Obj) (slice out : Bytes) (hi : B2b.Inv s)
    (h : Blake2b.finalize_src s slice = some (s', out)) : B2b.Inv s' := by
  unfold Blake2b.finalize_src at h
  cases hcomp : s.computed <;> cases hc : Impl.Blake2.ContextDyn.finalize_reset_at Impl.Blake2.b blakeProfile s.ctx slice.length <;>
    simp [hcomp, hc] at h
  obtain ⟨h1, _⟩ := h
  subst h1; exact hi

/-- `reset()`: a keyed object (`keylen > 0`) is re-keyed with the RETAINED key `key[..keylen]`, an unkeyed one is reset;
    `computed = false` in both branches — the model of the tree as it is (`codeVariant = .repaired`) -/
theorem Blake2b.reset_src_eq_model (s : Blake2b.Obj) (hi : B2b.Inv s) :
    (Blake2b.reset_src s).map B2b.abs = Impl.Digest.Blake2.reset codeVariant Impl.Blake2.b (B2b.abs s) := by
  obtain ⟨hl, hk⟩ := hi
  unfold Blake2b.reset_src Blake2b.reset_k1_src Impl.Digest.Blake2.reset
  have e : codeVariant = .repaired := rfl
  simp only [e, B2b.abs]
  have hlen : (List.take s.keylen s.key).length = s.keylen := by simp [hl]; omega
  by_cases h0 : s.keylen > 0
  · cases Impl.Blake2.ContextDyn.reset_with_key Impl.Blake2.b s.ctx (s.key.take s.keylen) <;> simp [h0, hk, hlen, B2b.abs]
  · simp [h0, hlen, B2b.abs]
theorem Blake2b.reset_src_inv (s s' : Blake2b.Obj) (hi : B2b.Inv s) (h : Blake2b.reset_src s = some s') : B2b.Inv s' := by
  obtain ⟨hl, hk⟩ := hi
  unfold Blake2b.reset_src Blake2b.reset_k1_src at h
  by_cases h0 : s.keylen > 0
  · cases hc : Impl.Blake2.ContextDyn.reset_with_key Impl.Blake2.b s.ctx (s.key.take s.keylen) <;> simp [h0, hk, hc] at h
    subst h; exact ⟨hl, hk⟩
  · simp [h0] at h
    subst h; exact ⟨hl, hk⟩

/-- `reset_with_key(key)`: `ctx.reset_with_key` (which refuses over-long keys, so the copy below cannot fail), the key array
    zeroed and re-filled, `keylen`, `computed = false` -/
theorem Blake2b.reset_with_key_src_eq_model (s : Blake2b.Obj) (key : Bytes) :
    (Blake2b.reset_with_key_src s key).map B2b.abs = Impl.Digest.Blake2.reset_with_key Impl.Blake2.b (B2b.abs s) key := by
  unfold Blake2b.reset_with_key_src Impl.Digest.Blake2.reset_with_key
  cases hc : Impl.Blake2.ContextDyn.reset_with_key Impl.Blake2.b s.ctx key with
  | none => simp [B2b.abs, hc]
  | some c =>
    have hk : key.length ≤ 64 := rekeyed_len Impl.Blake2.b hc
    simp [B2b.abs, hc, hk]
theorem Blake2b.reset_with_key_src_inv (s s' : Blake2b.Obj) (key : Bytes)
    (h : Blake2b.reset_with_key_src s key = some s') : B2b.Inv s' := by
  unfold Blake2b.reset_with_key_src at h
  cases hc : Impl.Blake2.ContextDyn.reset_with_key Impl.Blake2.b s.ctx key with
  | none => simp [hc] at h
  | some c =>
    have hk : key.length ≤ 64 := rekeyed_len Impl.Blake2.b hc
    simp [hc, hk] at h
    subst h
    refine ⟨?_, hk⟩
    simp [zeros]; omega

/-- the static one-shot `Blake2b::blake2b(out, input, key)`: keyed iff `!key.is_empty()`; the new contents of `out` -/
theorem Blake2b.blake2b_src_eq_model (out input key : Bytes) :
    Blake2b.blake2b_src out input key = Impl.Digest.Blake2.oneShot Impl.Blake2.b bKeyAssert out.length input key := by
  unfold Blake2b.blake2b_src Impl.Digest.Blake2.oneShot
  have h1 : (if (!key.isEmpty) = true then Impl.Digest.Blake2.new_keyed Impl.Blake2.b bKeyAssert out.length key
        else Impl.Digest.Blake2.new Impl.Blake2.b out.length)
      = (if (!key.isEmpty) = true then Blake2b.new_keyed_src out.length key else Blake2b.new_src out.length).map B2b.abs := by
    split
    · rw [Blake2b.new_keyed_src_eq_model]
    · rw [Blake2b.new_src_eq_model]
  rw [h1]
  cases (if (!key.isEmpty) = true then Blake2b.new_keyed_src out.length key else Blake2b.new_src out.length) with
  | none => rfl
  | some s =>
    simp only [Option.map_some]
    rw [← Blake2b.update_src_eq_model]
    cases Blake2b.update_src s input with
    | none => rfl
    | some s2 =>
      simp only [Option.map_some]
      rw [← Blake2b.finalize_src_eq_model]
      cases Blake2b.finalize_src s2 out with
      | none => rfl
      | some p => rfl

/-! `impl Digest for Blake2b` = the dictionary `blake2bDigest codeVariant` on the abstraction -/

theorem Blake2b.Digest.input_src_eq_model (s : Blake2b.Obj) (msg : Bytes) :
    (Blake2b.Digest.input_src s msg).map B2b.abs = (blake2bDigest codeVariant).input (B2b.abs s) msg := by
  unfold Blake2b.Digest.input_src
  show _ = Impl.Digest.Blake2.update Impl.Blake2.b (B2b.abs s) msg
  rw [← Blake2b.update_src_eq_model]
  cases Blake2b.update_src s msg <;> rfl
theorem Blake2b.Digest.reset_src_eq_model (s : Blake2b.Obj) (hi : B2b.Inv s) :
    (Blake2b.Digest.reset_src s).map B2b.abs = (blake2bDigest codeVariant).reset (B2b.abs s) := by
  unfold Blake2b.Digest.reset_src
  show _ = Impl.Digest.Blake2.reset codeVariant Impl.Blake2.b (B2b.abs s)
  rw [← Blake2b.reset_src_eq_model s hi]
  cases Blake2b.reset_src s <;> rfl
theorem Blake2b.Digest.result_src_eq_model (s : Blake2b.Obj) (out : Bytes) :
    (Blake2b.Digest.result_src s out).map (fun p => (B2b.abs p.1, p.2))
      = (blake2bDigest codeVariant).result (B2b.abs s) out.length := by
  unfold Blake2b.Digest.result_src
  show _ = Impl.Digest.Blake2.finalize Impl.Blake2.b (B2b.abs s) out.length
  rw [← Blake2b.finalize_src_eq_model]
  cases Blake2b.finalize_src s out <;> rfl
theorem Blake2b.Digest.output_bits_src_eq_model (s : Blake2b.Obj) :
    Blake2b.Digest.output_bits_src s = (blake2bDigest codeVariant).output_bits (B2b.abs s) := rfl
theorem Blake2b.Digest.block_size_src_eq_model (s : Blake2b.Obj) :
    Blake2b.Digest.block_size_src s = (blake2bDigest codeVariant).block_size (B2b.abs s) := rfl

/-! `impl Mac for Blake2b` = the dictionary `blake2bMac codeVariant` on the abstraction; `result()` returns a `MacResult`
    whose `code` is the model's byte string -/

theorem Blake2b.Mac.input_src_eq_model (s : Blake2b.Obj) (data : Bytes) :
    (Blake2b.Mac.input_src s data).map B2b.abs = (blake2bMac codeVariant).input (B2b.abs s) data := by
  unfold Blake2b.Mac.input_src
  show _ = Impl.Digest.Blake2.update Impl.Blake2.b (B2b.abs s) data
  rw [← Blake2b.update_src_eq_model]
  cases Blake2b.update_src s data <;> rfl
theorem Blake2b.Mac.reset_src_eq_model (s : Blake2b.Obj) (hi : B2b.Inv s) :
    (Blake2b.Mac.reset_src s).map B2b.abs = (blake2bMac codeVariant).reset (B2b.abs s) := by
  unfold Blake2b.Mac.reset_src
  show _ = Impl.Digest.Blake2.reset codeVariant Impl.Blake2.b (B2b.abs s)
  rw [← Blake2b.reset_src_eq_model s hi]
  cases Blake2b.reset_src s <;> rfl
theorem Blake2b.Mac.raw_result_src_eq_model (s : Blake2b.Obj) (output : Bytes) :
    (Blake2b.Mac.raw_result_src s output).map (fun p => (B2b.abs p.1, p.2))
      = (blake2bMac codeVariant).raw_result (B2b.abs s) output.length := by
  unfold Blake2b.Mac.raw_result_src
  show _ = Impl.Digest.Blake2.finalize Impl.Blake2.b (B2b.abs s) output.length
  rw [← Blake2b.finalize_src_eq_model]
  cases Blake2b.finalize_src s output <;> rfl
theorem Blake2b.Mac.result_src_eq_model (s : Blake2b.Obj) :
    (Blake2b.Mac.result_src s).map (fun p => (B2b.abs p.1, p.2.code)) = (blake2bMac codeVariant).result (B2b.abs s) := by
  unfold Blake2b.Mac.result_src
  have h := Blake2b.Mac.raw_result_src_eq_model s (zeros (s.ctx.output_bits / 8))
  rw [Cx.Proofs.Bytes.zeros_length] at h
  show _ = (blake2bMac codeVariant).raw_result (B2b.abs s) (s.ctx.output_bits / 8)
  rw [← h]
  show Option.map _ (match Blake2b.Mac.raw_result_src s (zeros (s.ctx.output_bits / 8)) with | none => none | some (self, mac) => _) = _
  cases Blake2b.Mac.raw_result_src s (zeros (s.ctx.output_bits / 8)) <;> rfl
theorem Blake2b.Mac.output_bytes_src_eq_model (s : Blake2b.Obj) :
    Blake2b.Mac.output_bytes_src s = (blake2bMac codeVariant).output_bytes (B2b.abs s) := rfl

/-- the invariant is inhabited by a keyed object that went through an input -/
example : ∀ s s', Blake2b.new_keyed_src 32 [1, 2, 3] = some s → Blake2b.update_src s [7] = some s' → B2b.Inv s' :=
  fun s s' h1 h2 => Blake2b.update_src_inv s s' [7] (Blake2b.new_keyed_src_inv 32 [1, 2, 3] s h1) h2
example : ((Blake2b.new_keyed_src 32 [1, 2, 3]).bind (fun s => Blake2b.update_src s [7])).isSome = true := by decide +kernel

/-! ### `Blake2s` (src/blake2s.rs) -/

/-- `Blake2s::new(outlen)`: the context, `computed = false`, an all-zero key array (`[u8; 32]`), `keylen = 0` -/
theorem Blake2s.new_src_eq_model (outlen : Nat) :
    (Blake2s.new_src outlen).map B2s.abs = Impl.Digest.Blake2.new Impl.Blake2.s outlen := by
  unfold Blake2s.new_src Impl.Digest.Blake2.new
  cases Impl.Blake2.ContextDyn.new Impl.Blake2.s outlen <;> simp [B2s.abs]
theorem Blake2s.new_src_inv (outlen : Nat) (s : Blake2s.Obj) (h : Blake2s.new_src outlen = some s) : B2s.Inv s := by
  unfold Blake2s.new_src at h
  cases hc : Impl.Blake2.ContextDyn.new Impl.Blake2.s outlen <;> simp [hc] at h
  subst h; simp [B2s.Inv, zeros]

/-- `Blake2s::new_keyed(outlen, key)`: `assert!(key.len() <= 64)`, the keyed context, the key stored at the front of a zeroed
    array (a copy that cannot fail once the context accepted the key), `keylen` -/
theorem Blake2s.new_keyed_src_eq_model (outlen : Nat) (key : Bytes) :
    (Blake2s.new_keyed_src outlen key).map B2s.abs = Impl.Digest.Blake2.new_keyed Impl.Blake2.s sKeyAssert outlen key := by
  unfold Blake2s.new_keyed_src Impl.Digest.Blake2.new_keyed
  have : sKeyAssert = 64 := by decide
  rw [this]
  by_cases hk : key.length ≤ 64
  · cases hc : Impl.Blake2.ContextDyn.new_keyed Impl.Blake2.s outlen key with
    | none => simp [hk]
    | some c =>
      have hk2 : key.length ≤ 32 := keyed_len Impl.Blake2.s hc
      simp [hk, hk2, B2s.abs]
  · simp [hk]
theorem Blake2s.new_keyed_src_inv (outlen : Nat) (key : Bytes) (s : Blake2s.Obj)
    (h : Blake2s.new_keyed_src outlen key = some s) : B2s.Inv s := by
  unfold Blake2s.new_keyed_src at h
  by_cases hk : key.length ≤ 64
  · cases hc : Impl.Blake2.ContextDyn.new_keyed Impl.Blake2.s outlen key with
    | none => simp [hk, hc] at h
    | some c =>
      have hk2 : key.length ≤ 32 := keyed_len Impl.Blake2.s hc
      simp [hk, hk2, hc] at h
      subst h
      refine ⟨?_, hk2⟩
      simp [zeros]; omega
  · simp [hk] at h

/-- `update`: `assert!(!self.computed)`, `ctx.update_mut` -/
theorem Blake2s.update_src_eq_model (s : Blake2s.Obj) (input : Bytes) :
    (Blake2s.update_src s input).map B2s.abs = Impl.Digest.Blake2.update Impl.Blake2.s (B2s.abs s) input := by
  unfold Blake2s.update_src Impl.Digest.Blake2.update
  cases hcomp : s.computed <;> cases hc : Impl.Blake2.ContextDyn.update_mut Impl.Blake2.s blakeProfile s.ctx input <;> simp [B2s.abs, hcomp, hc]
theorem Blake2s.update_src_inv (s s' : Blake2s.Obj) (input : Bytes) (hi : B2s.Inv s)
    (h : Blake2s.update_src s input = some s') : B2s.Inv s' := by
  unfold Blake2s.update_src at h
  cases hcomp : s.computed <;> cases hc : Impl.Blake2.ContextDyn.update_mut Impl.Blake2.s blakeProfile s.ctx input <;> simp [hcomp, hc] at h
  subst h; exact hi

/-- `finalize(slice)`: `assert!(!self.computed)`, `ctx.finalize_reset_at(slice)`, `computed = true` -/
theorem Blake2s.finalize_src_eq_model (s : Blake2s.Obj) (slice : Bytes) :
    (Blake2s.finalize_src s slice).map (fun p => (B2s.abs p.1, p.2))
      = Impl.Digest.Blake2.finalize Impl.Blake2.s (B2s.abs s) slice.length := by
  unfold Blake2s.finalize_src Impl.Digest.Blake2.finalize
  cases hcomp : s.computed <;> cases hc : Impl.Blake2.ContextDyn.finalize_reset_at Impl.Blake2.s blakeProfile s.ctx slice.length <;>
    simp [B2s.abs, hcomp, hc]
theorem Blake2s.finalize_src_inv (s s' : Blake2s.Obj) (slice out : Bytes) (hi : B2s.Inv s)
    (h : Blake2s.finalize_src s slice = some (s', out)) : B2s.Inv s' := by
  unfold Blake2s.finalize_src at h
  cases hcomp : s.computed <;> cases hc : Impl.Blake2.ContextDyn.finalize_reset_at Impl.Blake2.s blakeProfile s.ctx slice.length <;>
    simp [hcomp, hc] at h
  obtain ⟨h1, _⟩ := h
  subst h1; exact hi

/-- `reset()`: a keyed object (`keylen > 0`) is re-keyed with the RETAINED key `key[..keylen]`, an unkeyed one is reset;
    `computed = false` in both branches — the model of the tree as it is (`codeVariant = .repaired`) -/
theorem Blake2s.reset_src_eq_model (s : Blake2s.Obj) (hi : B2s.Inv s) :
    (Blake2s.reset_src s).map B2s.abs = Impl.Digest.Blake2.reset codeVariant Impl.Blake2.s (B2s.abs s) := by
  obtain ⟨hl, hk⟩ := hi
  unfold Blake2s.reset_src Blake2s.reset_k1_src Impl.Digest.Blake2.reset
  have e : codeVariant = .repaired := rfl
  simp only [e, B2s.abs]
  have hlen : (List.take s.keylen s.key).length = s.keylen := by simp [hl]; omega
  by_cases h0 : s.keylen > 0
  · cases Impl.Blake2.ContextDyn.reset_with_key Impl.Blake2.s s.ctx (s.key.take s.keylen) <;> simp [h0, hk, hlen, B2s.abs]
  · simp [h0, hlen, B2s.abs]
theorem Blake2s.reset_src_inv (s s' : Blake2s.Obj) (hi : B2s.Inv s) (h : Blake2s.reset_src s = some s') : B2s.Inv s' := by
  obtain ⟨hl, hk⟩ := hi
  unfold Blake2s.reset_src Blake2s.reset_k1_src at h
  by_cases h0 : s.keylen > 0
  · cases hc : Impl.Blake2.ContextDyn.reset_with_key Impl.Blake2.s s.ctx (s.key.take s.keylen) <;> simp [h0, hk, hc] at h
    subst h; exact ⟨hl, hk⟩
  · simp [h0] at h
    subst h; exact ⟨hl, hk⟩

/-- `reset_with_key(key)`: `ctx.reset_with_key` (which refuses over-long keys, so the copy below cannot fail), the key array
    zeroed and re-filled, `keylen`, `computed = false` -/
theorem Blake2s.reset_with_key_src_eq_model (s : Blake2s.Obj) (key : Bytes) :
    (Blake2s.reset_with_key_src s key).map B2s.abs = Impl.Digest.Blake2.reset_with_key Impl.Blake2.s (B2s.abs s) key := by
  unfold Blake2s.reset_with_key_src Impl.Digest.Blake2.reset_with_key
  cases hc : Impl.Blake2.ContextDyn.reset_with_key Impl.Blake2.s s.ctx key with
  | none => simp [B2s.abs, hc]
  | some c =>
    have hk : key.length ≤ 32 := rekeyed_len Impl.Blake2.s hc
    simp [B2s.abs, hc, hk]
theorem Blake2s.reset_with_key_src_inv (s s' : Blake2s.Obj) (key : Bytes)
    (h : Blake2s.reset_with_key_src s key = some s') : B2s.Inv s' := by
  unfold Blake2s.reset_with_key_src at h
  cases hc : Impl.Blake2.ContextDyn.reset_with_key Impl.Blake2.s s.ctx key with
  | none => simp [hc] at h
  | some c =>
    have hk : key.length ≤ 32 := rekeyed_len Impl.Blake2.s hc
    simp [hc, hk] at h
    subst h
    refine ⟨?_, hk⟩
    simp [zeros]; omega

/-- the static one-shot `Blake2s::blake2s(out, input, key)`: keyed iff `!key.is_empty()`; the new contents of `out` -/
theorem Blake2s.blake2s_src_eq_model (out input key : Bytes) :
    Blake2s.blake2s_src out input key = Impl.Digest.Blake2.oneShot Impl.Blake2.s sKeyAssert out.length input key := by
  unfold Blake2s.blake2s_src Impl.Digest.Blake2.oneShot
  have h1 : (if (!key.isEmpty) = true then Impl.Digest.Blake2.new_keyed Impl.Blake2.s sKeyAssert out.length key
        else Impl.Digest.Blake2.new Impl.Blake2.s out.length)
      = (if (!key.isEmpty) = true then Blake2s.new_keyed_src out.length key else Blake2s.new_src out.length).map B2s.abs := by
    split
    · rw [Blake2s.new_keyed_src_eq_model]
    · rw [Blake2s.new_src_eq_model]
  rw [h1]
  cases (if (!key.isEmpty) = true then Blake2s.new_keyed_src out.length key else Blake2s.new_src out.length) with
  | none => rfl
  | some s =>
    simp only [Option.map_some]
    rw [← Blake2s.update_src_eq_model]
    cases Blake2s.update_src s input with
    | none => rfl
    | some s2 =>
      simp only [Option.map_some]
      rw [← Blake2s.finalize_src_eq_model]
      cases Blake2s.finalize_src s2 out with
      | none => rfl
      | some p => rfl

/-! `impl Digest for Blake2s` = the dictionary `blake2sDigest codeVariant` on the abstraction -/

theorem Blake2s.Digest.input_src_eq_model (s : Blake2s.Obj) (msg : Bytes) :
    (Blake2s.Digest.input_src s msg).map B2s.abs = (blake2sDigest codeVariant).input (B2s.abs s) msg := by
  unfold Blake2s.Digest.input_src
  show _ = Impl.Digest.Blake2.update Impl.Blake2.s (B2s.abs s) msg
  rw [← Blake2s.update_src_eq_model]
  cases Blake2s.update_src s msg <;> rfl
theorem Blake2s.Digest.reset_src_eq_model (s : Blake2s.Obj) (hi : B2s.Inv s) :
    (Blake2s.Digest.reset_src s).map B2s.abs = (blake2sDigest codeVariant).reset (B2s.abs s) := by
  unfold Blake2s.Digest.reset_src
  show _ = Impl.Digest.Blake2.reset codeVariant Impl.Blake2.s (B2s.abs s)
  rw [← Blake2s.reset_src_eq_model s hi]
  cases Blake2s.reset_src s <;> rfl
theorem Blake2s.Digest.result_src_eq_model (s : Blake2s.Obj) (out : Bytes) :
    (Blake2s.Digest.result_src s out).map (fun p => (B2s.abs p.1, p.2))
      = (blake2sDigest codeVariant).result (B2s.abs s) out.length := by
  unfold Blake2s.Digest.result_src
  show _ = Impl.Digest.Blake2.finalize Impl.Blake2.s (B2s.abs s) out.length
  rw [← Blake2s.finalize_src_eq_model]
  cases Blake2s.finalize_src s out <;> rfl
theorem Blake2s.Digest.output_bits_src_eq_model (s : Blake2s.Obj) :
    Blake2s.Digest.output_bits_src s = (blake2sDigest codeVariant).output_bits (B2s.abs s) := rfl
theorem Blake2s.Digest.block_size_src_eq_model (s : Blake2s.Obj) :
    Blake2s.Digest.block_size_src s = (blake2sDigest codeVariant).block_size (B2s.abs s) := rfl

/-! `impl Mac for Blake2s` = the dictionary `blake2sMac codeVariant` on the abstraction; `result()` returns a `MacResult`
    whose `code` is the model's byte string -/

theorem Blake2s.Mac.input_src_eq_model (s : Blake2s.Obj) (data : Bytes) :
    (Blake2s.Mac.input_src s data).map B2s.abs = (blake2sMac codeVariant).input (B2s.abs s) data := by
  unfold Blake2s.Mac.input_src
  show _ = Impl.Digest.Blake2.update Impl.Blake2.s (B2s.abs s) data
  rw [← Blake2s.update_src_eq_model]
  cases Blake2s.update_src s data <;> rfl
theorem Blake2s.Mac.reset_src_eq_model (s : Blake2s.Obj) (hi : B2s.Inv s) :
    (Blake2s.Mac.reset_src s).map B2s.abs = (blake2sMac codeVariant).reset (B2s.abs s) := by
  unfold Blake2s.Mac.reset_src
  show _ = Impl.Digest.Blake2.reset codeVariant Impl.Blake2.s (B2s.abs s)
  rw [← Blake2s.reset_src_eq_model s hi]
  cases Blake2s.reset_src s <;> rfl
theorem Blake2s.Mac.raw_result_src_eq_model (s : Blake2s.Obj) (output : Bytes) :
    (Blake2s.Mac.raw_result_src s output).map (fun p => (B2s.abs p.1, p.2))
      = (blake2sMac codeVariant).raw_result (B2s.abs s) output.length := by
  unfold Blake2s.Mac.raw_result_src
  show _ = Impl.Digest.Blake2.finalize Impl.Blake2.s (B2s.abs s) output.length
  rw [← Blake2s.finalize_src_eq_model]
  cases Blake2s.finalize_src s output <;> rfl
theorem Blake2s.Mac.result_src_eq_model (s : Blake2s.Obj) :
    (Blake2s.Mac.result_src s).map (fun p => (B2s.abs p.1, p.2.code)) = (blake2sMac codeVariant).result (B2s.abs s) := by
  unfold Blake2s.Mac.result_src
  have h := Blake2s.Mac.raw_result_src_eq_model s (zeros (s.ctx.output_bits / 8))
  rw [Cx.Proofs.Bytes.zeros_length] at h
  show _ = (blake2sMac codeVariant).raw_result (B2s.abs s) (s.ctx.output_bits / 8)
  rw [← h]
  show Option.map _ (match Blake2s.Mac.raw_result_src s (zeros (s.ctx.output_bits / 8)) with | none => none | some (self, mac) => _) = _
  cases Blake2s.Mac.raw_result_src s (zeros (s.ctx.output_bits / 8)) <;> rfl
theorem Blake2s.Mac.output_bytes_src_eq_model (s : Blake2s.Obj) :
    Blake2s.Mac.output_bytes_src s = (blake2sMac codeVariant).output_bytes (B2s.abs s) := rfl

/-- the invariant is inhabited by a keyed object that went through an input -/
example : ∀ s s', Blake2s.new_keyed_src 16 [1, 2, 3] = some s → Blake2s.update_src s [7] = some s' → B2s.Inv s' :=
  fun s s' h1 h2 => Blake2s.update_src_inv s s' [7] (Blake2s.new_keyed_src_inv 16 [1, 2, 3] s h1) h2
example : ((Blake2s.new_keyed_src 16 [1, 2, 3]).bind (fun s => Blake2s.update_src s [7])).isSome = true := by decide +kernel

/-! ## src/hashing/sha1.rs — `digest_block(s)`, `mk_result`, `Context` -/

/-- `digest_block`: `assert_eq!(block.len(), 64)`, sixteen big-endian words, the compression core (KernelTieSha1) -/
theorem HSha1.digest_block_src_eq_model (state : Spec.Sha1.Hash) (block : Bytes) :
    HSha1.digest_block_src state block = Impl.Sha1.digest_block state block := by
  unfold HSha1.digest_block_src Impl.Sha1.digest_block Impl.read_u32v_be Impl.Sha1.BLOCK_BYTES
  by_cases h : block.length = 64
  · simp [h]
    cases Impl.Sha1.digest_block_u32 state (wordsBE32 block) <;> rfl
  · simp [h]
/-- `digest_blocks`: the `for b in block.chunks(64)` loop, for every number of chunks -/
theorem HSha1.digest_blocks_loop_src_eq_model (l : List Bytes) (state : Spec.Sha1.Hash) :
    HSha1.digest_blocks_loop1_src l state = Impl.Sha1.digest_blocks_go state l := by
  induction l generalizing state with
  | nil => rfl
  | cons b bs ih =>
    unfold HSha1.digest_blocks_loop1_src Impl.Sha1.digest_blocks_go
    rw [HSha1.digest_block_src_eq_model]
    cases Impl.Sha1.digest_block state b with
    | none => rfl
    | some s' => exact ih s'
theorem HSha1.digest_blocks_src_eq_model (state : Spec.Sha1.Hash) (block : Bytes) :
    HSha1.digest_blocks_src state block = Impl.Sha1.digest_blocks state block := by
  unfold HSha1.digest_blocks_src Impl.Sha1.digest_blocks Impl.Sha1.BLOCK_BYTES
  rw [HSha1.digest_blocks_loop_src_eq_model]
  cases Impl.Sha1.digest_blocks_go state (chunks 64 block) <;> rfl
/-- `mk_result(st, rs)`: `standard_padding(8, …)` with the closure on `st.h`, the length field
    `(processed_bytes << 3).to_be_bytes()` through `next::<8>()`, the last block, the five big-endian words stored at
    0, 4, 8, 12, 16 — they overwrite all of `rs: &mut [u8; 20]` (`hr` is that typing fact) -/
theorem HSha1.mk_result_src_eq_model (st : Impl.Sha1.Context) (rs : Bytes) (hr : rs.length = 20) :
    HSha1.mk_result_src st rs = Impl.Sha1.Context.mk_result st := by
  have hs := fun h' : Spec.Sha1.Hash => five_stores rs (u32be h'.a) (u32be h'.b) (u32be h'.c) (u32be h'.d) (u32be h'.e) hr
    (Cx.Proofs.Bytes.u32be_length _) (Cx.Proofs.Bytes.u32be_length _) (Cx.Proofs.Bytes.u32be_length _) (Cx.Proofs.Bytes.u32be_length _)
  unfold HSha1.mk_result_src Impl.Sha1.Context.mk_result
  simp only [HSha1.digest_block_src_eq_model, Impl.Sha1.write_u32_be] at hs ⊢
  simp only [hs]
  rfl
-- the typing hypothesis `rs.length = 20` of `mk_result_src_eq_model` holds at both callers, which pass `[0; 20]`
example : (zeros 20).length = 20 := by decide
theorem HSha1.Context.new_src_eq_model : HSha1.Context.new_src = Impl.Sha1.Context.new := rfl
/-- `update_mut`: the byte counter (`+=`, wrapping as in the model), then `buffer.input` with the closure on `self.h` -/
theorem HSha1.Context.update_mut_src_eq_model (self : Impl.Sha1.Context) (input : Bytes) :
    HSha1.Context.update_mut_src self input = Impl.Sha1.Context.update_mut self input := by
  unfold HSha1.Context.update_mut_src Impl.Sha1.Context.update_mut
  simp only [HSha1.digest_blocks_src_eq_model]
  cases Impl.FixedBuffer.input 64 self.buffer input Impl.Sha1.digest_blocks self.h <;> rfl
theorem HSha1.Context.update_src_eq_model (self : Impl.Sha1.Context) (input : Bytes) :
    HSha1.Context.update_src self input = Impl.Sha1.Context.update self input := by
  unfold HSha1.Context.update_src Impl.Sha1.Context.update
  rw [HSha1.Context.update_mut_src_eq_model]
  cases Impl.Sha1.Context.update_mut self input <;> rfl
/-- `reset`: counter, state words AND buffer index -/
theorem HSha1.Context.reset_src_eq_model (self : Impl.Sha1.Context) :
    HSha1.Context.reset_src self = Impl.Sha1.Context.reset self := rfl
theorem HSha1.Context.finalize_src_eq_model (self : Impl.Sha1.Context) :
    HSha1.Context.finalize_src self = Impl.Sha1.Context.finalize self := by
  unfold HSha1.Context.finalize_src Impl.Sha1.Context.finalize
  dsimp only
  rw [HSha1.mk_result_src_eq_model _ _ (Cx.Proofs.Bytes.zeros_length 20)]
  cases Impl.Sha1.Context.mk_result self <;> rfl
/-- `finalize_reset`: `mk_result` then `reset` (which also clears the byte counter) -/
theorem HSha1.Context.finalize_reset_src_eq_model (self : Impl.Sha1.Context) :
    HSha1.Context.finalize_reset_src self = Impl.Sha1.Context.finalize_reset self := by
  unfold HSha1.Context.finalize_reset_src Impl.Sha1.Context.finalize_reset
  dsimp only
  rw [HSha1.mk_result_src_eq_model _ _ (Cx.Proofs.Bytes.zeros_length 20)]
  cases Impl.Sha1.Context.mk_result self <;> rfl
theorem HSha1.Sha1.new_src_eq_model : HSha1.Sha1.new_src = Impl.Sha1.Context.new := rfl

/-! ## src/hashing/ripemd160.rs — `process_msg_blocks`, `Context` -/

/-- the generated loop and the model's `go` are the same recursion over the list of blocks -/
theorem HRipemd160.process_msg_blocks_loop_src_eq_model (l : List Bytes) (h : Spec.Ripemd160.Hash) :
    HRipemd160.process_msg_blocks_loop1_src l h = Impl.Ripemd160.process_msg_blocks_go h l := by kernel_rfl
theorem HRipemd160.process_msg_blocks_src_eq_model (data : Bytes) (h : Spec.Ripemd160.Hash) :
    HRipemd160.process_msg_blocks_src data h = Impl.Ripemd160.process_msg_blocks data h := by
  unfold HRipemd160.process_msg_blocks_src Impl.Ripemd160.process_msg_blocks
  rw [HRipemd160.process_msg_blocks_loop_src_eq_model]
  cases Impl.Ripemd160.process_msg_blocks_go h (chunks 64 data) <;> rfl
theorem HRipemd160.Context.new_src_eq_model : HRipemd160.Context.new_src = Impl.Ripemd160.Context.new := rfl
theorem HRipemd160.Context.update_mut_src_eq_model (self : Impl.Ripemd160.Context) (msg : Bytes) :
    HRipemd160.Context.update_mut_src self msg = Impl.Ripemd160.Context.update_mut self msg := by
  unfold HRipemd160.Context.update_mut_src Impl.Ripemd160.Context.update_mut
  simp only [HRipemd160.process_msg_blocks_src_eq_model]
  cases Impl.FixedBuffer.input 64 self.buffer msg (fun h d => Impl.Ripemd160.process_msg_blocks d h) self.h <;> rfl
theorem HRipemd160.Context.update_src_eq_model (self : Impl.Ripemd160.Context) (input : Bytes) :
    HRipemd160.Context.update_src self input = Impl.Ripemd160.Context.update self input := by
  unfold HRipemd160.Context.update_src Impl.Ripemd160.Context.update
  rw [HRipemd160.Context.update_mut_src_eq_model]
  cases Impl.Ripemd160.Context.update_mut self input <;> rfl
theorem HRipemd160.Context.reset_src_eq_model (self : Impl.Ripemd160.Context) :
    HRipemd160.Context.reset_src self = Impl.Ripemd160.Context.reset self := rfl
/-- `finalize_reset`: padding, the bit length as TWO little-endian u32 written through `next::<4>()`:
    low word `(processed_bytes << 3) as u32`, high word `(processed_bytes >> 29) as u32` (the carry of the `<< 3` into the high
    word), the last block, five little-endian output words, `reset` -/
theorem HRipemd160.Context.finalize_reset_src_eq_model (self : Impl.Ripemd160.Context) :
    HRipemd160.Context.finalize_reset_src self = Impl.Ripemd160.Context.finalize_reset self := by
  have hs := fun h' : Spec.Ripemd160.Hash => five_stores (zeros 20) (u32le h'.a) (u32le h'.b) (u32le h'.c) (u32le h'.d) (u32le h'.e)
    (Cx.Proofs.Bytes.zeros_length 20) (Cx.Proofs.Bytes.u32le_length _) (Cx.Proofs.Bytes.u32le_length _) (Cx.Proofs.Bytes.u32le_length _)
    (Cx.Proofs.Bytes.u32le_length _)
  unfold HRipemd160.Context.finalize_reset_src Impl.Ripemd160.Context.finalize_reset
  simp only [Impl.Ripemd160.write_u32_le, HRipemd160.Context.reset_src_eq_model] at hs ⊢
  simp only [hs]
  rfl
theorem HRipemd160.Context.finalize_src_eq_model (self : Impl.Ripemd160.Context) :
    HRipemd160.Context.finalize_src self = Impl.Ripemd160.Context.finalize self := by
  unfold HRipemd160.Context.finalize_src Impl.Ripemd160.Context.finalize
  rw [HRipemd160.Context.finalize_reset_src_eq_model]
  cases Impl.Ripemd160.Context.finalize_reset self <;> rfl
theorem HRipemd160.Ripemd160.new_src_eq_model : HRipemd160.Ripemd160.new_src = Impl.Ripemd160.Context.new := rfl

/-! ## src/hashing/sha2/mod.rs — the six `digest!` invocations above `Engine256` / `Engine512` -/

/- Each copy is matched against its shape (`HS2.*_shape*`, `HOne.*_shape` of Proofs/GlueDigest.lean).  The proofs go through
   without the attribute below; with the output functions and the sponge / BLAKE2 context functions unfoldable the unifier runs
   them symbolically while it matches a copy against its shape, and this section takes twice the work to check. -/
attribute [local irreducible] Impl.Sha2.Eng512.Engine.output_512bits_at Impl.Sha2.Eng512.Engine.output_384bits_at
  Impl.Sha2.Eng512.Engine.output_256bits_at Impl.Sha2.Eng512.Engine.output_224bits_at
  Impl.Sha2.Eng256.Engine.output_256bits_at Impl.Sha2.Eng256.Engine.output_224bits_at
  Impl.Sha3.Context.update Impl.Sha3.Context.finalize Impl.Blake2.Context.new Impl.Blake2.Context.update
  Impl.Blake2.Context.finalize

/-! #### `digest!(512 Sha512, Context512, …)` -/
theorem HSha2.Context512.new_src_eq_model : HSha2.Context512.new_src = Impl.Sha2.Ctx512.new Impl.Sha2.Sha512 := rfl
theorem HSha2.Context512.update_mut_src_eq_model (self : Impl.Sha2.Ctx512) (input : Bytes) :
    HSha2.Context512.update_mut_src self input = Impl.Sha2.Ctx512.update_mut self input := HS2.update_shape512 self input
theorem HSha2.Context512.update_src_eq_model (self : Impl.Sha2.Ctx512) (input : Bytes) :
    HSha2.Context512.update_src self input = Impl.Sha2.Ctx512.update self input := HS2.update_shape512 self input
theorem HSha2.Context512.reset_src_eq_model (self : Impl.Sha2.Ctx512) : HSha2.Context512.reset_src self = Impl.Sha2.Ctx512.reset Impl.Sha2.Sha512 self := rfl
theorem HSha2.Context512.finalize_src_eq_model (self : Impl.Sha2.Ctx512) :
    HSha2.Context512.finalize_src self = Impl.Sha2.Ctx512.finalize Impl.Sha2.Sha512 self := HS2.finalize_shape512 Impl.Sha2.Sha512 self
theorem HSha2.Context512.finalize_reset_src_eq_model (self : Impl.Sha2.Ctx512) :
    HSha2.Context512.finalize_reset_src self = Impl.Sha2.Ctx512.finalize_reset Impl.Sha2.Sha512 self := HS2.finalize_reset_shape512 Impl.Sha2.Sha512 self
theorem HSha2.Sha512.new_src_eq_model : HSha2.Sha512.new_src = Impl.Sha2.Ctx512.new Impl.Sha2.Sha512 := rfl

/-! #### `digest!(512 Sha384, Context384, …)` -/
theorem HSha2.Context384.new_src_eq_model : HSha2.Context384.new_src = Impl.Sha2.Ctx512.new Impl.Sha2.Sha384 := rfl
theorem HSha2.Context384.update_mut_src_eq_model (self : Impl.Sha2.Ctx512) (input : Bytes) :
    HSha2.Context384.update_mut_src self input = Impl.Sha2.Ctx512.update_mut self input := HS2.update_shape512 self input
theorem HSha2.Context384.update_src_eq_model (self : Impl.Sha2.Ctx512) (input : Bytes) :
    HSha2.Context384.update_src self input = Impl.Sha2.Ctx512.update self input := HS2.update_shape512 self input
theorem HSha2.Context384.reset_src_eq_model (self : Impl.Sha2.Ctx512) : HSha2.Context384.reset_src self = Impl.Sha2.Ctx512.reset Impl.Sha2.Sha384 self := rfl
theorem HSha2.Context384.finalize_src_eq_model (self : Impl.Sha2.Ctx512) :
    HSha2.Context384.finalize_src self = Impl.Sha2.Ctx512.finalize Impl.Sha2.Sha384 self := HS2.finalize_shape512 Impl.Sha2.Sha384 self
theorem HSha2.Context384.finalize_reset_src_eq_model (self : Impl.Sha2.Ctx512) :
    HSha2.Context384.finalize_reset_src self = Impl.Sha2.Ctx512.finalize_reset Impl.Sha2.Sha384 self := HS2.finalize_reset_shape512 Impl.Sha2.Sha384 self
theorem HSha2.Sha384.new_src_eq_model : HSha2.Sha384.new_src = Impl.Sha2.Ctx512.new Impl.Sha2.Sha384 := rfl

/-! #### `digest!(512 Sha512Trunc256, Context512_256, …)` -/
theorem HSha2.Context512_256.new_src_eq_model : HSha2.Context512_256.new_src = Impl.Sha2.Ctx512.new Impl.Sha2.Sha512Trunc256 := rfl
theorem HSha2.Context512_256.update_mut_src_eq_model (self : Impl.Sha2.Ctx512) (input : Bytes) :
    HSha2.Context512_256.update_mut_src self input = Impl.Sha2.Ctx512.update_mut self input := HS2.update_shape512 self input
theorem HSha2.Context512_256.update_src_eq_model (self : Impl.Sha2.Ctx512) (input : Bytes) :
    HSha2.Context512_256.update_src self input = Impl.Sha2.Ctx512.update self input := HS2.update_shape512 self input
theorem HSha2.Context512_256.reset_src_eq_model (self : Impl.Sha2.Ctx512) : HSha2.Context512_256.reset_src self = Impl.Sha2.Ctx512.reset Impl.Sha2.Sha512Trunc256 self := rfl
theorem HSha2.Context512_256.finalize_src_eq_model (self : Impl.Sha2.Ctx512) :
    HSha2.Context512_256.finalize_src self = Impl.Sha2.Ctx512.finalize Impl.Sha2.Sha512Trunc256 self := HS2.finalize_shape512 Impl.Sha2.Sha512Trunc256 self
theorem HSha2.Context512_256.finalize_reset_src_eq_model (self : Impl.Sha2.Ctx512) :
    HSha2.Context512_256.finalize_reset_src self = Impl.Sha2.Ctx512.finalize_reset Impl.Sha2.Sha512Trunc256 self :=
  HS2.finalize_reset_shape512 Impl.Sha2.Sha512Trunc256 self
theorem HSha2.Sha512Trunc256.new_src_eq_model : HSha2.Sha512Trunc256.new_src = Impl.Sha2.Ctx512.new Impl.Sha2.Sha512Trunc256 := rfl

/-! #### `digest!(512 Sha512Trunc224, Context512_224, …)` -/
theorem HSha2.Context512_224.new_src_eq_model : HSha2.Context512_224.new_src = Impl.Sha2.Ctx512.new Impl.Sha2.Sha512Trunc224 := rfl
theorem HSha2.Context512_224.update_mut_src_eq_model (self : Impl.Sha2.Ctx512) (input : Bytes) :
    HSha2.Context512_224.update_mut_src self input = Impl.Sha2.Ctx512.update_mut self input := HS2.update_shape512 self input
theorem HSha2.Context512_224.update_src_eq_model (self : Impl.Sha2.Ctx512) (input : Bytes) :
    HSha2.Context512_224.update_src self input = Impl.Sha2.Ctx512.update self input := HS2.update_shape512 self input
theorem HSha2.Context512_224.reset_src_eq_model (self : Impl.Sha2.Ctx512) : HSha2.Context512_224.reset_src self = Impl.Sha2.Ctx512.reset Impl.Sha2.Sha512Trunc224 self := rfl
theorem HSha2.Context512_224.finalize_src_eq_model (self : Impl.Sha2.Ctx512) :
    HSha2.Context512_224.finalize_src self = Impl.Sha2.Ctx512.finalize Impl.Sha2.Sha512Trunc224 self := HS2.finalize_shape512 Impl.Sha2.Sha512Trunc224 self
theorem HSha2.Context512_224.finalize_reset_src_eq_model (self : Impl.Sha2.Ctx512) :
    HSha2.Context512_224.finalize_reset_src self = Impl.Sha2.Ctx512.finalize_reset Impl.Sha2.Sha512Trunc224 self :=
  HS2.finalize_reset_shape512 Impl.Sha2.Sha512Trunc224 self
theorem HSha2.Sha512Trunc224.new_src_eq_model : HSha2.Sha512Trunc224.new_src = Impl.Sha2.Ctx512.new Impl.Sha2.Sha512Trunc224 := rfl

/-! #### `digest!(256 Sha256, Context256, …)` -/
theorem HSha2.Context256.new_src_eq_model : HSha2.Context256.new_src = Impl.Sha2.Ctx256.new Impl.Sha2.Sha256 := rfl
theorem HSha2.Context256.update_mut_src_eq_model (self : Impl.Sha2.Ctx256) (input : Bytes) :
    HSha2.Context256.update_mut_src self input = Impl.Sha2.Ctx256.update_mut self input := HS2.update_shape256 self input
theorem HSha2.Context256.update_src_eq_model (self : Impl.Sha2.Ctx256) (input : Bytes) :
    HSha2.Context256.update_src self input = Impl.Sha2.Ctx256.update self input := HS2.update_shape256 self input
theorem HSha2.Context256.reset_src_eq_model (self : Impl.Sha2.Ctx256) : HSha2.Context256.reset_src self = Impl.Sha2.Ctx256.reset Impl.Sha2.Sha256 self := rfl
theorem HSha2.Context256.finalize_src_eq_model (self : Impl.Sha2.Ctx256) :
    HSha2.Context256.finalize_src self = Impl.Sha2.Ctx256.finalize Impl.Sha2.Sha256 self := HS2.finalize_shape256 Impl.Sha2.Sha256 self
theorem HSha2.Context256.finalize_reset_src_eq_model (self : Impl.Sha2.Ctx256) :
    HSha2.Context256.finalize_reset_src self = Impl.Sha2.Ctx256.finalize_reset Impl.Sha2.Sha256 self := HS2.finalize_reset_shape256 Impl.Sha2.Sha256 self
theorem HSha2.Sha256.new_src_eq_model : HSha2.Sha256.new_src = Impl.Sha2.Ctx256.new Impl.Sha2.Sha256 := rfl

/-! #### `digest!(256 Sha224, Context224, …)` -/
theorem HSha2.Context224.new_src_eq_model : HSha2.Context224.new_src = Impl.Sha2.Ctx256.new Impl.Sha2.Sha224 := rfl
theorem HSha2.Context224.update_mut_src_eq_model (self : Impl.Sha2.Ctx256) (input : Bytes) :
    HSha2.Context224.update_mut_src self input = Impl.Sha2.Ctx256.update_mut self input := HS2.update_shape256 self input
theorem HSha2.Context224.update_src_eq_model (self : Impl.Sha2.Ctx256) (input : Bytes) :
    HSha2.Context224.update_src self input = Impl.Sha2.Ctx256.update self input := HS2.update_shape256 self input
theorem HSha2.Context224.reset_src_eq_model (self : Impl.Sha2.Ctx256) : HSha2.Context224.reset_src self = Impl.Sha2.Ctx256.reset Impl.Sha2.Sha224 self := rfl
theorem HSha2.Context224.finalize_src_eq_model (self : Impl.Sha2.Ctx256) :
    HSha2.Context224.finalize_src self = Impl.Sha2.Ctx256.finalize Impl.Sha2.Sha224 self := HS2.finalize_shape256 Impl.Sha2.Sha224 self
theorem HSha2.Context224.finalize_reset_src_eq_model (self : Impl.Sha2.Ctx256) :
    HSha2.Context224.finalize_reset_src self = Impl.Sha2.Ctx256.finalize_reset Impl.Sha2.Sha224 self := HS2.finalize_reset_shape256 Impl.Sha2.Sha224 self
theorem HSha2.Sha224.new_src_eq_model : HSha2.Sha224.new_src = Impl.Sha2.Ctx256.new Impl.Sha2.Sha224 := rfl

/-! ## src/hashing/mod.rs — the one-shot functions `X::new().update(input).finalize()` -/

theorem Hashing.sha1_src_eq_model (input : Bytes) : Hashing.sha1_src input = Impl.Sha1.sha1 input := by
  unfold Hashing.sha1_src Impl.Sha1.sha1
  rw [HSha1.Context.update_src_eq_model, HSha1.Sha1.new_src_eq_model]
  cases Impl.Sha1.Context.update Impl.Sha1.Context.new input with
  | none => rfl
  | some c =>
    simp only [HSha1.Context.finalize_src_eq_model]
    cases Impl.Sha1.Context.finalize c <;> rfl
theorem Hashing.ripemd160_src_eq_model (input : Bytes) : Hashing.ripemd160_src input = Impl.Ripemd160.ripemd160 input := by
  unfold Hashing.ripemd160_src Impl.Ripemd160.ripemd160
  rw [HRipemd160.Context.update_src_eq_model, HRipemd160.Ripemd160.new_src_eq_model]
  cases Impl.Ripemd160.Context.update Impl.Ripemd160.Context.new input with
  | none => rfl
  | some c =>
    simp only [HRipemd160.Context.finalize_src_eq_model]
    cases Impl.Ripemd160.Context.finalize c <;> rfl
theorem Hashing.sha224_src_eq_model (input : Bytes) : Hashing.sha224_src input = Impl.Sha2.sha224? input := by
  unfold Hashing.sha224_src
  simp only [HSha2.Context224.update_src_eq_model, HSha2.Sha224.new_src_eq_model, HSha2.Context224.finalize_src_eq_model]
  exact HS2.oneshot_shape256 Impl.Sha2.Sha224 input
theorem Hashing.sha256_src_eq_model (input : Bytes) : Hashing.sha256_src input = Impl.Sha2.sha256? input := by
  unfold Hashing.sha256_src
  simp only [HSha2.Context256.update_src_eq_model, HSha2.Sha256.new_src_eq_model, HSha2.Context256.finalize_src_eq_model]
  exact HS2.oneshot_shape256 Impl.Sha2.Sha256 input
theorem Hashing.sha384_src_eq_model (input : Bytes) : Hashing.sha384_src input = Impl.Sha2.sha384? input := by
  unfold Hashing.sha384_src
  simp only [HSha2.Context384.update_src_eq_model, HSha2.Sha384.new_src_eq_model, HSha2.Context384.finalize_src_eq_model]
  exact HS2.oneshot_shape512 Impl.Sha2.Sha384 input
theorem Hashing.sha512_src_eq_model (input : Bytes) : Hashing.sha512_src input = Impl.Sha2.sha512? input := by
  unfold Hashing.sha512_src
  simp only [HSha2.Context512.update_src_eq_model, HSha2.Sha512.new_src_eq_model, HSha2.Context512.finalize_src_eq_model]
  exact HS2.oneshot_shape512 Impl.Sha2.Sha512 input
theorem Hashing.sha3_224_src_eq_model (input : Bytes) : Hashing.sha3_224_src input = Impl.Sha3.sha3_224 input := HOne.sponge_shape 28 2 input
theorem Hashing.sha3_256_src_eq_model (input : Bytes) : Hashing.sha3_256_src input = Impl.Sha3.sha3_256 input := HOne.sponge_shape 32 2 input
theorem Hashing.sha3_384_src_eq_model (input : Bytes) : Hashing.sha3_384_src input = Impl.Sha3.sha3_384 input := HOne.sponge_shape 48 2 input
theorem Hashing.sha3_512_src_eq_model (input : Bytes) : Hashing.sha3_512_src input = Impl.Sha3.sha3_512 input := HOne.sponge_shape 64 2 input
theorem Hashing.keccak224_src_eq_model (input : Bytes) : Hashing.keccak224_src input = Impl.Sha3.keccak224 input := HOne.sponge_shape 28 0 input
theorem Hashing.keccak256_src_eq_model (input : Bytes) : Hashing.keccak256_src input = Impl.Sha3.keccak256 input := HOne.sponge_shape 32 0 input
theorem Hashing.keccak384_src_eq_model (input : Bytes) : Hashing.keccak384_src input = Impl.Sha3.keccak384 input := HOne.sponge_shape 48 0 input
theorem Hashing.keccak512_src_eq_model (input : Bytes) : Hashing.keccak512_src input = Impl.Sha3.keccak512 input := HOne.sponge_shape 64 0 input
theorem Hashing.blake2b_224_src_eq_model (input : Bytes) :
    Hashing.blake2b_224_src input = Impl.Blake2.hashing_blake2 Impl.Blake2.b Impl.Digest.blakeProfile 224 input := HOne.blake2b_shape 224 input
theorem Hashing.blake2b_256_src_eq_model (input : Bytes) :
    Hashing.blake2b_256_src input = Impl.Blake2.hashing_blake2 Impl.Blake2.b Impl.Digest.blakeProfile 256 input := HOne.blake2b_shape 256 input
theorem Hashing.blake2b_384_src_eq_model (input : Bytes) :
    Hashing.blake2b_384_src input = Impl.Blake2.hashing_blake2 Impl.Blake2.b Impl.Digest.blakeProfile 384 input := HOne.blake2b_shape 384 input
theorem Hashing.blake2b_512_src_eq_model (input : Bytes) :
    Hashing.blake2b_512_src input = Impl.Blake2.hashing_blake2 Impl.Blake2.b Impl.Digest.blakeProfile 512 input := HOne.blake2b_shape 512 input
theorem Hashing.blake2s_224_src_eq_model (input : Bytes) :
    Hashing.blake2s_224_src input = Impl.Blake2.hashing_blake2 Impl.Blake2.s Impl.Digest.blakeProfile 224 input := HOne.blake2s_shape 224 input
theorem Hashing.blake2s_256_src_eq_model (input : Bytes) :
    Hashing.blake2s_256_src input = Impl.Blake2.hashing_blake2 Impl.Blake2.s Impl.Digest.blakeProfile 256 input := HOne.blake2s_shape 256 input

/-! ## End to end: what the SOURCE of the one-shot functions computes is the standard function

  `Hashing.<f>_src` is generated from src/hashing/mod.rs and calls the functions generated from src/hashing/sha1.rs,
  ripemd160.rs, sha2/mod.rs (resp. the model contexts of SHA-3 / Keccak / BLAKE2, tied by the sponge / BLAKE2 glue ties); the tie
  theorems above and the C01 theorems of the hand models compose (the only hypotheses are the standards' own length domains). -/

theorem Hashing.sha1_src_is_fips (input : Bytes) (h : input.length < 2 ^ 61) :
    Hashing.sha1_src input = some (Spec.Sha1.sha1 input) := by
  rw [Hashing.sha1_src_eq_model]; exact Cx.Props.C01.Sha1.sha1_is_fips input h
theorem Hashing.ripemd160_src_is_paper (input : Bytes) (h : input.length < 2 ^ 61) :
    Hashing.ripemd160_src input = some (Spec.Ripemd160.ripemd160 input) := by
  rw [Hashing.ripemd160_src_eq_model]; exact Cx.Props.C01.Ripemd160.ripemd160_is_paper input h
theorem Hashing.sha224_src_is_fips (input : Bytes) (h : input.length < 2 ^ 61) :
    Hashing.sha224_src input = some (Spec.Sha2.sha224 input) := by
  rw [Hashing.sha224_src_eq_model]; exact Cx.Props.C01.Sha2.sha224_eq_spec input h
theorem Hashing.sha256_src_is_fips (input : Bytes) (h : input.length < 2 ^ 61) :
    Hashing.sha256_src input = some (Spec.Sha2.sha256 input) := by
  rw [Hashing.sha256_src_eq_model]; exact Cx.Props.C01.Sha2.sha256_eq_spec input h
theorem Hashing.sha384_src_is_fips (input : Bytes) (h : input.length < 2 ^ 125) :
    Hashing.sha384_src input = some (Spec.Sha2.sha384 input) := by
  rw [Hashing.sha384_src_eq_model]; exact Cx.Props.C01.Sha2.sha384_eq_spec input h
theorem Hashing.sha512_src_is_fips (input : Bytes) (h : input.length < 2 ^ 125) :
    Hashing.sha512_src input = some (Spec.Sha2.sha512 input) := by
  rw [Hashing.sha512_src_eq_model]; exact Cx.Props.C01.Sha2.sha512_eq_spec input h
theorem Hashing.sha3_224_src_is_fips (input : Bytes) : Hashing.sha3_224_src input = some (Spec.Keccak.sha3_224 input) := by
  rw [Hashing.sha3_224_src_eq_model]; exact Cx.Props.C01.sha3_224_eq_spec input
theorem Hashing.sha3_256_src_is_fips (input : Bytes) : Hashing.sha3_256_src input = some (Spec.Keccak.sha3_256 input) := by
  rw [Hashing.sha3_256_src_eq_model]; exact Cx.Props.C01.sha3_256_eq_spec input
theorem Hashing.sha3_384_src_is_fips (input : Bytes) : Hashing.sha3_384_src input = some (Spec.Keccak.sha3_384 input) := by
  rw [Hashing.sha3_384_src_eq_model]; exact Cx.Props.C01.sha3_384_eq_spec input
theorem Hashing.sha3_512_src_is_fips (input : Bytes) : Hashing.sha3_512_src input = some (Spec.Keccak.sha3_512 input) := by
  rw [Hashing.sha3_512_src_eq_model]; exact Cx.Props.C01.sha3_512_eq_spec input
-- `Spec.Keccak.keccakNNN` is the Keccak submission (no domain-separation bits), which FIPS 202 does not define;
-- in the next four names `_is_fips` is only the naming pattern of this block
theorem Hashing.keccak224_src_is_fips (input : Bytes) : Hashing.keccak224_src input = some (Spec.Keccak.keccak224 input) := by
  rw [Hashing.keccak224_src_eq_model]; exact Cx.Props.C01.keccak224_eq_spec input
theorem Hashing.keccak256_src_is_fips (input : Bytes) : Hashing.keccak256_src input = some (Spec.Keccak.keccak256 input) := by
  rw [Hashing.keccak256_src_eq_model]; exact Cx.Props.C01.keccak256_eq_spec input
theorem Hashing.keccak384_src_is_fips (input : Bytes) : Hashing.keccak384_src input = some (Spec.Keccak.keccak384 input) := by
  rw [Hashing.keccak384_src_eq_model]; exact Cx.Props.C01.keccak384_eq_spec input
theorem Hashing.keccak512_src_is_fips (input : Bytes) : Hashing.keccak512_src input = some (Spec.Keccak.keccak512 input) := by
  rw [Hashing.keccak512_src_eq_model]; exact Cx.Props.C01.keccak512_eq_spec input
theorem Hashing.blake2b_224_src_is_rfc (input : Bytes) :
    Hashing.blake2b_224_src input = some (Spec.Blake2.blake2b 28 [] input) := by
  rw [Hashing.blake2b_224_src_eq_model]; exact Cx.Props.C01.hashing_blake2b_fixed 224 (by decide) input
theorem Hashing.blake2b_256_src_is_rfc (input : Bytes) :
    Hashing.blake2b_256_src input = some (Spec.Blake2.blake2b 32 [] input) := by
  rw [Hashing.blake2b_256_src_eq_model]; exact Cx.Props.C01.hashing_blake2b_fixed 256 (by decide) input
theorem Hashing.blake2b_384_src_is_rfc (input : Bytes) :
    Hashing.blake2b_384_src input = some (Spec.Blake2.blake2b 48 [] input) := by
  rw [Hashing.blake2b_384_src_eq_model]; exact Cx.Props.C01.hashing_blake2b_fixed 384 (by decide) input
theorem Hashing.blake2b_512_src_is_rfc (input : Bytes) :
    Hashing.blake2b_512_src input = some (Spec.Blake2.blake2b 64 [] input) := by
  rw [Hashing.blake2b_512_src_eq_model]; exact Cx.Props.C01.hashing_blake2b_fixed 512 (by decide) input
theorem Hashing.blake2s_224_src_is_rfc (input : Bytes) :
    Hashing.blake2s_224_src input = some (Spec.Blake2.blake2s 28 [] input) := by
  rw [Hashing.blake2s_224_src_eq_model]; exact Cx.Props.C01.hashing_blake2s_fixed 224 (by decide) input
theorem Hashing.blake2s_256_src_is_rfc (input : Bytes) :
    Hashing.blake2s_256_src input = some (Spec.Blake2.blake2s 32 [] input) := by
  rw [Hashing.blake2s_256_src_eq_model]; exact Cx.Props.C01.hashing_blake2s_fixed 256 (by decide) input
-- the length hypotheses of this section are satisfiable
example : ([] : Bytes).length < 2 ^ 61 := by decide

end Cx.Props.C09.GlueTieDigest
