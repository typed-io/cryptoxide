/-
  Props.C09 (unit mackdf) — MAC and legacy digest objects: reset rekeys, results never silently change.
  (Poly1305 is in unit poly1305.)

  The statements are about `Impl.Digest.runHist`, the very function the driver ops `dig.obj`, `mac.hmac`,
  `mac.blake2b`, `mac.blake2s` run on the code-shaped objects: for EVERY operation history over
      { input(chunk), result, raw_result into a buffer of any length, reset, reset_with_key(k), clone-push, swap, sizes }
  the object emits exactly the values of the ABSTRACT object `Spec.MacObj.Abs` (the function under the retained key
  and parameters; the bytes fed since the last reset; finished?) and panics at exactly the op where the abstract
  object refuses (`…_every_history`).  The four clauses of the property are the laws of the abstract object:
    * `abs_result_value`   a value is returned only by an unfinished object, and it is f(bytes since the last reset);
    * `abs_after_result`   a second result without reset, and input after a result, are REFUSED
                           (the property allows "same bytes or loud failure": every object of this unit fails loudly);
    * `abs_reset_is_fresh` reset = the freshly constructed object with the same key and parameters;
    * legacy digest objects = the one-shot functions on every history: `legacy_every_history` with f = the hash.
  Domain guard (`Guard`): each result is asked for inside the domain of the underlying hash
  (bytes since reset `< 2^61` / `< 2^125`; none for the sponges and BLAKE2).

  Keyed BLAKE2b / BLAKE2s (`impl Mac`, `impl Digest` of src/blake2b.rs, src/blake2s.rs): `blake2b_every_history`, `blake2s_every_history` for
  the tree as it is (`CodeVariant.repaired`, /repo c8ec1e5); the old text (`.current`) VIOLATED the reset clause:
  `blake2_current_reset_drops_key` (for every key, reset leaves exactly the state of the unkeyed `new(outlen)`) and the
  concrete witness `blake2_current_witness` (finding (d), line `mac.blake2b 1 05 r;R`: 2e instead of 6f).
-/
import CxVerif.Proofs.MacInst
import CxVerif.Proofs.MacInstSha3
import CxVerif.Proofs.MacBlake2
namespace Cx.Props.C09
open Cx.Impl.Digest Cx.Impl.Hmac Cx.Proofs.MacObj Cx.Proofs.MacHmac Cx.Proofs.MacLegacy Cx.Spec.MacObj

/-! ### the laws of the abstract object -/

/-- a value is returned only by an unfinished object and it is `f` of the bytes fed since the last reset -/
theorem abs_result_value (a a' : Abs) (n : Nat) (v : Bytes) (h : resultN a n = some (a', v)) :
    v = a.f a.data ∧ a.finished = false ∧ n = a.outLen ∧ a'.finished = true := by
  unfold resultN at h
  split at h
  · cases h
  · split at h
    · cases h
    · rename_i h1 h2
      simp only [Option.some.injEq, Prod.mk.injEq] at h
      obtain ⟨rfl, rfl⟩ := h
      exact ⟨rfl, by simpa using h1, by simpa using h2, rfl⟩

theorem abs_after_result (a a' : Abs) (n : Nat) (v : Bytes) (h : resultN a n = some (a', v)) :
    (∀ k, resultN a' k = none) ∧ result a' = none ∧ (∀ b, input a' b = none) := by
  have hf := (abs_result_value a a' n v h).2.2.2
  simp [resultN, result, input, hf]

theorem abs_reset_is_fresh (a : Abs) : reset a = fresh a.f a.outLen := rfl

/-- **every history of a macro-generated legacy digest object** `X::new()` (through `trait Digest`, including clones):
    the emitted digests are the one-shot function of the bytes since the last reset, `output_bytes/output_bits/
    block_size` are the reported constants, the panics are exactly the abstract object's refusals. -/
theorem legacy_every_history {γ : Type} (M : CtxModel γ) (H : Fn) (R : γ → Bytes → Prop) (ok : Bytes → Prop)
    (hc : CtxContract M H R ok) (ops : List Op)
    (hG : Guard (sizesOf M) (fun _ => none) (fun _ m => ok m) ops (fresh H (outBytes M)) []) :
    runHist (digestFam (legacyDigest M)) ops (Legacy.new M) [] []
      = runHist (absFam (sizesOf M) (fun _ => none)) ops (fresh H (outBytes M)) [] [] :=
  runHist_fresh (legacy_contract M H R hc) (Legacy.new M) H (legacy_new M H R hc) ops hG

/-- the wrapped context type refines "bytes since the last reset" for some abstraction relation -/
def Refined {γ : Type} (M : CtxModel γ) (H : Fn) (ok : Bytes → Prop) : Prop := ∃ R, CtxContract M H R ok

open Cx.Proofs.MacInst Cx.Proofs.MacInstSha3 Cx.Props.C02.Sha2 in
/-- the 16 wrappers satisfy the hypothesis of `legacy_every_history` (facts from the hash units, Props/C02) -/
theorem legacy_wrappers_refine :
    Refined sha1Ctx Spec.Sha1.sha1 Cx.Props.C02.Sha1Ripemd.ok ∧
    Refined ripemd160Ctx Spec.Ripemd160.ripemd160 Cx.Props.C02.Sha1Ripemd.ok ∧
    Refined sha224Ctx Spec.Sha2.sha224 ok256 ∧ Refined sha256Ctx Spec.Sha2.sha256 ok256 ∧
    Refined sha384Ctx Spec.Sha2.sha384 ok512 ∧ Refined sha512Ctx Spec.Sha2.sha512 ok512 ∧
    Refined sha512_224Ctx Spec.Sha2.sha512_224 ok512 ∧ Refined sha512_256Ctx Spec.Sha2.sha512_256 ok512 ∧
    Refined sha3_224Ctx Spec.Keccak.sha3_224 (fun _ => True) ∧ Refined sha3_256Ctx Spec.Keccak.sha3_256 (fun _ => True) ∧
    Refined sha3_384Ctx Spec.Keccak.sha3_384 (fun _ => True) ∧ Refined sha3_512Ctx Spec.Keccak.sha3_512 (fun _ => True) ∧
    Refined keccak224Ctx Spec.Keccak.keccak224 (fun _ => True) ∧ Refined keccak256Ctx Spec.Keccak.keccak256 (fun _ => True) ∧
    Refined keccak384Ctx Spec.Keccak.keccak384 (fun _ => True) ∧ Refined keccak512Ctx Spec.Keccak.keccak512 (fun _ => True) :=
  ⟨⟨_, sha1_ctx⟩, ⟨_, ripemd160_ctx⟩, ⟨_, sha224_ctx⟩, ⟨_, sha256_ctx⟩, ⟨_, sha384_ctx⟩, ⟨_, sha512_ctx⟩,
   ⟨_, sha512_224_ctx⟩, ⟨_, sha512_256_ctx⟩, ⟨_, sha3_224_ctx⟩, ⟨_, sha3_256_ctx⟩, ⟨_, sha3_384_ctx⟩, ⟨_, sha3_512_ctx⟩,
   ⟨_, keccak224_ctx⟩, ⟨_, keccak256_ctx⟩, ⟨_, keccak384_ctx⟩, ⟨_, keccak512_ctx⟩⟩

/-- a non-trivial history inside the guard: block-multiple message, result, second result (refused) -/
example : Guard (sizesOf sha256Ctx) (fun _ => none) (fun _ m => Cx.Props.C02.Sha2.ok256 m)
    [Op.input (List.replicate 64 1), .result, .result] (fresh Spec.Sha2.sha256 (outBytes sha256Ctx)) [] := by
  simp [Guard, Spec.MacObj.input, Spec.MacObj.result, Spec.MacObj.resultN, fresh, Cx.Props.C02.Sha2.ok256]

/-- **every history of `Hmac::new(d0, key)`**, generic in the digest object, for every key: the emitted values are
    RFC 2104 HMAC of the bytes since the last reset; second result / input after result are refused; reset = fresh
    with the same key (the object retains `i_key`). -/
theorem hmac_every_history {δ : Type} (D : DigestModel δ) (H : Fn) (B L bits : Nat) (okD : Fn → Bytes → Prop)
    (RelD : δ → Fn → Bytes → Prop) (FinD : δ → Fn → Prop)
    (hD : Contract (digestFam D) L [L, bits, B] (fun _ => none) okD RelD FinD) (hLB : L ≤ B)
    (d0 : δ) (h0 : RelD d0 H []) (key : Bytes) (hk : key.length ≤ B ∨ okD H key) (ops : List Op)
    (hG : Guard [L] (fun _ => none) (okH H B key okD) ops (fresh (Spec.Hmac.hmac H B key) L) []) :
    ∃ h, Hmac.new D d0 key = some h ∧
      runHist (macFam (hmacMac D)) ops h [] []
        = runHist (absFam [L] (fun _ => none)) ops (fresh (Spec.Hmac.hmac H B key) L) [] [] := by
  obtain ⟨h, e, hr⟩ := hmac_new D H B key RelD FinD hD hLB d0 h0 hk
  exact ⟨h, e, runHist_fresh (hmac_contract D H B key RelD FinD hD) h _ hr ops hG⟩

/-- HMAC over a legacy wrapper (the 16 instances follow from `legacy_wrappers_refine`) -/
theorem hmac_legacy_every_history {γ : Type} (M : CtxModel γ) (H : Fn) (R : γ → Bytes → Prop) (ok : Bytes → Prop)
    (hc : CtxContract M H R ok) (hLB : outBytes M ≤ M.BLOCK_BYTES) (key : Bytes)
    (hk : key.length ≤ M.BLOCK_BYTES ∨ ok key) (ops : List Op)
    (hG : Guard [outBytes M] (fun _ => none) (okH H M.BLOCK_BYTES key (fun _ m => ok m)) ops
      (fresh (Spec.Hmac.hmac H M.BLOCK_BYTES key) (outBytes M)) []) :
    ∃ h, Hmac.new (legacyDigest M) (Legacy.new M) key = some h ∧
      runHist (macFam (hmacMac (legacyDigest M))) ops h [] []
        = runHist (absFam [outBytes M] (fun _ => none)) ops
            (fresh (Spec.Hmac.hmac H M.BLOCK_BYTES key) (outBytes M)) [] [] :=
  hmac_every_history (legacyDigest M) H M.BLOCK_BYTES (outBytes M) M.OUTPUT_BITS (fun _ m => ok m) (RelL H R) (FinL H R)
    (legacy_contract M H R hc) hLB (Legacy.new M) (legacy_new M H R hc) key hk ops hG

open Cx.Proofs.MacBlake2

/-- **every history of `Blake2b::new_keyed(outlen, key)` / `Blake2s::…` through `trait Mac`** (tree as it is,
    `.repaired`): values = RFC 7693 keyed BLAKE2 of the bytes since the last reset under the CURRENT key (the one of
    `new_keyed` or of the last `reset_with_key`); reset = fresh with that key; no length guard (wrapping counter). -/
theorem blake2b_every_history (outlen : Nat) (key : Bytes) (ho : 0 < outlen ∧ outlen ≤ 64) (hk : key.length ≤ 64)
    (ops : List Op) :
    ∃ o, Blake2.new_keyed Impl.Blake2.b bKeyAssert outlen key = some o ∧
      runHist { macFam (blake2bMac .repaired) with reset_with_key := Blake2.reset_with_key Impl.Blake2.b } ops o [] []
        = runHist (absFam [outlen] (fkB Spec.Blake2.b outlen)) ops
            (fresh (Spec.Blake2.blake2 Spec.Blake2.b outlen key) outlen) [] [] := by
  have := hist_generic Spec.Blake2.b Proofs.Blake2.good_b outlen ho key hk bKeyAssert (by rw [bKeyAssert_eq]; exact hk) ops
  simpa [famB, blake2bMac, Proofs.Blake2.impl_b_eq_spec_b] using this

theorem blake2s_every_history (outlen : Nat) (key : Bytes) (ho : 0 < outlen ∧ outlen ≤ 32) (hk : key.length ≤ 32)
    (ops : List Op) :
    ∃ o, Blake2.new_keyed Impl.Blake2.s sKeyAssert outlen key = some o ∧
      runHist { macFam (blake2sMac .repaired) with reset_with_key := Blake2.reset_with_key Impl.Blake2.s } ops o [] []
        = runHist (absFam [outlen] (fkB Spec.Blake2.s outlen)) ops
            (fresh (Spec.Blake2.blake2 Spec.Blake2.s outlen key) outlen) [] [] := by
  have := hist_generic Spec.Blake2.s Proofs.Blake2.good_s outlen ho key hk sKeyAssert (by rw [sKeyAssert_eq]; omega) ops
  simpa [famB, blake2sMac, Proofs.Blake2.impl_s_eq_spec_s] using this

/-- **finding (d), the old text of `reset`** (`CodeVariant.current`): for EVERY key and output length, `reset` of
    a keyed object leaves exactly the object that the UNKEYED constructor `new(outlen)` builds (up to the ghost key
    field) — the key is gone, so every later result is the unkeyed hash. -/
theorem blake2_current_reset_drops_key (outlen : Nat) (key : Bytes) (ho : 0 < outlen ∧ outlen ≤ 64) (hk : key.length ≤ 64) :
    ∃ o o' u, Blake2.new_keyed Impl.Blake2.b bKeyAssert outlen key = some o ∧
      Blake2.reset .current Impl.Blake2.b o = some o' ∧ Blake2.new Impl.Blake2.b outlen = some u ∧
      o'.ctx = u.ctx ∧ o'.computed = u.computed := by
  have := current_reset_generic Spec.Blake2.b Proofs.Blake2.good_b outlen ho key hk bKeyAssert (by rw [bKeyAssert_eq]; exact hk)
  simpa [Proofs.Blake2.impl_b_eq_spec_b] using this

/-- **finding (d), concrete witness** (the line `mac.blake2b 1 05 r;R` of the correspondence): with the OLD `reset`
    the keyed object `new_keyed(1, [05])` answers `2e` (= unkeyed BLAKE2b-8 of the empty string) after `reset; result`,
    while the abstract object — and the tree as it is (`.repaired`) — answer `6f` (= keyed). Kernel evaluation. -/
theorem blake2_current_witness :
    (Blake2.new_keyed Impl.Blake2.b bKeyAssert 1 [5]).map
        (fun o => runHist (famB .current Impl.Blake2.b) [.reset, .result] o [] [])
      = some ([Out.bytes [0x2e]], false) ∧
    (Blake2.new_keyed Impl.Blake2.b bKeyAssert 1 [5]).map
        (fun o => runHist (famB .repaired Impl.Blake2.b) [.reset, .result] o [] [])
      = some ([Out.bytes [0x6f]], false) ∧
    runHist (absFam [1] (fkB Spec.Blake2.b 1)) [.reset, .result]
        (fresh (Spec.Blake2.blake2 Spec.Blake2.b 1 [5]) 1) [] [] = ([Out.bytes [0x6f]], false) := by
  have habs : runHist (absFam [1] (fkB Spec.Blake2.b 1)) [.reset, .result]
      (fresh (Spec.Blake2.blake2 Spec.Blake2.b 1 [5]) 1) [] [] = ([Out.bytes [0x6f]], false) := by decide +kernel
  refine ⟨by decide +kernel, ?_, habs⟩
  -- the tree as it is agrees with the abstract object on every history
  obtain ⟨o, e, h⟩ := blake2b_every_history 1 [5] (by decide) (by decide) [.reset, .result]
  rw [e, Option.map_some]
  exact congrArg some (h.trans habs)

end Cx.Props.C09
