/-
  Props.C10.GlueTieKdf — the translator tie for the STATEFUL GLUE of the key-derivation functions.

  `Extracted/GlueKdf.lean` is regenerated from /repo/src/hkdf.rs, /repo/src/pbkdf2.rs and /repo/src/scrypt.rs on every run by
  tools/ktx_glue_kdf.py (specs: tools/kernels/glue_kdf.py): a statement-by-statement translation of
      hkdf_extract, hkdf_expand (`assert!(prk.len() >= digest.output_bytes())`, the `chunks_mut(os)` loop, the one-byte counter
      with `checked_add`, `if n != 1`, the copy of a partial last block),
      calculate_block (first iteration, `if c > 1`, `for _ in 2..c`, the xor zips), pbkdf2 (`assert!(c > 0)`, the scratch vector
      allocated once, the `chunks_mut(os)` loop with the u32 block index, full / partial blocks),
      xor (three-way zip), scrypt_block_mix (`left_over`, the `chunks(64).enumerate()` loop, the even/odd output position),
      integerify, scrypt_ro_mix (fill loop over `v.chunks_mut(len)`, walk loop with the `v[j*len..(j+1)*len]` slice),
      ScryptParams::new (every assert and checked_mul), scrypt (the buffers, the per-chunk loop, the two PBKDF2 calls);
      `salsa20_8` is used through the model's function over the re-extracted row table (Props/C10/Scrypt.lean).
  The theorems below, re-checked by the kernel on every build, say that the hand models of Impl/Kdf.lean — about which C10 is
  proved (Props/C10/Kdf.lean, Props/C10/Scrypt.lean) — compute exactly what the source says NOW, for ALL inputs of every length
  and every digest / MAC object.  A semantic change of the glue (a counter check, a loop bound, a buffer that is not
  re-initialised, a copy length, an index) changes the generated definition and breaks one of these proofs even when no sampled
  input reaches it.

  Abstractions (each explicit in the statement):
    * out-parameters: the models take the LENGTH of `prk` / `okm` / `block` / `output` and answer the final contents; the
      source-level functions take the buffer itself and return it — the theorems say that the result depends on the buffer's
      length only (every byte is overwritten, or the function panics);
    * `for chunk in buf.chunks_mut(os)`: the source-level loop runs over `chunks os buf` and rebuilds the buffer from the
      chunks as the body leaves them; the models run over the chunk LENGTHS `chunkLens os buf.len()` (`chunks_lengths`);
    * `scrypt_ro_mix`: the model keeps the scratch vector `v` as the list of its `len`-byte chunks, the source as one byte
      vector: `v = vs.flatten` (`scrypt_ro_mix_src_eq_model` for EVERY `v` via `chunks`; the chunk structure is preserved);
    * `scrypt`: `params.log_n < 64` (the shift `1 << log_n` of an overflow-checked build; established by `ScryptParams::new`:
      `new_establishes_log_n`, the fields are private);
    * usize `+`/`*` of lengths and indices are the mathematical operations (as in the hand model); `-` is checked;
    * `Hmac<D>` / `M: Mac` are used through the model's `Hmac.*` functions / the dictionary `MacModel μ`, which
      Props/C05/GlueTieMac.lean ties to src/hmac.rs.
-/
import CxVerif.Proofs.GlueKdf
import CxVerif.Proofs.GlueKdfScrypt
import CxVerif.Proofs.KdfScrypt
namespace Cx.Props.C10.GlueTieKdf
open Cx.Impl.Digest Cx.Impl.Hmac Cx.Impl.Kdf Cx.Extracted.GlueKdf Cx.Proofs.GlueKdf Cx.Proofs.GlueKdfScrypt
open Cx.Proofs.KdfPbkdf2 (pbkdf2_length hmac_legacy_resultLen)

/-! ## src/hkdf.rs -/

/-- `hkdf_extract`: `assert!(prk.len() == digest.output_bytes())`, reset, `Hmac::new(digest, salt)`, input, raw_result, reset -/
theorem hkdf_extract_src_eq_model {δ : Type} (D : DigestModel δ) (digest : δ) (salt ikm prk : Bytes) :
    hkdf_extract_src D digest salt ikm prk = hkdf_extract D digest salt ikm prk.length := rfl

/-- the body of `for chunk in okm.chunks_mut(os)`: `n.checked_add(1)`, `if n != 1 { mac.input(&t) }`, info, the counter byte,
    `raw_result(&mut t)`, reset, `chunk[0..chunk_len].copy_from_slice(&t[..chunk_len])` — for every chunk list and loop state -/
theorem hkdf_expand_loop_src_eq_model {δ : Type} (D : DigestModel δ) (info : Bytes) (cs : List Bytes) (mac : Hmac δ) (t : Bytes)
    (n : Nat) (acc : Bytes) :
    (hkdf_expand_loop1_src D info cs mac t n acc).map (·.2.2.2) = hkdf_expand_loop D info (cs.map List.length) mac t n acc :=
  hkdf_expand_loop1_eq D info cs mac t n acc

/-- `hkdf_expand` for every PRK (incl. the refusal `assert!(prk.len() >= digest.output_bytes())` of a short one, read after
    `digest.reset()`) and every `okm` buffer (any length, any contents) -/
theorem hkdf_expand_src_eq_model {δ : Type} (D : DigestModel δ) (digest : δ) (prk info okm : Bytes) :
    hkdf_expand_src D digest prk info okm = hkdf_expand D digest prk info okm.length := by
  simp only [hkdf_expand_src, hkdf_expand]
  cases D.reset digest with
  | none => rfl
  | some digest =>
    -- assert!(prk.len() >= digest.output_bytes());
    by_cases hp : prk.length ≥ D.output_bytes digest
    · simp only [hp, not_true_eq_false, if_false]
      cases Hmac.new D digest prk with
      | none => rfl
      | some mac =>
        by_cases hos : Hmac.output_bytes D mac = 0
        · simp [hos]
        · simp only [ne_eq, hos, not_false_eq_true, not_true_eq_false, if_false]
          rw [← chunks_lengths _ (Nat.pos_of_ne_zero hos), ← hkdf_expand_loop1_eq]
          cases hkdf_expand_loop1_src D info (chunks (Hmac.output_bytes D mac) okm) mac (zeros (Hmac.output_bytes D mac)) 0 [] with
          | none => rfl
          | some r => obtain ⟨a, b, c, d⟩ := r; rfl
    · simp only [hp, not_false_eq_true, if_true]

/-! ## src/pbkdf2.rs -/

/-- `for _ in 2..c { mac.input(scratch); mac.raw_result(scratch); mac.reset(); block ^= scratch }` for every count -/
theorem calculate_block_loop_src_eq_model {μ : Type} (M : MacModel μ) (k : Nat) (mac : μ) (scratch block : Bytes) :
    calculate_block_loop1_src M k mac scratch block = calculate_block_loop M k mac scratch block :=
  calculate_block_loop1_eq M k mac scratch block

/-- `calculate_block`: U_1 into `block`, `if c > 1` the second iteration through `scratch`, then `c - 2` more -/
theorem calculate_block_src_eq_model {μ : Type} (M : MacModel μ) (mac : μ) (salt : Bytes) (c idx : Nat) (scratch block : Bytes) :
    calculate_block_src M mac salt c idx scratch block = calculate_block M mac salt c idx scratch block.length :=
  calculate_block_src_eq M mac salt c idx scratch block

/-- the body of `for chunk in output.chunks_mut(os)`: `idx.checked_add(1)`, full block in place / partial block through `tmp` -/
theorem pbkdf2_loop_src_eq_model {μ : Type} (M : MacModel μ) (salt : Bytes) (c os : Nat) (cs : List Bytes) (mac : μ)
    (scratch : Bytes) (idx : Nat) (acc : Bytes) :
    (pbkdf2_loop1_src M salt c os cs mac scratch idx acc).map (fun r => (r.1, r.2.2.2))
      = pbkdf2_loop M salt c os (cs.map List.length) mac scratch idx acc :=
  pbkdf2_loop1_eq M salt c os cs mac scratch idx acc

/-- `pbkdf2` for every `output` buffer (any length, any contents), every `c` (incl. the refusal of `c = 0`) -/
theorem pbkdf2_src_eq_model {μ : Type} (M : MacModel μ) (mac : μ) (salt : Bytes) (c : Nat) (output : Bytes) :
    pbkdf2_src M mac salt c output = pbkdf2 M mac salt c output.length := pbkdf2_src_eq M mac salt c output

/-- the chunk lists agree: `buf.chunks_mut(os)` has the lengths `chunkLens os buf.len()` -/
theorem chunks_lengths_eq_model (os : Nat) (h : 0 < os) (buf : Bytes) : (chunks os buf).map List.length = chunkLens os buf.length :=
  chunks_lengths os h buf

/-! ## src/scrypt.rs -/

/-- `xor(x, y, output)`: the three-way zip stops at the shortest; the rest of `output` is untouched -/
theorem xor_src_eq_model (x y output : Bytes) : xor_src x y output = Impl.Kdf.xor x y output := xor_src_eq output x y

/-- the body of `for (i, chunk) in input.chunks(64).enumerate()`: xor, `salsa20_8`, the output position
    `(i / 2) * 64 [+ input.len() / 2]`, the bounds-checked copy — for every chunk list and loop state -/
theorem scrypt_block_mix_loop_src_eq_model (input : Bytes) (cs : List Bytes) (i : Nat) (output x t : Bytes) :
    (scrypt_block_mix_loop1_src input cs i output x t).map (·.2.1) = scrypt_block_mix_loop input.length cs i x t output :=
  block_mix_loop1_eq input cs i output x t

/-- `scrypt_block_mix` for EVERY input and output buffer (incl. the refusals: fewer than 64 bytes, not a multiple of 64, an
    output that is too short) -/
theorem scrypt_block_mix_src_eq_model (input output : Bytes) : scrypt_block_mix_src input output = scrypt_block_mix input output :=
  scrypt_block_mix_src_eq input output

/-- `integerify`: `n - 1` (checked), the 4 bytes at `len - 64`, the mask -/
theorem integerify_src_eq_model (x : Bytes) (n : Nat) : integerify_src x n = integerify x n := integerify_src_eq x n

/-- the fill loop `for chunk in v.chunks_mut(len) { chunk[0..b.len()].copy_from_slice(b); scrypt_block_mix(chunk, b) }` -/
theorem scrypt_ro_mix_fill_src_eq_model (cs : List Bytes) (b acc : Bytes) :
    scrypt_ro_mix_loop1_src cs b acc = (ro_mix_fill cs b []).map (fun r => (r.1, acc ++ r.2.reverse.flatten)) :=
  ro_mix_loop1_eq cs b acc

/-- the walk loop `for _ in 0..n { j = integerify(b, n); xor(b, &v[j*len..(j+1)*len], t); scrypt_block_mix(t, b) }` on a
    scratch vector made of `len`-byte chunks -/
theorem scrypt_ro_mix_walk_src_eq_model (len : Nat) (hl : 0 < len) (vs : List Bytes) (hvs : ∀ c ∈ vs, c.length = len) (n cnt : Nat)
    (b t : Bytes) : scrypt_ro_mix_loop2_src vs.flatten n len cnt b t = ro_mix_walk vs n cnt b t :=
  ro_mix_loop2_eq len hl vs hvs n cnt b t

/-- `scrypt_ro_mix` for EVERY `b ≠ []`, `v`, `t`, `n`: the source on the byte vector `v` = the model on its chunks -/
theorem scrypt_ro_mix_src_eq_model (b v t : Bytes) (n : Nat) (hb : b.length ≠ 0) :
    scrypt_ro_mix_src b v t n = (scrypt_ro_mix b (chunks b.length v) t n).map (fun r => (r.1, r.2.1.flatten, r.2.2)) := by
  have hl : 0 < b.length := Nat.pos_of_ne_zero hb
  cases hf : ro_mix_fill (chunks b.length v) b [] with
  | none =>
    simp only [scrypt_ro_mix_src, scrypt_ro_mix, ne_eq, hb, not_false_eq_true, not_true_eq_false, if_false, ro_mix_loop1_eq, hf]
    rfl
  | some r =>
    have hu : ∀ c ∈ chunks b.length v, c.length = b.length := fun c hc =>
      Nat.le_antisymm (chunks_mem_le _ hl _ c hc) ((ro_mix_fill_facts b.length _ b r.1 r.2 rfl hf).1 c hc)
    have := scrypt_ro_mix_src_eq b (chunks b.length v) t n hb hu
    rw [chunks_flatten _ hl] at this
    exact this

/-- `b = []`: `v.chunks_mut(0)` panics -/
theorem scrypt_ro_mix_src_empty_refuses (v t : Bytes) (n : Nat) : scrypt_ro_mix_src [] v t n = none := by
  simp [scrypt_ro_mix_src]

/-- the invariant form: `v` given as the list of its `b.len()`-byte chunks -/
theorem scrypt_ro_mix_src_eq_model_chunks (b : Bytes) (vs : List Bytes) (t : Bytes) (n : Nat) (hb : b.length ≠ 0)
    (hvs : ∀ c ∈ vs, c.length = b.length) :
    scrypt_ro_mix_src b vs.flatten t n = (scrypt_ro_mix b vs t n).map (fun r => (r.1, r.2.1.flatten, r.2.2)) :=
  scrypt_ro_mix_src_eq b vs t n hb hvs

theorem scrypt_ro_mix_preserves_chunks (b : Bytes) (vs : List Bytes) (t : Bytes) (n : Nat) (b' : Bytes) (vs' : List Bytes) (t' : Bytes)
    (hvs : ∀ c ∈ vs, c.length = b.length) (h : scrypt_ro_mix b vs t n = some (b', vs', t')) : ∀ c ∈ vs', c.length = b.length :=
  scrypt_ro_mix_facts b vs t n b' vs' t' hvs h

example : (∀ c ∈ [[1, 2], [3, 4]], c.length = ([7, 8] : Bytes).length) ∧ ([7, 8] : Bytes).length ≠ 0 := by decide

/-- `ScryptParams::new`: every assert, the three `checked_mul`, the struct — for ALL `log_n`, `r`, `p` -/
theorem ScryptParams_new_src_eq_model (log_n r p : Nat) : ScryptParams.new_src log_n r p = ScryptParams.new log_n r p := by
  have e : USIZE_BITS = 64 := rfl
  simp only [ScryptParams.new_src, ScryptParams.new, e]
  by_cases h1 : r > 0
  · by_cases h2 : p > 0
    · by_cases h3 : log_n > 0
      · by_cases h4 : log_n < 64
        · simp only [h1, h2, h3, h4, not_true_eq_false, if_false]
          cases checked_mul r 128 with
          | none => rfl
          | some r128 =>
            simp only []
            cases checked_mul r128 (1 <<< log_n) with
            | none => rfl
            | some _ =>
              cases checked_mul r128 p with
              | none => rfl
              | some _ =>
                by_cases h5 : log_n < r * 16
                · by_cases h6 : r * p < 0x40000000
                  · have hr : r % 2 ^ 32 = r := Nat.mod_eq_of_lt (by
                      have : r * 1 ≤ r * p := Nat.mul_le_mul_left r h2
                      omega)
                    have hp : p % 2 ^ 32 = p := Nat.mod_eq_of_lt (by
                      have : 1 * p ≤ r * p := Nat.mul_le_mul_right p h1
                      omega)
                    simp only [h5, h6, not_true_eq_false, if_false, hr, hp]
                  · simp only [h5, h6, not_true_eq_false, not_false_eq_true, if_false, if_true]
                · simp only [h5, not_false_eq_true, if_true]
        · simp only [h1, h2, h3, h4, not_true_eq_false, not_false_eq_true, if_false, if_true]
      · simp only [h1, h2, h3, not_true_eq_false, not_false_eq_true, if_false, if_true]
    · simp only [h1, h2, not_true_eq_false, not_false_eq_true, if_false, if_true]
  · simp only [h1, not_false_eq_true, if_true]

/-- the invariant `scrypt` needs is established by the only constructor -/
theorem new_establishes_log_n (log_n r p : Nat) (x : ScryptParams) (h : ScryptParams.new log_n r p = some x) : x.log_n < 64 := by
  have hs : (ScryptParams.new log_n r p).isSome := h ▸ rfl
  rw [Cx.Proofs.KdfScrypt.new_eq_some log_n r p hs] at h
  exact Option.some.inj h ▸ ((Cx.Proofs.KdfScrypt.new_iff log_n r p).mp hs).2.2.2.1

/-- the body of `for chunk in &mut b.chunks_mut(r128) { scrypt_ro_mix(chunk, &mut v, &mut t, n) }` -/
theorem scrypt_loop_src_eq_model (n L : Nat) (hL : L ≠ 0) (cs vs : List Bytes) (t acc : Bytes) (hcs : ∀ c ∈ cs, c.length = L)
    (hvs : ∀ x ∈ vs, x.length = L) : (scrypt_loop1_src n cs vs.flatten t acc).map (·.2.2) = scrypt_chunks n cs vs t acc :=
  scrypt_loop1_eq n L hL cs vs t acc hcs hvs

/-- `scrypt` for EVERY password, salt, output buffer (any length, incl. the refusals) and every parameter set with
    `log_n < 64` (every value `ScryptParams::new` can return) -/
theorem scrypt_src_eq_model (password salt : Bytes) (params : ScryptParams) (output : Bytes) (hlog : params.log_n < 64) :
    scrypt_src password salt params output = scrypt password salt params output.length := by
  simp only [scrypt_src, scrypt, hlog, not_true_eq_false, if_false, pbkdf2_src_eq]
  by_cases h1 : output.length > 0
  · by_cases h2 : output.length / 32 ≤ 0xffffffff
    · simp only [h1, h2, not_true_eq_false, if_false]
      cases Hmac.new sha256Digest (Legacy.new sha256Ctx) password with
      | none => rfl
      | some mac =>
        simp only []
        have hz : (zeros (params.p * (params.r * 128))).length = params.p * (params.r * 128) := by simp [zeros]
        rw [hz]
        cases hp : pbkdf2 (hmacMac sha256Digest) mac salt 1 (params.p * (params.r * 128)) with
        | none => rfl
        | some r =>
          obtain ⟨mac1, b⟩ := r
          have hb : b.length = params.p * (params.r * 128) := pbkdf2_length _ (hmac_legacy_resultLen sha256Ctx) _ _ _ _ _ _ hp
          by_cases hr : params.r * 128 = 0
          · simp [hr]
          · have hrp : 0 < params.r * 128 := Nat.pos_of_ne_zero hr
            simp only [ne_eq, hr, not_false_eq_true, not_true_eq_false, if_false]
            rw [chunks_takeBlocks _ hrp b (by rw [hb]; exact Nat.mul_mod_left ..), hb, zeros_flatten,
              Nat.mul_div_cancel _ hrp, Nat.mul_div_cancel _ hrp, ← scrypt_loop1_eq _ (params.r * 128) hr]
            · cases scrypt_loop1_src (1 <<< params.log_n) (takeBlocks (params.r * 128) params.p b)
                  (List.replicate (1 <<< params.log_n) (zeros (params.r * 128))).flatten (zeros (params.r * 128)) [] with
              | none => rfl
              | some r =>
                obtain ⟨v', t', b'⟩ := r
                simp only [Option.map_some]
                cases pbkdf2 (hmacMac sha256Digest) mac1 b' 1 output.length with
                | none => rfl
                | some r => rfl
            · intro c hc
              exact Cx.Proofs.FB.takeBlocks_all_len _ _ (by rw [hb]; exact Nat.le_refl _) c hc
            · intro x hx
              rw [List.eq_of_mem_replicate hx]; simp [zeros]
    · simp [h1, h2]
  · simp [h1]

example : ({ log_n := 4, r := 8, p := 1 } : ScryptParams).log_n < 64 := by decide

end Cx.Props.C10.GlueTieKdf
