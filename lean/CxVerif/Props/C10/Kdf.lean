/-
  Props.C10 (unit mackdf) — HKDF, PBKDF2 and scrypt derive exactly the keys their RFCs define.

  All statements are generic in the digest / PRF object (any type whose object model satisfies
  `Proofs.MacObj.Contract`), then instantiated for the legacy wrappers (`HkdfCorrect`, `Pbkdf2HmacCorrect`: some are
  spelled out, `hkdf_legacy` / `pbkdf2_hmac_legacy` give the others from the `…_ctx` facts used in Props/C08).  They are
  equalities of `Option`s, so "never truncates or wraps" is part of the statement:
  * `hkdf_extract` = RFC 5869 §2.2, refusing a PRK buffer whose length is not HashLen; `hkdf_expand` = §2.3, refusing
    exactly |PRK| < HashLen (`assert!(prk.len() >= digest.output_bytes())`; RFC 5869 §2.3 "PRK  a pseudorandom key of at
    least HashLen octets") and L > 255·HashLen (the `checked_add` panic of the one-byte counter).
    Defect (m), repaired in /repo 9baf2a3: `hkdf_expand` did not check the documented PRK length; witnesses
    `hkdf_expand_old_generic` and `hkdf_expand_old_accepts_short_prk`.
  * `pbkdf2` = RFC 8018 §5.2, refusing exactly c = 0 and dkLen > (2^32 − 1)·hLen; `calculate_block` = U_1 ⊕ … ⊕ U_c by
    induction on c (Proofs.KdfPbkdf2.calculate_block_spec, along the code's c = 1 / c = 2 / `for _ in 2..c` structure).
  * `ScryptParams::new(log_n, r, p)` accepts exactly the RFC 7914 constraints (N = 2^log_n > 1, N < 2^(128·r/8),
    p ≤ ((2^32−1)·32)/(128·r), r, p > 0) within `usize` (log_n < 64, 128·r·N < 2^64, 128·r·p < 2^64).

  scrypt (`salsa20_8` = Salsa20/8 via the extracted row table, `scrypt_block_mix` = BlockMix, `scrypt_ro_mix` = ROMix with
  `integerify` mod N for N = 2^k, k <= 32, `scrypt` = MFcrypt as an equality of `Option`s incl. every refusal) is proved in
  Props/C10/Scrypt.lean.  Domain limit of the code recorded there: `integerify` reads a u32, so for 33 <= log_n (>= 3 TiB of
  scratch memory) the code is not RFC 7914; `scrypt_spec` therefore carries `log_n <= 32`.
  The PBKDF2 layer of scrypt is covered by `pbkdf2_hmac_sha256` below (c = 1, any dkLen).
-/
import CxVerif.Proofs.KdfHkdf
import CxVerif.Proofs.KdfScrypt
import CxVerif.Proofs.MacInst
import CxVerif.Proofs.MacInstSha3
namespace Cx.Props.C10
open Cx.Impl.Digest Cx.Impl.Hmac Cx.Impl.Kdf Cx.Proofs.MacObj Cx.Proofs.MacHmac Cx.Proofs.MacLegacy

/-- **RFC 5869 §2.2**, generic in the digest object (which may be in any state: used before or not) -/
theorem hkdf_extract_generic {δ : Type} (D : DigestModel δ) (H : Fn) (B L bits : Nat) (okD : Fn → Bytes → Prop)
    (RelD : δ → Fn → Bytes → Prop) (FinD : δ → Fn → Prop)
    (hD : Contract (digestFam D) L [L, bits, B] (fun _ => none) okD RelD FinD) (hLB : L ≤ B)
    (d : δ) (m0 : Bytes) (hd : RelD d H m0 ∨ FinD d H) (salt ikm : Bytes) (prkLen : Nat)
    (hk : salt.length ≤ B ∨ okD H salt)
    (h1 : okD H (ikey H B salt ++ ikm)) (h2 : okD H (okey H B salt ++ H (ikey H B salt ++ ikm))) :
    hkdf_extract D d salt ikm prkLen = if prkLen = L then some (Spec.Kdf.hkdfExtract H B salt ikm) else none :=
  Cx.Proofs.KdfHkdf.hkdf_extract_spec D H B RelD FinD hD hLB d m0 hd salt ikm prkLen hk ⟨h1, h2⟩

/-- **RFC 5869 §2.3**, generic in the digest object: the value for every PRK of at least HashLen octets and every
    L ≤ 255·HashLen, the refusal of every shorter PRK and every larger L
    (both sides are `Option`s: `Spec.Kdf.hkdfExpand … = none ↔ |PRK| < HashLen ∨ L > 255·HashLen`, `hkdf_expand_limit`) -/
theorem hkdf_expand_generic {δ : Type} (D : DigestModel δ) (H : Fn) (B L bits : Nat) (okD : Fn → Bytes → Prop)
    (RelD : δ → Fn → Bytes → Prop) (FinD : δ → Fn → Prop)
    (hD : Contract (digestFam D) L [L, bits, B] (fun _ => none) okD RelD FinD) (hLB : L ≤ B) (hL : 0 < L)
    (d : δ) (m0 : Bytes) (hd : RelD d H m0 ∨ FinD d H) (prk info : Bytes) (okmLen : Nat)
    (hk : prk.length ≤ B ∨ okD H prk)
    (hok : ∀ x : Bytes, x.length ≤ L + info.length + 1 →
      okD H (ikey H B prk ++ x) ∧ okD H (okey H B prk ++ H (ikey H B prk ++ x))) :
    hkdf_expand D d prk info okmLen = Spec.Kdf.hkdfExpand H B L prk info okmLen :=
  Cx.Proofs.KdfHkdf.hkdf_expand_spec D H B RelD FinD hD hLB hL d m0 hd prk info okmLen hk hok

/-- the refusal clause, spelled out: for a PRK shorter than HashLen and beyond 255·HashLen — and only there — the Spec
    (hence the model) has no value -/
theorem hkdf_expand_limit (H : Fn) (B L : Nat) (prk info : Bytes) (okmLen : Nat) :
    Spec.Kdf.hkdfExpand H B L prk info okmLen = none ↔ (prk.length < L ∨ 255 * L < okmLen) := by
  simp only [Spec.Kdf.hkdfExpand, Spec.Kdf.hkdfExpandPrf]
  split
  · simp [*]
  · split <;> simp <;> omega

/-- the value clause, spelled out: inside the documented domain OKM = the first L octets of T(1) ‖ T(2) ‖ … -/
theorem hkdf_expand_value (H : Fn) (B L : Nat) (prk info : Bytes) (okmLen : Nat) (hp : L ≤ prk.length)
    (hl : okmLen ≤ 255 * L) :
    Spec.Kdf.hkdfExpand H B L prk info okmLen = some (Spec.Kdf.hkdfOkm (Spec.Hmac.hmac H B) L prk info okmLen) := by
  simp only [Spec.Kdf.hkdfExpand, Spec.Kdf.hkdfExpandPrf, Nat.not_lt.mpr hp, hl, if_false, if_true]

/-- WITNESS of the repaired defect (m), generic: `hkdf_expand` as it was before `assert!(prk.len() >=
    digest.output_bytes())` returned T(1) ‖ T(2) ‖ … (cut to L ≤ 255·HashLen octets) for EVERY PRK — also for the PRKs
    shorter than HashLen that its documentation ("prk - The pseudorandom key of at least `digest.output_bytes()` octets")
    and RFC 5869 §2.3 exclude -/
theorem hkdf_expand_old_generic {δ : Type} (D : DigestModel δ) (H : Fn) (B L bits : Nat) (okD : Fn → Bytes → Prop)
    (RelD : δ → Fn → Bytes → Prop) (FinD : δ → Fn → Prop)
    (hD : Contract (digestFam D) L [L, bits, B] (fun _ => none) okD RelD FinD) (hLB : L ≤ B) (hL : 0 < L)
    (d : δ) (m0 : Bytes) (hd : RelD d H m0 ∨ FinD d H) (prk info : Bytes) (okmLen : Nat)
    (hk : prk.length ≤ B ∨ okD H prk)
    (hok : ∀ x : Bytes, x.length ≤ L + info.length + 1 →
      okD H (ikey H B prk ++ x) ∧ okD H (okey H B prk ++ H (ikey H B prk ++ x))) :
    hkdf_expand_old D d prk info okmLen
      = if okmLen ≤ 255 * L then some (Spec.Kdf.hkdfOkm (Spec.Hmac.hmac H B) L prk info okmLen) else none :=
  Cx.Proofs.KdfHkdf.hkdf_expand_old_spec D H B RelD FinD hD hLB hL d m0 hd prk info okmLen hk hok

/-- HKDF for one legacy wrapper `X` (calls `hkdf_extract(X::new(), …)` / `hkdf_expand(X::new(), …)`) -/
def HkdfCorrect {γ : Type} (M : CtxModel γ) (H : Fn) (B L : Nat) (ok : Bytes → Prop) : Prop :=
  (∀ (salt ikm : Bytes) (prkLen : Nat),
    (salt.length ≤ B ∨ ok salt) → ok (ikey H B salt ++ ikm) → ok (okey H B salt ++ H (ikey H B salt ++ ikm)) →
    hkdf_extract (legacyDigest M) (Legacy.new M) salt ikm prkLen
      = if prkLen = L then some (Spec.Kdf.hkdfExtract H B salt ikm) else none) ∧
  (∀ (prk info : Bytes) (okmLen : Nat),
    (prk.length ≤ B ∨ ok prk) →
    (∀ x : Bytes, x.length ≤ L + info.length + 1 →
      ok (ikey H B prk ++ x) ∧ ok (okey H B prk ++ H (ikey H B prk ++ x))) →
    hkdf_expand (legacyDigest M) (Legacy.new M) prk info okmLen = Spec.Kdf.hkdfExpand H B L prk info okmLen)

theorem hkdf_legacy {γ : Type} (M : CtxModel γ) (H : Fn) (R : γ → Bytes → Prop) (ok : Bytes → Prop)
    (hc : CtxContract M H R ok) (B L : Nat) (hB : M.BLOCK_BYTES = B) (hL : (M.OUTPUT_BITS + 7) / 8 = L) (hLB : L ≤ B)
    (hL0 : 0 < L) : HkdfCorrect M H B L ok := by
  have hD := legacy_contract_sized M H R hc hL hB
  constructor
  · intro salt ikm prkLen hk h1 h2
    exact hkdf_extract_generic (legacyDigest M) H B L M.OUTPUT_BITS (fun _ m => ok m) (RelL H R) (FinL H R) hD hLB
      (Legacy.new M) [] (Or.inl (legacy_new M H R hc)) salt ikm prkLen hk h1 h2
  · intro prk info okmLen hk hok
    exact hkdf_expand_generic (legacyDigest M) H B L M.OUTPUT_BITS (fun _ m => ok m) (RelL H R) (FinL H R) hD hLB hL0
      (Legacy.new M) [] (Or.inl (legacy_new M H R hc)) prk info okmLen hk hok

open Cx.Proofs.MacInst Cx.Proofs.MacInstSha3 Cx.Props.C02.Sha2

theorem hkdf_sha256 : HkdfCorrect sha256Ctx Spec.Sha2.sha256 64 32 ok256 :=
  hkdf_legacy _ _ _ _ sha256_ctx 64 32 (by decide) (by decide) (by decide) (by decide)
theorem hkdf_sha1 : HkdfCorrect sha1Ctx Spec.Sha1.sha1 64 20 Cx.Props.C02.Sha1Ripemd.ok :=
  hkdf_legacy _ _ _ _ sha1_ctx 64 20 (by decide) (by decide) (by decide) (by decide)
theorem hkdf_sha512 : HkdfCorrect sha512Ctx Spec.Sha2.sha512 128 64 ok512 :=
  hkdf_legacy _ _ _ _ sha512_ctx 128 64 (by decide) (by decide) (by decide) (by decide)
theorem hkdf_sha384 : HkdfCorrect sha384Ctx Spec.Sha2.sha384 128 48 ok512 :=
  hkdf_legacy _ _ _ _ sha384_ctx 128 48 (by decide) (by decide) (by decide) (by decide)
theorem hkdf_sha3_256 : HkdfCorrect sha3_256Ctx Spec.Keccak.sha3_256 136 32 (fun _ => True) :=
  hkdf_legacy _ _ _ _ sha3_256_ctx 136 32 (by decide) (by decide) (by decide) (by decide)
theorem hkdf_ripemd160 : HkdfCorrect ripemd160Ctx Spec.Ripemd160.ripemd160 64 20 Cx.Props.C02.Sha1Ripemd.ok :=
  hkdf_legacy _ _ _ _ ripemd160_ctx 64 20 (by decide) (by decide) (by decide) (by decide)

/-- WITNESS of the repaired defect (m), concrete (the line `kdf.hkdf_expand sha256 0b 696e666f 33` of the correspondence):
    for the ONE-byte PRK `0b` — the documentation demands at least 32 — the function before the repair returned 33 bytes
    of output keying material (T(1) ‖ T(2) cut to 33 octets, keyed with the short PRK); the repaired function and the Spec
    refuse it. -/
theorem hkdf_expand_old_accepts_short_prk :
    ([0x0b] : Bytes).length < 32 ∧
    hkdf_expand_old (legacyDigest sha256Ctx) (Legacy.new sha256Ctx) [0x0b] [0x69, 0x6e, 0x66, 0x6f] 33
      = some (Spec.Kdf.hkdfOkm (Spec.Hmac.hmac Spec.Sha2.sha256 64) 32 [0x0b] [0x69, 0x6e, 0x66, 0x6f] 33) ∧
    (Spec.Kdf.hkdfOkm (Spec.Hmac.hmac Spec.Sha2.sha256 64) 32 [0x0b] [0x69, 0x6e, 0x66, 0x6f] 33).length = 33 ∧
    hkdf_expand (legacyDigest sha256Ctx) (Legacy.new sha256Ctx) [0x0b] [0x69, 0x6e, 0x66, 0x6f] 33 = none ∧
    Spec.Kdf.hkdfExpand Spec.Sha2.sha256 64 32 [0x0b] [0x69, 0x6e, 0x66, 0x6f] 33 = none := by
  have hD := legacy_contract_sized sha256Ctx Spec.Sha2.sha256 _ sha256_ctx (L := 32) (B := 64) (by decide) (by decide)
  have hok : ∀ x : Bytes, x.length ≤ 32 + ([0x69, 0x6e, 0x66, 0x6f] : Bytes).length + 1 →
      ok256 (ikey Spec.Sha2.sha256 64 [0x0b] ++ x) ∧
        ok256 (okey Spec.Sha2.sha256 64 [0x0b] ++ Spec.Sha2.sha256 (ikey Spec.Sha2.sha256 64 [0x0b] ++ x)) :=
    fun x hx => okH_of_length [0x0b] x Spec.Sha2.sha256 (by simp only [List.length_cons, List.length_nil] at hx; omega)
  have hold := hkdf_expand_old_generic (legacyDigest sha256Ctx) Spec.Sha2.sha256 64 32 sha256Ctx.OUTPUT_BITS
    (fun _ m => ok256 m) (RelL Spec.Sha2.sha256 _) (FinL Spec.Sha2.sha256 _) hD (by decide) (by decide)
    (Legacy.new sha256Ctx) [] (Or.inl (legacy_new sha256Ctx Spec.Sha2.sha256 _ sha256_ctx)) [0x0b] [0x69, 0x6e, 0x66, 0x6f] 33
    (Or.inl (by decide)) hok
  refine ⟨by decide, ?_, ?_, ?_, ?_⟩
  · rw [hold]; rfl
  · have hT : ∀ x ∈ Spec.Kdf.hkdfTs (Spec.Hmac.hmac Spec.Sha2.sha256 64 [0x0b]) [0x69, 0x6e, 0x66, 0x6f]
        (Spec.Kdf.ceilDiv 33 32) 1 [], x.length = 32 := by
      rw [show Spec.Kdf.ceilDiv 33 32 = 2 by decide]
      intro x hx
      simp only [Spec.Kdf.hkdfTs, List.mem_cons, List.not_mem_nil, or_false] at hx
      rcases hx with rfl | rfl <;> exact sha256_length _
    simp only [Spec.Kdf.hkdfOkm, List.length_take, List.length_flatten]
    rw [List.map_congr_left hT]
    rw [show Spec.Kdf.ceilDiv 33 32 = 2 by decide]
    simp [Spec.Kdf.hkdfTs]
  · rw [hkdf_sha256.2 [0x0b] [0x69, 0x6e, 0x66, 0x6f] 33 (Or.inl (by decide)) hok, hkdf_expand_limit]
    exact Or.inl (by decide)
  · rw [hkdf_expand_limit]; exact Or.inl (by decide)

/-- **RFC 8018 §5.2**, generic in the PRF object `mac` (fresh, computing `prf P`): value and refusal for every
    salt, iteration count and output length.  Guards: the PRF's domain holds for `salt ‖ INT(i)` and for PRF outputs. -/
theorem pbkdf2_generic {μ : Type} (M : MacModel μ) (L : Nat) (sizes : List Nat) (fk : Bytes → Option Fn)
    (ok : Fn → Bytes → Prop) (Rel : μ → Fn → Bytes → Prop) (Fin : μ → Fn → Prop)
    (hM : Contract (macFam M) L sizes fk ok Rel Fin) (hL : 0 < L) (prf : Bytes → Bytes → Bytes) (P salt : Bytes)
    (hS : ∀ i, ok (prf P) (salt ++ natToBE 4 i)) (hU : ∀ u : Bytes, u.length = L → ok (prf P) u)
    (mac : μ) (hr : Rel mac (prf P) []) (c dkLen : Nat) :
    (pbkdf2 M mac salt c dkLen).map (·.2) = Spec.Kdf.pbkdf2 prf L P salt c dkLen := by
  obtain ⟨_, _, e⟩ := Cx.Proofs.KdfPbkdf2.pbkdf2_run M hM hL prf P salt hS hU mac hr c dkLen
  rw [e, Option.map_map]
  exact Option.map_id'

theorem pbkdf2_limit (prf : Bytes → Bytes → Bytes) (L : Nat) (P S : Bytes) (c dkLen : Nat) :
    Spec.Kdf.pbkdf2 prf L P S c dkLen = none ↔ (c = 0 ∨ (2 ^ 32 - 1) * L < dkLen) := by
  simp only [Spec.Kdf.pbkdf2]
  split
  · simp [*]
  · split <;> simp [*]

/-- the Spec's `F` (one pass over the chain) is the RFC's U_1 ⊕ U_2 ⊕ … ⊕ U_c -/
theorem F_is_xor_of_U (prf : Fn) (S : Bytes) (c i : Nat) : Spec.Kdf.F prf S c i = Spec.Kdf.Fxor prf S c i :=
  Cx.Proofs.KdfPbkdf2.F_eq_Fxor prf S c i

/-- PBKDF2 with PRF = HMAC over one legacy wrapper: `pbkdf2(&mut Hmac::new(X::new(), pwd), salt, c, out[dkLen])` -/
def Pbkdf2HmacCorrect {γ : Type} (M : CtxModel γ) (H : Fn) (B L : Nat) (ok : Bytes → Prop) : Prop :=
  ∀ (pwd salt : Bytes) (c dkLen : Nat),
    (pwd.length ≤ B ∨ ok pwd) →
    (∀ x : Bytes, (x.length = L ∨ ∃ i, x = salt ++ natToBE 4 i) →
      ok (ikey H B pwd ++ x) ∧ ok (okey H B pwd ++ H (ikey H B pwd ++ x))) →
    ∃ mac, Hmac.new (legacyDigest M) (Legacy.new M) pwd = some mac ∧
      (pbkdf2 (hmacMac (legacyDigest M)) mac salt c dkLen).map (·.2) = Spec.Kdf.pbkdf2Hmac H B L pwd salt c dkLen

theorem pbkdf2_hmac_legacy {γ : Type} (M : CtxModel γ) (H : Fn) (R : γ → Bytes → Prop) (ok : Bytes → Prop)
    (hc : CtxContract M H R ok) (B L : Nat) (hB : M.BLOCK_BYTES = B) (hL : (M.OUTPUT_BITS + 7) / 8 = L) (hLB : L ≤ B)
    (hL0 : 0 < L) : Pbkdf2HmacCorrect M H B L ok := by
  intro pwd salt c dkLen hk hok
  have hD := legacy_contract_sized M H R hc hL hB
  obtain ⟨mac, e, hr⟩ := hmac_new (legacyDigest M) H B pwd (RelL H R) (FinL H R) hD hLB (Legacy.new M)
    (legacy_new M H R hc) hk
  refine ⟨mac, e, ?_⟩
  exact pbkdf2_generic (hmacMac (legacyDigest M)) L [L] (fun _ => none) _ _ _
    (hmac_contract (legacyDigest M) H B pwd (RelL H R) (FinL H R) hD) hL0 (Spec.Hmac.hmac H B) pwd salt
    (fun i => hok _ (Or.inr ⟨i, rfl⟩)) (fun u hu => hok u (Or.inl hu)) mac hr c dkLen

theorem pbkdf2_hmac_sha1 : Pbkdf2HmacCorrect sha1Ctx Spec.Sha1.sha1 64 20 Cx.Props.C02.Sha1Ripemd.ok :=
  pbkdf2_hmac_legacy _ _ _ _ sha1_ctx 64 20 (by decide) (by decide) (by decide) (by decide)
theorem pbkdf2_hmac_sha256 : Pbkdf2HmacCorrect sha256Ctx Spec.Sha2.sha256 64 32 ok256 :=
  pbkdf2_hmac_legacy _ _ _ _ sha256_ctx 64 32 (by decide) (by decide) (by decide) (by decide)
theorem pbkdf2_hmac_sha512 : Pbkdf2HmacCorrect sha512Ctx Spec.Sha2.sha512 128 64 ok512 :=
  pbkdf2_hmac_legacy _ _ _ _ sha512_ctx 128 64 (by decide) (by decide) (by decide) (by decide)

/-- the guards of `pbkdf2_hmac_sha256` are met by a concrete non-trivial call (13-byte password, 8-byte salt):
    every hashed string is shorter than 2^61 bytes -/
example (x : Bytes) (hx : x.length = 32 ∨ ∃ i, x = [1, 2, 3, 4, 5, 6, 7, 8] ++ natToBE 4 i) :
    ok256 (ikey Spec.Sha2.sha256 64 (List.replicate 13 7) ++ x) := by
  show (ikey Spec.Sha2.sha256 64 (List.replicate 13 7) ++ x).length < 2 ^ 61
  have : x.length ≤ 32 := by
    rcases hx with h | ⟨i, rfl⟩
    · omega
    · simp [Cx.Proofs.Bytes.natToBE_length]
  simp [ikey, Spec.Hmac.xorPad, Spec.Hmac.keyBlock, zeros]
  omega

/-- **`ScryptParams::new` accepts exactly the RFC 7914 constraints, within `usize`**: for every (log_n, r, p) the
    constructor returns a value iff N = 2^log_n, r, p satisfy RFC 7914 §2/§6 (checked with dkLen = 1, dkLen is checked
    by `scrypt` itself) and the buffers are addressable (log_n < 64, 128·r·N < 2^64, 128·r·p < 2^64). -/
theorem scrypt_params_accepts_iff (log_n r p : Nat) :
    (ScryptParams.new log_n r p).isSome ↔
      (Spec.Kdf.scryptValid (2 ^ log_n) r p 1 = true ∧
        log_n < 64 ∧ 128 * r * 2 ^ log_n < 2 ^ 64 ∧ 128 * r * p < 2 ^ 64) :=
  Cx.Proofs.KdfScrypt.new_iff_valid log_n r p

/-- accepted and refused parameter triples (tests of the theorem's two directions) -/
example : (ScryptParams.new 10 8 16).isSome = true ∧ (ScryptParams.new 16 1 1).isSome = false ∧
    (ScryptParams.new 1 (2 ^ 15) (2 ^ 15)).isSome = false ∧ (ScryptParams.new 0 1 1).isSome = false := by decide

end Cx.Props.C10
