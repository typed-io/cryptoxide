/-
  Props.C10 (unit mackdf), scrypt part — the functions of src/scrypt.rs (Impl.Kdf) against RFC 7914 (Spec.Kdf):
  `salsa20_8` = Salsa20/8 Core (§3), `scrypt_block_mix` = scryptBlockMix (§4), `integerify` / `scrypt_ro_mix` =
  Integerify mod N / scryptROMix (§5) for N = 2^k with k ≤ 32, `ScryptParams::new` then `scrypt` = scrypt (§6) as an
  equality of `Option`s (the derived key for valid (N, r, p, dkLen), the panic for every invalid one).

  Salsa20/8: the extracted `run_round!` row table equals the table generated from the columnround/rowround index
  pattern (closed `decide`), and interpreting a generated table = folding quarterrounds (Proofs.KdfScryptSalsa, by
  induction over the table; no evaluation on symbolic words).

  DOMAIN REMARK (not a theorem gap, a limit of the code): for 33 ≤ log_n ≤ 56 `ScryptParams::new` still accepts
  (r ≥ 3, 128·r·N < 2^64) but `integerify` reads only 32 bits, so the code would NOT compute RFC 7914 there
  (`Proofs.KdfScryptMix.integerify_differs_above_32`); such a call needs a scratch vector of ≥ 3 TiB, so no
  correspondence case exists.
-/
import CxVerif.Proofs.KdfScrypt
import CxVerif.Proofs.KdfScryptMF
namespace Cx.Props.C10
open Cx.Impl.Kdf

/-- **RFC 7914 §3**: for every 64-byte string the code's `salsa20_8` is the Salsa20/8 Core; every other input length
    panics (`none`). -/
theorem scrypt_salsa20_8 (input : Bytes) :
    salsa20_8 input = if input.length = 64 then some (Spec.Kdf.salsa20_8 input) else none := by
  split
  · exact Cx.Proofs.KdfScryptSalsa.salsa20_8_eq input ‹_›
  · exact Cx.Proofs.KdfScryptSalsa.salsa20_8_refuses input ‹_›

/-- the row table of `run_round!` is the quarterround pattern of columnround followed by rowround -/
theorem scrypt_salsa_table :
    Extracted.MacKdf.SCRYPT_SALSA
      = (Cx.Proofs.KdfScryptSalsa.colIdx ++ Cx.Proofs.KdfScryptSalsa.rowIdx).flatMap Cx.Proofs.KdfScryptSalsa.qrows :=
  Cx.Proofs.KdfScryptSalsa.table_eq

/-- one `run_round!( … )` invocation is one doubleround, on every state -/
theorem scrypt_run_round (x : Vector UInt32 16) : run_round x = some (Spec.Salsa.doubleRound x) :=
  Cx.Proofs.KdfScryptSalsa.run_round_eq x

/-- **RFC 7914 §4**: for every block-size parameter r > 0, every input of 2r 64-byte blocks and every output buffer
    of the same length, `scrypt_block_mix` leaves B' = (Y_0, Y_2, …, Y_{2r−2}, Y_1, Y_3, …, Y_{2r−1}) in `output`. -/
theorem scrypt_block_mix_spec (r : Nat) (input output : Bytes) (hr : 0 < r) (hi : input.length = 128 * r)
    (ho : output.length = 128 * r) : scrypt_block_mix input output = some (Spec.Kdf.blockMix r input) :=
  Cx.Proofs.KdfScryptMix.scrypt_block_mix_eq r hr input output hi ho

example : ∃ (r : Nat) (input output : Bytes), 0 < r ∧ input.length = 128 * r ∧ output.length = 128 * r :=
  ⟨8, List.replicate 1024 0x5a, zeros 1024, by decide, by rw [List.length_replicate], by rw [zeros, List.length_replicate]⟩

/-- an input that is not a positive multiple of 64 bytes panics (slice / `copy_from_slice` length checks) -/
theorem scrypt_block_mix_refuses (input output : Bytes) (h : input.length < 64 ∨ input.length % 64 ≠ 0) :
    scrypt_block_mix input output = none := by
  simp only [scrypt_block_mix]
  by_cases h1 : input.length < 64
  · simp [h1]
  · have : input.length % 64 > 0 := by omega
    simp [h1, this]

/-- **Integerify mod N** (RFC 7914 §5 step 3): the code's `integerify(x, n)` — the first four bytes of the last 64-byte
    block, little-endian, `& (n − 1)` — is the little-endian integer of the WHOLE last block mod N, whenever
    N = 2^k with k ≤ 32. -/
theorem scrypt_integerify_spec (r k : Nat) (x : Bytes) (hr : 0 < r) (hx : x.length = 128 * r) (hk : k ≤ 32) :
    integerify x (2 ^ k) = some (Spec.Kdf.integerify r x % 2 ^ k) :=
  Cx.Proofs.KdfScryptMix.integerify_eq r hr x hx (2 ^ k) k rfl hk

/-- TEST (evaluation of one input): the bound k ≤ 32 is sharp — for N = 2^33 and a last block of value 2^32 the code
    answers 0 where RFC 7914 says 2^32 (the code never addresses V[j] for j ≥ 2^32). -/
example : integerify (zeros 64 ++ ([0, 0, 0, 0, 1] ++ zeros 59)) (2 ^ 33) = some 0 ∧
    Spec.Kdf.integerify 1 (zeros 64 ++ ([0, 0, 0, 0, 1] ++ zeros 59)) % 2 ^ 33 = 2 ^ 32 :=
  Cx.Proofs.KdfScryptMix.integerify_differs_above_32

/-- **RFC 7914 §5**: for N = 2^k (k ≤ 32), r > 0, a 128·r-byte `b`, a scratch vector `v` of N chunks of 128·r bytes and
    a scratch `t` of 128·r bytes (whatever they contain), `scrypt_ro_mix` returns b = scryptROMix_r(b, N), leaves
    V = [B, BlockMix(B), …, BlockMix^{N−1}(B)] in `v` and some 128·r bytes in `t`. -/
theorem scrypt_ro_mix_spec (r k : Nat) (b : Bytes) (v : List Bytes) (t : Bytes) (hr : 0 < r) (hk : k ≤ 32)
    (hb : b.length = 128 * r) (hv : v.length = 2 ^ k) (hvl : ∀ c ∈ v, c.length = 128 * r) (ht : t.length = 128 * r) :
    ∃ t', scrypt_ro_mix b v t (2 ^ k)
        = some (Spec.Kdf.roMix r (2 ^ k) b, Spec.Kdf.iterates (Spec.Kdf.blockMix r) (2 ^ k) b, t') ∧
      t'.length = 128 * r :=
  Cx.Proofs.KdfScryptMix.scrypt_ro_mix_eq r hr k hk b v t hb hv hvl ht

example : ∃ (r k : Nat) (b : Bytes) (v : List Bytes) (t : Bytes), 0 < r ∧ k ≤ 32 ∧ b.length = 128 * r ∧
    v.length = 2 ^ k ∧ (∀ c ∈ v, c.length = 128 * r) ∧ t.length = 128 * r :=
  ⟨2, 4, List.replicate 256 7, List.replicate 16 (zeros 256), zeros 256, by decide, by decide,
    by rw [List.length_replicate], by rw [List.length_replicate],
    fun c hc => by rw [List.eq_of_mem_replicate hc, zeros, List.length_replicate], by rw [zeros, List.length_replicate]⟩

open Cx.Impl.Digest Cx.Impl.Hmac Cx.Proofs.MacHmac Cx.Proofs.MacLegacy Cx.Proofs.MacInst Cx.Proofs.KdfPbkdf2
  Cx.Proofs.KdfScryptMix Cx.Proofs.KdfScryptMF Cx.Props.C02.Sha2 in
/-- **RFC 7914 §6**: constructing the parameters and deriving a key is exactly `Spec.Kdf.scrypt` with N = 2^log_n:
    B = PBKDF2-HMAC-SHA256(P, S, 1, p·128·r); B_i = scryptROMix(r, B_i, N); DK = PBKDF2-HMAC-SHA256(P, B, 1, dkLen) —
    and a panic (`none`) exactly where RFC 7914 §2/§6 has no value (`Spec.Kdf.scryptValid` false).
    Guards: log_n ≤ 32 (the 32-bit Integerify of the code), the scratch vector fits `usize` (128·r·N < 2^64),
    password and salt within SHA-256's input domain. -/
theorem scrypt_spec (P S : Bytes) (log_n r p dkLen : Nat) (hlog : log_n ≤ 32) (hmem : 128 * r * 2 ^ log_n < 2 ^ 64)
    (hP : P.length < 2 ^ 61) (hS : S.length + 68 < 2 ^ 61) :
    (ScryptParams.new log_n r p).bind (fun params => scrypt P S params dkLen)
      = Spec.Kdf.scrypt P S (2 ^ log_n) r p dkLen := by
  have hnew := Cx.Proofs.KdfScrypt.new_iff log_n r p
  have hval := Cx.Proofs.KdfScrypt.valid_iff_new log_n r p dkLen hlog hmem
  by_cases hacc : (ScryptParams.new log_n r p).isSome
  · -- accepted parameters
    obtain ⟨hr, hp, hl0, hl64, hr128, hnr, hpr, hl16, hrp⟩ := hnew.mp hacc
    rw [Cx.Proofs.KdfScrypt.new_eq_some log_n r p hacc, Option.bind_some]
    have hrp' : p * (r * 128) ≤ (2 ^ 32 - 1) * 32 := by
      have : p * (r * 128) = 128 * (r * p) := by rw [Nat.mul_comm r 128, Nat.mul_left_comm, Nat.mul_comm p r]
      rw [this]; generalize r * p = x at hrp; omega
    have hvalid : Spec.Kdf.scryptValid (2 ^ log_n) r p dkLen = true ↔ (0 < dkLen ∧ dkLen ≤ (2 ^ 32 - 1) * 32) := by
      rw [hval, and_iff_right hacc]
    by_cases hd0 : dkLen > 0
    · by_cases hd1 : dkLen / 32 ≤ 0xffffffff
      · -- the HMAC-SHA256 object
        have hD := legacy_contract_sized sha256Ctx Spec.Sha2.sha256 _ sha256_ctx (L := 32) (B := 64) (by decide) (by decide)
        obtain ⟨mac, emac, hrel⟩ := hmac_new (legacyDigest sha256Ctx) Spec.Sha2.sha256 64 P (RelL _ _) (FinL _ _) hD
          (by decide) (Legacy.new sha256Ctx) (legacy_new sha256Ctx _ _ sha256_ctx) (Or.inr hP)
        have hM := hmac_contract (legacyDigest sha256Ctx) Spec.Sha2.sha256 64 P (RelL _ _) (FinL _ _) hD
        have hU : ∀ u : Bytes, u.length = 32 →
            okH Spec.Sha2.sha256 64 P (fun _ x => ok256 x) (Spec.Hmac.hmac Spec.Sha2.sha256 64 P) u :=
          fun u hu => okH_of_length P u _ (by omega)
        obtain ⟨mac1, b, e1, hrel1, es1, hbl⟩ := pbkdf2_some (hmacMac (legacyDigest sha256Ctx)) hM (by decide)
          (Spec.Hmac.hmac Spec.Sha2.sha256 64) P S
          (fun i => okH_of_length P _ _ (by rw [List.length_append, Cx.Proofs.Bytes.natToBE_length]; omega)) hU mac hrel 1
          (p * (r * 128)) (by decide) hrp'
        have hr128' : ¬ r * 128 = 0 := by omega
        have hq1 : 2 ^ log_n * (r * 128) / (r * 128) = 2 ^ log_n := Nat.mul_div_cancel _ (by omega)
        have hq2 : p * (r * 128) / (r * 128) = p := Nat.mul_div_cancel _ (by omega)
        have e128 : r * 128 = 128 * r := Nat.mul_comm ..
        have hblocks : ∀ c ∈ takeBlocks (r * 128) p b, c.length = 128 * r := by
          intro c hc
          rw [← e128]
          exact Cx.Proofs.FB.takeBlocks_all_len p b (by rw [hbl]; exact Nat.le_refl _) c hc
        have ech := scrypt_chunks_eq r hr log_n hlog (takeBlocks (r * 128) p b)
          (List.replicate (2 ^ log_n) (zeros (r * 128))) (zeros (r * 128)) [] hblocks (by simp)
          (by intro c hc; rw [List.eq_of_mem_replicate hc]; simp [zeros, e128]) (by simp [zeros, e128])
        -- second PBKDF2, with the object the first one left
        have hsl : ((takeBlocks (r * 128) p b).map (Spec.Kdf.roMix r (2 ^ log_n))).flatten.length ≤ 2 ^ 38 := by
          rw [uniform_flatten_length (128 * r) _ fun c hc => by
            obtain ⟨a, ha, rfl⟩ := List.mem_map.mp hc
            exact roMix_length r _ a (hblocks a ha)]
          rw [List.length_map, Proofs.FB.takeBlocks_length, ← e128]
          omega
        obtain ⟨mac2, _, e2⟩ := pbkdf2_run (hmacMac (legacyDigest sha256Ctx)) hM (by decide : 0 < 32)
          (Spec.Hmac.hmac Spec.Sha2.sha256 64) P
          ((takeBlocks (r * 128) p b).map (Spec.Kdf.roMix r (2 ^ log_n))).flatten
          (fun i => okH_of_length P _ _ (by rw [List.length_append, Cx.Proofs.Bytes.natToBE_length]; omega)) hU mac1 hrel1 1 dkLen
        have hd0' : ¬ ¬ dkLen > 0 := by omega
        have hd1' : ¬ ¬ dkLen / 32 ≤ 0xffffffff := by omega
        simp only [scrypt, hd0', hd1', if_false, sha256Digest, emac, e1, Nat.one_shiftLeft, hq1, hq2, hr128', ech,
          List.nil_append, e2, Option.map_map, Function.comp_def, Option.map_id']
        by_cases hd2 : dkLen ≤ (2 ^ 32 - 1) * 32
        · have hv : Spec.Kdf.scryptValid (2 ^ log_n) r p dkLen = true := hvalid.mpr ⟨hd0, hd2⟩
          simp only [Spec.Kdf.scrypt, hv, if_true, ← e128, Spec.Kdf.hmacSha256, es1]
        · have hv : ¬ Spec.Kdf.scryptValid (2 ^ log_n) r p dkLen = true := fun h => hd2 (hvalid.mp h).2
          have h1 : dkLen > (2 ^ 32 - 1) * 32 := by omega
          simp [Spec.Kdf.scrypt, hv, Spec.Kdf.pbkdf2, h1]
      · have hv : ¬ Spec.Kdf.scryptValid (2 ^ log_n) r p dkLen = true := fun h => hd1 (by have := (hvalid.mp h).2; omega)
        simp [scrypt, hd0, hd1, Spec.Kdf.scrypt, hv]
    · have hv : ¬ Spec.Kdf.scryptValid (2 ^ log_n) r p dkLen = true := fun h => hd0 (hvalid.mp h).1
      simp [scrypt, hd0, Spec.Kdf.scrypt, hv]
  · -- refused parameters: the RFC refuses them too (given log_n ≤ 32 and the address-space guard)
    have hnone : ScryptParams.new log_n r p = none := by
      cases h : ScryptParams.new log_n r p with
      | none => rfl
      | some x => rw [h] at hacc; exact absurd rfl hacc
    have hv : ¬ Spec.Kdf.scryptValid (2 ^ log_n) r p dkLen = true := fun h => hacc (hval.mp h).1
    rw [hnone]
    simp [Spec.Kdf.scrypt, hv]

/-- the guards hold for the second test vector of RFC 7914 §12 (P = "password", S = "NaCl", N = 1024, r = 8, p = 16,
    dkLen = 64), whose parameters are valid (so both sides of `scrypt_spec` are a derived key, not a refusal) -/
example : (10 ≤ 32) ∧ 128 * 8 * 2 ^ 10 < 2 ^ 64 ∧ ([112, 97, 115, 115, 119, 111, 114, 100] : Bytes).length < 2 ^ 61 ∧
    ([78, 97, 67, 108] : Bytes).length + 68 < 2 ^ 61 ∧ Spec.Kdf.scryptValid (2 ^ 10) 8 16 64 = true := by decide

/-- the refusal clause, spelled out: the Spec (hence, by `scrypt_spec`, the code) has no value outside RFC 7914's
    parameter constraints -/
theorem scrypt_refuses (P S : Bytes) (N r p dkLen : Nat) (h : Spec.Kdf.scryptValid N r p dkLen = false) :
    Spec.Kdf.scrypt P S N r p dkLen = none := by
  simp [Spec.Kdf.scrypt, h]

end Cx.Props.C10
