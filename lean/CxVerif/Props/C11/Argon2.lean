/-
  Props.C11.Argon2 — C11: Argon2d/i/id of the code-shaped model (Impl.Argon2 = /repo/src/kdf/argon2.rs) equal
  RFC 9106 (Spec.Argon2) — the component theorems, each for ALL inputs in the stated domain.

  The assembled theorem `argon2_eq_rfc` is proved in Props/C11/Argon2Full.lean (see the end of this file).
  Spec-vs-world: the three RFC 9106 section 5 vectors are evaluated by the correspondence run (`cxdrv spec`), not
  by the kernel (a 32-KiB Argon2 is too slow for `decide`); there is no independent Argon2 oracle in the sandbox.
-/
import CxVerif.Proofs.Argon2Assemble
namespace Cx.Props.C11
open Cx.Proofs.Argon2
open Cx.Spec.Argon2 (Ty Block)

/-- `H0::new` = RFC 9106 3.2 step 1 (`LE32(p) || LE32(T) || LE32(m) || LE32(t) || LE32(v) || LE32(y) ||
    LE32(|P|) || P || LE32(|S|) || S || LE32(|K|) || K || LE32(|X|) || X` under `H^64`), for all inputs whose
    lengths fit the RFC's 32-bit length fields -/
theorem H0_layout (params : Impl.Argon2.Params) (c : Spec.Argon2.Params) (hc : Corr params c)
    (pwd salt key aad : Bytes) (hP : pwd.length < 2 ^ 32) (hS : salt.length < 2 ^ 32) (hK : key.length < 2 ^ 32)
    (hX : aad.length < 2 ^ 32) (hT : c.T < 2 ^ 32) :
    Impl.Argon2.H0.new params pwd salt key aad (c.T % 2 ^ 32) = some (Spec.Argon2.H0 c pwd salt key aad) :=
  H0_eq c params hc pwd salt key aad

/-- `hprime` = `H'^T` for every output length `1 ≤ T < 2^32`: direct BLAKE2b for T ≤ 64, else 32-byte strides of the
    64-byte hash chain and a final `H^(T−32r)`, `r = ⌈T/32⌉ − 2`; no slice operation goes out of range -/
theorem hprime_eq_rfc (T : Nat) (A : Bytes) (hT : 1 ≤ T) (hT2 : T < 2 ^ 32) :
    Impl.Argon2.hprime T A = some (Spec.Argon2.Hprime T A) := hprime_eq T A hT

example : (1 ≤ 300 ∧ 300 < 2 ^ 32) := by decide

/-- an empty output slice is refused (panic inside BLAKE2b), never answered -/
theorem hprime_refuses_zero (A : Bytes) : Impl.Argon2.hprime 0 A = none := hprime_zero A

/-- `hprime_block_init` = `H'^1024(H_0 || LE32(col) || LE32(lane))` (3.2 steps 3, 4) for all arguments -/
theorem hprime_block_init_eq_rfc (h0 : Bytes) (col lane : Nat) :
    Impl.Argon2.hprime_block_init h0 col lane =
      some (Spec.Argon2.Hprime 1024 (h0 ++ Spec.Argon2.LE32 col ++ Spec.Argon2.LE32 lane)) :=
  hprime_block_init_eq h0 col lane

/-- RFC 9106 3.2 step 2: for every p ≥ 1 the column count is `q = 4 ⌊m/4p⌋`, the segment length `⌊m/4p⌋`,
    `m' = p·q ≤ m`; for m ≥ 8p every segment has at least two blocks -/
theorem geometry_rfc (c : Spec.Argon2.Params) (hp : 1 ≤ c.p) :
    Spec.Argon2.q c = 4 * (c.m / (4 * c.p)) ∧ Spec.Argon2.segLen c = c.m / (4 * c.p) ∧
    Spec.Argon2.mPrime c = c.p * Spec.Argon2.q c ∧ Spec.Argon2.mPrime c ≤ c.m ∧
    (8 * c.p ≤ c.m → 2 ≤ Spec.Argon2.segLen c) :=
  ⟨(geometry c hp).1, (geometry c hp).2.1, (geometry c hp).2.2, mPrime_le c, segLen_ge c hp⟩

/-- the builder chain `Params::argon2x().memory_kb(m).iterations(t).parallelism(p).version(v)` succeeds for every
    `1 ≤ p < 2^24`, `1 ≤ t`, `m < 2^32`, `v ∈ {0x13, 0x10}` without u32 overflow, and leaves exactly
    `memory_kb = max(m, 8p)` and the lane / segment / block counts derived from it -/
theorem builder_geometry (y : Ty) (v t m p : Nat) (hv : v = 0x13 ∨ v = 0x10) (ht : 1 ≤ t) (hp : 1 ≤ p)
    (hp2 : p < 2 ^ 24) (hm : m < 2 ^ 32) :
    (Impl.Argon2.Params.def (tyOf y)).build v t m p = some (.ok (builtParams y v t m p)) :=
  build_ok y v t m p hv ht hp hp2 hm

/-- on the RFC's domain (m ≥ 8p) the built `Params` hold the RFC parameters and the RFC's geometry
    (`memory_blocks = m'`, `lane_length = q`, `segment_length = q/4`) -/
theorem builder_corr (y : Ty) (v t m p T : Nat) (hp : 1 ≤ p) (hm : 8 * p ≤ m) :
    Corr (builtParams y v t m p) { y := y, v := v, t := t, m := m, p := p, T := T } :=
  built_corr y v t m p T hp hm

example : (19 = 0x13 ∨ 19 = 0x10) ∧ 1 ≤ 3 ∧ 1 ≤ 4 ∧ 4 < 2 ^ 24 ∧ 32 < 2 ^ 32 ∧ 8 * 4 ≤ 32 := by decide

/-- data-independent addressing exactly for Argon2i, and for Argon2id in pass 0, slices 0 and 1 (3.4.1.3) -/
theorem addressing_predicate (params : Impl.Argon2.Params) (y : Ty) (hy : params.hash_type = tyOf y)
    (pass lane slice index : Nat) :
    Impl.Argon2.data_independent_addressing params ⟨pass, lane, slice, index⟩ = Spec.Argon2.dataIndependent y pass slice :=
  dia_eq params y hy pass lane slice index

/-- RFC 9106 3.4.2: the reference set W (built in the Spec as the list of finished segments plus the current
    segment's blocks, minus the excluded ones) is the window of `areaSize` consecutive columns of the cyclic column
    order starting at `startPos`, for every in-range position -/
theorem refSet_window (c : Spec.Argon2.Params) (hp : 1 ≤ c.p) (r sl k : Nat) (same : Bool)
    (h : InRange (Spec.Argon2.segLen c) r sl k same) :
    Spec.Argon2.refSet c r sl k same =
      (List.range (areaSize (Spec.Argon2.segLen c) r sl k same)).map
        (fun n => (startPos (Spec.Argon2.segLen c) r sl + n) % Spec.Argon2.q c) :=
  refSet_eq c (q_eq c hp) r sl k same h

/-- `index_alpha` = the RFC's mapping: it returns the `zz`-th element of W, `zz = |W| − 1 − (|W|·(J_1²/2^32))/2^32`
    (which exists: W is not empty and zz < |W|), for EVERY in-range position (slice < 4, index inside the segment,
    not one of the two H'-initialised blocks), every lane relation and every J_1 < 2^32; the `some` says that no
    u32 / u64 addition, subtraction, multiplication or remainder in it overflows, underflows or divides by zero, and
    that the final `as u32` is lossless -/
theorem index_alpha_eq_rfc (c : Spec.Argon2.Params) (params : Impl.Argon2.Params) (hc : Corr params c) (hp : 1 ≤ c.p)
    (r lane sl k J1 : Nat) (same : Bool) (h : InRange (Spec.Argon2.segLen c) r sl k same) (hJ : J1 < 2 ^ 32) :
    Impl.Argon2.index_alpha params ⟨r, lane, sl, k⟩ J1 same = some (Spec.Argon2.refCol c r sl k same J1) ∧
    (Spec.Argon2.refSet c r sl k same)[Spec.Argon2.mapJ1 J1 (Spec.Argon2.refSet c r sl k same).length]? =
      some (Spec.Argon2.refCol c r sl k same J1) := by
  have hq := q_eq c hp
  refine ⟨index_alpha_eq_refCol c params hq hc.seg hc.lane r lane sl k J1 same h hJ, ?_⟩
  rw [refCol_window c hq r sl k J1 same h, refCol_eq c hq r sl k J1 same h]

/-- the hypotheses are met by a concrete long-segment position: m = 4·1·130 (segment length 130), pass 1, slice 2,
    index 129, other lane -/
example : InRange 130 1 2 129 false := ⟨by decide, by decide, by decide, by decide, by simp⟩

/-- `add_and_mul(x, y) = x + y + 2·lo(x)·lo(y) mod 2^64` (RFC 9106 3.6), and the plain u64 `*` inside it cannot
    overflow -/
theorem add_and_mul_formula (x y : UInt64) :
    (Impl.Argon2.add_and_mul x y).toNat = (x.toNat + y.toNat + 2 * (x.toNat % 2 ^ 32) * (y.toNat % 2 ^ 32)) % 2 ^ 64 ∧
    (x &&& 0xffffffff).toNat * (y &&& 0xffffffff).toNat < 2 ^ 64 :=
  ⟨add_and_mul_toNat x y, add_and_mul_no_overflow x y⟩

/-- the Spec's GB addition read on naturals is the RFC formula -/
theorem fBlaMka_formula (a b : UInt64) :
    (Spec.Argon2.fBlaMka a b).toNat = (a.toNat + b.toNat + 2 * (a.toNat % 2 ^ 32) * (b.toNat % 2 ^ 32)) % 2 ^ 64 :=
  fBlaMka_toNat a b

/-- the code's `p` (16 scalars through 8 `gb` calls, rotations 32/24/16/63 by `rotate_right`) is the RFC's P on the
    4×4 word matrix -/
theorem p_eq_P (v : Vector UInt64 16) : Spec.Argon2.P v = toVec (Impl.Argon2.p (ofVec v)) := P_eq v

/-- `fill_block(prev, ref, next, with_xor = false)` = `G(prev, ref)`: the first unrolled loop applies P to the rows
    (registers 8i..8i+7 = words 16i..16i+15), the second to the columns (registers i, i+8, …, i+56 = words
    2i + {0,1,16,17,…,112,113}); `next` is overwritten (pass 0, and every pass of version 0x10) -/
theorem fill_block_eq_G (prev ref next : Block) :
    Impl.Argon2.fill_block prev ref next false = Spec.Argon2.G prev ref :=
  Proofs.Argon2.fill_block_eq_G prev ref next

/-- with `with_xor = true` (version 0x13, passes > 0): `G(prev, ref) xor next` (3.2 step 6) -/
theorem fill_block_xor_eq_G (prev ref next : Block) :
    Impl.Argon2.fill_block prev ref next true = Spec.Argon2.xorBlock (Spec.Argon2.G prev ref) next :=
  Proofs.Argon2.fill_block_xor_eq_G prev ref next

/-- data-independent addressing: when the code's `input_block` holds `Z || LE64(n) || ZERO(968)`
    (`Z = LE64(r) || LE64(l) || LE64(sl) || LE64(m') || LE64(t) || LE64(y)`, RFC 9106 3.4.1.2), `next_addresses` returns
    the RFC's `(n+1)`-th 1024-byte address value `G(ZERO, G(ZERO, Z || LE64(n+1) || ZERO(968)))` and leaves the
    counter at `n + 1`; the u64 `+= 1` cannot overflow for n + 1 < 2^64 -/
theorem next_addresses_eq_rfc (c : Spec.Argon2.Params) (r l sl n : Nat) (hn : n + 1 < 2 ^ 64) (address : Block) :
    Impl.Argon2.next_addresses address (Spec.Argon2.addrInput c r l sl n) Impl.Argon2.Block.new =
      some (Spec.Argon2.addrBlock c r l sl (n + 1), Spec.Argon2.addrInput c r l sl (n + 1)) :=
  next_addresses_eq c r l sl n hn address

/-- the six words the code writes into `input_block` (then counter word 0) are the RFC's byte string
    `Z || LE64(i) || ZERO(968)` -/
theorem input_block_eq_rfc (c : Spec.Argon2.Params) (r l sl i : Nat) :
    Spec.Argon2.addrInput c r l sl i =
      inputWords (UInt64.ofNat r) (UInt64.ofNat l) (UInt64.ofNat sl) (UInt64.ofNat (Spec.Argon2.mPrime c))
        (UInt64.ofNat c.t) (UInt64.ofNat c.y.y) (UInt64.ofNat i) :=
  addrInput_eq c r l sl i

/-- ONE ITERATION of the `fill_segment` loop = RFC 9106 3.2 steps 5/6 for block `B[i][sl·segLen + k]`, for every
    valid parameter set (p ≥ 1, 8p ≤ m < 2^32), every pass r, lane i < p, slice sl < 4, index k inside the segment
    (k ≥ 2 in the first slice of the first pass), all three types and both versions, under the loop invariant
    `SegInv` (memory contents, `curr_offset`, the `prev_offset` rule, address block = the `(⌊k/128⌋+1)`-th address
    value unless a refresh is due, counter word) — and the invariant holds again for `k + 1`.  In particular:
    the address block is refreshed exactly when `k mod 128 = 0`, J_1/J_2 are the low/high halves of the right word,
    the reference lane/column are the RFC's, all block indices are in range, no u32/u64 operation overflows, and the
    XOR-into-existing-block happens exactly for version ≠ 0x10 on passes > 0. -/
theorem fill_segment_step_eq_rfc (c : Spec.Argon2.Params) (params : Impl.Argon2.Params) (hc : Corr params c)
    (r i sl k idx : Nat) (hpos : Pos c r i sl k) (st : Impl.Argon2.SegState) (B : Spec.Argon2.Memory)
    (inv : SegInv c r i sl k (Spec.Argon2.dataIndependent c.y r sl) st B) :
    ∃ st', Impl.Argon2.fill_segment_body params ⟨r, i, sl, idx⟩ (Spec.Argon2.dataIndependent c.y r sl)
        Impl.Argon2.Block.new st k = some st' ∧
      SegInv c r i sl (k + 1) (Spec.Argon2.dataIndependent c.y r sl) st'
        (Spec.Argon2.fillBlock c r sl i
          (if Spec.Argon2.dataIndependent c.y r sl then Spec.Argon2.addrBlocks c r i sl else #[]) B k) :=
  body_eq c params hc r i sl k idx hpos st B inv

/-- THE WHOLE LOOP `for i in starting_index..segment_length` from any index `k` on = the RFC's steps for the blocks
    `k … segLen−1` of the segment in order (by induction on the number of remaining iterations) -/
theorem fill_segment_loop_eq_rfc (c : Spec.Argon2.Params) (params : Impl.Argon2.Params) (hc : Corr params c)
    (r i sl idx : Nat) (hp : 1 ≤ c.p) (hm : 8 * c.p ≤ c.m) (hm2 : c.m < 2 ^ 32) (hi : i < c.p) (hsl : sl < 4)
    (n k : Nat) (st : Impl.Argon2.SegState) (B : Spec.Argon2.Memory) (hkn : k + n = Spec.Argon2.segLen c)
    (h0 : r = 0 ∧ sl = 0 → 2 ≤ k) (inv : SegInv c r i sl k (Spec.Argon2.dataIndependent c.y r sl) st B) :
    ∃ st', Impl.Argon2.fill_segment_loop params ⟨r, i, sl, idx⟩ (Spec.Argon2.dataIndependent c.y r sl)
        Impl.Argon2.Block.new (List.range' k n) st = some st' ∧
      SegInv c r i sl (Spec.Argon2.segLen c) (Spec.Argon2.dataIndependent c.y r sl) st'
        ((List.range' k n).foldl
          (Spec.Argon2.fillBlock c r sl i
            (if Spec.Argon2.dataIndependent c.y r sl then Spec.Argon2.addrBlocks c r i sl else #[])) B) :=
  loop_eq c params hc r i sl idx hp hm hm2 hi hsl n k st B hkn h0 inv

/-- the hypotheses of the step theorem are met by a concrete non-trivial position: m = 520, p = 1 (segment length
    130), pass 1, lane 0, slice 2, index 128 (an address-block refresh index) -/
example : Pos { y := .id, v := 0x13, t := 2, m := 520, p := 1, T := 32 } 1 0 2 128 :=
  ⟨by decide, by decide, by decide, by decide, by decide, by decide, by simp⟩

/-! ### the assembled statement

`argon2_eq_rfc` (and `argon2_builder_eq_rfc` for the `Params` the builder chain returns) in Props/C11/Argon2Full.lean
chains the component theorems of this file through the plumbing links
  (a) `fill_segment` prologue + the Spec's skip of k = 0, 1 in pass 0 / slice 0: `fill_segment = Spec.fillSegment`
      (Proofs/Argon2Prologue.lean, `fill_segment_eq`);
  (b) `process_init` = `Spec.firstBlocks`;  (c) `process_fill` over `process_positions` = `Spec.fillMemory`, carrying
      `blocks.size = p·q` and `lane_length = q`;  (d) `process_final` = `Spec.finalBlock`;
  (e) `Memory::new` = m' zero blocks, `process` = steps 3–8 (Proofs/Argon2Assemble.lean).
The translator ties (Props/C11/KernelTie.lean, Props/C11/GlueTieArgon2.lean) and the correspondence run (code = Impl = Spec
on the C11 grid) tie the model to /repo/src/kdf/argon2.rs. -/

/-- `argon2::<T>` and `argon2_at` with a T-byte slice are the same computation (identical bodies) -/
theorem entry_points_agree (T : Nat) (params : Impl.Argon2.Params) (pwd salt key aad : Bytes) :
    Impl.Argon2.argon2 T params pwd salt key aad = Impl.Argon2.argon2_at params pwd salt key aad T := rfl

end Cx.Props.C11
