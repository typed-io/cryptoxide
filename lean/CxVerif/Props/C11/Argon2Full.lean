/-
  Props.C11.Argon2Full — C11, the assembled theorem: the code-shaped model of `argon2_at` / `argon2::<T>`
  (Impl.Argon2 = /repo/src/kdf/argon2.rs) returns, without any panic (no u32/u64 overflow, no out-of-range block or
  slice index, no refused BLAKE2b call), exactly the RFC 9106 tag `Spec.Argon2.argon2`, for EVERY parameter set and
  input in the RFC's domain (`Spec.Argon2.valid`: 1 ≤ p < 2^24, 4 ≤ T < 2^32, 8p ≤ m < 2^32, 1 ≤ t < 2^32,
  v ∈ {0x13, 0x10}, all four byte strings shorter than 2^32), all three types.
  The links (a)–(e) are those listed in Props/C11/Argon2.lean.
-/
import CxVerif.Props.C11.Argon2
namespace Cx.Props.C11
open Cx.Proofs.Argon2
open Cx.Spec.Argon2 (Ty)

/-- (a) ONE SEGMENT: `fill_segment(params, position, memory)` = RFC 9106 3.2 steps 5/6 for the blocks of segment
    (pass r, lane i, slice sl), in order, for every valid geometry (p ≥ 1, 8p ≤ m < 2^32), every pass r, lane i < p,
    slice sl < 4, every memory of `p·q` blocks, all three types and both versions: the prologue (parameter words of
    `input_block`, the extra address block of pass 0 / slice 0, `curr_offset`, `prev_offset` with its wrap to the end of
    the lane) never overflows, the loop starts at 2 exactly where the RFC's blocks 0, 1 are the H'-initialised ones,
    and the memory keeps its size.  (`mk c B` = the code's `Memory { lane_length: q, blocks: B }`.) -/
theorem fill_segment_eq_rfc (c : Spec.Argon2.Params) (params : Impl.Argon2.Params) (hc : Corr params c)
    (r i sl idx : Nat) (hp : 1 ≤ c.p) (hm : 8 * c.p ≤ c.m) (hm2 : c.m < 2 ^ 32) (hi : i < c.p) (hsl : sl < 4)
    (B : Spec.Argon2.Memory) (hB : B.size = c.p * Spec.Argon2.q c) :
    Impl.Argon2.fill_segment params ⟨r, i, sl, idx⟩ (mk c B) = some (mk c (Spec.Argon2.fillSegment c r sl B i)) ∧
    (Spec.Argon2.fillSegment c r sl B i).size = c.p * Spec.Argon2.q c :=
  fill_segment_eq c params hc r i sl idx hp hm hm2 hi hsl B hB

/-- (b) the first loop of `process` = steps 3, 4 (`B[i][0]`, `B[i][1]` for every lane) on the zeroed memory -/
theorem process_init_eq_rfc (c : Spec.Argon2.Params) (hp : 1 ≤ c.p) (hm : 8 * c.p ≤ c.m) (hm2 : c.m < 2 ^ 32)
    (h0 : Bytes) :
    Impl.Argon2.process_init h0 (List.range c.p) (mk c (Array.replicate (Spec.Argon2.mPrime c) Spec.Argon2.zeroBlock)) =
      some (mk c (Spec.Argon2.firstBlocks c h0)) := by
  have hsz : (Array.replicate (Spec.Argon2.mPrime c) Spec.Argon2.zeroBlock).size = c.p * Spec.Argon2.q c := by
    rw [Array.size_replicate, (geometry c hp).2.2]
  exact (process_init_eq c ⟨hp, hm, hm2⟩ h0 (List.range c.p) _ (fun l h => List.mem_range.mp h) hsz).1

/-- (c) the three nested loops of `process` (pass, slice, lane) = steps 5, 6 over the whole memory -/
theorem process_fill_eq_rfc (c : Spec.Argon2.Params) (params : Impl.Argon2.Params) (hc : Corr params c)
    (hp : 1 ≤ c.p) (hm : 8 * c.p ≤ c.m) (hm2 : c.m < 2 ^ 32) (B : Spec.Argon2.Memory)
    (hB : B.size = c.p * Spec.Argon2.q c) :
    Impl.Argon2.process_fill params (Impl.Argon2.process_positions params) (mk c B) =
      some (mk c (Spec.Argon2.fillMemory c B)) :=
  (process_fill_eq c params hc ⟨hp, hm, hm2⟩ B hB).1

/-- (d) `blockhash = last block of lane 0`, then the XOR loop over lanes 1..p−1 = step 7 -/
theorem process_final_eq_rfc (c : Spec.Argon2.Params) (hp : 1 ≤ c.p) (hm : 8 * c.p ≤ c.m) (hm2 : c.m < 2 ^ 32)
    (B : Spec.Argon2.Memory) (hB : B.size = c.p * Spec.Argon2.q c) :
    ((Impl.Argon2.subU (mk c B).stride 1).bind (mk c B).block_index).bind
        (Impl.Argon2.process_final (mk c B) (List.range' 1 (c.p - 1))) = some (Spec.Argon2.finalBlock c B) :=
  final_eq c ⟨hp, hm, hm2⟩ B hB

/-- the chain (e): `H0::new` → `Memory::new` → `process`, on every geometry the code can address, for every tag length T ≥ 1
    (the RFC asks 4 ≤ T; the code answers 1, 2, 3 as well), any version word, any pass count and inputs of any length: the
    32-bit casts of the length fields are the RFC's `LE32` -/
theorem argon2_at_eq (c : Spec.Argon2.Params) (params : Impl.Argon2.Params) (hc : Corr params c) (g : Geo c)
    (hT : 1 ≤ c.T) (pwd salt key aad : Bytes) :
    Impl.Argon2.argon2_at params pwd salt key aad c.T = some (Spec.Argon2.argon2 c pwd salt key aad) := by
  unfold Impl.Argon2.argon2_at
  rw [H0_eq c params hc pwd salt key aad]
  simp only []
  rw [memory_new_eq c params hc g]
  simp only []
  rw [process_eq c params hc g _ c.T hT]
  rfl

/-- C11 (model level), FULL STATEMENT: for every parameter set and input in the RFC's domain and every code
    `Params` holding those parameters and the derived geometry, both entry points return the RFC 9106 tag — in
    particular they do not panic. -/
theorem argon2_eq_rfc (c : Spec.Argon2.Params) (pwd salt key aad : Bytes)
    (hv : Spec.Argon2.valid c pwd salt key aad = true) (params : Impl.Argon2.Params) (hc : Corr params c) :
    Impl.Argon2.argon2_at params pwd salt key aad c.T = some (Spec.Argon2.argon2 c pwd salt key aad) ∧
    Impl.Argon2.argon2 c.T params pwd salt key aad = some (Spec.Argon2.argon2 c pwd salt key aad) := by
  obtain ⟨hp, _, hT, _, hm, hm2, _⟩ := of_decide_eq_true hv
  have main := argon2_at_eq c params hc ⟨hp, hm, hm2⟩ (by omega) pwd salt key aad
  exact ⟨main, main⟩

/-- the domain guard is met by the parameter set of the RFC 9106 section 5 test vectors (Argon2id, v = 0x13, t = 3,
    m = 32, p = 4, T = 32, 32-byte password, 16-byte salt, 8-byte secret, 12-byte associated data) -/
example : Spec.Argon2.valid { y := .id, v := 0x13, t := 3, m := 32, p := 4, T := 32 }
    (List.replicate 32 1) (List.replicate 16 2) (List.replicate 8 3) (List.replicate 12 4) = true := by decide

/-- … and `Corr` by the `Params` the builder produces for it -/
example : Corr (builtParams .id 0x13 3 32 4) { y := .id, v := 0x13, t := 3, m := 32, p := 4, T := 32 } :=
  builder_corr .id 0x13 3 32 4 32 (by decide) (by decide)

/-- COROLLARY for the public API: for every type y, v ∈ {0x13, 0x10}, 1 ≤ t < 2^32, 1 ≤ p < 2^24, 8p ≤ m < 2^32,
    4 ≤ T < 2^32 and byte strings shorter than 2^32, the builder chain
    `Params::argon2{d,i,id}().memory_kb(m).iterations(t).parallelism(p).version(v)` returns `Ok(params)` without
    panic, and `argon2_at(&params, …)` with a T-byte tag buffer / `argon2::<T>(&params, …)` return the RFC 9106 tag. -/
theorem argon2_builder_eq_rfc (y : Ty) (v t m p T : Nat) (pwd salt key aad : Bytes)
    (hv : Spec.Argon2.valid { y := y, v := v, t := t, m := m, p := p, T := T } pwd salt key aad = true) :
    ∃ params, (Impl.Argon2.Params.def (tyOf y)).build v t m p = some (.ok params) ∧
      Impl.Argon2.argon2_at params pwd salt key aad T =
        some (Spec.Argon2.argon2 { y := y, v := v, t := t, m := m, p := p, T := T } pwd salt key aad) ∧
      Impl.Argon2.argon2 T params pwd salt key aad =
        some (Spec.Argon2.argon2 { y := y, v := v, t := t, m := m, p := p, T := T } pwd salt key aad) := by
  have hd := of_decide_eq_true hv
  simp only [] at hd
  obtain ⟨hp, hp2, _, _, hm, hm2, ht, _, hvv, _⟩ := hd
  exact ⟨builtParams y v t m p, builder_geometry y v t m p hvv ht hp hp2 hm2,
    argon2_eq_rfc { y := y, v := v, t := t, m := m, p := p, T := T } pwd salt key aad hv _
      (builder_corr y v t m p T hp hm)⟩

end Cx.Props.C11
