/-
  Props.C11.GlueTieArgon2 — the translator tie for src/kdf/argon2.rs ABOVE the compression core.

  `Extracted/GlueArgon2.lean` is regenerated from /repo/src/kdf/argon2.rs on every run by tools/ktx_glue_kdf.py (specs:
  tools/kernels/glue_argon2.py): a statement-by-statement translation of
      the `Params` builder (def, argon2d/argon2i/argon2id, memory_kb, parallelism, iterations, version and the u32 geometry of
      parallelism_override_memory), `Block::new`, `BitXorAssign`, `Memory` (stride, new, block_index, block_index64, the
      `&mut`-returning accessors mut_block_index / mut_block_at as getter + setter), `H0::new`, `hprime` (the `while bytes > 64`
      loop), `hprime_block_init` (the `for _ in 0..29` loop), `next_addresses`, `fill_segment` (the addressing predicate, the
      input block, the prologue, the block loop with the address refresh, the offsets, `with_xor`), `process` (first two blocks of
      every lane, the three nested loops, the final xor and H'), `argon2_at`, `argon2::<T>`.
  The compression core (`fill_block`) and `index_alpha` are used through the model's functions, which Props/C11/KernelTie.lean ties
  to the source; BLAKE2b through the context model of Impl/Blake2.lean (C02).  Constants (`SYNC_POINTS`, `BLOCK_SIZE_U64`) are
  re-read from the source.  The theorems below, re-checked by the kernel on every build, say that the hand model of
  Impl/Argon2.lean — about which C11 is proved (Props/C11/Argon2.lean, Argon2Full.lean) — computes exactly what the source says,
  for ALL parameter sets, memories and inputs.  u32/u64/usize arithmetic is the overflow-CHECKED one (`add32`, `mul64`, …:
  `none` = the panic of an overflow-checked build), as in the model.

  Abstractions (each explicit in the statement):
    * out-parameters: `hprime(output, …)`, `hprime_block_init(output, …)`, `argon2_at(…, tag)` write into the caller's buffer; the
      models take its LENGTH and start from zeros — the theorems hold for EVERY previous content (every byte is overwritten;
      Proofs/GlueArgon2Hash.lean: source and model both leave the RFC's H' in the buffer, whatever it held);
      `hprime_block_init` takes `&mut [u8; 1024]`: hypothesis `output.length = 1024`;
    * `memory.mut_block_at(lane, c).as_u8_mut()` as an out-parameter: the current block is read through the getter, its byte view
      (`Block.as_u8`, 1024 bytes) is handed to `hprime_block_init`, the result is written back through the setter; the getter
      succeeds exactly when the setter does (`mut_block_at_get_isSome`);
    * `fill_segment`'s loop carries `position` (its `index` is assigned in every iteration); the model keeps the segment's
      position and sets `index` locally — the loop theorem is stated for every carried `position` that agrees with the segment's
      position on pass / lane / slice;
    * `process` returns `(memory, out)` at source level (both are `&mut`), the model only `out`.
-/
import CxVerif.Proofs.GlueArgon2Process
namespace Cx.Props.C11.GlueTieArgon2
open Cx.Impl.Argon2 Cx.Extracted.GlueArgon2 Cx.Proofs.GlueArgon2
open Cx.Spec.Argon2 (Block)

theorem Params_def_src_eq_model (t : Type') : Params.def_src t = Params.def t := rfl
theorem Params_argon2d_src_eq_model : Params.argon2d_src = Params.argon2d := rfl
theorem Params_argon2i_src_eq_model : Params.argon2i_src = Params.argon2i := rfl
theorem Params_argon2id_src_eq_model : Params.argon2id_src = Params.argon2id := rfl

theorem parallelism_override_memory_src_eq_model (self : Params) :
    Params.parallelism_override_memory_src self = Params.parallelism_override_memory self :=
  parallelism_override_memory_src_eq self

theorem memory_kb_src_eq_model (self : Params) (memory_kb : Nat) : Params.memory_kb_src self memory_kb = self.memory_kb' memory_kb := by
  simp only [Params.memory_kb_src, Params.memory_kb', parallelism_override_memory_src_eq]
  rfl

theorem parallelism_src_eq_model (self : Params) (parallelism : Nat) :
    Params.parallelism_src self parallelism = self.parallelism' parallelism := by
  simp only [Params.parallelism_src, Params.parallelism', parallelism_override_memory_src_eq]
  rfl

theorem iterations_src_eq_model (self : Params) (iterations : Nat) :
    some (Params.iterations_src self iterations) = self.iterations' iterations := by
  simp only [Params.iterations_src, Params.iterations']
  split <;> rfl

theorem version_src_eq_model (self : Params) (version : Nat) : some (Params.version_src self version) = self.version' version := by
  simp only [Params.version_src, Params.version']
  split <;> rfl

theorem Block_new_src_eq_model : Block.new_src = Block.new := rfl
theorem Block_bitxor_assign_src_eq_model (a b : Block) : Block.bitxor_assign_src a b = Block.bitxor_assign a b := rfl
theorem Memory_stride_src_eq_model (m : Memory) : Memory.stride_src m = m.stride := rfl
theorem Memory_new_src_eq_model (params : Params) : Memory.new_src params = Memory.new params := memory_new_src_eq params
theorem Memory_block_index_src_eq_model (m : Memory) (i : Nat) : Memory.block_index_src m i = m.block_index i := rfl
theorem Memory_block_index64_src_eq_model (m : Memory) (i : Nat) : Memory.block_index64_src m i = m.block_index64 i := rfl
theorem Memory_mut_block_index_get_src_eq_model (m : Memory) (i : Nat) : Memory.mut_block_index_get_src m i = m.block_index i := rfl
theorem Memory_mut_block_index_set_src_eq_model (m : Memory) (i : Nat) (b : Block) :
    Memory.mut_block_index_set_src m i b = m.set_block_index i b := mut_block_index_set_src_eq m i b
theorem Memory_mut_block_at_set_src_eq_model (m : Memory) (row col : Nat) (b : Block) :
    Memory.mut_block_at_set_src m row col b = m.set_block_at row col b := mut_block_at_set_src_eq m row col b
theorem Memory_mut_block_at_get_defined (m : Memory) (row col : Nat) (b : Block) :
    (Memory.mut_block_at_get_src m row col).isSome = (m.set_block_at row col b).isSome := mut_block_at_get_isSome m row col b

theorem H0_new_src_eq_model (params : Params) (password salt key aad : Bytes) (tag_length : Nat) :
    H0.new_src params password salt key aad tag_length = H0.new params password salt key aad tag_length :=
  H0_new_src_eq params password salt key aad tag_length

/-- the `while bytes > 64` loop of `hprime` (state components permuted), for every buffer and loop state -/
theorem hprime_loop_src_eq_model (fuel : Nat) (output : Bytes) (bytes pos : Nat) (v : Bytes) (hf : bytes ≤ fuel) :
    (hprime_loop1_src (fuel + 1) output bytes pos v).map (fun r => (r.1, r.2.2.2, r.2.1, r.2.2.1)) = hprime_loop fuel output v bytes pos :=
  hprime_loop1_eq fuel output bytes pos v hf

/-- running out of fuel is a FAILURE of the generated loop, never a success value -/
theorem hprime_loop_src_fuel_exhausted (output : Bytes) (bytes pos : Nat) (v : Bytes) :
    hprime_loop1_src 0 output bytes pos v = none := rfl

theorem hprime_src_eq_model (output input : Bytes) : hprime_src output input = hprime output.length input :=
  hprime_src_eq output input

/-- the `for _ in 0..29` loop of `hprime_block_init` on a 1024-byte buffer -/
theorem hprime_block_init_loop_src_eq_model (cnt : Nat) (output : Bytes) (pos : Nat) (v : Bytes) (h : output.length = 1024) :
    (hprime_block_init_loop1_src cnt output pos v).map (fun r => (r.1, r.2.2, r.2.1)) = hprime_block_init_loop cnt output v pos :=
  hprime_block_init_loop1_eq cnt output pos v h

theorem hprime_block_init_src_eq_model (output h0 : Bytes) (col lane : Nat) (h : output.length = 1024) :
    hprime_block_init_src output h0 col lane = hprime_block_init h0 col lane := hprime_block_init_src_eq output h0 col lane h

example : (zeros 1024).length = 1024 := Cx.Proofs.Bytes.zeros_length 1024

theorem next_addresses_src_eq_model (address_block input_block zero_block : Block) :
    next_addresses_src address_block input_block zero_block = next_addresses address_block input_block zero_block :=
  next_addresses_src_eq address_block input_block zero_block

/-- one iteration of `for i in starting_index..params.segment_length`: rotation of `prev_offset`, the pseudo-random word (address
    block refreshed when `i % 128 == 0`, or word 0 of the previous block), the reference lane, `index_alpha`, the three block
    reads, `with_xor`, `fill_block`, the write, the two offsets -/
theorem fill_segment_step_src_eq_model (params : Params) (pos0 position : BlockPos) (dia : Bool) (zb : Block) (i : Nat)
    (rest : List Nat) (mem : Memory) (ib ab : Block) (co po : Nat) (h1 : position.pass = pos0.pass) (h2 : position.lane = pos0.lane)
    (h3 : position.slice = pos0.slice) :
    fill_segment_loop1_src params dia zb (i :: rest) position mem ib ab co po =
      match fill_segment_body params pos0 dia zb ⟨mem, ib, ab, co, po⟩ i with
      | none => none
      | some st => fill_segment_loop1_src params dia zb rest { position with index := i } st.memory st.input_block st.address_block
          st.curr_offset st.prev_offset :=
  fill_segment_step params pos0 position dia zb i rest mem ib ab co po h1 h2 h3

theorem fill_segment_loop_src_eq_model (params : Params) (pos0 : BlockPos) (dia : Bool) (zb : Block) (is : List Nat)
    (position : BlockPos) (mem : Memory) (ib ab : Block) (co po : Nat) (h1 : position.pass = pos0.pass)
    (h2 : position.lane = pos0.lane) (h3 : position.slice = pos0.slice) :
    (fill_segment_loop1_src params dia zb is position mem ib ab co po).map (fun r => r.2.1)
      = (fill_segment_loop params pos0 dia zb is ⟨mem, ib, ab, co, po⟩).map (fun st => st.memory) :=
  fill_segment_loop1_eq params pos0 dia zb is position mem ib ab co po h1 h2 h3

/-- the addressing predicate as the source writes it (`a || (b && c) && d`) -/
theorem data_independent_addressing_src_eq_model (params : Params) (position : BlockPos) :
    decide ((params.hash_type = Type'.Argon2i) ∨ (((params.hash_type = Type'.Argon2id) ∧ (position.pass = 0)) ∧ (position.slice < 2)))
      = data_independent_addressing params position := dia_src_eq params position

theorem fill_segment_src_eq_model (params : Params) (position : BlockPos) (memory : Memory) :
    fill_segment_src params position memory = fill_segment params position memory := fill_segment_src_eq params position memory

theorem process_init_src_eq_model (h0 : Bytes) (lanes : List Nat) (memory : Memory) :
    process_loop1_src h0 lanes memory = process_init h0 lanes memory := process_loop1_eq h0 lanes memory

/-- the three nested loops `for pass { for slice { for lane { fill_segment } } }` = the model's fold over `process_positions` -/
theorem process_fill_src_eq_model (params : Params) (memory : Memory) :
    process_loop2_src params (List.range params.iterations) memory = process_fill params (process_positions params) memory := by
  rw [process_loop2_eq]; rfl

theorem process_final_src_eq_model (memory : Memory) (ls : List Nat) (blockhash : Block) :
    process_loop5_src memory ls blockhash = process_final memory ls blockhash := process_loop5_eq memory ls blockhash

theorem process_src_eq_model (params : Params) (h0 : Bytes) (memory : Memory) (out : Bytes) :
    (process_src params h0 memory out).map (·.2) = process params h0 memory out.length := process_src_eq params h0 memory out

theorem argon2_at_src_eq_model (params : Params) (password salt key aad tag : Bytes) :
    argon2_at_src params password salt key aad tag = argon2_at params password salt key aad tag.length := by
  unfold argon2_at_src argon2_at
  rw [H0_new_src_eq, memory_new_src_eq]
  cases H0.new params password salt key aad (tag.length % 2 ^ 32) with
  | none => rfl
  | some h0 =>
    cases Memory.new params with
    | none => rfl
    | some memory =>
      dsimp only
      rw [← process_src_eq]
      cases process_src params h0 memory tag with
      | none => rfl
      | some r => obtain ⟨m, t⟩ := r; rfl

theorem argon2_src_eq_model (T : Nat) (params : Params) (password salt key aad : Bytes) :
    argon2_src T params password salt key aad = argon2 T params password salt key aad := by
  -- `argon2::<T>` is `argon2_at` on a fresh `T`-byte tag, in the source as in the model
  have e : argon2_src T params password salt key aad = argon2_at_src params password salt key aad (zeros T) := by
    unfold argon2_src argon2_at_src
    rw [Cx.Proofs.Bytes.zeros_length]
  rw [e, argon2_at_src_eq_model, Cx.Proofs.Bytes.zeros_length]
  rfl

end Cx.Props.C11.GlueTieArgon2
