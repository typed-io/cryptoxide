/-
  Props.C11.KernelTie — the translator tie for the Argon2 compression core (src/kdf/argon2.rs).
  `Extracted/KernelsArgon2.lean` is regenerated from the CURRENT Rust source on every run by tools/ktx_misc.py
  (kernel specs tools/kernels/argon2.py): `add_and_mul`, `gb`, the permutation `p`, the bodies of the two
  `for i in 0..8` loops of `fill_block` (row-wise / column-wise index patterns), `fill_block` itself, and the index
  arithmetic of `index_alpha` (u32 / u64, every checked operation a bind), translated statement by statement.
  The theorems say that the hand-written models `Impl.Argon2.*` compute exactly what the source says, for ALL inputs: a changed
  rotation, mask, word index or loop stride in the source breaks a proof obligation.
-/
import CxVerif.Extracted.KernelsArgon2
import CxVerif.Proofs.BindWalk
namespace Cx.Props.C11.KernelTie
open Cx Cx.Impl.Argon2 Cx.Extracted.KernelsArgon2
open Cx.Spec.Argon2 (Block)
open Cx.Proofs.BindWalk (bcongr)

theorem add_and_mul_src_eq_model (x y : UInt64) : add_and_mul_src x y = add_and_mul x y := rfl
theorem gb_src_eq_model (a b c d : UInt64) : gb_src a b c d = gb a b c d := rfl
theorem p_src_eq_model (v : V16) : p_src v = p v := by
  unfold p_src p
  rw [show gb_src = gb from rfl]
theorem fill_block_row_src_eq_model (block_r : Block) (i : Fin 8) : fill_block_row_src block_r i = fill_block_row block_r i := by
  unfold fill_block_row_src fill_block_row
  rw [show p_src = p from funext p_src_eq_model]
theorem fill_block_col_src_eq_model (block_r : Block) (i : Fin 8) : fill_block_col_src block_r i = fill_block_col block_r i := by
  unfold fill_block_col_src fill_block_col
  rw [show p_src = p from funext p_src_eq_model]
theorem fill_block_src_eq_model (prev_block ref_block next_block : Block) (with_xor : Bool) :
    fill_block_src prev_block ref_block next_block with_xor = fill_block prev_block ref_block next_block with_xor := by
  have hr : fill_block_row_src = fill_block_row := funext fun b => funext fun i => fill_block_row_src_eq_model b i
  have hc : fill_block_col_src = fill_block_col := funext fun b => funext fun i => fill_block_col_src_eq_model b i
  unfold fill_block_src fill_block
  rw [hr, hc]
  cases with_xor <;> rfl

/-! ### `index_alpha` (RFC 9106 3.4.2): reference area size, the u64 mapping, start position, absolute position.
The translation branches where the source branches (7 × 3 cases, the continuation duplicated) and keeps the Rust evaluation
order (`reference_area_size - 1` BEFORE `reference_area_size * relative_position`); the model computes the two `if`
blocks first and has the product before the subtraction.  Both are programs in the Option monad: binding distributes
over `if` (`ite_bind`), which brings the source to the form "reference area size, then `rest_src`", and the order of two
independent checked operations is immaterial (`Option.bind_comm`). -/
private theorem ite_bind {α β : Type} {c : Prop} [Decidable c] {a b : Option β} {a' b' : Option α} {f : α → Option β}
    (ha : a = a'.bind f) (hb : b = b'.bind f) : (if c then a else b) = (if c then a' else b').bind f := by
  split <;> assumption

/-- what follows the `reference_area_size` block in each of the seven branches of the source, in the order of the source -/
private def rest_src (params : Params) (position : BlockPos) (pseudo_rand reference_area_size : Nat) : Option Nat := do
  let t1 ← mul64 pseudo_rand pseudo_rand
  let relative_position := t1 >>> 32
  let t2 ← subU reference_area_size 1
  let t3 ← mul64 reference_area_size relative_position
  let relative_position ← subU t2 (t3 >>> 32)
  if position.pass ≠ 0 then
    if position.slice = 3 then
      let t5 ← remU (← add64 0 relative_position) params.lane_length
      pure (t5 % 2 ^ 32)
    else
      let start_position ← mul32 (← add32 position.slice 1) params.segment_length
      let t8 ← remU (← add64 start_position relative_position) params.lane_length
      pure (t8 % 2 ^ 32)
  else
    let t10 ← remU (← add64 0 relative_position) params.lane_length
    pure (t10 % 2 ^ 32)

private theorem index_alpha_src_shape (params : Params) (position : BlockPos) (pseudo_rand : Nat) (same_lane : Bool) :
    index_alpha_src params position pseudo_rand same_lane =
      (index_alpha.reference_area_size params position same_lane).bind (rest_src params position pseudo_rand) := by
  unfold index_alpha_src index_alpha.reference_area_size
  refine ite_bind (ite_bind rfl (ite_bind ?_ (ite_bind ?_ rfl))) (ite_bind ?_ (ite_bind ?_ rfl))
  all_goals simp only [Option.bind_eq_bind, Option.bind_assoc]; rfl

theorem index_alpha_src_eq_model (params : Params) (position : BlockPos) (pseudo_rand : Nat) (same_lane : Bool) :
    index_alpha_src params position pseudo_rand same_lane = index_alpha params position pseudo_rand same_lane := by
  rw [index_alpha_src_shape]
  unfold index_alpha
  refine bcongr _ _ _ _ rfl fun reference_area_size => ?_
  unfold rest_src
  refine bcongr _ _ _ _ rfl fun t1 => ?_
  refine (Option.bind_comm _ _).trans ?_
  refine bcongr _ _ _ _ rfl fun t3 => bcongr _ _ _ _ rfl fun t2 => bcongr _ _ _ _ rfl fun relative_position => ?_
  -- `SYNC_POINTS` is re-read from the source by the translator (constant-folded to 3)
  unfold index_alpha.start_position
  exact ite_bind (ite_bind rfl (Option.bind_assoc ..).symm) rfl

end Cx.Props.C11.KernelTie
