/-
  Props.C12.Final — the Diffie–Hellman symmetry clause of C12 with NO remaining hypothesis.
  Props/C12/Symmetry.lean proves `LadderComm` from the group law of the Montgomery curve (Mathlib's Weierstrass group on
  v² = u³ + 486662u² + u) under `[Fact (Nat.Prime p)]`; `Cx.Proofs.Prime25519` proves that 2^255 − 19 is prime.
-/
import CxVerif.Props.C12.Symmetry
import CxVerif.Proofs.Prime25519Inst
namespace Cx.Props.C12
open Cx.Spec

/-- the ladder commutes: the hypothesis of `exchange_symmetric_partial`, as a theorem -/
theorem ladder_commutes : LadderComm := ladderComm

/-- **C12 (both parties derive the same secret)**, Spec level, for ALL byte strings a, b (no length hypothesis):
    X25519(a, X25519(b, 9)) = X25519(b, X25519(a, 9)) -/
theorem x25519_symmetric_unconditional (a b : Bytes) :
    X25519.x25519 a (X25519.x25519Base b) = X25519.x25519 b (X25519.x25519Base a) :=
  x25519_symmetric a b

/-- **C12 (both parties derive the same secret)**, code-shaped model: the instantiated `exchange_symmetric_partial` -/
theorem exchange_symmetric_final (a b : Bytes) (ha : a.length = 32) (hb : b.length = 32) :
    ∃ pa pb ha' hb', Impl.X25519.curve25519_base a ha = some pa ∧ Impl.X25519.curve25519_base b hb = some pb ∧
      Impl.X25519.curve25519 a pb ha hb' = Impl.X25519.curve25519 b pa hb ha' :=
  exchange_symmetric a b ha hb

/-- the same through the wrapper API `base` / `dh` -/
theorem dh_symmetric_final (a b : Bytes) (ha : a.length = 32) (hb : b.length = 32) :
    ∃ pa pb ha' hb', Impl.X25519.base a ha = some pa ∧ Impl.X25519.base b hb = some pb ∧
      Impl.X25519.dh a pb ha hb' = Impl.X25519.dh b pa hb ha' :=
  dh_symmetric a b ha hb

end Cx.Props.C12
