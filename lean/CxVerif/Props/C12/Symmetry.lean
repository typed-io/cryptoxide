/-
  Props.C12.Symmetry — Diffie–Hellman symmetry of X25519, the last clause of C12, with the curve fact
  `LadderComm` of Props/C12/X25519.lean PROVED (Proofs/Montgomery{Curve,XArith,Ladder}.lean):
  the RFC 7748 ladder computes x([k mod 2^255]·Q) for every point Q of Curve25519
  (v² = u³ + 486662u² + u over GF(2^255 − 19), Mathlib's Weierstrass group law), every degenerate case
  included (infinity, the 2-torsion point (0,0), P' = ±P), and scalar multiplication commutes.
  Only assumption: primality of p = 2^255 − 19, as an instance argument (`Fact (Nat.Prime p)`, delivered
  by Proofs/Prime25519.lean).
-/
import CxVerif.Props.C12.X25519
import CxVerif.Proofs.MontgomeryLadder
namespace Cx.Props.C12
open Cx.Spec Cx.Impl.X25519
open Cx.Spec.Field25519 (p)

/-- the curve fact that `exchange_symmetric_partial` assumes: `X(a, X(b, 9)) = X(b, X(a, 9))` for the RFC
    function — here for ALL byte strings (the length hypotheses of `LadderComm` are not even needed) -/
theorem ladderComm [Fact (Nat.Prime p)] : LadderComm :=
  fun a b _ _ => Cx.Proofs.Montgomery.x25519_comm a b

theorem x25519_symmetric [Fact (Nat.Prime p)] (a b : Bytes) :
    X25519.x25519 a (X25519.x25519Base b) = X25519.x25519 b (X25519.x25519Base a) :=
  Cx.Proofs.Montgomery.x25519_comm a b

/-- **C12, key agreement.** For all 32-byte private keys `a`, `b`: the code computes both public keys
    (`curve25519_base`, no overflow), and `curve25519(a, pub_b) = curve25519(b, pub_a)` — both parties
    derive the same shared secret (in particular neither call overflows). -/
theorem exchange_symmetric [Fact (Nat.Prime p)] (a b : Bytes) (ha : a.length = 32) (hb : b.length = 32) :
    ∃ pa pb ha' hb', curve25519_base a ha = some pa ∧ curve25519_base b hb = some pb ∧
      curve25519 a pb ha hb' = curve25519 b pa hb ha' :=
  exchange_symmetric_partial ladderComm a b ha hb

/-- the same through the wrapper API of x25519.rs (`base`, `dh`) -/
theorem dh_symmetric [Fact (Nat.Prime p)] (a b : Bytes) (ha : a.length = 32) (hb : b.length = 32) :
    ∃ pa pb ha' hb', base a ha = some pa ∧ base b hb = some pb ∧
      dh a pb ha hb' = dh b pa hb ha' :=
  exchange_symmetric a b ha hb

/-- what the function computes (the reason for the symmetry): for every point `Q` of Curve25519 whose
    x-coordinate is the decoded `u` (`Q` may be the point at infinity or `(0,0)` for `u ≡ 0`), the output
    decodes to the x-coordinate of `[k]Q`, `k` the clamped scalar (`0` encodes the point at infinity) -/
theorem x25519_scalar_mult [Fact (Nat.Prime p)] (n u : Bytes) (Q : Cx.Proofs.Montgomery.Pt)
    (hQ : ((X25519.decodeUCoordinate u : Nat) : Cx.Proofs.EdField.Fp) = Cx.Proofs.Montgomery.xenc Q) :
    ((X25519.decodeUCoordinate (X25519.x25519 n u) : Nat) : Cx.Proofs.EdField.Fp)
      = Cx.Proofs.Montgomery.xenc ((X25519.decodeScalar25519 n % 2 ^ 255) • Q) := by
  unfold X25519.x25519
  rw [Cx.Proofs.Montgomery.decode_encode, Cx.Proofs.EdField.cast_mod]
  exact Cx.Proofs.Montgomery.ladder_eq Q _ _ hQ

/-- RFC 7748 §6.1 (Alice `a`, Bob `b`, shared secret `K`), evaluated through the Spec in both orders -/
example :
    let a : Bytes := [0x77, 0x07, 0x6d, 0x0a, 0x73, 0x18, 0xa5, 0x7d, 0x3c, 0x16, 0xc1, 0x72, 0x51, 0xb2, 0x66, 0x45,
     0xdf, 0x4c, 0x2f, 0x87, 0xeb, 0xc0, 0x99, 0x2a, 0xb1, 0x77, 0xfb, 0xa5, 0x1d, 0xb9, 0x2c, 0x2a]
    let b : Bytes := [0x5d, 0xab, 0x08, 0x7e, 0x62, 0x4a, 0x8a, 0x4b, 0x79, 0xe1, 0x7f, 0x8b, 0x83, 0x80, 0x0e, 0xe6,
     0x6f, 0x3b, 0xb1, 0x29, 0x26, 0x18, 0xb6, 0xfd, 0x1c, 0x2f, 0x8b, 0x27, 0xff, 0x88, 0xe0, 0xeb]
    let K : Bytes := [0x4a, 0x5d, 0x9d, 0x5b, 0xa4, 0xce, 0x2d, 0xe1, 0x72, 0x8e, 0x3b, 0xf4, 0x80, 0x35, 0x0f, 0x25,
     0xe0, 0x7e, 0x21, 0xc9, 0x47, 0xd1, 0x9e, 0x33, 0x76, 0xf0, 0x9b, 0x3c, 0x1e, 0x16, 0x17, 0x42]
    X25519.x25519 a (X25519.x25519Base b) = K ∧ X25519.x25519 b (X25519.x25519Base a) = K := by
  decide +kernel

/-- non-vacuity of the hypotheses -/
example : (List.replicate 32 (0xff : UInt8)).length = 32 := by decide

end Cx.Props.C12
