/-
  Props.C12.X25519 — X25519 of /repo (64-bit backend) equals the RFC 7748 function, for EVERY 32-byte
  scalar and EVERY 32-byte u-coordinate (non-canonical, bit 255 set, zero, small order: no case split
  exists in code or proof).

  Model: Impl.X25519 (code-shaped, checked u64/u128 arithmetic, `none` = overflow panic).
  Spec:  Spec.X25519 (RFC 7748 §5 on Nat mod p, a24 = 121665, cswap, x_2 · z_2^(p−2)).
-/
import CxVerif.Proofs.X25519Ladder
namespace Cx.Props.C12
open Cx.Spec Cx.Impl.X25519 Cx.Proofs.Fe64 Cx.Proofs.X25519

/-- `mul_small::<121666>` in both ladders is `a24 + 1`, `mul_small::<9>` is the base point -/
theorem extracted_a24 : A24P1 = X25519.a24 + 1 ∧ A24P1_BASE = X25519.a24 + 1 ∧ NINE = 9 := by decide
/-- `const BASE` is the RFC's base point `u = 9` -/
theorem extracted_BASE : BASE = X25519.basePoint := by decide

/-- **C12 main theorem.** For all 32-byte `n`, `p`: `curve25519(n, p)` does not overflow (`some`) and
    returns exactly `X25519(n, p)` of RFC 7748 (clamping, masking of bit 255 of `u`, reduction of
    non-canonical `u`, 255 ladder steps with conditional swaps, final swap, inversion, canonical encoding). -/
theorem curve25519_eq_x25519 (n u : Bytes) (hn : n.length = 32) (hu : u.length = 32) :
    curve25519 n u hn hu = some (X25519.x25519 n u) := by
  unfold curve25519
  simp only []
  have hz : Z5Ok (.mulX1 (Impl.Fe64.from_bytes u hu)) (eval (Impl.Fe64.from_bytes u hu)) :=
    ⟨from_bytes_tight u hu, rfl⟩
  rw [A24P1_eq, ladderMain_spec n hn _ (from_bytes_tight u hu) _ hz, from_bytes_eval]
  rfl

/-- the fixed-base function (its own copy of the ladder, `z5 = t2.mul_small::<9>()`) is X25519(n, 9) -/
theorem curve25519_base_eq_x25519 (n : Bytes) (hn : n.length = 32) :
    curve25519_base n hn = some (X25519.x25519Base n) := by
  unfold curve25519_base
  simp only []
  have h9 : eval (Impl.Fe64.from_bytes BASE BASE_length) = 9 := by
    rw [from_bytes_eval]; decide
  have hz : Z5Ok (.small 9) (eval (Impl.Fe64.from_bytes BASE BASE_length)) := ⟨by decide, h9⟩
  rw [A24P1_BASE_eq, NINE_eq, ladderMain_spec n hn _ (from_bytes_tight BASE BASE_length) _ hz, h9]
  unfold X25519.x25519Base X25519.x25519 X25519.decodeUCoordinate
  have : Field25519.decode X25519.basePoint = 9 := by decide
  rw [this]

theorem curve25519_base_eq_curve25519 (n : Bytes) (hn : n.length = 32) :
    curve25519_base n hn = curve25519 n BASE hn BASE_length := by
  rw [curve25519_base_eq_x25519, curve25519_eq_x25519, extracted_BASE]; rfl

/-- the wrapper API of x25519.rs -/
theorem dh_eq_x25519 (n u : Bytes) (hn : n.length = 32) (hu : u.length = 32) :
    dh n u hn hu = some (X25519.x25519 n u) := curve25519_eq_x25519 n u hn hu
theorem base_eq_x25519 (n : Bytes) (hn : n.length = 32) :
    base n hn = some (X25519.x25519Base n) := curve25519_base_eq_x25519 n hn

/-- no `u64`/`u128` overflow anywhere in `curve25519` / `curve25519_base` (C20, overflow part):
    the checked model never answers `none` -/
theorem curve25519_no_overflow (n u : Bytes) (hn : n.length = 32) (hu : u.length = 32) :
    (curve25519 n u hn hu).isSome ∧ (curve25519_base n hn).isSome := by
  rw [curve25519_eq_x25519, curve25519_base_eq_x25519]; exact ⟨rfl, rfl⟩

theorem x25519_length (n u : Bytes) : (X25519.x25519 n u).length = 32 := Proofs.Bytes.natToLE_length 32 _
theorem x25519Base_length (n : Bytes) : (X25519.x25519Base n).length = 32 := Proofs.Bytes.natToLE_length 32 _

/-! ## both parties derive the same secret

  `X(a, X(b, 9)) = X(b, X(a, 9))` is a fact about the Montgomery curve (commutativity of scalar
  multiplication on x-coordinates), not about this code.  It is stated for the CODE as a corollary of
  the refinement under the explicit hypothesis `LadderComm` that the RFC function has it; Props/C12/Symmetry.lean
  proves the hypothesis, and the correspondence run samples it (`x25519.sym`). -/

def LadderComm : Prop :=
  ∀ a b : Bytes, a.length = 32 → b.length = 32 →
    X25519.x25519 a (X25519.x25519Base b) = X25519.x25519 b (X25519.x25519Base a)

theorem exchange_symmetric_partial (hC : LadderComm) (a b : Bytes) (ha : a.length = 32) (hb : b.length = 32) :
    ∃ pa pb ha' hb', curve25519_base a ha = some pa ∧ curve25519_base b hb = some pb ∧
      curve25519 a pb ha hb' = curve25519 b pa hb ha' := by
  refine ⟨X25519.x25519Base a, X25519.x25519Base b, x25519Base_length _, x25519Base_length _,
    curve25519_base_eq_x25519 a ha, curve25519_base_eq_x25519 b hb, ?_⟩
  rw [curve25519_eq_x25519, curve25519_eq_x25519, hC a b ha hb]

/-- RFC 7748 §5.2 first vector, evaluated through the Spec -/
example : X25519.x25519
    [0xa5, 0x46, 0xe3, 0x6b, 0xf0, 0x52, 0x7c, 0x9d, 0x3b, 0x16, 0x15, 0x4b, 0x82, 0x46, 0x5e, 0xdd,
     0x62, 0x14, 0x4c, 0x0a, 0xc1, 0xfc, 0x5a, 0x18, 0x50, 0x6a, 0x22, 0x44, 0xba, 0x44, 0x9a, 0xc4]
    [0xe6, 0xdb, 0x68, 0x67, 0x58, 0x30, 0x30, 0xdb, 0x35, 0x94, 0xc1, 0xa4, 0x24, 0xb1, 0x5f, 0x7c,
     0x72, 0x66, 0x24, 0xec, 0x26, 0xb3, 0x35, 0x3b, 0x10, 0xa9, 0x03, 0xa6, 0xd0, 0xab, 0x1c, 0x4c]
  = [0xc3, 0xda, 0x55, 0x37, 0x9d, 0xe9, 0xc6, 0x90, 0x8e, 0x94, 0xea, 0x4d, 0xf2, 0x8d, 0x08, 0x4f,
     0x32, 0xec, 0xcf, 0x03, 0x49, 0x1c, 0x71, 0xf7, 0x54, 0xb4, 0x07, 0x55, 0x77, 0xa2, 0x85, 0x52] := by
  decide +kernel

/-- non-vacuity of the hypotheses `n.length = 32`, `u.length = 32` -/
example : (List.replicate 32 (0xff : UInt8)).length = 32 := by decide

end Cx.Props.C12
