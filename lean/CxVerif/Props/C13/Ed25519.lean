/-
  Props.C13.Ed25519 — C13: Ed25519 key generation and signing of /repo/src/ed25519.rs (model Impl/Ed25519.lean,
  built on the models of SHA-512, Scalar, Fe, Ge) equal RFC 8032 §5.1.5 / §5.1.6 (Spec/Ed25519.lean), for EVERY
  32-byte seed and EVERY message shorter than 2^124 bytes (SHA-512's own domain guard, with room for the prefixes).

  Explicit hypotheses (never axioms):
    `[Fact (Nat.Prime p)]`  primality of 2^255 − 19
    `G : EdwardsGroupLaw`   closure + associativity of the affine Edwards addition (needed to show comb = [a]B)
  (The scalar layer enters through `ScalarFacts`, which is a THEOREM: Proofs/Ed25519Inst.lean instantiates it from
  the scalar64 theorems on from_bytes/reduce_from_wide_bytes/muladd/to_bytes/nibbles.)
  Every theorem that uses `G` is named `_partial`; `exchange` needs neither hypothesis and is unconditional.
-/
import CxVerif.Proofs.Ed25519Exchange
import CxVerif.Props.C12.X25519
import CxVerif.Proofs.Ed25519Inst
namespace Cx.Props.C13
open Cx.Impl.Ed25519 Cx.Proofs.EdSpec Cx.Proofs.Ed25519Sign
open Cx.Spec.Field25519 (p)

section partials
variable [hp : Fact (Nat.Prime p)] (G : EdwardsGroupLaw)
include G

local notation "SF" => Proofs.Ed25519Inst.scalarFacts

/-- FULL STATEMENT: `keypair seed = (seed ‖ ENC([s]B), ENC([s]B))` with `s` the pruned SHA-512 half (§5.1.5).
    PROVED under `Nat.Prime p` and `EdwardsGroupLaw`. -/
theorem keypair_is_rfc8032_partial (seed : Bytes) (hs : seed.length = 32) :
    keypair seed = some (Spec.Ed25519.keypair seed) :=
  haveI : Proofs.GeComb.GroupLawFact := ⟨G⟩
  keypair_text ▸ Proofs.Ed25519G.keypair_eq Proofs.GeComb.baseTable (scalarSpec SF) seed hs

/-- FULL STATEMENT: `signature(M, keypair(seed).0) = R ‖ S` of §5.1.6 for every seed and message.
    PROVED under the same two hypotheses. -/
theorem signature_is_rfc8032_partial (seed msg : Bytes) (hs : seed.length = 32) (hm : msg.length < 2 ^ 124) :
    signature msg (Spec.Ed25519.keypair seed).1 = some (Spec.Ed25519.sign seed msg) :=
  haveI : Proofs.GeComb.GroupLawFact := ⟨G⟩
  signature_text ▸ Proofs.Ed25519G.signature_eq Proofs.GeComb.baseTable (scalarSpec SF) msg seed
    (Spec.Ed25519.publicKey seed) hs (encode_length _) hm

/-- the two steps as the user runs them: `keypair` then `signature` -/
theorem keypair_then_signature_partial (seed msg : Bytes) (hs : seed.length = 32) (hm : msg.length < 2 ^ 124) :
    (keypair seed).bind (fun kp => signature msg kp.1) = some (Spec.Ed25519.sign seed msg) := by
  rw [keypair_is_rfc8032_partial G seed hs, Option.bind_some]
  exact signature_is_rfc8032_partial G seed msg hs hm

/-- `signature` takes the public half of the keypair as given (it is hashed, not recomputed) -/
theorem signature_with_any_public_half_partial (seed pk msg : Bytes) (hs : seed.length = 32) (hpk : pk.length = 32)
    (hm : msg.length < 2 ^ 124) :
    signature msg (seed ++ pk) = some (Spec.Ed25519.signWith (Spec.Ed25519.secretScalar seed)
      (Spec.Ed25519.noncePrefix seed) pk msg) :=
  haveI : Proofs.GeComb.GroupLawFact := ⟨G⟩
  signature_text ▸ Proofs.Ed25519G.signature_eq Proofs.GeComb.baseTable (scalarSpec SF) msg seed pk hs hpk hm

/-- `extended_to_public` for an extended secret whose scalar half is below 2^255 (the documented range) -/
theorem extended_to_public_is_spec_partial (ext : Bytes) (hl : ext.length = 64) (hlt : leNat (ext.take 32) < 2 ^ 255) :
    extended_to_public ext = some (Spec.Ed25519.extendedToPublic ext) :=
  haveI : Proofs.GeComb.GroupLawFact := ⟨G⟩
  extended_to_public_text ▸ Proofs.Ed25519G.extended_to_public_eq Proofs.GeComb.baseTable (scalarSpec SF) ext hl hlt

theorem signature_extended_is_spec_partial (msg ext : Bytes) (hl : ext.length = 64)
    (hlt : leNat (ext.take 32) < 2 ^ 255) (hm : msg.length < 2 ^ 124) :
    signature_extended msg ext = some (Spec.Ed25519.signExtended ext msg) :=
  haveI : Proofs.GeComb.GroupLawFact := ⟨G⟩
  signature_extended_text ▸ Proofs.Ed25519G.signature_extended_eq Proofs.GeComb.baseTable (scalarSpec SF) msg ext hl hlt hm

/-- signing with the extended secret of a seed gives the signature of the seed:
    `signature_extended(M, extended_secret(seed)) = signature(M, keypair(seed).0)` -/
theorem signature_extended_of_expanded_seed_partial (seed msg : Bytes) (hs : seed.length = 32)
    (hm : msg.length < 2 ^ 124) :
    (extended_secret seed).bind (fun ext => signature_extended msg ext)
      = signature msg (Spec.Ed25519.keypair seed).1 := by
  rw [extended_secret_eq seed hs, Option.bind_some, signature_is_rfc8032_partial G seed msg hs hm]
  rw [signature_extended_is_spec_partial G msg _ (expandSeed_length seed) (expandSeed_lt seed) hm]
  unfold Spec.Ed25519.signExtended Spec.Ed25519.sign Spec.Ed25519.extendedToPublic Spec.Ed25519.publicKey
    Spec.Ed25519.secretScalar Spec.Ed25519.noncePrefix
  rw [expandSeed_take, expandSeed_drop]

/-- the public key of the extended secret of a seed is the seed's public key -/
theorem extended_to_public_of_expanded_seed_partial (seed : Bytes) (hs : seed.length = 32) :
    (extended_secret seed).bind extended_to_public = some (Spec.Ed25519.publicKey seed) := by
  rw [extended_secret_eq seed hs, Option.bind_some,
    extended_to_public_is_spec_partial G _ (expandSeed_length seed) (expandSeed_lt seed), extendedToPublic_expandSeed]

end partials

/-- the secret expansion: SHA-512, low half pruned (§5.1.5 steps 1–2), for every 32-byte seed -/
theorem extended_secret_is_pruned_hash (seed : Bytes) (hs : seed.length = 32) :
    extended_secret seed = some (Spec.Ed25519.expandSeed seed) := extended_secret_eq seed hs

open Cx.Proofs.Ed25519Exchange in
/-- `exchange(pk, seed)` = X25519(pruned hashed secret, (1+y)/(1−y)) for EVERY 32-byte `pk` (any y, also
    non-canonical, y = 1 where 1/(1−y) is taken as 0) and every 32-byte seed — no hypotheses -/
theorem exchange_is_x25519_of_mapped_key (pk seed : Bytes) (hpk : pk.length = 32) (hs : seed.length = 32) :
    exchange pk seed = some (Spec.Ed25519.exchange pk seed) := by
  rw [exchange_text]
  exact Proofs.Ed25519G.exchange_eq Proofs.GeRefine.spec64
    (by rw [curve25519_field]; exact Cx.Props.C12.curve25519_eq_x25519) pk seed hpk hs

/-- the pruned scalar is in the documented range of `scalarmult_base` -/
theorem pruned_scalar_lt_2_255 (h : Bytes) (hl : h.length = 32) : leNat (Spec.Ed25519.clamp h) < 2 ^ 255 :=
  clamp_lt h hl

/-! ### non-vacuity -/
example : (List.replicate 32 (7 : UInt8)).length = 32 ∧ (List.replicate 300 (1 : UInt8)).length < 2 ^ 124 := by
  simp only [List.length_replicate]; decide

end Cx.Props.C13
