/-
  Props.C13.Final — C13 with NO remaining hypothesis: Ed25519 key generation and signing of the code-shaped model equal
  RFC 8032, for every seed and every message below 2^124 bytes.

  The `_partial` theorems of Props/C13/Ed25519.lean take `[Fact (Nat.Prime p)]` and `G : EdwardsGroupLaw` as explicit
  hypotheses.  Both are THEOREMS of this development:
    * `Cx.Proofs.Prime25519.prime_p`   — 2^255 − 19 is prime (Pratt certificate, Lucas test, kernel-evaluated `powMod`);
    * `Cx.Proofs.EdGroup.edwardsGroupLaw` — the curve is closed under the affine addition law and the law is associative
      (polynomial identities with explicit cofactors, checked by `linear_combination`; completeness from d non-square).
  Here they are plugged in.  Nothing else is assumed (`#print axioms`: propext, Classical.choice, Quot.sound).
-/
import CxVerif.Props.C13.Ed25519
import CxVerif.Proofs.Prime25519Inst
import CxVerif.Proofs.EdwardsGroupLaw
namespace Cx.Props.C13
open Cx.Impl.Ed25519
open Cx.Proofs.EdGroup (edwardsGroupLaw)

/-- **C13 (keypair)**: `keypair seed = (seed ‖ ENC([s]B), ENC([s]B))`, s = pruned SHA-512 half, every 32-byte seed -/
theorem keypair_is_rfc8032 (seed : Bytes) (hs : seed.length = 32) :
    keypair seed = some (Spec.Ed25519.keypair seed) :=
  keypair_is_rfc8032_partial edwardsGroupLaw seed hs

/-- **C13 (signature)**: `signature(M, keypair(seed).0)` = `R ‖ S` of RFC 8032 §5.1.6, every seed, every message -/
theorem signature_is_rfc8032 (seed msg : Bytes) (hs : seed.length = 32) (hm : msg.length < 2 ^ 124) :
    signature msg (Spec.Ed25519.keypair seed).1 = some (Spec.Ed25519.sign seed msg) :=
  signature_is_rfc8032_partial edwardsGroupLaw seed msg hs hm

/-- `keypair` then `signature`, as the user runs them -/
theorem keypair_then_signature (seed msg : Bytes) (hs : seed.length = 32) (hm : msg.length < 2 ^ 124) :
    (keypair seed).bind (fun kp => signature msg kp.1) = some (Spec.Ed25519.sign seed msg) :=
  keypair_then_signature_partial edwardsGroupLaw seed msg hs hm

/-- `signature` hashes the public half it is given (it does not recompute it) -/
theorem signature_with_any_public_half (seed pk msg : Bytes) (hs : seed.length = 32) (hpk : pk.length = 32)
    (hm : msg.length < 2 ^ 124) :
    signature msg (seed ++ pk) = some (Spec.Ed25519.signWith (Spec.Ed25519.secretScalar seed)
      (Spec.Ed25519.noncePrefix seed) pk msg) :=
  signature_with_any_public_half_partial edwardsGroupLaw seed pk msg hs hpk hm

/-- `extended_to_public` for an extended secret whose scalar half is below 2^255 (the documented range) -/
theorem extended_to_public_is_spec (ext : Bytes) (hl : ext.length = 64) (hlt : leNat (ext.take 32) < 2 ^ 255) :
    extended_to_public ext = some (Spec.Ed25519.extendedToPublic ext) :=
  extended_to_public_is_spec_partial edwardsGroupLaw ext hl hlt

theorem signature_extended_is_spec (msg ext : Bytes) (hl : ext.length = 64)
    (hlt : leNat (ext.take 32) < 2 ^ 255) (hm : msg.length < 2 ^ 124) :
    signature_extended msg ext = some (Spec.Ed25519.signExtended ext msg) :=
  signature_extended_is_spec_partial edwardsGroupLaw msg ext hl hlt hm

/-- **C13 (extended = seed)**: signing with the extended secret of a seed gives the signature of the seed -/
theorem signature_extended_of_expanded_seed (seed msg : Bytes) (hs : seed.length = 32) (hm : msg.length < 2 ^ 124) :
    (extended_secret seed).bind (fun ext => signature_extended msg ext)
      = signature msg (Spec.Ed25519.keypair seed).1 :=
  signature_extended_of_expanded_seed_partial edwardsGroupLaw seed msg hs hm

/-- the public key of the extended secret of a seed is the seed's public key -/
theorem extended_to_public_of_expanded_seed (seed : Bytes) (hs : seed.length = 32) :
    (extended_secret seed).bind extended_to_public = some (Spec.Ed25519.publicKey seed) :=
  extended_to_public_of_expanded_seed_partial edwardsGroupLaw seed hs

/-- non-vacuity: a concrete seed and message meet the hypotheses -/
example : (List.replicate 32 (7 : UInt8)).length = 32 ∧ (List.replicate 300 (1 : UInt8)).length < 2 ^ 124 := by
  simp only [List.length_replicate]; decide

end Cx.Props.C13
