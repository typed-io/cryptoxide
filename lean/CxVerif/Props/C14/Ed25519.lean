/-
  Props.C14.Ed25519 — C14: `ed25519::verify` accepts exactly the triples satisfying the Spec predicate:
      the public key decodes (RFC 8032 §5.1.3 as implemented: y reduced mod p, x = 0 tolerated with either sign bit),
      it is not the all-zero string, le(S) < L, and  ENC([S]B − [k]A) = the 32 bytes of R,  k = H(R‖A‖M) mod L.

  The decision logic of `verify` (order of refusals, byte comparison, all-zero test, negation of A, the three-part
  hash) is proved here; its callees enter through named interfaces, all explicit hypotheses:
    `DecodeFact`    Ge::from_bytes refines Spec.Edwards.decode              (discharged in Props/C14/VerifyFull.lean)
    `DsmFact`       double_scalarmult_vartime(a, A, b) represents [a]A+[b]B (discharged in Props/C14/VerifyFull.lean)
    `EdwardsGroupLaw`, `[Fact (Nat.Prime p)]`                               (discharged in Props/C14/Final.lean)
  (`ScalarFacts`/`CanonicalFact` — reduce_from_wide_bytes = le mod L, from_bytes_canonical accepts exactly < L — are
  theorems, instantiated from the scalar64 theorems in Proofs/Ed25519Inst.lean.)  Hence the `_partial` names.
  `verifyStrict` (strict §5.1.3 decoding) implies `verify`, proved unconditionally.
-/
import CxVerif.Proofs.Ed25519Verify
import CxVerif.Proofs.Ed25519Inst
namespace Cx.Props.C14
open Cx.Spec Cx.Impl.Ed25519 Cx.Proofs.EdSpec Cx.Proofs.Ed25519Verify
open Cx.Spec.Field25519 (p)
open Cx.Spec.ScalarL (L)

/-- the Spec predicate, taken apart once (for a GENERAL key string and decoder, so that no `match` on a concrete decoding
    is ever evaluated by the elaborator) -/
theorem verifyWith_iff (dec : Bytes → Option Edwards.Point) (M A sig : Bytes) :
    Spec.Ed25519.verifyWith dec M A sig = true ↔
      ∃ P, dec A = some P ∧ sig.length = 64 ∧ leNat (sig.drop 32) < Spec.Ed25519.L ∧ A ≠ zeros 32 ∧
        Edwards.encode (Edwards.sub (Edwards.smul (leNat (sig.drop 32)) Edwards.B)
          (Edwards.smul (leNat (Spec.Ed25519.H (sig.take 32 ++ A ++ M)) % Spec.Ed25519.L) P)) = sig.take 32 := by
  unfold Spec.Ed25519.verifyWith
  cases dec A with
  | none => exact ⟨fun h => (nomatch h), fun ⟨_, h, _⟩ => (nomatch h)⟩
  | some P =>
    dsimp only
    constructor
    · intro h
      split at h
      · next hc => exact ⟨P, rfl, hc.1, hc.2.1, hc.2.2, beq_iff_eq.1 h⟩
      · cases h
    · rintro ⟨_, hd, hlen, hS, hz, heq⟩
      cases hd
      rw [if_pos ⟨hlen, hS, hz⟩, heq]
      exact beq_self_eq_true _

section partials
variable [hp : Fact (Nat.Prime p)] (G : EdwardsGroupLaw) (DF : DecodeFact) (MF : DsmFact)
include G DF MF

/-- `verify` returns (never panics) and computes the Spec predicate, for every message below 2^124 bytes, every
    32-byte key string and every 64-byte signature string -/
theorem verify_is_spec_predicate_partial (msg pk sig : Bytes) (hpk : pk.length = 32) (hsig : sig.length = 64)
    (hm : msg.length < 2 ^ 124) :
    verify msg pk sig = some (Spec.Ed25519.verify msg pk sig) :=
  haveI : Proofs.GeComb.GroupLawFact := ⟨G⟩; verify_eq DF MF Proofs.Ed25519Inst.scalarFacts Proofs.Ed25519Inst.canonicalFact msg pk sig hpk hsig hm

/-- FULL STATEMENT (C14): verify = true ↔ A decodes ∧ A ≠ 0^32 ∧ le(S) < L ∧ ENC([S]B − [k]A) = R-bytes. -/
theorem verify_accepts_iff_partial (msg pk sig : Bytes) (hpk : pk.length = 32) (hsig : sig.length = 64)
    (hm : msg.length < 2 ^ 124) :
    verify msg pk sig = some true ↔
      ∃ A, Edwards.decode pk = some A ∧ pk ≠ zeros 32 ∧ leNat (sig.drop 32) < L ∧
        Edwards.encode (Edwards.sub (Edwards.smul (leNat (sig.drop 32)) Edwards.B)
          (Edwards.smul (leNat (Spec.Sha2.sha512 (sig.take 32 ++ pk ++ msg)) % L) A)) = sig.take 32 := by
  rw [verify_is_spec_predicate_partial G DF MF msg pk sig hpk hsig hm, Option.some.injEq, Spec.Ed25519.verify,
    verifyWith_iff]
  exact ⟨fun ⟨A, hA, _, hS, hz, he⟩ => ⟨A, hA, hz, hS, he⟩, fun ⟨A, hA, hz, hS, he⟩ => ⟨A, hA, hsig, hS, hz, he⟩⟩

/-- S + k·L (k ≥ 1) is never accepted: the canonical-S test -/
theorem noncanonical_S_rejected_partial (msg pk sig : Bytes) (hpk : pk.length = 32) (hsig : sig.length = 64)
    (hm : msg.length < 2 ^ 124) (hS : L ≤ leNat (sig.drop 32)) : verify msg pk sig = some false := by
  rw [verify_is_spec_predicate_partial G DF MF msg pk sig hpk hsig hm, Spec.Ed25519.verify]
  exact congrArg some (Bool.eq_false_iff.2 fun h =>
    have ⟨_, _, _, hlt, _⟩ := (verifyWith_iff ..).1 h; Nat.not_lt.2 hS hlt)

/-- the all-zero key is refused although it decodes (to a point of order 4) -/
theorem zero_key_rejected_partial (msg pk sig : Bytes) (hz : pk = zeros 32) (hsig : sig.length = 64)
    (hm : msg.length < 2 ^ 124) : verify msg pk sig = some false := by
  have hpk : pk.length = 32 := by rw [hz]; simp [zeros]
  rw [verify_is_spec_predicate_partial G DF MF msg pk sig hpk hsig hm, Spec.Ed25519.verify]
  exact congrArg some (Bool.eq_false_iff.2 fun h =>
    have ⟨_, _, _, _, hne, _⟩ := (verifyWith_iff ..).1 h; hne hz)

end partials

/-- the strict RFC decoder accepts a subset of the lenient one, with the same point -/
theorem decodeStrict_implies_decode (s : Bytes) (P : Edwards.Point) (h : Edwards.decodeStrict s = some P) :
    Edwards.decode s = some P := by
  unfold Edwards.decodeStrict at h
  unfold Edwards.decode
  generalize Edwards.splitEncoding s = ys at h ⊢
  obtain ⟨y, sg⟩ := ys
  by_cases hl : s.length = 32
  · rw [if_pos hl] at h ⊢
    dsimp only at h ⊢
    by_cases hy : y < Edwards.p
    · rw [if_pos hy] at h
      rw [Nat.mod_eq_of_lt hy]
      cases hr : Edwards.recoverX y sg with
      | none => rw [hr] at h; cases h
      | some x =>
        rw [hr] at h
        dsimp only at h
        by_cases hx : (x = 0 && sg) = true
        · rw [if_pos hx] at h; cases h
        · rw [if_neg hx] at h
          rw [Option.map_some]; exact h
    · rw [if_neg hy] at h; cases h
  · rw [if_neg hl] at h; cases h

/-- whatever the strict predicate accepts, the implemented (lenient) predicate accepts -/
theorem verifyStrict_implies_verify (msg pk sig : Bytes) (h : Spec.Ed25519.verifyStrict msg pk sig = true) :
    Spec.Ed25519.verify msg pk sig = true :=
  have ⟨A, hd, rest⟩ := (verifyWith_iff ..).1 h
  (verifyWith_iff ..).2 ⟨A, decodeStrict_implies_decode pk A hd, rest⟩

/-- the order of the base point: `[L]B` is the neutral element (kernel evaluation of the double-and-add loop in
    projective coordinates, Proofs/EdProj.lean) -/
theorem L_times_B_is_zero : Edwards.smul L Edwards.B = Edwards.zero :=
  haveI : Fact (Nat.Prime Spec.Field25519.p) := ⟨Proofs.Prime25519.prime_p⟩
  (Proofs.EdProj.psmul_rep L (Proofs.EdProj.ofAffine_rep Edwards.B)).eq_of_isPoint
    (Proofs.EdProj.smul_lt _ _).1 (Proofs.EdProj.smul_lt _ _).2 zero_lt.1 zero_lt.2 (by decide +kernel)

/-! ### non-vacuity: the all-zero key does decode (so its refusal is a real extra rule) -/
set_option maxRecDepth 100000 in
example : (Edwards.decode (zeros 32)).isSome = true := by decide +kernel

end Cx.Props.C14
