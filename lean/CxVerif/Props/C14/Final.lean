/-
  Props.C14.Final — C14 with NO remaining hypothesis: `ed25519::verify` of the code-shaped model accepts exactly the
  triples (message, 32-byte key, 64-byte signature) satisfying the Spec predicate of RFC 8032 §5.1.7 as implemented
  (cofactorless equation, canonical S, decodable non-zero key), for every message below 2^124 bytes.

  Props/C14/VerifyFull.lean proves the statements under `[Fact (Nat.Prime p)]` and `G : EdwardsGroupLaw` (the callee
  interfaces `DecodeFact`, `DsmFact` being discharged there).  Both remaining hypotheses are THEOREMS of this development:
    * `Cx.Proofs.Prime25519.prime_p`      — 2^255 − 19 is prime (instance `fact_prime_p`);
    * `Cx.Proofs.EdGroup.edwardsGroupLaw` — closure and associativity of the affine addition law.
  Here they are plugged in.  Nothing else is assumed (`#print axioms`: propext, Classical.choice, Quot.sound).
-/
import CxVerif.Props.C14.VerifyFull
import CxVerif.Proofs.Prime25519Inst
import CxVerif.Proofs.EdwardsGroupLaw
namespace Cx.Props.C14
open Cx.Spec Cx.Impl.Ed25519 Cx.Proofs.EdSpec
open Cx.Proofs.EdGroup (edwardsGroupLaw)
open Cx.Spec.ScalarL (L)

/-- **C14**: `verify` never panics and computes the Spec predicate -/
theorem verify_is_spec_predicate (msg pk sig : Bytes) (hpk : pk.length = 32) (hsig : sig.length = 64)
    (hm : msg.length < 2 ^ 124) :
    verify msg pk sig = some (Spec.Ed25519.verify msg pk sig) :=
  verify_is_spec_predicate_grouplaw edwardsGroupLaw msg pk sig hpk hsig hm

/-- **C14, FULL STATEMENT**: verify = true ↔ A decodes ∧ A ≠ 0^32 ∧ le(S) < L ∧ ENC([S]B − [k]A) = R-bytes,
    k = SHA-512(R ‖ A ‖ M) mod L -/
theorem verify_accepts_iff (msg pk sig : Bytes) (hpk : pk.length = 32) (hsig : sig.length = 64)
    (hm : msg.length < 2 ^ 124) :
    verify msg pk sig = some true ↔
      ∃ A, Edwards.decode pk = some A ∧ pk ≠ zeros 32 ∧ leNat (sig.drop 32) < L ∧
        Edwards.encode (Edwards.sub (Edwards.smul (leNat (sig.drop 32)) Edwards.B)
          (Edwards.smul (leNat (Spec.Sha2.sha512 (sig.take 32 ++ pk ++ msg)) % L) A)) = sig.take 32 :=
  verify_accepts_iff_grouplaw edwardsGroupLaw msg pk sig hpk hsig hm

/-- S + k·L (k ≥ 1) is never accepted: the canonical-S test -/
theorem noncanonical_S_rejected (msg pk sig : Bytes) (hpk : pk.length = 32) (hsig : sig.length = 64)
    (hm : msg.length < 2 ^ 124) (hS : L ≤ leNat (sig.drop 32)) : verify msg pk sig = some false :=
  noncanonical_S_rejected_grouplaw edwardsGroupLaw msg pk sig hpk hsig hm hS

/-- the all-zero key is refused although it decodes (to a point of order 4) -/
theorem zero_key_rejected (msg pk sig : Bytes) (hz : pk = zeros 32) (hsig : sig.length = 64)
    (hm : msg.length < 2 ^ 124) : verify msg pk sig = some false :=
  zero_key_rejected_grouplaw edwardsGroupLaw msg pk sig hz hsig hm

/-- `Ge::from_bytes` refines `Spec.Edwards.decode`, unconditionally -/
theorem from_bytes_is_decode (s : Bytes) (hs : s.length = 32) :
    match Edwards.decode s with
    | none => Impl.Ge.Ge.from_bytes s = some none
    | some P => OnCurve P ∧ ∃ g, Impl.Ge.Ge.from_bytes s = some (some g) ∧ Proofs.GeRefine.GeOk g P :=
  from_bytes_refines_decode s hs

/-- `double_scalarmult_vartime(a, A, b)` represents `[a]A + [b]B`, unconditionally -/
theorem double_scalarmult_vartime_is_spec (a b : Impl.Scalar64.Scalar) (g : Impl.Ge.Ge) (A : Edwards.Point)
    (ha : Proofs.Ed25519Sign.SInv a) (hb : Proofs.Ed25519Sign.SInv b) (hav : a.val < 2 ^ 255)
    (hbv : b.val < 2 ^ 255) (hg : Proofs.GeRefine.GeOk g A) (hA : OnCurve A) :
    ∃ r, Impl.Ge.GePartial.double_scalarmult_vartime a g b = some r ∧
      Proofs.GeRefine.PartialOk r (Edwards.add (Edwards.smul a.val A) (Edwards.smul b.val Edwards.B)) :=
  double_scalarmult_vartime_grouplaw edwardsGroupLaw a b g A ha hb hav hbv hg hA

/-- the interface hypothesis `DecodeFact` of Props/C14/Ed25519.lean is a theorem (Proofs/GeDecode.lean) -/
theorem decode_fact_proved : Proofs.Ed25519Verify.DecodeFact := Proofs.GeDecode.decodeFact

/-- the interface hypothesis `DsmFact` of Props/C14/Ed25519.lean is a theorem (Proofs/GeDsm.lean + the group law) -/
theorem dsm_fact_proved : Proofs.Ed25519Verify.DsmFact := Proofs.GeDsm.dsmFact edwardsGroupLaw

end Cx.Props.C14
