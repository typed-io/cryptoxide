/-
  Props.C14.Honest — C14, the positive half: EVERY HONEST SIGNATURE VERIFIES, with no hypothesis (primality of p and L, the
  Edwards group law, `[L]B = O` and the point-encoding round trip are theorems of this development): the code-shaped model
  of `ed25519::verify` accepts the signatures of the RFC 8032 signer and of the model's own `keypair` / `signature` /
  `signature_extended`, for every seed and every message below 2^124 bytes; and S is not malleable, because B has order
  exactly L.
-/
import CxVerif.Proofs.Ed25519Honest
import CxVerif.Props.C13.Final
import CxVerif.Props.C14.Final
namespace Cx.Props.C14
open Cx.Spec Cx.Impl.Ed25519
open Cx.Spec.ScalarL (L)

/-- the Spec predicate of §5.1.7 accepts every signature of the Spec signer of §5.1.6 under the matching key -/
theorem spec_verify_sign (seed msg : Bytes) :
    Spec.Ed25519.verify msg (Spec.Ed25519.publicKey seed) (Spec.Ed25519.sign seed msg) = true :=
  Proofs.Ed25519Honest.verify_signWith (Spec.Ed25519.secretScalar seed) (Spec.Ed25519.noncePrefix seed) msg

/-- **C14 (honest signatures verify)**: the model of `ed25519::verify` returns `true` (no panic) on the RFC 8032
    signature of `msg` under the RFC 8032 public key of the same seed.  (`hs` is not needed: the Spec functions are total;
    it is kept because only 32-byte seeds are Ed25519 secret keys.) -/
theorem honest_signature_verifies (seed msg : Bytes) (_hs : seed.length = 32) (hm : msg.length < 2 ^ 124) :
    Impl.Ed25519.verify msg (Spec.Ed25519.publicKey seed) (Spec.Ed25519.sign seed msg) = some true := by
  have hpk : (Spec.Ed25519.publicKey seed).length = 32 := Proofs.Ed25519Sign.encode_length _
  have hsig : (Spec.Ed25519.sign seed msg).length = 64 := Proofs.Ed25519Honest.signWith_length _ _ _ _
  rw [verify_is_spec_predicate msg _ _ hpk hsig hm, spec_verify_sign]

/-- **as the user runs it**: whatever `keypair` and `signature` of the model return, `verify` accepts -/
theorem keypair_signature_verify (seed msg kp pk sig : Bytes) (hm : msg.length < 2 ^ 124)
    (hk : keypair seed = some (kp, pk)) (hsig : signature msg kp = some sig) : verify msg pk sig = some true := by
  have hs : seed.length = 32 := by
    by_contra hl
    unfold keypair extended_secret at hk
    rw [if_neg hl] at hk
    cases hk
  rw [Cx.Props.C13.keypair_is_rfc8032 seed hs] at hk
  have hk' : Spec.Ed25519.keypair seed = (kp, pk) := Option.some.inj hk
  have h1 : kp = (Spec.Ed25519.keypair seed).1 := by rw [hk']
  have h2 : pk = Spec.Ed25519.publicKey seed := by
    have : pk = (Spec.Ed25519.keypair seed).2 := by rw [hk']
    rw [this]; rfl
  rw [h1, Cx.Props.C13.signature_is_rfc8032 seed msg hs hm] at hsig
  rw [h2, ← Option.some.inj hsig]
  exact honest_signature_verifies seed msg hs hm

/-- … and none of the three calls panics: `keypair`, then `signature`, then `verify` returns `true` -/
theorem keypair_signature_verify_total (seed msg : Bytes) (hs : seed.length = 32) (hm : msg.length < 2 ^ 124) :
    ((keypair seed).bind fun k => (signature msg k.1).bind fun sig => verify msg k.2 sig) = some true := by
  rw [Cx.Props.C13.keypair_is_rfc8032 seed hs, Option.bind_some,
    Cx.Props.C13.signature_is_rfc8032 seed msg hs hm, Option.bind_some]
  exact honest_signature_verifies seed msg hs hm

/-- signatures made from a 64-byte extended secret verify under `extendedToPublic` -/
theorem honest_extended_signature_verifies (ext msg : Bytes) (hm : msg.length < 2 ^ 124) :
    Impl.Ed25519.verify msg (Spec.Ed25519.extendedToPublic ext) (Spec.Ed25519.signExtended ext msg) = some true := by
  have hpk : (Spec.Ed25519.extendedToPublic ext).length = 32 := Proofs.Ed25519Sign.encode_length _
  have hsig : (Spec.Ed25519.signExtended ext msg).length = 64 := Proofs.Ed25519Honest.signWith_length _ _ _ _
  rw [verify_is_spec_predicate msg _ _ hpk hsig hm, Proofs.Ed25519Honest.verify_signExtended]

/-- the model's `extended_to_public`, `signature_extended`, `verify` in a row (scalar half below 2^255) -/
theorem extended_signature_verify (ext msg : Bytes) (hl : ext.length = 64) (hlt : leNat (ext.take 32) < 2 ^ 255)
    (hm : msg.length < 2 ^ 124) :
    ((extended_to_public ext).bind fun pk => (signature_extended msg ext).bind fun sig => verify msg pk sig)
      = some true := by
  rw [Cx.Props.C13.extended_to_public_is_spec ext hl hlt, Option.bind_some,
    Cx.Props.C13.signature_extended_is_spec msg ext hl hlt hm, Option.bind_some]
  exact honest_extended_signature_verifies ext msg hm

/-- **S is not malleable**: if `R ‖ S` is accepted for `(msg, pk)` then `R ‖ S'` is rejected (not a panic: `some false`)
    for every other 32-byte string S'.  (No `< L` hypothesis is needed: S' ≥ L is rejected by the canonical-S test, and
    two canonical S, S' with `[S]B − [k]A` = `[S']B − [k]A` are equal because B has order exactly L.) -/
theorem S_change_rejected (msg pk R S S' : Bytes) (hpk : pk.length = 32) (hR : R.length = 32) (hS : S.length = 32)
    (hS' : S'.length = 32) (hm : msg.length < 2 ^ 124) (hne : S' ≠ S)
    (h : verify msg pk (R ++ S) = some true) : verify msg pk (R ++ S') = some false := by
  have hl : (R ++ S).length = 64 := by rw [List.length_append, hR, hS]
  have hl' : (R ++ S').length = 64 := by rw [List.length_append, hR, hS']
  rw [verify_is_spec_predicate msg pk _ hpk hl hm] at h
  rw [verify_is_spec_predicate msg pk _ hpk hl' hm]
  have h1 : Spec.Ed25519.verify msg pk (R ++ S) = true := Option.some.inj h
  cases h2 : Spec.Ed25519.verify msg pk (R ++ S') with
  | false => rfl
  | true => exact absurd (Proofs.Ed25519Honest.verify_S_unique msg pk R S S' hR hS hS' h1 h2).symm hne

/-- the order of the base point is exactly L: scalars act modulo L, and canonical scalars are determined by `[n]B` -/
theorem base_point_order :
    (∀ n, Edwards.smul (n % L) Edwards.B = Edwards.smul n Edwards.B) ∧
    (∀ m n, m < L → n < L → Edwards.smul m Edwards.B = Edwards.smul n Edwards.B → m = n) :=
  ⟨Proofs.Ed25519Honest.smul_mod_L, fun _ _ hm hn h => Proofs.Ed25519Honest.smulB_inj hm hn h⟩

/-- no public key derived from a secret scalar is the refused all-zero string -/
theorem public_key_ne_zeros (a : Nat) : Edwards.encode (Edwards.smul a Edwards.B) ≠ zeros 32 :=
  Proofs.Ed25519Honest.encode_smulB_ne_zeros a

/-- a concrete seed and message meet the hypotheses -/
example : (List.replicate 32 (7 : UInt8)).length = 32 ∧ (List.replicate 300 (1 : UInt8)).length < 2 ^ 124 := by
  rw [List.length_replicate, List.length_replicate]; decide

/-- the hypotheses of `S_change_rejected` are met by every honest signature: `sign seed msg = R ‖ S` with 32-byte halves -/
example (seed msg : Bytes) : ((Spec.Ed25519.sign seed msg).take 32).length = 32 ∧
    ((Spec.Ed25519.sign seed msg).drop 32).length = 32 := by
  have := Proofs.Ed25519Honest.signWith_length (Spec.Ed25519.secretScalar seed) (Spec.Ed25519.noncePrefix seed)
    (Spec.Ed25519.publicKey seed) msg
  unfold Spec.Ed25519.sign
  rw [List.length_take, List.length_drop, this]
  decide

end Cx.Props.C14
