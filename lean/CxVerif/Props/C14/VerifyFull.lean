/-
  Props.C14.VerifyFull — C14 with the two callee interfaces DISCHARGED: `ed25519::verify` accepts exactly the triples
  satisfying the Spec predicate
      the public key decodes (RFC 8032 §5.1.3 as implemented: y reduced mod p, x = 0 tolerated with either sign bit),
      it is not the all-zero string, le(S) < L, and  ENC([S]B − [k]A) = the 32 bytes of R,  k = H(R‖A‖M) mod L.

  Props/C14/Ed25519.lean states these theorems under the interfaces `DecodeFact` (Ge::from_bytes refines
  Spec.Edwards.decode) and `DsmFact` (double_scalarmult_vartime(a, A, b) represents [a]A + [b]B).  Both are
  theorems: `Proofs.GeDecode.decodeFact` (the decompression chain, needs only primality) and `Proofs.GeDsm.dsmFact`
  (slide recoding + table of odd multiples + window loop, needs primality and the group law).  What is left as
  explicit hypotheses here, exactly as in the other group-layer theorems (Props/C15/Ge.lean):
    `[Fact (Nat.Prime p)]`   primality of 2^255 − 19
    `G : EdwardsGroupLaw`    closure + associativity of the affine addition on curve points
  Hence the suffix `_grouplaw`.
-/
import CxVerif.Props.C14.Ed25519
namespace Cx.Props.C14
open Cx.Spec Cx.Impl.Ed25519 Cx.Proofs.EdSpec
open Cx.Spec.Field25519 (p)
open Cx.Spec.ScalarL (L)

section grouplaw
variable [hp : Fact (Nat.Prime p)] (G : EdwardsGroupLaw)

/-- `Ge::from_bytes` refines the Spec decoder: rejects exactly the non-points (never panics), otherwise returns a
    Tight extended representation of the decoded point, which lies on the curve.  (The interface `DecodeFact`.) -/
theorem from_bytes_refines_decode (s : Bytes) (hs : s.length = 32) :
    match Edwards.decode s with
    | none => Impl.Ge.Ge.from_bytes s = some none
    | some P => OnCurve P ∧ ∃ g, Impl.Ge.Ge.from_bytes s = some (some g) ∧ Proofs.GeRefine.GeOk g P :=
  Proofs.GeDecode.decodeFact s hs

include G

/-- `double_scalarmult_vartime(a, A, b)` never panics and represents `[a]A + [b]B`, for scalars inside the limb
    invariant with values below 2^255 and a Tight representation of a curve point.  (The interface `DsmFact`.) -/
theorem double_scalarmult_vartime_grouplaw (a b : Impl.Scalar64.Scalar) (g : Impl.Ge.Ge) (A : Edwards.Point)
    (ha : Proofs.Ed25519Sign.SInv a) (hb : Proofs.Ed25519Sign.SInv b) (hav : a.val < 2 ^ 255)
    (hbv : b.val < 2 ^ 255) (hg : Proofs.GeRefine.GeOk g A) (hA : OnCurve A) :
    ∃ r, Impl.Ge.GePartial.double_scalarmult_vartime a g b = some r ∧
      Proofs.GeRefine.PartialOk r (Edwards.add (Edwards.smul a.val A) (Edwards.smul b.val Edwards.B)) :=
  Proofs.GeDsm.dsmFact G a b g A ha hb hav hbv hg hA

/-- `verify` returns (never panics) and computes the Spec predicate, for every message below 2^124 bytes, every
    32-byte key string and every 64-byte signature string -/
theorem verify_is_spec_predicate_grouplaw (msg pk sig : Bytes) (hpk : pk.length = 32) (hsig : sig.length = 64)
    (hm : msg.length < 2 ^ 124) :
    verify msg pk sig = some (Spec.Ed25519.verify msg pk sig) :=
  verify_is_spec_predicate_partial G Proofs.GeDecode.decodeFact (Proofs.GeDsm.dsmFact G) msg pk sig hpk hsig hm

/-- FULL STATEMENT (C14): verify = true ↔ A decodes ∧ A ≠ 0^32 ∧ le(S) < L ∧ ENC([S]B − [k]A) = R-bytes -/
theorem verify_accepts_iff_grouplaw (msg pk sig : Bytes) (hpk : pk.length = 32) (hsig : sig.length = 64)
    (hm : msg.length < 2 ^ 124) :
    verify msg pk sig = some true ↔
      ∃ A, Edwards.decode pk = some A ∧ pk ≠ zeros 32 ∧ leNat (sig.drop 32) < L ∧
        Edwards.encode (Edwards.sub (Edwards.smul (leNat (sig.drop 32)) Edwards.B)
          (Edwards.smul (leNat (Spec.Sha2.sha512 (sig.take 32 ++ pk ++ msg)) % L) A)) = sig.take 32 :=
  verify_accepts_iff_partial G Proofs.GeDecode.decodeFact (Proofs.GeDsm.dsmFact G) msg pk sig hpk hsig hm

/-- S + k·L (k ≥ 1) is never accepted: the canonical-S test -/
theorem noncanonical_S_rejected_grouplaw (msg pk sig : Bytes) (hpk : pk.length = 32) (hsig : sig.length = 64)
    (hm : msg.length < 2 ^ 124) (hS : L ≤ leNat (sig.drop 32)) : verify msg pk sig = some false :=
  noncanonical_S_rejected_partial G Proofs.GeDecode.decodeFact (Proofs.GeDsm.dsmFact G) msg pk sig hpk hsig hm hS

/-- the all-zero key is refused although it decodes (to a point of order 4) -/
theorem zero_key_rejected_grouplaw (msg pk sig : Bytes) (hz : pk = zeros 32) (hsig : sig.length = 64)
    (hm : msg.length < 2 ^ 124) : verify msg pk sig = some false :=
  zero_key_rejected_partial G Proofs.GeDecode.decodeFact (Proofs.GeDsm.dsmFact G) msg pk sig hz hsig hm

end grouplaw

/-! ### non-vacuity of the hypotheses of `double_scalarmult_vartime_grouplaw`: the scalar 1 and the base point -/
example : Proofs.Ed25519Sign.SInv Impl.Scalar64.ONE ∧ Impl.Scalar64.ONE.val < 2 ^ 255 := by
  unfold Proofs.Ed25519Sign.SInv; decide
example : OnCurve Edwards.B := Proofs.Ge.B_spec.1

end Cx.Props.C14
