/-
  Props.C15.Fe64 — field part of C15 for the 64-bit backend: through the public API of
  `cryptoxide::curve25519::Fe`, every operator computes the corresponding operation modulo 2^255 − 19,
  with canonical little-endian output for every input encoding, for ALL field-expression programs.
  (On this backend every public operator carries its result, so NO operand discipline is needed: the
  invariant `Pub` — limbs < 2^52 + 2^18 — is closed under every composition; the property's discipline
  "at most one unreduced add/sub feeding a multiply" is the fe32 requirement.)
  Also: no u64/u128 overflow anywhere (every `run` below answers `some`), C20 overflow part.
-/
import CxVerif.Proofs.Fe64Chain
import CxVerif.Proofs.Fe64Pred
import CxVerif.Proofs.Fe64FromBytes
import CxVerif.Proofs.Field25519Prime
namespace Cx.Props.C15
open Cx Cx.Spec Cx.Impl.Fe64 Cx.Proofs.Fe64
open Cx.Spec.Field25519 (p)
open Cx.Proofs (bind_ok)

/-- the bias of Sub/Neg is exactly `4p`, limb-wise `(2^53 − 76, 2^53 − 4, …)`; `MASK = 2^51 − 1` -/
theorem extracted_bias : val ⟨FOUR_P0, FOUR_P1234, FOUR_P1234, FOUR_P1234, FOUR_P1234⟩ = 4 * p ∧
    FOUR_P0 = 2^53 - 76 ∧ FOUR_P1234 = 2^53 - 4 ∧ MASK = 2^51 - 1 := by decide
theorem extracted_ZERO_ONE : eval Fe.ZERO = 0 ∧ eval Fe.ONE = 1 ∧ Bnd (2^51) Fe.ZERO ∧ Bnd (2^51) Fe.ONE := by
  decide
/-- `Fe::D = −121665/121666`, `Fe::D2 = 2d`, `Fe::SQRTM1 = 2^((p−1)/4)` (Spec formulas, kernel-evaluated),
    limbs carried -/
theorem extracted_D : Bnd (2^51) Fe.D ∧ eval Fe.D = Field25519.edwardsD := D_spec
theorem extracted_D2 : Bnd (2^51) Fe.D2 ∧ eval Fe.D2 = Field25519.edwardsD2 := D2_spec
theorem extracted_SQRTM1 : Bnd (2^51) Fe.SQRTM1 ∧ eval Fe.SQRTM1 = Field25519.sqrtM1 := SQRTM1_spec
/-- `SQRTM1² = −1` and `d·121666 = −121665` in GF(p): the formulas define what they should -/
theorem sqrtM1_squared : Field25519.sq Field25519.sqrtM1 = p - 1 := by decide +kernel
theorem edwardsD_defining : Field25519.mul Field25519.edwardsD 121666 = Field25519.neg 121665 := by
  decide +kernel

/-! ## single operators: no overflow, output invariant, value mod p (all Loose / SubOk inputs) -/

theorem add_correct (f g : Fe) (hf : Loose f) (hg : Loose g) :
    ∃ h, add f g = some h ∧ Tight h ∧ eval h = Field25519.add (eval f) (eval g) := add_spec f g hf hg
theorem sub_correct (f g : Fe) (hf : Loose f) (hg : SubOk g) :
    ∃ h, sub f g = some h ∧ Tight h ∧ eval h = Field25519.sub (eval f) (eval g) := sub_spec f g hf hg
theorem neg_correct (g : Fe) (hg : SubOk g) :
    ∃ h, neg g = some h ∧ Tight h ∧ eval h = Field25519.neg (eval g) := neg_spec g hg
theorem mul_correct (f g : Fe) (hf : Loose f) (hg : Loose g) :
    ∃ h, mul f g = some h ∧ Tight h ∧ eval h = Field25519.mul (eval f) (eval g) := mul_spec f g hf hg
theorem square_correct (f : Fe) (hf : Loose f) :
    ∃ h, square f = some h ∧ Tight h ∧ eval h = Field25519.sq (eval f) := square_spec f hf
theorem square_repeatdly_correct (f : Fe) (n : Nat) (hf : Loose f) :
    ∃ h, square_repeatdly f n = some h ∧ (0 < n → Tight h) ∧ (n = 0 → h = f) ∧
      eval h = Field25519.pow (eval f) (2^n) := by
  obtain ⟨h, e, t, z, v⟩ := square_repeatdly_spec n f hf
  exact ⟨h, e, t, z, by rw [v, Cx.Proofs.Field25519.pow_eq]⟩
theorem square_and_double_correct (f : Fe) (hf : Loose f) :
    ∃ h, square_and_double f = some h ∧ Pub h ∧ eval h = Field25519.mul 2 (Field25519.sq (eval f)) :=
  square_and_double_spec f hf
theorem mul_small_correct (f : Fe) (s : Nat) (hf : Loose f) (hs : s < 2^32) :
    ∃ h, mul_small f s = some h ∧ Tight h ∧ eval h = Field25519.mul (eval f) s := mul_small_spec f s hf hs
/-- `invert z = z^(p−2)` (exponent identity of the addition chain; `0 ↦ 0`) -/
theorem invert_correct (z : Fe) (hz : Loose z) :
    ∃ h, invert z = some h ∧ Tight h ∧ eval h = Field25519.inv (eval z) := invert_spec z hz
/-- `invert` really inverts — this needs primality of `p`, an explicit hypothesis (discharged in Props/C15/Prime.lean) -/
theorem invert_is_inverse_of_prime (hp : Nat.Prime p) (z : Fe) (hz : Loose z) (hnz : eval z ≠ 0) :
    ∃ h, invert z = some h ∧ Tight h ∧ Field25519.mul (eval z) (eval h) = 1 := by
  obtain ⟨h, e, t, v⟩ := invert_spec z hz
  refine ⟨h, e, t, ?_⟩
  rw [v]
  exact Cx.Proofs.Field25519.mul_inv_of_prime hp (eval z) (by rw [eval_mod]; exact hnz)
theorem pow25523_correct (z : Fe) (hz : Loose z) :
    ∃ h, pow25523 z = some h ∧ Tight h ∧ eval h = Field25519.pow25523 (eval z) := pow25523_spec z hz
/-- `(p−5)/8 = 2^252 − 3`, `p − 2 = 2^255 − 21`: the exponents the chains realise -/
theorem chain_exponents : (p - 5) / 8 = 2^252 - 3 ∧ p - 2 = 2^255 - 21 := by decide

/-- `from_bytes`: little-endian value with bit 255 ignored, carried limbs; accepts every 32-byte string -/
theorem from_bytes_correct (b : Bytes) (h : b.length = 32) :
    Bnd (2^51) (from_bytes b h) ∧ val (from_bytes b h) = leNat b % 2^255 ∧
      eval (from_bytes b h) = Field25519.decode b :=
  ⟨(from_bytes_spec b h).1, (from_bytes_spec b h).2, from_bytes_eval b h⟩

/-- `to_bytes` is the canonical encoding (32 bytes, value `< p`, top bit 0) for EVERY Loose input -/
theorem to_bytes_canonical (f : Fe) (hf : Loose f) :
    ∃ b, to_bytes f = some b ∧ b = Field25519.encode (eval f) ∧ b.length = 32 ∧ leNat b = eval f := by
  refine ⟨_, to_bytes_spec f hf, rfl, Proofs.Bytes.natToLE_length 32 _, ?_⟩
  unfold Field25519.encode
  rw [Proofs.Bytes.leNat_natToLE, eval_mod, Nat.mod_eq_of_lt (Nat.lt_trans (eval_lt f) Proofs.Field25519.p_lt_256_32)]

theorem is_nonzero_correct (f : Fe) (hf : Loose f) : is_nonzero f = some (decide (eval f ≠ 0)) := by
  rw [is_nonzero_spec f hf]; unfold Field25519.isNonzero; rw [eval_mod]
  by_cases h : eval f = 0 <;> simp [h]
theorem is_negative_correct (f : Fe) (hf : Loose f) : is_negative f = some (decide (eval f % 2 = 1)) := by
  rw [is_negative_spec f hf]; unfold Field25519.isNegative; rw [eval_mod]
  by_cases h : eval f % 2 = 1 <;> simp [h]
/-- `==` (constant-time comparison of the canonical encodings) is equality in GF(p) -/
theorem eq_correct (f g : Fe) (hf : Loose f) (hg : Loose g) : eq f g = some (decide (eval f = eval g)) :=
  eq_spec f g hf hg

/-- masked swap / set are the conditional swap / assignment (on limb vectors that are machine words) -/
theorem maybe_swap_with_correct (f g : Fe) (hf : Bnd (2^64) f) (hg : Bnd (2^64) g) (c : Bool) :
    maybe_swap_with f g (Cx.Props.C18.Choice.ofBool c) = if c then (g, f) else (f, g) :=
  maybe_swap_with_spec f g hf hg c
theorem maybe_set_correct (f g : Fe) (hf : Bnd (2^64) f) (hg : Bnd (2^64) g) (c : Bool) :
    maybe_set f g (Cx.Props.C18.Choice.ofBool c) = if c then g else f := maybe_set_spec f g hf hg c

/-- programs built from the public operators of `Fe` -/
inductive Expr where
  | lit (b : Bytes) (h : b.length = 32)
  | zero | one | sqrtm1 | d | d2
  | add (a b : Expr) | sub (a b : Expr) | mul (a b : Expr) | neg (a : Expr)
  | square (a : Expr) | squareRep (a : Expr) (n : Nat) | squareDouble (a : Expr)
  | invert (a : Expr) | pow25523 (a : Expr)

/-- the program run on the code model (`none` = a panic somewhere) -/
def Expr.run : Expr → Option Fe
  | .lit b h => some (from_bytes b h)
  | .zero => some Fe.ZERO | .one => some Fe.ONE | .sqrtm1 => some Fe.SQRTM1 | .d => some Fe.D | .d2 => some Fe.D2
  | .add a b => a.run.bind fun x => b.run.bind fun y => Impl.Fe64.add x y
  | .sub a b => a.run.bind fun x => b.run.bind fun y => Impl.Fe64.sub x y
  | .mul a b => a.run.bind fun x => b.run.bind fun y => Impl.Fe64.mul x y
  | .neg a => a.run.bind Impl.Fe64.neg
  | .square a => a.run.bind Impl.Fe64.square
  | .squareRep a n => a.run.bind fun x => Impl.Fe64.square_repeatdly x n
  | .squareDouble a => a.run.bind Impl.Fe64.square_and_double
  | .invert a => a.run.bind Impl.Fe64.invert
  | .pow25523 a => a.run.bind Impl.Fe64.pow25523

def Expr.den : Expr → Nat
  | .lit b _ => Field25519.decode b
  | .zero => 0 | .one => 1 | .sqrtm1 => Field25519.sqrtM1 | .d => Field25519.edwardsD | .d2 => Field25519.edwardsD2
  | .add a b => Field25519.add a.den b.den
  | .sub a b => Field25519.sub a.den b.den
  | .mul a b => Field25519.mul a.den b.den
  | .neg a => Field25519.neg a.den
  | .square a => Field25519.sq a.den
  | .squareRep a n => Field25519.pow a.den (2^n)
  | .squareDouble a => Field25519.mul 2 (Field25519.sq a.den)
  | .invert a => Field25519.inv a.den
  | .pow25523 a => Field25519.pow25523 a.den

/-- **Every program** over the public operators runs without overflow, keeps the limb invariant `Pub`
    and computes its value in GF(p). -/
theorem program_correct (e : Expr) : ∃ f, e.run = some f ∧ Pub f ∧ eval f = e.den := by
  induction e with
  | lit b h => exact ⟨_, rfl, (bnd51_tight (from_bytes_spec b h).1).pub, from_bytes_eval b h⟩
  | zero => exact ⟨_, rfl, (bnd51_tight ZERO_spec.1).pub, ZERO_spec.2⟩
  | one => exact ⟨_, rfl, (bnd51_tight ONE_spec.1).pub, ONE_spec.2⟩
  | sqrtm1 => exact ⟨_, rfl, (bnd51_tight SQRTM1_spec.1).pub, SQRTM1_spec.2⟩
  | d => exact ⟨_, rfl, (bnd51_tight D_spec.1).pub, D_spec.2⟩
  | d2 => exact ⟨_, rfl, (bnd51_tight D2_spec.1).pub, D2_spec.2⟩
  | add a b iha ihb =>
    exact bind_ok iha fun x ⟨px, vx⟩ => bind_ok ihb fun y ⟨py, vy⟩ =>
      let ⟨h, e, t, v⟩ := add_spec x y px.loose py.loose; ⟨h, e, t.pub, by rw [v, vx, vy]; rfl⟩
  | sub a b iha ihb =>
    exact bind_ok iha fun x ⟨px, vx⟩ => bind_ok ihb fun y ⟨py, vy⟩ =>
      let ⟨h, e, t, v⟩ := sub_spec x y px.loose py.subOk; ⟨h, e, t.pub, by rw [v, vx, vy]; rfl⟩
  | mul a b iha ihb =>
    exact bind_ok iha fun x ⟨px, vx⟩ => bind_ok ihb fun y ⟨py, vy⟩ =>
      let ⟨h, e, t, v⟩ := mul_spec x y px.loose py.loose; ⟨h, e, t.pub, by rw [v, vx, vy]; rfl⟩
  | neg a iha =>
    exact bind_ok iha fun x ⟨px, vx⟩ =>
      let ⟨h, e, t, v⟩ := neg_spec x px.subOk; ⟨h, e, t.pub, by rw [v, vx]; rfl⟩
  | square a iha =>
    exact bind_ok iha fun x ⟨px, vx⟩ =>
      let ⟨h, e, t, v⟩ := square_spec x px.loose; ⟨h, e, t.pub, by rw [v, vx]; rfl⟩
  | squareRep a n iha =>
    refine bind_ok iha fun x ⟨px, vx⟩ => ?_
    obtain ⟨h, e, t, z, v⟩ := square_repeatdly_spec n x px.loose
    refine ⟨h, e, ?_, ?_⟩
    · by_cases hn : n = 0
      · rw [z hn]; exact px
      · exact (t (by omega)).pub
    · rw [v, vx]; simp only [Expr.den]; rw [Cx.Proofs.Field25519.pow_eq]
  | squareDouble a iha =>
    exact bind_ok iha fun x ⟨px, vx⟩ =>
      let ⟨h, e, t, v⟩ := square_and_double_spec x px.loose; ⟨h, e, t, by rw [v, vx]; rfl⟩
  | invert a iha =>
    exact bind_ok iha fun x ⟨px, vx⟩ =>
      let ⟨h, e, t, v⟩ := invert_spec x px.loose; ⟨h, e, t.pub, by rw [v, vx]; rfl⟩
  | pow25523 a iha =>
    exact bind_ok iha fun x ⟨px, vx⟩ =>
      let ⟨h, e, t, v⟩ := pow25523_spec x px.loose; ⟨h, e, t.pub, by rw [v, vx]; rfl⟩

/-- what a user observes of a program: `to_bytes`, `is_nonzero`, `is_negative`, and `==` of two programs
    — the canonical encoding / predicates of the program's value mod p, never a panic -/
theorem program_observations (e : Expr) :
    ∃ f, e.run = some f ∧ to_bytes f = some (Field25519.encode e.den) ∧
      is_nonzero f = some (Field25519.isNonzero e.den) ∧ is_negative f = some (Field25519.isNegative e.den) := by
  obtain ⟨f, hf, pf, vf⟩ := program_correct e
  exact ⟨f, hf, by rw [to_bytes_spec f pf.loose, vf], by rw [is_nonzero_spec f pf.loose, vf],
    by rw [is_negative_spec f pf.loose, vf]⟩

theorem program_eq (e1 e2 : Expr) :
    ∃ f g, e1.run = some f ∧ e2.run = some g ∧ eq f g = some (decide (e1.den = e2.den)) := by
  obtain ⟨f, hf, pf, vf⟩ := program_correct e1
  obtain ⟨g, hg, pg, vg⟩ := program_correct e2
  exact ⟨f, g, hf, hg, by rw [eq_spec f g pf.loose pg.loose, vf, vg]⟩

/-- the denotation is a reduced residue, so `e1.den = e2.den` is equality in GF(p) -/
theorem den_lt (e : Expr) : e.den < p := by
  obtain ⟨f, _, _, vf⟩ := program_correct e
  rw [← vf]; exact eval_lt f

/-! ## non-vacuity: concrete inputs meet the hypotheses -/

/-- `eval z ≠ 0` of `invert_is_inverse_of_prime` is met e.g. by `Fe::D` -/
example : Loose Fe.D ∧ eval Fe.D ≠ 0 := by decide

example : Loose ⟨2^54 - 1, 2^54 - 1, 2^54 - 1, 2^54 - 1, 2^54 - 1⟩ := by decide
example : SubOk ⟨2^53 - 76, 2^53 - 76, 2^53 - 76, 2^53 - 76, 2^53 - 76⟩ := by decide
example : Pub ⟨2^52 + 2^18 - 1, 0, 2^52, 1, 2^51⟩ := by decide
/-- the subtrahend bound of `Sub` is sharp: one more in limb 0 underflows (`none` = debug-build panic) -/
example : sub Fe.ZERO ⟨2^53 - 75, 0, 0, 0, 0⟩ = none := by decide
/-- the Loose bound of `Mul` is essentially sharp: limbs 2^55 overflow the u64 product `c * 19` -/
example : mul ⟨2^55, 2^55, 2^55, 2^55, 2^55⟩ ⟨2^55, 2^55, 2^55, 2^55, 2^55⟩ = none := by decide

end Cx.Props.C15
