/-
  Props.C15.Final — the group-level statements of C15 with NO remaining hypothesis: primality of 2^255 − 19
  (Proofs/Prime25519.lean) and the Edwards group law (Proofs/EdwardsGroupLaw.lean) are theorems and are plugged into the
  `_partial` theorems of Props/C15/Ge.lean.
-/
import CxVerif.Props.C15.Prime
import CxVerif.Props.C15.GroupLaw
namespace Cx.Props.C15
open Cx.Spec Cx.Impl.Ge Cx.Proofs.EdSpec Cx.Proofs.GeRefine
open Cx.Spec.Edwards (B smul Point)
open Cx.Proofs.EdGroup (edwardsGroupLaw)

/-- **the Edwards group law** (closure + associativity of the affine addition on the points of edwards25519):
    the hypothesis `G : EdwardsGroupLaw` of the `_partial` theorems of C13 / C14 / C15, as a theorem without hypotheses -/
theorem edwards_group_law_unconditional : EdwardsGroupLaw := edwardsGroupLaw

/-- **C15 (fixed-base scalar multiplication)**: for every scalar inside the limb invariant (every `Scalar::from_bytes`
    result) with value `a < 2^255`, `scalarmult_base` returns (no panic) a representation of `[a]B` and its `to_bytes`
    is `encode([a]B)` -/
theorem scalarmult_base_is_smul_B (s : Impl.Scalar64.Scalar) (hs : Proofs.Scalar64.Inv s) (ha : s.val < 2 ^ 255) :
    ∃ h, Ge.scalarmult_base s = some h ∧ GeOk h (smul s.val B) ∧
      h.to_bytes = some (Edwards.encode (smul s.val B)) :=
  scalarmult_base_is_smul_B_partial edwardsGroupLaw s hs ha

/-- `Spec.Edwards.smul` (double-and-add) IS the scalar multiplication of the commutative group of curve points -/
theorem spec_smul_is_group_smul (n : Nat) (P : CurvePoint) :
    smul n P.1 = (letI := curveGroup edwardsGroupLaw; (n • P : CurvePoint)).1 :=
  spec_smul_is_group_smul_partial edwardsGroupLaw n P

theorem smul_closed (n : Nat) (P : Point) (hP : OnCurve P) : OnCurve (smul n P) := edwards_smul_closed n P hP

end Cx.Props.C15
