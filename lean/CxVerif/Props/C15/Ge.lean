/-
  Props.C15.Ge — C15, group part: the Edwards group layer of /repo/src/curve25519/ge.rs (model Impl/Ge.lean over the
  limb model Impl/Fe64.lean) against Spec/Edwards.lean (affine twisted Edwards law over Nat mod p).

  Hypotheses used, always explicit:
    `[Fact (Nat.Prime p)]`      primality of 2^255 − 19 (needed as soon as something is divided; the representation
                                predicates live in the field ZMod p, so the hypothesis appears as an instance argument)
    `G  : EdwardsGroupLaw`      closure + associativity of the affine addition on curve points (proved in
                                Proofs/EdwardsGroupLaw.lean; commutativity, neutral element, inverses, completeness
                                are proved here)
  Theorems that need `G` carry the suffix `_partial`.  (What `scalarmult_base` needs of `Scalar::nibbles` — `NibblesOf s a`: they are the
  radix-16 digits of `a < 2^255` — is no hypothesis here: it is the `nibbles` clause of `Proofs.Ed25519Inst.scalarFacts`, a theorem from
  `nibbles_eq_radix16` of Proofs/Scalar64Digits.lean; the last section shows it inhabited.)

  Representation predicates (Proofs/GeRefine.lean): `GeOk g P` = all limbs of `g` are `Tight` (< 2^51 + 2^17) and
  `(X:Y:Z:T)` read modulo p represents the affine point `P` (X = xZ, Y = yZ, T = xyZ, Z ≠ 0); likewise
  `P1P1Ok`, `PartialOk`, `CachedOk`, `PrecompOk`.
-/
import CxVerif.Proofs.GeComb
import CxVerif.Proofs.GeBytes
import CxVerif.Proofs.Ed25519Inst
namespace Cx.Props.C15
open Cx.Spec Cx.Impl.Ge Cx.Proofs.EdSpec Cx.Proofs.GeRefine
open Cx.Spec.Field25519 (p)
open Cx.Spec.Edwards (B smul)

/-! ### (a) TABLE THEOREM — all 256 + 8 entries, kernel-decided on the tables re-extracted from fe64/precomp.rs -/

/-- every `GE_BASE[i][j]` (i < 32, j < 8) exists, has limbs < 2^51 and is `(y+x, y−x, 2dxy)` of `[(j+1)·256^i]B` -/
theorem GE_BASE_is_the_multiples_of_B (i j : Nat) (hi : i < 32) (hj : j < 8) :
    ∃ row e, GE_BASE[i]? = some row ∧ row[j]? = some e ∧ Proofs.Ge.precompBnd e = true ∧
      Proofs.Ge.precompVals e = Edwards.precomp (smul ((j + 1) * 256 ^ i) B) :=
  Proofs.Ge.GE_BASE_entry i j hi hj

/-- every `BI[k]` (k < 8) is `(y+x, y−x, 2dxy)` of `[2k+1]B` -/
theorem BI_is_the_odd_multiples_of_B (k : Nat) (hk : k < 8) :
    ∃ e, BI[k]? = some e ∧ Proofs.Ge.precompBnd e = true ∧
      Proofs.Ge.precompVals e = Edwards.precomp (smul (2 * k + 1) B) :=
  Proofs.Ge.BI_entry k hk

/-- the base point of the Spec is the RFC's: on the curve, even x recovered from y = 4/5, encoding 5866…66 -/
theorem base_point_is_rfc8032 : Edwards.onCurve B = true ∧ Edwards.recoverX Edwards.By false = some Edwards.Bx ∧
    Edwards.Bx % 2 = 0 ∧
    Edwards.encode B = natToLE 32 0x6666666666666666666666666666666666666666666666666666666666666658 :=
  ⟨Proofs.Ge.B_spec.1, Proofs.Ge.B_spec.2.1, Proofs.Ge.B_spec.2.2.1, Proofs.Ge.B_spec.2.2.2.2⟩

/-! ### (b) the formulas are the affine law (no overflow, limbs stay Tight) — needs only primality -/

section formulas
variable [hp : Fact (Nat.Prime p)]

theorem add_cached_is_affine_add (g : Ge) (c : GeCached) (P Q : Edwards.Point) (hg : GeOk g P) (hc : CachedOk c Q)
    (hP : OnCurve P) (hQ : OnCurve Q) : ∃ r, g.add_cached c = some r ∧ P1P1Ok r (Edwards.add P Q) :=
  add_cached_ok g c P Q hg hc hP hQ

theorem sub_cached_is_affine_sub (g : Ge) (c : GeCached) (P Q : Edwards.Point) (hg : GeOk g P) (hc : CachedOk c Q)
    (hP : OnCurve P) (hQ : OnCurve Q) : ∃ r, g.sub_cached c = some r ∧ P1P1Ok r (Edwards.sub P Q) :=
  sub_cached_ok g c P Q hg hc hP hQ

theorem add_precomp_is_affine_add (g : Ge) (c : GePrecomp) (P Q : Edwards.Point) (hg : GeOk g P)
    (hc : PrecompOk c Q) (hP : OnCurve P) (hQ : OnCurve Q) :
    ∃ r, g.add_precomp c = some r ∧ P1P1Ok r (Edwards.add P Q) :=
  add_precomp_eq ▸ Proofs.GeG.ok_imp (fun _ => p1p1Ok_iff.2)
    (Proofs.GeG.add_precomp_ok (S := spec64) g c P Q (geOk_iff.1 hg) (precompOk_iff.1 hc) hP hQ)

theorem sub_precomp_is_affine_sub (g : Ge) (c : GePrecomp) (P Q : Edwards.Point) (hg : GeOk g P)
    (hc : PrecompOk c Q) (hP : OnCurve P) (hQ : OnCurve Q) :
    ∃ r, g.sub_precomp c = some r ∧ P1P1Ok r (Edwards.sub P Q) :=
  sub_precomp_eq ▸ Proofs.GeG.ok_imp (fun _ => p1p1Ok_iff.2)
    (Proofs.GeG.sub_precomp_ok (S := spec64) g c P Q (geOk_iff.1 hg) (precompOk_iff.1 hc) hP hQ)

theorem double_is_affine_double (g : Ge) (P : Edwards.Point) (hg : GeOk g P) (hP : OnCurve P) :
    ∃ r, g.double_p1p1 = some r ∧ P1P1Ok r (Edwards.double P) :=
  ge_double_p1p1_ok g P hg hP

theorem partial_double_is_affine_double (g : GePartial) (P : Edwards.Point) (hg : PartialOk g P) (hP : OnCurve P) :
    ∃ r, g.double_p1p1 = some r ∧ P1P1Ok r (Edwards.double P) :=
  partial_double_p1p1_eq ▸ Proofs.GeG.ok_imp (fun _ => p1p1Ok_iff.2) (Proofs.GeG.partial_double_p1p1_ok (S := spec64) g P (partialOk_iff.1 hg) hP)

theorem to_full_keeps_the_point (r : GeP1P1) (P : Edwards.Point) (h : P1P1Ok r P) :
    ∃ g, r.to_full = some g ∧ GeOk g P := to_full_ok r P h

theorem to_partial_keeps_the_point (r : GeP1P1) (P : Edwards.Point) (h : P1P1Ok r P) :
    ∃ g, r.to_partial = some g ∧ PartialOk g P :=
  to_partial_eq ▸ Proofs.GeG.ok_imp (fun _ => partialOk_iff.2) (Proofs.GeG.to_partial_ok (S := spec64) r P (p1p1Ok_iff.1 h))

theorem to_cached_keeps_the_point (g : Ge) (P : Edwards.Point) (h : GeOk g P) :
    ∃ c, g.to_cached = some c ∧ CachedOk c P := to_cached_ok g P h

theorem negate_is_affine_neg (g : Ge) (P : Edwards.Point) (h : GeOk g P) :
    ∃ r, g.negate = some r ∧ GeOk r (Edwards.neg P) := negate_ok g P h

/-- the addition law is complete on the curve: no exceptional pairs (d is a non-square, −1 a square) -/
theorem addition_law_is_complete (P Q : Edwards.Point) (hP : OnCurve P) (hQ : OnCurve Q) :
    Field25519.add 1 (Field25519.mul Edwards.d (Field25519.mul (Field25519.mul P.x Q.x) (Field25519.mul P.y Q.y))) ≠ 0 ∧
    Field25519.sub 1 (Field25519.mul Edwards.d (Field25519.mul (Field25519.mul P.x Q.x) (Field25519.mul P.y Q.y))) ≠ 0 := by
  obtain ⟨h1, h2⟩ := denoms P Q hP hQ
  constructor
  · intro h
    apply h1
    have := congrArg (fun n : Nat => (n : Proofs.EdField.Fp)) h
    simp only [Proofs.EdField.cast_add, Proofs.EdField.cast_mul, Nat.cast_one, Nat.cast_zero] at this
    unfold dF; linear_combination this
  · intro h
    apply h2
    have := congrArg (fun n : Nat => (n : Proofs.EdField.Fp)) h
    simp only [Proofs.EdField.cast_sub, Proofs.EdField.cast_mul, Nat.cast_one, Nat.cast_zero] at this
    unfold dF; linear_combination this

/-- proved parts of the group law: commutativity, neutral element, inverse.  (`add_comm'` by its full name: the bare one is also a
    lemma of Mathlib's about `+`, which the elaborator would try on `Edwards.add`) -/
theorem add_comm_zero_neg (P Q : Edwards.Point) (hP : OnCurve P) :
    Edwards.add P Q = Edwards.add Q P ∧ Edwards.add P Edwards.zero = P ∧ Edwards.add P (Edwards.neg P) = Edwards.zero :=
  ⟨Proofs.EdSpec.add_comm' P Q, add_zero' P hP, add_neg' P hP⟩

/-- `to_bytes` is the RFC 8032 §5.1.2 encoding of the represented point -/
theorem to_bytes_is_encode (g : Ge) (P : Edwards.Point) (hg : GeOk g P) (hx : P.x < p) (hy : P.y < p) :
    g.to_bytes = some (Edwards.encode P) := Proofs.GeBytes.ge_to_bytes_ok g P hg hx hy

theorem partial_to_bytes_is_encode (g : GePartial) (P : Edwards.Point) (hg : PartialOk g P) (hx : P.x < p)
    (hy : P.y < p) : g.to_bytes = some (Edwards.encode P) :=
  Proofs.GeBytes.partial_to_bytes_ok g P hg hx hy

end formulas

/-! ### (c) recodings -/

/-- signed radix-16 recoding inside `scalarmult_base`: for 64 nibbles in [0,15] with top nibble ≤ 7 (a < 2^255)
    no `i8` overflow, 64 digits in [−8, 8], same value Σ e_i·16^i -/
theorem recode_is_signed_radix16 (es : List Int) (hlen : es.length = 64) (hes : ∀ e ∈ es, 0 ≤ e ∧ e ≤ 15)
    (htop : ∀ t, es[63]? = some t → t ≤ 7) :
    ∃ r, recode es = some r ∧ r.length = 64 ∧ (∀ e ∈ r, -8 ≤ e ∧ e ≤ 8) ∧
      ScalarL.evalDigits 16 r = ScalarL.evalDigits 16 es :=
  Proofs.GeRecode.recode_spec es hlen hes htop

/-- `GePrecomp::select(pos, b)` for −8 ≤ b ≤ 8 is the identity (b = 0), the table entry for |b| (b > 0), or its
    negation (b < 0) — through the masked-set theorems of C18 -/
theorem select_is_signed_table_entry [hp : Fact (Nat.Prime p)] (pos : Nat) (b : Int) (hb : -8 ≤ b ∧ b ≤ 8)
    (e0 e1 e2 e3 e4 e5 e6 e7 : GePrecomp) (hrow : GE_BASE[pos]? = some [e0, e1, e2, e3, e4, e5, e6, e7])
    (Q : Nat → Edwards.Point)
    (h0 : PrecompOk e0 (Q 0)) (h1 : PrecompOk e1 (Q 1)) (h2 : PrecompOk e2 (Q 2)) (h3 : PrecompOk e3 (Q 3))
    (h4 : PrecompOk e4 (Q 4)) (h5 : PrecompOk e5 (Q 5)) (h6 : PrecompOk e6 (Q 6)) (h7 : PrecompOk e7 (Q 7)) :
    ∃ t, GePrecomp.select pos b = some t ∧
      PrecompOk t (if b < 0 then Edwards.neg (Proofs.GeSelect.pointOf Q b.natAbs)
        else Proofs.GeSelect.pointOf Q b.natAbs) :=
  select_eq ▸ Proofs.GeG.ok_imp (fun _ => precompOk_iff.2) (Proofs.GeG.select_ok (S := spec64) pos b hb _ hrow Q
    (Proofs.GeSelect.row8 (P := fun k e => Proofs.GeG.PrecompOk spec64 e (Q k)) (precompOk_iff.1 h0) (precompOk_iff.1 h1) (precompOk_iff.1 h2)
      (precompOk_iff.1 h3) (precompOk_iff.1 h4) (precompOk_iff.1 h5) (precompOk_iff.1 h6) (precompOk_iff.1 h7)))

/-! ### (d) fixed-base scalar multiplication -/

/-- `scalarmult_base(s).to_bytes() = encode([a]B)` for every scalar `s` inside the scalar64 limb invariant `Inv`
    (every `Scalar::from_bytes` result) with value `a < 2^255`, under the hypotheses `Nat.Prime p` and
    `EdwardsGroupLaw` (closure + associativity of the affine law).  No panic, output Tight.
    Without the two hypotheses: `scalarmult_base_is_smul_B` in Props/C15/Final.lean. -/
theorem scalarmult_base_is_smul_B_partial [hp : Fact (Nat.Prime p)] (G : EdwardsGroupLaw)
    (s : Impl.Scalar64.Scalar) (hs : Proofs.Scalar64.Inv s) (ha : s.val < 2 ^ 255) :
    ∃ h, Ge.scalarmult_base s = some h ∧ GeOk h (smul s.val B) ∧
      h.to_bytes = some (Edwards.encode (smul s.val B)) := by
  have : Proofs.GeComb.GroupLawFact := ⟨G⟩
  rw [scalarmult_base_eq, ge_to_bytes_eq]
  exact (Proofs.Ed25519G.base_mul_scalar Proofs.GeComb.baseTable (Proofs.Ed25519Sign.scalarSpec Proofs.Ed25519Inst.scalarFacts) s hs ha).imp
    fun _ h => ⟨h.1, geOk_iff.2 h.2.1, h.2.2⟩

/-- under the group-law hypothesis `Spec.Edwards.smul` (double-and-add) is the scalar multiplication of the group
    of curve points; in particular it is additive and multiplicative in the scalar -/
theorem spec_smul_is_group_smul_partial [hp : Fact (Nat.Prime p)] (G : EdwardsGroupLaw) (n : Nat) (P : CurvePoint) :
    smul n P.1 = (letI := curveGroup G; (n • P : CurvePoint)).1 :=
  smul_eq_nsmul G n P

/-! ### non-vacuity of the hypotheses -/

/-- the representation predicate is inhabited: `Ge::ZERO` represents the neutral element -/
example [Fact (Nat.Prime p)] : GeOk Ge.ZERO Edwards.zero := ZERO_ok
example : OnCurve B := Proofs.Ge.B_spec.1
set_option maxRecDepth 100000 in
/-- a concrete scalar satisfying `NibblesOf`: limbs of 2^252 + 0x1234567 -/
example : Proofs.GeComb.NibblesOf ⟨0x1234567, 0, 0, 0, 2 ^ 28⟩ (2 ^ 252 + 0x1234567) := by
  unfold Proofs.GeComb.NibblesOf; decide +kernel
/-- a recoding input satisfying the hypotheses of `recode_is_signed_radix16` (all nibbles 15, top nibble 7) -/
example : (List.replicate 63 (15 : Int) ++ [7]).length = 64 ∧ (∀ e ∈ List.replicate 63 (15 : Int) ++ [7], 0 ≤ e ∧ e ≤ 15) := by
  decide

end Cx.Props.C15
