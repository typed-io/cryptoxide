/-
  Props.C15.GlueTieCurve — the translator tie for the CURVE LAYER above the fe64 / scalar64 limb kernels.
  `Extracted/GlueCurve.lean` is regenerated from the CURRENT /repo/src (curve25519/ge.rs, ed25519.rs, curve25519/mod.rs,
  x25519.rs, fe/mod.rs, fe/fe64/mod.rs, scalar/mod.rs, scalar/scalar64.rs) on every run by tools/ktx_glue_curve.py
  (specs: tools/kernels/glue_curve.py).  For every translated function `f` the theorem `f_src_eq_model` says that the
  hand-written model of lean/CxVerif/Impl — about which the refinement theorems of C12–C15 are proved — IS that code, for ALL
  arguments (every representation, every digit, every byte string of every length): a changed operand, sign, table index,
  loop bound, carry, bit position or order of refusals in the source changes the generated definition and breaks a proof
  obligation here even when no sampled input reaches it.
  `rfl` where the translator emits exactly the model's shape; proved (case analysis / induction) where the shapes differ.
-/
import CxVerif.Proofs.GlueCurve
namespace Cx.Props.C15.GlueTieCurve
open Cx.Impl Cx.Impl.Fe64 Cx.Impl.Ge Cx.Extracted.GlueCurve Cx.Proofs.GlueCurve
open Cx.Proofs (some_bind)

/-! ## (c) ge.rs — representations and formulas -/

theorem GeAffine.to_bytes_src_eq_model (s : GeAffine) : GeAffine.to_bytes_src s = GeAffine.to_bytes s := by rfl
/-- the decompression of RFC 8032 5.1.3 (incl. both refusals and the sign adjustment), for every byte string -/
theorem GeAffine.from_bytes_src_eq_model (s : Bytes) : GeAffine.from_bytes_src s = GeAffine.from_bytes s := by
  unfold GeAffine.from_bytes_src GeAffine.from_bytes
  by_cases h : s.length = 32
  · rw [if_pos h, dif_pos h]
    have hy : fromBytes s = some (from_bytes s h) := by simp only [fromBytes, dif_pos h]
    rw [hy, some_bind]
    -- the two texts differ only in the join point after the square-root tests
    simp only [GeAffine.from_bytes_k1 s h]
  · rw [if_neg h, dif_neg h]
theorem GeP1P1.to_partial_src_eq_model (s : GeP1P1) : GeP1P1.to_partial_src s = GeP1P1.to_partial s := by rfl
theorem GeP1P1.to_full_src_eq_model (s : GeP1P1) : GeP1P1.to_full_src s = GeP1P1.to_full s := by rfl
theorem GePartial.ZERO_src_eq_model : GePartial.ZERO_src = GePartial.ZERO := by rfl
theorem GePartial.to_bytes_src_eq_model (s : GePartial) : GePartial.to_bytes_src s = GePartial.to_bytes s := by rfl
theorem GePartial.double_p1p1_src_eq_model (s : GePartial) : GePartial.double_p1p1_src s = GePartial.double_p1p1 s := by rfl
theorem GePartial.double_src_eq_model (s : GePartial) : GePartial.double_src s = GePartial.double s := by rfl
theorem GePartial.double_full_src_eq_model (s : GePartial) : GePartial.double_full_src s = GePartial.double_full s := by rfl
theorem Ge.ZERO_src_eq_model : Ge.ZERO_src = Ge.ZERO := by rfl
theorem Ge.from_affine_src_eq_model (a : GeAffine) : Ge.from_affine_src a = Ge.from_affine a := by rfl
theorem Ge.to_affine_src_eq_model (s : Ge) : Ge.to_affine_src s = Ge.to_affine s := by rfl
theorem Ge.from_bytes_src_eq_model (s : Bytes) : Ge.from_bytes_src s = Ge.from_bytes s := by
  unfold Ge.from_bytes_src Ge.from_bytes
  by_cases h : s.length = 32
  · simp only [h, if_true]
    cases GeAffine.from_bytes s with
    | none => rfl
    | some o => cases o with
      | none => rfl
      | some a => cases hh : Ge.from_affine a <;> simp [hh]
  · have : GeAffine.from_bytes s = none := by simp [GeAffine.from_bytes, h]
    simp [h, this]
theorem Ge.negate_src_eq_model (s : Ge) : Ge.negate_src s = Ge.negate s := by rfl
theorem Ge.to_partial_src_eq_model (s : Ge) : Ge.to_partial_src s = Ge.to_partial s := by rfl
theorem Ge.to_cached_src_eq_model (s : Ge) : Ge.to_cached_src s = Ge.to_cached s := by rfl
theorem Ge.double_p1p1_src_eq_model (s : Ge) : Ge.double_p1p1_src s = Ge.double_p1p1 s := by rfl
theorem Ge.double_src_eq_model (s : Ge) : Ge.double_src s = Ge.double s := by rfl
theorem Ge.double_partial_src_eq_model (s : Ge) : Ge.double_partial_src s = Ge.double_partial s := by rfl
theorem Ge.to_bytes_src_eq_model (s : Ge) : Ge.to_bytes_src s = Ge.to_bytes s := by rfl
theorem Ge.add_cached_src_eq_model (s : Ge) (r : GeCached) : Ge.add_cached_src s r = Ge.add_cached s r := by rfl
theorem Ge.add_precomp_src_eq_model (s : Ge) (r : GePrecomp) : Ge.add_precomp_src s r = Ge.add_precomp s r := by rfl
theorem Ge.sub_cached_src_eq_model (s : Ge) (r : GeCached) : Ge.sub_cached_src s r = Ge.sub_cached s r := by rfl
theorem Ge.sub_precomp_src_eq_model (s : Ge) (r : GePrecomp) : Ge.sub_precomp_src s r = Ge.sub_precomp s r := by rfl
/-- the by-value operator impls forward to the by-reference ones -/
theorem Ge.sub_cached_val_src_eq_model (s : Ge) (r : GeCached) : Ge.sub_cached_val_src s r = Ge.sub_cached s r := by rfl
theorem Ge.sub_precomp_val_src_eq_model (s : Ge) (r : GePrecomp) : Ge.sub_precomp_val_src s r = Ge.sub_precomp s r := by rfl
theorem GePrecomp.ZERO_src_eq_model : GePrecomp.ZERO_src = GePrecomp.ZERO := by rfl
theorem GePrecomp.maybe_set_src_eq_model (s o : GePrecomp) (c : CT.Choice) :
    GePrecomp.maybe_set_src s o c = GePrecomp.maybe_set s o c := by rfl
/-- the masked table lookup: sign and absolute value by `i8`/`u8` bit tricks, the eight masked sets in source order, the
    conditional negation; every table row `pos` (also out of range: both panic), every `i8` value `b` (outside −8..8: the
    `debug_assert!`) -/
theorem GePrecomp.select_src_eq_model (pos : Nat) (b : Int) : GePrecomp.select_src pos b = GePrecomp.select pos b := by
  -- the generated guard carries the `debug_assert!` marker (`Glue.debugAssert`, not definitionally its argument): it is removed
  -- by `select_src_unmarked`, whose proof fails when the source says `assert!` instead
  by_cases h : -8 ≤ b ∧ b ≤ 8
  · exact GePrecomp.select_in pos b h
  · have h1 : ¬ (b ≥ (-8 : Int) ∧ b ≤ (8 : Int)) := h
    have h2 : b < -8 ∨ b > 8 := by omega
    rw [GePrecomp.select_src_unmarked]
    simp only [GePrecomp.select, h1, h2, if_false, if_true]

/-! ## (c) ge.rs — the loops -/

section geloops

/-- `Ge::scalarmult_base`: the nibbles, the signed recoding (carry loop over `es[0..63]`, the last carry into `es[63]`), the comb
    loop over the odd digits, four doublings, the comb loop over the even digits — for every scalar -/
theorem Ge.scalarmult_base_src_eq_model (a : Scalar64.Scalar) : Ge.scalarmult_base_src a = Ge.scalarmult_base a := by
  unfold Ge.scalarmult_base_src Ge.scalarmult_base
  rw [← recode_src _ (by simp)]
  simp only [Ge.scalarmult_base_loop1, Ge.scalarmult_base_loop2, Ge.scalarmult_base_loop3, bind_assoc, pure_bind]

/-- `GePartial::double_scalarmult_vartime`: both slide recodings, the table of odd multiples, the search for the top non-zero
    index from 255 down, the window loop down to index 0 (the fuel `i + 1` of both `loop`s is adequate: the model has none) -/
theorem GePartial.double_scalarmult_vartime_src_eq_model (a : Scalar64.Scalar) (A : Ge) (b : Scalar64.Scalar) :
    GePartial.double_scalarmult_vartime_src a A b = GePartial.double_scalarmult_vartime a A b := by
  unfold GePartial.double_scalarmult_vartime_src GePartial.double_scalarmult_vartime nextOdd
  generalize Scalar64.slide a = sa
  generalize Scalar64.slide b = sb
  cases sa with
  | none => rfl
  | some va =>
    cases sb with
    | none => rfl
    | some vb =>
      have hl := GePartial.dsm_loop2 va.toList vb.toList
      simp only [Option.map_some, some_bind, bind_assoc]
      repeat (refine bind_congr fun _ => ?_)
      rename_i a1 _ a2 _ _ a3 _ _ a5 _ _ a7 _ _ a9 _ _ a11 _ _ a13 _ _ a15
      exact hl [a1, a3, a5, a7, a9, a11, a13, a15] GePartial.ZERO (by simp) (by simp) 256 (by omega)

end geloops

/-! ## (e) ed25519.rs — key generation, signing, verification (order of refusals, all-zero key test, hash composition), exchange -/

/-- the three checked reads succeed exactly when the model's length test passes (`set` keeps the length), and `set` of the value read
    is the model's `modify` -/
theorem Ed25519.clamp_scalar_src_eq_model (s : Bytes) : Ed25519.clamp_scalar_src s = Ed25519.clamp_scalar s := by
  unfold Ed25519.clamp_scalar_src Ed25519.clamp_scalar
  split <;> simp (disch := simp only [List.length_set, Nat.not_lt] at *; omega) only [bind, pure, List.getElem?_eq_getElem,
    List.getElem?_eq_none, Option.bind_some, Option.bind_none, Option.bind_fun_none, List.modify_eq_set, Option.getD_some]
theorem Ed25519.extended_secret_src_eq_model (pk : Bytes) : Ed25519.extended_secret_src pk = Ed25519.extended_secret pk := by
  unfold Ed25519.extended_secret_src Ed25519.extended_secret
  by_cases h : pk.length = 32
  · rw [if_pos h, if_pos h]; simp only [Ed25519.sha512_1, bind_assoc]
  · rw [if_neg h, if_neg h]
theorem Ed25519.keypair_private_src_eq_model (k : Bytes) : Ed25519.keypair_private_src k = Ed25519.keypair_private k := by rfl
theorem Ed25519.keypair_public_src_eq_model (k : Bytes) : Ed25519.keypair_public_src k = Ed25519.keypair_public k := by
  unfold Ed25519.keypair_public_src Ed25519.keypair_public
  by_cases h : k.length = 64
  · rw [if_pos h, if_pos h, List.take_of_length_le (by simp only [List.length_drop]; omega)]; rfl
  · rw [if_neg h, if_neg h]
theorem Ed25519.extended_scalar_src_eq_model (k : Bytes) : Ed25519.extended_scalar_src k = Ed25519.extended_scalar k := by rfl
theorem Ed25519.extended_scalar_bytes_src_eq_model (k : Bytes) : Ed25519.extended_scalar_bytes_src k = Ed25519.extended_scalar_bytes k := by rfl
theorem Ed25519.extended_to_public_src_eq_model (k : Bytes) : Ed25519.extended_to_public_src k = Ed25519.extended_to_public k := by
  unfold Ed25519.extended_to_public_src Ed25519.extended_to_public
  by_cases h : k.length = 64
  · rw [if_pos h]
  · rw [if_neg h]
    have : Ed25519.extended_scalar k = none := by unfold Ed25519.extended_scalar; rw [if_neg h]
    rw [this]; rfl
theorem Ed25519.keypair_src_eq_model (k : Bytes) : Ed25519.keypair_src k = Ed25519.keypair k := by
  unfold Ed25519.keypair_src Ed25519.keypair
  by_cases h : k.length = 32
  · rw [if_pos h]
  · rw [if_neg h]
    have : Ed25519.extended_secret k = none := by unfold Ed25519.extended_secret; rw [if_neg h]
    rw [this]; rfl
theorem Ed25519.signature_nonce_src_eq_model (e m : Bytes) : Ed25519.signature_nonce_src e m = Ed25519.signature_nonce e m := by
  unfold Ed25519.signature_nonce_src Ed25519.signature_nonce
  by_cases h : e.length = 64
  · rw [if_pos h, if_pos h]; simp only [Ed25519.sha512_2, bind_assoc]
  · rw [if_neg h, if_neg h]

theorem Ed25519.signature_src_eq_model (m k : Bytes) : Ed25519.signature_src m k = Ed25519.signature m k := by
  unfold Ed25519.signature_src Ed25519.signature
  by_cases h : k.length = 64
  · rw [if_pos h]
    refine bind_congr fun private_key => ?_
    refine bind_congr fun public_key => ?_
    refine bind_congr fun az => ?_
    refine bind_congr fun nonce => ?_
    exact Ed25519.signature_tail_src m public_key az nonce
  · rw [if_neg h]
    have : Ed25519.keypair_private k = none := by unfold Ed25519.keypair_private; rw [if_neg h]
    rw [this]; rfl
theorem Ed25519.signature_extended_src_eq_model (m k : Bytes) : Ed25519.signature_extended_src m k = Ed25519.signature_extended m k := by
  unfold Ed25519.signature_extended_src Ed25519.signature_extended
  by_cases h : k.length = 64
  · rw [if_pos h]
    refine bind_congr fun public_key => ?_
    refine bind_congr fun nonce => ?_
    exact Ed25519.signature_tail_src m public_key k nonce
  · rw [if_neg h]
    have : Ed25519.extended_to_public k = none := by
      unfold Ed25519.extended_to_public Ed25519.extended_scalar; rw [if_neg h]; rfl
    rw [this]; rfl
theorem Ed25519.verify_src_eq_model (m pk sg : Bytes) : Ed25519.verify_src m pk sg = Ed25519.verify m pk sg := by
  unfold Ed25519.verify_src Ed25519.verify
  by_cases h : pk.length = 32 ∧ sg.length = 64
  · rw [if_pos h, if_pos h]
    refine bind_congr fun o => ?_
    cases o with
    | none => rfl
    | some g =>
      refine bind_congr fun a => ?_
      refine bind_congr fun o2 => ?_
      cases o2 with
      | none => rfl
      | some s =>
        simp only [Ed25519.verify_loop1, Ed25519.sha512_3, bind_assoc]
  · rw [if_neg h, if_neg h]
theorem Ed25519.edwards_to_montgomery_x_src_eq_model (y : Fe) : Ed25519.edwards_to_montgomery_x_src y = Ed25519.edwards_to_montgomery_x y := by rfl
theorem Ed25519.exchange_src_eq_model (pk sk : Bytes) : Ed25519.exchange_src pk sk = Ed25519.exchange pk sk := by
  unfold Ed25519.exchange_src Ed25519.exchange
  by_cases h : pk.length = 32 ∧ sk.length = 32
  · rw [if_pos h]; rfl
  · rw [if_neg h]
    by_cases h1 : pk.length = 32
    · have h2 : ¬ sk.length = 32 := fun h2 => h ⟨h1, h2⟩
      have : Ed25519.extended_secret sk = none := by unfold Ed25519.extended_secret; rw [if_neg h2]
      rw [this]
      cases Fe64.fromBytes pk with
      | none => rfl
      | some y =>
        rw [some_bind]
        cases Ed25519.edwards_to_montgomery_x y <;> rfl
    · have : Fe64.fromBytes pk = none := by unfold Fe64.fromBytes; rw [dif_neg h1]
      rw [this]; rfl

/-! ## (d) curve25519/mod.rs, x25519.rs — clamping, the 255-step ladder with masked swaps, the final inversion -/

section ladder
open Cx.Impl.X25519 (clampE ladderMain)

/-- `curve25519(n, p)` for all byte strings (`curve25519M` = the model `X25519.curve25519` with the length facts of the
    `[u8; 32]` parameter types supplied; another length is not expressible in Rust: `none`) -/
theorem curve25519_src_eq_model (n p : Bytes) : curve25519_src n p = curve25519M n p := by
  unfold curve25519_src curve25519M
  by_cases h : n.length = 32 ∧ p.length = 32
  · rw [if_pos h, dif_pos h]
    have hy : fromBytes p = some (from_bytes p h.2) := by simp only [fromBytes, dif_pos h.2]
    have he : (clampE n).length = 32 := by rw [X25519.clampE_length]; exact h.1
    unfold X25519.curve25519 ladderMain
    rw [hy, some_bind]
    show (curve25519_loop1_src (clampE n) (from_bytes p h.2) 255 Fe.ONE Fe.ZERO (from_bytes p h.2) Fe.ONE (CT.u64_ct_zero 1) >>= _) = _
    rw [curve25519_loop1 (clampE n) he (from_bytes p h.2) 255 (by omega), toTuple_bind]
  · rw [if_neg h, dif_neg h]

theorem curve25519_base_src_eq_model (n : Bytes) : curve25519_base_src n = curve25519_baseM n := by
  unfold curve25519_base_src curve25519_baseM
  by_cases h : n.length = 32
  · rw [if_pos h, dif_pos h]
    have hy : fromBytes X25519.BASE = some (from_bytes X25519.BASE X25519.BASE_length) := by
      simp only [fromBytes, dif_pos X25519.BASE_length]
    have he : (clampE n).length = 32 := by rw [X25519.clampE_length]; exact h
    unfold X25519.curve25519_base ladderMain
    rw [hy, some_bind]
    show (curve25519_base_loop1_src (clampE n) 255 Fe.ONE Fe.ZERO (from_bytes X25519.BASE X25519.BASE_length) Fe.ONE
      (CT.u64_ct_zero 1) >>= _) = _
    rw [curve25519_base_loop1 (clampE n) he 255 (by omega), toTuple_bind]
  · rw [if_neg h, dif_neg h]

/-- `x25519::dh` / `x25519::base`: the newtypes over `[u8; 32]` are erased -/
theorem X25519.dh_src_eq_model (n p : Bytes) :
    X25519.dh_src n p = if h : n.length = 32 ∧ p.length = 32 then Impl.X25519.dh n p h.1 h.2 else none := by
  unfold X25519.dh_src curve25519M Impl.X25519.dh
  by_cases h : n.length = 32 ∧ p.length = 32
  · rw [if_pos h]
  · rw [if_neg h, dif_neg h]
theorem X25519.base_src_eq_model (x : Bytes) :
    X25519.base_src x = if h : x.length = 32 then Impl.X25519.base x h else none := by
  unfold X25519.base_src curve25519_baseM Impl.X25519.base
  by_cases h : x.length = 32
  · rw [if_pos h]
  · rw [if_neg h, dif_neg h]

end ladder

/-! ## (a) Fe — the compositions above the limb kernels (fe/mod.rs, fe/fe64/mod.rs) -/

theorem Fe.pow25523_src_eq_model (z : Fe) : Fe.pow25523_src z = Fe64.pow25523 z := by
  unfold Fe.pow25523_src Fe64.pow25523 chain250
  simp only [bind_assoc, pure_bind]
theorem Fe.invert_src_eq_model (z : Fe) : Fe.invert_src z = Fe64.invert z := by
  unfold Fe.invert_src Fe64.invert chain250
  simp only [bind_assoc, pure_bind]
theorem Fe.square_repeatdly_src_eq_model (f : Fe) (n : Nat) : Fe.square_repeatdly_src f n = square_repeatdly f n := Fe.square_repeatdly_loop1 n f
theorem Fe.square_and_double_src_eq_model (f : Fe) : Fe.square_and_double_src f = square_and_double f := by rfl
theorem Fe.is_nonzero_src_eq_model (f : Fe) : Fe.is_nonzero_src f = is_nonzero f := by rfl
theorem Fe.is_negative_src_eq_model (f : Fe) : Fe.is_negative_src f = is_negative f := by
  unfold Fe.is_negative_src is_negative
  refine bind_congr fun w => ?_
  cases w <;> rfl
theorem Fe.maybe_swap_with_src_eq_model (f g : Fe) (c : CT.Choice) : Fe.maybe_swap_with_src f g c = maybe_swap_with f g c := by rfl
theorem Fe.maybe_set_src_eq_model (f g : Fe) (c : CT.Choice) : Fe.maybe_set_src f g c = Fe64.maybe_set f g c := by rfl
theorem Fe.ct_eq_src_eq_model (f g : Fe) : Fe.ct_eq_src f g = Fe64.ct_eq f g := by rfl
theorem Fe.eq_src_eq_model (f g : Fe) : Fe.eq_src f g = Fe64.eq f g := by rfl
theorem Fe.ct_ne_src_eq_model (f g : Fe) : Fe.ct_ne_src f g = (Fe64.ct_eq f g).map CT.Choice.negate := by
  unfold Fe.ct_ne_src; cases Fe64.ct_eq f g <;> rfl
/-- the limb-level statements of `negate_mut` are those of `Neg` (the model's `negate_mut g := neg g`) -/
theorem Fe.negate_mut_src_eq_model (f : Fe) : Fe.negate_mut_src f = negate_mut f := by rfl

theorem Fe.from_bytes_src_eq_model (b : Bytes) : Fe.from_bytes_src b = fromBytes b := by
  unfold Fe.from_bytes_src fromBytes
  by_cases h : b.length = 32
  · rw [if_pos h, dif_pos h, Fe.from_bytes_load b h 0 (by omega), Fe.from_bytes_load b h 6 (by omega), Fe.from_bytes_load b h 12 (by omega),
      Fe.from_bytes_load b h 19 (by omega),
      Fe.from_bytes_load b h 24 (by omega)]
    rfl
  · rw [if_neg h, dif_neg h]
/-- `to_packed`, then the four `write8!` expansions (32 single-byte stores) = the four words little endian -/
theorem Fe.to_bytes_src_eq_model (f : Fe) : Fe.to_bytes_src f = Fe64.to_bytes f := by
  unfold Fe.to_bytes_src Fe64.to_bytes
  cases h : to_packed f with
  | none => rfl
  | some w =>
    have hl := Proofs.GeEncLen.to_packed_length f w h
    match w, hl with
    | [a, b, c, d], _ =>
      obtain ⟨a0, a1, a2, a3, a4, a5, a6, a7, ha⟩ := natToLE_8 a
      obtain ⟨b0, b1, b2, b3, b4, b5, b6, b7, hb⟩ := natToLE_8 b
      obtain ⟨c0, c1, c2, c3, c4, c5, c6, c7, hc⟩ := natToLE_8 c
      obtain ⟨d0, d1, d2, d3, d4, d5, d6, d7, hd⟩ := natToLE_8 d
      rw [some_bind, some_bind]
      dsimp only
      rw [ha, hb, hc, hd]
      have hr : List.flatMap (natToLE 8) [a, b, c, d] = [a0, a1, a2, a3, a4, a5, a6, a7, b0, b1, b2, b3, b4, b5, b6, b7,
          c0, c1, c2, c3, c4, c5, c6, c7, d0, d1, d2, d3, d4, d5, d6, d7] := by
        simp only [List.flatMap_cons, List.flatMap_nil, ha, hb, hc, hd, List.append_nil, List.cons_append, List.nil_append]
      rw [hr]
      simp only [List.getElem?_cons_zero, List.getElem?_cons_succ, some_bind]
      simp only [zeros, List.replicate, List.set_cons_zero, List.set_cons_succ]

/-! ## (b) Scalar -/

section scalarbytes

theorem Scalar.from_bytes_src_eq_model (b : Bytes) : Scalar.from_bytes_src b = Scalar64.fromBytes b := by
  unfold Scalar.from_bytes_src Scalar64.fromBytes Scalar64.toArr
  by_cases h : b.length = 32
  · rw [if_pos h, dif_pos h, Scalar.from_bytes_load b h 0 (by omega), Scalar.from_bytes_load b h 8 (by omega),
      Scalar.from_bytes_load b h 16 (by omega), Scalar.from_bytes_load b h 24 (by omega)]
    generalize (⟨b.toArray, by simp [h]⟩ : Vector UInt8 32) = v
    rw [some_bind, some_bind, some_bind, some_bind, Option.map_some]
    unfold Scalar64.from_bytes
    dsimp only
    rfl
  · rw [if_neg h, dif_neg h]; rfl

theorem Scalar.reduce_from_wide_bytes_src_eq_model (b : Bytes) : Scalar.reduce_from_wide_bytes_src b = Scalar64.reduceFromWideBytes b := by
  unfold Scalar.reduce_from_wide_bytes_src Scalar64.reduceFromWideBytes Scalar64.toArr
  by_cases h : b.length = 64
  · rw [if_pos h, dif_pos h, Scalar.reduce_from_wide_bytes_load b h 0 (by omega), Scalar.reduce_from_wide_bytes_load b h 8 (by omega),
      Scalar.reduce_from_wide_bytes_load b h 16 (by omega), Scalar.reduce_from_wide_bytes_load b h 24 (by omega),
      Scalar.reduce_from_wide_bytes_load b h 32 (by omega), Scalar.reduce_from_wide_bytes_load b h 40 (by omega),
      Scalar.reduce_from_wide_bytes_load b h 48 (by omega), Scalar.reduce_from_wide_bytes_load b h 56 (by omega)]
    generalize (⟨b.toArray, by simp [h]⟩ : Vector UInt8 64) = v
    rw [some_bind, some_bind, some_bind, some_bind, some_bind, some_bind, some_bind, some_bind, Option.bind_some]
    unfold Scalar64.reduce_from_wide_bytes
    dsimp only
    rfl
  · rw [if_neg h, dif_neg h]; rfl
theorem Scalar.to_bytes_src_eq_model (s : Scalar64.Scalar) : Scalar.to_bytes_src s = some (Scalar64.to_bytes s) := by
  unfold Scalar.to_bytes_src Scalar64.to_bytes Scalar64.to_le_bytes
  dsimp only
  show _ = some (natToLE 8 (((s.l1 <<< 56) % 2 ^ 64) ||| s.l0) ++ natToLE 8 (((s.l2 <<< 48) % 2 ^ 64) ||| (s.l1 >>> 8))
    ++ natToLE 8 (((s.l3 <<< 40) % 2 ^ 64) ||| (s.l2 >>> 16)) ++ natToLE 8 (((s.l4 <<< 32) % 2 ^ 64) ||| (s.l3 >>> 24)))
  generalize (((s.l1 <<< 56) % 2 ^ 64) ||| s.l0) = a
  generalize (((s.l2 <<< 48) % 2 ^ 64) ||| (s.l1 >>> 8)) = b
  generalize (((s.l3 <<< 40) % 2 ^ 64) ||| (s.l2 >>> 16)) = c
  generalize (((s.l4 <<< 32) % 2 ^ 64) ||| (s.l3 >>> 24)) = d
  obtain ⟨a0, a1, a2, a3, a4, a5, a6, a7, ha⟩ := natToLE_8 a
  obtain ⟨b0, b1, b2, b3, b4, b5, b6, b7, hb⟩ := natToLE_8 b
  obtain ⟨c0, c1, c2, c3, c4, c5, c6, c7, hc⟩ := natToLE_8 c
  obtain ⟨d0, d1, d2, d3, d4, d5, d6, d7, hd⟩ := natToLE_8 d
  rw [ha, hb, hc, hd]
  simp only [List.getElem?_cons_zero, List.getElem?_cons_succ, some_bind]
  simp only [zeros, List.replicate, List.set_cons_zero, List.set_cons_succ]
  rfl
/-- `bits` / `nibbles` (loops filling `[i8; 256]` / `[i8; 64]`): the model's vectors as lists -/
theorem Scalar.bits_src_eq_model (s : Scalar64.Scalar) : Scalar.bits_src s = some (Scalar64.bits s).toList := by
  unfold Scalar.bits_src
  dsimp only
  generalize hcl : ((((List.replicate 4 0).set 0 (s.l1 <<< 56 % 2 ^ 64 ||| s.l0)).set 1 (s.l2 <<< 48 % 2 ^ 64 ||| s.l1 >>> 8)).set 2
    (s.l3 <<< 40 % 2 ^ 64 ||| s.l2 >>> 16)).set 3 (s.l4 <<< 32 % 2 ^ 64 ||| s.l3 >>> 24) = cl
  have hcl4 : cl.length = 4 := by rw [← hcl]; simp
  rw [Scalar.bits_loop1 cl hcl4 256 0 _ (by omega) (by rw [List.length_replicate]; omega),
    Proofs.GlueVocab.splice_all (by rw [List.length_map, List.length_range, List.length_replicate]),
    Proofs.GlueVocab.map_range_eq_ofFn, Scalar64.bits, Vector.toList_ofFn]
  refine congrArg some (congrArg List.ofFn (funext fun j => ?_))
  have hs : j.val >>> 6 < 4 := by have := j.isLt; rw [Nat.shiftRight_eq_div_pow]; omega
  simp only [Nat.zero_add, Scalar.bitF, List.getElem?_eq_getElem (by omega : j.val >>> 6 < cl.length)]
  subst hcl
  rfl
theorem Scalar.nibbles_src_eq_model (s : Scalar64.Scalar) : Scalar.nibbles_src s = some (Scalar64.nibbles s).toList := by
  unfold Scalar.nibbles_src
  dsimp only
  generalize hcl : ((((List.replicate 4 0).set 0 (s.l1 <<< 56 % 2 ^ 64 ||| s.l0)).set 1 (s.l2 <<< 48 % 2 ^ 64 ||| s.l1 >>> 8)).set 2
    (s.l3 <<< 40 % 2 ^ 64 ||| s.l2 >>> 16)).set 3 (s.l4 <<< 32 % 2 ^ 64 ||| s.l3 >>> 24) = cl
  have hcl4 : cl.length = 4 := by rw [← hcl]; simp
  rw [Scalar.nibbles_loop1 cl hcl4 4 0 _ (by omega) (by rw [List.length_replicate]; omega),
    Proofs.GlueVocab.splice_all (by rw [List.length_map, List.length_range, List.length_replicate]),
    Proofs.GlueVocab.map_range_eq_ofFn, Scalar64.nibbles, Vector.toList_ofFn]
  refine congrArg some (congrArg List.ofFn (funext fun j => ?_))
  have hj := j.isLt
  simp only [Nat.mul_zero, Nat.zero_add, Scalar.nibF, List.getElem?_eq_getElem (by omega : j.val / 16 < cl.length)]
  subst hcl
  rfl

end scalarbytes

theorem Scalar.muladd_src_eq_model (a b c : Scalar64.Scalar) : Scalar.muladd_src a b c = Scalar64.muladd a b c := by
  unfold Scalar.muladd_src Scalar64.muladd
  refine bind_congr fun m => ?_
  generalize Scalar64.add m c = o
  cases o <;> rfl
theorem Scalar.from_bytes_canonical_src_eq_model (b : Bytes) : Scalar.from_bytes_canonical_src b = Scalar64.fromBytesCanonical b := by
  unfold Scalar.from_bytes_canonical_src Scalar64.fromBytesCanonical Scalar64.fromBytes Scalar64.toArr
  by_cases h : b.length = 32
  · rw [if_pos h, dif_pos h]
    generalize (⟨b.toArray, by simp [h]⟩ : Vector UInt8 32) = v
    rw [Option.map_some, some_bind, Option.bind_some]
    unfold Scalar64.from_bytes_canonical
    dsimp only
  · rw [if_neg h, dif_neg h]
    rfl

/-- `Scalar::slide`: the three nested loops (window growth, borrow propagation with `break`) on `[i8; 256]`, every `i8` operation
    checked — for every scalar; the result is the model's `Vector` as a list -/
theorem Scalar.slide_src_eq_model (s : Scalar64.Scalar) : Scalar.slide_src s = (Scalar64.slide s).map Vector.toList := by
  unfold Scalar.slide_src Scalar64.slide
  exact Scalar.slide_loop1 256 0 _ (by omega)

end Cx.Props.C15.GlueTieCurve
