/-
  Props.C15.GroupLaw — C15, the mathematical foundation of the Edwards group layer: the affine addition law of
  RFC 8032 §5.1.4 on edwards25519 (Spec/Edwards.lean: `Nat` coordinates modulo p = 2^255 − 19,
  −x² + y² = 1 + d·x²·y²) IS a group law on the curve points: closure and associativity for ALL
  curve points, i.e. the structure `EdwardsGroupLaw` that the C13/C14/C15 theorems take as hypothesis `G`.
  The only remaining hypothesis is `[Fact (Nat.Prime p)]` (primality of 2^255 − 19; an instance argument, so it
  composes with `Proofs/Prime25519.lean`).  Together with commutativity, neutral element, inverses and
  completeness (Proofs/EdwardsSpec.lean) the curve points form a commutative group and `Spec.Edwards.smul`
  (the RFC's double-and-add loop) is its scalar multiplication.

  Proof (Proofs/EdwardsGroupLaw.lean, Proofs/EdwardsAssoc.lean): completeness gives that no denominator
  vanishes on curve points; with denominators cleared, closure and both coordinates of associativity are
  polynomial identities modulo the curve equations, closed by `linear_combination` with explicit cofactors
  (computed by tools/ed_assoc_cofactors.py, re-checked by Lean's `ring1`).
-/
import CxVerif.Proofs.EdwardsGroupLaw
namespace Cx.Props.C15
open Cx.Proofs.EdSpec
open Cx.Spec.Field25519 (p)
open Cx.Spec.Edwards (Point add smul zero B)

theorem edwards_closed [Fact (Nat.Prime p)] (P Q : Point) (hP : OnCurve P) (hQ : OnCurve Q) :
    OnCurve (add P Q) :=
  Proofs.EdGroup.add_onCurve P Q hP hQ

theorem edwards_assoc [Fact (Nat.Prime p)] (P Q R : Point) (hP : OnCurve P) (hQ : OnCurve Q) (hR : OnCurve R) :
    add (add P Q) R = add P (add Q R) :=
  Proofs.EdGroup.add_assoc' P Q R hP hQ hR

/-- the group-law hypothesis of the Ed25519 theorems (C13, C14, C15) holds -/
theorem edwards_group_law [Fact (Nat.Prime p)] : EdwardsGroupLaw := Proofs.EdGroup.edwardsGroupLaw

theorem edwards_smul_closed [Fact (Nat.Prime p)] (n : Nat) (P : Point) (hP : OnCurve P) : OnCurve (smul n P) :=
  smul_onCurve edwards_group_law n P hP

theorem edwards_smul_add [Fact (Nat.Prime p)] (m n : Nat) (P : Point) (hP : OnCurve P) :
    smul (m + n) P = add (smul m P) (smul n P) := by
  let _ := curveGroup edwards_group_law
  have h : ∀ (k : Nat) (Q : CurvePoint), smul k Q.1 = (k • Q : CurvePoint).1 :=
    fun k Q => smul_eq_nsmul edwards_group_law k Q
  have e := congrArg Subtype.val (add_nsmul (show CurvePoint from ⟨P, hP⟩) m n)
  rw [val_add edwards_group_law, ← h, ← h, ← h] at e
  exact e

theorem edwards_smul_mul [Fact (Nat.Prime p)] (m n : Nat) (P : Point) (hP : OnCurve P) :
    smul (m * n) P = smul m (smul n P) := by
  let _ := curveGroup edwards_group_law
  have h : ∀ (k : Nat) (Q : CurvePoint), smul k Q.1 = (k • Q : CurvePoint).1 :=
    fun k Q => smul_eq_nsmul edwards_group_law k Q
  have e := congrArg Subtype.val (mul_nsmul (show CurvePoint from ⟨P, hP⟩) n m)
  rw [← h, ← h, ← h, Nat.mul_comm] at e
  exact e

/-! ### non-vacuity: concrete curve points -/

example : OnCurve zero := zero_onCurve
set_option maxRecDepth 100000 in
example : OnCurve B := by unfold OnCurve; decide +kernel
set_option maxRecDepth 100000 in
/-- TEST (kernel-evaluated sample, not the theorem): associativity on `B, [2]B, [3]B` -/
example : add (add B (smul 2 B)) (smul 3 B) = add B (add (smul 2 B) (smul 3 B)) := by decide +kernel

end Cx.Props.C15
