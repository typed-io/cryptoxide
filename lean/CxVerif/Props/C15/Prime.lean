/-
  Props.C15.Prime — the primality hypotheses of C15 discharged.

  `Proofs/Prime25519.lean` (generated by tools/gen_pratt.py) proves by Pratt certificates, kernel-checked, that
      p = 2^255 − 19                                         (Cx.Spec.Field25519.p)
      L = 2^252 + 27742317777372353535851937790883648493     (Cx.Spec.ScalarL.L)
  are prime.  This file states the two facts and restates UNCONDITIONALLY every theorem of Props/C15/Fe64.lean and
  Props/C15/Ge.lean whose only extra hypothesis is `Nat.Prime p` / `[Fact (Nat.Prime p)]` (suffix `_unconditional`,
  resp. `invert_is_inverse` for `invert_is_inverse_of_prime`).
  The theorems `…_partial` of Props/C15/Ge.lean, C13, C14 keep their other hypotheses (`EdwardsGroupLaw`, …); with
  this file imported their instance argument `[Fact (Nat.Prime p)]` is found by instance resolution
  (`Cx.Proofs.Prime25519.fact_prime_p`).
-/
import CxVerif.Proofs.Prime25519Inst
import CxVerif.Props.C15.Fe64
import CxVerif.Props.C15.Ge
namespace Cx.Props.C15
open Cx.Spec Cx.Proofs.EdSpec Cx.Proofs.GeRefine
open Cx.Spec.Field25519 (p)
open Cx.Spec.ScalarL (L)
open Cx.Spec.Edwards (B smul)
open Cx.Proofs.Prime25519 (prime_p prime_L)

/-- the field prime 2^255 − 19 is prime (Pratt certificate: 9 Lucas nodes ≥ 10^6, smaller primes by trial division) -/
theorem field_prime_is_prime : Nat.Prime p := prime_p

/-- the Ed25519 group order 2^252 + 27742317777372353535851937790883648493 is prime (Pratt certificate: 13 Lucas nodes ≥ 10^6) -/
theorem group_order_is_prime : Nat.Prime L := prime_L

/-- `invert` really inverts: for every Loose `z` with `z ≢ 0`, `z · invert(z) = 1` in GF(2^255 − 19) -/
theorem invert_is_inverse (z : Impl.Fe64.Fe) (hz : Proofs.Fe64.Loose z) (hnz : Proofs.Fe64.eval z ≠ 0) :
    ∃ h, Impl.Fe64.invert z = some h ∧ Proofs.Fe64.Tight h ∧
      Field25519.mul (Proofs.Fe64.eval z) (Proofs.Fe64.eval h) = 1 :=
  invert_is_inverse_of_prime prime_p z hz hnz

/-- hypotheses of `invert_is_inverse` are met e.g. by `Fe::D` -/
example : Proofs.Fe64.Loose Impl.Fe64.Fe.D ∧ Proofs.Fe64.eval Impl.Fe64.Fe.D ≠ 0 := by decide

/-! ## Props/C15/Ge.lean, section (b): the formulas are the affine law — no hypothesis left -/

section ge
open Cx.Impl.Ge

theorem add_cached_is_affine_add_unconditional (g : Ge) (c : GeCached) (P Q : Edwards.Point) (hg : GeOk g P)
    (hc : CachedOk c Q) (hP : OnCurve P) (hQ : OnCurve Q) :
    ∃ r, g.add_cached c = some r ∧ P1P1Ok r (Edwards.add P Q) :=
  add_cached_is_affine_add g c P Q hg hc hP hQ

theorem sub_cached_is_affine_sub_unconditional (g : Ge) (c : GeCached) (P Q : Edwards.Point) (hg : GeOk g P)
    (hc : CachedOk c Q) (hP : OnCurve P) (hQ : OnCurve Q) :
    ∃ r, g.sub_cached c = some r ∧ P1P1Ok r (Edwards.sub P Q) :=
  sub_cached_is_affine_sub g c P Q hg hc hP hQ

theorem add_precomp_is_affine_add_unconditional (g : Ge) (c : GePrecomp) (P Q : Edwards.Point) (hg : GeOk g P)
    (hc : PrecompOk c Q) (hP : OnCurve P) (hQ : OnCurve Q) :
    ∃ r, g.add_precomp c = some r ∧ P1P1Ok r (Edwards.add P Q) :=
  add_precomp_is_affine_add g c P Q hg hc hP hQ

theorem sub_precomp_is_affine_sub_unconditional (g : Ge) (c : GePrecomp) (P Q : Edwards.Point) (hg : GeOk g P)
    (hc : PrecompOk c Q) (hP : OnCurve P) (hQ : OnCurve Q) :
    ∃ r, g.sub_precomp c = some r ∧ P1P1Ok r (Edwards.sub P Q) :=
  sub_precomp_is_affine_sub g c P Q hg hc hP hQ

theorem double_is_affine_double_unconditional (g : Ge) (P : Edwards.Point) (hg : GeOk g P) (hP : OnCurve P) :
    ∃ r, g.double_p1p1 = some r ∧ P1P1Ok r (Edwards.double P) :=
  double_is_affine_double g P hg hP

theorem partial_double_is_affine_double_unconditional (g : GePartial) (P : Edwards.Point) (hg : PartialOk g P)
    (hP : OnCurve P) : ∃ r, g.double_p1p1 = some r ∧ P1P1Ok r (Edwards.double P) :=
  partial_double_is_affine_double g P hg hP

theorem to_full_keeps_the_point_unconditional (r : GeP1P1) (P : Edwards.Point) (h : P1P1Ok r P) :
    ∃ g, r.to_full = some g ∧ GeOk g P := to_full_keeps_the_point r P h

theorem to_partial_keeps_the_point_unconditional (r : GeP1P1) (P : Edwards.Point) (h : P1P1Ok r P) :
    ∃ g, r.to_partial = some g ∧ PartialOk g P := to_partial_keeps_the_point r P h

theorem to_cached_keeps_the_point_unconditional (g : Ge) (P : Edwards.Point) (h : GeOk g P) :
    ∃ c, g.to_cached = some c ∧ CachedOk c P := to_cached_keeps_the_point g P h

theorem negate_is_affine_neg_unconditional (g : Ge) (P : Edwards.Point) (h : GeOk g P) :
    ∃ r, g.negate = some r ∧ GeOk r (Edwards.neg P) := negate_is_affine_neg g P h

/-- the addition law is complete on the curve: no exceptional pairs (d is a non-square, −1 a square) -/
theorem addition_law_is_complete_unconditional (P Q : Edwards.Point) (hP : OnCurve P) (hQ : OnCurve Q) :
    Field25519.add 1 (Field25519.mul Edwards.d (Field25519.mul (Field25519.mul P.x Q.x) (Field25519.mul P.y Q.y))) ≠ 0 ∧
    Field25519.sub 1 (Field25519.mul Edwards.d (Field25519.mul (Field25519.mul P.x Q.x) (Field25519.mul P.y Q.y))) ≠ 0 :=
  addition_law_is_complete P Q hP hQ

/-- proved parts of the group law: commutativity, neutral element, inverse -/
theorem add_comm_zero_neg_unconditional (P Q : Edwards.Point) (hP : OnCurve P) :
    Edwards.add P Q = Edwards.add Q P ∧ Edwards.add P Edwards.zero = P ∧
      Edwards.add P (Edwards.neg P) = Edwards.zero :=
  add_comm_zero_neg P Q hP

/-- `to_bytes` is the RFC 8032 §5.1.2 encoding of the represented point -/
theorem to_bytes_is_encode_unconditional (g : Ge) (P : Edwards.Point) (hg : GeOk g P) (hx : P.x < p)
    (hy : P.y < p) : g.to_bytes = some (Edwards.encode P) := to_bytes_is_encode g P hg hx hy

theorem partial_to_bytes_is_encode_unconditional (g : GePartial) (P : Edwards.Point) (hg : PartialOk g P)
    (hx : P.x < p) (hy : P.y < p) : g.to_bytes = some (Edwards.encode P) :=
  partial_to_bytes_is_encode g P hg hx hy

/-! ## Props/C15/Ge.lean, section (c): table selection -/

theorem select_is_signed_table_entry_unconditional (pos : Nat) (b : Int) (hb : -8 ≤ b ∧ b ≤ 8)
    (e0 e1 e2 e3 e4 e5 e6 e7 : GePrecomp) (hrow : GE_BASE[pos]? = some [e0, e1, e2, e3, e4, e5, e6, e7])
    (Q : Nat → Edwards.Point)
    (h0 : PrecompOk e0 (Q 0)) (h1 : PrecompOk e1 (Q 1)) (h2 : PrecompOk e2 (Q 2)) (h3 : PrecompOk e3 (Q 3))
    (h4 : PrecompOk e4 (Q 4)) (h5 : PrecompOk e5 (Q 5)) (h6 : PrecompOk e6 (Q 6)) (h7 : PrecompOk e7 (Q 7)) :
    ∃ t, GePrecomp.select pos b = some t ∧
      PrecompOk t (if b < 0 then Edwards.neg (Proofs.GeSelect.pointOf Q b.natAbs)
        else Proofs.GeSelect.pointOf Q b.natAbs) :=
  select_is_signed_table_entry pos b hb e0 e1 e2 e3 e4 e5 e6 e7 hrow Q h0 h1 h2 h3 h4 h5 h6 h7

/-! ## Props/C15/Ge.lean, section (d): the `_partial` theorems with the group-law hypothesis `G` ONLY
    (`EdwardsGroupLaw` — closure + associativity of the affine law — is plugged in by Props/C15/Final.lean) -/

theorem scalarmult_base_is_smul_B_partial_prime_discharged (G : EdwardsGroupLaw)
    (s : Impl.Scalar64.Scalar) (hs : Proofs.Scalar64.Inv s) (ha : s.val < 2 ^ 255) :
    ∃ h, Ge.scalarmult_base s = some h ∧ GeOk h (smul s.val B) ∧
      h.to_bytes = some (Edwards.encode (smul s.val B)) :=
  scalarmult_base_is_smul_B_partial G s hs ha

theorem spec_smul_is_group_smul_partial_prime_discharged (G : EdwardsGroupLaw) (n : Nat) (P : CurvePoint) :
    smul n P.1 = (letI := curveGroup G; (n • P : CurvePoint)).1 :=
  spec_smul_is_group_smul_partial G n P

/-! ### non-vacuity of the hypotheses (no instance argument is left) -/

/-- the representation predicate is inhabited: `Ge::ZERO` represents the neutral element -/
example : GeOk Ge.ZERO Edwards.zero := ZERO_ok
example : OnCurve B := Proofs.Ge.B_spec.1

end ge

end Cx.Props.C15
