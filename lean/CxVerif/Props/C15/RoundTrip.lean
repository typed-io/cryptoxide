/-
  Props.C15.RoundTrip — C15, the point-encoding ROUND TRIP (RFC 8032 §5.1.2 / §5.1.3), with NO hypothesis beyond
  "the point lies on the curve": primality of 2^255 − 19 is a theorem (Proofs/Prime25519.lean, instance).

  Soundness of decoding (an accepted string yields a curve point; `Ge::from_bytes` refines `Spec.Edwards.decode`) is
  Props/C14/Final.lean `from_bytes_is_decode`.  Here: COMPLETENESS — every curve point is recovered from its encoding, by
  the lenient decoder the crate implements and by the strict RFC decoder; on the model, `Ge::to_bytes` then
  `Ge::from_bytes` never panics/refuses and returns a representation of the same point, and `Ge::from_bytes` then
  `Ge::to_bytes` returns the canonical encoding of the decoded point (the input itself iff the input was canonical).
-/
import CxVerif.Proofs.EdRoundTrip
import CxVerif.Proofs.Ed25519Sign
import CxVerif.Proofs.Prime25519Inst
namespace Cx.Props.C15
open Cx.Spec Cx.Impl.Ge Cx.Proofs.EdSpec Cx.Proofs.GeRefine
open Cx.Spec.Edwards (Point)

/-- **C15 (round trip, Spec)**: the lenient §5.1.3 decoder implemented by the crate recovers every curve point from its
    §5.1.2 encoding -/
theorem decode_encode (P : Point) (hP : OnCurve P) : Edwards.decode (Edwards.encode P) = some P :=
  Proofs.EdRoundTrip.decode_encode P hP

open Cx.Proofs.EdRoundTrip Cx.Proofs.EdField Cx.Proofs.GeDecode in
/-- the strict RFC 8032 §5.1.3 decoder likewise (`encode P` has `y < p` and, for `x = 0`, sign bit 0) -/
theorem decodeStrict_encode (P : Point) (hP : OnCurve P) : Edwards.decodeStrict (Edwards.encode P) = some P := by
  obtain ⟨hx, hy, _⟩ := (onCurve_iff P).1 hP
  unfold Edwards.decodeStrict
  rw [if_pos (Proofs.Ed25519Sign.encode_length P), splitEncoding_encode P hx hy]
  dsimp only
  rw [if_pos (show P.y < Edwards.p from hy), recoverX_complete P hP]
  dsimp only
  by_cases h0 : P.x = 0
  · obtain ⟨x, y⟩ := P
    simp only at h0
    subst h0; rfl
  · rw [if_neg (by simp [h0])]

theorem encode_injective_on_curve (P Q : Point) (hP : OnCurve P) (hQ : OnCurve Q)
    (h : Edwards.encode P = Edwards.encode Q) : P = Q :=
  Proofs.EdRoundTrip.encode_injective_on_curve P Q hP hQ h

/-- the square-root step of §5.1.3 (candidate `u v³ (u v⁷)^((p−5)/8)`, correction by √−1, parity selection) returns the
    abscissa of every curve point, given its ordinate and the parity of the abscissa -/
theorem recoverX_complete (P : Point) (hP : OnCurve P) : Edwards.recoverX P.y (P.x % 2 == 1) = some P.x :=
  Proofs.EdRoundTrip.recoverX_complete P hP

/-- **C15 (round trip, model)**: for every representation `g` of a curve point `P` inside the limb invariant,
    `g.to_bytes()` succeeds with `encode P`, and `Ge::from_bytes` of these bytes succeeds (no panic, no refusal) with a
    representation of the same point -/
theorem from_bytes_to_bytes (g : Ge) (P : Point) (h : GeOk g P) (hP : OnCurve P) :
    ∃ b g', g.to_bytes = some b ∧ Ge.from_bytes b = some (some g') ∧ GeOk g' P := by
  obtain ⟨b, g', e1, _, e2, ok⟩ := Proofs.EdRoundTrip.from_bytes_to_bytes g P h hP
  exact ⟨b, g', e1, e2, ok⟩

/-- the bytes in between are the §5.1.2 encoding -/
theorem from_bytes_to_bytes_encode (g : Ge) (P : Point) (h : GeOk g P) (hP : OnCurve P) :
    g.to_bytes = some (Edwards.encode P) ∧ ∃ g', Ge.from_bytes (Edwards.encode P) = some (some g') ∧ GeOk g' P := by
  obtain ⟨b, g', e1, eb, e2, ok⟩ := Proofs.EdRoundTrip.from_bytes_to_bytes g P h hP
  subst eb
  exact ⟨e1, g', e2, ok⟩

/-- the converse direction: a 32-byte string accepted by `Ge::from_bytes` denotes a curve point `P` (its Spec decoding) and
    `to_bytes` of the result is the canonical encoding of `P` -/
theorem to_bytes_from_bytes (s : Bytes) (hs : s.length = 32) (g : Ge) (h : Ge.from_bytes s = some (some g)) :
    ∃ P, Edwards.decode s = some P ∧ OnCurve P ∧ GeOk g P ∧ g.to_bytes = some (Edwards.encode P) :=
  Proofs.EdRoundTrip.to_bytes_from_bytes s hs g h

/-- … and re-encoding is idempotent: decoding the re-encoded bytes gives the same point again -/
theorem to_bytes_from_bytes_stable (s : Bytes) (hs : s.length = 32) (g : Ge) (h : Ge.from_bytes s = some (some g)) :
    ∃ b g', g.to_bytes = some b ∧ Ge.from_bytes b = some (some g') ∧ g'.to_bytes = some b := by
  obtain ⟨P, _, hP, ok, e⟩ := to_bytes_from_bytes s hs g h
  obtain ⟨e1, g', e2, ok'⟩ := from_bytes_to_bytes_encode g P ok hP
  obtain ⟨hx, hy, _⟩ := (onCurve_iff P).1 hP
  exact ⟨_, g', e, e2, Proofs.GeBytes.ge_to_bytes_ok g' P ok' hx hy⟩

/-- for a CANONICAL input (an encoding of a curve point) `from_bytes` then `to_bytes` is the identity -/
theorem to_bytes_from_bytes_canonical (P : Point) (hP : OnCurve P) :
    ∃ g, Ge.from_bytes (Edwards.encode P) = some (some g) ∧ g.to_bytes = some (Edwards.encode P) := by
  obtain ⟨_, g', e, ok⟩ :=
    Proofs.EdRoundTrip.from_bytes_of_decode _ (Proofs.Ed25519Sign.encode_length P) P (decode_encode P hP)
  obtain ⟨hx, hy, _⟩ := (onCurve_iff P).1 hP
  exact ⟨g', e, Proofs.GeBytes.ge_to_bytes_ok g' P ok hx hy⟩

/-- the base point and the neutral element meet the hypothesis -/
example : OnCurve Edwards.B ∧ OnCurve Edwards.zero := ⟨Proofs.Ge.B_spec.1, zero_onCurve⟩

set_option maxRecDepth 100000 in
/-- TEST (kernel-evaluated sample, not the theorem): the round trip on the base point -/
example : Edwards.decode (Edwards.encode Edwards.B) = some Edwards.B := by decide +kernel

set_option maxRecDepth 100000 in
/-- TEST: a non-canonical string (y = p, i.e. y ≡ 0; x = √−1 …) is accepted by the lenient decoder and is NOT a fixed
    point of decode-then-encode — which is why `to_bytes_from_bytes` speaks of the canonical re-encoding -/
example : (Edwards.decode (natToLE 32 Field25519.p)).map Edwards.encode = some (zeros 32) ∧
    natToLE 32 Field25519.p ≠ zeros 32 := by decide +kernel

end Cx.Props.C15
