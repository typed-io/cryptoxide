/-
  Props.C15.Scalar64 — C15, scalar part, 64-bit backend (/repo/src/curve25519/scalar/scalar64.rs):
  "scalar wide reduction returns the value modulo the group order L and the canonical decoder accepts
  exactly the values below L", plus the arithmetic the Ed25519 layer uses (mul / add / muladd mod L),
  the byte codecs and the digit decompositions `bits` / `nibbles`.

  Every statement is about the code-shaped model `Cx.Impl.Scalar64` (one def per Rust fn, machine
  truncations explicit, checked `+` as `Option`); `… = some …` therefore includes "no overflow panic".
  `Scalar.val s = Σ l_i·2^(56 i)`; `Inv s` = four limbs < 2^56 and top limb < 2^32 — exactly the limb
  vectors reachable through the public constructors (`from_bytes`, `from_bytes_canonical`,
  `reduce_from_wide_bytes`, ZERO, ONE) and closed under mul / muladd (theorems below).

  Also proved: the contract of `Scalar::slide` (Σ r_i 2^i = a, non-zero digits odd, |r_i| ≤ 15, no i8
  overflow) for every a < 2^255 (Proofs/Scalar64Slide.lean).
-/
import CxVerif.Proofs.Scalar64Mul
import CxVerif.Proofs.Scalar64Slide
namespace Cx.Props.C15.Scalar64
open Cx Cx.Impl.Scalar64 Cx.Proofs.Scalar64
open Cx.Spec.ScalarL (L)
open Cx.Proofs.ScalarL (evalDigits_digits digits_lt)
set_option exponentiation.threshold 600

/-! ## constants extracted from the source -/

/-- `const M` denotes the group order -/
theorem M_is_L : M.val = L := by decide
/-- `const MU` is the Barrett constant ⌊2^512 / L⌋ -/
theorem MU_is_barrett_constant : MU.val = 2^512 / L := by decide
theorem masks : MASK16 = 2^16 - 1 ∧ MASK40 = 2^40 - 1 ∧ MASK56 = 2^56 - 1 := by decide
theorem ZERO_ONE : ZERO.val = 0 ∧ ONE.val = 1 ∧ Inv ZERO ∧ Inv ONE := by decide
/-- the byte strings `L`, `LM1`, `LP1` of the crate's own test are L, L−1, L+1 -/
theorem test_constants :
    leNat (Extracted.Scalar64.TEST_L.map UInt8.ofNat) = L ∧
    leNat (Extracted.Scalar64.TEST_LM1.map UInt8.ofNat) = L - 1 ∧
    leNat (Extracted.Scalar64.TEST_LP1.map UInt8.ofNat) = L + 1 := by decide

/-! ## byte codecs -/

/-- `from_bytes` reads its 32 bytes as a little-endian integer (ALL 32-byte strings) and yields the invariant -/
theorem from_bytes_correct (b : Vector UInt8 32) :
    (from_bytes b).val = Spec.ScalarL.decode b.toList ∧ Inv (from_bytes b) := from_bytes_spec b

/-- `to_bytes` is the 32-byte little-endian encoding of the value, for every scalar inside the invariant
    (in particular every reduced scalar) -/
theorem to_bytes_correct (s : Scalar) (h : Inv s) : to_bytes s = Spec.ScalarL.encode s.val := to_bytes_spec s h
example : Inv ⟨2^56 - 1, 0, 5, 2^56 - 1, 2^32 - 1⟩ := by decide

theorem to_bytes_length (s : Scalar) (h : Inv s) : (to_bytes s).length = 32 := by
  rw [to_bytes_correct s h]; exact Proofs.Bytes.natToLE_length 32 _

/-- serialisation round trip, all 32-byte strings (the crate tests 100 values below 2^252) -/
theorem to_bytes_from_bytes (b : Vector UInt8 32) : to_bytes (from_bytes b) = b.toList := by
  obtain ⟨hv, hi⟩ := from_bytes_spec b
  rw [to_bytes_spec _ hi, hv]
  have := Proofs.Bytes.natToLE_leNat b.toList
  simpa using this

/-- two scalars inside the invariant with the same value are the same limb vector (`==` is value equality) -/
theorem val_injective (s t : Scalar) (hs : Inv s) (ht : Inv t) (h : s.val = t.val) : s = t := by
  obtain ⟨a0, a1, a2, a3, a4⟩ := hs
  obtain ⟨b0, b1, b2, b3, b4⟩ := ht
  cases s; cases t
  simp only [Scalar.val] at h
  simp only [Scalar.mk.injEq]
  simp only [] at a0 a1 a2 a3 a4 b0 b1 b2 b3 b4
  omega

/-! ## the canonical decoder accepts exactly the values below L -/

/-- `lt_order` is `< L` (borrow chain ⇔ comparison), never panics -/
theorem lt_order_correct (v : Scalar) (h : Inv v) : lt_order v = some (decide (v.val < L)) := by
  obtain ⟨h0, h1, h2, h3, h4⟩ := h
  exact lt_order_spec v h0 h1 h2 h3 (by omega)

/-- `from_bytes_canonical b` never panics and is `Some(from_bytes b)` exactly when `le(b) < L`, for ALL 32-byte b -/
theorem from_bytes_canonical_correct (b : Vector UInt8 32) :
    from_bytes_canonical b = some (if Spec.ScalarL.decode b.toList < L then some (from_bytes b) else none) :=
  from_bytes_canonical_spec b

/-- the same through byte strings and the Spec's decoder: accept ⇔ `isCanonical`, and the accepted scalar
    re-encodes to the input -/
theorem canonical_decoder_matches_spec (b : Vector UInt8 32) :
    (from_bytes_canonical b).map (·.map to_bytes)
      = some ((Spec.ScalarL.decodeCanonical b.toList).map Spec.ScalarL.encode) := by
  rw [from_bytes_canonical_correct]
  have hl : b.toList.length = 32 := by simp
  unfold Spec.ScalarL.decodeCanonical Spec.ScalarL.isCanonical
  by_cases h : Spec.ScalarL.decode b.toList < L
  · obtain ⟨hv, hi⟩ := from_bytes_correct b
    simp [h, hl, to_bytes_correct _ hi, hv]
  · simp [h, hl]

/-! ## wide reduction -/

/-- `reduce256` = one conditional subtraction of L (limbs < 2^56, top limb < 2^63), never panics -/
theorem reduce256_correct (r : Scalar) (h0 : r.l0 < 2^56) (h1 : r.l1 < 2^56) (h2 : r.l2 < 2^56) (h3 : r.l3 < 2^56)
    (h4 : r.l4 < 2^63) :
    ∃ o, reduce256 r = some o ∧ o.val = (if r.val < L then r.val else r.val - L) ∧
      o.l0 < 2^56 ∧ o.l1 < 2^56 ∧ o.l2 < 2^56 ∧ o.l3 < 2^56 ∧ o.l4 ≤ r.l4 := reduce256_spec r h0 h1 h2 h3 h4
example : (⟨2^56 - 1, 2^56 - 1, 2^56 - 1, 2^56 - 1, 2^63 - 1⟩ : Scalar).l4 < 2^63 := by decide

/-- Barrett step: for every x < 2^512 split as q1 = x >> 248, r1 = x mod 2^264 (limbs in range) the result is
    x mod L, fully reduced, no overflow. (Inside: q3 ≤ ⌊x/L⌋ ≤ q3 + 1 — `barrett_est`.) -/
theorem barrett_reduce256_correct (q1 r1 : Scalar) (x : Nat) (hx : x < 2^512)
    (hq0 : q1.l0 < 2^56) (hq1 : q1.l1 < 2^56) (hq2 : q1.l2 < 2^56) (hq3 : q1.l3 < 2^56) (hq4 : q1.l4 < 2^56)
    (hr0 : r1.l0 < 2^56) (hr1 : r1.l1 < 2^56) (hr2 : r1.l2 < 2^56) (hr3 : r1.l3 < 2^56) (hr4 : r1.l4 < 2^40)
    (hq : q1.val = x / 2^248) (hr : r1.val = x % 2^264) :
    ∃ o, barrett_reduce256 q1 r1 = some o ∧ o.val = x % L ∧ Inv o :=
  barrett_spec q1 r1 x hx hq0 hq1 hq2 hq3 hq4 hr0 hr1 hr2 hr3 hr4 hq hr
-- non-vacuity: x = 2^512 − 1
example : (2^512 - 1 : Nat) < 2^512 ∧
    (⟨2^56-1, 2^56-1, 2^56-1, 2^56-1, 2^40-1⟩ : Scalar).val = (2^512 - 1) / 2^248 ∧
    (⟨2^56-1, 2^56-1, 2^56-1, 2^56-1, 2^40-1⟩ : Scalar).val = (2^512 - 1) % 2^264 := by decide

/-- **wide reduction**: for EVERY 64-byte string s, `reduce_from_wide_bytes s` does not panic and returns the
    scalar with value `le(s) mod L`, fully reduced -/
theorem reduce_from_wide_bytes_correct (s : Vector UInt8 64) :
    ∃ o, reduce_from_wide_bytes s = some o ∧ o.val = Spec.ScalarL.decode s.toList % L ∧ Inv o :=
  reduce_from_wide_bytes_spec s

/-- the same, observed through `to_bytes` and compared with the Spec function -/
theorem reduce_wide_bytes_matches_spec (s : Vector UInt8 64) :
    (reduce_from_wide_bytes s).map to_bytes = some (Spec.ScalarL.reduceWide s.toList) := by
  obtain ⟨o, ho, hv, hi⟩ := reduce_from_wide_bytes_correct s
  rw [ho]; simp only [Option.map_some]
  rw [to_bytes_correct o hi, hv]; rfl

/-- the output of wide reduction is always accepted by the canonical decoder -/
theorem reduce_then_canonical (s : Vector UInt8 64) :
    ∃ o, reduce_from_wide_bytes s = some o ∧ lt_order o = some true := by
  obtain ⟨o, ho, hv, hi⟩ := reduce_from_wide_bytes_correct s
  refine ⟨o, ho, ?_⟩
  rw [lt_order_correct o hi]
  have : o.val < L := by rw [hv]; exact Nat.mod_lt _ (by decide)
  simp [this]

/-! ## mul, add, muladd modulo L -/

/-- `mul x y = x·y mod L`, reduced, no overflow, for ALL scalars inside the invariant (values up to 2^256 − 1) -/
theorem mul_correct (x y : Scalar) (hx : Inv x) (hy : Inv y) :
    ∃ o, mul x y = some o ∧ o.val = Spec.ScalarL.mul x.val y.val ∧ Inv o := mul_spec x y hx hy

/-- `add`: limb-wise sum and ONE conditional subtraction of L -/
theorem add_correct (x y : Scalar) (hx : Inv x) (hy : Inv y) :
    ∃ o, add x y = some o ∧ o.val = (if x.val + y.val < L then x.val + y.val else x.val + y.val - L) := by
  obtain ⟨hx0, hx1, hx2, hx3, hx4⟩ := hx
  obtain ⟨hy0, hy1, hy2, hy3, hy4⟩ := hy
  obtain ⟨o, ho, v, _⟩ := add_spec x y hx0 hx1 hx2 hx3 (by omega) hy0 hy1 hy2 hy3 (by omega)
  exact ⟨o, ho, v⟩

/-- hence `add x y = (x + y) mod L`, reduced, whenever `x + y < 2L` (in particular for reduced operands) -/
theorem add_mod_L (x y : Scalar) (hx : Inv x) (hy : Inv y) (h : x.val + y.val < 2 * L) :
    ∃ o, add x y = some o ∧ o.val = Spec.ScalarL.add x.val y.val ∧ Inv o := add_mod x y hx hy h
example : Inv (⟨5, 0, 0, 0, 0⟩ : Scalar) ∧ (⟨5, 0, 0, 0, 0⟩ : Scalar).val + (⟨5, 0, 0, 0, 0⟩ : Scalar).val < 2 * L := by decide

/-- outside that range `add` is NOT the sum mod L (the result is only one subtraction away from the sum):
    documented behaviour of the private helper, witness 2L + 2L -/
example : ∃ x y, Inv x ∧ Inv y ∧ (add x y).map Scalar.val ≠ some (Spec.ScalarL.add x.val y.val) :=
  ⟨from_bytes (Vector.ofFn fun i => if i.val = 31 then 0x20 else 0), from_bytes (Vector.ofFn fun i => if i.val = 31 then 0x20 else 0),
    by decide⟩

/-- `muladd a b c = (a·b + c) mod L`, reduced, no overflow, for ALL 256-bit a, b and reduced c
    (how Ed25519 signing uses it: c = r mod L) -/
theorem muladd_correct (a b c : Scalar) (ha : Inv a) (hb : Inv b) (hc : Inv c) (hcL : c.val < L) :
    ∃ o, muladd a b c = some o ∧ o.val = Spec.ScalarL.muladd a.val b.val c.val ∧ Inv o :=
  muladd_spec a b c ha hb hc hcL

/-- byte-level form used by the Ed25519 layer: S = (h·a + r) mod L on 32-byte strings -/
theorem muladd_bytes (a b c : Vector UInt8 32) (hc : Spec.ScalarL.decode c.toList < L) :
    (muladd (from_bytes a) (from_bytes b) (from_bytes c)).map to_bytes
      = some (Spec.ScalarL.encode (Spec.ScalarL.muladd (Spec.ScalarL.decode a.toList) (Spec.ScalarL.decode b.toList)
          (Spec.ScalarL.decode c.toList))) := by
  obtain ⟨va, ia⟩ := from_bytes_correct a
  obtain ⟨vb, ib⟩ := from_bytes_correct b
  obtain ⟨vc, ic⟩ := from_bytes_correct c
  obtain ⟨o, ho, hv, hi⟩ := muladd_correct _ _ _ ia ib ic (by rw [vc]; exact hc)
  rw [ho]; simp only [Option.map_some]
  rw [to_bytes_correct o hi, hv, va, vb, vc]

/-! ## programs over the public operators stay inside the invariant -/

/-- scalars constructible from the public API (`ZERO`, `ONE`, `from_bytes`, `from_bytes_canonical`,
    `reduce_from_wide_bytes`) and the crate-internal `muladd` with a reduced addend (its use in signing) -/
inductive Pub : Scalar → Prop
  | zero : Pub ZERO
  | one : Pub ONE
  | fromBytes (b : Vector UInt8 32) : Pub (from_bytes b)
  | canonical (b : Vector UInt8 32) (s : Scalar) : from_bytes_canonical b = some (some s) → Pub s
  | reduce (w : Vector UInt8 64) (o : Scalar) : reduce_from_wide_bytes w = some o → Pub o
  | muladd (a b c o : Scalar) : Pub a → Pub b → Pub c → c.val < L → Impl.Scalar64.muladd a b c = some o → Pub o

/-- every such scalar satisfies the limb invariant (so all theorems above apply to it, `to_bytes` is its
    canonical 32-byte encoding and `==` on it is equality of values) -/
theorem pub_inv (s : Scalar) (h : Pub s) : Inv s := by
  induction h with
  | zero => exact ZERO_ONE.2.2.1
  | one => exact ZERO_ONE.2.2.2
  | fromBytes b => exact (from_bytes_correct b).2
  | canonical b s h =>
    rw [from_bytes_canonical_correct] at h
    split at h
    · simp only [Option.some.injEq] at h; subst h; exact (from_bytes_correct b).2
    · simp at h
  | reduce w o h =>
    obtain ⟨o', ho', _, hi⟩ := reduce_from_wide_bytes_correct w
    rw [h] at ho'; simp only [Option.some.injEq] at ho'; subst ho'; exact hi
  | muladd a b c o _ _ _ hc h iha ihb ihc =>
    obtain ⟨o', ho', _, hi⟩ := muladd_correct a b c iha ihb ihc hc
    rw [h] at ho'; simp only [Option.some.injEq] at ho'; subst ho'; exact hi

/-- and on such operands `muladd` (reduced addend), `mul` and `add` never panic -/
theorem pub_no_panic (a b c : Scalar) (ha : Pub a) (hb : Pub b) (hc : Pub c) (hcL : c.val < L) :
    (Impl.Scalar64.muladd a b c).isSome ∧ (Impl.Scalar64.mul a b).isSome ∧ (Impl.Scalar64.add a b).isSome := by
  obtain ⟨o, ho, _⟩ := muladd_correct a b c (pub_inv a ha) (pub_inv b hb) (pub_inv c hc) hcL
  obtain ⟨m, hm, _⟩ := mul_correct a b (pub_inv a ha) (pub_inv b hb)
  obtain ⟨d, hd, _⟩ := add_correct a b (pub_inv a ha) (pub_inv b hb)
  simp [ho, hm, hd]

/-! ## digit decompositions -/

/-- `nibbles` = the 64 radix-16 digits of the value: Σ e_i·16^i = a, 0 ≤ e_i ≤ 15 -/
theorem nibbles_correct (s : Scalar) (h : Inv s) :
    (nibbles s).toList = (Spec.ScalarL.radix16 s.val).map Int.ofNat ∧
    Spec.ScalarL.evalDigits 16 (nibbles s).toList = (s.val : Int) ∧
    ∀ e ∈ (nibbles s).toList, 0 ≤ e ∧ e ≤ 15 := by
  have e := nibbles_eq_radix16 s h
  refine ⟨e, ?_, ?_⟩
  · rw [e]; unfold Spec.ScalarL.radix16
    rw [evalDigits_digits, Nat.mod_eq_of_lt (by have := h.val_lt; omega)]
  · intro d hd
    rw [e] at hd
    obtain ⟨n, hn, rfl⟩ := List.mem_map.mp hd
    have := digits_lt (by decide : 0 < 16) 64 s.val n hn
    exact ⟨Int.natCast_nonneg n, by show ((n : Nat) : Int) ≤ 15; omega⟩

theorem bits_correct (s : Scalar) (h : Inv s) :
    (bits s).toList = (Spec.ScalarL.bitsLE s.val).map Int.ofNat ∧
    Spec.ScalarL.evalDigits 2 (bits s).toList = (s.val : Int) := by
  have e := bits_eq_bitsLE s h
  refine ⟨e, ?_⟩
  rw [e]; unfold Spec.ScalarL.bitsLE
  rw [evalDigits_digits, Nat.mod_eq_of_lt h.val_lt]

/-! ## `slide` (scalar/mod.rs) — the sliding-window recoding used by `double_scalarmult_vartime` -/

/-- for every scalar inside the invariant with value below 2^255 (the documented operand range) `slide`
    has no `i8` overflow, Σ r_i·2^i = a, and every digit is 0 or odd with |r_i| ≤ 15 -/
theorem slide_correct (s : Scalar) (h : Inv s) (ha : s.val < 2 ^ 255) :
    ∃ r, slide s = some r ∧ Spec.ScalarL.evalDigits 2 r.toList = (s.val : Int) ∧
      (∀ d ∈ r.toList, d = 0 ∨ (d % 2 = 1 ∧ -15 ≤ d ∧ d ≤ 15)) ∧
      Spec.ScalarL.isSlideOf s.val r.toList = true := by
  obtain ⟨r, hr, hv, hd⟩ := Slide.slide_spec s h ha
  obtain ⟨r', hr', hc⟩ := Slide.slide_isSlideOf s h ha
  rw [hr] at hr'; simp only [Option.some.injEq] at hr'; subst hr'
  exact ⟨r, hr, hv, hd, hc⟩
example : Inv (from_bytes (Vector.ofFn fun i => if i.val = 31 then 0x7f else 0xff)) ∧
    (from_bytes (Vector.ofFn fun i => if i.val = 31 then 0x7f else 0xff)).val < 2 ^ 255 := by decide

/-- the bound is needed: for a = 2^256 − 1 the carry runs off the end of the array and the digits denote a − 2^256
    (outside the documented range, so not a defect) -/
example : ((slide (from_bytes (Vector.ofFn fun _ => 0xff))).map fun r =>
    Spec.ScalarL.evalDigits 2 r.toList) = some (-1) := by
  have hs : Inv (from_bytes (Vector.ofFn fun _ => 0xff)) ∧ (from_bytes (Vector.ofFn fun _ => 0xff)).val = 2^256 - 1 := by
    decide +kernel
  obtain ⟨r, h1, h2, -, -⟩ := Slide.slide_total _ hs.1
  rw [h1, Option.map_some, h2, hs.2]
  decide +kernel

end Cx.Props.C15.Scalar64
