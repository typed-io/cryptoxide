/-
  Props.C16 (ChaCha part, DESIGN C16(i)) — the SSE2-style row model (rows a,b,c,d of four 32-bit lanes; `round!`,
  `swizzle!` = lane rotations; counters through `Align128`) and the portable engine model agree on every state,
  every R, every key/nonce length and every counter operation.  `toRef` views the rows as the sixteen words.
  What is NOT a theorem here (partial, by nature): that the compiled binary really executes these lane
  operations — that is observed by the correspondence ops `stream.eng2` (Portable vs Native on identical inputs).
-/
import CxVerif.Proofs.StreamEngine
namespace Cx.Props.C16
open Cx.Impl.ChaCha Cx.Proofs.ChaCha

/-- `(c << d) ^ (c >> (32 − d))` of `add_rotate_xor!` is `rotate_left(d)` of `QR!`, every word, every 0 < d < 32 -/
theorem chacha_sse2_rotation (x : UInt32) (d : Nat) (h0 : 0 < d) (h : d < 32) :
    Sse2.shl x d ^^^ Sse2.shr x (32 - d) = rotl32 x d := rot_xor_or x d h0 h

/-- `round!` on the rows = the four column quarter rounds -/
theorem chacha_sse2_round (s : Sse2.State) : toRef (Sse2.round s) = colR (toRef s) := round_eq s

/-- one loop iteration: round, swizzle(b,c,d), round, swizzle(d,c,b) = columns then diagonals of the portable code -/
theorem chacha_sse2_doubleRound (s : Sse2.State) :
    toRef (Sse2.doubleRound s) = Reference.doubleRound (toRef s) := sse2_doubleRound s

/-- **rounds agree for every state and every R** -/
theorem chacha_sse2_rounds (R : Nat) (s : Sse2.State) : toRef (Sse2.rounds R s) = Reference.rounds R (toRef s) :=
  sse2_rounds R s

/-- feed-forward, serialisation, HChaCha output, counters -/
theorem chacha_sse2_rest (s i : Sse2.State) (c : UInt32) (c64 : UInt64) :
    toRef (Sse2.add_back s i) = Reference.add_back (toRef s) (toRef i) ∧
    Sse2.output_bytes s = Reference.output_bytes (toRef s) ∧
    Sse2.output_ad_bytes s = Reference.output_ad_bytes (toRef s) ∧
    toRef (Sse2.set_counter s c) = Reference.set_counter (toRef s) c ∧
    toRef (Sse2.verif_set_counter64 s c64) = Reference.verif_set_counter64 (toRef s) c64 ∧
    toRef (Sse2.increment s) = Reference.increment (toRef s) ∧
    toRef (Sse2.increment64 s) = Reference.increment64 (toRef s) :=
  ⟨rfl, rfl, rfl, rfl, rfl, rfl, sse2_increment64 s⟩

/-- **the block and the HChaCha output agree** for every state and every R -/
theorem chacha_sse2_block (R : Nat) (s : Sse2.State) :
    sse2Engine.block R s = referenceEngine.block R (toRef s) ∧
    sse2Engine.hblock R s = referenceEngine.hblock R (toRef s) := by
  constructor
  · show Sse2.output_bytes (Sse2.add_back (Sse2.rounds R s) s) = _
    rw [sse2_output_bytes, sse2_add_back, sse2_rounds]; rfl
  · show Sse2.output_ad_bytes (Sse2.rounds R s) = _
    rw [sse2_output_ad_bytes, sse2_rounds]; rfl

/-- **`key16`/`key32`/`nonce` lane loading = portable `init`** (after the repair of defect a), every key length and
    every nonce length; both are the Spec layout -/
theorem chacha_sse2_init (key nonce : Bytes) (hk : Spec.ChaCha.validKey key) (hn : validNonce nonce) :
    (Sse2.init key nonce).map (fun s => toVec (toRef s)) = (Reference.init key nonce).map toVec ∧
    (Reference.init key nonce).map toVec = .ok (Spec.ChaCha.layoutState key nonce) :=
  ⟨sse2_init_eq_reference key nonce hk hn, reference_init key nonce hk hn⟩

example : Spec.ChaCha.validKey (List.replicate 16 (0x80 : UInt8)) ∧ validNonce (List.replicate 8 (3 : UInt8)) := by
  constructor <;> simp [Spec.ChaCha.validKey, validNonce]

/-- WITNESS of defect (a) as a C16 disagreement (pre-repair portable `init`, kept as documentation): for a
    16-byte key the SSE2 model and the old portable model differ, e.g. key 01…01, zero nonce -/
theorem chacha_sse2_vs_portableOld_key16 :
    (Sse2.init (List.replicate 16 1) (zeros 12)).map (fun s => (toRef s).x4) = .ok 0x01010101 ∧
    (Reference.initOld (List.replicate 16 1) (zeros 12)).map (fun w => w.x4) = .ok 0 := by
  constructor <;> rfl

/-- for 32-byte keys the old portable `init` already agreed -/
theorem chacha_sse2_vs_portableOld_key32 (key nonce : Bytes) (hk : key.length = 32) (hn : validNonce nonce) :
    (Sse2.init key nonce).map (fun s => toVec (toRef s)) = (Reference.initOld key nonce).map toVec := by
  rw [sse2_init key nonce (Or.inr hk) hn, referenceOld_init_32 key nonce hk hn]

end Cx.Props.C16
