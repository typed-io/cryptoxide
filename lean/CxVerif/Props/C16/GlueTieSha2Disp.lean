/-
  Props.C16.GlueTieSha2Disp — the translator tie for the cfg DISPATCHERS that reach vectorised code.

  `Extracted/GlueSha2Disp.lean` is regenerated on every run by tools/ktx_glue.py (kernel specs tools/kernels/sha2_dispatch.py; the `#[cfg]`
  attributes are evaluated by the spec's `resolve_cfg` with one truth table per cfg set: x86_64 and {baseline, +sse4.1, +avx (⇒ sse4.1),
  +avx2 (⇒ avx)}) from the CURRENT text of
    src/hashing/sha2/impl256/mod.rs  `digest_block`: `if HAS_AVX { return avx::digest_block(..) }`, `if HAS_SSE41 { return sse41::… }`, else
                                     `reference::digest_block(..)`                       (cfg sets sse41, avx, avx2; baseline: GlueSha2Drv)
    src/hashing/blake2/mod.rs        `EngineB::compress` (avx2, then avx, else reference), `EngineS::compress` (avx, else reference), and the
                                     declarations of `EngineB` / `EngineS`                                      (all four cfg sets).
  The dispatch TARGETS are generated definitions as well: `avx::digest_block`, `sse41::digest_block`, `avx::compress_b/s`, `avx2::compress_b`
  (Extracted/GlueSimd.lean, tied by Props/C16/GlueTieSimdSha.lean / GlueTieSimdBlake2.lean) and `reference::digest_block`
  (Extracted/GlueSha2Drv.lean, tied by Props/C01/GlueTieSha2Drv.lean); `reference::compress_b/s` is the model `reference_compress`
  (tied to reference.rs by Props/C01/KernelTieBlake2.lean) behind its length assertion.

  For every cfg set the theorems give (a) the PATH — which target the source selects, as a definitional equality on the generated code — and
  (b) the VALUE — equality with the model's dispatch (`Impl/SimdSha256.lean` `digest_block ft`, `Impl/SimdBlake2.lean`
  `EngineB/S.compress ft`, whose table is pinned by `sha256_dispatch_table` / `blake2_dispatch_table`) for the corresponding feature set,
  for ALL states, counters, flags and inputs of the stated domain.  Exchanging two targets, or two `if` blocks, in the source changes a
  generated definition and breaks (a).

  Domain of the BLAKE2 theorems: `h`, `t` are the 8- / 2-element arrays of the Rust types; `buf` is one block (`BLOCK_BYTES`: what every
  caller passes; the vectorised targets read the first block of a longer slice where `reference::compress_*` panics — `…_avx_longer`).

  Axioms: propext, Classical.choice, Quot.sound.
-/
import CxVerif.Extracted.GlueSha2Disp
import CxVerif.Props.C01.GlueTieSha2Drv
import CxVerif.Props.C16.GlueTieSimdSha
import CxVerif.Props.C16.GlueTieSimdBlake2
namespace Cx.Props.C16.GlueTieSha2Disp
open Cx.Impl Cx.Impl.Simd Cx.Spec.Sha2
open Cx.Extracted Cx.Extracted.GlueSha2Disp
open Cx.Impl.Blake2 (LastBlock reference_compress Engine)

/-- (a) PATH: what the source selects under each cfg set -/
theorem digest_block256_path (state : W8 UInt32) (block : Bytes) :
    Impl256.digest_block_sse41_src state block = (GlueSimd.Sha256Sse41.digest_block_src state block).toOption ∧
    Impl256.digest_block_avx_src state block = (GlueSimd.Sha256Avx.digest_block_src state block).toOption ∧
    Impl256.digest_block_avx2_src state block = (GlueSimd.Sha256Avx.digest_block_src state block).toOption ∧
    GlueSha2Drv.Impl256.digest_block_baseline_src state block = GlueSha2Drv.Impl256.reference_digest_block_src state block :=
  ⟨rfl, rfl, rfl, rfl⟩

/-- … and the paths of the model's table for the four builds: 1 = sse41, 2 = avx, 0 = reference -/
theorem digest_block256_model_path :
    selectPath Features.none Extracted.Simd.DISPATCH_SHA256 = 0 ∧ selectPath Features.sse41Only Extracted.Simd.DISPATCH_SHA256 = 1 ∧
    selectPath Features.avxOnly Extracted.Simd.DISPATCH_SHA256 = 2 ∧ selectPath Features.avx2All Extracted.Simd.DISPATCH_SHA256 = 2 := by
  decide

/-- (b) VALUE: **each generated dispatcher variant = the model's dispatch for that feature set**, every state, every byte string -/
theorem digest_block256_baseline_src_eq_model (state : W8 UInt32) (block : Bytes) :
    GlueSha2Drv.Impl256.digest_block_baseline_src state block = SimdSha256.digest_block Features.none state block :=
  Cx.Props.C01.GlueTieSha2Drv.digest_block256_baseline_src_eq_model state block

theorem digest_block256_sse41_src_eq_model (state : W8 UInt32) (block : Bytes) :
    Impl256.digest_block_sse41_src state block = SimdSha256.digest_block Features.sse41Only state block :=
  Cx.Props.C16.GlueTieSimdSha.Sse41.digest_block_src_eq_model state block

theorem digest_block256_avx_src_eq_model (state : W8 UInt32) (block : Bytes) :
    Impl256.digest_block_avx_src state block = SimdSha256.digest_block Features.avxOnly state block :=
  Cx.Props.C16.GlueTieSimdSha.Avx.digest_block_src_eq_model state block

theorem digest_block256_avx2_src_eq_model (state : W8 UInt32) (block : Bytes) :
    Impl256.digest_block_avx2_src state block = SimdSha256.digest_block Features.avx2All state block :=
  Cx.Props.C16.GlueTieSimdSha.Avx.digest_block_src_eq_model state block

/-- all four generated variants compute the (generated) reference driver — including the panic on a ragged length -/
theorem digest_block256_all_cfgs_agree (state : W8 UInt32) (block : Bytes) :
    Impl256.digest_block_sse41_src state block = GlueSha2Drv.Impl256.reference_digest_block_src state block ∧
    Impl256.digest_block_avx_src state block = GlueSha2Drv.Impl256.reference_digest_block_src state block ∧
    Impl256.digest_block_avx2_src state block = GlueSha2Drv.Impl256.reference_digest_block_src state block ∧
    GlueSha2Drv.Impl256.digest_block_baseline_src state block = GlueSha2Drv.Impl256.reference_digest_block_src state block := by
  have hr := Cx.Props.C01.GlueTieSha2Drv.reference_digest_block256_src_eq_model state block
  refine ⟨?_, ?_, ?_, rfl⟩
  · rw [hr]; exact Cx.Props.C16.GlueTieSimdSha.Sse41.digest_block_src_eq_reference state block
  · rw [hr]; exact Cx.Props.C16.GlueTieSimdSha.Avx.digest_block_src_eq_reference state block
  · rw [hr]; exact Cx.Props.C16.GlueTieSimdSha.Avx.digest_block_src_eq_reference state block

theorem EngineB_mk_src_eq (h t : List UInt64) : EngineB.mk_src h t = ⟨h, t⟩ := rfl
theorem EngineS_mk_src_eq (h t : List UInt32) : EngineS.mk_src h t = ⟨h, t⟩ := rfl

/-- the Rust view of a model engine: `h: [u64; 8]`, `t: [u64; 2]` -/
def rawB (e : Engine UInt64) : EngineBRaw := ⟨e.h.toList, [UInt64.ofNat e.t0, UInt64.ofNat e.t1]⟩
def rawS (e : Engine UInt32) : EngineSRaw := ⟨e.h.toList, [UInt32.ofNat e.t0, UInt32.ofNat e.t1]⟩

/-- (a) PATH, BLAKE2b: reference under baseline / +sse4.1, `avx::compress_b` under +avx, `avx2::compress_b` under +avx2 -/
theorem EngineB_compress_path (e : EngineBRaw) (buf : Bytes) (last : LastBlock) :
    EngineB.compress_baseline_src e buf last = (reference_compress_b e.h e.t buf last).map (fun r => ⟨r.1, r.2⟩) ∧
    EngineB.compress_sse41_src e buf last = (reference_compress_b e.h e.t buf last).map (fun r => ⟨r.1, r.2⟩) ∧
    EngineB.compress_avx_src e buf last = ((GlueSimd.Blake2Avx.compress_b_src e.h e.t buf last).toOption).map (fun r => ⟨r.1, r.2⟩) ∧
    EngineB.compress_avx2_src e buf last = ((GlueSimd.Blake2Avx2.compress_b_src e.h e.t buf last).toOption).map (fun r => ⟨r.1, r.2⟩) := by
  refine ⟨?_, ?_, ?_, ?_⟩
  · unfold EngineB.compress_baseline_src; cases reference_compress_b e.h e.t buf last <;> rfl
  · unfold EngineB.compress_sse41_src; cases reference_compress_b e.h e.t buf last <;> rfl
  · unfold EngineB.compress_avx_src; dsimp only; rw [if_pos rfl]
    cases (GlueSimd.Blake2Avx.compress_b_src e.h e.t buf last).toOption <;> rfl
  · unfold EngineB.compress_avx2_src; dsimp only; rw [if_pos rfl]
    cases (GlueSimd.Blake2Avx2.compress_b_src e.h e.t buf last).toOption <;> rfl

/-- (a) PATH, BLAKE2s: reference under baseline / +sse4.1, `avx::compress_s` under +avx / +avx2 (`t` is only read there) -/
theorem EngineS_compress_path (e : EngineSRaw) (buf : Bytes) (last : LastBlock) :
    EngineS.compress_baseline_src e buf last = (reference_compress_s e.h e.t buf last).map (fun r => ⟨r.1, r.2⟩) ∧
    EngineS.compress_sse41_src e buf last = (reference_compress_s e.h e.t buf last).map (fun r => ⟨r.1, r.2⟩) ∧
    EngineS.compress_avx_src e buf last = ((GlueSimd.Blake2Avx.compress_s_src e.h e.t buf last).toOption).map (fun h => ⟨h, e.t⟩) ∧
    EngineS.compress_avx2_src e buf last = ((GlueSimd.Blake2Avx.compress_s_src e.h e.t buf last).toOption).map (fun h => ⟨h, e.t⟩) := by
  refine ⟨?_, ?_, ?_, ?_⟩
  · unfold EngineS.compress_baseline_src; cases reference_compress_s e.h e.t buf last <;> rfl
  · unfold EngineS.compress_sse41_src; cases reference_compress_s e.h e.t buf last <;> rfl
  · unfold EngineS.compress_avx_src; dsimp only; rw [if_pos rfl]
    cases (GlueSimd.Blake2Avx.compress_s_src e.h e.t buf last).toOption <;> rfl
  · unfold EngineS.compress_avx2_src; dsimp only; rw [if_pos rfl]
    cases (GlueSimd.Blake2Avx.compress_s_src e.h e.t buf last).toOption <;> rfl

theorem blake2_model_path :
    (Features.builds.map (fun ft => selectPath ft Extracted.Simd.DISPATCH_BLAKE2B)) = [0, 0, 2, 3] ∧
    (Features.builds.map (fun ft => selectPath ft Extracted.Simd.DISPATCH_BLAKE2S)) = [0, 0, 2, 2] := by decide

/-- (b) VALUE, BLAKE2b, on the arrays: under every cfg set the generated `compress` stores the portable compression into `h` and leaves `t` -/
theorem EngineB_compress_src_eq_reference (h0 h1 h2 h3 h4 h5 h6 h7 t0 t1 : UInt64) (buf : Bytes) (hb : buf.length = 128) (last : LastBlock) :
    let r : Option EngineBRaw :=
      some ⟨(reference_compress Impl.Blake2.b #v[h0, h1, h2, h3, h4, h5, h6, h7] t0.toNat t1.toNat buf last).toList, [t0, t1]⟩
    EngineB.compress_baseline_src ⟨[h0, h1, h2, h3, h4, h5, h6, h7], [t0, t1]⟩ buf last = r ∧
    EngineB.compress_sse41_src ⟨[h0, h1, h2, h3, h4, h5, h6, h7], [t0, t1]⟩ buf last = r ∧
    EngineB.compress_avx_src ⟨[h0, h1, h2, h3, h4, h5, h6, h7], [t0, t1]⟩ buf last = r ∧
    EngineB.compress_avx2_src ⟨[h0, h1, h2, h3, h4, h5, h6, h7], [t0, t1]⟩ buf last = r := by
  intro r
  obtain ⟨p0, p1, p2, p3⟩ := EngineB_compress_path ⟨[h0, h1, h2, h3, h4, h5, h6, h7], [t0, t1]⟩ buf last
  have hge : 128 ≤ buf.length := by omega
  have href : reference_compress_b [h0, h1, h2, h3, h4, h5, h6, h7] [t0, t1] buf last
      = some ((reference_compress Impl.Blake2.b #v[h0, h1, h2, h3, h4, h5, h6, h7] t0.toNat t1.toNat buf last).toList, [t0, t1]) := by
    simp [reference_compress_b, hb]
  refine ⟨?_, ?_, ?_, ?_⟩
  · rw [p0]; dsimp only; rw [href]; rfl
  · rw [p1]; dsimp only; rw [href]; rfl
  · rw [p2]; dsimp only
    rw [Cx.Props.C16.GlueTieSimdBlake2.AvxB.compress_b_src_eq_reference h0 h1 h2 h3 h4 h5 h6 h7 t0 t1 buf hge last]; rfl
  · rw [p3]; dsimp only
    rw [Cx.Props.C16.GlueTieSimdBlake2.Avx2B.compress_b_src_eq_reference h0 h1 h2 h3 h4 h5 h6 h7 t0 t1 buf hge last]; rfl

example : (List.replicate 128 (0x61 : UInt8)).length = 128 := by rw [List.length_replicate]

/-- (b) VALUE, BLAKE2s -/
theorem EngineS_compress_src_eq_reference (h0 h1 h2 h3 h4 h5 h6 h7 t0 t1 : UInt32) (buf : Bytes) (hb : buf.length = 64) (last : LastBlock) :
    let r : Option EngineSRaw :=
      some ⟨(reference_compress Impl.Blake2.s #v[h0, h1, h2, h3, h4, h5, h6, h7] t0.toNat t1.toNat buf last).toList, [t0, t1]⟩
    EngineS.compress_baseline_src ⟨[h0, h1, h2, h3, h4, h5, h6, h7], [t0, t1]⟩ buf last = r ∧
    EngineS.compress_sse41_src ⟨[h0, h1, h2, h3, h4, h5, h6, h7], [t0, t1]⟩ buf last = r ∧
    EngineS.compress_avx_src ⟨[h0, h1, h2, h3, h4, h5, h6, h7], [t0, t1]⟩ buf last = r ∧
    EngineS.compress_avx2_src ⟨[h0, h1, h2, h3, h4, h5, h6, h7], [t0, t1]⟩ buf last = r := by
  intro r
  obtain ⟨p0, p1, p2, p3⟩ := EngineS_compress_path ⟨[h0, h1, h2, h3, h4, h5, h6, h7], [t0, t1]⟩ buf last
  have hge : 64 ≤ buf.length := by omega
  have href : reference_compress_s [h0, h1, h2, h3, h4, h5, h6, h7] [t0, t1] buf last
      = some ((reference_compress Impl.Blake2.s #v[h0, h1, h2, h3, h4, h5, h6, h7] t0.toNat t1.toNat buf last).toList, [t0, t1]) := by
    simp [reference_compress_s, hb]
  refine ⟨?_, ?_, ?_, ?_⟩
  · rw [p0]; dsimp only; rw [href]; rfl
  · rw [p1]; dsimp only; rw [href]; rfl
  · rw [p2]; dsimp only
    rw [Cx.Props.C16.GlueTieSimdBlake2.AvxS.compress_s_src_eq_reference h0 h1 h2 h3 h4 h5 h6 h7 t0 t1 buf hge last]; rfl
  · rw [p3]; dsimp only
    rw [Cx.Props.C16.GlueTieSimdBlake2.AvxS.compress_s_src_eq_reference h0 h1 h2 h3 h4 h5 h6 h7 t0 t1 buf hge last]; rfl

example : (List.replicate 64 (0x61 : UInt8)).length = 64 := by rw [List.length_replicate]

/-- the vectorised targets accept a LONGER slice (they read its first block) where `reference::compress_b` panics on the length assertion:
    the only observable difference between the cfg sets, outside the domain the callers use -/
theorem EngineB_compress_avx_longer (h0 h1 h2 h3 h4 h5 h6 h7 t0 t1 : UInt64) (buf : Bytes) (hb : 128 < buf.length) (last : LastBlock) :
    EngineB.compress_baseline_src ⟨[h0, h1, h2, h3, h4, h5, h6, h7], [t0, t1]⟩ buf last = none ∧
    EngineB.compress_avx2_src ⟨[h0, h1, h2, h3, h4, h5, h6, h7], [t0, t1]⟩ buf last
      = some ⟨(reference_compress Impl.Blake2.b #v[h0, h1, h2, h3, h4, h5, h6, h7] t0.toNat t1.toNat buf last).toList, [t0, t1]⟩ := by
  obtain ⟨p0, _, _, p3⟩ := EngineB_compress_path ⟨[h0, h1, h2, h3, h4, h5, h6, h7], [t0, t1]⟩ buf last
  refine ⟨?_, ?_⟩
  · rw [p0]; dsimp only
    have : reference_compress_b [h0, h1, h2, h3, h4, h5, h6, h7] [t0, t1] buf last = none := by
      simp [reference_compress_b]; omega
    rw [this]; rfl
  · rw [p3]; dsimp only
    rw [Cx.Props.C16.GlueTieSimdBlake2.Avx2B.compress_b_src_eq_reference h0 h1 h2 h3 h4 h5 h6 h7 t0 t1 buf (by omega) last]; rfl

/-- (b) VALUE against the MODEL's dispatch (`Impl/SimdBlake2.lean`), BLAKE2b: for each of the four builds the generated `compress` on the Rust
    view of a model engine is the model's `Engine.compress_with (EngineB.compress ft)`, for every engine with counter words < 2^64 -/
theorem EngineB_compress_src_eq_model (e : Engine UInt64) (h0 : e.t0 < 2 ^ 64) (h1 : e.t1 < 2 ^ 64) (buf : Bytes) (hb : buf.length = 128)
    (last : LastBlock) :
    EngineB.compress_baseline_src (rawB e) buf last = (SimdBlake2.Engine.compress_with (SimdBlake2.EngineB.compress Features.none) e buf last).map rawB ∧
    EngineB.compress_sse41_src (rawB e) buf last = (SimdBlake2.Engine.compress_with (SimdBlake2.EngineB.compress Features.sse41Only) e buf last).map rawB ∧
    EngineB.compress_avx_src (rawB e) buf last = (SimdBlake2.Engine.compress_with (SimdBlake2.EngineB.compress Features.avxOnly) e buf last).map rawB ∧
    EngineB.compress_avx2_src (rawB e) buf last = (SimdBlake2.Engine.compress_with (SimdBlake2.EngineB.compress Features.avx2All) e buf last).map rawB := by
  obtain ⟨h, t0, t1⟩ := e
  obtain ⟨a0, a1, a2, a3, a4, a5, a6, a7, rfl⟩ := Cx.Proofs.Bytes.vec8 h
  have e0 : (UInt64.ofNat t0).toNat = t0 := by rw [UInt64.toNat_ofNat']; exact Nat.mod_eq_of_lt h0
  have e1 : (UInt64.ofNat t1).toNat = t1 := by rw [UInt64.toNat_ofNat']; exact Nat.mod_eq_of_lt h1
  have key := EngineB_compress_src_eq_reference a0 a1 a2 a3 a4 a5 a6 a7 (UInt64.ofNat t0) (UInt64.ofNat t1) buf hb last
  rw [e0, e1] at key
  have hm : ∀ ft, (SimdBlake2.Engine.compress_with (SimdBlake2.EngineB.compress ft) ⟨#v[a0, a1, a2, a3, a4, a5, a6, a7], t0, t1⟩ buf last).map rawB
      = some ⟨(reference_compress Impl.Blake2.b #v[a0, a1, a2, a3, a4, a5, a6, a7] t0 t1 buf last).toList, [UInt64.ofNat t0, UInt64.ofNat t1]⟩ := by
    intro ft
    unfold SimdBlake2.Engine.compress_with
    rw [Cx.Props.C16.blake2b_engine_compress ft]; rfl
  simp only [hm]
  exact key

/-- (b) VALUE against the MODEL's dispatch, BLAKE2s -/
theorem EngineS_compress_src_eq_model (e : Engine UInt32) (h0 : e.t0 < 2 ^ 32) (h1 : e.t1 < 2 ^ 32) (buf : Bytes) (hb : buf.length = 64)
    (last : LastBlock) :
    EngineS.compress_baseline_src (rawS e) buf last = (SimdBlake2.Engine.compress_with (SimdBlake2.EngineS.compress Features.none) e buf last).map rawS ∧
    EngineS.compress_sse41_src (rawS e) buf last = (SimdBlake2.Engine.compress_with (SimdBlake2.EngineS.compress Features.sse41Only) e buf last).map rawS ∧
    EngineS.compress_avx_src (rawS e) buf last = (SimdBlake2.Engine.compress_with (SimdBlake2.EngineS.compress Features.avxOnly) e buf last).map rawS ∧
    EngineS.compress_avx2_src (rawS e) buf last = (SimdBlake2.Engine.compress_with (SimdBlake2.EngineS.compress Features.avx2All) e buf last).map rawS := by
  obtain ⟨h, t0, t1⟩ := e
  obtain ⟨a0, a1, a2, a3, a4, a5, a6, a7, rfl⟩ := Cx.Proofs.Bytes.vec8 h
  have e0 : (UInt32.ofNat t0).toNat = t0 := by rw [UInt32.toNat_ofNat']; exact Nat.mod_eq_of_lt h0
  have e1 : (UInt32.ofNat t1).toNat = t1 := by rw [UInt32.toNat_ofNat']; exact Nat.mod_eq_of_lt h1
  have key := EngineS_compress_src_eq_reference a0 a1 a2 a3 a4 a5 a6 a7 (UInt32.ofNat t0) (UInt32.ofNat t1) buf hb last
  rw [e0, e1] at key
  have hm : ∀ ft, (SimdBlake2.Engine.compress_with (SimdBlake2.EngineS.compress ft) ⟨#v[a0, a1, a2, a3, a4, a5, a6, a7], t0, t1⟩ buf last).map rawS
      = some ⟨(reference_compress Impl.Blake2.s #v[a0, a1, a2, a3, a4, a5, a6, a7] t0 t1 buf last).toList, [UInt32.ofNat t0, UInt32.ofNat t1]⟩ := by
    intro ft
    unfold SimdBlake2.Engine.compress_with
    rw [Cx.Props.C16.blake2s_engine_compress ft]; rfl
  simp only [hm]
  exact key

/-- the hypotheses are met by a fresh engine and a one-block buffer -/
example : (⟨Impl.Blake2.b.iv, 128, 0⟩ : Engine UInt64).t0 < 2 ^ 64 ∧ (⟨Impl.Blake2.b.iv, 128, 0⟩ : Engine UInt64).t1 < 2 ^ 64 := by decide

end Cx.Props.C16.GlueTieSha2Disp
