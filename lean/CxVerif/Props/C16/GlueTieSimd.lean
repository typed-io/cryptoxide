/-
  Props.C16.GlueTieSimd — the translator tie for the VECTORISED code of src/chacha/sse2.rs (family (a) of the SIMD glue).

  `Extracted/GlueSimd.lean` is regenerated from the CURRENT Rust source on every run by tools/ktx_glue_simd.py (kernel specs
  tools/kernels/glue_simd.py): the intrinsic code itself — `_mm_add_epi32`, `_mm_shuffle_epi32`, `_mm_slli_epi32`, raw-pointer
  loads / stores through `as_ptr()`/`.add(k)`, the `Align128` detour of the counter functions, the `macro_rules!` rows — is
  translated statement by statement into the intrinsic definitions of Util/Intrinsics.lean (Intel's pseudo-code, unit-tested
  against the real instructions: Util/IntrinsicsHwTest.lean).  The theorems below prove every generated function equal to the
  hand-written SSE2 row model `Impl.ChaCha.Sse2` — about which Props/C16/ChaCha.lean proves "= portable reference for every
  input" — for ALL states and ALL inputs of every length.  `toM`/`toS` are the structure isomorphisms between a generated
  `M128i`/`State` and the model's `M128`/`State` (four 32-bit lanes each).

  What the generated functions say in addition to the model: where the code would commit UNDEFINED BEHAVIOUR (a raw 16-byte
  load/store outside the slice: `key32` on a key shorter than 32 bytes, `output_bytes` on a buffer shorter than 64) the
  generated function is `.error "UB"`; the theorems state the exact domain, and `init` — which tests the lengths first — is
  proved free of it.  The `Align128` functions can fail in the translation (bounds of `[u32; 4]`, alignment of the offset):
  the theorems show they never do.
-/
import CxVerif.Extracted.GlueSimd
import CxVerif.Proofs.GlueSimd
import CxVerif.Proofs.KernelRfl
import CxVerif.Impl.ChaCha
namespace Cx.Props.C16.GlueTieSimd
open Cx.Intrinsics Cx.Impl.ChaCha Cx.Proofs.GlueSimd Cx.Extracted.GlueSimd.ChaChaSse2

theorem CST16_src_eq_model : CST16 = [Sse2.CST16.1, Sse2.CST16.2.1, Sse2.CST16.2.2.1, Sse2.CST16.2.2.2] := by decide
theorem CST32_src_eq_model : CST32 = [Sse2.CST32.1, Sse2.CST32.2.1, Sse2.CST32.2.2.1, Sse2.CST32.2.2.2] := by decide
theorem constant16_src_eq_model : constant16_src = .ok (ofM Sse2.constant16) := rfl
theorem constant32_src_eq_model : constant32_src = .ok (ofM Sse2.constant32) := rfl

/-- `Align128::zero()` is four zero words; `from_m128i` overwrites all four, `to_m128i` reads them back: neither the bounds
    nor the (offset) alignment check of the aligned `movdqa` forms can fail -/
theorem Align128_zero_src_eq : Align128_zero_src = [0, 0, 0, 0] := rfl
theorem Align128_from_m128i_src_eq (x0 x1 x2 x3 : UInt32) (v : M128i) :
    Align128_from_m128i_src [x0, x1, x2, x3] v = .ok [v.d0, v.d1, v.d2, v.d3] := rfl
theorem Align128_to_m128i_src_eq (x0 x1 x2 x3 : UInt32) : Align128_to_m128i_src [x0, x1, x2, x3] = .ok ⟨x0, x1, x2, x3⟩ := rfl

theorem add_rotate_xor_16_src_eq_model (a b c : M128i) :
    (toM (add_rotate_xor_16_src a b c).1, toM (add_rotate_xor_16_src a b c).2) = Sse2.add_rotate_xor (toM a) (toM b) (toM c) 16 := rfl
theorem add_rotate_xor_12_src_eq_model (a b c : M128i) :
    (toM (add_rotate_xor_12_src a b c).1, toM (add_rotate_xor_12_src a b c).2) = Sse2.add_rotate_xor (toM a) (toM b) (toM c) 12 := rfl
theorem add_rotate_xor_8_src_eq_model (a b c : M128i) :
    (toM (add_rotate_xor_8_src a b c).1, toM (add_rotate_xor_8_src a b c).2) = Sse2.add_rotate_xor (toM a) (toM b) (toM c) 8 := rfl
theorem add_rotate_xor_7_src_eq_model (a b c : M128i) :
    (toM (add_rotate_xor_7_src a b c).1, toM (add_rotate_xor_7_src a b c).2) = Sse2.add_rotate_xor (toM a) (toM b) (toM c) 7 := rfl

/-- `round!` takes and returns the four rows; the model takes the state -/
theorem round_src_eq_model (s : State) :
    (match round_src s.a s.b s.c s.d with | (a, b, c, d) => (⟨toM a, toM b, toM c, toM d⟩ : Sse2.State)) = Sse2.round (toS s) := by
  -- the elaborator's `rfl` re-evaluates the shared rows again and again; the kernel caches them
  open Cx.Proofs.Keccak in kernel_rfl

theorem swizzle_src_eq_model (b c d : M128i) :
    (match swizzle_src b c d with | (x, y, z) => (toM x, toM y, toM z)) = Sse2.swizzle (toM b) (toM c) (toM d) := rfl

/-- one iteration of the loop of `rounds` -/
theorem rounds_loop1_src_step (n : Nat) (s : State) :
    rounds_loop1_src (n + 1) s = rounds_loop1_src n (ofS (Sse2.doubleRound (toS s))) := by
  open Cx.Proofs.Keccak in kernel_rfl

theorem rounds_loop1_src_eq_model (n : Nat) (s : State) : toS (rounds_loop1_src n s) = Sse2.loop Sse2.doubleRound n (toS s) := by
  induction n generalizing s with
  | zero => rfl
  | succ n ih => rw [rounds_loop1_src_step, ih]; rfl

/-- **`State::rounds`**, every `ROUNDS`, every state -/
theorem rounds_src_eq_model (R : Nat) (s : State) : toS (rounds_src R s) = Sse2.rounds R (toS s) :=
  rounds_loop1_src_eq_model (R / 2) s

theorem set_counter_src_eq_model (s : State) (counter : UInt32) :
    set_counter_src s counter = .ok (ofS (Sse2.set_counter (toS s) counter)) := rfl
theorem verif_set_counter64_src_eq_model (s : State) (counter : UInt64) :
    verif_set_counter64_src s counter = .ok (ofS (Sse2.verif_set_counter64 (toS s) counter)) := rfl
theorem increment_src_eq_model (s : State) : increment_src s = .ok (ofS (Sse2.increment (toS s))) := rfl

/-- `overflowing_add(1)`: the translator writes the flag as "the 33-bit sum reaches 2^32", the model as `lane0 = 0xFFFFFFFF` -/
theorem increment64_src_eq_model (s : State) : increment64_src s = .ok (ofS (Sse2.increment64 (toS s))) := by
  rcases s with ⟨a, b, c, ⟨d0, d1, d2, d3⟩⟩
  by_cases h1 : d0 = 0xFFFFFFFF
  · subst h1; rfl
  · have h2 := mt (Cx.Proofs.SimdBits.add_one_overflows d0).mp h1
    simp only [increment64_src, Sse2.increment64, Align128_zero_src_eq, Align128_from_m128i_src_eq, Glue.index, List.getElem?_cons_zero,
      h2, h1, decide_false, Bool.false_eq_true, if_false, toS, toM]
    rfl

theorem add_back_src_eq_model (s initial : State) : toS (add_back_src s initial) = Sse2.add_back (toS s) (toS initial) := rfl

/-- `key32`: two raw 16-byte loads; UB exactly when the key is shorter than 32 bytes -/
theorem key32_src_eq_model (key : Bytes) :
    key32_src key = if 32 ≤ key.length then .ok (ofM3 (Sse2.key32 key)) else .error "UB" := by
  unfold key32_src
  rw [constant32_src_eq_model]
  simp only [loadu_eq]
  by_cases h16 : 0 + 16 ≤ key.length <;> by_cases h32 : 16 + 16 ≤ key.length
  · rw [if_pos h16, if_pos h32, if_pos (by omega)]; rfl
  · rw [if_pos h16, if_neg h32, if_neg (by omega)]
  · omega
  · rw [if_neg h16, if_neg h32, if_neg (show ¬ 32 ≤ key.length by omega)]

/-- `key16`: one raw 16-byte load; UB exactly when the key is shorter than 16 bytes -/
theorem key16_src_eq_model (key : Bytes) :
    key16_src key = if 16 ≤ key.length then .ok (ofM3 (Sse2.key16 key)) else .error "UB" := by
  unfold key16_src
  rw [constant16_src_eq_model]
  simp only [loadu_eq]
  by_cases h16 : 0 + 16 ≤ key.length
  · rw [if_pos h16, if_pos (by omega)]; rfl
  · rw [if_neg h16, if_neg (by omega)]

/-- **`nonce`**, every length: 16 → the load, 12 / 8 → the words placed through `Align128`, anything else `unreachable!()` -/
theorem nonce_src_eq_model (nonce : Bytes) : nonce_src nonce = (Sse2.nonce nonce).map ofM := by
  unfold nonce_src Sse2.nonce
  by_cases h16 : nonce.length = 16
  · rw [if_pos h16, if_pos h16, loadu_eq, if_pos (by omega)]; rfl
  · rw [if_neg h16, if_neg h16]
    by_cases h12 : nonce.length = 12
    · simp only [h12, Glue.slice]
      rfl
    · by_cases h8 : nonce.length = 8
      · simp only [h8, Glue.slice]
        rfl
      · simp only [if_neg h12, if_neg h8]; rfl

/-- **`State::init`** = the model's `init` for EVERY key and nonce (of any length): the length tests of `init` keep the raw
    loads of `key32`/`key16`/`nonce` inside the slices — no `"UB"` result is possible -/
theorem init_src_eq_model (key nonce : Bytes) : init_src key nonce = (Sse2.init key nonce).map ofS := by
  unfold init_src Sse2.init
  by_cases h32 : key.length = 32
  · rw [if_pos h32, if_pos h32, key32_src_eq_model, if_pos (by omega), nonce_src_eq_model]
    cases Sse2.nonce nonce <;> rfl
  · rw [if_neg h32, if_neg h32]
    by_cases h16 : key.length = 16
    · rw [if_pos h16, if_pos h16, key16_src_eq_model, if_pos (by omega), nonce_src_eq_model]
      cases Sse2.nonce nonce <;> rfl
    · rw [if_neg h16, if_neg h16]; rfl

/-- **`output_bytes`**: four raw 16-byte stores overwrite the first 64 bytes of `output` with the model's serialisation; UB
    exactly when the buffer is shorter than 64 bytes (the callers in chacha20.rs pass `&mut [u8; 64]` / a 64-byte array) -/
theorem output_bytes_src_eq_model (s : State) (output : Bytes) :
    output_bytes_src s output =
      if 64 ≤ output.length then .ok (Sse2.output_bytes (toS s) ++ output.drop 64) else .error "UB" := by
  -- the four chained stores are `storesK output 0 [a, b, c, d]` by definition
  refine (storesK_eq [s.a, s.b, s.c, s.d] [] output 0 rfl).trans ?_
  simp only [List.flatMap_cons, List.flatMap_nil, List.nil_append, List.append_nil, bytes_eq_storeu, Sse2.output_bytes, List.append_assoc]
  rfl

/-- **`output_ad_bytes`** (`output: &mut [u8; 32]`): rows a and d -/
theorem output_ad_bytes_src_eq_model (s : State) (output : Bytes) :
    output_ad_bytes_src s output =
      if 32 ≤ output.length then .ok (Sse2.output_ad_bytes (toS s) ++ output.drop 32) else .error "UB" := by
  refine (storesK_eq [s.a, s.d] [] output 0 rfl).trans ?_
  simp only [List.flatMap_cons, List.flatMap_nil, List.nil_append, List.append_nil, bytes_eq_storeu, Sse2.output_ad_bytes, List.append_assoc]
  rfl

/-- the keystream block computed by the TRANSLATED `rounds`, `add_back`, `output_bytes` (what `ChaCha::update` runs on an
    x86-64 build) is the model's `sse2Engine.block`, for every state and every round count; Props/C16/ChaCha.lean
    (`chacha_sse2_block`) then equates it with the portable engine -/
theorem block_src_eq_model (R : Nat) (s : State) (out : Bytes) (h : out.length = 64) :
    output_bytes_src (add_back_src (rounds_src R s) s) out = .ok (sse2Engine.block R (toS s)) := by
  rw [output_bytes_src_eq_model, if_pos (by omega), add_back_src_eq_model, rounds_src_eq_model]
  have : out.drop 64 = [] := List.drop_eq_nil_of_le (by omega)
  rw [this, List.append_nil]
  rfl

end Cx.Props.C16.GlueTieSimd
