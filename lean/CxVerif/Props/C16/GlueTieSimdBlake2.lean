/-
  Props.C16.GlueTieSimdBlake2 — the translator tie for the VECTORISED BLAKE2 compressions (family (c) of the SIMD glue):
  src/hashing/blake2/avx.rs (`compress_b`/`compress_b_avx`, `compress_s`/`compress_s_avx`; generated namespace `Blake2Avx`) and
  avx2.rs (`compress_b`/`compress_b_avx2`; `Blake2Avx2`).

  `Extracted/GlueSimd.lean` is regenerated from the CURRENT Rust source on every run by tools/ktx_glue_simd.py: the eight rotation
  helpers (`pshufb` masks, `pshufd` immediates, shift pairs), the local macros `G!`/`G1!`/`G2!`, `DIAGONALIZE!`/`UNDIAGONALIZE!`,
  `ROUND!`, the ten message-gathering macros `load0! … load9!` of each function (unpack / alignr / blend / shuffle / byte-shift
  intrinsics with their immediates; `blend!`, `lo_lo!` … in avx2.rs), the raw loads of the block / `h` / `IV` / `t` through
  `*const __m128i` / `*const __m256i`, the counter-and-flag vectors (`_mm_set_epi64x(0, -1i64)`, `_mm_set_epi32(0, -1i32, t[1] as i32,
  t[0] as i32)`, `_mm256_set_epi64x(..)`), the final xors and the stores into `h` — all in the intrinsic definitions of
  Util/Intrinsics.lean.  The theorems prove the generated functions equal to the hand lane models of Impl/SimdBlake2.lean
  (`avx_compress_b`, `avx_compress_s`, `avx2_compress_b`: interpreters of the re-extracted gather programs, proved equal to the
  portable `reference_compress` for every input in Props/C16/Blake2.lean), for ALL chaining values, counters, flags and blocks.
  `to2`/`to4`/`toQ` view a generated `M128i`/`M256i` as the model's `V2x64`/`V4x32`/`V4x64` (Proofs/GlueSimdBlake2*.lean).

  Domain: `h`, `t` are the `[u64; 8]`/`[u32; 8]`, `[u64; 2]`/`[u32; 2]` arrays of the Rust signatures (explicit 8- / 2-element
  lists); `buf` holds at least one block (the callers in blake2b.rs / blake2s.rs pass exactly `BLOCK_BYTES`; a shorter slice is a
  raw out-of-bounds load: the generated function returns `.error "UB"`, see the examples).  The aligned loads of `h`
  (`_mm_load_si128`, `_mm256_load_si256`) are at offsets 0, 16, 32, 48 / 0, 32 of `h`, whose 32-byte alignment is promised by
  `#[repr(align(32))]` on `EngineB`/`EngineS` (mod.rs; outside the translated files — an assumption of this tie, observed by C16's
  correspondence).
-/
import CxVerif.Proofs.GlueSimdBlake2AvxB
import CxVerif.Proofs.GlueSimdBlake2AvxS
import CxVerif.Proofs.GlueSimdBlake2Avx2
import CxVerif.Props.C16.Blake2
namespace Cx.Props.C16.GlueTieSimdBlake2
open Cx.Intrinsics Cx.Impl.SimdBlake2 Cx.Proofs.SimdBlake2 Cx.Proofs.GlueSimdBlake2
open Cx.Extracted.GlueSimd
open Cx.Impl.Blake2 (LastBlock reference_compress)

namespace AvxB
open Blake2Avx Cx.Proofs.GlueSimdBlake2.AvxBI

theorem b_IV_src_eq_model : Blake2Avx.b_IV = Impl.Blake2.b.iv.toList := by decide

/-- the four rotations: `pshufb` byte permutations, `pshufd` dword swap, shift-xor -/
theorem rotate_src_eq_model (r : M128i) :
    to2 (rotate16_epi64_src r) = AvxB.rotate16_epi64 (to2 r) ∧ to2 (rotate24_epi64_src r) = AvxB.rotate24_epi64 (to2 r) ∧
    to2 (rotate32_epi64_src r) = AvxB.rotate32_epi64 (to2 r) ∧ AvxB.rotate63_epi64 (to2 r) = some (to2 (rotate63_epi64_src r)) := by
  refine ⟨to2_rotate16 r, to2_rotate24 r, to2_rotate32 r, ?_⟩
  rw [to2_rotate63, avxbRot63_eq, avxb_rotate63]

theorem G1_src_eq_model (b0 b1 r1l r1h r2l r2h r3l r3h r4l r4h : M128i) :
    toRows (compress_b_avx_G1_src b0 b1 r1l r1h r2l r2h r3l r3h r4l r4h)
      = AvxB.G1 (toRows (r1l, r1h, r2l, r2h, r3l, r3h, r4l, r4h)) (to2 b0) (to2 b1) := (G1_tie b0 b1 (r1l, r1h, r2l, r2h, r3l, r3h, r4l, r4h)).symm
theorem G2_src_eq_model (b0 b1 r1l r1h r2l r2h r3l r3h r4l r4h : M128i) :
    toRows (compress_b_avx_G2_src b0 b1 r1l r1h r2l r2h r3l r3h r4l r4h)
      = AvxB.G2 avxbRot63 (toRows (r1l, r1h, r2l, r2h, r3l, r3h, r4l, r4h)) (to2 b0) (to2 b1) := (G2_tie b0 b1 (r1l, r1h, r2l, r2h, r3l, r3h, r4l, r4h)).symm
theorem ROUND_src_eq_model (ld rows : R8) :
    AvxB.ROUND avxbRot63 (toRows rows) (toL ld) =
      some (toRows (match rows with
        | (r1l, r1h, r2l, r2h, r3l, r3h, r4l, r4h) => compress_b_avx_ROUND_src ld r1l r1h r2l r2h r3l r3h r4l r4h)) := ROUND_tie ld rows

/-- the ten message-gathering macros = the model's extracted programs `B_AVX_LOADS[r]`, and the source's round order = `B_AVX_ROUNDS` -/
theorem loads_src_eq_model : (∀ p ∈ loadsB, LoadTie p.1 p.2) ∧ loadsB.map Prod.snd = Extracted.Simd.B_AVX_ROUNDS :=
  ⟨loadsB_tie, loadsB_rounds⟩

open Cx.Proofs.GlueSimdBlake2.AvxBI in
theorem compress_b_avx_src_eq_model (h0 h1 h2 h3 h4 h5 h6 h7 i0 i1 i2 i3 i4 i5 i6 i7 t0 t1 : UInt64) (block : Bytes)
    (hb : 128 ≤ block.length) (f : M128i) :
    ∃ out : Vector UInt64 8,
      AvxB.compress_b_avx #v[h0, h1, h2, h3, h4, h5, h6, h7] block #v[i0, i1, i2, i3, i4, i5, i6, i7] ⟨t0, t1⟩ (to2 f) = some out ∧
      compress_b_avx_src [h0, h1, h2, h3, h4, h5, h6, h7] 0 block 0 [i0, i1, i2, i3, i4, i5, i6, i7] 0 [t0, t1] 0 f = .ok out.toList := by
  obtain ⟨o, hm, hs⟩ := rounds_fold_tie (AvxB.rounds avxbRot63 (AvxB.msgVecs (Spec.Blake2.loadWords block)))
    (AvxB.load (AvxB.msgVecs (Spec.Blake2.loadWords block))) (AvxB.ROUND avxbRot63) (fun _ => rfl)
    (fun _ _ _ _ _ hl hR => by simp only [AvxB.rounds, hl, hR]) toRows loadsB Prod.snd
    (roundB (vec block 0) (vec block 16) (vec block 32) (vec block 48) (vec block 64) (vec block 80) (vec block 96) (vec block 112))
    (fun p hp rows => ⟨_, msg_eq block hb ▸ loadsB_tie p hp _ _ _ _ _ _ _ _, ROUND_tie _ rows⟩)
    (avxbOut #v[h0, h1, h2, h3, h4, h5, h6, h7])
    (outB (M128i.ofQwords h0 h1) (M128i.ofQwords h2 h3) (M128i.ofQwords h4 h5) (M128i.ofQwords h6 h7))
    (fun F => by obtain ⟨a1, a2, b1, b2, c1, c2, d1, d2⟩ := F; simp only [outB, to2_xor, to2_ofQwords]; rfl)
    (M128i.ofQwords h0 h1, M128i.ofQwords h2 h3, M128i.ofQwords h4 h5, M128i.ofQwords h6 h7, M128i.ofQwords i0 i1, M128i.ofQwords i2 i3,
      _mm_xor_si128 (M128i.ofQwords i4 i5) (M128i.ofQwords t0 t1), _mm_xor_si128 (M128i.ofQwords i6 i7) f)
  rw [loadsB_rounds] at hm
  simp only [toRows, to2_xor, to2_ofQwords] at hm
  refine ⟨o, (compress_b_avx_eq_rounds _ _ _ _ _).trans hm, ?_⟩
  unfold compress_b_avx_src
  rw [if_neg (by decide)]
  -- `rw`, not `simp only`: the goal holds the twelve unrolled rounds, which `simp` would walk through for each lemma
  rw [loadu_vec block 0 (by omega), loadu_vec0 block 16 (by omega), loadu_vec0 block 32 (by omega), loadu_vec0 block 48 (by omega),
    loadu_vec0 block 64 (by omega), loadu_vec0 block 80 (by omega), loadu_vec0 block 96 (by omega), loadu_vec0 block 112 (by omega)]
  -- what is left IS the stores of the fold of the twelve `ROUND!(loadR!())` statements: the kernel never looks inside a round
  exact Eq.trans (by kernel_rfl) (congrArg Except.ok hs)

/-- **`avx::compress_b`** = the model, hence (Props/C16/Blake2.lean) the portable `reference::compress_b`, for every chaining
    value, counter, flag and block -/
theorem compress_b_src_eq_model (h0 h1 h2 h3 h4 h5 h6 h7 t0 t1 : UInt64) (buf : Bytes) (hb : 128 ≤ buf.length) (last : LastBlock) :
    ∃ out : Vector UInt64 8, avx_compress_b #v[h0, h1, h2, h3, h4, h5, h6, h7] t0.toNat t1.toNat buf last = some out ∧
      compress_b_src [h0, h1, h2, h3, h4, h5, h6, h7] [t0, t1] buf last = .ok (out.toList, [t0, t1]) := by
  obtain ⟨out, hm, hs⟩ := compress_b_avx_src_eq_model h0 h1 h2 h3 h4 h5 h6 h7 0x6a09e667f3bcc908 0xbb67ae8584caa73b
    0x3c6ef372fe94f82b 0xa54ff53a5f1d36f1 0x510e527fade682d1 0x9b05688c2b3e6c1f 0x1f83d9abfb41bd6b 0x5be0cd19137e2179 t0 t1 buf hb
    (if last = LastBlock.Yes then _mm_set_epi64x 0 0xffffffffffffffff else _mm_set1_epi64x 0)
  refine ⟨out, ?_, ?_⟩
  · rw [← hm, avx_compress_b, UInt64.ofNat_toNat, UInt64.ofNat_toNat]
    cases last <;> rfl
  · unfold compress_b_src
    have hiv : b_IV = [0x6a09e667f3bcc908, 0xbb67ae8584caa73b, 0x3c6ef372fe94f82b, 0xa54ff53a5f1d36f1,
      0x510e527fade682d1, 0x9b05688c2b3e6c1f, 0x1f83d9abfb41bd6b, 0x5be0cd19137e2179] := rfl
    rw [hiv]
    dsimp only
    rw [hs]

theorem compress_b_src_eq_reference (h0 h1 h2 h3 h4 h5 h6 h7 t0 t1 : UInt64) (buf : Bytes) (hb : 128 ≤ buf.length) (last : LastBlock) :
    compress_b_src [h0, h1, h2, h3, h4, h5, h6, h7] [t0, t1] buf last
      = .ok ((reference_compress Impl.Blake2.b #v[h0, h1, h2, h3, h4, h5, h6, h7] t0.toNat t1.toNat buf last).toList, [t0, t1]) := by
  obtain ⟨out, hm, hs⟩ := compress_b_src_eq_model h0 h1 h2 h3 h4 h5 h6 h7 t0 t1 buf hb last
  rw [Cx.Props.C16.blake2b_avx_compress] at hm
  cases hm
  exact hs

example : 128 ≤ (List.replicate 128 (0x61 : UInt8)).length := by rw [List.length_replicate]
-- a block shorter than 128 bytes is a raw out-of-bounds load
open Cx.Proofs.Keccak in
example : compress_b_src [1, 2, 3, 4, 5, 6, 7, 8] [0, 0] (List.replicate 127 0) .No = .error "UB" := by kernel_rfl

end AvxB

namespace AvxS
open Blake2Avx Cx.Proofs.GlueSimdBlake2.AvxSI

theorem s_IV_src_eq_model : Blake2Avx.s_IV = Impl.Blake2.s.iv.toList := by decide

theorem rotate_src_eq_model (r : M128i) :
    to4 (rotate16_epi32_src r) = AvxS.rotate16_epi32 (to4 r) ∧ to4 (rotate8_epi32_src r) = AvxS.rotate8_epi32 (to4 r) ∧
    AvxS.rotate12_epi32 (to4 r) = some (to4 (rotate12_epi32_src r)) ∧ AvxS.rotate7_epi32 (to4 r) = some (to4 (rotate7_epi32_src r)) := by
  refine ⟨to4_rotate16 r, to4_rotate8 r, ?_, ?_⟩
  · rw [to4_rotate12, avxsRot12_eq, avxs_rotate12]
  · rw [to4_rotate7, avxsRot7_eq, avxs_rotate7]

theorem ROUND_src_eq_model (ld rows : R4) :
    AvxS.ROUND avxsRots (toRows rows) (toL ld) =
      some (toRows (match rows with | (r1, r2, r3, r4) => compress_s_avx_ROUND_src ld r1 r2 r3 r4)) := ROUND_tie ld rows

theorem loads_src_eq_model : (∀ p ∈ loadsS, LoadTie p.1 p.2) ∧ loadsS.map Prod.snd = Extracted.Simd.S_AVX_ROUNDS :=
  ⟨loadsS_tie, loadsS_rounds⟩

open Cx.Proofs.GlueSimdBlake2.AvxSI in
theorem compress_s_avx_src_eq_model (h0 h1 h2 h3 h4 h5 h6 h7 i0 i1 i2 i3 i4 i5 i6 i7 : UInt32) (block : Bytes)
    (hb : 64 ≤ block.length) (t : M128i) :
    ∃ out : Vector UInt32 8,
      AvxS.compress_s_avx #v[h0, h1, h2, h3, h4, h5, h6, h7] block #v[i0, i1, i2, i3, i4, i5, i6, i7] (to4 t) = some out ∧
      compress_s_avx_src [h0, h1, h2, h3, h4, h5, h6, h7] 0 block 0 [i0, i1, i2, i3, i4, i5, i6, i7] 0 t = .ok out.toList := by
  obtain ⟨o, hm, hs⟩ := rounds_fold_tie (AvxS.rounds avxsRots (AvxS.msgVecs (Spec.Blake2.loadWords block)))
    (AvxS.load (AvxS.msgVecs (Spec.Blake2.loadWords block))) (AvxS.ROUND avxsRots) (fun _ => rfl)
    (fun _ _ _ _ _ hl hR => by simp only [AvxS.rounds, hl, hR]) toRows loadsS Prod.snd
    (roundS (vec block 0) (vec block 16) (vec block 32) (vec block 48))
    (fun p hp rows => ⟨_, AvxSI.msg_eq block ▸ loadsS_tie p hp _ _ _ _, ROUND_tie _ rows⟩)
    (avxsOut #v[h0, h1, h2, h3, h4, h5, h6, h7]) (outS ⟨h0, h1, h2, h3⟩ ⟨h4, h5, h6, h7⟩)
    (fun F => by obtain ⟨a, b, c, d⟩ := F; rfl)
    (⟨h0, h1, h2, h3⟩, ⟨h4, h5, h6, h7⟩, ⟨i0, i1, i2, i3⟩, _mm_xor_si128 ⟨i4, i5, i6, i7⟩ t)
  rw [loadsS_rounds] at hm
  refine ⟨o, (compress_s_avx_eq_rounds _ _ _ _).trans hm, ?_⟩
  unfold compress_s_avx_src
  rw [loadu_vec block 0 (by omega), loadu_vec0 block 16 (by omega), loadu_vec0 block 32 (by omega), loadu_vec0 block 48 (by omega)]
  exact Eq.trans (by kernel_rfl) (congrArg Except.ok hs)

theorem compress_s_src_eq_model (h0 h1 h2 h3 h4 h5 h6 h7 t0 t1 : UInt32) (buf : Bytes) (hb : 64 ≤ buf.length) (last : LastBlock) :
    ∃ out : Vector UInt32 8, avx_compress_s #v[h0, h1, h2, h3, h4, h5, h6, h7] t0.toNat t1.toNat buf last = some out ∧
      compress_s_src [h0, h1, h2, h3, h4, h5, h6, h7] [t0, t1] buf last = .ok out.toList := by
  obtain ⟨out, hm, hs⟩ := compress_s_avx_src_eq_model h0 h1 h2 h3 h4 h5 h6 h7 0x6a09e667 0xbb67ae85 0x3c6ef372 0xa54ff53a 0x510e527f
    0x9b05688c 0x1f83d9ab 0x5be0cd19 buf hb
    (if last = LastBlock.Yes then _mm_set_epi32 0 0xffffffff t1 t0 else _mm_set_epi32 0 0 t1 t0)
  refine ⟨out, ?_, ?_⟩
  · rw [← hm, avx_compress_s, UInt32.ofNat_toNat, UInt32.ofNat_toNat]
    cases last <;> rfl
  · unfold compress_s_src
    have hiv : s_IV = [0x6a09e667, 0xbb67ae85, 0x3c6ef372, 0xa54ff53a, 0x510e527f, 0x9b05688c, 0x1f83d9ab, 0x5be0cd19] := rfl
    rw [hiv]
    cases last
    all_goals
      simp only [if_true, if_false, Glue.index, reduceCtorEq] at hs ⊢
      dsimp only [List.getElem?_cons_succ, List.getElem?_cons_zero]
      rw [hs]

theorem compress_s_src_eq_reference (h0 h1 h2 h3 h4 h5 h6 h7 t0 t1 : UInt32) (buf : Bytes) (hb : 64 ≤ buf.length) (last : LastBlock) :
    compress_s_src [h0, h1, h2, h3, h4, h5, h6, h7] [t0, t1] buf last
      = .ok (reference_compress Impl.Blake2.s #v[h0, h1, h2, h3, h4, h5, h6, h7] t0.toNat t1.toNat buf last).toList := by
  obtain ⟨out, hm, hs⟩ := compress_s_src_eq_model h0 h1 h2 h3 h4 h5 h6 h7 t0 t1 buf hb last
  rw [Cx.Props.C16.blake2s_avx_compress] at hm
  cases hm
  exact hs

end AvxS

namespace Avx2B
open Blake2Avx2 Cx.Proofs.GlueSimdBlake2.Avx2I

theorem b_IV_src_eq_model : Blake2Avx2.b_IV = Impl.Blake2.b.iv.toList := by decide

theorem rot_src_eq_model (v : M256i) :
    toQ (rot16_src v) = Avx2B.rot16 (toQ v) ∧ toQ (rot24_src v) = Avx2B.rot24 (toQ v) ∧ toQ (rot32_src v) = Avx2B.rot32 (toQ v) ∧
    Avx2B.rot63 (toQ v) = some (toQ (rot63_src v)) := by
  refine ⟨q_rot16 v, q_rot24 v, q_rot32 v, ?_⟩
  rw [q_rot63, avx2Rot63_eq, avx2_rot63]

theorem ROUND_src_eq_model (ld rows : R4) :
    Avx2B.ROUND avx2Rot63 (toRows rows) (toL ld) =
      some (toRows (match rows with | (r1, r2, r3, r4) => compress_b_avx2_ROUND_src ld r1 r2 r3 r4)) := ROUND_tie ld rows

theorem loads_src_eq_model : (∀ p ∈ loads2, LoadTie p.1 p.2) ∧ loads2.map Prod.snd = Extracted.Simd.B_AVX2_ROUNDS :=
  ⟨loads2_tie, loads2_rounds⟩

open Cx.Proofs.GlueSimdBlake2.Avx2I in
theorem compress_b_avx2_src_eq_model (h0 h1 h2 h3 h4 h5 h6 h7 i0 i1 i2 i3 i4 i5 i6 i7 : UInt64) (block : Bytes)
    (hb : 128 ≤ block.length) (ft : M256i) :
    ∃ out : Vector UInt64 8,
      Avx2B.compress_b_avx2 #v[h0, h1, h2, h3, h4, h5, h6, h7] block #v[i0, i1, i2, i3, i4, i5, i6, i7] (toQ ft) = some out ∧
      compress_b_avx2_src [h0, h1, h2, h3, h4, h5, h6, h7] 0 block 0 [i0, i1, i2, i3, i4, i5, i6, i7] 0 ft = .ok out.toList := by
  obtain ⟨o, hm, hs⟩ := rounds_fold_tie (Avx2B.rounds avx2Rot63 (Avx2B.msgVecs (Spec.Blake2.loadWords block)))
    (Avx2B.load (Avx2B.msgVecs (Spec.Blake2.loadWords block))) (Avx2B.ROUND avx2Rot63) (fun _ => rfl)
    (fun _ _ _ _ _ hl hR => by simp only [Avx2B.rounds, hl, hR]) toRows loads2 Prod.snd
    (round2 (_mm256_broadcastsi128_si256 (vec block 0)) (_mm256_broadcastsi128_si256 (vec block 16))
      (_mm256_broadcastsi128_si256 (vec block 32)) (_mm256_broadcastsi128_si256 (vec block 48))
      (_mm256_broadcastsi128_si256 (vec block 64)) (_mm256_broadcastsi128_si256 (vec block 80))
      (_mm256_broadcastsi128_si256 (vec block 96)) (_mm256_broadcastsi128_si256 (vec block 112)))
    (fun p hp rows => ⟨_, msg_eq2 block hb ▸ loads2_tie p hp _ _ _ _ _ _ _ _, ROUND_tie _ rows⟩)
    (avx2Out #v[h0, h1, h2, h3, h4, h5, h6, h7])
    (out2 ⟨M128i.ofQwords h0 h1, M128i.ofQwords h2 h3⟩ ⟨M128i.ofQwords h4 h5, M128i.ofQwords h6 h7⟩)
    (fun F => by obtain ⟨a, b, c, d⟩ := F; simp only [out2, q_xor, toQ_qw]; rfl)
    (⟨M128i.ofQwords h0 h1, M128i.ofQwords h2 h3⟩, ⟨M128i.ofQwords h4 h5, M128i.ofQwords h6 h7⟩, ⟨M128i.ofQwords i0 i1, M128i.ofQwords i2 i3⟩,
      _mm256_xor_si256 ⟨M128i.ofQwords i4 i5, M128i.ofQwords i6 i7⟩ ft)
  rw [loads2_rounds] at hm
  simp only [toRows, q_xor, toQ_qw] at hm
  refine ⟨o, (compress_b_avx2_eq_rounds _ _ _ _).trans hm, ?_⟩
  unfold compress_b_avx2_src
  rw [loadu_vec block 0 (by omega), loadu_vec0 block 16 (by omega), loadu_vec0 block 32 (by omega), loadu_vec0 block 48 (by omega),
    loadu_vec0 block 64 (by omega), loadu_vec0 block 80 (by omega), loadu_vec0 block 96 (by omega), loadu_vec0 block 112 (by omega)]
  exact Eq.trans (by kernel_rfl) (congrArg Except.ok hs)

theorem compress_b_src_eq_model (h0 h1 h2 h3 h4 h5 h6 h7 t0 t1 : UInt64) (buf : Bytes) (hb : 128 ≤ buf.length) (last : LastBlock) :
    ∃ out : Vector UInt64 8, avx2_compress_b #v[h0, h1, h2, h3, h4, h5, h6, h7] t0.toNat t1.toNat buf last = some out ∧
      Blake2Avx2.compress_b_src [h0, h1, h2, h3, h4, h5, h6, h7] [t0, t1] buf last = .ok (out.toList, [t0, t1]) := by
  obtain ⟨out, hm, hs⟩ := compress_b_avx2_src_eq_model h0 h1 h2 h3 h4 h5 h6 h7 0x6a09e667f3bcc908 0xbb67ae8584caa73b
    0x3c6ef372fe94f82b 0xa54ff53a5f1d36f1 0x510e527fade682d1 0x9b05688c2b3e6c1f 0x1f83d9abfb41bd6b 0x5be0cd19137e2179 buf hb
    (if last = LastBlock.Yes then _mm256_set_epi64x 0 0xffffffffffffffff t1 t0 else _mm256_set_epi64x 0 0 t1 t0)
  refine ⟨out, ?_, ?_⟩
  · rw [← hm, avx2_compress_b, UInt64.ofNat_toNat, UInt64.ofNat_toNat]
    cases last
    · exact congrArg (Avx2B.compress_b_avx2 _ buf Impl.Blake2.b.iv) (toQ_qw t0 t1 0xffffffffffffffff 0).symm
    · exact congrArg (Avx2B.compress_b_avx2 _ buf Impl.Blake2.b.iv) (toQ_qw t0 t1 0 0).symm
  · unfold Blake2Avx2.compress_b_src
    have hiv : Blake2Avx2.b_IV = [0x6a09e667f3bcc908, 0xbb67ae8584caa73b, 0x3c6ef372fe94f82b, 0xa54ff53a5f1d36f1,
      0x510e527fade682d1, 0x9b05688c2b3e6c1f, 0x1f83d9abfb41bd6b, 0x5be0cd19137e2179] := rfl
    rw [hiv]
    cases last
    all_goals
      simp only [if_true, if_false, Glue.index, reduceCtorEq] at hs ⊢
      dsimp only [List.getElem?_cons_succ, List.getElem?_cons_zero]
      rw [hs]

theorem compress_b_src_eq_reference (h0 h1 h2 h3 h4 h5 h6 h7 t0 t1 : UInt64) (buf : Bytes) (hb : 128 ≤ buf.length) (last : LastBlock) :
    Blake2Avx2.compress_b_src [h0, h1, h2, h3, h4, h5, h6, h7] [t0, t1] buf last
      = .ok ((reference_compress Impl.Blake2.b #v[h0, h1, h2, h3, h4, h5, h6, h7] t0.toNat t1.toNat buf last).toList, [t0, t1]) := by
  obtain ⟨out, hm, hs⟩ := compress_b_src_eq_model h0 h1 h2 h3 h4 h5 h6 h7 t0 t1 buf hb last
  rw [Cx.Props.C16.blake2b_avx2_compress] at hm
  cases hm
  exact hs

end Avx2B

end Cx.Props.C16.GlueTieSimdBlake2
