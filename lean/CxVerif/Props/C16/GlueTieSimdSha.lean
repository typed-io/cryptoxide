/-
  Props.C16.GlueTieSimdSha — the translator tie for the VECTORISED SHA-256 block functions (family (b) of the SIMD glue):
  src/hashing/sha2/impl256/sse41.rs (generated namespace `Sha256Sse41`) and avx.rs (`Sha256Avx`).

  `Extracted/GlueSimd.lean` is regenerated from the CURRENT Rust source on every run by tools/ktx_glue_simd.py: `gather` (raw
  `ptr::read` through `*const i32`, `_mm_cvtsi32_si128`/`_mm_insert_epi32`, `_mm256_castsi128_si256`/`_mm256_insert_epi32`),
  `sigma0`/`sigma1`, the macros `SCHEDULE_ROUND!`/`SCHEDULE_ROUND_INC!`, `message_schedule_4ways/8ways` (sixteen gathers,
  `pshufb` byte swap, the `while i < 32` loop, the sixteen tail rounds with their `schedule[k] = …` stores), `compress_4ways/8ways`
  (the local macros `round!`, `compress_once!(j)` with `_mm_extract_epi32(*schedule.get_unchecked(i), j)`, the `while i != 64` loop),
  `digest_block` (the batch loop and the fall-through to the narrower engine) — all in the intrinsic definitions of
  Util/Intrinsics.lean.  The theorems prove every generated function equal to the hand lane model `Impl.SimdSha256` (an interpreter
  of the re-extracted macro tables, about which Props/C16/Sha256.lean proves "= portable reference for every input"), for ALL states
  and ALL inputs.  `toL4`/`toL8` view a generated `M128i`/`M256i` as the model's `Lanes 4`/`Lanes 8`.

  How the straight-line generated code meets the table interpreter: Proofs/GlueSimdSha.lean.  In short: the generated loop body /
  tail / loads ARE (`kernel_rfl`) the model's interpreter, written in continuation-passing style over the generated step functions,
  run on the extracted tables; a simulation lemma and the register-algebra-generic schedule theorem of Proofs/SimdSha256Sched.lean
  give `schedule[k] = W_k + K32[k]` lane-wise for ANY initial contents of the 64-entry array (the code re-uses it across batches).

  Failure: the generated functions return `Except String`: `"UB"` for a raw read outside the message (`gather` on fewer than 256 / 512
  bytes) or `get_unchecked` outside the array, `"PANIC"` for the checked `schedule[i]`, `K32[i]`, slice operations, `"DIVERGE"` for a
  loop outliving its fuel.  The theorems show that `digest_block` hits none of them except exactly the panic of
  `reference::digest_block` on a trailing partial block (`toOption` forgets the message).
-/
import CxVerif.Proofs.GlueSimdShaAvx
import CxVerif.Props.C16.Sha256
namespace Cx.Props.C16.GlueTieSimdSha
open Cx.Intrinsics Cx.Impl Cx.Impl.SimdSha256 Cx.Impl.Sha2 Cx.Spec.Sha2 Cx.Proofs.GlueSimdSha
open Cx.Extracted.GlueSimd Cx.Proofs.GlueSimdSha.Sse41I Cx.Proofs.GlueSimdSha.AvxI

theorem ok_of_toOption {α : Type} {x : Except String α} {r : α} (h : x.toOption = some r) : x = .ok r := by
  cases x <;> cases h
  rfl

namespace Sse41
open Sha256Sse41

/-- `const K32: [u32; 64] = reference::K32;` -/
theorem K32_src_eq_model : Sha256Sse41.K32 = Impl256.K32 := K32_sse41

/-- `gather(message.add(off))` inside the message: the four unaligned little-endian words at distance 64 bytes -/
theorem gather_src_eq (msg : Bytes) (off : Nat) (h : off + 196 ≤ msg.length) :
    gather_src msg off = .ok ⟨ld32 msg off, ld32 msg (off + 64), ld32 msg (off + 128), ld32 msg (off + 192)⟩ := gather_ok msg off h

/-- `sigma0` / `sigma1`: the five-shift xor trees = the model's trees over the intrinsic algebra, lane-wise = FIPS σ0 / σ1 -/
theorem sigma_src_eq_model (v : M128i) :
    sigma0 A4 Sse41.cfg v = some (sigma0_src v) ∧ sigma1 A4 Sse41.cfg v = some (sigma1_src v) ∧
    sigma0_src v = v.map smallSigma0_256 ∧ sigma1_src v = v.map smallSigma1_256 :=
  ⟨sigma0_sse41 v, sigma1_sse41 v, sigma0_lanes v, sigma1_lanes v⟩

/-- `SCHEDULE_ROUND!` / `SCHEDULE_ROUND_INC!` = one round of the model's interpreter (closed forms of the generated macro functions) -/
theorem SCHEDULE_ROUND_src_eq_model :
    StepOk A4 Sse41.cfg sigma0_src sigma1_src Sha256Sse41.K32 SCHEDULE_ROUND_INC_src SCHEDULE_ROUND_src := stepOk_sse41

/-- the generated `while i < 32` loop IS the model's interpreter over the extracted `SSE41_LOOP_BODY` (in CPS over the generated macro function) -/
theorem message_schedule_loop_src_eq (fuel : Nat) (st : St18 M128i) : message_schedule_4ways_loop1_src (fuel + 1) st
    = if (toSched st).i < Sse41.cfg.loopBound then
        bodyK SCHEDULE_ROUND_INC_src (toSched st) Sse41.cfg.loopBody (fun s => back s (message_schedule_4ways_loop1_src fuel))
      else .ok st := by
  rw [while_sse41]; rfl

/-- **`message_schedule_4ways`**: ANY 64-entry array, any message holding a batch: the model's schedule, no UB / panic -/
theorem message_schedule_4ways_src_eq_model (sched : List M128i) (msg : Bytes) (hs : sched.length = 64) (hm : 256 ≤ msg.length) :
    ∃ out, message_schedule_4ways_src sched msg = .ok out ∧ out.length = 64 ∧
      message_schedule Sse41.cfg msg = some (out.map toL4) := message_schedule_src_eq_model sched msg hs hm

example : (List.replicate 64 (_mm_set1_epi32 0)).length = 64 ∧ 256 ≤ (List.replicate 300 (7 : UInt8)).length :=
  ⟨List.length_replicate, by rw [List.length_replicate]; decide⟩

/-- **`compress_4ways`** on a 64-entry schedule = the model's `compress_nways` over the extracted lane list -/
theorem compress_4ways_src_eq_model (state : W8 UInt32) (sched : List M128i) (hl : sched.length = 64) :
    ∃ r, compress_nways (sched.map toL4) state Sse41.cfg.compressLanes = some r ∧ compress_4ways_src state sched = .ok r :=
  compress_src_spec state sched hl

/-- **`sse41::digest_block`** = the model, every state, every input (any length) -/
theorem digest_block_src_eq_model (state : W8 UInt32) (block : Bytes) :
    (digest_block_src state block).toOption = SimdSha256.Sse41.digest_block state block := by
  have hsim := batch_sim block.length state block (Glue.fill 64 (_mm_set1_epi32 (0 : UInt32))) (by simp [Glue.fill])
  unfold Sse41.digest_block
  rw [← hsim]
  unfold Sha256Sse41.digest_block_src
  dsimp only
  cases hl : digest_block_loop1_src block.length (state, block, Glue.fill 64 (_mm_set1_epi32 (0 : UInt32))) with
  | error e => rfl
  | ok st =>
    obtain ⟨state1, block1, sched1⟩ := st
    dsimp only [Except.toOption, Option.map]
    by_cases h0 : block1.length > 0
    · rw [if_pos h0, if_pos h0, Cx.Proofs.GlueSha2Drv.reference256_eq_model]   -- the GENERATED `reference::digest_block` = the model's
      cases Impl256.digest_block state1 block1 <;> rfl
    · rw [if_neg h0, if_neg h0]

/-- capstone: the TRANSLATED `sse41::digest_block` is `reference::digest_block` on every input (Props/C16/Sha256.lean), in particular the
    fold of the FIPS compression over any number of whole blocks -/
theorem digest_block_src_eq_reference (state : W8 UInt32) (block : Bytes) :
    (digest_block_src state block).toOption = Impl256.digest_block state block := by
  rw [digest_block_src_eq_model]; exact (Cx.Props.C16.sha256_simd_drivers_eq_reference state block).1

theorem digest_block_src_eq_fold (state : W8 UInt32) (blocks : List Bytes) (h : ∀ b ∈ blocks, b.length = 64) :
    digest_block_src state blocks.flatten = .ok (blocks.foldl compress256 state) :=
  ok_of_toOption ((digest_block_src_eq_model state blocks.flatten).trans (Cx.Props.C16.sse41_digest_block_eq_fold state blocks h).2)

end Sse41

namespace Avx
open Sha256Avx

theorem K32_src_eq_model : Sha256Avx.K32 = Impl256.K32 := K32_avx

theorem gather_src_eq (msg : Bytes) (off : Nat) (h : off + 452 ≤ msg.length) :
    gather_src msg off = .ok ⟨⟨ld32 msg off, ld32 msg (off + 64), ld32 msg (off + 128), ld32 msg (off + 192)⟩,
      ⟨ld32 msg (off + 256), ld32 msg (off + 320), ld32 msg (off + 384), ld32 msg (off + 448)⟩⟩ := gather_ok8 msg off h

theorem sigma_src_eq_model (v : M256i) :
    sigma0 A8 Avx.cfg v = some (sigma0_src v) ∧ sigma1 A8 Avx.cfg v = some (sigma1_src v) ∧
    sigma0_src v = map256 smallSigma0_256 v ∧ sigma1_src v = map256 smallSigma1_256 v :=
  ⟨sigma0_avx v, sigma1_avx v, sigma0_lanes8 v, sigma1_lanes8 v⟩

theorem SCHEDULE_ROUND_src_eq_model :
    StepOk A8 Avx.cfg sigma0_src sigma1_src Sha256Avx.K32 SCHEDULE_ROUND_INC_src SCHEDULE_ROUND_src := stepOk_avx

theorem message_schedule_loop_src_eq (fuel : Nat) (st : St18 M256i) : message_schedule_8ways_loop1_src (fuel + 1) st
    = if (toSched st).i < Avx.cfg.loopBound then
        bodyK SCHEDULE_ROUND_INC_src (toSched st) Avx.cfg.loopBody (fun s => back s (message_schedule_8ways_loop1_src fuel))
      else .ok st := by
  rw [while_avx]; rfl

theorem message_schedule_8ways_src_eq_model (sched : List M256i) (msg : Bytes) (hs : sched.length = 64) (hm : 512 ≤ msg.length) :
    ∃ out, message_schedule_8ways_src sched msg = .ok out ∧ out.length = 64 ∧
      message_schedule Avx.cfg msg = some (out.map toL8) := message_schedule_src_eq_model8 sched msg hs hm

theorem compress_8ways_src_eq_model (state : W8 UInt32) (sched : List M256i) (hl : sched.length = 64) :
    ∃ r, compress_nways (sched.map toL8) state Avx.cfg.compressLanes = some r ∧ compress_8ways_src state sched = .ok r :=
  compress_src_spec8 state sched hl

/-- **`avx::digest_block`** (eight-way batches, then the TRANSLATED `sse41::digest_block` on the rest) = the model, every input -/
theorem digest_block_src_eq_model (state : W8 UInt32) (block : Bytes) :
    (digest_block_src state block).toOption = SimdSha256.Avx.digest_block state block := by
  have hsim := batch_sim8 block.length state block (Glue.fill 64 (_mm256_set1_epi32 (0 : UInt32))) (by simp [Glue.fill])
  unfold Avx.digest_block
  rw [← hsim]
  unfold Sha256Avx.digest_block_src
  dsimp only
  cases hl : digest_block_loop1_src block.length (state, block, Glue.fill 64 (_mm256_set1_epi32 (0 : UInt32))) with
  | error e => rfl
  | ok st =>
    obtain ⟨state1, block1, sched1⟩ := st
    dsimp only [Except.toOption, Option.map]
    rw [← Sse41.digest_block_src_eq_model]
    cases Sha256Sse41.digest_block_src state1 block1 <;> rfl

theorem digest_block_src_eq_reference (state : W8 UInt32) (block : Bytes) :
    (digest_block_src state block).toOption = Impl256.digest_block state block := by
  rw [digest_block_src_eq_model]; exact (Cx.Props.C16.sha256_simd_drivers_eq_reference state block).2

theorem digest_block_src_eq_fold (state : W8 UInt32) (blocks : List Bytes) (h : ∀ b ∈ blocks, b.length = 64) :
    digest_block_src state blocks.flatten = .ok (blocks.foldl compress256 state) :=
  ok_of_toOption ((digest_block_src_eq_model state blocks.flatten).trans (Cx.Props.C16.avx_digest_block_eq_fold state blocks h).2)

end Avx

end Cx.Props.C16.GlueTieSimdSha
