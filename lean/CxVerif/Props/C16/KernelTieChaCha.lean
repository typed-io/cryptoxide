/-
  Props.C16.KernelTieChaCha — the translator tie for the SSE2 ChaCha engine (src/chacha/sse2.rs).
  `Extracted/KernelsChaChaSse2.lean` is regenerated from the CURRENT Rust source on every run by tools/ktx_misc.py
  (kernel specs tools/kernels/chacha_sse2.py): the macros `add_rotate_xor!`, `round!`, `swizzle!`, one iteration of
  the loop of `rounds`, `rounds`, the `Align128` counter functions and `add_back`, translated statement by statement
  into the lane-wise intrinsics of `Impl.ChaCha.Sse2`.  The theorems say that the hand-written row model (about which
  the C16 theorems `chacha_sse2_*` are proved) is exactly that sequence of vector operations, for ALL states: a changed
  rotation count, shuffle immediate, row order or counter lane in the source breaks a proof obligation.
  (What an `_mm_*` instruction does on the real machine stays an observation of C16's correspondence.)
-/
import CxVerif.Extracted.KernelsChaChaSse2
import CxVerif.Impl.ChaCha
import CxVerif.Proofs.SimdBits
namespace Cx.Props.C16.KernelTie
open Cx Cx.Impl Cx.Impl.ChaCha.Sse2 Cx.Extracted.KernelsChaChaSse2

theorem add_rotate_xor_src_eq_model (a b c : M128) (d : Nat) : add_rotate_xor_src a b c d = add_rotate_xor a b c d := rfl

/-- `round!` takes the four rows; the model takes the state -/
theorem round_src_eq_model (s : State) :
    round_src s.a s.b s.c s.d = ((round s).a, (round s).b, (round s).c, (round s).d) := rfl

theorem swizzle_src_eq_model (b c d : M128) : swizzle_src b c d = swizzle b c d := rfl
theorem doubleRound_src_eq_model (s : State) : doubleRound_src s = doubleRound s := rfl
theorem rounds_src_eq_model (R : Nat) (s : State) : rounds_src R s = rounds R s := by
  have h : doubleRound_src = doubleRound := funext doubleRound_src_eq_model
  unfold rounds_src rounds
  rw [h]
theorem set_counter_src_eq_model (s : State) (counter : UInt32) : set_counter_src s counter = set_counter s counter := rfl
theorem verif_set_counter64_src_eq_model (s : State) (counter : UInt64) :
    verif_set_counter64_src s counter = verif_set_counter64 s counter := rfl
theorem increment_src_eq_model (s : State) : increment_src s = increment s := rfl
/-- `overflowing_add(1)`: the translator writes the overflow flag as "the 33-bit sum reaches 2^32", the model as
    `lane0 = 0xFFFFFFFF` -/
theorem increment64_src_eq_model (s : State) : increment64_src s = increment64 s := by
  unfold increment64_src increment64
  have h := decide_eq_true_iff.trans (Cx.Proofs.SimdBits.add_one_overflows s.d.l0)
  by_cases h1 : s.d.l0 = 0xFFFFFFFF
  · rw [if_pos (h.mpr h1), if_pos h1]
  · rw [if_neg (mt h.mp h1), if_neg h1]
theorem add_back_src_eq_model (s initial : State) : add_back_src s initial = add_back s initial := rfl

end Cx.Props.C16.KernelTie
