/-
  Props.C17.B32 — C17: the 32-bit curve backends (fe32 = ref10 ten signed 26/25-bit limbs, scalar32 = ref10 bytes /
  21-bit limbs) are observationally equivalent to the 64-bit backends.  Every statement is about the code-shaped
  models `Cx.Impl.Fe32` / `Cx.Impl.Scalar32` (every i32/i64 `+ - *` checked: `= some …` includes "no overflow panic
  in a checked build") and, for the equivalence, the 64-bit models `Cx.Impl.Fe64` / `Cx.Impl.Scalar64` whose
  refinement theorems are in Props/C15.

  Vocabulary (Proofs/Fe32Basic.lean): `val f` = Σ l_i·2^⌈25.5 i⌉ (an `Int`: limbs are signed), `eval f` = its residue
  in [0, p); `W k f` = even limbs within ±k·2^25, odd limbs within ±k·(2^24 + 2^20).  `W 1` is what every carrying
  operator returns, `W 3` (⊂ the ref10 operand bound 1.65·2^26 / 1.65·2^25) what Mul / square accept — i.e. sums and
  differences of up to three reduced elements, the "operand discipline" of the property — and `W 6` what `to_bytes`,
  `is_nonzero`, `is_negative`, `==` accept.

  PROVED here for ALL inputs inside those bounds: (a) canonical scalar check ⇔ le(s) < L, equal acceptance sets of
  both backends; (b) to_bytes canonical, predicates = mod-p predicates; (c) from_bytes; (d) add/sub/neg/mul/square/
  square_and_double/mul_small/square_repeatdly/invert/pow25523 with NO i32/i64 overflow; (e) the 264 table entries
  and 5 constants denote the same residues in both backends; (f) scalar32 `reduce_from_wide_bytes` / `muladd` (ref10
  sc_reduce / sc_muladd) = value mod L: stated here as the named propositions `Sc32ReduceSpec` / `Sc32MuladdSpec` with
  `…_partial` corollaries; both propositions are PROVED in Props/C17/Sc32.lean (no i64 overflow in any
  multiply-accumulate or carry, value preserved mod L, result in [0, L), packing), which also gives the unconditional
  `wide_reduction_equivalent` / `muladd_equivalent`; `bits` / `nibbles` are proved here; (g) program-level observational
  equivalence.  The sections below stand in the order (e), (a), (f), (d), (c), (b), (g).
  "fix k", "fix h", "defect (g)", "defect (h)" in the docstrings are the letters of DESIGN.md section 12 (defects found in
  /repo and repaired there), not the parts (a)–(g) of this list.
-/
import CxVerif.Proofs.Fe32Tables
import CxVerif.Proofs.Fe32Arith
import CxVerif.Proofs.Fe32Chain
import CxVerif.Proofs.Fe32Pred
import CxVerif.Proofs.Fe32FromBytes
import CxVerif.Proofs.Scalar32Canon
import CxVerif.Proofs.Scalar32Digits
import CxVerif.Props.C15.Fe64
import CxVerif.Props.C15.Scalar64
namespace Cx.Props.C17
open Cx Cx.Spec Cx.Impl.Fe32 Cx.Proofs.Fe32
open Cx.Spec.Field25519 (p)

/-! ## (e) constants and tables of the two backends -/

/-- `Fe::ZERO ONE SQRTM1 D D2` of fe32 (ten signed limbs, re-extracted) are reduced and denote 0, 1, √−1, d, 2d -/
theorem fe32_constants :
    (W 1 Fe.ZERO ∧ eval Fe.ZERO = 0) ∧ (W 1 Fe.ONE ∧ eval Fe.ONE = 1) ∧
    (W 1 Fe.SQRTM1 ∧ eval Fe.SQRTM1 = Field25519.sqrtM1) ∧ (W 1 Fe.D ∧ eval Fe.D = Field25519.edwardsD) ∧
    (W 1 Fe.D2 ∧ eval Fe.D2 = Field25519.edwardsD2) := ⟨ZERO_spec, ONE_spec, SQRTM1_spec, D_spec, D2_spec⟩

/-- the constants of the two backends are equal modulo p -/
theorem constants_equal_across_backends :
    eval Fe.ZERO = Proofs.Fe64.eval Impl.Fe64.Fe.ZERO ∧ eval Fe.ONE = Proofs.Fe64.eval Impl.Fe64.Fe.ONE ∧
    eval Fe.SQRTM1 = Proofs.Fe64.eval Impl.Fe64.Fe.SQRTM1 ∧ eval Fe.D = Proofs.Fe64.eval Impl.Fe64.Fe.D ∧
    eval Fe.D2 = Proofs.Fe64.eval Impl.Fe64.Fe.D2 := consts_agree

/-- TABLE EQUIVALENCE: every `GE_BASE[i][j]` (i < 32, j < 8) of fe32/precomp.rs and of fe64/precomp.rs exists and
    both denote the same `(y+x, y−x, 2dxy)` modulo p; the 32-bit limbs are reduced (all 256 entries, kernel-decided) -/
theorem GE_BASE_tables_agree (i j : Nat) (hi : i < 32) (hj : j < 8) :
    ∃ a b, GE_BASE32[i]?.bind (·[j]?) = some a ∧ Impl.Ge.GE_BASE[i]?.bind (·[j]?) = some b ∧
      a.red = true ∧ a.vals = Proofs.Ge.precompVals b := GE_BASE_agree i j hi hj

theorem BI_tables_agree (k : Nat) (hk : k < 8) :
    ∃ a b, BI32[k]? = some a ∧ Impl.Ge.BI[k]? = some b ∧ a.red = true ∧ a.vals = Proofs.Ge.precompVals b :=
  BI_agree k hk

/-- hence the 32-bit tables are the stated multiples of the base point (with the C15 table theorem) -/
theorem GE_BASE32_is_the_multiples_of_B (i j : Nat) (hi : i < 32) (hj : j < 8) :
    ∃ a, GE_BASE32[i]?.bind (·[j]?) = some a ∧ a.red = true ∧
      a.vals = Edwards.precomp (Edwards.smul ((j + 1) * 256 ^ i) Edwards.B) := GE_BASE32_entry i j hi hj

theorem BI32_is_the_odd_multiples_of_B (k : Nat) (hk : k < 8) :
    ∃ a, BI32[k]? = some a ∧ a.red = true ∧ a.vals = Edwards.precomp (Edwards.smul (2 * k + 1) Edwards.B) :=
  BI32_entry k hk

/-! ## (a) canonical scalars -/

/-- the constant inside `from_bytes_canonical` (re-extracted) is L in little-endian order -/
theorem scalar32_L_is_group_order : leNat Impl.Scalar32.L = ScalarL.L ∧ Impl.Scalar32.L.length = 32 :=
  ⟨Proofs.Scalar32.L_value, Proofs.Scalar32.L_length⟩

/-- `check_s_lt_l s` answers TRUE exactly when `L ≤ le(s)` (the Rust name is misleading), for ALL 32-byte s -/
theorem check_s_lt_l_correct (s : Vector UInt8 32) :
    Impl.Scalar32.check_s_lt_l s = decide (ScalarL.L ≤ leNat s.toList) := Proofs.Scalar32.check_s_lt_l_spec s

/-- scalar32 `from_bytes_canonical` accepts EXACTLY `le(b) < L`, returning the bytes unchanged — all 32-byte b -/
theorem from_bytes_canonical_correct (b : Vector UInt8 32) :
    Impl.Scalar32.from_bytes_canonical b
      = if ScalarL.decode b.toList < ScalarL.L then some (Impl.Scalar32.from_bytes b) else none :=
  Proofs.Scalar32.from_bytes_canonical_spec b

/-- it agrees with the Spec decoder -/
theorem canonical_decoder_matches_spec (b : Vector UInt8 32) :
    (Impl.Scalar32.from_bytes_canonical b).map Impl.Scalar32.to_bytes
      = (ScalarL.decodeCanonical b.toList).map ScalarL.encode := by
  rw [from_bytes_canonical_correct]
  have hl : b.toList.length = 32 := by simp
  unfold ScalarL.decodeCanonical ScalarL.isCanonical
  by_cases h : ScalarL.decode b.toList < ScalarL.L
  · have := Proofs.Bytes.natToLE_leNat b.toList
    simp only [hl] at this
    have hd : decide (ScalarL.decode b.toList < ScalarL.L) = true := decide_eq_true h
    rw [if_pos h]
    simp only [hl, beq_self_eq_true, Bool.true_and, hd, if_true, Option.map_some]
    unfold Impl.Scalar32.to_bytes Impl.Scalar32.from_bytes ScalarL.encode ScalarL.decode
    rw [this]
  · have hd : decide (ScalarL.decode b.toList < ScalarL.L) = false := decide_eq_false h
    rw [if_neg h]
    simp only [hl, beq_self_eq_true, Bool.true_and, hd, Bool.false_eq_true, if_false, Option.map_none]

/-- EQUAL ACCEPTANCE SETS: the 64-bit `lt_order` decoder and the 32-bit `check_s_lt_l` decoder accept the same
    strings and hand back the same bytes — for ALL 32-byte b (C15 `from_bytes_canonical_correct` + the above) -/
theorem canonical_decoders_equivalent (b : Vector UInt8 32) :
    (Impl.Scalar64.from_bytes_canonical b).map (·.map Impl.Scalar64.to_bytes)
      = some ((Impl.Scalar32.from_bytes_canonical b).map Impl.Scalar32.to_bytes) := by
  rw [Cx.Props.C15.Scalar64.canonical_decoder_matches_spec, canonical_decoder_matches_spec]

/-- WITNESS of the repaired defect (g): with the constant written big-endian the same loop decided
    `le(s) < 0xedd3f5…0010` (≈ 2^255.9), so it accepted L itself, L + 1, 2L, … -/
theorem original_constant_accepted_L :
    ∃ b : Vector UInt8 32, ScalarL.decode b.toList = ScalarL.L ∧
      Impl.Scalar32.from_bytes_canonical_old b = some b ∧ Impl.Scalar32.from_bytes_canonical b = none := by
  refine ⟨(Impl.Scalar32.toArr 32 Impl.Scalar32.L).getD (Vector.replicate 32 0), by decide, ?_, ?_⟩
  · rw [Proofs.Scalar32.old_constant_spec, Proofs.Scalar32.old_constant_value]
    rfl
  · rw [from_bytes_canonical_correct]; decide

/-- `Scalar::nibbles` / `Scalar::bits` of scalar32 are the 64 radix-16 / 256 binary digits of `le(s)` — all scalars -/
theorem nibbles_correct (s : Impl.Scalar32.Scalar) :
    Impl.Scalar32.nibbles s = (ScalarL.radix16 (leNat s.toList)).map Int.ofNat := Proofs.Scalar32.nibbles_spec s
theorem bits_correct (s : Impl.Scalar32.Scalar) :
    Impl.Scalar32.bits s = (ScalarL.bitsLE (leNat s.toList)).map Int.ofNat := Proofs.Scalar32.bits_spec s

/-- hence both backends hand the same digit strings to the scalar-multiplication loops, for every 32-byte scalar -/
theorem digits_equivalent (b : Vector UInt8 32) :
    Impl.Scalar32.nibbles (Impl.Scalar32.from_bytes b) = (Impl.Scalar64.nibbles (Impl.Scalar64.from_bytes b)).toList ∧
    Impl.Scalar32.bits (Impl.Scalar32.from_bytes b) = (Impl.Scalar64.bits (Impl.Scalar64.from_bytes b)).toList := by
  obtain ⟨hv, hi⟩ := Cx.Props.C15.Scalar64.from_bytes_correct b
  constructor
  · rw [(Cx.Props.C15.Scalar64.nibbles_correct _ hi).1, hv, nibbles_correct]; rfl
  · rw [(Cx.Props.C15.Scalar64.bits_correct _ hi).1, hv, bits_correct]; rfl

/-! ## (f) wide reduction and muladd (ref10 sc_reduce / sc_muladd): named propositions, proved in Props/C17/Sc32.lean -/

/-- the 32-bit `reduce_from_wide_bytes` (ref10 `sc_reduce`, 24 limbs of 21 bits, ~130 checked multiply-accumulates and
    ~70 carries) returns `le(s) mod L` for every 64-byte string -/
def Sc32ReduceSpec : Prop := ∀ s : Vector UInt8 64,
  (Impl.Scalar32.reduce_from_wide_bytes s).map Impl.Scalar32.to_bytes = some (ScalarL.reduceWide s.toList)

/-- the 32-bit `muladd` (ref10 `sc_muladd`) returns `(a·b + c) mod L` for all 32-byte a, b and reduced c -/
def Sc32MuladdSpec : Prop := ∀ a b c : Vector UInt8 32, ScalarL.decode c.toList < ScalarL.L →
  (Impl.Scalar32.muladd a b c).map Impl.Scalar32.to_bytes
    = some (ScalarL.encode (ScalarL.muladd (ScalarL.decode a.toList) (ScalarL.decode b.toList) (ScalarL.decode c.toList)))

/-- FULL STATEMENT (`wide_reduction_equivalent`, Props/C17/Sc32.lean):
    `∀ s, (Scalar64.reduce_from_wide_bytes s).map to_bytes = (Scalar32.reduce_from_wide_bytes s).map to_bytes`.
    HERE: the same under the explicit hypothesis `Sc32ReduceSpec` (the 64-bit side is the C15 theorem). -/
theorem wide_reduction_equivalent_partial (h32 : Sc32ReduceSpec) (s : Vector UInt8 64) :
    (Impl.Scalar64.reduce_from_wide_bytes s).map Impl.Scalar64.to_bytes
      = (Impl.Scalar32.reduce_from_wide_bytes s).map Impl.Scalar32.to_bytes := by
  rw [h32 s, Cx.Props.C15.Scalar64.reduce_wide_bytes_matches_spec]

/-- FULL STATEMENT (`muladd_equivalent`, Props/C17/Sc32.lean): both `muladd` agree on all 32-byte a, b and reduced c.
    HERE: under `Sc32MuladdSpec`. (For c ≥ L the backends legitimately differ — one conditional subtraction vs full
    reduction — and nothing public reaches `muladd` with such a c.) -/
theorem muladd_equivalent_partial (h32 : Sc32MuladdSpec) (a b c : Vector UInt8 32)
    (hc : ScalarL.decode c.toList < ScalarL.L) :
    (Impl.Scalar64.muladd (Impl.Scalar64.from_bytes a) (Impl.Scalar64.from_bytes b) (Impl.Scalar64.from_bytes c)).map
        Impl.Scalar64.to_bytes
      = (Impl.Scalar32.muladd a b c).map Impl.Scalar32.to_bytes := by
  rw [h32 a b c hc, Cx.Props.C15.Scalar64.muladd_bytes a b c hc]

/-- the folding constants of sc_reduce / sc_muladd: `2^252 ≡ 666643 + 470296·2^21 + 654183·2^42 − 997805·2^63
    + 136657·2^84 − 683901·2^105 (mod L)` — in fact the right-hand side IS `2^252 − L` (labelled fact about the
    literals of the model; it is what makes each `s_i += s_{i+12}·c` step value-preserving modulo L) -/
theorem sc_fold_constants :
    (666643 + 470296 * 2^21 + 654183 * 2^42 - 997805 * 2^63 + 136657 * 2^84 - 683901 * 2^105 : Int)
      = 2^252 - (ScalarL.L : Int) := by decide

/-- test (kernel-evaluated sample, NOT the theorem): the model reduces 2^512 − 1 -/
example : (Impl.Scalar32.reduce_from_wide_bytes (Vector.replicate 64 0xff)).map Impl.Scalar32.to_bytes
    = some (ScalarL.reduceWide (List.replicate 64 0xff)) := by decide +kernel

/-! ## (d) field operators of fe32: no overflow, bounds, value -/

theorem add_correct (f g : Fe) (a b : Int) (hf : W a f) (hg : W b g) (hab : a + b ≤ 63) :
    ∃ h, add f g = some h ∧ W (a + b) h ∧ val h = val f + val g ∧ eval h = Field25519.add (eval f) (eval g) :=
  add_spec f g a b hf hg hab
theorem sub_correct (f g : Fe) (a b : Int) (hf : W a f) (hg : W b g) (hab : a + b ≤ 63) :
    ∃ h, sub f g = some h ∧ W (a + b) h ∧ val h = val f - val g ∧ eval h = Field25519.sub (eval f) (eval g) :=
  sub_spec f g a b hf hg hab
theorem neg_correct (f : Fe) (a : Int) (hf : W a f) (ha : a ≤ 63) :
    ∃ h, neg f = some h ∧ W a h ∧ val h = -val f ∧ eval h = Field25519.neg (eval f) := neg_spec f a hf ha
/-- **Mul** (100 products, 12 carries): operands of weight ≤ 3 ⟹ no i32/i64 overflow, reduced result, product mod p -/
theorem mul_correct (f g : Fe) (hf : W 3 f) (hg : W 3 g) :
    ∃ h, mul f g = some h ∧ W 1 h ∧ eval h = Field25519.mul (eval f) (eval g) := mul_spec f g hf hg
theorem square_correct (f : Fe) (hf : W 3 f) :
    ∃ h, square f = some h ∧ W 1 h ∧ eval h = Field25519.sq (eval f) := square_spec f hf
theorem square_and_double_correct (f : Fe) (hf : W 3 f) :
    ∃ h, square_and_double f = some h ∧ W 1 h ∧ eval h = Field25519.mul 2 (Field25519.sq (eval f)) :=
  square_and_double_spec f hf
/-- `mul_small::<S0>` for `S0 ≤ 2^18` (the crate uses 121666) -/
theorem mul_small_correct (f : Fe) (s : Nat) (hf : W 3 f) (hs : s ≤ 2^18) :
    ∃ h, mul_small f s = some h ∧ W 1 h ∧ eval h = Field25519.mul (eval f) s := mul_small_spec f s hf hs
/-- `square_repeatdly(n)`: `z^(2^n)`; for `n = 0` the argument itself (after fix k) -/
theorem square_repeatdly_correct (f : Fe) (n : Nat) (hf : W 3 f) :
    ∃ h, square_repeatdly f n = some h ∧ (0 < n → W 1 h) ∧ (n = 0 → h = f) ∧
      eval h = Field25519.pow (eval f) (2^n) := by
  obtain ⟨h, e, t, z, v⟩ := square_repeatdly_spec n f hf
  exact ⟨h, e, t, z, by rw [v, Cx.Proofs.Field25519.pow_eq]⟩
theorem invert_correct (z : Fe) (hz : W 3 z) :
    ∃ h, invert z = some h ∧ W 1 h ∧ eval h = Field25519.inv (eval z) := invert_spec z hz
theorem pow25523_correct (z : Fe) (hz : W 3 z) :
    ∃ h, pow25523 z = some h ∧ W 1 h ∧ eval h = Field25519.pow25523 (eval z) := pow25523_spec z hz

/-! ## (c) from_bytes, (b) to_bytes and the predicates -/

/-- `from_bytes`: EVERY 32-byte string decodes without overflow to reduced limbs denoting `le(b) mod 2^255` (mod p) -/
theorem from_bytes_correct (b : Bytes) (h : b.length = 32) :
    ∃ r, from_bytes b h = some r ∧ W 1 r ∧ val r % (p : Int) = ((leNat b % 2^255 : Nat) : Int) % (p : Int) ∧
      eval r = Field25519.decode b := from_bytes_spec b h

/-- **to_bytes is canonical** (the ref10 q-estimate): for EVERY limb vector of weight ≤ 6 the 32 bytes are the
    little-endian encoding of `val mod p` — 32 bytes, value < p, independent of the representation -/
theorem to_bytes_canonical (f : Fe) (hf : W 6 f) :
    ∃ b, to_bytes f = some b ∧ b = Field25519.encode (eval f) ∧ b.length = 32 ∧ leNat b = eval f := by
  refine ⟨_, to_bytes_spec f hf, rfl, Proofs.Bytes.natToLE_length 32 _, ?_⟩
  unfold Field25519.encode
  rw [Proofs.Bytes.leNat_natToLE, eval_mod, Nat.mod_eq_of_lt (Nat.lt_trans (eval_lt f) Proofs.Field25519.p_lt_256_32)]

/-- the estimate inside `to_bytes` is exact: `q = ⌊val / p⌋` (nested floors + rounding term 2^24) -/
theorem to_bytes_quotient_estimate (V h9 low : Int) (hlow : V = 2^230 * h9 + low) (hl : -2^240 ≤ low ∧ low ≤ 2^240)
    (hh9 : -2^27 ≤ h9 ∧ h9 ≤ 2^27) :
    (2^255 - 19) * ((V + (19 * h9 + 2^24) / 2^25) / 2^255) ≤ V ∧
      V < (2^255 - 19) * ((V + (19 * h9 + 2^24) / 2^25) / 2^255) + (2^255 - 19) :=
  qest V h9 low _ _ hlow hl hh9 rfl rfl

theorem is_nonzero_correct (f : Fe) (hf : W 6 f) : is_nonzero f = some (decide (eval f ≠ 0)) := by
  rw [is_nonzero_spec f hf]; unfold Field25519.isNonzero; rw [eval_mod]
  by_cases h : eval f = 0 <;> simp [h]
theorem is_negative_correct (f : Fe) (hf : W 6 f) : is_negative f = some (decide (eval f % 2 = 1)) := by
  rw [is_negative_spec f hf]; unfold Field25519.isNegative; rw [eval_mod]
  by_cases h : eval f % 2 = 1 <;> simp [h]
/-- `==` (after fix h) is equality in GF(p), for every pair of representations -/
theorem eq_correct (f g : Fe) (hf : W 6 f) (hg : W 6 g) : eq f g = some (decide (eval f = eval g)) :=
  eq_spec f g hf hg
/-- WITNESS of the repaired defect (h): limb-wise `==` distinguished two reduced representations of 2^25 -/
theorem original_eq_compared_limbs :
    ∃ f g, W 1 f ∧ W 1 g ∧ eval f = eval g ∧ eqOld f g = false ∧ eq f g = some true :=
  original_eq_not_value_equality

theorem maybe_swap_with_correct (f g : Fe) (hf : I32 f) (hg : I32 g) (c : Bool) :
    maybe_swap_with f g (Cx.Props.C18.Choice.ofBool c) = if c then (g, f) else (f, g) :=
  maybe_swap_with_spec f g hf hg c
theorem maybe_set_correct (f g : Fe) (hf : I32 f) (hg : I32 g) (c : Bool) :
    maybe_set f g (Cx.Props.C18.Choice.ofBool c) = if c then g else f := maybe_set_spec f g hf hg c

/-! ## (g) observational equivalence of the two field backends, program by program -/

open Cx.Props.C15 (Expr)

/-- the program run on the 32-bit code model (`none` = a panic somewhere) -/
def run32 : Expr → Option Fe
  | .lit b h => from_bytes b h
  | .zero => some Fe.ZERO | .one => some Fe.ONE | .sqrtm1 => some Fe.SQRTM1 | .d => some Fe.D | .d2 => some Fe.D2
  | .add a b => (run32 a).bind fun x => (run32 b).bind fun y => Impl.Fe32.add x y
  | .sub a b => (run32 a).bind fun x => (run32 b).bind fun y => Impl.Fe32.sub x y
  | .mul a b => (run32 a).bind fun x => (run32 b).bind fun y => Impl.Fe32.mul x y
  | .neg a => (run32 a).bind Impl.Fe32.neg
  | .square a => (run32 a).bind Impl.Fe32.square
  | .squareRep a n => (run32 a).bind fun x => Impl.Fe32.square_repeatdly x n
  | .squareDouble a => (run32 a).bind Impl.Fe32.square_and_double
  | .invert a => (run32 a).bind Impl.Fe32.invert
  | .pow25523 a => (run32 a).bind Impl.Fe32.pow25523

/-- weight of a program's result: decoded values, constants and outputs of carrying operators weigh 1,
    add / sub add the weights (fe32 add/sub/neg do not carry) -/
def wt : Expr → Nat
  | .lit _ _ => 1
  | .zero => 1 | .one => 1 | .sqrtm1 => 1 | .d => 1 | .d2 => 1
  | .add a b => wt a + wt b
  | .sub a b => wt a + wt b
  | .neg a => wt a
  | .squareRep a n => if n = 0 then wt a else 1
  | .mul _ _ => 1 | .square _ => 1 | .squareDouble _ => 1 | .invert _ => 1 | .pow25523 _ => 1

/-- the operand discipline of the 32-bit backend (the ref10 preconditions): a multiplication, squaring,
    `square_repeatdly`, `invert`, `pow25523` takes operands of weight ≤ 3; sums stay below weight 64 -/
def Disc : Expr → Prop
  | .lit _ _ => True
  | .zero => True | .one => True | .sqrtm1 => True | .d => True | .d2 => True
  | .add a b => Disc a ∧ Disc b ∧ wt a + wt b ≤ 63
  | .sub a b => Disc a ∧ Disc b ∧ wt a + wt b ≤ 63
  | .neg a => Disc a ∧ wt a ≤ 63
  | .mul a b => Disc a ∧ Disc b ∧ wt a ≤ 3 ∧ wt b ≤ 3
  | .square a => Disc a ∧ wt a ≤ 3
  | .squareRep a _ => Disc a ∧ wt a ≤ 3
  | .squareDouble a => Disc a ∧ wt a ≤ 3
  | .invert a => Disc a ∧ wt a ≤ 3
  | .pow25523 a => Disc a ∧ wt a ≤ 3

theorem W_mono_nat {a b : Nat} {f : Fe} (h : a ≤ b) (hf : W (a : Int) f) : W (b : Int) f :=
  W.mono (by exact_mod_cast h) hf

/-- a carrying unary operator (`square`, `square_and_double`, `invert`, `pow25523`) applied to a sub-program of weight ≤ 3 -/
theorem run32_unary {op : Fe → Option Fe} {F : Nat → Nat} (spec : ∀ x, W 3 x → ∃ h, op x = some h ∧ W 1 h ∧ eval h = F (eval x))
    {a : Expr} (ih : ∃ f, run32 a = some f ∧ W (wt a : Int) f ∧ eval f = a.den) (wa : wt a ≤ 3) :
    ∃ f, (run32 a).bind op = some f ∧ W 1 f ∧ eval f = F a.den :=
  Proofs.bind_ok ih fun x ⟨px, vx⟩ => let ⟨h, e, t, v⟩ := spec x (W_mono_nat wa px); ⟨h, e, t, by rw [v, vx]⟩

/-- **Every disciplined program** runs on the 32-bit model without i32/i64 overflow, its result has the computed
    weight and denotes the program's value in GF(p) — the same denotation `Expr.den` as for the 64-bit model -/
theorem program32_correct (e : Expr) (hd : Disc e) : ∃ f, run32 e = some f ∧ W (wt e : Int) f ∧ eval f = e.den := by
  induction e with
  | lit b h => obtain ⟨r, er, hr, _, ev⟩ := from_bytes_spec b h; exact ⟨r, er, hr, ev⟩
  | zero => exact ⟨_, rfl, ZERO_spec.1, ZERO_spec.2⟩
  | one => exact ⟨_, rfl, ONE_spec.1, ONE_spec.2⟩
  | sqrtm1 => exact ⟨_, rfl, SQRTM1_spec.1, SQRTM1_spec.2⟩
  | d => exact ⟨_, rfl, D_spec.1, D_spec.2⟩
  | d2 => exact ⟨_, rfl, D2_spec.1, D2_spec.2⟩
  | add a b iha ihb =>
    obtain ⟨da, db, hw⟩ := hd
    exact Proofs.bind_ok (iha da) fun x ⟨px, vx⟩ => Proofs.bind_ok (ihb db) fun y ⟨py, vy⟩ =>
      let ⟨h, e, t, _, v⟩ := add_spec x y _ _ px py (by exact_mod_cast hw)
      ⟨h, e, by simpa [wt] using t, by rw [v, vx, vy]; rfl⟩
  | sub a b iha ihb =>
    obtain ⟨da, db, hw⟩ := hd
    exact Proofs.bind_ok (iha da) fun x ⟨px, vx⟩ => Proofs.bind_ok (ihb db) fun y ⟨py, vy⟩ =>
      let ⟨h, e, t, _, v⟩ := sub_spec x y _ _ px py (by exact_mod_cast hw)
      ⟨h, e, by simpa [wt] using t, by rw [v, vx, vy]; rfl⟩
  | mul a b iha ihb =>
    obtain ⟨da, db, wa, wb⟩ := hd
    exact Proofs.bind_ok (iha da) fun x ⟨px, vx⟩ => Proofs.bind_ok (ihb db) fun y ⟨py, vy⟩ =>
      let ⟨h, e, t, v⟩ := mul_spec x y (W_mono_nat wa px) (W_mono_nat wb py); ⟨h, e, t, by rw [v, vx, vy]; rfl⟩
  | neg a iha =>
    obtain ⟨da, wa⟩ := hd
    exact Proofs.bind_ok (iha da) fun x ⟨px, vx⟩ =>
      let ⟨h, e, t, _, v⟩ := neg_spec x _ px (by exact_mod_cast wa); ⟨h, e, t, by rw [v, vx]; rfl⟩
  | square a iha => exact run32_unary square_spec (iha hd.1) hd.2
  | squareRep a n iha =>
    obtain ⟨da, wa⟩ := hd
    refine Proofs.bind_ok (iha da) fun x ⟨px, vx⟩ => ?_
    obtain ⟨h, e, t, z, v⟩ := square_repeatdly_spec n x (W_mono_nat wa px)
    refine ⟨h, e, ?_, ?_⟩
    · by_cases hn : n = 0
      · rw [z hn]; simpa [wt, hn] using px
      · simpa [wt, hn] using t (by omega)
    · rw [v, vx]; simp only [Expr.den]; rw [Cx.Proofs.Field25519.pow_eq]
  | squareDouble a iha => exact run32_unary (F := fun n => Field25519.mul 2 (Field25519.sq n)) square_and_double_spec (iha hd.1) hd.2
  | invert a iha => exact run32_unary invert_spec (iha hd.1) hd.2
  | pow25523 a iha => exact run32_unary pow25523_spec (iha hd.1) hd.2

/-- **OBSERVATIONAL EQUIVALENCE, field layer**: for every disciplined program of result weight ≤ 6, what a user
    observes of the 32-bit backend (`to_bytes`, `is_nonzero`, `is_negative`) is exactly what the 64-bit backend
    shows for the same program — both never panic and both equal the Spec's answer -/
theorem field_backends_equivalent (e : Expr) (hd : Disc e) (hw : wt e ≤ 6) :
    ∃ f32 f64, run32 e = some f32 ∧ e.run = some f64 ∧
      to_bytes f32 = Impl.Fe64.to_bytes f64 ∧ to_bytes f32 = some (Field25519.encode e.den) ∧
      is_nonzero f32 = Impl.Fe64.is_nonzero f64 ∧ is_negative f32 = Impl.Fe64.is_negative f64 := by
  obtain ⟨f32, h32, w32, v32⟩ := program32_correct e hd
  obtain ⟨f64, h64, tb, nz, ng⟩ := Cx.Props.C15.program_observations e
  have w6 : W 6 f32 := W_mono_nat hw w32
  refine ⟨f32, f64, h32, h64, ?_, ?_, ?_, ?_⟩
  · rw [tb, to_bytes_spec f32 w6, v32]
  · rw [to_bytes_spec f32 w6, v32]
  · rw [nz, is_nonzero_spec f32 w6, v32]
  · rw [ng, is_negative_spec f32 w6, v32]

/-- … and `==` of two disciplined programs gives the same verdict in both backends: equality of the values mod p -/
theorem field_equality_equivalent (e1 e2 : Expr) (hd1 : Disc e1) (hd2 : Disc e2) (hw1 : wt e1 ≤ 6) (hw2 : wt e2 ≤ 6) :
    ∃ f32 g32 f64 g64, run32 e1 = some f32 ∧ run32 e2 = some g32 ∧ e1.run = some f64 ∧ e2.run = some g64 ∧
      eq f32 g32 = Impl.Fe64.eq f64 g64 ∧ eq f32 g32 = some (decide (e1.den = e2.den)) := by
  obtain ⟨f32, hf, wf, vf⟩ := program32_correct e1 hd1
  obtain ⟨g32, hg, wg, vg⟩ := program32_correct e2 hd2
  obtain ⟨f64, g64, hf64, hg64, he⟩ := Cx.Props.C15.program_eq e1 e2
  have := eq_spec f32 g32 (W_mono_nat hw1 wf) (W_mono_nat hw2 wg)
  rw [vf, vg] at this
  exact ⟨f32, g32, f64, g64, hf, hg, hf64, hg64, by rw [this, he], this⟩

/-! ## non-vacuity -/

/-- `W 3` contains sums of three reduced elements at their extreme limbs, and is inside the ref10 bound 1.65·2^26/2^25 -/
example : W 3 ⟨3 * 2^25, -(3 * (2^24 + 2^20)), 3 * 2^25, 3 * (2^24 + 2^20), -(3 * 2^25), 0, 1, -1, 3 * 2^25, 3 * (2^24 + 2^20)⟩ ∧
    (3 * 2^25 : Int) ≤ 165 * 2^26 / 100 ∧ (3 * (2^24 + 2^20) : Int) ≤ 165 * 2^25 / 100 := by decide
example : W 6 ⟨6 * 2^25, 6 * (2^24 + 2^20), 0, 0, 0, 0, 0, 0, 0, -(6 * (2^24 + 2^20))⟩ := by decide
/-- the weight bound of `Mul` is not far from sharp: at weight 5 the precomputation `19 * g2` overflows i32
    (`none` = panic of the overflow-checked build) -/
example : mul ⟨0, 0, 0, 0, 0, 0, 0, 0, 0, 0⟩ ⟨0, 0, 5 * 2^25, 0, 0, 0, 0, 0, 0, 0⟩ = none := by decide
/-- a disciplined program of weight 3: (a + b − c)·(a + a + a) with a, b, c decoded from bytes -/
example (a b c : Bytes) (ha : a.length = 32) (hb : b.length = 32) (hc : c.length = 32) :
    Disc (.mul (.sub (.add (.lit a ha) (.lit b hb)) (.lit c hc)) (.add (.add (.lit a ha) (.lit a ha)) (.lit a ha))) := by
  simp [Disc, wt]
/-- the hypotheses of `to_bytes_quotient_estimate` are met by the largest weight-6 element -/
example : (2^230 * (6 * (2^24 + 2^20)) + 2^239 : Int) = 2^230 * (6 * (2^24 + 2^20)) + 2^239 ∧
    (-2^240 : Int) ≤ 2^239 ∧ (6 * (2^24 + 2^20) : Int) ≤ 2^27 := by decide

end Cx.Props.C17
