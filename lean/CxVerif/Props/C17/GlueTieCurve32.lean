/-
  Props.C17.GlueTieCurve32 — the translator tie for the CURVE LAYER of the build with `feature = "force-32bits"`
  (`Fe = fe32::Fe`, `Scalar = scalar32::Scalar`), above the fe32 / scalar32 kernels.
  `Extracted/GlueCurve32.lean` is generated from /repo/src (curve25519/ge.rs, ed25519.rs, curve25519/mod.rs,
  x25519.rs, fe/mod.rs, scalar/mod.rs — the same backend-generic files as Props/C15/GlueTieCurve.lean) by
  tools/ktx_glue_curve.py with the specs of tools/kernels/glue_curve32.py: the cfg table of the 32-bit build, callees = the
  functions of Impl.Fe32 / Impl.Scalar32 (themselves tied by Props/C17/KernelTieB32.lean and Props/C20/GlueTieRest.lean).
  For every translated function `f` the theorem `f_src_eq_model` says that the hand-written model of Impl/Ge32.lean,
  Impl/X25519_32.lean, Impl/Ed25519_32.lean — about which Props/C17/Group32.lean proves equality with the Spec — IS that
  code, for ALL arguments (every representation, every digit, every byte string of every length): a changed operand, sign,
  table index, loop bound, carry, bit position or order of refusals in the source changes the generated definition and
  breaks a proof obligation here (and in Props/C15/GlueTieCurve.lean) even when no sampled input reaches it.
  `fe_backend_cfg` / `scalar_backend_cfg` pin which backend module the generic names denote under that cfg table.
  `rfl` where the translator emits exactly the model's shape; proved (case analysis / induction) where the shapes differ.
  The functions of ed25519.rs that touch no field element (`clamp_scalar`, `extended_secret`, `keypair_public`) have the
  generated text and the model of the 64-bit build: their ties are those of Props/C15/GlueTieCurve.lean.
-/
import CxVerif.Proofs.GlueCurve32
import CxVerif.Props.C15.GlueTieCurve
namespace Cx.Props.C17.GlueTieCurve32
open Cx Cx.Impl Cx.Impl.Fe32 Cx.Impl.Ge32 Cx.Extracted.GlueCurve32 Cx.Proofs.GlueCurve32
open Cx.Proofs.GlueCurve (recode_src)
open Cx.Proofs (some_bind)

/-! ## the cfg table: under `feature = "force-32bits"` fe/mod.rs re-exports `fe32`, scalar/mod.rs re-exports `scalar32` -/

theorem fe_backend_cfg : fe_backend_cfg_src = "fe32" := by rfl
theorem scalar_backend_cfg : scalar_backend_cfg_src = "scalar32" := by rfl

/-! ## (c) ge.rs — representations and formulas -/

theorem GeAffine.to_bytes_src_eq_model (s : GeAffine) : GeAffine.to_bytes_src s = GeAffine.to_bytes s := by rfl
/-- the decompression of RFC 8032 5.1.3 (incl. both refusals and the sign adjustment), for every byte string -/
theorem GeAffine.from_bytes_src_eq_model (s : Bytes) : GeAffine.from_bytes_src s = GeAffine.from_bytes s := by
  unfold GeAffine.from_bytes_src GeAffine.from_bytes
  by_cases h : s.length = 32
  · have hy : fromBytes s = from_bytes s h := by simp only [fromBytes, dif_pos h]
    rw [if_pos h, dif_pos h, hy]
    -- the two texts differ only in the join point after the square-root tests
    simp only [GeAffine.from_bytes_k1 s h]
  · rw [if_neg h, dif_neg h]
theorem GeP1P1.to_partial_src_eq_model (s : GeP1P1) : GeP1P1.to_partial_src s = GeP1P1.to_partial s := by rfl
theorem GeP1P1.to_full_src_eq_model (s : GeP1P1) : GeP1P1.to_full_src s = GeP1P1.to_full s := by rfl
theorem GePartial.ZERO_src_eq_model : GePartial.ZERO_src = GePartial.ZERO := by rfl
theorem GePartial.to_bytes_src_eq_model (s : GePartial) : GePartial.to_bytes_src s = GePartial.to_bytes s := by rfl
theorem GePartial.double_p1p1_src_eq_model (s : GePartial) : GePartial.double_p1p1_src s = GePartial.double_p1p1 s := by rfl
theorem GePartial.double_src_eq_model (s : GePartial) : GePartial.double_src s = GePartial.double s := by rfl
theorem GePartial.double_full_src_eq_model (s : GePartial) : GePartial.double_full_src s = GePartial.double_full s := by rfl
theorem Ge.ZERO_src_eq_model : Ge.ZERO_src = Ge.ZERO := by rfl
theorem Ge.from_affine_src_eq_model (a : GeAffine) : Ge.from_affine_src a = Ge.from_affine a := by rfl
theorem Ge.to_affine_src_eq_model (s : Ge) : Ge.to_affine_src s = Ge.to_affine s := by rfl
theorem Ge.from_bytes_src_eq_model (s : Bytes) : Ge.from_bytes_src s = Ge.from_bytes s := by
  unfold Ge.from_bytes_src Ge.from_bytes
  by_cases h : s.length = 32
  · simp only [h, if_true]
    cases GeAffine.from_bytes s with
    | none => rfl
    | some o => cases o with
      | none => rfl
      | some a => cases hh : Ge.from_affine a <;> simp [hh]
  · have : GeAffine.from_bytes s = none := by simp [GeAffine.from_bytes, h]
    simp [h, this]
theorem Ge.negate_src_eq_model (s : Ge) : Ge.negate_src s = Ge.negate s := by rfl
theorem Ge.to_partial_src_eq_model (s : Ge) : Ge.to_partial_src s = Ge.to_partial s := by rfl
theorem Ge.to_cached_src_eq_model (s : Ge) : Ge.to_cached_src s = Ge.to_cached s := by rfl
theorem Ge.double_p1p1_src_eq_model (s : Ge) : Ge.double_p1p1_src s = Ge.double_p1p1 s := by rfl
theorem Ge.double_src_eq_model (s : Ge) : Ge.double_src s = Ge.double s := by rfl
theorem Ge.double_partial_src_eq_model (s : Ge) : Ge.double_partial_src s = Ge.double_partial s := by rfl
theorem Ge.to_bytes_src_eq_model (s : Ge) : Ge.to_bytes_src s = Ge.to_bytes s := by rfl
theorem Ge.add_cached_src_eq_model (s : Ge) (r : GeCached) : Ge.add_cached_src s r = Ge.add_cached s r := by rfl
theorem Ge.add_precomp_src_eq_model (s : Ge) (r : GePrecomp) : Ge.add_precomp_src s r = Ge.add_precomp s r := by rfl
theorem Ge.sub_cached_src_eq_model (s : Ge) (r : GeCached) : Ge.sub_cached_src s r = Ge.sub_cached s r := by rfl
theorem Ge.sub_precomp_src_eq_model (s : Ge) (r : GePrecomp) : Ge.sub_precomp_src s r = Ge.sub_precomp s r := by rfl
/-- the by-value operator impls forward to the by-reference ones -/
theorem Ge.sub_cached_val_src_eq_model (s : Ge) (r : GeCached) : Ge.sub_cached_val_src s r = Ge.sub_cached s r := by rfl
theorem Ge.sub_precomp_val_src_eq_model (s : Ge) (r : GePrecomp) : Ge.sub_precomp_val_src s r = Ge.sub_precomp s r := by rfl
theorem GePrecomp.ZERO_src_eq_model : GePrecomp.ZERO_src = GePrecomp.ZERO := by rfl
theorem GePrecomp.maybe_set_src_eq_model (s o : GePrecomp) (c : CT.Choice) :
    GePrecomp.maybe_set_src s o c = GePrecomp.maybe_set s o c := by rfl
/-- the masked table lookup: sign and absolute value by `i8`/`u8` bit tricks, the eight masked sets in source order, the
    conditional negation; every table row `pos` (also out of range: both panic), every `i8` value `b` (outside −8..8: the
    `debug_assert!`) -/
theorem GePrecomp.select_src_eq_model (pos : Nat) (b : Int) : GePrecomp.select_src pos b = GePrecomp.select pos b := by
  -- the generated guard carries the `debug_assert!` marker (`Glue.debugAssert`, not definitionally its argument): it is removed
  -- by `select_src_unmarked`, whose proof fails when the source says `assert!` instead
  by_cases h : -8 ≤ b ∧ b ≤ 8
  · exact GePrecomp.select_in pos b h
  · have h1 : ¬ (b ≥ (-8 : Int) ∧ b ≤ (8 : Int)) := h
    have h2 : b < -8 ∨ b > 8 := by omega
    rw [GePrecomp.select_src_unmarked]
    simp only [GePrecomp.select, h1, h2, if_false, if_true]

/-! ## (c) ge.rs — the loops -/

section geloops

/-- `Ge::scalarmult_base`: the nibbles, the signed recoding (carry loop over `es[0..63]`, the last carry into `es[63]`), the comb
    loop over the odd digits, four doublings, the comb loop over the even digits — for every scalar -/
theorem Ge.scalarmult_base_src_eq_model (a : Scalar32.Scalar) : Ge.scalarmult_base_src a = Ge.scalarmult_base a := by
  unfold Ge.scalarmult_base_src Ge.scalarmult_base
  rw [← recode_src _ (Scalar.nibbles_length a)]
  simp only [Ge.scalarmult_base_loop1, Ge.scalarmult_base_loop2, Ge.scalarmult_base_loop3, bind_assoc, pure_bind]

/-- `GePartial::double_scalarmult_vartime`: both slide recodings, the table of odd multiples, the search for the top non-zero
    index from 255 down, the window loop down to index 0 (the fuel `i + 1` of both `loop`s is adequate: the model has none) -/
theorem GePartial.double_scalarmult_vartime_src_eq_model (a : Scalar32.Scalar) (A : Ge) (b : Scalar32.Scalar) :
    GePartial.double_scalarmult_vartime_src a A b = GePartial.double_scalarmult_vartime a A b := by
  unfold GePartial.double_scalarmult_vartime_src GePartial.double_scalarmult_vartime nextOdd
  generalize Ge32.slide a = sa
  generalize Ge32.slide b = sb
  cases sa with
  | none => rfl
  | some va =>
    cases sb with
    | none => rfl
    | some vb =>
      have hl := GePartial.dsm_loop2 va.toList vb.toList
      simp only [Option.map_some, some_bind, bind_assoc]
      repeat (refine bind_congr fun _ => ?_)
      rename_i a1 _ a2 _ _ a3 _ _ a5 _ _ a7 _ _ a9 _ _ a11 _ _ a13 _ _ a15
      exact hl [a1, a3, a5, a7, a9, a11, a13, a15] GePartial.ZERO (by simp) (by simp) 256 (by omega)

end geloops

/-! ## (e) ed25519.rs — key generation, signing, verification (order of refusals, all-zero key test, hash composition), exchange -/

theorem Ed25519.clamp_scalar_src_eq_model (s : Bytes) : Ed25519.clamp_scalar_src s = Ed25519.clamp_scalar s :=
  (C15.GlueTieCurve.Ed25519.clamp_scalar_src_eq_model s :)
theorem Ed25519.extended_secret_src_eq_model (pk : Bytes) : Ed25519.extended_secret_src pk = Ed25519.extended_secret pk :=
  (C15.GlueTieCurve.Ed25519.extended_secret_src_eq_model pk :)
theorem Ed25519.keypair_private_src_eq_model (k : Bytes) : Ed25519.keypair_private_src k = Ed25519.keypair_private k := by rfl
theorem Ed25519.keypair_public_src_eq_model (k : Bytes) : Ed25519.keypair_public_src k = Ed25519.keypair_public k :=
  (C15.GlueTieCurve.Ed25519.keypair_public_src_eq_model k :)
theorem Ed25519.extended_scalar_src_eq_model (k : Bytes) : Ed25519.extended_scalar_src k = Ed25519_32.extended_scalar k := by rfl
theorem Ed25519.extended_scalar_bytes_src_eq_model (k : Bytes) : Ed25519.extended_scalar_bytes_src k = Ed25519.extended_scalar_bytes k := by rfl
theorem Ed25519.extended_to_public_src_eq_model (k : Bytes) : Ed25519.extended_to_public_src k = Ed25519_32.extended_to_public k := by
  unfold Ed25519.extended_to_public_src Ed25519_32.extended_to_public
  by_cases h : k.length = 64
  · rw [if_pos h]
  · rw [if_neg h]
    have : Ed25519_32.extended_scalar k = none := by unfold Ed25519_32.extended_scalar; rw [if_neg h]
    rw [this]; rfl
theorem Ed25519.keypair_src_eq_model (k : Bytes) : Ed25519.keypair_src k = Ed25519_32.keypair k := by
  unfold Ed25519.keypair_src Ed25519_32.keypair
  by_cases h : k.length = 32
  · rw [if_pos h]
  · rw [if_neg h]
    have : Ed25519.extended_secret k = none := by unfold Ed25519.extended_secret; rw [if_neg h]
    rw [this]; rfl
theorem Ed25519.signature_nonce_src_eq_model (e m : Bytes) : Ed25519.signature_nonce_src e m = Ed25519_32.signature_nonce e m := by
  unfold Ed25519.signature_nonce_src Ed25519_32.signature_nonce
  by_cases h : e.length = 64
  · rw [if_pos h, if_pos h]; simp only [Ed25519.sha512_2, Ed25519_32.reduceWide, bind_assoc]
  · rw [if_neg h, if_neg h]

theorem Ed25519.signature_src_eq_model (m k : Bytes) : Ed25519.signature_src m k = Ed25519_32.signature m k := by
  unfold Ed25519.signature_src Ed25519_32.signature
  by_cases h : k.length = 64
  · rw [if_pos h]
    refine bind_congr fun private_key => ?_
    refine bind_congr fun public_key => ?_
    refine bind_congr fun az => ?_
    refine bind_congr fun nonce => ?_
    exact Ed25519_32.signature_tail_src m public_key az nonce
  · rw [if_neg h]
    have : Ed25519.keypair_private k = none := by unfold Ed25519.keypair_private; rw [if_neg h]
    rw [this]; rfl
theorem Ed25519.signature_extended_src_eq_model (m k : Bytes) : Ed25519.signature_extended_src m k = Ed25519_32.signature_extended m k := by
  unfold Ed25519.signature_extended_src Ed25519_32.signature_extended
  by_cases h : k.length = 64
  · rw [if_pos h]
    refine bind_congr fun public_key => ?_
    refine bind_congr fun nonce => ?_
    exact Ed25519_32.signature_tail_src m public_key k nonce
  · rw [if_neg h]
    have : Ed25519_32.extended_to_public k = none := by
      unfold Ed25519_32.extended_to_public Ed25519_32.extended_scalar; rw [if_neg h]; rfl
    rw [this]; rfl
theorem Ed25519.verify_src_eq_model (m pk sg : Bytes) : Ed25519.verify_src m pk sg = Ed25519_32.verify m pk sg := by
  unfold Ed25519.verify_src Ed25519_32.verify
  by_cases h : pk.length = 32 ∧ sg.length = 64
  · rw [if_pos h, if_pos h]
    refine bind_congr fun o => ?_
    cases o with
    | none => rfl
    | some g =>
      refine bind_congr fun a => ?_
      refine bind_congr fun o2 => ?_
      cases o2 with
      | none => rfl
      | some s =>
        simp only [Ed25519.verify_loop1, Ed25519.sha512_3, Ed25519_32.reduceWide, bind_assoc]
  · rw [if_neg h, if_neg h]
theorem Ed25519.edwards_to_montgomery_x_src_eq_model (y : Fe) : Ed25519.edwards_to_montgomery_x_src y = Ed25519_32.edwards_to_montgomery_x y := by rfl
theorem Ed25519.exchange_src_eq_model (pk sk : Bytes) : Ed25519.exchange_src pk sk = Ed25519_32.exchange pk sk := by
  unfold Ed25519.exchange_src Ed25519_32.exchange
  by_cases h : pk.length = 32 ∧ sk.length = 32
  · rw [if_pos h]; rfl
  · rw [if_neg h]
    by_cases h1 : pk.length = 32
    · have h2 : ¬ sk.length = 32 := fun h2 => h ⟨h1, h2⟩
      have : Ed25519.extended_secret sk = none := by unfold Ed25519.extended_secret; rw [if_neg h2]
      rw [this]
      cases Fe32.fromBytes pk with
      | none => rfl
      | some y =>
        rw [some_bind]
        cases Ed25519_32.edwards_to_montgomery_x y <;> rfl
    · have : Fe32.fromBytes pk = none := by unfold Fe32.fromBytes; rw [dif_neg h1]
      rw [this]; rfl

/-! ## (d) curve25519/mod.rs, x25519.rs — clamping, the 255-step ladder with masked swaps, the final inversion -/

section ladder
open Cx.Impl.X25519 (clampE)
open Cx.Impl.X25519_32 (ladderMain)

/-- `curve25519(n, p)` for all byte strings (`curve25519M` = the model `X25519_32.curve25519` with the length facts of the
    `[u8; 32]` parameter types supplied; another length is not expressible in Rust: `none`) -/
theorem curve25519_src_eq_model (n p : Bytes) : curve25519_src n p = curve25519M n p := by
  unfold curve25519_src curve25519M
  by_cases h : n.length = 32 ∧ p.length = 32
  · rw [if_pos h, dif_pos h]
    have hy : fromBytes p = from_bytes p h.2 := by simp only [fromBytes, dif_pos h.2]
    have he : (clampE n).length = 32 := by rw [X25519.clampE_length]; exact h.1
    unfold X25519_32.curve25519
    rw [hy]
    dsimp only
    refine bind_congr fun x1 => ?_
    · unfold ladderMain
      show (curve25519_loop1_src (clampE n) x1 255 Fe.ONE Fe.ZERO x1 Fe.ONE (CT.u64_ct_zero 1) >>= _) = _
      rw [curve25519_loop1 (clampE n) he x1 255 (by omega), toTuple_bind]
  · rw [if_neg h, dif_neg h]

theorem curve25519_base_src_eq_model (n : Bytes) : curve25519_base_src n = curve25519_baseM n := by
  unfold curve25519_base_src curve25519_baseM
  by_cases h : n.length = 32
  · rw [if_pos h, dif_pos h]
    have hy : fromBytes X25519.BASE = from_bytes X25519.BASE X25519.BASE_length := by
      simp only [fromBytes, dif_pos X25519.BASE_length]
    have he : (clampE n).length = 32 := by rw [X25519.clampE_length]; exact h
    unfold X25519_32.curve25519_base
    rw [hy]
    dsimp only
    refine bind_congr fun x1 => ?_
    · unfold ladderMain
      show (curve25519_base_loop1_src (clampE n) 255 Fe.ONE Fe.ZERO x1 Fe.ONE (CT.u64_ct_zero 1) >>= _) = _
      rw [curve25519_base_loop1 (clampE n) he 255 (by omega), toTuple_bind]
  · rw [if_neg h, dif_neg h]

/-- `x25519::dh` / `x25519::base`: the newtypes over `[u8; 32]` are erased -/
theorem X25519.dh_src_eq_model (n p : Bytes) :
    X25519.dh_src n p = if h : n.length = 32 ∧ p.length = 32 then Impl.X25519_32.dh n p h.1 h.2 else none := by
  unfold X25519.dh_src curve25519M Impl.X25519_32.dh
  by_cases h : n.length = 32 ∧ p.length = 32
  · rw [if_pos h]
  · rw [if_neg h, dif_neg h]
theorem X25519.base_src_eq_model (x : Bytes) :
    X25519.base_src x = if h : x.length = 32 then Impl.X25519_32.base x h else none := by
  unfold X25519.base_src curve25519_baseM Impl.X25519_32.base
  by_cases h : x.length = 32
  · rw [if_pos h]
  · rw [if_neg h, dif_neg h]

end ladder

/-! ## (a) Fe — the backend-generic addition chains of fe/mod.rs on the fe32 operations -/

theorem Fe.pow25523_src_eq_model (z : Fe) : Fe.pow25523_src z = Fe32.pow25523 z := by
  unfold Fe.pow25523_src Fe32.pow25523 chain250
  simp only [bind_assoc, pure_bind]
theorem Fe.invert_src_eq_model (z : Fe) : Fe.invert_src z = Fe32.invert z := by
  unfold Fe.invert_src Fe32.invert chain250
  simp only [bind_assoc, pure_bind]

/-! ## (b) Scalar — the backend-generic recoding of scalar/mod.rs on `scalar32::bits` -/

/-- `Scalar::slide`: the three nested loops (window growth, borrow propagation with `break`) on the `[i8; 256]` that
    `scalar32::Scalar::bits` returns, every `i8` operation checked — for every scalar; the result is the model's `Vector` as a list -/
theorem Scalar.slide_src_eq_model (s : Scalar32.Scalar) : Scalar.slide_src s = (Ge32.slide s).map Vector.toList := by
  unfold Scalar.slide_src Ge32.slide
  exact Scalar.slide_loop1 256 0 (bitsArr s) (by omega)

end Cx.Props.C17.GlueTieCurve32
