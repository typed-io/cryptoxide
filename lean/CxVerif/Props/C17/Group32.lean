/-
  Props.C17.Group32 — C17 ABOVE the field/scalar layer: the GROUP and PROTOCOL code of the crate (`curve25519/ge.rs`,
  the X25519 ladder of `curve25519/mod.rs`, `ed25519.rs`) is backend-generic Rust; compiled with
  `--features force-32bits` (or for `target_arch = "arm"`) it runs on `Fe = fe32::Fe`, `Scalar = scalar32::Scalar`.
  Models: Impl/Ge32.lean, Impl/X25519_32.lean, Impl/Ed25519_32.lean — the SAME model text as the 64-bit
  Impl/Ge.lean, Impl/X25519.lean, Impl/Ed25519.lean with the 32-bit field/scalar operations (every i32/i64 `+ - *`
  checked: `= some …` includes "no overflow panic in an overflow-checked build").

  What is proved, for ALL inputs (only the length/domain guards of the 64-bit theorems of C12–C15 remain; primality of
  2^255 − 19 and the Edwards group law are THEOREMS: Proofs/Prime25519.lean, Proofs/EdwardsGroupLaw.lean):
    (A) `curve25519` / `curve25519_base` of the 32-bit build = RFC 7748 X25519;
    (B) `keypair`, `signature`, `signature_extended`, `extended_to_public`, `exchange` of the 32-bit build = RFC 8032 /
        the Spec functions;
    (C) `verify` of the 32-bit build = `some (Spec.Ed25519.verify …)`: never panics, same verdict as the Spec;
    (D) every group operation of ge.rs on the 32-bit limb model represents the Spec point operation and stays inside
        the ref10 BOUND DISCIPLINE (Proofs/Ge32Refine.lean: operands of `Mul`/`square` of weight ≤ 3 — sums/differences
        of at most three carried values —, of `to_bytes`/predicates of weight ≤ 6; representation predicates
        `GeOk`/`PartialOk` weight 1, `P1P1Ok` ≤ 3, `CachedOk` 2/1, `PrecompOk` 1);
    (E) BACKEND EQUIVALENCE as corollaries of "both equal the same Spec": identical byte strings / verdicts.
-/
import CxVerif.Proofs.Ge32Agree
import CxVerif.Proofs.Prime25519Inst
import CxVerif.Proofs.EdwardsGroupLaw
import CxVerif.Props.C12.X25519
import CxVerif.Props.C13.Final
import CxVerif.Props.C14.Final
import CxVerif.Props.C14.Honest
import CxVerif.Proofs.EdRoundTrip
namespace Cx.Props.C17
open Cx.Spec Cx.Proofs.EdSpec
open Cx.Proofs.EdGroup (edwardsGroupLaw)
open Cx.Spec.Field25519 (p)
open Cx.Proofs.Ge32Agree (binopSpec unopSpec dsmSpec)

/-- the group law (a theorem: Proofs/EdwardsGroupLaw.lean) in the form the helper developments look it up -/
local instance groupLawFact32 : Proofs.GeComb.GroupLawFact := ⟨edwardsGroupLaw⟩

/-! ## (A) X25519 on the 32-bit field backend -/

/-- **X25519, 32-bit backend.**  For all 32-byte `n`, `u`: `curve25519(n, u)` compiled against fe32 does not overflow
    (`some`) and returns exactly `X25519(n, u)` of RFC 7748 (clamping, masking of bit 255 of `u`, non-canonical `u`,
    255 ladder steps with masked swaps on `[i32; 10]`, final swap, inversion, canonical encoding) -/
theorem curve25519_32 (n u : Bytes) (hn : n.length = 32) (hu : u.length = 32) :
    Impl.X25519_32.curve25519 n u hn hu = some (X25519.x25519 n u) :=
  Proofs.X25519_32.curve25519_eq n u hn hu

open Cx.Impl.Fe32 Cx.Impl.X25519_32 Cx.Proofs.Fe32 Cx.Proofs.X25519_32 in
theorem curve25519_base_32 (n : Bytes) (hn : n.length = 32) :
    Impl.X25519_32.curve25519_base n hn = some (X25519.x25519Base n) := by
  obtain ⟨x1, e1, t1, _, v1⟩ := from_bytes_spec Cx.Impl.X25519.BASE Cx.Impl.X25519.BASE_length
  unfold curve25519_base
  rw [e1, Option.bind_some]
  have h9 : eval x1 = 9 := by rw [v1]; decide
  have hz : Z5Ok (.small 9) (eval x1) := ⟨by decide, h9⟩
  rw [Cx.Proofs.X25519.A24P1_BASE_eq, Cx.Proofs.X25519.NINE_eq, ladderMain_spec n hn _ t1 _ hz, h9]
  unfold X25519.x25519Base X25519.x25519 X25519.decodeUCoordinate
  have : Field25519.decode X25519.basePoint = 9 := by decide
  rw [this]

/-- the wrapper API of x25519.rs on the 32-bit build -/
theorem dh_32 (n u : Bytes) (hn : n.length = 32) (hu : u.length = 32) :
    Impl.X25519_32.dh n u hn hu = some (X25519.x25519 n u) := curve25519_32 n u hn hu
theorem base_32 (n : Bytes) (hn : n.length = 32) :
    Impl.X25519_32.base n hn = some (X25519.x25519Base n) := curve25519_base_32 n hn

/-- one ladder iteration on the 32-bit backend: registers of weight 1 in, no i32/i64 overflow in the 18 field
    operations, registers of weight 1 out, RFC 7748 values (the bound discipline of the ladder) -/
theorem ladder_step_32 (z5k : Impl.X25519_32.Z5) (x1v : Nat) (hz5 : Proofs.X25519_32.Z5Ok z5k x1v)
    (x2 z2 x3 z3 : Impl.Fe32.Fe) (hx2 : Proofs.Fe32.W 1 x2) (hz2 : Proofs.Fe32.W 1 z2) (hx3 : Proofs.Fe32.W 1 x3)
    (hz3 : Proofs.Fe32.W 1 z3) :
    ∃ x4 z4 x5 z5, Impl.X25519_32.ladderArith 121666 z5k x2 z2 x3 z3 = some (x4, z4, x5, z5) ∧
      Proofs.Fe32.W 1 x4 ∧ Proofs.Fe32.W 1 z4 ∧ Proofs.Fe32.W 1 x5 ∧ Proofs.Fe32.W 1 z5 ∧
      (Proofs.Fe32.eval x4, Proofs.Fe32.eval z4, Proofs.Fe32.eval x5, Proofs.Fe32.eval z5)
        = Proofs.X25519.specArith x1v (Proofs.Fe32.eval x2) (Proofs.Fe32.eval z2) (Proofs.Fe32.eval x3)
            (Proofs.Fe32.eval z3) :=
  let ⟨⟨x4, z4, x5, z5⟩, h⟩ := Proofs.X25519_32.ladderArith_spec z5k x1v hz5 x2 z2 x3 z3 hx2 hz2 hx3 hz3
  ⟨x4, z4, x5, z5, h⟩

/-! ## (B) Ed25519 key generation, signing, exchange on the 32-bit backends -/

/-- **keypair, 32-bit backends**: `keypair seed = (seed ‖ ENC([s]B), ENC([s]B))`, every 32-byte seed -/
theorem keypair_32 (seed : Bytes) (hs : seed.length = 32) :
    Impl.Ed25519_32.keypair seed = some (Spec.Ed25519.keypair seed) :=
  Proofs.Ed25519_32Sign.keypair_text ▸
    Proofs.Ed25519G.keypair_eq Proofs.Ge32Comb.baseTable Proofs.Ed25519_32Sign.scalarSpec seed hs

/-- **signature, 32-bit backends**: `signature(M, keypair(seed).0)` = `R ‖ S` of RFC 8032 §5.1.6 -/
theorem signature_32 (seed msg : Bytes) (hs : seed.length = 32) (hm : msg.length < 2 ^ 124) :
    Impl.Ed25519_32.signature msg (Spec.Ed25519.keypair seed).1 = some (Spec.Ed25519.sign seed msg) :=
  Proofs.Ed25519_32Sign.signature_text ▸
    Proofs.Ed25519G.signature_eq Proofs.Ge32Comb.baseTable Proofs.Ed25519_32Sign.scalarSpec msg seed (Spec.Ed25519.publicKey seed) hs
      (Proofs.Ed25519Sign.encode_length _) hm

/-- `signature` hashes the public half it is given (it does not recompute it) -/
theorem signature_with_any_public_half_32 (seed pk msg : Bytes) (hs : seed.length = 32) (hpk : pk.length = 32)
    (hm : msg.length < 2 ^ 124) :
    Impl.Ed25519_32.signature msg (seed ++ pk) = some (Spec.Ed25519.signWith (Spec.Ed25519.secretScalar seed)
      (Spec.Ed25519.noncePrefix seed) pk msg) :=
  Proofs.Ed25519_32Sign.signature_text ▸
    Proofs.Ed25519G.signature_eq Proofs.Ge32Comb.baseTable Proofs.Ed25519_32Sign.scalarSpec msg seed pk hs hpk hm

theorem keypair_then_signature_32 (seed msg : Bytes) (hs : seed.length = 32) (hm : msg.length < 2 ^ 124) :
    (Impl.Ed25519_32.keypair seed).bind (fun kp => Impl.Ed25519_32.signature msg kp.1)
      = some (Spec.Ed25519.sign seed msg) := by
  rw [keypair_32 seed hs, Option.bind_some]
  exact signature_32 seed msg hs hm

/-- **extended_to_public, 32-bit backends** (scalar half below 2^255: the documented range) -/
theorem extended_to_public_32 (ext : Bytes) (hl : ext.length = 64) (hlt : leNat (ext.take 32) < 2 ^ 255) :
    Impl.Ed25519_32.extended_to_public ext = some (Spec.Ed25519.extendedToPublic ext) :=
  Proofs.Ed25519_32Sign.extended_to_public_text ▸
    Proofs.Ed25519G.extended_to_public_eq Proofs.Ge32Comb.baseTable Proofs.Ed25519_32Sign.scalarSpec ext hl hlt

theorem signature_extended_32 (msg ext : Bytes) (hl : ext.length = 64) (hlt : leNat (ext.take 32) < 2 ^ 255)
    (hm : msg.length < 2 ^ 124) :
    Impl.Ed25519_32.signature_extended msg ext = some (Spec.Ed25519.signExtended ext msg) :=
  Proofs.Ed25519_32Sign.signature_extended_text ▸
    Proofs.Ed25519G.signature_extended_eq Proofs.Ge32Comb.baseTable Proofs.Ed25519_32Sign.scalarSpec msg ext hl hlt hm

open Cx.Impl.Ed25519_32 Cx.Proofs.Ed25519_32Verify in
/-- **exchange, 32-bit backends**: X25519(pruned hashed secret, (1+y)/(1−y)), every 32-byte key and seed -/
theorem exchange_32 (pk seed : Bytes) (hpk : pk.length = 32) (hs : seed.length = 32) :
    Impl.Ed25519_32.exchange pk seed = some (Spec.Ed25519.exchange pk seed) := by
  rw [exchange_text]
  exact Proofs.Ed25519G.exchange_eq Proofs.Ge32Refine.spec32
    (by rw [curve25519_field]; exact Proofs.X25519_32.curve25519_eq) pk seed hpk hs

/-! ## (C) verification on the 32-bit backends -/

/-- **verify, 32-bit backends**: never panics and computes the Spec predicate (cofactorless equation, canonical S,
    decodable non-zero key), for every message below 2^124 bytes -/
theorem verify_32 (msg pk sig : Bytes) (hpk : pk.length = 32) (hsig : sig.length = 64) (hm : msg.length < 2 ^ 124) :
    Impl.Ed25519_32.verify msg pk sig = some (Spec.Ed25519.verify msg pk sig) :=
  Proofs.Ed25519_32Verify.verify_eq msg pk sig hpk hsig hm

theorem verify_32_accepts_iff (msg pk sig : Bytes) (hpk : pk.length = 32) (hsig : sig.length = 64)
    (hm : msg.length < 2 ^ 124) :
    Impl.Ed25519_32.verify msg pk sig = some true ↔ Spec.Ed25519.verify msg pk sig = true := by
  rw [verify_32 msg pk sig hpk hsig hm]; simp

/-! ## (D) the group operations of ge.rs on the 32-bit limb model -/

section groupops
open Cx.Impl.Ge32 Cx.Proofs.Ge32Refine

/-- `&Ge + &GeCached` represents the affine sum — no overflow, P1P1 result of weight ≤ 3 -/
theorem add_cached_32 (g : Ge) (c : GeCached) (P Q : Edwards.Point) (hg : GeOk g P) (hc : CachedOk c Q)
    (hP : OnCurve P) (hQ : OnCurve Q) : ∃ r, g.add_cached c = some r ∧ P1P1Ok r (Edwards.add P Q) :=
  add_cached_ok g c P Q hg hc hP hQ

theorem sub_cached_32 (g : Ge) (c : GeCached) (P Q : Edwards.Point) (hg : GeOk g P) (hc : CachedOk c Q)
    (hP : OnCurve P) (hQ : OnCurve Q) : ∃ r, g.sub_cached c = some r ∧ P1P1Ok r (Edwards.sub P Q) :=
  sub_cached_ok g c P Q hg hc hP hQ

theorem add_precomp_32 (g : Ge) (c : GePrecomp) (P Q : Edwards.Point) (hg : GeOk g P) (hc : PrecompOk c Q)
    (hP : OnCurve P) (hQ : OnCurve Q) : ∃ r, g.add_precomp c = some r ∧ P1P1Ok r (Edwards.add P Q) :=
  add_precomp_eq ▸ Proofs.GeG.ok_imp (fun _ => p1p1Ok_iff.2)
    (Proofs.GeG.add_precomp_ok (S := spec32) g c P Q (geOk_iff.1 hg) (precompOk_iff.1 hc) hP hQ)

theorem sub_precomp_32 (g : Ge) (c : GePrecomp) (P Q : Edwards.Point) (hg : GeOk g P) (hc : PrecompOk c Q)
    (hP : OnCurve P) (hQ : OnCurve Q) : ∃ r, g.sub_precomp c = some r ∧ P1P1Ok r (Edwards.sub P Q) :=
  sub_precomp_eq ▸ Proofs.GeG.ok_imp (fun _ => p1p1Ok_iff.2)
    (Proofs.GeG.sub_precomp_ok (S := spec32) g c P Q (geOk_iff.1 hg) (precompOk_iff.1 hc) hP hQ)

theorem double_32 (g : Ge) (P : Edwards.Point) (hg : GeOk g P) (hP : OnCurve P) :
    ∃ r, g.double_p1p1 = some r ∧ P1P1Ok r (Edwards.double P) := ge_double_p1p1_ok g P hg hP

theorem partial_double_32 (g : GePartial) (P : Edwards.Point) (hg : PartialOk g P) (hP : OnCurve P) :
    ∃ r, g.double_p1p1 = some r ∧ P1P1Ok r (Edwards.double P) :=
  partial_double_p1p1_eq ▸ Proofs.GeG.ok_imp (fun _ => p1p1Ok_iff.2) (Proofs.GeG.partial_double_p1p1_ok (S := spec32) g P (partialOk_iff.1 hg) hP)

theorem to_full_32 (r : GeP1P1) (P : Edwards.Point) (h : P1P1Ok r P) : ∃ g, r.to_full = some g ∧ GeOk g P :=
  to_full_ok r P h
theorem to_partial_32 (r : GeP1P1) (P : Edwards.Point) (h : P1P1Ok r P) :
    ∃ g, r.to_partial = some g ∧ PartialOk g P :=
  to_partial_eq ▸ Proofs.GeG.ok_imp (fun _ => partialOk_iff.2) (Proofs.GeG.to_partial_ok (S := spec32) r P (p1p1Ok_iff.1 h))
theorem to_cached_32 (g : Ge) (P : Edwards.Point) (h : GeOk g P) : ∃ c, g.to_cached = some c ∧ CachedOk c P :=
  to_cached_ok g P h

theorem negate_32 (g : Ge) (P : Edwards.Point) (h : GeOk g P) : ∃ r, g.negate = some r ∧ GeOk r (Edwards.neg P) :=
  negate_ok g P h

/-- `GePrecomp::select(pos, b)` (masked lookup on `[i32; 10]` entries, conditional negation) for −8 ≤ b ≤ 8 is the
    identity, the table entry for |b| or its negation -/
theorem select_32 (pos : Nat) (b : Int) (hb : -8 ≤ b ∧ b ≤ 8) (e0 e1 e2 e3 e4 e5 e6 e7 : GePrecomp)
    (hrow : GE_BASE[pos]? = some [e0, e1, e2, e3, e4, e5, e6, e7]) (Q : Nat → Edwards.Point)
    (h0 : PrecompOk e0 (Q 0)) (h1 : PrecompOk e1 (Q 1)) (h2 : PrecompOk e2 (Q 2)) (h3 : PrecompOk e3 (Q 3))
    (h4 : PrecompOk e4 (Q 4)) (h5 : PrecompOk e5 (Q 5)) (h6 : PrecompOk e6 (Q 6)) (h7 : PrecompOk e7 (Q 7)) :
    ∃ t, GePrecomp.select pos b = some t ∧
      PrecompOk t (if b < 0 then Edwards.neg (Proofs.GeSelect.pointOf Q b.natAbs)
        else Proofs.GeSelect.pointOf Q b.natAbs) :=
  select_eq ▸ Proofs.GeG.ok_imp (fun _ => precompOk_iff.2) (Proofs.GeG.select_ok (S := spec32) pos b hb _ hrow Q
    (Proofs.GeSelect.row8 (P := fun k e => Proofs.GeG.PrecompOk spec32 e (Q k)) (precompOk_iff.1 h0) (precompOk_iff.1 h1) (precompOk_iff.1 h2)
      (precompOk_iff.1 h3) (precompOk_iff.1 h4) (precompOk_iff.1 h5) (precompOk_iff.1 h6) (precompOk_iff.1 h7)))

/-- the tables of fe32/precomp.rs as the group layer reads them: row `j` of GE_BASE has eight weight-1 entries
    representing `[(k+1)·256^j]B`; `BI[k]` represents `[2k+1]B` -/
theorem GE_BASE_row_32 (j : Nat) (hj : j < 32) :
    ∃ e0 e1 e2 e3 e4 e5 e6 e7, GE_BASE[j]? = some [e0, e1, e2, e3, e4, e5, e6, e7] ∧
      ∀ k (e : GePrecomp), [e0, e1, e2, e3, e4, e5, e6, e7][k]? = some e →
        PrecompOk e (Edwards.smul ((k + 1) * 256 ^ j) Edwards.B) := by
  obtain ⟨row, hrow, hents⟩ := Proofs.Ge32Comb.GE_BASE_row j hj
  have hlen : row.length = 8 := by
    have := List.all_eq_true.1 Proofs.Ge32Comb.GE_BASE_rows8 row (List.mem_of_getElem? hrow)
    simpa using this
  obtain ⟨e0, e1, e2, e3, e4, e5, e6, e7, rfl⟩ := Cx.Proofs.Bytes.list8 row hlen
  refine ⟨e0, e1, e2, e3, e4, e5, e6, e7, hrow, fun k e hk => ?_⟩
  have hk8 : k < 8 := by
    by_contra h
    rw [List.getElem?_eq_none (by simp; omega)] at hk
    cases hk
  obtain ⟨e', he', hok⟩ := hents k hk8
  rw [hk] at he'
  cases he'
  exact hok

theorem BI_entry_32 (k : Nat) (hk : k < 8) :
    ∃ e, BI[k]? = some e ∧ PrecompOk e (Edwards.smul (2 * k + 1) Edwards.B) := Proofs.Ge32Comb.BI_entry k hk

/-- `Ge::to_bytes` / `GePartial::to_bytes` are the RFC 8032 §5.1.2 encoding of the represented point -/
theorem to_bytes_32 (g : Ge) (P : Edwards.Point) (hg : GeOk g P) (hx : P.x < p) (hy : P.y < p) :
    g.to_bytes = some (Edwards.encode P) := Proofs.Ge32Bytes.ge_to_bytes_ok g P hg hx hy

theorem partial_to_bytes_32 (g : GePartial) (P : Edwards.Point) (hg : PartialOk g P) (hx : P.x < p) (hy : P.y < p) :
    g.to_bytes = some (Edwards.encode P) := Proofs.Ge32Bytes.partial_to_bytes_ok g P hg hx hy

/-- `Ge::from_bytes` refines `Spec.Edwards.decode` (lenient §5.1.3): never panics, rejects exactly the non-points,
    otherwise a weight-1 representation of the decoded curve point -/
theorem from_bytes_32 (s : Bytes) (hs : s.length = 32) :
    match Edwards.decode s with
    | none => Ge.from_bytes s = some none
    | some P => OnCurve P ∧ ∃ g, Ge.from_bytes s = some (some g) ∧ GeOk g P := by
  rcases Proofs.Ge32Decode.from_bytes_cases s hs with ⟨hd, e⟩ | ⟨P, g, hd, hP, e, ok⟩ <;> rw [hd]
  exacts [e, ⟨hP, g, e, ok⟩]

theorem from_bytes_to_bytes_32 (g : Ge) (P : Edwards.Point) (h : GeOk g P) (hP : OnCurve P) :
    ∃ b g', g.to_bytes = some b ∧ Ge.from_bytes b = some (some g') ∧ GeOk g' P := by
  obtain ⟨hx, hy, _⟩ := (onCurve_iff P).1 hP
  rcases Proofs.Ge32Decode.from_bytes_cases _ (Proofs.Ed25519Sign.encode_length P) with ⟨hd, _⟩ | ⟨Q, g', hd, _, e, ok⟩ <;>
    rw [Proofs.EdRoundTrip.decode_encode P hP] at hd <;> cases hd
  exact ⟨_, g', Proofs.Ge32Bytes.ge_to_bytes_ok g P h hx hy, e, ok⟩

/-- **fixed-base scalar multiplication, 32-bit backends**: for every scalar (any 32 bytes) with value `a < 2^255`,
    `scalarmult_base` returns (no panic) a representation of `[a]B` and its `to_bytes` is `encode([a]B)` -/
theorem scalarmult_base_32 (s : Impl.Scalar32.Scalar) (ha : leNat s.toList < 2 ^ 255) :
    ∃ h, Ge.scalarmult_base s = some h ∧ GeOk h (Edwards.smul (leNat s.toList) Edwards.B) ∧
      h.to_bytes = some (Edwards.encode (Edwards.smul (leNat s.toList) Edwards.B)) := by
  rw [scalarmult_base_eq, ge_to_bytes_eq]
  have h := Proofs.Ed25519G.base_mul_scalar Proofs.Ge32Comb.baseTable Proofs.Ed25519_32Sign.scalarSpec s trivial ha
  exact h.imp fun _ h => ⟨h.1, geOk_iff.2 h.2.1, h.2.2⟩

/-- **double-scalar multiplication, 32-bit backends**: `double_scalarmult_vartime(a, A, b)` represents `[a]A + [b]B` for
    scalars below 2^255 (sliding-window recoding of both, odd-multiples tables, window loop) -/
theorem double_scalarmult_32 (a b : Impl.Scalar32.Scalar) (g : Ge) (A : Edwards.Point)
    (hav : leNat a.toList < 2 ^ 255) (hbv : leNat b.toList < 2 ^ 255) (hg : GeOk g A) (hA : OnCurve A) :
    ∃ r, GePartial.double_scalarmult_vartime a g b = some r ∧
      PartialOk r (Edwards.add (Edwards.smul (leNat a.toList) A) (Edwards.smul (leNat b.toList) Edwards.B)) :=
  Proofs.Ge32Dsm.dsm_ok a b g A hav hbv hg hA

/-- `Scalar::slide` on the bits of a 32-bit-backend scalar: no `i8` overflow, value preserved, digits 0 or odd, |d| ≤ 15 -/
theorem slide_32 (s : Impl.Scalar32.Scalar) (ha : leNat s.toList < 2 ^ 255) :
    ∃ r, slide s = some r ∧ ScalarL.evalDigits 2 r.toList = (leNat s.toList : Int) ∧
      ∀ d ∈ r.toList, Proofs.Scalar64.Slide.Dig d := Proofs.Ge32Dsm.slide_spec s ha

end groupops

/-! ## (E) backend equivalence: the two builds return identical bytes / verdicts -/

/-- **X25519**: both builds return the same 32 bytes for every scalar and every u-coordinate -/
theorem x25519_backends_agree (n u : Bytes) (hn : n.length = 32) (hu : u.length = 32) :
    Impl.X25519_32.curve25519 n u hn hu = Impl.X25519.curve25519 n u hn hu ∧
    Impl.X25519_32.curve25519_base n hn = Impl.X25519.curve25519_base n hn := by
  rw [curve25519_32, curve25519_base_32, C12.curve25519_eq_x25519, C12.curve25519_base_eq_x25519]
  exact ⟨rfl, rfl⟩

/-- **Ed25519 key generation**: same keypair and public key from every seed -/
theorem ed25519_keypair_backends_agree (seed : Bytes) (hs : seed.length = 32) :
    Impl.Ed25519_32.keypair seed = Impl.Ed25519.keypair seed := by
  rw [keypair_32 seed hs, C13.keypair_is_rfc8032 seed hs]

theorem ed25519_extended_to_public_backends_agree (ext : Bytes) (hl : ext.length = 64)
    (hlt : leNat (ext.take 32) < 2 ^ 255) :
    Impl.Ed25519_32.extended_to_public ext = Impl.Ed25519.extended_to_public ext := by
  rw [extended_to_public_32 ext hl hlt, C13.extended_to_public_is_spec ext hl hlt]

/-- **Ed25519 signing**: same 64 signature bytes for every seed, every public half handed in and every message -/
theorem ed25519_signature_backends_agree (seed pk msg : Bytes) (hs : seed.length = 32) (hpk : pk.length = 32)
    (hm : msg.length < 2 ^ 124) :
    Impl.Ed25519_32.signature msg (seed ++ pk) = Impl.Ed25519.signature msg (seed ++ pk) := by
  rw [signature_with_any_public_half_32 seed pk msg hs hpk hm,
    C13.signature_with_any_public_half seed pk msg hs hpk hm]

/-- the same for an arbitrary 64-byte keypair array (as the Rust signature `keypair: &[u8; 64]` reads) -/
theorem ed25519_signature_backends_agree_kp (kp msg : Bytes) (hk : kp.length = 64) (hm : msg.length < 2 ^ 124) :
    Impl.Ed25519_32.signature msg kp = Impl.Ed25519.signature msg kp := by
  have h := ed25519_signature_backends_agree (kp.take 32) (kp.drop 32) msg (by simp [hk]) (by simp [hk]) hm
  rwa [List.take_append_drop] at h

theorem ed25519_signature_extended_backends_agree (msg ext : Bytes) (hl : ext.length = 64)
    (hlt : leNat (ext.take 32) < 2 ^ 255) (hm : msg.length < 2 ^ 124) :
    Impl.Ed25519_32.signature_extended msg ext = Impl.Ed25519.signature_extended msg ext := by
  rw [signature_extended_32 msg ext hl hlt hm, C13.signature_extended_is_spec msg ext hl hlt hm]

/-- **Ed25519 verification**: same verdict (and no panic in either build) for every message, key and signature -/
theorem ed25519_verify_backends_agree (msg pk sig : Bytes) (hpk : pk.length = 32) (hsig : sig.length = 64)
    (hm : msg.length < 2 ^ 124) :
    Impl.Ed25519_32.verify msg pk sig = Impl.Ed25519.verify msg pk sig := by
  rw [verify_32 msg pk sig hpk hsig hm, C14.verify_is_spec_predicate msg pk sig hpk hsig hm]

/-- **interoperability**: what one build signs, the other build accepts (and itself accepts) — key generation and signing
    on the 32-bit build, verification on the 64-bit build, and the other way round; all four combinations answer `true` -/
theorem signatures_interoperate (seed msg : Bytes) (hs : seed.length = 32) (hm : msg.length < 2 ^ 124) :
    ((Impl.Ed25519_32.keypair seed).bind fun k => (Impl.Ed25519_32.signature msg k.1).bind fun sig =>
        Impl.Ed25519.verify msg k.2 sig) = some true ∧
    ((Impl.Ed25519.keypair seed).bind fun k => (Impl.Ed25519.signature msg k.1).bind fun sig =>
        Impl.Ed25519_32.verify msg k.2 sig) = some true ∧
    ((Impl.Ed25519_32.keypair seed).bind fun k => (Impl.Ed25519_32.signature msg k.1).bind fun sig =>
        Impl.Ed25519_32.verify msg k.2 sig) = some true := by
  have hpk : (Spec.Ed25519.publicKey seed).length = 32 := Proofs.Ed25519Sign.encode_length _
  have hsig : (Spec.Ed25519.sign seed msg).length = 64 := Proofs.Ed25519Honest.signWith_length _ _ _ _
  have h32 : Impl.Ed25519_32.verify msg (Spec.Ed25519.publicKey seed) (Spec.Ed25519.sign seed msg) = some true := by
    rw [verify_32 msg _ _ hpk hsig hm, C14.spec_verify_sign]
  refine ⟨?_, ?_, ?_⟩
  · rw [keypair_32 seed hs, Option.bind_some, signature_32 seed msg hs hm, Option.bind_some]
    exact C14.honest_signature_verifies seed msg hs hm
  · rw [C13.keypair_is_rfc8032 seed hs, Option.bind_some, C13.signature_is_rfc8032 seed msg hs hm, Option.bind_some]
    exact h32
  · rw [keypair_32 seed hs, Option.bind_some, signature_32 seed msg hs hm, Option.bind_some]
    exact h32

/-- **exchange**: same shared secret -/
theorem ed25519_exchange_backends_agree (pk seed : Bytes) (hpk : pk.length = 32) (hs : seed.length = 32) :
    Impl.Ed25519_32.exchange pk seed = Impl.Ed25519.exchange pk seed := by
  rw [exchange_32 pk seed hpk hs, C13.exchange_is_x25519_of_mapped_key pk seed hpk hs]

/-- the byte-level programs over the group API (Proofs/Ge32Agree.lean: same text for both backends) are the Spec
    functions — 32-bit side -/
theorem group_programs_32 (s t a b : Bytes) (hs : s.length = 32) (ht : t.length = 32) (ha : a.length = 32)
    (hb : b.length = 32) (hav : leNat a < 2 ^ 255) (hbv : leNat b < 2 ^ 255) (f : Bool) :
    Proofs.Ge32Agree.B32.binop f s t = some (binopSpec f s t) ∧
    Proofs.Ge32Agree.B32.unop f s = some (unopSpec f s) ∧
    Proofs.Ge32Agree.B32.recode s = some ((Edwards.decode s).map Edwards.encode) ∧
    Proofs.Ge32Agree.B32.smulBase a = some (Edwards.encode (Edwards.smul (leNat a) Edwards.B)) ∧
    Proofs.Ge32Agree.B32.dsm a s b = some (dsmSpec a s b) :=
  ⟨Proofs.Ge32Agree.B32.binop_eq f s t hs ht, Proofs.Ge32Agree.B32.unop_eq f s hs,
    Proofs.Ge32Agree.B32.recode_eq s hs, Proofs.Ge32Agree.B32.smulBase_eq a ha hav,
    Proofs.Ge32Agree.B32.dsm_eq a s b ha hs hb hav hbv⟩

/-- **every group operation**: decode–operate–encode through the API of ge.rs gives identical bytes (identical
    refusals, no panic) in both builds, for ALL 32-byte point strings `s`, `t` and all scalars `a`, `b` below 2^255:
    addition and subtraction (`to_cached`, `Add/Sub<&GeCached>`, `to_full`), doubling, negation, decoding followed by
    encoding, fixed-base scalar multiplication, double-scalar multiplication -/
theorem group_ops_backends_agree (s t a b : Bytes) (hs : s.length = 32) (ht : t.length = 32) (ha : a.length = 32)
    (hb : b.length = 32) (hav : leNat a < 2 ^ 255) (hbv : leNat b < 2 ^ 255) (f : Bool) :
    Proofs.Ge32Agree.B32.binop f s t = Proofs.Ge32Agree.B64.binop f s t ∧
    Proofs.Ge32Agree.B32.unop f s = Proofs.Ge32Agree.B64.unop f s ∧
    Proofs.Ge32Agree.B32.recode s = Proofs.Ge32Agree.B64.recode s ∧
    Proofs.Ge32Agree.B32.smulBase a = Proofs.Ge32Agree.B64.smulBase a ∧
    Proofs.Ge32Agree.B32.dsm a s b = Proofs.Ge32Agree.B64.dsm a s b := by
  rw [Proofs.Ge32Agree.B32.binop_eq f s t hs ht, Proofs.Ge32Agree.B64.binop_eq f s t hs ht,
    Proofs.Ge32Agree.B32.unop_eq f s hs, Proofs.Ge32Agree.B64.unop_eq f s hs,
    Proofs.Ge32Agree.B32.recode_eq s hs, Proofs.Ge32Agree.B64.recode_eq s hs,
    Proofs.Ge32Agree.B32.smulBase_eq a ha hav, Proofs.Ge32Agree.B64.smulBase_eq a ha hav,
    Proofs.Ge32Agree.B32.dsm_eq a s b ha hs hb hav hbv, Proofs.Ge32Agree.B64.dsm_eq a s b ha hs hb hav hbv]
  exact ⟨rfl, rfl, rfl, rfl, rfl⟩

open Cx.Proofs (bind_ok) in
/-- representation-level form: whatever representations the two builds hold of the same curve points, the encoded sum,
    difference, double and negation coincide -/
theorem group_formulas_backends_agree (g32 : Impl.Ge32.Ge) (c32 : Impl.Ge32.GeCached) (g64 : Impl.Ge.Ge)
    (c64 : Impl.Ge.GeCached) (P Q : Edwards.Point) (hP : OnCurve P) (hQ : OnCurve Q)
    (h32 : Proofs.Ge32Refine.GeOk g32 P) (k32 : Proofs.Ge32Refine.CachedOk c32 Q)
    (h64 : Proofs.GeRefine.GeOk g64 P) (k64 : Proofs.GeRefine.CachedOk c64 Q) :
    ((g32.add_cached c32).bind (·.to_full)).bind (·.to_bytes) = ((g64.add_cached c64).bind (·.to_full)).bind (·.to_bytes) ∧
    ((g32.sub_cached c32).bind (·.to_full)).bind (·.to_bytes) = ((g64.sub_cached c64).bind (·.to_full)).bind (·.to_bytes) ∧
    g32.double.bind (·.to_bytes) = g64.double.bind (·.to_bytes) ∧
    g32.negate.bind (·.to_bytes) = g64.negate.bind (·.to_bytes) ∧
    g32.to_bytes = g64.to_bytes := by
  -- each side is `some` of the Spec point's encoding
  have enc : ∀ {α : Type} {o : Option α} {f : α → Option Bytes} {Ok : α → Prop} {b : Bytes},
      (∃ r, o = some r ∧ Ok r) → (∀ r, Ok r → f r = some b) → o.bind f = some b :=
    fun ⟨r, e, ok⟩ hf => e ▸ hf r ok
  obtain ⟨hx, hy, _⟩ := (onCurve_iff P).1 hP
  have hnx : (Edwards.neg P).x < p := Proofs.EdField.neg_lt _
  have hny : (Edwards.neg P).y < p := Nat.mod_lt _ Proofs.Field25519.p_pos
  refine ⟨?_, ?_, ?_, ?_, ?_⟩
  · exact (enc (bind_ok (Proofs.Ge32Refine.add_cached_ok g32 c32 P Q h32 k32 hP hQ) fun r => Proofs.Ge32Refine.to_full_ok r _)
        fun f pf => Proofs.Ge32Bytes.ge_to_bytes_ok f _ pf (add_x_lt P Q) (add_y_lt P Q)).trans
      (enc (bind_ok (Proofs.GeRefine.add_cached_ok g64 c64 P Q h64 k64 hP hQ) fun r => Proofs.GeRefine.to_full_ok r _)
        fun f pf => Proofs.GeBytes.ge_to_bytes_ok f _ pf (add_x_lt P Q) (add_y_lt P Q)).symm
  · exact (enc (bind_ok (Proofs.Ge32Refine.sub_cached_ok g32 c32 P Q h32 k32 hP hQ) fun r => Proofs.Ge32Refine.to_full_ok r _)
        fun f pf => Proofs.Ge32Bytes.ge_to_bytes_ok f _ pf (add_x_lt P _) (add_y_lt P _)).trans
      (enc (bind_ok (Proofs.GeRefine.sub_cached_ok g64 c64 P Q h64 k64 hP hQ) fun r => Proofs.GeRefine.to_full_ok r _)
        fun f pf => Proofs.GeBytes.ge_to_bytes_ok f _ pf (add_x_lt P _) (add_y_lt P _)).symm
  · exact (enc (bind_ok (Proofs.Ge32Refine.ge_double_p1p1_ok g32 P h32 hP) fun r => Proofs.Ge32Refine.to_full_ok r _)
        fun f pf => Proofs.Ge32Bytes.ge_to_bytes_ok f _ pf (add_x_lt P P) (add_y_lt P P)).trans
      (enc (bind_ok (Proofs.GeRefine.ge_double_p1p1_ok g64 P h64 hP) fun r => Proofs.GeRefine.to_full_ok r _)
        fun f pf => Proofs.GeBytes.ge_to_bytes_ok f _ pf (add_x_lt P P) (add_y_lt P P)).symm
  · exact (enc (Proofs.Ge32Refine.negate_ok g32 P h32) fun f pf => Proofs.Ge32Bytes.ge_to_bytes_ok f _ pf hnx hny).trans
      (enc (Proofs.GeRefine.negate_ok g64 P h64) fun f pf => Proofs.GeBytes.ge_to_bytes_ok f _ pf hnx hny).symm
  · rw [Proofs.Ge32Bytes.ge_to_bytes_ok g32 P h32 hx hy, Proofs.GeBytes.ge_to_bytes_ok g64 P h64 hx hy]

/-! ## non-vacuity of the hypotheses, and kernel-evaluated samples of the 32-bit models (tests, NOT the theorems) -/

example : (List.replicate 32 (7 : UInt8)).length = 32 ∧ (List.replicate 64 (1 : UInt8)).length = 64 ∧
    (List.replicate 300 (1 : UInt8)).length < 2 ^ 124 := by
  simp only [List.length_replicate]; decide

/-- an extended secret / a scalar below 2^255 (top byte 0x7f) -/
example : leNat ((List.replicate 31 (0xff : UInt8) ++ [0x7f] ++ List.replicate 32 (3 : UInt8)).take 32) < 2 ^ 255 := by
  decide +kernel

/-- the representation predicates are inhabited: `Ge::ZERO` of the 32-bit backend represents the neutral element, which
    is on the curve, as is the base point -/
example : Proofs.Ge32Refine.GeOk Impl.Ge32.Ge.ZERO Edwards.zero ∧ OnCurve Edwards.zero ∧ OnCurve Edwards.B :=
  ⟨Proofs.Ge32Refine.ZERO_ok, zero_onCurve, Proofs.Ge.B_spec.1⟩

/-- cached / precomputed representations exist: `to_cached` of `Ge::ZERO`, the first table entry -/
example : ∃ c, Impl.Ge32.Ge.ZERO.to_cached = some c ∧ Proofs.Ge32Refine.CachedOk c Edwards.zero :=
  Proofs.Ge32Refine.to_cached_ok _ _ Proofs.Ge32Refine.ZERO_ok
example : ∃ e, Impl.Ge32.BI[0]? = some e ∧ Proofs.Ge32Refine.PrecompOk e (Edwards.smul (2 * 0 + 1) Edwards.B) :=
  Proofs.Ge32Comb.BI_entry 0 (by decide)

/-- the hypothesis of `ladder_step_32` is satisfiable: `z5 = t2.mul_small::<9>()` with `x1 = 9` -/
example : Proofs.X25519_32.Z5Ok (.small 9) 9 := ⟨by decide, rfl⟩

/-- hypotheses of `select_32`: digits in [−8, 8] -/
example : (-8 : Int) ≤ -3 ∧ (-3 : Int) ≤ 8 := by decide

end Cx.Props.C17
