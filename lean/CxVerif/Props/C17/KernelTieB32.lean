/-
  Props.C17.KernelTieB32 — the translator tie for the 32-bit curve backend (src/curve25519/fe/fe32/mod.rs and
  src/curve25519/scalar/scalar32.rs).  `Extracted/KernelsFe32.lean` / `Extracted/KernelsScalar32.lean` are regenerated
  from the CURRENT Rust sources on every run by tools/ktx_misc.py ("int" backend; kernel specs tools/kernels/fe32.py,
  scalar32.py): every checked `+ - *` of the Rust code on `i32`/`i64` is a bind (`add32 … mul64`, `sum64` for a
  left-to-right sum) in the Option monad, `<<` / `as i32` / `as u8` the wrap it is, `>>` floor division — translated
  statement by statement.  The theorems say that the hand-written models `Impl.Fe32.*` / `Impl.Scalar32.*` (about which
  the C17 refinement and no-overflow theorems are proved) compute exactly what the source says now, for ALL limb
  values, INCLUDING where an overflow-checked build panics (`none`): a changed carry, shift, mask, product index or
  constant in the source breaks a proof obligation even if no sampled input reaches it.
  Proof method: walk both straight-line programs in lock step from the head, unfolding the model's helpers (`carryR`,
  `mac`, …) as they come up (`bind_walk [helpers]`, Proofs/BindWalk.lean).
  Tied in Props/C20/GlueTieRest.lean, not here: `scalar32::muladd` (sc_muladd) and the small functions of scalar32.rs;
  `square_repeatdly`, `is_nonzero`, `is_negative`, `ct_eq`, `maybe_swap_with`, `maybe_set` (compositions of tied kernels);
  `load_3i`/`load_4i` (fe/load.rs).
-/
import CxVerif.Extracted.KernelsFe32
import CxVerif.Extracted.KernelsScalar32
import CxVerif.Proofs.GlueRestMuladd
namespace Cx.Props.C17.KernelTie

namespace Fe32
open Cx Cx.Impl.Fe32 Cx.Extracted.KernelsFe32

theorem add_src_eq_model (f g : Fe) : add_src f g = add f g := rfl
theorem sub_src_eq_model (f g : Fe) : sub_src f g = sub f g := rfl
theorem neg_src_eq_model (f : Fe) : neg_src f = neg f := rfl
theorem negate_mut_src_eq_model (f : Fe) : negate_mut_src f = negate_mut f := rfl

theorem mul_src_eq_model (f g : Fe) : mul_src f g = mul f g := by
  unfold mul_src mul mul_cols carry_mul
  bind_walk [carryR, carryR19]

theorem square_src_eq_model (f : Fe) : square_src f = square f := by
  unfold square_src square sq_cols carry_mul
  bind_walk [carryR, carryR19]

theorem square_and_double_src_eq_model (f : Fe) : square_and_double_src f = square_and_double f := by
  unfold square_and_double_src square_and_double sq_cols carry_mul
  bind_walk [carryR, carryR19]

theorem mul_small_src_eq_model (f : Fe) (S0 : Nat) : mul_small_src f S0 = mul_small f S0 := by
  unfold mul_small_src mul_small carry_par
  bind_walk [carryR, carryR19]

theorem from_bytes_src_eq_model (b : Bytes) (h : b.length = 32) : from_bytes_src b h = from_bytes b h := by
  unfold from_bytes_src from_bytes carry_par
  bind_walk [carryR, carryR19]

theorem to_bytes_src_eq_model (f : Fe) : to_bytes_src f = to_bytes f := by
  unfold to_bytes_src to_bytes to_bytes_limbs
  bind_walk [carryF32, qstep]

end Fe32

namespace Scalar32
open Cx Cx.Impl.Scalar32 Cx.Extracted.KernelsScalar32

set_option maxRecDepth 100000 in
/-- sc_reduce: the 24 loads, the reduction of the 24 limbs by L (`mac`/`msc` steps, rounded and floor carries), the pack -/
theorem reduce_from_wide_bytes_src_eq_model (s : Vector UInt8 64) :
    reduce_from_wide_bytes_src s = reduce_from_wide_bytes s := by
  exact (Cx.Proofs.GlueRestMuladd.tail_src_eq ..).trans rfl

end Scalar32
end Cx.Props.C17.KernelTie
