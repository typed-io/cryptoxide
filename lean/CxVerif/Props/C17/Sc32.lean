/-
  Props.C17.Sc32 — C17 (f): the 32-bit scalar backend's wide reduction (ref10 `sc_reduce`) and multiply-add (ref10
  `sc_muladd`), PROVED for all inputs; discharges the hypotheses `Sc32ReduceSpec` / `Sc32MuladdSpec` of
  Props/C17/B32.lean, so the cross-backend equivalences of wide reduction and muladd are unconditional.

  What is proved about `Impl.Scalar32.reduce_from_wide_bytes` (every i64 `+ - *` of the model is a checked operation):
  for EVERY 64-byte string (1) none of the ~130 multiply-accumulates and ~70 carries overflows i64, (2) the limb value
  is preserved modulo L through every fold (2^252 ≡ −δ, literals 666643 470296 654183 −997805 136657 −683901) and
  exactly through every carry, (3) after the last fold the value is in [0, L) — the final steps of ref10 bring a value
  in (−2^252, 2^252) to [0, 2^252) or add L exactly once — and (4) the 32 output bytes are its little-endian encoding.
  The same four facts for `Impl.Scalar32.muladd` on ANY three 32-byte strings (144 checked products, 23 checked column
  sums, two extra carry rounds, then the same reduction tail): the result is `(le a · le b + le c) mod L`; the
  hypothesis `le c < L` of `Sc32MuladdSpec` is not needed by the 32-bit code (`sc32_muladd_all`).
-/
import CxVerif.Props.C17.B32
import CxVerif.Proofs.Scalar32Muladd
namespace Cx.Props.C17
open Cx Cx.Spec

/-- **ref10 sc_reduce, 32-bit backend**: `reduce_from_wide_bytes s` never panics (no i64 overflow in a checked build) and
    returns the canonical 32-byte encoding of `le(s) mod L`, for EVERY 64-byte string `s` -/
theorem sc32_reduce_spec : Sc32ReduceSpec := fun s => Cx.Proofs.Scalar32.reduce_from_wide_bytes_spec s

/-- the limb-level statement behind it (inputs: ANY 24 limbs within the entry bounds of the shared reduction tail):
    no overflow, result fully carried, value in [0, L) and congruent to the 24-limb value modulo L -/
theorem sc32_reduce_limbs (s0 s1 s2 s3 s4 s5 s6 s7 s8 s9 s10 s11 s12 s13 s14 s15 s16 s17 s18 s19 s20 s21 s22 s23 : Int)
    (hb : ∀ x ∈ [s0, s1, s2, s3, s4, s5, s6, s7, s8, s9, s10, s11, s12, s13, s14, s15, s16, s17, s18, s19, s20, s21, s22], 0 ≤ x ∧ x < 2^21)
    (h23 : 0 ≤ s23 ∧ s23 < 2^29) :
    ∃ (t : Impl.Scalar32.S12) (q : Int),
      Impl.Scalar32.reduce_limbs s0 s1 s2 s3 s4 s5 s6 s7 s8 s9 s10 s11 s12 s13 s14 s15 s16 s17 s18 s19 s20 s21 s22 s23 = some t ∧
      Cx.Proofs.Scalar32.Digits12 t ∧
      Cx.Proofs.Scalar32.val12 t = Cx.Proofs.Scalar32.lin24 s0 s1 s2 s3 s4 s5 s6 s7 s8 s9 s10 s11 s12 s13 s14 s15 s16 s17 s18 s19 s20 s21 s22 s23
        - (ScalarL.L : Int) * q ∧
      0 ≤ Cx.Proofs.Scalar32.val12 t ∧ Cx.Proofs.Scalar32.val12 t < (ScalarL.L : Int) := by
  rw [← Cx.Proofs.Scalar32.LI_eq]
  obtain ⟨t, q, h1, h2, h3, h4⟩ := Cx.Proofs.Scalar32.reduce_limbs_spec s0 s1 s2 s3 s4 s5 s6 s7 s8 s9 s10 s11 s12 s13 s14 s15 s16 s17 s18
      s19 s20 s21 s22 s23
    (List.forall_mem_append.2 ⟨fun x h => have p := hb x h; by omega, List.forall_mem_singleton.2 (by omega)⟩)
  exact ⟨t, q, h1, h2, h3, h4.1, h4.2⟩

/-- WIDE REDUCTION EQUIVALENCE (unconditional): both backends return the same bytes for every 64-byte string -/
theorem wide_reduction_equivalent (s : Vector UInt8 64) :
    (Impl.Scalar64.reduce_from_wide_bytes s).map Impl.Scalar64.to_bytes
      = (Impl.Scalar32.reduce_from_wide_bytes s).map Impl.Scalar32.to_bytes :=
  wide_reduction_equivalent_partial sc32_reduce_spec s

/-- non-vacuity / regression test (kernel-evaluated sample, NOT the theorem): the witness that exercises the
    "add L once" branch of the final steps, `s = L − 1` (value −1 after the rounded carries) -/
example : (Impl.Scalar32.reduce_from_wide_bytes
    (Vector.ofFn fun i : Fin 64 => (natToLE 64 (ScalarL.L - 1)).getD i.val 0)).map Impl.Scalar32.to_bytes
    = some (ScalarL.encode (ScalarL.L - 1)) := by decide +kernel

/-- **ref10 sc_muladd, 32-bit backend**, full strength: for ALL 32-byte strings a, b, c (c need not be reduced)
    `muladd a b c` never panics and returns the canonical encoding of `(le a · le b + le c) mod L` -/
theorem sc32_muladd_all (a b c : Vector UInt8 32) :
    (Impl.Scalar32.muladd a b c).map Impl.Scalar32.to_bytes
      = some (ScalarL.encode (ScalarL.muladd (ScalarL.decode a.toList) (ScalarL.decode b.toList) (ScalarL.decode c.toList))) :=
  Cx.Proofs.Scalar32.muladd_spec a b c

theorem sc32_muladd_spec : Sc32MuladdSpec := fun a b c _ => sc32_muladd_all a b c

/-- the limb-level statement: operand limbs of any three 32-byte strings (eleven 21-bit digits, top digit < 2^25):
    no overflow, result fully carried, in [0, L), congruent to a·b + c modulo L -/
theorem sc32_muladd_limbs (a b c : Fin 12 → Int)
    (ha : ∀ i, 0 ≤ a i ∧ a i < (if i.val < 11 then 2^21 else 2^25))
    (hb : ∀ i, 0 ≤ b i ∧ b i < (if i.val < 11 then 2^21 else 2^25))
    (hc : ∀ i, 0 ≤ c i ∧ c i < (if i.val < 11 then 2^21 else 2^25)) :
    ∃ (t : Impl.Scalar32.S12) (q : Int),
      Impl.Scalar32.muladd_limbs (a 0) (a 1) (a 2) (a 3) (a 4) (a 5) (a 6) (a 7) (a 8) (a 9) (a 10) (a 11)
        (b 0) (b 1) (b 2) (b 3) (b 4) (b 5) (b 6) (b 7) (b 8) (b 9) (b 10) (b 11)
        (c 0) (c 1) (c 2) (c 3) (c 4) (c 5) (c 6) (c 7) (c 8) (c 9) (c 10) (c 11) = some t ∧
      Cx.Proofs.Scalar32.Digits12 t ∧
      Cx.Proofs.Scalar32.val12 t =
        Cx.Proofs.Scalar32.lin12 (a 0) (a 1) (a 2) (a 3) (a 4) (a 5) (a 6) (a 7) (a 8) (a 9) (a 10) (a 11)
          * Cx.Proofs.Scalar32.lin12 (b 0) (b 1) (b 2) (b 3) (b 4) (b 5) (b 6) (b 7) (b 8) (b 9) (b 10) (b 11)
          + Cx.Proofs.Scalar32.lin12 (c 0) (c 1) (c 2) (c 3) (c 4) (c 5) (c 6) (c 7) (c 8) (c 9) (c 10) (c 11)
          - (ScalarL.L : Int) * q ∧
      0 ≤ Cx.Proofs.Scalar32.val12 t ∧ Cx.Proofs.Scalar32.val12 t < (ScalarL.L : Int) := by
  rw [← Cx.Proofs.Scalar32.LI_eq]
  have h (f : Fin 12 → Int) (hf : ∀ i, 0 ≤ f i ∧ f i < (if i.val < 11 then 2^21 else 2^25)) :
      ∀ x ∈ [f 0, f 1, f 2, f 3, f 4, f 5, f 6, f 7, f 8, f 9, f 10, f 11], Cx.Proofs.Scalar32.Fac x := by
    have g (i : Fin 12) : Cx.Proofs.Scalar32.Fac (f i) := by
      have := hf i
      unfold Cx.Proofs.Scalar32.Fac
      split at this <;> omega
    simp only [List.mem_cons, List.not_mem_nil, or_false, forall_eq_or_imp, forall_eq]
    exact ⟨g 0, g 1, g 2, g 3, g 4, g 5, g 6, g 7, g 8, g 9, g 10, g 11⟩
  obtain ⟨t, q, h1, h2, h3, h4⟩ := Cx.Proofs.Scalar32.muladd_limbs_spec _ _ _ _ _ _ _ _ _ _ _ _ _ _ _ _ _ _ _ _ _ _ _ _
    _ _ _ _ _ _ _ _ _ _ _ _ (h a ha) (h b hb) (h c hc)
  exact ⟨t, q, h1, h2, h3, h4.1, h4.2⟩

/-- MULADD EQUIVALENCE (unconditional in the 32-bit ingredient): both backends return the same bytes for all 32-byte
    a, b and reduced c (for c ≥ L the 64-bit backend is outside its contract, see B32.lean) -/
theorem muladd_equivalent (a b c : Vector UInt8 32) (hc : ScalarL.decode c.toList < ScalarL.L) :
    (Impl.Scalar64.muladd (Impl.Scalar64.from_bytes a) (Impl.Scalar64.from_bytes b) (Impl.Scalar64.from_bytes c)).map
        Impl.Scalar64.to_bytes
      = (Impl.Scalar32.muladd a b c).map Impl.Scalar32.to_bytes :=
  muladd_equivalent_partial sc32_muladd_spec a b c hc

/-- the hypothesis of `muladd_equivalent` is satisfiable (c = L − 1), and a kernel-evaluated sample of the model
    (a test, NOT the theorem): (2^256−1)·(2^256−1) + (2^256−1) with an unreduced c -/
example : ScalarL.decode (Vector.ofFn fun i : Fin 32 => (natToLE 32 (ScalarL.L - 1)).getD i.val 0).toList < ScalarL.L := by
  decide +kernel
example : (Impl.Scalar32.muladd (Vector.replicate 32 0xff) (Vector.replicate 32 0xff) (Vector.replicate 32 0xff)).map
      Impl.Scalar32.to_bytes
    = some (ScalarL.encode (((2^256 - 1) * (2^256 - 1) + (2^256 - 1)) % ScalarL.L)) := by decide +kernel

end Cx.Props.C17
