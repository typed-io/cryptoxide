/-
  Props.C18 — the constant-time predicates and selectors of src/constant_time.rs return the ordinary answer.
  Every statement is for ALL operands (no bound on array lengths).
-/
import CxVerif.Proofs.ConstantTime
import CxVerif.Proofs.ByteLemmas
namespace Cx.Props.C18
open Cx.Impl.CT Cx.Proofs.CT

/-! ## integers -/

theorem u64_ct_zero_spec (x : UInt64) : u64_ct_zero x = ⟨if x = 0 then 1 else 0⟩ := by
  unfold u64_ct_zero; rw [nz_val]; by_cases h : x = 0 <;> simp [h]

theorem u64_ct_nonzero_spec (x : UInt64) : u64_ct_nonzero x = ⟨if x = 0 then 0 else 1⟩ := by
  unfold u64_ct_nonzero; rw [nz_val]

theorem u64_ct_eq_spec (a b : UInt64) : u64_ct_eq a b = ⟨if a = b then 1 else 0⟩ := by
  unfold u64_ct_eq; rw [u64_ct_zero_spec]; simp [UInt64.xor_eq_zero_iff]

theorem u64_ct_ne_spec (a b : UInt64) : u64_ct_ne a b = ⟨if a = b then 0 else 1⟩ := by
  unfold u64_ct_ne; rw [u64_ct_nonzero_spec]; simp [UInt64.xor_eq_zero_iff]

theorem u8_ct_zero_spec (x : UInt8) : u8_ct_zero x = ⟨if x = 0 then 1 else 0⟩ := by
  unfold u8_ct_zero; rw [u64_ct_zero_spec]; simp [toUInt64_eq_zero]

theorem u8_ct_nonzero_spec (x : UInt8) : u8_ct_nonzero x = ⟨if x = 0 then 0 else 1⟩ := by
  unfold u8_ct_nonzero; rw [u64_ct_nonzero_spec]; simp [toUInt64_eq_zero]

theorem u8_ct_eq_spec (a b : UInt8) : u8_ct_eq a b = ⟨if a = b then 1 else 0⟩ := by
  unfold u8_ct_eq; rw [u64_ct_eq_spec]; simp [UInt8.toUInt64_inj]

theorem u8_ct_ne_spec (a b : UInt8) : u8_ct_ne a b = ⟨if a = b then 0 else 1⟩ := by
  unfold u8_ct_ne; rw [u64_ct_ne_spec]; simp [UInt8.toUInt64_inj]

theorem u64_ct_lt_spec (a b : UInt64) : u64_ct_lt a b = ⟨if a < b then 1 else 0⟩ := by
  unfold u64_ct_lt; rw [lt_val]

theorem u64_ct_gt_spec (a b : UInt64) : u64_ct_gt a b = ⟨if a > b then 1 else 0⟩ := by
  unfold u64_ct_gt; rw [u64_ct_lt_spec]

/-- `ct_le` (negated strict comparison, as in the repaired source) is `≤` -/
theorem u64_ct_le_spec (a b : UInt64) : u64_ct_le a b = ⟨if a ≤ b then 1 else 0⟩ := by
  unfold u64_ct_le; rw [u64_ct_gt_spec]
  by_cases h : a ≤ b
  · have : ¬ a > b := UInt64.not_lt.mpr h
    simp [h, this, Choice.negate]
  · have : a > b := UInt64.not_le.mp h
    simp [h, this, Choice.negate]

theorem u64_ct_ge_spec (a b : UInt64) : u64_ct_ge a b = ⟨if a ≥ b then 1 else 0⟩ := by
  unfold u64_ct_ge; rw [u64_ct_lt_spec]
  by_cases h : a ≥ b
  · have : ¬ a < b := UInt64.not_lt.mpr h
    simp [h, this, Choice.negate]
  · have : a < b := UInt64.not_le.mp h
    simp [h, this, Choice.negate]

/-- Witness of defect (j): the trait defaults as originally written (`ct_le(a,b) = ct_gt(b,a)`,
    `ct_ge(a,b) = ct_lt(b,a)`) answer `false` on equal operands. -/
theorem u64_ct_le_swapped_wrong : (u64_ct_le_swapped 5 5).isTrue = false ∧ (5 : UInt64) ≤ 5 := by
  decide
theorem u64_ct_ge_swapped_wrong : (u64_ct_ge_swapped 5 5).isTrue = false ∧ (5 : UInt64) ≥ 5 := by
  decide

/-! ## the Choice algebra on {0,1}, and CtOption -/

def Choice.ofBool (b : Bool) : Choice := ⟨if b then 1 else 0⟩

theorem choice_isTrue_ofBool (b : Bool) : (Choice.ofBool b).isTrue = b := by cases b <;> decide
theorem choice_isFalse_ofBool (b : Bool) : (Choice.ofBool b).isFalse = !b := by cases b <;> decide
theorem choice_negate (b : Bool) : (Choice.ofBool b).negate = Choice.ofBool (!b) := by
  cases b <;> decide
theorem choice_and (a b : Bool) : (Choice.ofBool a).and (Choice.ofBool b) = Choice.ofBool (a && b) := by
  cases a <;> cases b <;> decide
theorem choice_or (a b : Bool) : (Choice.ofBool a).or (Choice.ofBool b) = Choice.ofBool (a || b) := by
  cases a <;> cases b <;> decide
theorem choice_xor (a b : Bool) : (Choice.ofBool a).xor (Choice.ofBool b) = Choice.ofBool (a ^^ b) := by
  cases a <;> cases b <;> decide
theorem ctOption_spec {α} (b : Bool) (t : α) :
    ctOptionInto (Choice.ofBool b) t = if b then some t else none := by
  cases b <;> simp [ctOptionInto, Choice.ofBool, Choice.isTrue]

/-! ## arrays and slices, every length -/

theorem foldl_or_eq_zero {α} (f : α → UInt64) (l : List α) (init : UInt64) :
    l.foldl (fun acc p => acc ||| f p) init = 0 ↔ init = 0 ∧ ∀ p ∈ l, f p = 0 := by
  induction l generalizing init with
  | nil => simp
  | cons x xs ih =>
    simp only [List.foldl_cons, ih, UInt64.or_eq_zero_iff, List.mem_cons, forall_eq_or_imp]
    constructor
    · rintro ⟨⟨a, b⟩, c⟩; exact ⟨a, b, c⟩
    · rintro ⟨a, b, c⟩; exact ⟨⟨a, b⟩, c⟩

theorem accBytes_eq_zero (l : List UInt8) : accBytes l = 0 ↔ ∀ b ∈ l, b = 0 := by
  unfold accBytes
  rw [foldl_or_eq_zero (fun b : UInt8 => b.toUInt64)]
  simp [toUInt64_eq_zero]

theorem bytes_ct_zero_spec (l : List UInt8) :
    (bytes_ct_zero l).isTrue = decide (∀ b ∈ l, b = 0) := by
  unfold bytes_ct_zero; rw [ct_zero_ofBool _ _ (accBytes_eq_zero l)]; exact choice_isTrue_ofBool _

theorem bytes_ct_nonzero_spec (l : List UInt8) :
    (bytes_ct_nonzero l).isTrue = decide (∃ b ∈ l, b ≠ 0) := by
  have e : bytes_ct_nonzero l = (bytes_ct_zero l).negate := by
    unfold bytes_ct_nonzero bytes_ct_zero; rw [u64_ct_nonzero_spec, u64_ct_zero_spec]; split <;> rfl
  rw [e, bytes_ct_zero, ct_zero_ofBool _ _ (accBytes_eq_zero l)]
  show ((Choice.ofBool _).negate).isTrue = _
  rw [choice_negate, choice_isTrue_ofBool, ← decide_not]
  simp

theorem words_ct_zero_spec (l : List UInt64) :
    (words_ct_zero l).isTrue = decide (∀ b ∈ l, b = 0) := by
  unfold words_ct_zero accWords
  rw [ct_zero_ofBool _ _ ((foldl_or_eq_zero (fun b : UInt64 => b) l 0).trans (and_iff_right rfl))]
  exact choice_isTrue_ofBool _

theorem zip_all_eq {α} (a b : List α) (hl : a.length = b.length) :
    (∀ p ∈ a.zip b, p.1 = p.2) ↔ a = b := by
  induction a generalizing b with
  | nil => cases b <;> simp_all
  | cons x xs ih =>
    cases b with
    | nil => simp at hl
    | cons y ys =>
      simp only [List.length_cons, Nat.add_right_cancel_iff] at hl
      have := ih ys hl
      simp only [Prod.forall] at this
      simp [this]

theorem accXorBytes_eq_zero (a b : List UInt8) (hl : a.length = b.length) :
    accXorBytes a b = 0 ↔ a = b := by
  unfold accXorBytes
  rw [foldl_or_eq_zero (fun p : UInt8 × UInt8 => p.1.toUInt64 ^^^ p.2.toUInt64)]
  simp only [true_and, UInt64.xor_eq_zero_iff, UInt8.toUInt64_inj]
  exact zip_all_eq a b hl

theorem accXorWords_eq_zero (a b : List UInt64) (hl : a.length = b.length) :
    accXorWords a b = 0 ↔ a = b := by
  unfold accXorWords
  rw [foldl_or_eq_zero (fun p : UInt64 × UInt64 => p.1 ^^^ p.2)]
  simp only [true_and, UInt64.xor_eq_zero_iff]
  exact zip_all_eq a b hl

theorem array_u8_ct_eq_val (a b : List UInt8) (hl : a.length = b.length) :
    array_u8_ct_eq a b = Choice.ofBool (decide (a = b)) :=
  ct_zero_ofBool _ _ (accXorBytes_eq_zero a b hl)

theorem array_u64_ct_eq_val (a b : List UInt64) (hl : a.length = b.length) :
    array_u64_ct_eq a b = Choice.ofBool (decide (a = b)) :=
  ct_zero_ofBool _ _ (accXorWords_eq_zero a b hl)

/-- `[u8; N]` equality: true exactly when all bytes match, for every N -/
theorem array_u8_ct_eq_spec (a b : List UInt8) (hl : a.length = b.length) :
    (array_u8_ct_eq a b).isTrue = decide (a = b) := by
  rw [array_u8_ct_eq_val a b hl, choice_isTrue_ofBool]

theorem array_u8_ct_ne_spec (a b : List UInt8) (hl : a.length = b.length) :
    (array_u8_ct_ne a b).isTrue = decide (a ≠ b) := by
  unfold array_u8_ct_ne
  rw [array_u8_ct_eq_val a b hl, choice_negate, choice_isTrue_ofBool]; simp

theorem array_u64_ct_eq_spec (a b : List UInt64) (hl : a.length = b.length) :
    (array_u64_ct_eq a b).isTrue = decide (a = b) := by
  rw [array_u64_ct_eq_val a b hl, choice_isTrue_ofBool]

theorem array_u64_ct_ne_spec (a b : List UInt64) (hl : a.length = b.length) :
    (array_u64_ct_ne a b).isTrue = decide (a ≠ b) := by
  unfold array_u64_ct_ne
  rw [array_u64_ct_eq_val a b hl, choice_negate, choice_isTrue_ofBool]; simp

/-- slices: refused (assert) when lengths differ, otherwise plain equality -/
theorem slice_u8_ct_eq_spec (a b : List UInt8) :
    slice_u8_ct_eq a b = if a.length = b.length then some (Choice.ofBool (decide (a = b))) else none := by
  unfold slice_u8_ct_eq
  by_cases hl : a.length = b.length
  · simp only [hl, if_true]; rw [array_u8_ct_eq_val a b hl]
  · simp [hl]

theorem slice_u64_ct_eq_spec (a b : List UInt64) :
    slice_u64_ct_eq a b = if a.length = b.length then some (Choice.ofBool (decide (a = b))) else none := by
  unfold slice_u64_ct_eq
  by_cases hl : a.length = b.length
  · simp only [hl, if_true]; rw [array_u64_ct_eq_val a b hl]
  · simp [hl]

/-- `MacResult ==` / `Tag ==`: true exactly when lengths and all bytes match -/
theorem macResultEq_spec (a b : List UInt8) : macResultEq a b = decide (a = b) := by
  unfold macResultEq
  by_cases hl : a.length = b.length
  · simp only [hl, if_true]; exact array_u8_ct_eq_spec a b hl
  · have : a ≠ b := fun h => hl (by rw [h])
    simp [hl, this]

/-! ## big-endian `<` on byte arrays -/

/-- the `i16`/`i8` intermediates of one borrow step stay in range (no wrap is lost by
    modelling them in `Int`) -/
theorem borrowStep_i16_range (bo x y : UInt8) (hb : bo.toNat ≤ 1) :
    -32768 ≤ borrowX1 bo x y ∧ borrowX1 bo x y ≤ 32767 ∧
    -128 ≤ borrowX1 bo x y / 256 ∧ borrowX1 bo x y / 256 ≤ 127 := by
  have hx := x.toNat_lt; have hy := y.toNat_lt
  unfold borrowX1; omega

theorem borrowStep_spec (bo x y : UInt8) (hb : bo.toNat ≤ 1) :
    (borrowStep bo x y).toNat = if x.toNat < y.toNat + bo.toNat then 1 else 0 := by
  have hx := x.toNat_lt; have hy := y.toNat_lt
  unfold borrowStep borrowX1
  simp only [UInt8.toNat_ofNat']
  split <;> omega

/-- little-endian borrow chain = comparison of little-endian values -/
theorem borrow_chain (l : List (UInt8 × UInt8)) (bo : UInt8) (hb : bo.toNat ≤ 1) :
    (l.foldl (fun bo p => borrowStep bo p.1 p.2) bo).toNat =
      if Cx.leNat (l.map (·.1)) < Cx.leNat (l.map (·.2)) + bo.toNat then 1 else 0 := by
  induction l generalizing bo with
  | nil => simp only [List.foldl_nil, List.map_nil, Cx.leNat]; split <;> omega
  | cons p ps ih =>
    have hs := borrowStep_spec bo p.1 p.2 hb
    rw [List.foldl_cons, ih _ (by rw [hs]; split <;> omega), hs]
    simp only [List.map_cons, Cx.leNat]
    have h1 := p.1.toNat_lt; have h2 := p.2.toNat_lt
    -- the borrow into the higher bytes decides exactly when the low bytes do not
    exact ite_congr (propext (by split <;> omega)) (fun _ => rfl) (fun _ => rfl)

theorem leNat_reverse (l : List UInt8) : Cx.leNat l.reverse = Cx.beNat l := Cx.Proofs.Bytes.leNat_reverse l

/-- `<&[u8; N]>::ct_lt(a, b)` is `<` on the big-endian values, for every N -/
theorem array_u8_ct_lt_spec (a b : List UInt8) (hl : a.length = b.length) :
    array_u8_ct_lt a b = Choice.ofBool (decide (Cx.beNat a < Cx.beNat b)) := by
  have hl' : a.reverse.length = b.reverse.length := by rw [List.length_reverse, List.length_reverse, hl]
  have hc := borrow_chain (a.reverse.zip b.reverse) 0 (by decide)
  rw [List.map_fst_zip (Nat.le_of_eq hl'), List.map_snd_zip (Nat.le_of_eq hl'.symm), leNat_reverse, leNat_reverse,
    show (0 : UInt8).toNat = 0 from rfl, Nat.add_zero] at hc
  -- the last borrow is the number 1 or 0, so `ct_nonzero` of it is the Choice
  have hr : (a.reverse.zip b.reverse).foldl (fun bo p => borrowStep bo p.1 p.2) 0 =
      if Cx.beNat a < Cx.beNat b then 1 else 0 := UInt8.toNat_inj.mp (by rw [hc, apply_ite UInt8.toNat]; rfl)
  unfold array_u8_ct_lt
  rw [hr]
  by_cases h : Cx.beNat a < Cx.beNat b
  · rw [if_pos h, decide_eq_true h]; rfl
  · rw [if_neg h, decide_eq_false h]; rfl

/-! ## conditional swap / assign of limb arrays -/

theorem mask_true : maskOf ⟨1⟩ = 0xFFFFFFFFFFFFFFFF := by decide
theorem mask_false : maskOf ⟨0⟩ = 0 := by decide

theorem xor_sel_true (x y : UInt64) : x ^^^ ((x ^^^ y) &&& 0xFFFFFFFFFFFFFFFF) = y := by
  rw [← mask_true]; exact masked_sel64 x y true
theorem xor_sel_false (x y : UInt64) : x ^^^ ((x ^^^ y) &&& 0) = x := by simp

theorem zipWith_self_left {α} (f : α → α → α) (a b : List α) (hl : a.length = b.length)
    (h : ∀ x y, f x y = x) : List.zipWith f a b = a := by
  induction a generalizing b <;> cases b <;> simp_all
theorem zipWith_self_right {α} (f : α → α → α) (a b : List α) (hl : a.length = b.length)
    (h : ∀ x y, f x y = y) : List.zipWith f a b = b := by
  induction a generalizing b <;> cases b <;> simp_all

theorem zipWith_zipWith_left {α} (f g : α → α → α) (a b : List α) :
    List.zipWith f a (List.zipWith g a b) = List.zipWith (fun x y => f x (g x y)) a b := by
  induction a generalizing b <;> cases b <;> simp [*]
theorem zipWith_zipWith_right {α} (f g : α → α → α) (a b : List α) :
    List.zipWith f b (List.zipWith g a b) = List.zipWith (fun x y => f y (g x y)) a b := by
  induction a generalizing b <;> cases b <;> simp [*]

theorem ct_array64_maybe_swap_spec (a b : List UInt64) (hl : a.length = b.length) (c : Bool) :
    ct_array64_maybe_swap_with a b (Choice.ofBool c) = if c then (b, a) else (a, b) :=
  masked_swap _ _ c (fun x y => masked_sel64 x y c)
    (fun x y => by rw [UInt64.xor_comm x y, masked_sel64 y x c]) a b hl

theorem ct_array64_maybe_set_spec (a b : List UInt64) (hl : a.length = b.length) (c : Bool) :
    ct_array64_maybe_set a b (Choice.ofBool c) = if c then b else a :=
  (congrArg Prod.fst (ct_array64_maybe_swap_spec a b hl c)).trans (by cases c <;> rfl)

theorem mask32_true : maskOf32 ⟨1⟩ = 0xFFFFFFFF := by decide
theorem mask32_false : maskOf32 ⟨0⟩ = 0 := by decide
theorem xor_sel32_true (x y : UInt32) : x ^^^ ((x ^^^ y) &&& 0xFFFFFFFF) = y := by
  rw [← mask32_true]; exact masked_sel32 x y true

theorem ct_array32_maybe_swap_spec (a b : List UInt32) (hl : a.length = b.length) (c : Bool) :
    ct_array32_maybe_swap_with a b (Choice.ofBool c) = if c then (b, a) else (a, b) :=
  masked_swap _ _ c (fun x y => masked_sel32 x y c)
    (fun x y => by rw [UInt32.xor_comm x y, masked_sel32 y x c]) a b hl

theorem ct_array32_maybe_set_spec (a b : List UInt32) (hl : a.length = b.length) (c : Bool) :
    ct_array32_maybe_set a b (Choice.ofBool c) = if c then b else a :=
  (congrArg Prod.fst (ct_array32_maybe_swap_spec a b hl c)).trans (by cases c <;> rfl)

/-! ## non-vacuity: the hypotheses are met by concrete non-trivial operands -/
example : ([1, 2, 3] : List UInt8).length = ([1, 2, 4] : List UInt8).length := rfl
example : array_u8_ct_lt [0, 255, 3] [1, 0, 0] = ⟨1⟩ := by decide
example : (array_u8_ct_eq [1, 2, 3] [1, 2, 4]).isTrue = false := by decide
example : (1 : UInt8).toNat ≤ 1 := by decide

end Cx.Props.C18
