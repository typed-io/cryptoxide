/-
  Props.C18 (KernelTie) — the translator tie for src/constant_time.rs.
  `Extracted/KernelsCT.lean` is regenerated from /repo/src/constant_time.rs on every run by tools/ktx_misc.py
  (kernel specs: tools/kernels/ct.py): every `fn` of the `Choice` / `CtZero` / `CtEqual` / `CtLesser` / `CtGreater`
  impls for `u64`, `u8`, arrays and slices, the trait defaults `ct_le` / `ct_ge`, and the four masked swap / set
  helpers, translated statement by statement.  The theorems below say that
  the hand-written model `Impl.ConstantTime` (about which the C18 theorems are proved) computes exactly what the
  source says, for ALL inputs: a changed constant, operand order, shift or mask in the source breaks a proof
  obligation even if no sampled input reaches it.
-/
import CxVerif.Extracted.KernelsCT
namespace Cx.Props.C18
open Cx.Impl.CT Cx.Extracted.KernelsCT

theorem is_true_src_eq_model (c : Choice) : is_true_src c = c.isTrue := rfl
theorem is_false_src_eq_model (c : Choice) : is_false_src c = c.isFalse := rfl
theorem negate_src_eq_model (c : Choice) : negate_src c = c.negate := rfl
theorem bitand_src_eq_model (a b : Choice) : bitand_src a b = a.and b := rfl
theorem bitor_src_eq_model (a b : Choice) : bitor_src a b = a.or b := rfl
theorem bitxor_src_eq_model (a b : Choice) : bitxor_src a b = a.xor b := rfl

theorem u64_ct_zero_src_eq_model (x : UInt64) : u64_ct_zero_src x = u64_ct_zero x := rfl
theorem u64_ct_nonzero_src_eq_model (x : UInt64) : u64_ct_nonzero_src x = u64_ct_nonzero x := rfl
theorem u64_ct_eq_src_eq_model (a b : UInt64) : u64_ct_eq_src a b = u64_ct_eq a b := rfl
theorem u64_ct_ne_src_eq_model (a b : UInt64) : u64_ct_ne_src a b = u64_ct_ne a b := rfl
theorem u8_ct_zero_src_eq_model (x : UInt8) : u8_ct_zero_src x = u8_ct_zero x := rfl
theorem u8_ct_nonzero_src_eq_model (x : UInt8) : u8_ct_nonzero_src x = u8_ct_nonzero x := rfl
theorem u8_ct_eq_src_eq_model (a b : UInt8) : u8_ct_eq_src a b = u8_ct_eq a b := rfl
theorem u8_ct_ne_src_eq_model (a b : UInt8) : u8_ct_ne_src a b = u8_ct_ne a b := rfl
theorem u64_ct_lt_src_eq_model (a b : UInt64) : u64_ct_lt_src a b = u64_ct_lt a b := rfl
theorem u64_ct_gt_src_eq_model (a b : UInt64) : u64_ct_gt_src a b = u64_ct_gt a b := rfl
/-- the trait defaults (of the repaired source: defect j) are the negated strict comparisons -/
theorem u64_ct_le_src_eq_model (a b : UInt64) : u64_ct_le_src a b = u64_ct_le a b := rfl
theorem u64_ct_ge_src_eq_model (a b : UInt64) : u64_ct_ge_src a b = u64_ct_ge a b := rfl

theorem bytes_ct_zero_src_eq_model (l : List UInt8) : bytes_ct_zero_src l = bytes_ct_zero l := rfl
theorem bytes_ct_nonzero_src_eq_model (l : List UInt8) : bytes_ct_nonzero_src l = bytes_ct_nonzero l := rfl
theorem words_ct_zero_src_eq_model (l : List UInt64) : words_ct_zero_src l = words_ct_zero l := rfl
theorem words_ct_nonzero_src_eq_model (l : List UInt64) : words_ct_nonzero_src l = words_ct_nonzero l := rfl
theorem slice_words_ct_zero_src_eq_model (l : List UInt64) : slice_words_ct_zero_src l = words_ct_zero l := rfl
theorem slice_words_ct_nonzero_src_eq_model (l : List UInt64) : slice_words_ct_nonzero_src l = words_ct_nonzero l := rfl
theorem array_u8_ct_eq_src_eq_model (a b : List UInt8) : array_u8_ct_eq_src a b = array_u8_ct_eq a b := rfl
theorem array_u8_ct_ne_src_eq_model (a b : List UInt8) : array_u8_ct_ne_src a b = array_u8_ct_ne a b := rfl
theorem array_u64_ct_eq_src_eq_model (a b : List UInt64) : array_u64_ct_eq_src a b = array_u64_ct_eq a b := rfl
theorem array_u64_ct_ne_src_eq_model (a b : List UInt64) : array_u64_ct_ne_src a b = array_u64_ct_ne a b := rfl
theorem slice_u8_ct_eq_src_eq_model (a b : List UInt8) : slice_u8_ct_eq_src a b = slice_u8_ct_eq a b := rfl
theorem slice_u64_ct_eq_src_eq_model (a b : List UInt64) : slice_u64_ct_eq_src a b = slice_u64_ct_eq a b := rfl

/-! ### big-endian `<` on byte arrays (`impl CtLesser for &[u8; N]`)
The translator writes every cast as the wrap it is (`(x1 >> 8) as i8` = two's-complement truncation to 8 bits); the
model `borrowStep` omits that truncation.  They agree for ALL bytes `x y borrow` because `x1 >> 8 ∈ {-2, -1, 0}`. -/
private theorem wrap_i8_id (v : Int) (h1 : -128 ≤ v) (h2 : v < 128) : (v + 2 ^ 7) % 2 ^ 8 - 2 ^ 7 = v := by omega

theorem array_u8_ct_lt_src_eq_model (a b : List UInt8) : array_u8_ct_lt_src a b = array_u8_ct_lt a b := by
  unfold array_u8_ct_lt_src array_u8_ct_lt
  have step : ∀ (bo : UInt8) (p : UInt8 × UInt8),
      (let x1 := ((p.1.toNat : Int) - (bo.toNat : Int)) - (p.2.toNat : Int)
       let x2 := ((x1 / 2 ^ 8) + 2 ^ 7) % 2 ^ 8 - 2 ^ 7
       UInt8.ofNat (((0 : Int) - x2) % 2 ^ 8).toNat) = borrowStep bo p.1 p.2 := by
    intro bo p
    have hx := p.1.toNat_lt; have hy := p.2.toNat_lt; have hb := bo.toNat_lt
    simp only [borrowStep, borrowX1]
    rw [wrap_i8_id _ (by omega) (by omega)]
    rfl
  simp only [step]
  rfl

theorem ct_array64_maybe_swap_with_src_eq_model (a b : List UInt64) (swap : Choice) :
    ct_array64_maybe_swap_with_src a b swap = ct_array64_maybe_swap_with a b swap := rfl
theorem ct_array32_maybe_swap_with_src_eq_model (a b : List UInt32) (swap : Choice) :
    ct_array32_maybe_swap_with_src a b swap = ct_array32_maybe_swap_with a b swap := rfl
theorem ct_array64_maybe_set_src_eq_model (a b : List UInt64) (swap : Choice) :
    ct_array64_maybe_set_src a b swap = ct_array64_maybe_set a b swap := rfl
theorem ct_array32_maybe_set_src_eq_model (a b : List UInt32) (swap : Choice) :
    ct_array32_maybe_set_src a b swap = ct_array32_maybe_set a b swap := rfl

end Cx.Props.C18
