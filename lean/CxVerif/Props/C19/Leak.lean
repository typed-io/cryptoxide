/-
  Props.C19.Leak — the event trace of the constant-time building blocks is a function of public data only,
  and erasing the trace gives back the plain models.  (The optimising compiler may re-introduce branches, so
  these theorems cannot speak for the binary: that part of C19 is observed by the instruction tracer.)
  The functions here (`array_u8_ct_eqL`, `ct_array64_maybe_swap_withL`, `forEach`, `Ev`, monad `L`) are those of Impl/Leak.lean,
  the small generic model — not the code-shaped functions of the same names in Impl/LeakModel.lean (`LeakM`, `forL`, `Event`)
  that Props/C19/LeakReal.lean is about, where the same facts are proved again for that model.
-/
import CxVerif.Impl.Leak
namespace Cx.Props.C19
open Cx.Impl.CT Cx.Impl.Leak

theorem iter_pure {σ α : Type} (f : σ → α → σ) (xs : List α) (s : σ) :
    (iter (fun s x => (pure (f s x) : L σ)) xs s).tr = [] ∧
    (iter (fun s x => (pure (f s x) : L σ)) xs s).val = xs.foldl f s := by
  induction xs generalizing s with
  | nil => exact ⟨rfl, rfl⟩
  | cons x xs ih =>
    have := ih (f s x)
    simp only [iter, bind_tr, bind_val, pure_tr, pure_val, List.nil_append, List.foldl_cons]
    exact this

theorem forEach_pure {σ α : Type} (f : σ → α → σ) (xs : List α) (s : σ) :
    (forEach xs s (fun s x => (pure (f s x) : L σ))).tr = [Ev.bound xs.length] ∧
    (forEach xs s (fun s x => (pure (f s x) : L σ))).val = xs.foldl f s := by
  have h := iter_pure f xs s
  simp only [forEach, bind_tr, bind_val, emit_tr, h.1, h.2, List.append_nil, and_self]

/-! ## array equality / ordering: trace depends on the length only -/

theorem array_u8_ct_eq_trace (a b : List UInt8) :
    (array_u8_ct_eqL a b).tr = [Ev.bound (min a.length b.length)] := by
  have h := forEach_pure (fun (acc : UInt64) (p : UInt8 × UInt8) => acc ||| (p.1.toUInt64 ^^^ p.2.toUInt64)) (a.zip b) 0
  simp only [array_u8_ct_eqL, bind_tr, pure_tr, h.1, List.append_nil, List.length_zip]

theorem array_u8_ct_eq_val (a b : List UInt8) :
    (array_u8_ct_eqL a b).val = array_u8_ct_eq a b := by
  have h := forEach_pure (fun (acc : UInt64) (p : UInt8 × UInt8) => acc ||| (p.1.toUInt64 ^^^ p.2.toUInt64)) (a.zip b) 0
  simp only [array_u8_ct_eqL, bind_val, pure_val, h.2]; rfl

/-- C19 for `MacResult ==` / `Tag ==`: for equal lengths, the trace is the same for EVERY pair of contents —
    in particular for every position of the first mismatching byte -/
theorem array_u8_ct_eq_secret_independent (a b a' b' : List UInt8)
    (ha : a.length = a'.length) (hb : b.length = b'.length) :
    (array_u8_ct_eqL a b).tr = (array_u8_ct_eqL a' b').tr := by
  rw [array_u8_ct_eq_trace, array_u8_ct_eq_trace, ha, hb]

theorem array_u8_ct_lt_trace (a b : List UInt8) :
    (array_u8_ct_ltL a b).tr = [Ev.bound (min a.length b.length)] := by
  have h := forEach_pure (fun (bo : UInt8) (p : UInt8 × UInt8) => borrowStep bo p.1 p.2) (a.reverse.zip b.reverse) 0
  simp only [array_u8_ct_ltL, bind_tr, pure_tr, h.1, List.append_nil, List.length_zip, List.length_reverse]

theorem array_u8_ct_lt_val (a b : List UInt8) :
    (array_u8_ct_ltL a b).val = array_u8_ct_lt a b := by
  have h := forEach_pure (fun (bo : UInt8) (p : UInt8 × UInt8) => borrowStep bo p.1 p.2) (a.reverse.zip b.reverse) 0
  simp only [array_u8_ct_ltL, bind_val, pure_val, h.2]; rfl

/-- the instrumentation can see leaks: an early-exit comparison has different traces for different
    mismatch positions (sanity / negative control) -/
theorem earlyExit_leaks :
    (earlyExitEq [1, 2, 3] [9, 2, 3]).tr ≠ (earlyExitEq [1, 2, 3] [1, 2, 9]).tr := by decide

/-! ## masked swap: trace depends on the limb count only, never on the choice -/

theorem swap_tmp_len (m : UInt64) (l : List (UInt64 × UInt64)) (init : List UInt64) :
    (l.foldl (fun t p => t ++ [(p.1 ^^^ p.2) &&& m]) init).length = init.length + l.length := by
  induction l generalizing init with
  | nil => simp
  | cons p ps ih => simp only [List.foldl_cons, ih, List.length_append, List.length_cons, List.length_nil]; omega

theorem maybe_swap_trace (a b : List UInt64) (c c' : Choice) :
    (ct_array64_maybe_swap_withL a b c).tr = (ct_array64_maybe_swap_withL a b c').tr := by
  have t := fun (m : UInt64) => forEach_pure (fun (t : List UInt64) (p : UInt64 × UInt64) => t ++ [(p.1 ^^^ p.2) &&& m]) (a.zip b) []
  have x := fun (tmp : List UInt64) (l : List UInt64) =>
    forEach_pure (fun (t : List UInt64) (p : UInt64 × UInt64) => t ++ [p.1 ^^^ p.2]) (l.zip tmp) []
  simp only [ct_array64_maybe_swap_withL, bind_tr, pure_tr, (t _).1, (t _).2, (x _ _).1, (x _ _).2,
    List.length_zip, swap_tmp_len, List.length_nil, Nat.zero_add]

/-! ## table selection: all rows are read, at public indices -/

theorem selectCt_iter_trace {α : Type} (set : α → α → Choice → α) (table : List α) (d d' : UInt64)
    (l : List Nat) (s s' : α) :
    (iter (selectBody set table d) l s).tr = (iter (selectBody set table d') l s').tr := by
  induction l generalizing s s' with
  | nil => rfl
  | cons k ks ih =>
    simp only [iter, selectBody, bind_tr, bind_val, emit_tr]
    cases hk : table[k]? with
    | none => simp only [pure_tr, pure_val, List.append_nil]; rw [ih]
    | some row => simp only [pure_tr, pure_val, List.append_nil]; rw [ih]

/-- the sequence of table rows touched by the constant-time selection does not depend on the secret digit -/
theorem selectCt_trace {α : Type} (set : α → α → Choice → α) (table : List α) (zero : α) (d d' : UInt64) :
    (selectCt set table zero d).tr = (selectCt set table zero d').tr := by
  simp only [selectCt, forEach, bind_tr, emit_tr]
  rw [selectCt_iter_trace set table d d' _ zero zero]

/-- negative control: direct indexing leaks the digit -/
theorem selectDirect_leaks : (selectDirect [10, 20, 30] 0 1).tr ≠ (selectDirect [10, 20, 30] 0 3).tr := by decide

/-! ## scalar loops: the trace is independent of the scalar -/

theorem ladder_trace {σ : Type} (bit bit' : Nat → Bool) (step : σ → Bool → σ) (n : Nat) (s s' : σ) :
    (ladder bit step n s).tr = (ladder bit' step n s').tr := by
  induction n generalizing s s' with
  | zero => rfl
  | succ k ih =>
    simp only [ladder, bind_tr, emit_tr]
    rw [ih]

theorem ladder_val {σ : Type} (bit : Nat → Bool) (step : σ → Bool → σ) (n : Nat) (s : σ) :
    (ladder bit step n s).val = ((List.range n).reverse.foldl (fun s k => step s (bit k)) s) := by
  induction n generalizing s with
  | zero => rfl
  | succ k ih =>
    simp only [ladder, bind_val]
    rw [ih, List.range_succ, List.reverse_append]
    rfl

/-- negative control: branching on the scalar bit is visible in the trace -/
theorem doubleAndAdd_leaks :
    (doubleAndAdd (fun _ => true) (· * 2) (· + 1) 2 (1 : Nat)).tr ≠
    (doubleAndAdd (fun _ => false) (· * 2) (· + 1) 2 (1 : Nat)).tr := by decide

end Cx.Props.C19
