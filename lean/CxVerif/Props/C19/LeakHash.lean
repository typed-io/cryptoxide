/-
  Props.C19.LeakHash — C19 "Poly1305 and HMAC tag computation", the HMAC half, UNCONDITIONAL: the hypothesis
  `DigestLeak D DL` of Props/C19/LeakReal.lean §(d) ("the digest's events, panics and public shadow depend on lengths
  only") is PROVED for the digest objects of the crate, on instrumented models written by following the Rust source
  statement by statement (Impl/LeakModelHash.lean; same event conventions as Impl/LeakModel.lean):

    (g) `cryptoutil::FixedBuffer<N>`: `standard_padding` (with `next`, `zero_until`, `full_buffer` inside; `input`: LeakReal §(d)),
    (h) SHA-2: `eng256/eng512::Engine::blocks` (length assertion + the block loop; the compression function is
        straight-line word arithmetic and emits nothing), `Engine256/512::{input, finish}`, the six `digest!` contexts,
    (i) SHA-1 and RIPEMD-160: `digest_block(s)` / `process_msg_block(s)`, the two contexts,
    (j) the macro-generated legacy `Digest` wrappers (`input`, `result`, `reset`; `assert!(!self.computed)`,
        `copy_from_slice`), generic in the wrapped context: `legacy_digest_leak`,
    (l) the SHA-3 / Keccak sponge: `process`, `finalize` (`pad_len`, `set_domain_sep`, `set_pad`), `output`, the contexts,
    (m) BLAKE2b / BLAKE2s: `update_mut`, `internal_final`, `increment_counter`, the legacy wrappers of src/blake2b.rs,
        src/blake2s.rs,
    (k) HMAC: `Hmac::new(D, key)`, one `input` per chunk, `raw_result` / `result`,
    (n) the ChaCha20-Poly1305 AEAD: `Context::{new, add_data, to_encryption, to_decryption}`,
        `ContextEncryption::{encrypt, encrypt_mut, finalize}`, `ContextDecryption::{decrypt, decrypt_mut, finalize}`, the
        one-shot `ChaChaPoly1305::{new, encrypt, decrypt}` (on the instrumented ChaCha and Poly1305 of LeakReal).

  The theorems come in two kinds: ERASURE (`(fL args).val = f args`, `f` the plain model of the functional theorems
  C01 / C02 / C08) and NON-INTERFERENCE, stated as an equality of traces `(fL args).tr = (fL args').tr` for arguments
  that agree on the PUBLIC SHADOW of the states (buffer size and fill, flags, for BLAKE2 the byte counter, sizes) and on
  all lengths; `…_panics_are_public` says that the two runs panic together.  Chaining values, buffered bytes and the
  SHA-2 byte counters are not in the shadow.  Both kinds are projections of one joint lemma per instrumented function,
  `fL_j : J (fL args) (fL args') (f args) R` (`J`, `NI`: Proofs/LeakJoint.lean; the lemmas: Proofs/LeakModelHmac.lean,
  Proofs/LeakModelHash*.lean), which also says that the results are `R`-related; functions that only occur inside others
  (`next_writeL`, the block functions, the sponge helpers, …) have their `_j` lemma there and no theorem here; the AEAD
  part (n) states the relational judgment `NIE` itself.  No "does not panic" premise is needed: every refusal
  (assertions, slice bounds, `copy_from_slice`) is decided by public data.

  `hmac_noninterference (L : DigestLeak D DL)` is the generic statement (any number of `input` calls);
  `hmac_sha256_noninterference` … are its instances WITHOUT hypothesis: for a fixed key LENGTH and fixed chunk LENGTHS
  the trace of `new`, `input` per chunk, `raw_result` is the same for every key content and every message content.
  `hmac_instrumented_value` ties the instrumented run to RFC 2104 through C08.

  Not covered: see the end of this file.
-/
import CxVerif.Proofs.LeakModelHashSha2
import CxVerif.Proofs.LeakModelHashMd
import CxVerif.Proofs.LeakModelHashSponge
import CxVerif.Proofs.LeakModelHashBlake2
import CxVerif.Proofs.LeakModelAead
import CxVerif.Props.C08.Hmac
namespace Cx.Props.C19
open Cx.Impl Cx.Impl.LeakModel Cx.Proofs.LeakModel Cx.Impl.Digest Cx.Impl.Hmac

/-! ## (k) HMAC, generic in the digest, any number of `input` calls -/

section Generic
variable {δ : Type} {D : DigestModel δ} {DL : DigestL δ}

theorem hmac_chunks_erasure (L : DigestLeak D DL) (d : δ) (key : Bytes) (chunks : List Bytes) (n : Nat) :
    (hmacChunksL D DL d key chunks n).val = hmacChunks D d key chunks n := hmacChunksL_val L d key chunks n

theorem hmac_chunks_result_erasure (L : DigestLeak D DL) (d : δ) (key : Bytes) (chunks : List Bytes) :
    (hmacChunksResultL D DL d key chunks).val = hmacChunksResult D d key chunks :=
  (hmacChunksResultL_j L d d key key chunks chunks rfl rfl rfl).val

/-- the plain sequence is the one of `Props.C08.hmac_generic` (`chunks.foldlM (Hmac.input D)`) -/
theorem hmac_inputs_is_foldlM (h : Hmac δ) (chunks : List Bytes) :
    Hmac.inputs D h chunks = chunks.foldlM (Hmac.input D) h := Hmac.inputs_eq_foldlM D chunks h

/-- **C19 (HMAC), generic**: for a digest type that satisfies `DigestLeak`, a fixed key LENGTH and fixed chunk LENGTHS
    give the same trace for every key content and every message content -/
theorem hmac_noninterference (L : DigestLeak D DL) (d : δ) (key key' : Bytes) (chunks chunks' : List Bytes) (n : Nat)
    (hk : key.length = key'.length) (hc : chunks.map List.length = chunks'.map List.length) :
    (hmacChunksL D DL d key chunks n).tr = (hmacChunksL D DL d key' chunks' n).tr :=
  (hmacChunksL_j L d d key key' chunks chunks' n rfl hk hc).ni.tr

theorem hmac_result_noninterference (L : DigestLeak D DL) (d : δ) (key key' : Bytes) (chunks chunks' : List Bytes)
    (hk : key.length = key'.length) (hc : chunks.map List.length = chunks'.map List.length) :
    (hmacChunksResultL D DL d key chunks).tr = (hmacChunksResultL D DL d key' chunks').tr :=
  (hmacChunksResultL_j L d d key key' chunks chunks' rfl hk hc).ni.tr

theorem hmac_panics_are_public (L : DigestLeak D DL) (d : δ) (key key' : Bytes) (chunks chunks' : List Bytes) (n : Nat)
    (hk : key.length = key'.length) (hc : chunks.map List.length = chunks'.map List.length) :
    (hmacChunks D d key chunks n).isSome = (hmacChunks D d key' chunks' n).isSome := by
  rw [← hmac_chunks_erasure L, ← hmac_chunks_erasure L]
  exact (hmacChunksL_j L d d key key' chunks chunks' n rfl hk hc).ni.both

end Generic

/-! ## (g) the rest of `FixedBuffer` -/

theorem standard_padding_erasure {σ : Type} (N : Nat) (self : FixedBuffer) (rem : Nat)
    (funcL : σ → Bytes → LO σ) (func : σ → Bytes → Option σ) (hf : ∀ s b, (funcL s b).val = func s b) (st : σ) :
    (FixedBuffer.standard_paddingL N self rem funcL st).val = self.standard_padding N rem func st :=
  FixedBuffer.standard_paddingL_val N self rem funcL func hf st

/-- whether the extra block is compressed, every slice bound and every refusal depend on the fill only -/
theorem standard_padding_noninterference {σ : Type} {R : σ → σ → Prop} (N : Nat) (b b' : FixedBuffer) (rem : Nat)
    (funcL : σ → Bytes → LO σ)
    (hf : ∀ s s' x x', R s s' → x.length = x'.length → NI (funcL s x) (funcL s' x') R) (st st' : σ)
    (hb : b.buffer.length = b'.buffer.length) (hi : b.buffer_idx = b'.buffer_idx) (hst : R st st') :
    (FixedBuffer.standard_paddingL N b rem funcL st).tr = (FixedBuffer.standard_paddingL N b' rem funcL st').tr :=
  (FixedBuffer.standard_paddingL_j .length N b b' rem funcL (fun s x => (funcL s x).val)
    (fun s s' x x' hs hx => ⟨rfl, hf s s' x x' hs hx⟩) st st' ⟨hb, hi⟩ hst).ni.tr

/-! ## (j) the legacy `Digest` wrappers, generic in the wrapped context type -/

section Legacy
variable {γ : Type} {M : CtxModel γ} {ML : CtxL γ}

def legacy_digest_leak (L : CtxLeak M ML) : DigestLeak (legacyDigest M) (legacyDigestL ML) := legacyLeak L

theorem legacy_input_erasure (L : CtxLeak M ML) (d : Legacy γ) (b : Bytes) :
    (Legacy.inputL ML d b).val = Legacy.input M d b := (Legacy.inputL_j L d d b b ⟨rfl, rfl⟩ rfl).val
theorem legacy_result_erasure (L : CtxLeak M ML) (d : Legacy γ) (n : Nat) :
    (Legacy.resultL ML d n).val = Legacy.result M d n := (Legacy.resultL_j L d d n ⟨rfl, rfl⟩).val
theorem legacy_reset_erasure (L : CtxLeak M ML) (d : Legacy γ) :
    (Legacy.resetL ML d).val = some (Legacy.reset M d) := (Legacy.resetL_j L d d ⟨rfl, rfl⟩).val

/-- `Hmac::new(X::new(), key)`, `input` per chunk, `raw_result(&mut [0; n])` for the legacy wrapper `X` of the context
    model `M`: instrumented and plain -/
abbrev hmacLegacyL (M : CtxModel γ) (ML : CtxL γ) (key : Bytes) (chunks : List Bytes) (n : Nat) : LO Bytes :=
  hmacChunksL (legacyDigest M) (legacyDigestL ML) (Legacy.new M) key chunks n
abbrev hmacLegacy (M : CtxModel γ) (key : Bytes) (chunks : List Bytes) (n : Nat) : Option Bytes :=
  hmacChunks (legacyDigest M) (Legacy.new M) key chunks n
/-- … with `result()` -/
abbrev hmacLegacyResultL (M : CtxModel γ) (ML : CtxL γ) (key : Bytes) (chunks : List Bytes) : LO Bytes :=
  hmacChunksResultL (legacyDigest M) (legacyDigestL ML) (Legacy.new M) key chunks

/-- the instrumented run returns the RFC 2104 tag (through C08; the guards are those of `Props.C08.HmacCorrect`) -/
theorem hmac_instrumented_value (L : CtxLeak M ML) {H : Bytes → Bytes} {B Lw : Nat} {ok : Bytes → Prop}
    (hC : Cx.Props.C08.HmacCorrect M H B Lw ok) (key : Bytes) (chunks : List Bytes)
    (hk : key.length ≤ B ∨ ok key)
    (h1 : ok (Cx.Proofs.MacHmac.ikey H B key ++ chunks.flatten))
    (h2 : ok (Cx.Proofs.MacHmac.okey H B key ++ H (Cx.Proofs.MacHmac.ikey H B key ++ chunks.flatten))) :
    (hmacLegacyResultL M ML key chunks).val = some (Spec.Hmac.hmac H B key chunks.flatten) := by
  obtain ⟨h, h', h'', e1, e2, e3, _, _⟩ := hC key chunks hk h1 h2
  rw [hmacLegacyResultL, hmac_chunks_result_erasure (legacyLeak L)]
  unfold hmacChunksResult
  rw [e1]
  simp only [Hmac.inputs_eq_foldlM, e2, e3, Option.map_some]

end Legacy

/-! ## (h) SHA-2: block functions, engines, contexts -/

section Sha2
open Cx.Impl.Sha2 Cx.Impl.LeakModel.Sha2L

theorem sha2_blocks256_erasure (s : Eng256.Engine) (d : Bytes) : (blocks256L s d).val = s.blocks d :=
  (blocks256L_j s s d d rfl).val
theorem sha2_blocks512_erasure (s : Eng512.Engine) (d : Bytes) : (blocks512L s d).val = s.blocks d :=
  (blocks512L_j s s d d rfl).val

/-- the block functions: trace and refusal depend on the LENGTH of the argument; nothing of the chaining value is public -/
theorem sha2_blocks256_noninterference (s s' : Eng256.Engine) (x x' : Bytes) (hx : x.length = x'.length) :
    (blocks256L s x).tr = (blocks256L s' x').tr := (blocks256L_j s s' x x' hx).ni.tr
theorem sha2_blocks512_noninterference (s s' : Eng512.Engine) (x x' : Bytes) (hx : x.length = x'.length) :
    (blocks512L s x).tr = (blocks512L s' x').tr := (blocks512L_j s s' x x' hx).ni.tr

theorem sha2_engine256_input_erasure (e : Engine256) (inp : Bytes) : (Engine256.inputL e inp).val = e.input inp :=
  (Engine256.inputL_j e e inp inp ⟨⟨rfl, rfl⟩, rfl⟩ rfl).val
theorem sha2_engine256_finish_erasure (e : Engine256) : (Engine256.finishL e).val = e.finish :=
  (Engine256.finishL_j e e ⟨⟨rfl, rfl⟩, rfl⟩).val
theorem sha2_engine512_input_erasure (e : Engine512) (inp : Bytes) : (Engine512.inputL e inp).val = e.input inp :=
  (Engine512.inputL_j e e inp inp ⟨rfl, rfl⟩ rfl).val
theorem sha2_engine512_finish_erasure (e : Engine512) : (Engine512.finishL e).val = e.finish :=
  (Engine512.finishL_j e e ⟨rfl, rfl⟩).val

theorem sha2_engine256_input_noninterference (e e' : Engine256) (b b' : Bytes)
    (hl : e.buffer.buffer.length = e'.buffer.buffer.length) (hi : e.buffer.buffer_idx = e'.buffer.buffer_idx)
    (hf : e.finished = e'.finished) (hb : b.length = b'.length) :
    (Engine256.inputL e b).tr = (Engine256.inputL e' b').tr := (Engine256.inputL_j e e' b b' ⟨⟨hl, hi⟩, hf⟩ hb).ni.tr

/-- `Engine256::finish` (padding, one or two compressions, the length field): the trace depends on the fill only —
    not on the buffered bytes, the chaining value or the byte counter -/
theorem sha2_engine256_finish_noninterference (e e' : Engine256)
    (hl : e.buffer.buffer.length = e'.buffer.buffer.length) (hi : e.buffer.buffer_idx = e'.buffer.buffer_idx)
    (hf : e.finished = e'.finished) :
    (Engine256.finishL e).tr = (Engine256.finishL e').tr := (Engine256.finishL_j e e' ⟨⟨hl, hi⟩, hf⟩).ni.tr

theorem sha2_engine512_input_noninterference (e e' : Engine512) (b b' : Bytes)
    (hl : e.buffer.buffer.length = e'.buffer.buffer.length) (hi : e.buffer.buffer_idx = e'.buffer.buffer_idx)
    (hb : b.length = b'.length) :
    (Engine512.inputL e b).tr = (Engine512.inputL e' b').tr := (Engine512.inputL_j e e' b b' ⟨hl, hi⟩ hb).ni.tr

theorem sha2_engine512_finish_noninterference (e e' : Engine512)
    (hl : e.buffer.buffer.length = e'.buffer.buffer.length) (hi : e.buffer.buffer_idx = e'.buffer.buffer_idx) :
    (Engine512.finishL e).tr = (Engine512.finishL e').tr := (Engine512.finishL_j e e' ⟨hl, hi⟩).ni.tr

theorem sha2_ctx256_update_erasure (c : Ctx256) (b : Bytes) : (Ctx256.update_mutL c b).val = c.update_mut b :=
  (Ctx256.update_mutL_j c c b b ⟨⟨rfl, rfl⟩, rfl⟩ rfl).val
theorem sha2_ctx256_finalize_reset_erasure (A : Alg256) (c : Ctx256) :
    (Ctx256.finalize_resetL A c).val = c.finalize_reset A := by
  -- for EVERY `A`: `Ctx256.finalize_resetL_j` needs `OutLen256 A`, so this is not its `.val`
  unfold Ctx256.finalize_resetL Ctx256.finalize_reset
  refine LO.erase_bind_of (Engine256.finishL_j _ _ ⟨⟨rfl, rfl⟩, rfl⟩).val (hs := fun e => ?_)
  exact LO.erase_bind_of (LO.lift_val _) (hs := fun o => LO.pure_val _)
theorem sha2_ctx512_update_erasure (c : Ctx512) (b : Bytes) : (Ctx512.update_mutL c b).val = c.update_mut b :=
  (Ctx512.update_mutL_j c c b b ⟨rfl, rfl⟩ rfl).val
theorem sha2_ctx512_finalize_reset_erasure (A : Alg512) (c : Ctx512) :
    (Ctx512.finalize_resetL A c).val = c.finalize_reset A := by
  unfold Ctx512.finalize_resetL Ctx512.finalize_reset
  refine LO.erase_bind_of (Engine512.finishL_j _ _ ⟨rfl, rfl⟩).val (hs := fun e => ?_)
  exact LO.erase_bind_of (LO.lift_val _) (hs := fun o => LO.pure_val _)

/-! the six `DigestLeak` instances: `Sha224`, `Sha256`, `Sha384`, `Sha512`, `Sha512Trunc224`,
    `Sha512Trunc256` of src/sha2.rs -/
def sha224_digest_leak : DigestLeak (legacyDigest sha224Ctx) (legacyDigestL sha224CtxL) := sha224Leak
def sha256_digest_leak : DigestLeak (legacyDigest sha256Ctx) (legacyDigestL sha256CtxL) := sha256Leak
def sha384_digest_leak : DigestLeak (legacyDigest sha384Ctx) (legacyDigestL sha384CtxL) := sha384Leak
def sha512_digest_leak : DigestLeak (legacyDigest sha512Ctx) (legacyDigestL sha512CtxL) := sha512Leak
def sha512_224_digest_leak : DigestLeak (legacyDigest sha512_224Ctx) (legacyDigestL sha512_224CtxL) := sha512_224Leak
def sha512_256_digest_leak : DigestLeak (legacyDigest sha512_256Ctx) (legacyDigestL sha512_256CtxL) := sha512_256Leak

end Sha2

/-! ## (i) SHA-1, RIPEMD-160 -/

section Sha1Ripemd

theorem sha1_update_erasure (c : Sha1.Context) (b : Bytes) : (Sha1L.Context.update_mutL c b).val = c.update_mut b :=
  (Sha1L.update_mutL_j c c b b ⟨rfl, rfl⟩ rfl).val
theorem sha1_finalize_reset_erasure (c : Sha1.Context) : (Sha1L.Context.finalize_resetL c).val = c.finalize_reset :=
  (Sha1L.finalize_resetL_j c c ⟨rfl, rfl⟩).val
theorem ripemd160_update_erasure (c : Ripemd160.Context) (b : Bytes) :
    (Ripemd160L.Context.update_mutL c b).val = c.update_mut b := (Ripemd160L.update_mutL_j c c b b ⟨rfl, rfl⟩ rfl).val
theorem ripemd160_finalize_reset_erasure (c : Ripemd160.Context) :
    (Ripemd160L.Context.finalize_resetL c).val = c.finalize_reset := (Ripemd160L.finalize_resetL_j c c ⟨rfl, rfl⟩).val

theorem sha1_update_noninterference (c c' : Sha1.Context) (b b' : Bytes)
    (hl : c.buffer.buffer.length = c'.buffer.buffer.length) (hi : c.buffer.buffer_idx = c'.buffer.buffer_idx)
    (hb : b.length = b'.length) :
    (Sha1L.Context.update_mutL c b).tr = (Sha1L.Context.update_mutL c' b').tr :=
  (Sha1L.update_mutL_j c c' b b' ⟨hl, hi⟩ hb).ni.tr

theorem sha1_finalize_reset_noninterference (c c' : Sha1.Context)
    (hl : c.buffer.buffer.length = c'.buffer.buffer.length) (hi : c.buffer.buffer_idx = c'.buffer.buffer_idx) :
    (Sha1L.Context.finalize_resetL c).tr = (Sha1L.Context.finalize_resetL c').tr :=
  (Sha1L.finalize_resetL_j c c' ⟨hl, hi⟩).ni.tr

theorem ripemd160_update_noninterference (c c' : Ripemd160.Context) (b b' : Bytes)
    (hl : c.buffer.buffer.length = c'.buffer.buffer.length) (hi : c.buffer.buffer_idx = c'.buffer.buffer_idx)
    (hb : b.length = b'.length) :
    (Ripemd160L.Context.update_mutL c b).tr = (Ripemd160L.Context.update_mutL c' b').tr :=
  (Ripemd160L.update_mutL_j c c' b b' ⟨hl, hi⟩ hb).ni.tr

theorem ripemd160_finalize_reset_noninterference (c c' : Ripemd160.Context)
    (hl : c.buffer.buffer.length = c'.buffer.buffer.length) (hi : c.buffer.buffer_idx = c'.buffer.buffer_idx) :
    (Ripemd160L.Context.finalize_resetL c).tr = (Ripemd160L.Context.finalize_resetL c').tr :=
  (Ripemd160L.finalize_resetL_j c c' ⟨hl, hi⟩).ni.tr

def sha1_digest_leak : DigestLeak (legacyDigest sha1Ctx) (legacyDigestL sha1CtxL) := sha1Leak
def ripemd160_digest_leak : DigestLeak (legacyDigest ripemd160Ctx) (legacyDigestL ripemd160CtxL) := ripemd160Leak

end Sha1Ripemd

/-! ## (l) SHA-3 / Keccak: the sponge engine and the contexts

  public: the position `offset` in the rate block, the two phase flags, the array size (always 200), the LENGTHS of the
  arguments; `DIGESTLEN`, `DSLEN` (const generics).  secret: the 200 state bytes and every input byte.  The padding
  (`pad_len`, the domain-separation bits, `set_pad`) is a function of the position; `keccak_f` is called once per
  completed block. -/

section Sponge
open Cx.Impl.Sha3 Cx.Impl.LeakModel.Sha3L

theorem sha3_process_erasure (dl : Nat) (e : Engine) (data : Bytes) : (Engine.processL dl e data).val = e.process dl data :=
  (Engine.processL_j dl e e data data ⟨rfl, rfl, rfl, rfl⟩ rfl).val
theorem sha3_finalize_erasure (dl ds : Nat) (e : Engine) : (Engine.finalizeL dl ds e).val = e.finalize dl ds :=
  (Engine.finalizeL_j dl ds e e ⟨rfl, rfl, rfl, rfl⟩).val
theorem sha3_set_pad_erasure (ds : Nat) (b : Bytes) : (set_padL ds b).val = set_pad ds b := (set_padL_j ds b b rfl).val
theorem sha3_output_erasure (dl ds : Nat) (e : Engine) (n : Nat) : (Engine.outputL dl ds e n).val = e.output dl ds n :=
  (Engine.outputL_j dl ds e e n ⟨rfl, rfl, rfl, rfl⟩).val
theorem sha3_finalize_reset_erasure (dl ds : Nat) (c : Context) :
    (Context.finalize_resetL dl ds c).val = Context.finalize_reset dl ds c := (Sha3L.finalize_resetL_j dl ds c c ⟨rfl, rfl, rfl, rfl⟩).val

/-- `process` (absorb): no well-formedness premise (every refusal is public) -/
theorem sha3_process_noninterference (dl : Nat) (e e' : Engine) (d d' : Bytes)
    (hs : e.state.length = e'.state.length) (ha : e.can_absorb = e'.can_absorb) (hq : e.can_squeeze = e'.can_squeeze)
    (ho : e.offset = e'.offset) (hd : d.length = d'.length) :
    (Engine.processL dl e d).tr = (Engine.processL dl e' d').tr :=
  (Engine.processL_j dl e e' d d' ⟨hs, ha, hq, ho⟩ hd).ni.tr

theorem sha3_finalize_noninterference (dl ds : Nat) (e e' : Engine)
    (hs : e.state.length = e'.state.length) (ha : e.can_absorb = e'.can_absorb) (hq : e.can_squeeze = e'.can_squeeze)
    (ho : e.offset = e'.offset) :
    (Engine.finalizeL dl ds e).tr = (Engine.finalizeL dl ds e').tr := (Engine.finalizeL_j dl ds e e' ⟨hs, ha, hq, ho⟩).ni.tr

theorem sha3_set_pad_noninterference (ds : Nat) (b b' : Bytes) (h : b.length = b'.length) :
    (set_padL ds b).tr = (set_padL ds b').tr := (set_padL_j ds b b' h).ni.tr

theorem sha3_output_noninterference (dl ds : Nat) (e e' : Engine) (n : Nat)
    (hs : e.state.length = e'.state.length) (ha : e.can_absorb = e'.can_absorb) (hq : e.can_squeeze = e'.can_squeeze)
    (ho : e.offset = e'.offset) :
    (Engine.outputL dl ds e n).tr = (Engine.outputL dl ds e' n).tr := (Engine.outputL_j dl ds e e' n ⟨hs, ha, hq, ho⟩).ni.tr

/-! `CtxLeak` for every `sha3::Context<bits>` / `keccak::Context<bits>` and the eight `DigestLeak` instances of the
    legacy wrappers of src/sha3.rs -/
def sha3_ctx_leak (dl ds id : Nat) : CtxLeak (sha3Ctx dl ds id) (sha3CtxL dl ds) := sha3CtxLeak dl ds id
def sha3_224_digest_leak : DigestLeak (legacyDigest sha3_224Ctx) (legacyDigestL sha3_224CtxL) := sha3_224Leak
def sha3_256_digest_leak : DigestLeak (legacyDigest sha3_256Ctx) (legacyDigestL sha3_256CtxL) := sha3_256Leak
def sha3_384_digest_leak : DigestLeak (legacyDigest sha3_384Ctx) (legacyDigestL sha3_384CtxL) := sha3_384Leak
def sha3_512_digest_leak : DigestLeak (legacyDigest sha3_512Ctx) (legacyDigestL sha3_512CtxL) := sha3_512Leak
def keccak224_digest_leak : DigestLeak (legacyDigest keccak224Ctx) (legacyDigestL keccak224CtxL) := keccak224Leak
def keccak256_digest_leak : DigestLeak (legacyDigest keccak256Ctx) (legacyDigestL keccak256CtxL) := keccak256Leak
def keccak384_digest_leak : DigestLeak (legacyDigest keccak384Ctx) (legacyDigestL keccak384CtxL) := keccak384Leak
def keccak512_digest_leak : DigestLeak (legacyDigest keccak512Ctx) (legacyDigestL keccak512CtxL) := keccak512Leak

end Sponge

/-! ## (m) BLAKE2b / BLAKE2s: engine, contexts, legacy wrappers

  public: the byte counter `t` (bytes hashed so far — `increment_counter` branches on it), size and fill of the block
  buffer, the output length, the `computed` flag, the LENGTH of the key.  secret: the chaining value `h`, the buffered
  bytes, the key bytes, every input byte.  Generic in the word type (`W = UInt64`: BLAKE2b, `UInt32`: BLAKE2s) and in
  the counter profile. -/

section Blake2
open Cx.Impl.Blake2 Cx.Impl.LeakModel.Blake2L
variable {W : Type} [Spec.Blake2.Word W]

theorem blake2_increment_counter_erasure (pr : Profile) (e : Engine W) (inc : Nat) :
    (increment_counterL pr e inc).val = e.increment_counter pr inc := (Blake2L.increment_counterL_j pr e e inc ⟨rfl, rfl⟩).val
theorem blake2_update_mut_erasure (P : Spec.Blake2.Params W) (pr : Profile) (c : Ctx W) (input : Bytes) :
    (Ctx.update_mutL P pr c input).val = c.update_mut P pr input := (Blake2L.update_mutL_j P pr c c input input (LowC.refl c) rfl).val
theorem blake2_internal_final_erasure (P : Spec.Blake2.Params W) (pr : Profile) (c : Ctx W) :
    (Ctx.internal_finalL P pr c).val = c.internal_final P pr := (Blake2L.internal_finalL_j P pr c c (LowC.refl c)).val
theorem blake2_finalize_reset_at_erasure (P : Spec.Blake2.Params W) (pr : Profile) (c : Ctx W) (outlen outLen : Nat) :
    (Ctx.finalize_reset_atL P pr c outlen outLen).val = c.finalize_reset_at P pr outlen outLen :=
  (Blake2L.finalize_reset_atL_j P pr c c outlen outLen (LowC.refl c)).val
theorem blake2_reset_with_key_erasure (P : Spec.Blake2.Params W) (c : Ctx W) (outlen : Nat) (key : Bytes) :
    (Ctx.reset_with_keyL P c outlen key).val = c.reset_with_key P outlen key :=
  (Blake2L.reset_with_keyL_j P c c outlen key key (LowC.refl c) rfl).val
theorem blake2_legacy_update_erasure (P : Spec.Blake2.Params W) (o : Digest.Blake2 W) (input : Bytes) :
    (Blake2L.updateL P o input).val = Digest.Blake2.update P o input :=
  (Blake2L.updateL_j P o o input input (LowBl.refl o) rfl).val
theorem blake2_legacy_finalize_erasure (P : Spec.Blake2.Params W) (o : Digest.Blake2 W) (n : Nat) :
    (finalizeL P o n).val = Digest.Blake2.finalize P o n := (Blake2L.finalizeL_j P o o n (LowBl.refl o)).val
theorem blake2_legacy_reset_erasure (v : CodeVariant) (P : Spec.Blake2.Params W) (o : Digest.Blake2 W) :
    (resetL v P o).val = Digest.Blake2.reset v P o := (Blake2L.legacy_resetL_j v P o o (LowBl.refl o)).val

theorem blake2_update_mut_noninterference (P : Spec.Blake2.Params W) (pr : Profile) (c c' : Ctx W) (i i' : Bytes)
    (ht0 : c.eng.t0 = c'.eng.t0) (ht1 : c.eng.t1 = c'.eng.t1) (hb : c.buf.length = c'.buf.length)
    (hl : c.buflen = c'.buflen) (hi : i.length = i'.length) :
    (Ctx.update_mutL P pr c i).tr = (Ctx.update_mutL P pr c' i').tr :=
  (Blake2L.update_mutL_j P pr c c' i i' ⟨⟨ht0, ht1⟩, hb, hl⟩ hi).ni.tr

theorem blake2_internal_final_noninterference (P : Spec.Blake2.Params W) (pr : Profile) (c c' : Ctx W)
    (ht0 : c.eng.t0 = c'.eng.t0) (ht1 : c.eng.t1 = c'.eng.t1) (hb : c.buf.length = c'.buf.length)
    (hl : c.buflen = c'.buflen) :
    (Ctx.internal_finalL P pr c).tr = (Ctx.internal_finalL P pr c').tr :=
  (Blake2L.internal_finalL_j P pr c c' ⟨⟨ht0, ht1⟩, hb, hl⟩).ni.tr

/-- `reset_with_key`: the key enters a `copy_from_slice` only; its LENGTH decides the branch -/
theorem blake2_reset_with_key_noninterference (P : Spec.Blake2.Params W) (c c' : Ctx W) (outlen : Nat) (key key' : Bytes)
    (ht0 : c.eng.t0 = c'.eng.t0) (ht1 : c.eng.t1 = c'.eng.t1) (hb : c.buf.length = c'.buf.length)
    (hl : c.buflen = c'.buflen) (hk : key.length = key'.length) :
    (Ctx.reset_with_keyL P c outlen key).tr = (Ctx.reset_with_keyL P c' outlen key').tr :=
  (Blake2L.reset_with_keyL_j P c c' outlen key key' ⟨⟨ht0, ht1⟩, hb, hl⟩ hk).ni.tr

/-- `impl Digest for Blake2b` / `Blake2s` satisfy `DigestLeak` (the tree as it is: `codeVariant`) -/
def blake2b_digest_leak : DigestLeak (blake2bDigest codeVariant) (blake2bDigestL codeVariant) := blake2bLeak codeVariant
def blake2s_digest_leak : DigestLeak (blake2sDigest codeVariant) (blake2sDigestL codeVariant) := blake2sLeak codeVariant

end Blake2

/-! ## (k) HMAC over the digests of the crate -/

/-- erasure, HMAC-SHA-224: `Hmac::new(Sha224::new(), key)`, `input` per chunk, `raw_result(&mut [0; n])`, instrumented, computes
    the plain model (the call sequence of `Props.C08.hmac_sha224`) -/
theorem hmac_sha224_erasure (key : Bytes) (chunks : List Bytes) (n : Nat) :
    (hmacLegacyL sha224Ctx sha224CtxL key chunks n).val = hmacLegacy sha224Ctx key chunks n :=
  hmacChunksL_val sha224Leak _ key chunks n

/-- **C19, HMAC-SHA-224, unconditional**: for a fixed key LENGTH and fixed chunk LENGTHS the trace of `new`, `input` per
    chunk, `raw_result` is the same for every key and every message -/
theorem hmac_sha224_noninterference (key key' : Bytes) (chunks chunks' : List Bytes) (n : Nat)
    (hk : key.length = key'.length) (hc : chunks.map List.length = chunks'.map List.length) :
    (hmacLegacyL sha224Ctx sha224CtxL key chunks n).tr = (hmacLegacyL sha224Ctx sha224CtxL key' chunks' n).tr :=
  hmac_noninterference sha224Leak _ key key' chunks chunks' n hk hc

/-- … with `result()` instead of `raw_result` -/
theorem hmac_sha224_result_noninterference (key key' : Bytes) (chunks chunks' : List Bytes)
    (hk : key.length = key'.length) (hc : chunks.map List.length = chunks'.map List.length) :
    (hmacLegacyResultL sha224Ctx sha224CtxL key chunks).tr = (hmacLegacyResultL sha224Ctx sha224CtxL key' chunks').tr :=
  hmac_result_noninterference sha224Leak _ key key' chunks chunks' hk hc

/-- … and whether the computation is refused is decided by the lengths -/
theorem hmac_sha224_panics_are_public (key key' : Bytes) (chunks chunks' : List Bytes) (n : Nat)
    (hk : key.length = key'.length) (hc : chunks.map List.length = chunks'.map List.length) :
    (hmacLegacy sha224Ctx key chunks n).isSome = (hmacLegacy sha224Ctx key' chunks' n).isSome :=
  hmac_panics_are_public sha224Leak _ key key' chunks chunks' n hk hc

theorem hmac_sha256_erasure (key : Bytes) (chunks : List Bytes) (n : Nat) :
    (hmacLegacyL sha256Ctx sha256CtxL key chunks n).val = hmacLegacy sha256Ctx key chunks n :=
  hmacChunksL_val sha256Leak _ key chunks n

theorem hmac_sha256_noninterference (key key' : Bytes) (chunks chunks' : List Bytes) (n : Nat)
    (hk : key.length = key'.length) (hc : chunks.map List.length = chunks'.map List.length) :
    (hmacLegacyL sha256Ctx sha256CtxL key chunks n).tr = (hmacLegacyL sha256Ctx sha256CtxL key' chunks' n).tr :=
  hmac_noninterference sha256Leak _ key key' chunks chunks' n hk hc

theorem hmac_sha256_result_noninterference (key key' : Bytes) (chunks chunks' : List Bytes)
    (hk : key.length = key'.length) (hc : chunks.map List.length = chunks'.map List.length) :
    (hmacLegacyResultL sha256Ctx sha256CtxL key chunks).tr = (hmacLegacyResultL sha256Ctx sha256CtxL key' chunks').tr :=
  hmac_result_noninterference sha256Leak _ key key' chunks chunks' hk hc

theorem hmac_sha256_panics_are_public (key key' : Bytes) (chunks chunks' : List Bytes) (n : Nat)
    (hk : key.length = key'.length) (hc : chunks.map List.length = chunks'.map List.length) :
    (hmacLegacy sha256Ctx key chunks n).isSome = (hmacLegacy sha256Ctx key' chunks' n).isSome :=
  hmac_panics_are_public sha256Leak _ key key' chunks chunks' n hk hc

theorem hmac_sha384_erasure (key : Bytes) (chunks : List Bytes) (n : Nat) :
    (hmacLegacyL sha384Ctx sha384CtxL key chunks n).val = hmacLegacy sha384Ctx key chunks n :=
  hmacChunksL_val sha384Leak _ key chunks n

theorem hmac_sha384_noninterference (key key' : Bytes) (chunks chunks' : List Bytes) (n : Nat)
    (hk : key.length = key'.length) (hc : chunks.map List.length = chunks'.map List.length) :
    (hmacLegacyL sha384Ctx sha384CtxL key chunks n).tr = (hmacLegacyL sha384Ctx sha384CtxL key' chunks' n).tr :=
  hmac_noninterference sha384Leak _ key key' chunks chunks' n hk hc

theorem hmac_sha384_result_noninterference (key key' : Bytes) (chunks chunks' : List Bytes)
    (hk : key.length = key'.length) (hc : chunks.map List.length = chunks'.map List.length) :
    (hmacLegacyResultL sha384Ctx sha384CtxL key chunks).tr = (hmacLegacyResultL sha384Ctx sha384CtxL key' chunks').tr :=
  hmac_result_noninterference sha384Leak _ key key' chunks chunks' hk hc

theorem hmac_sha384_panics_are_public (key key' : Bytes) (chunks chunks' : List Bytes) (n : Nat)
    (hk : key.length = key'.length) (hc : chunks.map List.length = chunks'.map List.length) :
    (hmacLegacy sha384Ctx key chunks n).isSome = (hmacLegacy sha384Ctx key' chunks' n).isSome :=
  hmac_panics_are_public sha384Leak _ key key' chunks chunks' n hk hc

theorem hmac_sha512_erasure (key : Bytes) (chunks : List Bytes) (n : Nat) :
    (hmacLegacyL sha512Ctx sha512CtxL key chunks n).val = hmacLegacy sha512Ctx key chunks n :=
  hmacChunksL_val sha512Leak _ key chunks n

theorem hmac_sha512_noninterference (key key' : Bytes) (chunks chunks' : List Bytes) (n : Nat)
    (hk : key.length = key'.length) (hc : chunks.map List.length = chunks'.map List.length) :
    (hmacLegacyL sha512Ctx sha512CtxL key chunks n).tr = (hmacLegacyL sha512Ctx sha512CtxL key' chunks' n).tr :=
  hmac_noninterference sha512Leak _ key key' chunks chunks' n hk hc

theorem hmac_sha512_result_noninterference (key key' : Bytes) (chunks chunks' : List Bytes)
    (hk : key.length = key'.length) (hc : chunks.map List.length = chunks'.map List.length) :
    (hmacLegacyResultL sha512Ctx sha512CtxL key chunks).tr = (hmacLegacyResultL sha512Ctx sha512CtxL key' chunks').tr :=
  hmac_result_noninterference sha512Leak _ key key' chunks chunks' hk hc

theorem hmac_sha512_panics_are_public (key key' : Bytes) (chunks chunks' : List Bytes) (n : Nat)
    (hk : key.length = key'.length) (hc : chunks.map List.length = chunks'.map List.length) :
    (hmacLegacy sha512Ctx key chunks n).isSome = (hmacLegacy sha512Ctx key' chunks' n).isSome :=
  hmac_panics_are_public sha512Leak _ key key' chunks chunks' n hk hc

theorem hmac_sha512_224_erasure (key : Bytes) (chunks : List Bytes) (n : Nat) :
    (hmacLegacyL sha512_224Ctx sha512_224CtxL key chunks n).val = hmacLegacy sha512_224Ctx key chunks n :=
  hmacChunksL_val sha512_224Leak _ key chunks n

theorem hmac_sha512_224_noninterference (key key' : Bytes) (chunks chunks' : List Bytes) (n : Nat)
    (hk : key.length = key'.length) (hc : chunks.map List.length = chunks'.map List.length) :
    (hmacLegacyL sha512_224Ctx sha512_224CtxL key chunks n).tr = (hmacLegacyL sha512_224Ctx sha512_224CtxL key' chunks' n).tr :=
  hmac_noninterference sha512_224Leak _ key key' chunks chunks' n hk hc

theorem hmac_sha512_224_result_noninterference (key key' : Bytes) (chunks chunks' : List Bytes)
    (hk : key.length = key'.length) (hc : chunks.map List.length = chunks'.map List.length) :
    (hmacLegacyResultL sha512_224Ctx sha512_224CtxL key chunks).tr = (hmacLegacyResultL sha512_224Ctx sha512_224CtxL key' chunks').tr :=
  hmac_result_noninterference sha512_224Leak _ key key' chunks chunks' hk hc

theorem hmac_sha512_224_panics_are_public (key key' : Bytes) (chunks chunks' : List Bytes) (n : Nat)
    (hk : key.length = key'.length) (hc : chunks.map List.length = chunks'.map List.length) :
    (hmacLegacy sha512_224Ctx key chunks n).isSome = (hmacLegacy sha512_224Ctx key' chunks' n).isSome :=
  hmac_panics_are_public sha512_224Leak _ key key' chunks chunks' n hk hc

theorem hmac_sha512_256_erasure (key : Bytes) (chunks : List Bytes) (n : Nat) :
    (hmacLegacyL sha512_256Ctx sha512_256CtxL key chunks n).val = hmacLegacy sha512_256Ctx key chunks n :=
  hmacChunksL_val sha512_256Leak _ key chunks n

theorem hmac_sha512_256_noninterference (key key' : Bytes) (chunks chunks' : List Bytes) (n : Nat)
    (hk : key.length = key'.length) (hc : chunks.map List.length = chunks'.map List.length) :
    (hmacLegacyL sha512_256Ctx sha512_256CtxL key chunks n).tr = (hmacLegacyL sha512_256Ctx sha512_256CtxL key' chunks' n).tr :=
  hmac_noninterference sha512_256Leak _ key key' chunks chunks' n hk hc

theorem hmac_sha512_256_result_noninterference (key key' : Bytes) (chunks chunks' : List Bytes)
    (hk : key.length = key'.length) (hc : chunks.map List.length = chunks'.map List.length) :
    (hmacLegacyResultL sha512_256Ctx sha512_256CtxL key chunks).tr = (hmacLegacyResultL sha512_256Ctx sha512_256CtxL key' chunks').tr :=
  hmac_result_noninterference sha512_256Leak _ key key' chunks chunks' hk hc

theorem hmac_sha512_256_panics_are_public (key key' : Bytes) (chunks chunks' : List Bytes) (n : Nat)
    (hk : key.length = key'.length) (hc : chunks.map List.length = chunks'.map List.length) :
    (hmacLegacy sha512_256Ctx key chunks n).isSome = (hmacLegacy sha512_256Ctx key' chunks' n).isSome :=
  hmac_panics_are_public sha512_256Leak _ key key' chunks chunks' n hk hc

theorem hmac_sha1_erasure (key : Bytes) (chunks : List Bytes) (n : Nat) :
    (hmacLegacyL sha1Ctx sha1CtxL key chunks n).val = hmacLegacy sha1Ctx key chunks n :=
  hmacChunksL_val sha1Leak _ key chunks n

theorem hmac_sha1_noninterference (key key' : Bytes) (chunks chunks' : List Bytes) (n : Nat)
    (hk : key.length = key'.length) (hc : chunks.map List.length = chunks'.map List.length) :
    (hmacLegacyL sha1Ctx sha1CtxL key chunks n).tr = (hmacLegacyL sha1Ctx sha1CtxL key' chunks' n).tr :=
  hmac_noninterference sha1Leak _ key key' chunks chunks' n hk hc

theorem hmac_sha1_result_noninterference (key key' : Bytes) (chunks chunks' : List Bytes)
    (hk : key.length = key'.length) (hc : chunks.map List.length = chunks'.map List.length) :
    (hmacLegacyResultL sha1Ctx sha1CtxL key chunks).tr = (hmacLegacyResultL sha1Ctx sha1CtxL key' chunks').tr :=
  hmac_result_noninterference sha1Leak _ key key' chunks chunks' hk hc

theorem hmac_sha1_panics_are_public (key key' : Bytes) (chunks chunks' : List Bytes) (n : Nat)
    (hk : key.length = key'.length) (hc : chunks.map List.length = chunks'.map List.length) :
    (hmacLegacy sha1Ctx key chunks n).isSome = (hmacLegacy sha1Ctx key' chunks' n).isSome :=
  hmac_panics_are_public sha1Leak _ key key' chunks chunks' n hk hc

theorem hmac_ripemd160_erasure (key : Bytes) (chunks : List Bytes) (n : Nat) :
    (hmacLegacyL ripemd160Ctx ripemd160CtxL key chunks n).val = hmacLegacy ripemd160Ctx key chunks n :=
  hmacChunksL_val ripemd160Leak _ key chunks n

theorem hmac_ripemd160_noninterference (key key' : Bytes) (chunks chunks' : List Bytes) (n : Nat)
    (hk : key.length = key'.length) (hc : chunks.map List.length = chunks'.map List.length) :
    (hmacLegacyL ripemd160Ctx ripemd160CtxL key chunks n).tr = (hmacLegacyL ripemd160Ctx ripemd160CtxL key' chunks' n).tr :=
  hmac_noninterference ripemd160Leak _ key key' chunks chunks' n hk hc

theorem hmac_ripemd160_result_noninterference (key key' : Bytes) (chunks chunks' : List Bytes)
    (hk : key.length = key'.length) (hc : chunks.map List.length = chunks'.map List.length) :
    (hmacLegacyResultL ripemd160Ctx ripemd160CtxL key chunks).tr = (hmacLegacyResultL ripemd160Ctx ripemd160CtxL key' chunks').tr :=
  hmac_result_noninterference ripemd160Leak _ key key' chunks chunks' hk hc

theorem hmac_ripemd160_panics_are_public (key key' : Bytes) (chunks chunks' : List Bytes) (n : Nat)
    (hk : key.length = key'.length) (hc : chunks.map List.length = chunks'.map List.length) :
    (hmacLegacy ripemd160Ctx key chunks n).isSome = (hmacLegacy ripemd160Ctx key' chunks' n).isSome :=
  hmac_panics_are_public ripemd160Leak _ key key' chunks chunks' n hk hc

theorem hmac_sha3_224_erasure (key : Bytes) (chunks : List Bytes) (n : Nat) :
    (hmacLegacyL sha3_224Ctx sha3_224CtxL key chunks n).val = hmacLegacy sha3_224Ctx key chunks n :=
  hmacChunksL_val sha3_224Leak _ key chunks n

theorem hmac_sha3_224_noninterference (key key' : Bytes) (chunks chunks' : List Bytes) (n : Nat)
    (hk : key.length = key'.length) (hc : chunks.map List.length = chunks'.map List.length) :
    (hmacLegacyL sha3_224Ctx sha3_224CtxL key chunks n).tr = (hmacLegacyL sha3_224Ctx sha3_224CtxL key' chunks' n).tr :=
  hmac_noninterference sha3_224Leak _ key key' chunks chunks' n hk hc

theorem hmac_sha3_224_result_noninterference (key key' : Bytes) (chunks chunks' : List Bytes)
    (hk : key.length = key'.length) (hc : chunks.map List.length = chunks'.map List.length) :
    (hmacLegacyResultL sha3_224Ctx sha3_224CtxL key chunks).tr = (hmacLegacyResultL sha3_224Ctx sha3_224CtxL key' chunks').tr :=
  hmac_result_noninterference sha3_224Leak _ key key' chunks chunks' hk hc

theorem hmac_sha3_224_panics_are_public (key key' : Bytes) (chunks chunks' : List Bytes) (n : Nat)
    (hk : key.length = key'.length) (hc : chunks.map List.length = chunks'.map List.length) :
    (hmacLegacy sha3_224Ctx key chunks n).isSome = (hmacLegacy sha3_224Ctx key' chunks' n).isSome :=
  hmac_panics_are_public sha3_224Leak _ key key' chunks chunks' n hk hc

theorem hmac_sha3_256_erasure (key : Bytes) (chunks : List Bytes) (n : Nat) :
    (hmacLegacyL sha3_256Ctx sha3_256CtxL key chunks n).val = hmacLegacy sha3_256Ctx key chunks n :=
  hmacChunksL_val sha3_256Leak _ key chunks n

theorem hmac_sha3_256_noninterference (key key' : Bytes) (chunks chunks' : List Bytes) (n : Nat)
    (hk : key.length = key'.length) (hc : chunks.map List.length = chunks'.map List.length) :
    (hmacLegacyL sha3_256Ctx sha3_256CtxL key chunks n).tr = (hmacLegacyL sha3_256Ctx sha3_256CtxL key' chunks' n).tr :=
  hmac_noninterference sha3_256Leak _ key key' chunks chunks' n hk hc

theorem hmac_sha3_256_result_noninterference (key key' : Bytes) (chunks chunks' : List Bytes)
    (hk : key.length = key'.length) (hc : chunks.map List.length = chunks'.map List.length) :
    (hmacLegacyResultL sha3_256Ctx sha3_256CtxL key chunks).tr = (hmacLegacyResultL sha3_256Ctx sha3_256CtxL key' chunks').tr :=
  hmac_result_noninterference sha3_256Leak _ key key' chunks chunks' hk hc

theorem hmac_sha3_256_panics_are_public (key key' : Bytes) (chunks chunks' : List Bytes) (n : Nat)
    (hk : key.length = key'.length) (hc : chunks.map List.length = chunks'.map List.length) :
    (hmacLegacy sha3_256Ctx key chunks n).isSome = (hmacLegacy sha3_256Ctx key' chunks' n).isSome :=
  hmac_panics_are_public sha3_256Leak _ key key' chunks chunks' n hk hc

theorem hmac_sha3_384_erasure (key : Bytes) (chunks : List Bytes) (n : Nat) :
    (hmacLegacyL sha3_384Ctx sha3_384CtxL key chunks n).val = hmacLegacy sha3_384Ctx key chunks n :=
  hmacChunksL_val sha3_384Leak _ key chunks n

theorem hmac_sha3_384_noninterference (key key' : Bytes) (chunks chunks' : List Bytes) (n : Nat)
    (hk : key.length = key'.length) (hc : chunks.map List.length = chunks'.map List.length) :
    (hmacLegacyL sha3_384Ctx sha3_384CtxL key chunks n).tr = (hmacLegacyL sha3_384Ctx sha3_384CtxL key' chunks' n).tr :=
  hmac_noninterference sha3_384Leak _ key key' chunks chunks' n hk hc

theorem hmac_sha3_384_result_noninterference (key key' : Bytes) (chunks chunks' : List Bytes)
    (hk : key.length = key'.length) (hc : chunks.map List.length = chunks'.map List.length) :
    (hmacLegacyResultL sha3_384Ctx sha3_384CtxL key chunks).tr = (hmacLegacyResultL sha3_384Ctx sha3_384CtxL key' chunks').tr :=
  hmac_result_noninterference sha3_384Leak _ key key' chunks chunks' hk hc

theorem hmac_sha3_384_panics_are_public (key key' : Bytes) (chunks chunks' : List Bytes) (n : Nat)
    (hk : key.length = key'.length) (hc : chunks.map List.length = chunks'.map List.length) :
    (hmacLegacy sha3_384Ctx key chunks n).isSome = (hmacLegacy sha3_384Ctx key' chunks' n).isSome :=
  hmac_panics_are_public sha3_384Leak _ key key' chunks chunks' n hk hc

theorem hmac_sha3_512_erasure (key : Bytes) (chunks : List Bytes) (n : Nat) :
    (hmacLegacyL sha3_512Ctx sha3_512CtxL key chunks n).val = hmacLegacy sha3_512Ctx key chunks n :=
  hmacChunksL_val sha3_512Leak _ key chunks n

theorem hmac_sha3_512_noninterference (key key' : Bytes) (chunks chunks' : List Bytes) (n : Nat)
    (hk : key.length = key'.length) (hc : chunks.map List.length = chunks'.map List.length) :
    (hmacLegacyL sha3_512Ctx sha3_512CtxL key chunks n).tr = (hmacLegacyL sha3_512Ctx sha3_512CtxL key' chunks' n).tr :=
  hmac_noninterference sha3_512Leak _ key key' chunks chunks' n hk hc

theorem hmac_sha3_512_result_noninterference (key key' : Bytes) (chunks chunks' : List Bytes)
    (hk : key.length = key'.length) (hc : chunks.map List.length = chunks'.map List.length) :
    (hmacLegacyResultL sha3_512Ctx sha3_512CtxL key chunks).tr = (hmacLegacyResultL sha3_512Ctx sha3_512CtxL key' chunks').tr :=
  hmac_result_noninterference sha3_512Leak _ key key' chunks chunks' hk hc

theorem hmac_sha3_512_panics_are_public (key key' : Bytes) (chunks chunks' : List Bytes) (n : Nat)
    (hk : key.length = key'.length) (hc : chunks.map List.length = chunks'.map List.length) :
    (hmacLegacy sha3_512Ctx key chunks n).isSome = (hmacLegacy sha3_512Ctx key' chunks' n).isSome :=
  hmac_panics_are_public sha3_512Leak _ key key' chunks chunks' n hk hc

theorem hmac_keccak224_erasure (key : Bytes) (chunks : List Bytes) (n : Nat) :
    (hmacLegacyL keccak224Ctx keccak224CtxL key chunks n).val = hmacLegacy keccak224Ctx key chunks n :=
  hmacChunksL_val keccak224Leak _ key chunks n

theorem hmac_keccak224_noninterference (key key' : Bytes) (chunks chunks' : List Bytes) (n : Nat)
    (hk : key.length = key'.length) (hc : chunks.map List.length = chunks'.map List.length) :
    (hmacLegacyL keccak224Ctx keccak224CtxL key chunks n).tr = (hmacLegacyL keccak224Ctx keccak224CtxL key' chunks' n).tr :=
  hmac_noninterference keccak224Leak _ key key' chunks chunks' n hk hc

theorem hmac_keccak224_result_noninterference (key key' : Bytes) (chunks chunks' : List Bytes)
    (hk : key.length = key'.length) (hc : chunks.map List.length = chunks'.map List.length) :
    (hmacLegacyResultL keccak224Ctx keccak224CtxL key chunks).tr = (hmacLegacyResultL keccak224Ctx keccak224CtxL key' chunks').tr :=
  hmac_result_noninterference keccak224Leak _ key key' chunks chunks' hk hc

theorem hmac_keccak224_panics_are_public (key key' : Bytes) (chunks chunks' : List Bytes) (n : Nat)
    (hk : key.length = key'.length) (hc : chunks.map List.length = chunks'.map List.length) :
    (hmacLegacy keccak224Ctx key chunks n).isSome = (hmacLegacy keccak224Ctx key' chunks' n).isSome :=
  hmac_panics_are_public keccak224Leak _ key key' chunks chunks' n hk hc

theorem hmac_keccak256_erasure (key : Bytes) (chunks : List Bytes) (n : Nat) :
    (hmacLegacyL keccak256Ctx keccak256CtxL key chunks n).val = hmacLegacy keccak256Ctx key chunks n :=
  hmacChunksL_val keccak256Leak _ key chunks n

theorem hmac_keccak256_noninterference (key key' : Bytes) (chunks chunks' : List Bytes) (n : Nat)
    (hk : key.length = key'.length) (hc : chunks.map List.length = chunks'.map List.length) :
    (hmacLegacyL keccak256Ctx keccak256CtxL key chunks n).tr = (hmacLegacyL keccak256Ctx keccak256CtxL key' chunks' n).tr :=
  hmac_noninterference keccak256Leak _ key key' chunks chunks' n hk hc

theorem hmac_keccak256_result_noninterference (key key' : Bytes) (chunks chunks' : List Bytes)
    (hk : key.length = key'.length) (hc : chunks.map List.length = chunks'.map List.length) :
    (hmacLegacyResultL keccak256Ctx keccak256CtxL key chunks).tr = (hmacLegacyResultL keccak256Ctx keccak256CtxL key' chunks').tr :=
  hmac_result_noninterference keccak256Leak _ key key' chunks chunks' hk hc

theorem hmac_keccak256_panics_are_public (key key' : Bytes) (chunks chunks' : List Bytes) (n : Nat)
    (hk : key.length = key'.length) (hc : chunks.map List.length = chunks'.map List.length) :
    (hmacLegacy keccak256Ctx key chunks n).isSome = (hmacLegacy keccak256Ctx key' chunks' n).isSome :=
  hmac_panics_are_public keccak256Leak _ key key' chunks chunks' n hk hc

theorem hmac_keccak384_erasure (key : Bytes) (chunks : List Bytes) (n : Nat) :
    (hmacLegacyL keccak384Ctx keccak384CtxL key chunks n).val = hmacLegacy keccak384Ctx key chunks n :=
  hmacChunksL_val keccak384Leak _ key chunks n

theorem hmac_keccak384_noninterference (key key' : Bytes) (chunks chunks' : List Bytes) (n : Nat)
    (hk : key.length = key'.length) (hc : chunks.map List.length = chunks'.map List.length) :
    (hmacLegacyL keccak384Ctx keccak384CtxL key chunks n).tr = (hmacLegacyL keccak384Ctx keccak384CtxL key' chunks' n).tr :=
  hmac_noninterference keccak384Leak _ key key' chunks chunks' n hk hc

theorem hmac_keccak384_result_noninterference (key key' : Bytes) (chunks chunks' : List Bytes)
    (hk : key.length = key'.length) (hc : chunks.map List.length = chunks'.map List.length) :
    (hmacLegacyResultL keccak384Ctx keccak384CtxL key chunks).tr = (hmacLegacyResultL keccak384Ctx keccak384CtxL key' chunks').tr :=
  hmac_result_noninterference keccak384Leak _ key key' chunks chunks' hk hc

theorem hmac_keccak384_panics_are_public (key key' : Bytes) (chunks chunks' : List Bytes) (n : Nat)
    (hk : key.length = key'.length) (hc : chunks.map List.length = chunks'.map List.length) :
    (hmacLegacy keccak384Ctx key chunks n).isSome = (hmacLegacy keccak384Ctx key' chunks' n).isSome :=
  hmac_panics_are_public keccak384Leak _ key key' chunks chunks' n hk hc

theorem hmac_keccak512_erasure (key : Bytes) (chunks : List Bytes) (n : Nat) :
    (hmacLegacyL keccak512Ctx keccak512CtxL key chunks n).val = hmacLegacy keccak512Ctx key chunks n :=
  hmacChunksL_val keccak512Leak _ key chunks n

theorem hmac_keccak512_noninterference (key key' : Bytes) (chunks chunks' : List Bytes) (n : Nat)
    (hk : key.length = key'.length) (hc : chunks.map List.length = chunks'.map List.length) :
    (hmacLegacyL keccak512Ctx keccak512CtxL key chunks n).tr = (hmacLegacyL keccak512Ctx keccak512CtxL key' chunks' n).tr :=
  hmac_noninterference keccak512Leak _ key key' chunks chunks' n hk hc

theorem hmac_keccak512_result_noninterference (key key' : Bytes) (chunks chunks' : List Bytes)
    (hk : key.length = key'.length) (hc : chunks.map List.length = chunks'.map List.length) :
    (hmacLegacyResultL keccak512Ctx keccak512CtxL key chunks).tr = (hmacLegacyResultL keccak512Ctx keccak512CtxL key' chunks').tr :=
  hmac_result_noninterference keccak512Leak _ key key' chunks chunks' hk hc

theorem hmac_keccak512_panics_are_public (key key' : Bytes) (chunks chunks' : List Bytes) (n : Nat)
    (hk : key.length = key'.length) (hc : chunks.map List.length = chunks'.map List.length) :
    (hmacLegacy keccak512Ctx key chunks n).isSome = (hmacLegacy keccak512Ctx key' chunks' n).isSome :=
  hmac_panics_are_public keccak512Leak _ key key' chunks chunks' n hk hc

/-- erasure, HMAC over the legacy `Blake2b` object `d` (e.g. `Blake2b::new(nn)`; C08: `hmac_blake2b`) -/
theorem hmac_blake2b_erasure (d : Blake2 UInt64) (key : Bytes) (chunks : List Bytes) (n : Nat) :
    (hmacChunksL (blake2bDigest codeVariant) (blake2bDigestL codeVariant) d key chunks n).val =
      hmacChunks (blake2bDigest codeVariant) d key chunks n := hmacChunksL_val (blake2bLeak codeVariant) d key chunks n

/-- **C19, HMAC-BLAKE2b, unconditional**: for every digest object `d` (any output length, any state), a fixed key LENGTH
    and fixed chunk LENGTHS give the same trace for every key and every message -/
theorem hmac_blake2b_noninterference (d : Blake2 UInt64) (key key' : Bytes) (chunks chunks' : List Bytes) (n : Nat)
    (hk : key.length = key'.length) (hc : chunks.map List.length = chunks'.map List.length) :
    (hmacChunksL (blake2bDigest codeVariant) (blake2bDigestL codeVariant) d key chunks n).tr =
      (hmacChunksL (blake2bDigest codeVariant) (blake2bDigestL codeVariant) d key' chunks' n).tr :=
  hmac_noninterference (blake2bLeak codeVariant) d key key' chunks chunks' n hk hc

theorem hmac_blake2b_result_noninterference (d : Blake2 UInt64) (key key' : Bytes) (chunks chunks' : List Bytes)
    (hk : key.length = key'.length) (hc : chunks.map List.length = chunks'.map List.length) :
    (hmacChunksResultL (blake2bDigest codeVariant) (blake2bDigestL codeVariant) d key chunks).tr =
      (hmacChunksResultL (blake2bDigest codeVariant) (blake2bDigestL codeVariant) d key' chunks').tr :=
  hmac_result_noninterference (blake2bLeak codeVariant) d key key' chunks chunks' hk hc

theorem hmac_blake2b_panics_are_public (d : Blake2 UInt64) (key key' : Bytes) (chunks chunks' : List Bytes) (n : Nat)
    (hk : key.length = key'.length) (hc : chunks.map List.length = chunks'.map List.length) :
    (hmacChunks (blake2bDigest codeVariant) d key chunks n).isSome =
      (hmacChunks (blake2bDigest codeVariant) d key' chunks' n).isSome :=
  hmac_panics_are_public (blake2bLeak codeVariant) d key key' chunks chunks' n hk hc

theorem hmac_blake2s_erasure (d : Blake2 UInt32) (key : Bytes) (chunks : List Bytes) (n : Nat) :
    (hmacChunksL (blake2sDigest codeVariant) (blake2sDigestL codeVariant) d key chunks n).val =
      hmacChunks (blake2sDigest codeVariant) d key chunks n := hmacChunksL_val (blake2sLeak codeVariant) d key chunks n

theorem hmac_blake2s_noninterference (d : Blake2 UInt32) (key key' : Bytes) (chunks chunks' : List Bytes) (n : Nat)
    (hk : key.length = key'.length) (hc : chunks.map List.length = chunks'.map List.length) :
    (hmacChunksL (blake2sDigest codeVariant) (blake2sDigestL codeVariant) d key chunks n).tr =
      (hmacChunksL (blake2sDigest codeVariant) (blake2sDigestL codeVariant) d key' chunks' n).tr :=
  hmac_noninterference (blake2sLeak codeVariant) d key key' chunks chunks' n hk hc

theorem hmac_blake2s_result_noninterference (d : Blake2 UInt32) (key key' : Bytes) (chunks chunks' : List Bytes)
    (hk : key.length = key'.length) (hc : chunks.map List.length = chunks'.map List.length) :
    (hmacChunksResultL (blake2sDigest codeVariant) (blake2sDigestL codeVariant) d key chunks).tr =
      (hmacChunksResultL (blake2sDigest codeVariant) (blake2sDigestL codeVariant) d key' chunks').tr :=
  hmac_result_noninterference (blake2sLeak codeVariant) d key key' chunks chunks' hk hc

theorem hmac_blake2s_panics_are_public (d : Blake2 UInt32) (key key' : Bytes) (chunks chunks' : List Bytes) (n : Nat)
    (hk : key.length = key'.length) (hc : chunks.map List.length = chunks'.map List.length) :
    (hmacChunks (blake2sDigest codeVariant) d key chunks n).isSome =
      (hmacChunks (blake2sDigest codeVariant) d key' chunks' n).isSome :=
  hmac_panics_are_public (blake2sLeak codeVariant) d key key' chunks chunks' n hk hc

/-- non-vacuity: the fresh objects `Blake2b::new(64)` / `Blake2s::new(32)` exist -/
example : (Blake2.new Impl.Blake2.b 64).isSome ∧ (Blake2.new Impl.Blake2.s 32).isSome := by decide

/-- the instrumented HMAC-SHA-256 run returns the RFC 2104 tag (C08), for every key inside SHA-256's domain and every
    message shorter than 2^61 − 64 bytes, whatever its split into `input` calls -/
theorem hmac_sha256_instrumented_value (key : Bytes) (chunks : List Bytes) (hk : key.length < 2 ^ 61)
    (hm : chunks.flatten.length + 64 < 2 ^ 61) :
    (hmacLegacyResultL sha256Ctx sha256CtxL key chunks).val =
      some (Spec.Hmac.hmac Spec.Sha2.sha256 64 key chunks.flatten) :=
  hmac_instrumented_value (sha2Ctx256Leak Sha2.Sha256 2 outLen_sha256) Cx.Props.C08.hmac_sha256 key chunks (Or.inr hk)
    (hmac_sha256_guards key _ hm).1 (hmac_sha256_guards key _ hm).2

/-- non-vacuity of the hypotheses: two different keys / chunk lists of the same lengths, inside the domain -/
example : ([1, 2, 3] : Bytes).length = ([7, 7, 7] : Bytes).length ∧
    ([[1], [2, 3]] : List Bytes).map List.length = ([[9], [8, 8]] : List Bytes).map List.length ∧
    ([1, 2, 3] : Bytes).length < 2 ^ 61 ∧ ([[1], [2, 3]] : List Bytes).flatten.length + 64 < 2 ^ 61 := by decide

/-- test (evaluation): the trace of HMAC-SHA-256 with a 3-byte key and the chunks of 2 and 1 bytes has 73 events and
    begins with `expand_key` (the block-size vector, `key.len() <= bs`, the copy) and the two `derive_key` loops -/
example : (hmacLegacyL sha256Ctx sha256CtxL [1, 2, 3] [[4, 5], [6]] 32).tr.length = 73 ∧
    (hmacLegacyL sha256Ctx sha256CtxL [1, 2, 3] [[4, 5], [6]] 32).tr.take 6 =
      [.length 64, .branch true, .length 3, .length 64, .loopBound 64, .loopBound 64] := by decide +kernel

/-- test (evaluation): a 100-byte key is hashed first (`key.len() <= bs` is false) — a different, but again
    length-determined trace -/
example : (hmacLegacyL sha256Ctx sha256CtxL (List.replicate 100 7) [[4, 5], [6]] 32).tr.take 2 =
    [.length 64, .branch false] := by decide +kernel

/-- NEGATIVE CONTROL (test by evaluation): over a digest whose `input` tests the first byte of its argument, HMAC is NOT
    non-interferent — the keys `[0x36]` and `[0x37]` (first byte of `key ⊕ ipad` zero / non-zero) give different traces.
    The instrumentation sees a leaking digest; `DigestLeak` is a real requirement. -/
theorem hmac_over_leaky_digest_leaks :
    ¬ (∀ key key' : Bytes, key.length = key'.length →
        (hmacChunksL toyDigest leakyDigestL [] key [] 32).tr = (hmacChunksL toyDigest leakyDigestL [] key' [] 32).tr) := by
  intro h
  exact absurd (h [0x36] [0x37] rfl) (by decide +kernel)

/-! ## (n) the ChaCha20-Poly1305 AEAD: incremental `Context` / `ContextEncryption` / `ContextDecryption`, one-shot object

  public: the LENGTHS of key, AAD chunks, plaintext / ciphertext chunks, output buffers and of the expected tag; the
  position in the keystream block and in the Poly1305 block; the two length counters; the `finished` flag; for
  `decrypt`, the VERDICT (it is the result of the call).  secret: key, nonce, keystream, the one-time Poly1305 key, the
  accumulator, AAD / plaintext / ciphertext bytes, the computed and the expected tag.
  Generic in the ChaCha engine (`BlockGenLeak`: portable and SSE2, Proofs/LeakModelSym.lean).

  `NIE m m' R` (Proofs/LeakModelSym.lean): same trace, the two runs fail together, results related by `R`;
  `LowA L c c'`: the two contexts are indistinguishable (cipher contexts `LowEq`; both MAC objects in the absorbing
  state of C05 — under ANY two keys — with the same number of buffered bytes; equal length counters). -/

section Aead
open Cx.Impl.Aead Cx.Impl.LeakModel.AeadL Cx.Impl.StreamCtx
variable {σ : Type} {G : BlockGenL σ}

theorem aead_add_data_erasure (c : Context σ) (aad : Bytes) : (add_dataL c aad).val = Context.add_data c aad :=
  add_dataL_val c aad
theorem aead_to_encryption_erasure (c : Context σ) : (to_encryptionL c).val = Context.to_encryption c :=
  to_encryptionL_val c
theorem aead_to_decryption_erasure (c : Context σ) : (to_decryptionL c).val = Context.to_decryption c :=
  to_decryptionL_val c
theorem aead_encrypt_erasure (E : ChaCha.Engine σ) (R : Nat) (L : BlockGenLeak (ChaCha.ChaCha.gen E R) G) (c : Context σ)
    (input : Bytes) (n : Nat) : (encryptL G c input n).val = ContextEncryption.encrypt E R c input n :=
  encryptL_val E R L c input n
theorem aead_encrypt_mut_erasure (E : ChaCha.Engine σ) (R : Nat) (L : BlockGenLeak (ChaCha.ChaCha.gen E R) G)
    (c : Context σ) (buf : Bytes) : (encrypt_mutL G c buf).val = ContextEncryption.encrypt_mut E R c buf := by
  unfold encrypt_mutL ContextEncryption.encrypt_mut ChaCha.ChaCha.process_mut
  refine bind_val_of (process_mutL_val L _ _) fun _ => ?_
  exact bind_val_of (add_encryptedL_val _ _) fun _ => rfl
theorem aead_decrypt_erasure (E : ChaCha.Engine σ) (R : Nat) (L : BlockGenLeak (ChaCha.ChaCha.gen E R) G) (c : Context σ)
    (input : Bytes) (n : Nat) : (decryptL G c input n).val = ContextDecryption.decrypt E R c input n :=
  decryptL_val E R L c input n
theorem aead_decrypt_mut_erasure (E : ChaCha.Engine σ) (R : Nat) (L : BlockGenLeak (ChaCha.ChaCha.gen E R) G)
    (c : Context σ) (buf : Bytes) : (decrypt_mutL G c buf).val = ContextDecryption.decrypt_mut E R c buf := by
  unfold decrypt_mutL ContextDecryption.decrypt_mut ChaCha.ChaCha.process_mut
  refine bind_val_of (add_encryptedL_val _ _) fun _ => ?_
  exact bind_val_of (process_mutL_val L _ _) fun _ => rfl
theorem aead_enc_finalize_erasure (c : Context σ) : (enc_finalizeL c).val = ContextEncryption.finalize c :=
  enc_finalizeL_val c
theorem aead_dec_finalize_erasure (c : Context σ) (tag : Bytes) :
    (dec_finalizeL c tag).val = ContextDecryption.finalize c tag := dec_finalizeL_val c tag
theorem aead_new_erasure (E : ChaCha.Engine σ) (R : Nat) (L : BlockGenLeak (ChaCha.ChaCha.gen E R) G) (key nonce : Bytes) :
    (newL E R G key nonce).val = Context.new E R key nonce := newL_val E R L key nonce
theorem aead_oneshot_new_erasure (E : ChaCha.Engine σ) (R : Nat) (L : BlockGenLeak (ChaCha.ChaCha.gen E R) G)
    (key nonce aad : Bytes) : (oneShotNewL E R G key nonce aad).val = ChaChaPoly1305.new E R key nonce aad :=
  oneShotNewL_val E R L key nonce aad
theorem aead_oneshot_encrypt_erasure (E : ChaCha.Engine σ) (R : Nat) (L : BlockGenLeak (ChaCha.ChaCha.gen E R) G)
    (o : ChaChaPoly1305 σ) (input : Bytes) (n t : Nat) :
    (oneShotEncryptL G o input n t).val = ChaChaPoly1305.encrypt E R o input n t := by
  unfold oneShotEncryptL ChaChaPoly1305.encrypt
  refine ite_val (fun _ => rfl) (fun _ => ite_val (fun _ => rfl) (fun _ => ite_val (fun _ => rfl) (fun _ => ?_)))
  dsimp only
  refine bind_val_of (to_encryptionL_val _) fun _ => ?_
  refine bind_val_of (encryptL_val E R L _ _ _) fun _ => ?_
  exact bind_val_of (enc_finalizeL_val _) fun _ => rfl
theorem aead_oneshot_decrypt_erasure (E : ChaCha.Engine σ) (R : Nat) (L : BlockGenLeak (ChaCha.ChaCha.gen E R) G)
    (o : ChaChaPoly1305 σ) (input : Bytes) (n : Nat) (tag : Bytes) :
    (oneShotDecryptL G o input n tag).val = ChaChaPoly1305.decrypt E R o input n tag := by
  unfold oneShotDecryptL ChaChaPoly1305.decrypt
  refine ite_val (fun _ => rfl) (fun _ => ite_val (fun _ => rfl) (fun _ => ite_val (fun _ => rfl) (fun _ => ?_)))
  dsimp only
  refine bind_val_of (to_decryptionL_val _) fun _ => ?_
  refine bind_val_of (decryptL_val E R L _ _ _) fun _ => ?_
  exact bind_val_of (dec_finalizeL_val _ _) fun _ => rfl

variable {g : BlockGen σ}

/-- `add_data`: indistinguishable contexts and AAD of the same LENGTH: same trace, fail together (the u64 counter
    overflow), stay indistinguishable -/
theorem aead_add_data_noninterference (L : BlockGenLeak g G) (c c' : Context σ) (a a' : Bytes) (hc : LowA L c c')
    (ha : a.length = a'.length) : NIE (add_dataL c a) (add_dataL c' a') (LowA L) := add_dataL_nie L c c' a a' hc ha

/-- `to_encryption` / `to_decryption` (`pad16`: a branch on `aad_len % 16`) -/
theorem aead_to_encryption_noninterference (L : BlockGenLeak g G) (c c' : Context σ) (hc : LowA L c c') :
    NIE (to_encryptionL c) (to_encryptionL c') (LowA L) := to_encryptionL_nie L c c' hc
theorem aead_to_decryption_noninterference (L : BlockGenLeak g G) (c c' : Context σ) (hc : LowA L c c') :
    NIE (to_decryptionL c) (to_decryptionL c') (LowA L) := to_decryptionL_nie L c c' hc

theorem aead_encrypt_noninterference (L : BlockGenLeak g G) (c c' : Context σ) (i i' : Bytes) (n : Nat) (hc : LowA L c c')
    (hi : i.length = i'.length) : NIE (encryptL G c i n) (encryptL G c' i' n) (LowAO L) := encryptL_nie L c c' i i' n hc hi
theorem aead_encrypt_mut_noninterference (L : BlockGenLeak g G) (c c' : Context σ) (b b' : Bytes) (hc : LowA L c c')
    (hb : b.length = b'.length) : NIE (encrypt_mutL G c b) (encrypt_mutL G c' b') (LowAO L) := by
  unfold encrypt_mutL
  refine NIE.bindE (process_mutL_nie L _ _ b b' hb hc.cipher) (fun r r' hr => ?_)
  refine NIE.bindE (add_encryptedL_nie L _ _ r.2 r'.2 ⟨hr.1, hc.mac, hc.aad, hc.data⟩ hr.2) (fun d d' hd => ?_)
  exact NIE.pure_ok ⟨hd, hr.2⟩

theorem aead_decrypt_noninterference (L : BlockGenLeak g G) (c c' : Context σ) (i i' : Bytes) (n : Nat) (hc : LowA L c c')
    (hi : i.length = i'.length) : NIE (decryptL G c i n) (decryptL G c' i' n) (LowAO L) := decryptL_nie L c c' i i' n hc hi
theorem aead_decrypt_mut_noninterference (L : BlockGenLeak g G) (c c' : Context σ) (b b' : Bytes) (hc : LowA L c c')
    (hb : b.length = b'.length) : NIE (decrypt_mutL G c b) (decrypt_mutL G c' b') (LowAO L) := by
  unfold decrypt_mutL
  refine NIE.bindE (add_encryptedL_nie L c c' b b' hc hb) (fun d d' hd => ?_)
  refine NIE.bindE (process_mutL_nie L _ _ b b' hb hd.cipher) (fun r r' hr => ?_)
  exact NIE.pure_ok ⟨⟨hr.1, hd.mac, hd.aad, hd.data⟩, hr.2⟩

/-- `ContextEncryption::finalize` (`pad16`, the length block, `raw_result`): the trace does not depend on the tag -/
theorem aead_enc_finalize_noninterference (L : BlockGenLeak g G) (c c' : Context σ) (hc : LowA L c c') :
    (enc_finalizeL c).tr = (enc_finalizeL c').tr := (enc_finalizeL_nie L c c' hc).tr

/-- **`ContextDecryption::finalize`**: the trace is the same for every computed tag and every expected tag (hence for
    every position of the first mismatching byte): the comparison is the constant-time `Tag ==` of §(f) -/
theorem aead_dec_finalize_noninterference (L : BlockGenLeak g G) (c c' : Context σ) (t t' : Bytes) (hc : LowA L c c')
    (ht : t.length = t'.length) : (dec_finalizeL c t).tr = (dec_finalizeL c' t').tr := (dec_finalizeL_nie L c c' t t' hc ht).tr

/-- `Context::new` under two keys of the same length and any two nonces: same trace, and the two fresh contexts are
    indistinguishable.  `hc`, `hc'`: the key setup succeeds (admissible lengths and round count); `hp`: the fresh engine
    states have the same public part (`rfl` for the IETF ChaCha engines) -/
theorem aead_new_noninterference (E : ChaCha.Engine σ) (R : Nat) (L : BlockGenLeak (ChaCha.ChaCha.gen E R) G)
    (key key' nonce nonce' : Bytes) (s s' : σ) (hk : key.length = key'.length) (hn : nonce.length = nonce'.length)
    (hc : ChaCha.ChaCha.new E R key nonce = .ok (StreamCtx.mk s))
    (hc' : ChaCha.ChaCha.new E R key' nonce' = .ok (StreamCtx.mk s')) (hp : L.pub s = L.pub s') :
    NIE (newL E R G key nonce) (newL E R G key' nonce') (LowA L) := newL_nie E R L key key' nonce nonce' s s' hk hn hc hc' hp

end Aead

section AeadOneShot
open Cx.Impl.Aead Cx.Impl.LeakModel.AeadL Cx.Impl.ChaCha

/-- **C19 (ChaCha20-Poly1305, one-shot object, portable engine), unconditional**: two objects created from keys, nonces
    and AADs of the same LENGTHS, encrypting inputs of the same LENGTH: creation and encryption have the same traces,
    whatever the key, nonce, AAD and plaintext bytes -/
theorem chacha20poly1305_encrypt_noninterference (R : Nat) (key key' nonce nonce' aad aad' i i' : Bytes) (n t : Nat)
    (o o' : ChaChaPoly1305 W16) (hk : key.length = key'.length) (hn : nonce.length = nonce'.length)
    (ha : aad.length = aad'.length) (hi : i.length = i'.length)
    (h : ChaChaPoly1305.new referenceEngine R key nonce aad = .ok o)
    (h' : ChaChaPoly1305.new referenceEngine R key' nonce' aad' = .ok o') :
    (oneShotNewL referenceEngine R (ChaChaL.refGenL R) key nonce aad).tr =
        (oneShotNewL referenceEngine R (ChaChaL.refGenL R) key' nonce' aad').tr ∧
      (oneShotEncryptL (ChaChaL.refGenL R) o i n t).tr = (oneShotEncryptL (ChaChaL.refGenL R) o' i' n t).tr := by
  have hnew := oneShot_new_low referenceEngine R (refLeak R) (fun _ _ => rfl) key key' nonce nonce' aad aad' o o' hk hn ha h h'
  exact ⟨hnew.1, (oneShotEncryptL_nie (refLeak R) o o' i i' n t hnew.2 hi).tr⟩

/-- **… decryption**: additionally for every expected tag — the trace does not tell whether, or where, the tag differs -/
theorem chacha20poly1305_decrypt_noninterference (R : Nat) (key key' nonce nonce' aad aad' i i' tag tag' : Bytes) (n : Nat)
    (o o' : ChaChaPoly1305 W16) (hk : key.length = key'.length) (hn : nonce.length = nonce'.length)
    (ha : aad.length = aad'.length) (hi : i.length = i'.length) (ht : tag.length = tag'.length)
    (h : ChaChaPoly1305.new referenceEngine R key nonce aad = .ok o)
    (h' : ChaChaPoly1305.new referenceEngine R key' nonce' aad' = .ok o') :
    (oneShotDecryptL (ChaChaL.refGenL R) o i n tag).tr = (oneShotDecryptL (ChaChaL.refGenL R) o' i' n tag').tr :=
  (oneShotDecryptL_nie (refLeak R) o o' i i' n tag tag'
    (oneShot_new_low referenceEngine R (refLeak R) (fun _ _ => rfl) key key' nonce nonce' aad aad' o o' hk hn ha h h').2 hi ht).tr

theorem chacha20poly1305_sse2_encrypt_noninterference (R : Nat) (key key' nonce nonce' aad aad' i i' : Bytes) (n t : Nat)
    (o o' : ChaChaPoly1305 Sse2.State) (hk : key.length = key'.length) (hn : nonce.length = nonce'.length)
    (ha : aad.length = aad'.length) (hi : i.length = i'.length)
    (h : ChaChaPoly1305.new sse2Engine R key nonce aad = .ok o)
    (h' : ChaChaPoly1305.new sse2Engine R key' nonce' aad' = .ok o') :
    (oneShotEncryptL (ChaChaL.sse2GenL R) o i n t).tr = (oneShotEncryptL (ChaChaL.sse2GenL R) o' i' n t).tr :=
  (oneShotEncryptL_nie (sse2Leak R) o o' i i' n t
    (oneShot_new_low sse2Engine R (sse2Leak R) (fun _ _ => rfl) key key' nonce nonce' aad aad' o o' hk hn ha h h').2 hi).tr

/-- non-vacuity of the hypotheses: a concrete key / nonce / AAD gives an object -/
example : (match ChaChaPoly1305.new referenceEngine 20 (List.replicate 32 7) (List.replicate 12 1) [1, 2, 3] with
    | .ok _ => true
    | .error _ => false) = true := by decide +kernel

end AeadOneShot

/-! ## Not covered

  * The compression functions themselves are embedded as primitives that emit nothing (straight-line word arithmetic,
    constant loop bounds, constant rotation counts, loop-counter indices into constant tables): this is read off the
    source, not proved; only their refusal behaviour (length assertions) is proved to depend on lengths.
  * The SIMD back ends (`avx`, `sse41`, `aarch64` of impl256 / impl512 / blake2) and the CPU-feature dispatch: the models
    follow the portable `reference` path.
  * Overflow of the byte counters (`processed_bytes += input.len()` panics in an overflow-checked build after 2^64 /
    2^128 bytes): modelled wrapping, as in Impl.Sha2 / Impl.Sha1; the count is a function of the input LENGTHS anyway.
  * AEAD: the theorems about `Context::new` / the one-shot object assume that the two creations succeed (admissible key
    length and round count — decided by public data) instead of deriving it; `LowA` asks both MAC objects to be in the
    absorbing state of C05 (true for every object reachable through the API, `aead_new_noninterference` +
    preservation by every call).
  * `Hmac::reset`, the `Mac::result` comparison (`MacResult ==` is LeakReal §(f)), HKDF / PBKDF2 on top of HMAC.
  * The optimising compiler may re-introduce branches: these theorems speak for the source (see Props/C19/LeakReal.lean).
-/

end Cx.Props.C19
