/-
  Props.C20.Aead — C20, AEAD part (src/chacha20poly1305.rs, model Impl.Aead): misuse is refused loudly, valid input
  never panics.

  (i)   valid input never panics — the `= .ok …` of every C06/C07 theorem (Props.C06.Aead `aead_oneshot_encrypt`,
        `aead_oneshot_decrypt`, `aead_streamed_encrypt`, `aead_streamed_decrypt`): for key lengths 16/32, 12-byte nonce,
        R ∈ {8,12,20}, AAD and data below 2^64 bytes and ANY partition, no assert, no checked-arithmetic overflow
        (`aad_len += …`, `data_len += …` on u64) and no panic of the ChaCha / Poly1305 layers is reached.
        The u64 `+=` can overflow only beyond 2^64 bytes of AAD or data; so the value returned cannot depend on the
        overflow-check profile inside the domain.
  (ii)  refusals, stated outright below: reuse of a finished one-shot object (after encrypt AND after decrypt, whatever
        the verdict), wrong output / tag buffer lengths (one-shot and incremental), wrong key length, refused round
        count.  Wrong nonce length and a `Tag` of another length are refused by the Rust type system
        (`&[u8; 12]`, `Tag([u8; 16])`): model answer `bad-args`, not a run-time behaviour.
-/
import CxVerif.Proofs.AeadOneShot
import CxVerif.Proofs.RefusalStream
namespace Cx.Props.C20.Aead
open Cx Cx.Impl Cx.Impl.Aead Cx.Proofs.Aead

variable {σ : Type}
variable {E : ChaCha.Engine σ} {R : Nat} {key nonce : Bytes}

/-- a successful `encrypt` finishes the object; every later `encrypt` or `decrypt` on it panics -/
theorem reuse_after_encrypt_refused (o o' : ChaChaPoly1305 σ) (pt ct tag : Bytes) (n l : Nat)
    (h : ChaChaPoly1305.encrypt E R o pt n l = .ok (o', ct, tag)) :
    o'.finished = true ∧
    (∀ input n' l', ChaChaPoly1305.encrypt E R o' input n' l' = .error "PANIC") ∧
    (∀ input n' t, ChaChaPoly1305.decrypt E R o' input n' t = .error "PANIC") := by
  have hf : o'.finished = true := by
    -- the only branch that returns hands back `{ self with finished := true }`
    simp only [ChaChaPoly1305.encrypt] at h
    repeat' split at h
    all_goals cases h
    rfl
  exact ⟨hf, fun i n' l' => oneshot_finished_refuses_encrypt o' hf i n' l',
    fun i n' t => oneshot_finished_refuses_decrypt o' hf i n' t⟩

/-- a `decrypt` that returned (whatever its verdict) finishes the object as well -/
theorem reuse_after_decrypt_refused (o o' : ChaChaPoly1305 σ) (ct out tag : Bytes) (n : Nat) (v : Bool)
    (h : ChaChaPoly1305.decrypt E R o ct n tag = .ok (o', out, v)) :
    o'.finished = true ∧
    (∀ input n' l', ChaChaPoly1305.encrypt E R o' input n' l' = .error "PANIC") ∧
    (∀ input n' t, ChaChaPoly1305.decrypt E R o' input n' t = .error "PANIC") := by
  have hf : o'.finished = true := by
    simp only [ChaChaPoly1305.decrypt] at h
    repeat' split at h
    all_goals cases h
    rfl
  exact ⟨hf, fun i n' l' => oneshot_finished_refuses_encrypt o' hf i n' l',
    fun i n' t => oneshot_finished_refuses_decrypt o' hf i n' t⟩

/-- one-shot `encrypt`: output buffer of another length than the input, or tag buffer not 16 bytes: panic -/
theorem oneshot_encrypt_bad_lengths (o : ChaChaPoly1305 σ) (input : Bytes) (n l : Nat)
    (h : input.length ≠ n ∨ l ≠ 16) : ChaChaPoly1305.encrypt E R o input n l = .error "PANIC" :=
  oneshot_encrypt_refuses_lengths o input n l h

/-- one-shot `decrypt`: output buffer of another length, or tag not 16 bytes: panic -/
theorem oneshot_decrypt_bad_lengths (o : ChaChaPoly1305 σ) (input : Bytes) (n : Nat) (tag : Bytes)
    (h : input.length ≠ n ∨ tag.length ≠ 16) : ChaChaPoly1305.decrypt E R o input n tag = .error "PANIC" :=
  oneshot_decrypt_refuses_lengths o input n tag h

/-- incremental `encrypt` / `decrypt` into an output buffer of another length: panic (`assert_eq!`) -/
theorem incremental_bad_output_length (c : Context σ) (input : Bytes) (n : Nat) (h : input.length ≠ n) :
    ContextEncryption.encrypt E R c input n = .error "PANIC" ∧
    ContextDecryption.decrypt E R c input n = .error "PANIC" := by
  simp [ContextEncryption.encrypt, ContextDecryption.decrypt, h]

/-- a key that is neither 16 nor 32 bytes is refused by `Context::new` and by `ChaChaPoly1305::new` -/
theorem new_refuses_key_length (hn : nonce.length = 12) (hk : ¬ (key.length = 16 ∨ key.length = 32)) (aad : Bytes) :
    (∃ e, Context.new E R key nonce = .error e ∧ e = "PANIC") ∧
    (∃ e, ChaChaPoly1305.new E R key nonce aad = .error e ∧ e = "PANIC") := by
  have h1 : Context.new E R key nonce = .error "PANIC" := by simp [Context.new, hn, hk]
  exact ⟨⟨_, h1, rfl⟩, ⟨_, by simp [ChaChaPoly1305.new, h1], rfl⟩⟩

/-- a round count other than 8, 12, 20 is refused (by the `assert!` of `ChaCha::new`) -/
theorem new_refuses_rounds (hn : nonce.length = 12) (hk : key.length = 16 ∨ key.length = 32)
    (hR : ¬ (R = 8 ∨ R = 12 ∨ R = 20)) : Context.new E R key nonce = .error "PANIC" := by
  have h : ChaCha.ChaCha.new E R key nonce = .error "PANIC" :=
    Cx.Proofs.Refusal.guards_panic _ (Cx.Proofs.ChaCha.roundsOk_iff R) hn fun hv => hR hv.2
  simp [Context.new, hn, hk, h]

/-- every call of the incremental interface that the abstract machine (Proofs.AeadHist `absStep`: typing by phase,
    equal buffer lengths, 16-byte tag) does not allow is refused by the model -/
theorem incremental_step_refused (st : Phase × Context σ) (a : AbsSt) (op : Op)
    (hph : st.1 = a.phase) (h : absStep R key nonce a op = none) : ∃ e, step E R st op = .error e := by
  obtain ⟨ph, aad, ct⟩ := a
  obtain ⟨sph, c⟩ := st
  simp only at hph
  subst hph
  cases sph <;> cases op <;> simp only [absStep] at h <;> try (cases h; done)
  all_goals first
    | exact ⟨_, rfl⟩
    | (split at h
       · cases h
       · rename_i hn
         simp [step, ContextEncryption.encrypt, ContextDecryption.decrypt, ContextDecryption.finalize, hn])

/-- non-vacuity: a 24-byte key and R = 10 are such inputs -/
example : ¬ ((List.replicate 24 (0 : UInt8)).length = 16 ∨ (List.replicate 24 (0 : UInt8)).length = 32) := by decide
example : ¬ ((10 : Nat) = 8 ∨ (10 : Nat) = 12 ∨ (10 : Nat) = 20) := by decide

end Cx.Props.C20.Aead
