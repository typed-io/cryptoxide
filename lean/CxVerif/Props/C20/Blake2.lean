/-
  Props.C20.Blake2 — C20, BLAKE2 part: the byte counter `t[0], t[1]`.
  (i)  `increment_counter` as the code has it now (`wrapping_add` on both words, `.wrapping`) implements ONE
       2w-bit counter for ALL word values: every carry into the high word and the wrap of both words included;
       consequently a context whose counter was preset anywhere (hook `verif_set_counter`) produces the digest of
       BLAKE2 with that start counter — in particular nothing special happens at 2^32 / 2^64 bytes;
  (ii) the former `t[0] += inc` compiled with overflow checks (`.checked`) panics as soon as the LOW word would
       pass 2^w — witness states below (defect (i), fixed in /repo by commit ca094bf) — and whenever it does not
       panic it returns exactly what the wrapping build returns (profile independence of every value returned);
  (iii) refused parameters: Props/C01/Blake2.lean `blake2?_refuses`, `blake2?_ctx_refuses`; rekey with a long key:
       `Props.C02.reset_with_key_eq_new_keyed` and the `none` cases of the history theorem.
-/
import CxVerif.Proofs.Blake2Hist
namespace Cx.Props.C20
open Cx.Proofs.Blake2
open Cx.Impl.Blake2 (Ctx Engine Profile)
open Cx.Spec.Blake2 (Word Params)

/-- BLAKE2b: the two u64 words are a 128-bit counter, for all values and all increments -/
theorem increment_counter_b (e : Engine UInt64) (inc : Nat) (h0 : e.t0 < 2 ^ 64) (_h1 : e.t1 < 2 ^ 64) (hi : inc < 2 ^ 64) :
    ∃ e', e.increment_counter .wrapping inc = some e' ∧ e'.h = e.h ∧ e'.t0 < 2 ^ 64 ∧ e'.t1 < 2 ^ 64 ∧
      e'.t0 + 2 ^ 64 * e'.t1 = (e.t0 + 2 ^ 64 * e.t1 + inc) % 2 ^ 128 := by
  exact ⟨_, rfl, rfl, Nat.mod_lt _ (by decide), Nat.mod_lt _ (by decide), counter_value (2 ^ 64) e.t0 e.t1 inc h0 _h1 hi⟩

/-- BLAKE2s: the two u32 words are a 64-bit counter -/
theorem increment_counter_s (e : Engine UInt32) (inc : Nat) (h0 : e.t0 < 2 ^ 32) (_h1 : e.t1 < 2 ^ 32) (hi : inc < 2 ^ 32) :
    ∃ e', e.increment_counter .wrapping inc = some e' ∧ e'.h = e.h ∧ e'.t0 < 2 ^ 32 ∧ e'.t1 < 2 ^ 32 ∧
      e'.t0 + 2 ^ 32 * e'.t1 = (e.t0 + 2 ^ 32 * e.t1 + inc) % 2 ^ 64 := by
  exact ⟨_, rfl, rfl, Nat.mod_lt _ (by decide), Nat.mod_lt _ (by decide), counter_value (2 ^ 32) e.t0 e.t1 inc h0 _h1 hi⟩

example : (2 ^ 64 - 1 < 2 ^ 64 ∧ 2 ^ 64 - 1 < 2 ^ 64) ∧ 128 < 2 ^ 64 := by decide

/-- the former checked `+=`: a panic exactly when the low word would overflow (b) -/
theorem increment_counter_checked_b (e : Engine UInt64) (inc : Nat) (h1 : e.t1 < 2 ^ 64) :
    (e.increment_counter .checked inc = none ↔ 2 ^ 64 ≤ e.t0 + inc) :=
  increment_counter_checked_none e inc h1

theorem increment_counter_checked_s (e : Engine UInt32) (inc : Nat) (h1 : e.t1 < 2 ^ 32) :
    (e.increment_counter .checked inc = none ↔ 2 ^ 32 ≤ e.t0 + inc) :=
  increment_counter_checked_none e inc h1

/-- witness of defect (i) (BLAKE2s, after 2^32 − 64 bytes one more block): the checked `+=` panics, `wrapping_add`
    carries into the high word -/
example (h : Vector UInt32 8) :
    (Engine.mk h (2 ^ 32 - 64) 0).increment_counter .checked 64 = none ∧
    (Engine.mk h (2 ^ 32 - 64) 0).increment_counter .wrapping 64 = some (Engine.mk h 0 1) := by
  constructor <;> simp [Engine.increment_counter, Impl.Blake2.addAssign, Word.bits]

/-- preset counters (hook): BLAKE2b contexts hash as BLAKE2 with start counter `t0 + 2^64 t1`, ∀ words, ∀ messages -/
theorem blake2b_preset_counter (outlen : Nat) (key msg : Bytes) (t0 t1 : Nat) (ho : 0 < outlen ∧ outlen ≤ 64)
    (hk : key.length ≤ 64) (ht0 : t0 < 2 ^ 64) :
    ∃ c c', Ctx.new_keyed Impl.Blake2.b outlen key = some c ∧
      Ctx.update_mut Impl.Blake2.b .wrapping (Ctx.verif_set_counter c t0 t1) msg = some c' ∧
      Ctx.finalize_at Impl.Blake2.b .wrapping c' outlen outlen
        = some (Spec.Blake2.blake2At Spec.Blake2.b (t0 + 2 ^ 64 * t1) outlen key msg) := by
  rw [impl_b_eq_spec_b]; exact blake2_preset_eq_spec Spec.Blake2.b good_b outlen key msg t0 t1 ho hk ht0

theorem blake2s_preset_counter (outlen : Nat) (key msg : Bytes) (t0 t1 : Nat) (ho : 0 < outlen ∧ outlen ≤ 32)
    (hk : key.length ≤ 32) (ht0 : t0 < 2 ^ 32) :
    ∃ c c', Ctx.new_keyed Impl.Blake2.s outlen key = some c ∧
      Ctx.update_mut Impl.Blake2.s .wrapping (Ctx.verif_set_counter c t0 t1) msg = some c' ∧
      Ctx.finalize_at Impl.Blake2.s .wrapping c' outlen outlen
        = some (Spec.Blake2.blake2At Spec.Blake2.s (t0 + 2 ^ 32 * t1) outlen key msg) := by
  rw [impl_s_eq_spec_s]; exact blake2_preset_eq_spec Spec.Blake2.s good_s outlen key msg t0 t1 ho hk ht0

/-- profile independence of every returned value: a history on which the overflow-checked `+=` build returns
    normally returns the same contexts and digests with wrapping arithmetic (hence the Spec's digests, C02) -/
theorem checked_refines_wrapping {W : Type} [Word W] (P : Params W) (outlen : Nat) (ops : List Op) (s : CSt W)
    (outs : List Bytes) (r : CSt W × List Bytes) (h : runC P .checked outlen s ops outs = some r) :
    runC P .wrapping outlen s ops outs = some r := by
  induction ops generalizing s outs r with
  | nil => exact h
  | cons op ops ih =>
    simp only [runC] at h ⊢
    split at h
    · cases h
    · rename_i s' o h0
      rw [stepC_mono P outlen s op _ h0]
      exact ih _ _ _ h

/-- finalisation in the checked build panics once the low word plus the buffered bytes reach 2^w: the state-level
    form of defect (i); together with `blake2?_preset_counter` the wrapping build returns the Spec value there -/
theorem internal_final_checked_overflow {W : Type} [Word W] (P : Params W) (g : Good P) (c : Ctx W) (hb : c.buflen ≤ P.bb)
    (h : 2 ^ Word.bits W ≤ c.eng.t0 + c.buflen) : Ctx.internal_final P .checked c = none := by
  unfold Ctx.internal_final Engine.increment_counter Impl.Blake2.addAssign
  rw [buflen_mod P g c.buflen hb]
  simp only []
  rw [if_neg (by omega)]

/-- concrete witness (the replayed line `hctxdyn.blake2s 32 - T4294967295:0;u10;d`): checked panics, wrapping = Spec -/
theorem overflow_witness_s :
    ∃ c c', Ctx.new_keyed Impl.Blake2.s 32 [] = some c ∧
      Ctx.update_mut Impl.Blake2.s .checked (Ctx.verif_set_counter c (2 ^ 32 - 1) 0) [0x10] = some c' ∧
      Ctx.finalize_at Impl.Blake2.s .checked c' 32 32 = none ∧
      Ctx.update_mut Impl.Blake2.s .wrapping (Ctx.verif_set_counter c (2 ^ 32 - 1) 0) [0x10] = some c' ∧
      Ctx.finalize_at Impl.Blake2.s .wrapping c' 32 32
        = some (Spec.Blake2.blake2At Spec.Blake2.s (2 ^ 32 - 1) 32 [] [0x10]) := by
  obtain ⟨c, c', h1, h2, h3⟩ := blake2s_preset_counter 32 [] [0x10] (2 ^ 32 - 1) 0 (by decide) (by decide) (by decide)
  have hc : c = newState Spec.Blake2.s 32 [] := by
    rw [impl_s_eq_spec_s, new_keyed_eq Spec.Blake2.s 32 [] (by decide) (by decide)] at h1
    cases h1; rfl
  subst hc
  rw [impl_s_eq_spec_s] at h2 h3 ⊢
  have hupd : ∀ pr, Ctx.update_mut Spec.Blake2.s pr (Ctx.verif_set_counter (newState Spec.Blake2.s 32 []) (2 ^ 32 - 1) 0) [0x10]
      = some { Ctx.verif_set_counter (newState Spec.Blake2.s 32 []) (2 ^ 32 - 1) 0 with
               buf := Impl.Blake2.setSlice (Ctx.verif_set_counter (newState Spec.Blake2.s 32 []) (2 ^ 32 - 1) 0).buf 0 [0x10],
               buflen := 0 + 1 } := fun pr => rfl
  rw [hupd .wrapping] at h2
  cases h2
  refine ⟨_, _, new_keyed_eq Spec.Blake2.s 32 [] (by decide) (by decide), hupd .checked, ?_, hupd .wrapping, by simpa using h3⟩
  unfold Ctx.finalize_at
  rw [if_neg (by simp), internal_final_checked_overflow Spec.Blake2.s good_s _ (by decide) (by decide)]

end Cx.Props.C20
