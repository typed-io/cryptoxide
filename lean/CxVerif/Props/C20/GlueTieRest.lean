/-
  Props.C20.GlueTieRest — the translator tie for the LEFTOVER glue (tools/ktx_glue_rest.py, kernel specs tools/kernels/glue_rest.py).
  `Extracted/GlueRest.lean` is regenerated from the CURRENT Rust source on every run; every theorem `<f>_src_eq_model` proves the
  generated definition equal to the hand model (or driver op) the other theorems and the differential harness are about, for ALL
  states and inputs.  A semantic change of one of these functions changes the generated definition and breaks its theorem.
-/
import CxVerif.Proofs.GlueRest
import CxVerif.Proofs.GlueRestMuladd
import CxVerif.Impl.HashLen
import CxVerif.Driver.KTie
import CxVerif.Proofs.ConstantTime
import CxVerif.Proofs.Argon2Segment
import CxVerif.Props.C02.GlueTieSponge
namespace Cx.Props.C20.GlueTieRest
open Cx.Extracted.GlueRest Cx.Proofs.GlueRest

/-! ## (f) the `#[cfg(cryptoxide_verif)]` hooks: they preset exactly what the model's driver op presets -/

namespace Blake2b
open Cx.Impl.Blake2 Cx.Extracted.GlueRest.Blake2b
theorem structs_checked : Engine_struct_src = () ∧ Context_struct_src = () ∧ ContextDyn_struct_src = () ∧ Engine_alias_src = () :=
  ⟨rfl, rfl, rfl, rfl⟩
/-- hook `Context::verif_set_counter(t0, t1)`: the model's `T<t0>:<t1>` op (`Ctx.verif_set_counter`) on the same two words -/
theorem Context.verif_set_counter_src_eq_model (c : Ctx UInt64) (t0 t1 : UInt64) :
    Context.verif_set_counter_src c t0 t1 = Ctx.verif_set_counter c t0.toNat t1.toNat := by
  simp [Context.verif_set_counter_src, Ctx.verif_set_counter, Spec.Blake2.Word.bits, Nat.mod_eq_of_lt (UInt64.toNat_lt _)]
/-- the same hook on `ContextDyn` (the model keeps the shared fields in `ctx`) -/
theorem ContextDyn.verif_set_counter_src_eq_model (d : ContextDyn UInt64) (t0 t1 : UInt64) :
    ContextDyn.verif_set_counter_src d t0 t1 = { d with ctx := Ctx.verif_set_counter d.ctx t0.toNat t1.toNat } := by
  simp [ContextDyn.verif_set_counter_src, Ctx.verif_set_counter, Spec.Blake2.Word.bits, Nat.mod_eq_of_lt (UInt64.toNat_lt _)]
end Blake2b

namespace Blake2s
open Cx.Impl.Blake2 Cx.Extracted.GlueRest.Blake2s
theorem structs_checked : Engine_struct_src = () ∧ Context_struct_src = () ∧ ContextDyn_struct_src = () ∧ Engine_alias_src = () :=
  ⟨rfl, rfl, rfl, rfl⟩
/-- hook `Context::verif_set_counter(t0, t1)`: the model's `T<t0>:<t1>` op (`Ctx.verif_set_counter`) on the same two words -/
theorem Context.verif_set_counter_src_eq_model (c : Ctx UInt32) (t0 t1 : UInt32) :
    Context.verif_set_counter_src c t0 t1 = Ctx.verif_set_counter c t0.toNat t1.toNat := by
  simp [Context.verif_set_counter_src, Ctx.verif_set_counter, Spec.Blake2.Word.bits, Nat.mod_eq_of_lt (UInt32.toNat_lt _)]
/-- the same hook on `ContextDyn` (the model keeps the shared fields in `ctx`) -/
theorem ContextDyn.verif_set_counter_src_eq_model (d : ContextDyn UInt32) (t0 t1 : UInt32) :
    ContextDyn.verif_set_counter_src d t0 t1 = { d with ctx := Ctx.verif_set_counter d.ctx t0.toNat t1.toNat } := by
  simp [ContextDyn.verif_set_counter_src, Ctx.verif_set_counter, Spec.Blake2.Word.bits, Nat.mod_eq_of_lt (UInt32.toNat_lt _)]
end Blake2s

namespace MdHooks
open Cx.Impl.HashLen
theorem structs_checked : Sha1.Context_struct_src = () ∧ Ripemd160.Context_struct_src = () ∧ Sha2.Engine512_struct_src = () ∧
    Sha2.Engine256_struct_src = () ∧ Sha2.Context512_struct_src = () ∧ Sha2.Context384_struct_src = () ∧ Sha2.Context512_256_struct_src = () ∧
    Sha2.Context512_224_struct_src = () ∧ Sha2.Context256_struct_src = () ∧ Sha2.Context224_struct_src = () :=
  ⟨rfl, rfl, rfl, rfl, rfl, rfl, rfl, rfl, rfl, rfl⟩
theorem Sha1.verif_set_processed_bytes_src_eq_model (c : Impl.Sha1.Context) (n : UInt64) :
    Sha1.Context.verif_set_processed_bytes_src c n = Sha1Ctx.verif_set_processed_bytes c n := rfl
theorem Ripemd160.verif_set_processed_bytes_src_eq_model (c : Impl.Ripemd160.Context) (n : UInt64) :
    Ripemd160.Context.verif_set_processed_bytes_src c n = RipemdCtx.verif_set_processed_bytes c n := rfl
/-- the four `digest!(512 …)` contexts: `n as _` is the identity on `u128` (`n < 2^128` is the range of the parameter type) -/
theorem Sha2.verif_set_processed_bytes_512_src_eq_model (c : Impl.Sha2.Ctx512) (n : Nat) (hn : n < 2 ^ 128) :
    Sha2.Context512.verif_set_processed_bytes_src c n = Ctx512.verif_set_processed_bytes c n ∧
    Sha2.Context384.verif_set_processed_bytes_src c n = Ctx512.verif_set_processed_bytes c n ∧
    Sha2.Context512_256.verif_set_processed_bytes_src c n = Ctx512.verif_set_processed_bytes c n ∧
    Sha2.Context512_224.verif_set_processed_bytes_src c n = Ctx512.verif_set_processed_bytes c n := by
  simp [Sha2.Context512.verif_set_processed_bytes_src, Sha2.Context384.verif_set_processed_bytes_src,
    Sha2.Context512_256.verif_set_processed_bytes_src, Sha2.Context512_224.verif_set_processed_bytes_src,
    Ctx512.verif_set_processed_bytes, Nat.mod_eq_of_lt hn]
/-- the two `digest!(256 …)` contexts: `n as _` truncates the `u128` to the `u64` field -/
theorem Sha2.verif_set_processed_bytes_256_src_eq_model (c : Impl.Sha2.Ctx256) (n : Nat) :
    Sha2.Context256.verif_set_processed_bytes_src c n = Ctx256.verif_set_processed_bytes c n ∧
    Sha2.Context224.verif_set_processed_bytes_src c n = Ctx256.verif_set_processed_bytes c n := by
  have h : n % 2 ^ 128 % 2 ^ 64 = n % 2 ^ 64 := Nat.mod_mod_of_dvd n (by decide : 2 ^ 64 ∣ 2 ^ 128)
  simp [Sha2.Context256.verif_set_processed_bytes_src, Sha2.Context224.verif_set_processed_bytes_src,
    Ctx256.verif_set_processed_bytes, h]
end MdHooks

namespace Poly1305
open Cx.Impl.Poly1305 Cx.Extracted.GlueRest.Poly1305
theorem structs_checked : Poly1305_struct_src = () := rfl
/-- hook `Poly1305::verif_from_state(r, h, pad)` builds exactly the state the `ktie.poly.*` driver ops start from -/
theorem verif_from_state_src_eq_model (r h : L5) (pad : L4) : verif_from_state_src r h pad = Driver.KTie.polyState r h pad := rfl
/-- hook `verif_h`: the accumulator limbs the `ktie.poly.block` op prints -/
theorem verif_h_src_eq_model (s : State) : verif_h_src s = s.h := rfl
/-- `mul64(a, b) = a as u64 * b as u64` never overflows: the product the limb kernels (Props/C05/KernelTie) use -/
theorem mul64_src_eq_model (a b : Nat) (ha : a < 2 ^ 32) (hb : b < 2 ^ 32) : mul64_src a b = some (a * b) := by
  have : a * b < 2 ^ 64 := by
    calc a * b < 2 ^ 32 * 2 ^ 32 := Nat.mul_lt_mul'' ha hb
      _ = 2 ^ 64 := by decide
  simp [mul64_src, chk_of_lt this]
end Poly1305

/-! ## (b) constant_time.rs leftovers and `<&Tag as CtEqual>::ct_ne` -/

namespace CT
open Cx.Impl.CT Cx.Extracted.GlueRest.CT
theorem structs_checked : CtOption_struct_src = () := rfl
/-- `impl From<Choice> for bool` (the `ct.choice.bool` op) -/
theorem bool_from_choice_src_eq_model (c : Choice) : bool_from_choice_src c = c.isTrue := rfl
/-- `CtOption::from((c, t)).into_option()` is the model's `ctOptionInto c t` (the `ct.option` op), for every payload type -/
theorem CtOption.into_option_from_src_eq_model {T : Type} (c : Choice) (t : T) :
    CtOption.into_option_src (CtOption.from_src (c, t)) = ctOptionInto c t := rfl
theorem CtOption.from_src_fields {T : Type} (c : Choice) (t : T) :
    (CtOption.from_src (c, t)).present = c ∧ (CtOption.from_src (c, t)).t = t := ⟨rfl, rfl⟩
theorem CtOption.into_option_src_eq_model {T : Type} (o : CtOption T) : CtOption.into_option_src o = ctOptionInto o.present o.t := rfl
/-- the `verif` wrappers hand their arguments to the crate-private functions unchanged (ops `ct.swap64/32`, `ct.set64/32`) -/
theorem verif.array64_maybe_swap_with_src_eq_model (a b : List UInt64) (swap : Choice) :
    verif.array64_maybe_swap_with_src a b swap = ct_array64_maybe_swap_with a b swap := rfl
theorem verif.array32_maybe_swap_with_src_eq_model (a b : List UInt32) (swap : Choice) :
    verif.array32_maybe_swap_with_src a b swap = ct_array32_maybe_swap_with a b swap := rfl
theorem verif.array64_maybe_set_src_eq_model (a b : List UInt64) (swap : Choice) :
    verif.array64_maybe_set_src a b swap = ct_array64_maybe_set a b swap := rfl
theorem verif.array32_maybe_set_src_eq_model (a b : List UInt32) (swap : Choice) :
    verif.array32_maybe_set_src a b swap = ct_array32_maybe_set a b swap := rfl
end CT

namespace Tag
open Cx.Impl.CT Cx.Extracted.GlueRest.Tag
theorem structs_checked : Tag_struct_src = () := rfl
theorem ct_eq_src_eq_model (a b : Bytes) : ct_eq_src a b = array_u8_ct_eq a b := rfl
theorem ct_ne_src_eq_model (a b : Bytes) : ct_ne_src a b = array_u8_ct_ne a b := rfl
/-- the verdict of the `ct.tag.ne` op: `!macResultEq` on two 16-byte tags -/
theorem ct_ne_src_isTrue (a b : Bytes) (h : a.length = b.length) : (ct_ne_src a b).isTrue = !macResultEq a b := by
  have hz : ∀ x : UInt64, (u64_ct_zero x).negate.isTrue = !(u64_ct_zero x).isTrue := by
    intro x
    simp only [u64_ct_zero, Choice.negate, Choice.isTrue]
    have h2 : ((x ||| wneg x) >>> 63) = 0 ∨ ((x ||| wneg x) >>> 63) = 1 := by
      rw [Cx.Proofs.CT.nz_val]; split <;> simp
    rcases h2 with h2 | h2 <;> simp [h2]
  simp only [ct_ne_src, ct_eq_src, macResultEq, h, if_true, array_u8_ct_eq]
  exact hz _
end Tag

/-! ## (a) src/chacha/mod.rs: the `chacha::verif` engine wrappers and the cfg dispatch -/

namespace ChaChaMod
open Cx.Impl.ChaCha Cx.Extracted.GlueRest.ChaChaMod
/-- for the harness target `ChaChaEngine<R>` (= `verif::Native`) is the SSE2 engine, `reference_verif` (= `verif::Portable`) is
    reference.rs compiled next to it: the engines the `stream.eng native|portable` ops run (`sse2Engine` / `referenceEngine`) -/
theorem cfg_dispatch :
    ChaChaEngine_cfg_src = some "pub(crate) type ChaChaEngine<const R: usize> = sse2::State<R>;" ∧
    reference_verif_cfg_src = some "#[path = 'reference.rs'] #[allow(dead_code)] mod reference_verif;" ∧
    engine_mod_cfg_src = some "mod sse2;" := ⟨rfl, rfl, rfl⟩
theorem structs_checked : wrapper_struct_src = () ∧ Portable_invocation_src = () ∧ Native_invocation_src = () := ⟨rfl, rfl, rfl⟩

section
variable {σ : Type} (E : Engine σ) (R : Nat)
theorem Portable.init_src_eq_model (key nonce : Bytes) : Portable.init_src E R key nonce = (E.init key nonce).toOption := by
  simp [Portable.init_src]
theorem Portable.state_bytes_src_eq_model (s : σ) : Portable.state_bytes_src E R s = E.output_bytes s := rfl
theorem Portable.block_src_eq_model (s : σ) : Portable.block_src E R s = E.block R s := rfl
theorem Portable.hblock_src_eq_model (s : σ) : Portable.hblock_src E R s = E.hblock R s := rfl
theorem Portable.set_counter_src_eq_model (s : σ) (c : UInt32) : Portable.set_counter_src E R s c = E.set_counter s c := rfl
theorem Portable.set_counter64_src_eq_model (s : σ) (c : UInt64) : Portable.set_counter64_src E R s c = E.verif_set_counter64 s c := rfl
theorem Portable.increment_src_eq_model (s : σ) : Portable.increment_src E R s = E.increment s := rfl
theorem Portable.increment64_src_eq_model (s : σ) : Portable.increment64_src E R s = E.increment64 s := rfl
theorem Native.init_src_eq_model (key nonce : Bytes) : Native.init_src E R key nonce = (E.init key nonce).toOption := by
  simp [Native.init_src]
theorem Native.state_bytes_src_eq_model (s : σ) : Native.state_bytes_src E R s = E.output_bytes s := rfl
theorem Native.block_src_eq_model (s : σ) : Native.block_src E R s = E.block R s := rfl
theorem Native.hblock_src_eq_model (s : σ) : Native.hblock_src E R s = E.hblock R s := rfl
theorem Native.set_counter_src_eq_model (s : σ) (c : UInt32) : Native.set_counter_src E R s c = E.set_counter s c := rfl
theorem Native.set_counter64_src_eq_model (s : σ) (c : UInt64) : Native.set_counter64_src E R s c = E.verif_set_counter64 s c := rfl
theorem Native.increment_src_eq_model (s : σ) : Native.increment_src E R s = E.increment s := rfl
theorem Native.increment64_src_eq_model (s : σ) : Native.increment64_src E R s = E.increment64 s := rfl
end
end ChaChaMod

/-! ## (e) the `keccak_impl!` contexts (`Engine<DIGESTLEN, 0>`) above the sponge engine GENERATED from sha3.rs -/

namespace Keccak
open Cx.Impl.Sha3 Cx.Extracted.GlueRest.Keccak
open Cx.Props.C02.GlueTieSponge
theorem structs_checked : Context_struct_src = () ∧ Imports_src = () := ⟨rfl, rfl⟩
theorem Context.new_src_eq_model (dl : Nat) : Context.new_src dl = some Impl.Sha3.Context.new := by
  simp [Context.new_src, Sha3.Engine.new_src_eq_model, Impl.Sha3.Context.new]
theorem Context.update_mut_src_eq_model (dl : Nat) (c : Impl.Sha3.Context) (data : Bytes) (hd : data.length < 2 ^ 64) :
    Context.update_mut_src dl c data = Impl.Sha3.Context.update_mut dl c data := by
  unfold Context.update_mut_src Impl.Sha3.Context.update_mut
  rw [Sha3.Engine.process_src_eq_model dl 0 c data hd]
  cases Engine.process dl c data <;> rfl
theorem Context.update_src_eq_model (dl : Nat) (c : Impl.Sha3.Context) (data : Bytes) (hd : data.length < 2 ^ 64) :
    Context.update_src dl c data = Impl.Sha3.Context.update dl c data := by
  unfold Context.update_src Impl.Sha3.Context.update
  rw [Sha3.Engine.process_src_eq_model dl 0 c data hd]
  cases Engine.process dl c data <;> rfl
/-- `finalize_reset` with the Keccak domain separation length 0 (unconditional, as for the SHA-3 contexts) -/
theorem Context.finalize_reset_src_eq_model (dl : Nat) (c : Impl.Sha3.Context) :
    Context.finalize_reset_src dl c = Impl.Sha3.Context.finalize_reset dl 0 c := by
  unfold Context.finalize_reset_src Impl.Sha3.Context.finalize_reset
  show (Cx.Extracted.GlueSponge.Sha3.Engine.output_src dl 0 c (zeros dl)).bind _ = _
  rw [Cx.Props.C02.GlueTieSponge.Sha3.Engine.output_src_digest]
  cases Engine.output dl 0 c dl with
  | none => rfl
  | some p => simp [Sha3.Engine.reset_src_eq_model]
theorem Context.finalize_src_eq_model (dl : Nat) (c : Impl.Sha3.Context) :
    Context.finalize_src dl c = Impl.Sha3.Context.finalize dl 0 c := by
  unfold Context.finalize_src Impl.Sha3.Context.finalize
  show (Cx.Extracted.GlueSponge.Sha3.Engine.output_src dl 0 c (zeros dl)).bind _ = _
  rw [Cx.Props.C02.GlueTieSponge.Sha3.Engine.output_src_digest]
  cases Engine.output dl 0 c dl with
  | none => rfl
  | some p => rfl
theorem Context.reset_src_eq_model (dl : Nat) (c : Impl.Sha3.Context) : Context.reset_src dl c = some (Impl.Sha3.Context.reset c) := by
  simp [Context.reset_src, Sha3.Engine.reset_src_eq_model, Impl.Sha3.Context.reset]
theorem Algorithm.new_src_eq_model (dl : Nat) : Algorithm.new_src dl = some Impl.Sha3.Context.new := by
  simp [Algorithm.new_src, Context.new_src_eq_model]
/-- capstone on GENERATED definitions only: `Keccak::new().update(msg).finalize()` as the source says it now is the model's
    one-shot `hash dl 0` (= `keccak224 … keccak512` for dl = 28, 32, 48, 64; `= Spec` by Props/C01) -/
theorem keccak_src_eq_hash (dl : Nat) (msg : Bytes) (hm : msg.length < 2 ^ 64) :
    ((Algorithm.new_src dl).bind fun c => (Context.update_src dl c msg).bind fun c => Context.finalize_src dl c) = hash dl 0 msg := by
  rw [Algorithm.new_src_eq_model]
  simp only [Option.bind_some, Context.update_src_eq_model dl _ msg hm, Impl.Sha3.hash]
  cases Impl.Sha3.Context.update dl Impl.Sha3.Context.new msg with
  | none => rfl
  | some c => simp [Context.finalize_src_eq_model]
end Keccak

/-! ## (c) src/curve25519/fe/load.rs, scalar/scalar32.rs (small functions), fe/fe32/mod.rs (compositions) -/

namespace Load
open Cx.Extracted.GlueRest.Load
/-- `load_3u` / `load_4u`: the OR of the shifted bytes (a slice shorter than 3 / 4 bytes panics: `none`) -/
theorem load_3u_src_eq (a b c : UInt8) (rest : Bytes) :
    load_3u_src (a :: b :: c :: rest) = some (a.toUInt64 ||| (b.toUInt64 <<< (8 : UInt64)) ||| (c.toUInt64 <<< (16 : UInt64))) :=
  load_3u_src_cons a b c rest
theorem load_4u_src_eq (a b c d : UInt8) (rest : Bytes) :
    load_4u_src (a :: b :: c :: d :: rest) =
      some (a.toUInt64 ||| (b.toUInt64 <<< (8 : UInt64)) ||| (c.toUInt64 <<< (16 : UInt64)) ||| (d.toUInt64 <<< (24 : UInt64))) :=
  load_4u_src_cons a b c d rest
theorem load_short (s : Bytes) : (s.length < 3 → load_3u_src s = none ∧ load_3i_src s = none) ∧
    (s.length < 4 → load_4u_src s = none ∧ load_4i_src s = none) := by
  constructor <;> intro h
  · match s, h with
    | [], _ => exact ⟨rfl, rfl⟩
    | [_], _ => exact ⟨rfl, rfl⟩
    | [_, _], _ => exact ⟨rfl, rfl⟩
  · match s, h with
    | [], _ => exact ⟨rfl, rfl⟩
    | [_], _ => exact ⟨rfl, rfl⟩
    | [_, _], _ => exact ⟨rfl, rfl⟩
    | [_, _, _], _ => exact ⟨rfl, rfl⟩
/-- `load_3i(&b[i..i+3])` / `load_4i(&b[i..i+4])` are the loads of the fe32 model (`Impl.Fe32.from_bytes`) -/
theorem load_3i_src_eq_model_fe32 (b : Bytes) (h : b.length = 32) (i : Nat) (hi : i + 2 < 32) :
    load_3i_src ((b.drop i).take 3) = some (Impl.Fe32.load_3i b h i hi) := by
  rw [load_3i_src_window b i (by omega)]; rfl
theorem load_4i_src_eq_model_fe32 (b : Bytes) (h : b.length = 32) (i : Nat) (hi : i + 3 < 32) :
    load_4i_src ((b.drop i).take 4) = some (Impl.Fe32.load_4i b h i hi) := by
  rw [load_4i_src_window b i (by omega)]; rfl
/-- … and the loads of the scalar32 model (`reduce_from_wide_bytes`, `muladd`), on a window and on the whole array (`load_3i(s)`) -/
theorem load_3i_src_eq_model_sc32 {n : Nat} (s : Vector UInt8 n) (o : Nat) (ho : o + 2 < n) :
    load_3i_src ((s.toList.drop o).take 3) = some (Impl.Scalar32.load_3 s o) := by
  rw [load_3i_src_window s.toList o (by simpa using ho)]
  simp [Impl.Scalar32.load_3, List.getD_eq_getElem?_getD, show o < n by omega, show o + 1 < n by omega, ho]
theorem load_4i_src_eq_model_sc32 {n : Nat} (s : Vector UInt8 n) (o : Nat) (ho : o + 3 < n) :
    load_4i_src ((s.toList.drop o).take 4) = some (Impl.Scalar32.load_4 s o) := by
  rw [load_4i_src_window s.toList o (by simpa using ho)]
  simp [Impl.Scalar32.load_4, List.getD_eq_getElem?_getD, show o < n by omega, show o + 1 < n by omega, show o + 2 < n by omega, ho]
theorem load_3i_src_whole_eq_model_sc32 {n : Nat} (s : Vector UInt8 n) (hn : 2 < n) :
    load_3i_src s.toList = some (Impl.Scalar32.load_3 s 0) := by
  have h := drop_eq_cons3 s.toList 0 (by simpa using hn)
  rw [List.drop_zero] at h
  rw [h, load_3i_src_cons]
  simp [Impl.Scalar32.load_3, List.getD_eq_getElem?_getD, show 0 < n by omega, show 1 < n by omega, hn]
end Load

namespace Scalar32
open Cx.Impl.Scalar32 Cx.Extracted.GlueRest.Scalar32
theorem structs_checked : Scalar_struct_src = () := rfl
theorem from_bytes_src_eq_model (b : Vector UInt8 32) : from_bytes_src b = from_bytes b := rfl
theorem to_bytes_src_eq_model (s : Scalar) : (to_bytes_src s).toList = to_bytes s := rfl
/-- the nested `fn check_s_lt_l`: the `loop` from i = 31 down to 0 with its `break` is the model's fold over the reversed bytes; the checked
    `i32` subtractions never overflow; the fuel 32 is never exhausted — for EVERY 32-byte string (`L` is the re-extracted constant) -/
theorem check_s_lt_l_src_eq_model (s : Vector UInt8 32) : check_s_lt_l_src s = some (check_s_lt_l s) := by
  obtain ⟨c', n', e, hf⟩ := loop_run s 31 (by omega) 0 1
  rw [List.take_of_length_le (by simp), List.take_of_length_le (by rw [Proofs.Scalar32.L_length]; omega)] at hf
  unfold check_s_lt_l_src check_s_lt_l check_with
  simp only [Option.bind_eq_bind, Option.pure_def, e, Option.bind_some]
  show some (decide (c' = 0)) = some ((List.foldl _ ((0 : UInt8).toNat, (1 : UInt8).toNat) _).1 == 0)
  rw [← hf]
  simp only [← UInt8.toNat_inj]; rfl
theorem from_bytes_canonical_src_eq_model (b : Vector UInt8 32) : from_bytes_canonical_src b = some (from_bytes_canonical b) := by
  simp [from_bytes_canonical_src, check_s_lt_l_src_eq_model, from_bytes_canonical, from_bytes_src_eq_model]
/-- `bits`: no index of the `for i in 0..256` loop is out of range, no shift amount ≥ 8; the 256 digits are the model's -/
theorem bits_src_eq_model (s : Scalar) : bits_src s = some (bits s) := by
  unfold bits_src
  simp only [Option.bind_eq_bind, Option.pure_def, Nat.sub_zero]
  rw [forRange_fill (bits_src_for1 s) (bitAt s) 256 _ (List.length_replicate ..) (fun i r' hi hr => bits_body s i r' hi hr)]
  rfl
/-- `nibbles`: `2 * i + 0`, `2 * i + 1` never overflow / leave `[i8; 64]`; the 64 digits are the model's -/
theorem nibbles_src_eq_model (s : Scalar) : nibbles_src s = some (nibbles s) := by
  unfold nibbles_src
  simp only [Option.bind_eq_bind, Option.pure_def, Nat.sub_zero]
  rw [forRange_slots 2 32 (nibbles_src_for1 s) (fun i => [nibLo (s.toList[i]?.getD 0), nibHi (s.toList[i]?.getD 0)]) (fun _ => rfl) _
    (by simp) fun i es hi hl => by
      have he : es.length = 64 := by simpa using hl
      rw [nibbles_body s i es hi he, set_set_eq_slot _ _ _ _ (by omega)]
      simp [Vector.getElem?_eq_getElem hi]]
  have hm := range_flatMap_getD s.toList 0 fun a => [nibLo a, nibHi a]
  rw [Vector.length_toList] at hm
  rw [hm, Proofs.GlueVocab.splice_all (by rw [Proofs.Bytes.length_flatMap_const _ 2 (fun _ => rfl), Vector.length_toList]; rfl)]
  rfl
end Scalar32

namespace Scalar32Muladd
open Cx.Impl.Scalar32 Cx.Extracted.GlueRest.Scalar32Muladd
open Cx.Proofs.GlueRestMuladd in
set_option maxRecDepth 100000 in
/-- `scalar32::muladd` (sc_muladd): the three generated stages (loads + column sums, rounded carries, reduction by L + output bytes —
    a partition of the statements of the function, re-checked on every run) compose to the hand model, for ALL inputs, INCLUDING where an
    overflow-checked build would panic (`none`): about 1000 checked i64 operations compared one by one.  (`Props/C17/Sc32.lean` proves
    that model equal to `(a·b + c) mod L` with no overflow.) -/
theorem muladd_src_eq_model (a b c : Scalar) : muladd_src a b c = muladd a b c := by
  unfold muladd_src muladd muladd_cols_src muladd_limbs
  -- the generated tail is `reduce_limbs` followed by `pack`; the model has `reduce_limbs` inlined, so unfolding it on the source
  -- side compares it with its own text; the stages of the source are unfolded as the walk reaches them
  simp only [sum64o_cons, sumChain, tail_src_eq]
  bind_walk [muladd_carry_src, carryR, reduce_limbs]
/-- the reduction tail of `muladd` is the reduction of `reduce_from_wide_bytes` (`reduce_limbs`) followed by the packing -/
theorem muladd_tail_src_eq_model (s0 s1 s2 s3 s4 s5 s6 s7 s8 s9 s10 s11 s12 s13 s14 s15 s16 s17 s18 s19 s20 s21 s22 s23 : Int) :
    muladd_tail_src s0 s1 s2 s3 s4 s5 s6 s7 s8 s9 s10 s11 s12 s13 s14 s15 s16 s17 s18 s19 s20 s21 s22 s23 =
      (reduce_limbs s0 s1 s2 s3 s4 s5 s6 s7 s8 s9 s10 s11 s12 s13 s14 s15 s16 s17 s18 s19 s20 s21 s22 s23).bind fun t => some (pack t) :=
  Cx.Proofs.GlueRestMuladd.tail_src_eq _ _ _ _ _ _ _ _ _ _ _ _ _ _ _ _ _ _ _ _ _ _ _ _
end Scalar32Muladd

namespace Fe32
open Cx.Impl.Fe32 Cx.Extracted.GlueRest.Fe32
theorem structs_checked : Fe_struct_src = () := rfl
theorem ct_eq_src_eq_model (f g : Fe) : ct_eq_src f g = ct_eq f g := rfl
theorem ct_ne_src_eq_model (f g : Fe) : ct_ne_src f g = (ct_eq f g).map Impl.CT.Choice.negate := by
  unfold ct_ne_src; rw [ct_eq_src_eq_model]; cases ct_eq f g <;> rfl
theorem eq_src_eq_model (f g : Fe) : eq_src f g = eq f g := rfl
theorem maybe_swap_with_src_eq_model (f g : Fe) (c : Impl.CT.Choice) : maybe_swap_with_src f g c = maybe_swap_with f g c := rfl
theorem maybe_set_src_eq_model (f g : Fe) (c : Impl.CT.Choice) : maybe_set_src f g c = maybe_set f g c := rfl
/-- `square_repeatdly`: the `for _ in 0..n` loop is the model's recursion, for every `n` (in particular `n = 0` squares nothing: defect k) -/
theorem square_repeatdly_src_eq_model (f : Fe) (n : Nat) : square_repeatdly_src f n = square_repeatdly f n := by
  unfold square_repeatdly_src
  simp only [Option.bind_eq_bind, Option.pure_def, Nat.sub_zero, square_loop]
  cases square_repeatdly f n <;> rfl
/-- `emul(a, b)`: the exact product of two `i32` never overflows `i64` (the `emul` the limb kernels of Props/C17/KernelTieB32 use) -/
theorem emul_src_eq_model (a b : Int) (ha : -2 ^ 31 ≤ a ∧ a < 2 ^ 31) (hb : -2 ^ 31 ≤ b ∧ b < 2 ^ 31) : emul_src a b = some (emul a b) := by
  have h : (a * b).natAbs ≤ 2 ^ 31 * 2 ^ 31 := by
    rw [Int.natAbs_mul]
    exact Nat.mul_le_mul (by omega) (by omega)
  simp only [emul_src, ick, emul]
  rw [if_pos (by omega)]
theorem is_nonzero_src_eq_model (f : Fe) : is_nonzero_src f = is_nonzero f := rfl
theorem is_negative_src_eq_model (f : Fe) : is_negative_src f = is_negative f := by
  unfold is_negative_src is_negative
  simp only [Option.bind_eq_bind, Option.pure_def]
  cases to_bytes f with
  | none => rfl
  | some b =>
    cases b with
    | nil => rfl
    | cons b0 t =>
      simp only [idx, List.getElem?_cons_zero, Option.bind_some, bne]
      generalize (b0 &&& 1) = x
      cases h : decide (x = 0) <;> simp_all
end Fe32

/-! ## (d) scrypt.rs `salsa20_8`, argon2.rs `Block` views / indexing, cryptoutil.rs `xor_array64_mut` -/

namespace Scrypt
open Cx.Impl.Kdf Cx.Extracted.GlueRest.Scrypt
/-- one iteration of `for _ in 0..rounds / 2`: the 32 statements EXPANDED from `run_round!` and its invocation as the source has them now
    are the model's fold over the re-extracted row table (checked by the kernel on symbolic words) -/
theorem run_round_src_eq_model (i : Nat) (x : Vector UInt32 16) : salsa20_8_src_for1 i x = run_round x := salsa_for1_eq i x
/-- `salsa20_8(input, output)`: the length test of `read_u32v_le`, the word loading, `rounds / 2` double rounds, the feed-forward written
    word by word into `output[4i..4i+4]` — for EVERY input (a length ≠ 64 panics) and every output buffer of at least 64 bytes
    (bytes beyond 64 are kept); no index computation overflows, no slice is out of range -/
theorem salsa20_8_src_eq_model_on (input output : Bytes) (ho : 64 ≤ output.length) :
    salsa20_8_src input output = (salsa20_8 input).map (· ++ output.drop 64) := by
  unfold salsa20_8_src salsa20_8 read_u32v_le_vec
  by_cases hin : 16 * 4 = input.length
  · rw [if_pos hin, if_neg (not_not_intro hin)]
    simp only [Option.bind_eq_bind, Option.pure_def]
    -- `rw`, not `simp`: as a definitional step `Option.bind_some` makes the kernel run the rounds on the symbolic words
    rw [Option.bind_some, salsa_rounds_loop, Nat.sub_zero, show Extracted.MacKdf.SCRYPT_ROUNDS = 8 from rfl]
    cases salsa_rounds (8 / 2) _ with
    | none => rfl
    | some x' =>
      rw [Option.bind_some, salsa_for2_loop input x' hin.symm output ho, ← finRange_flatMap]
      simp [ffWord]
  · rw [if_neg hin, if_pos hin]; rfl
/-- … on the 64-byte buffer every caller passes (`scrypt_block_mix`): exactly the model's function -/
theorem salsa20_8_src_eq_model (input output : Bytes) (ho : output.length = 64) : salsa20_8_src input output = salsa20_8 input := by
  rw [salsa20_8_src_eq_model_on input output (by omega), List.drop_eq_nil_of_le (by omega)]
  cases salsa20_8 input <;> simp
end Scrypt

namespace Argon2Block
open Cx.Impl.Argon2 Cx.Spec.Argon2 Cx.Extracted.GlueRest.Argon2Block Cx.Extracted.GlueRest.CryptoUtil
theorem structs_checked : Block_struct_src = () := rfl
/-- THE VIEW LEMMA: the `unsafe` casts `&[u64; 128] -> &[u8; 1024]` of `as_u8` / `as_u8_mut` are defined (sizes agree: `BLOCK_SIZE = 8 *
    BLOCK_SIZE_U64`, read from the source) and are the little-endian byte view `Block.as_u8` of the model (x86-64 and every little-endian target) -/
theorem as_u8_src_eq_model (b : Block) : as_u8_src b = some (Block.as_u8 b) := by
  simp [as_u8_src, viewLE64, Block.as_u8]
theorem as_u8_mut_get_src_eq_model (b : Block) : as_u8_mut_get_src b = some (Block.as_u8 b) := by
  simp [as_u8_mut_get_src, viewLE64, Block.as_u8]
/-- storing 1024 bytes through the `&mut` view gives the model's `Block.of_u8` (another length cannot be stored: the view has type `[u8; 1024]`) -/
theorem as_u8_mut_set_src_eq_model (b : Block) (v : Bytes) (hv : v.length = 1024) : as_u8_mut_set_src b v = some (Block.of_u8 v) := by
  simp only [as_u8_mut_set_src, unviewLE64, hv, and_self, if_true, Option.bind_eq_bind, Option.bind_some, Option.pure_def, vecOfList]
  simp only [List.length_map, List.length_range, dite_true, Option.bind_some]
  refine congrArg some ?_
  apply Vector.ext
  intro i hi
  simp [Block.of_u8]
theorem of_u8_as_u8 (b : Block) : Block.of_u8 (Block.as_u8 b) = b := Cx.Proofs.Argon2.blockOfBytes_bytesOfBlock b
/-- `impl Index<usize> / IndexMut<usize> for Block`: bounds-checked access to the 128 words -/
theorem index_src_eq_model (b : Block) (i : Nat) : index_src b i = b[i]? := by simp [index_src]
theorem index_mut_get_src_eq_model (b : Block) (i : Nat) : index_mut_get_src b i = b[i]? := by simp [index_mut_get_src]
theorem index_mut_set_src_eq_model (b : Block) (i : Nat) (v : UInt64) :
    index_mut_set_src b i v = if h : i < 128 then some (b.set i v h) else none := by
  simp [index_mut_set_src, vupd]
/-- `cryptoutil::xor_array64_mut` (both arrays of the static length N) and its use in `impl BitXorAssign<&Block> for Block` -/
theorem xor_array64_mut_src_eq_model (a b : List UInt64) : xor_array64_mut_src a b = List.zipWith (· ^^^ ·) a b := rfl
theorem bitxor_assign_eq_src (a b : Block) : (Block.bitxor_assign a b).toList = xor_array64_mut_src a.toList b.toList := by
  simp [Block.bitxor_assign, xor_array64_mut_src]
end Argon2Block

/-! ## further leftovers of tools/tie_coverage.py: chacha/reference.rs `output_ad_bytes`, simd.rs, the `sigma0/1` of the SHA-512 schedule -/

namespace ChaChaRef
open Cx.Extracted.GlueRest.ChaChaRef
theorem structs_checked : State_struct_src = () := rfl
/-- `reference::State::output_ad_bytes` into its 32-byte buffer: words 0..4 and 12..16, little-endian (no slice out of range, both
    `write_u32v_le` length tests hold) = the model's `Reference.output_ad_bytes` (HChaCha) -/
theorem output_ad_bytes_src_eq_model (w : Impl.W16) (output : Bytes) (ho : output.length = 32) :
    output_ad_bytes_src w output = some (Impl.ChaCha.Reference.output_ad_bytes w) := by
  have hr : (List.drop 16 output).length = 16 := by simp [ho]
  have key := take_drop_16 (u32le w.x0 ++ (u32le w.x1 ++ (u32le w.x2 ++ u32le w.x3))) (u32le w.x12 ++ (u32le w.x13 ++ (u32le w.x14 ++ u32le w.x15)))
    (List.drop 16 output) (by simp [Cx.Proofs.Bytes.u32le_length]) hr
  unfold output_ad_bytes_src
  simp only [write_u32v_le, Impl.W16.toList, List.drop, List.take, List.length, Option.bind_eq_bind, Option.pure_def]
  simp [copyInto, ho, Cx.Proofs.Bytes.u32le_length, Impl.ChaCha.Reference.output_ad_bytes]
  simpa [List.append_assoc] using key
end ChaChaRef

namespace Simd
open Cx.Extracted.GlueRest.Simd
open Cx.Impl.Sha1 (u32x4)
open Cx.Impl.Sha2.Impl512 (u64x2)
/-- the operators of the portable `simd::fake` module the hash cores use are the model's instances -/
theorem u32x4.add_src_eq_model (a b : u32x4) : u32x4.add_src a b = a + b := rfl
theorem u32x4.bitxor_src_eq_model (a b : u32x4) : u32x4.bitxor_src a b = a ^^^ b := rfl
theorem u64x2.add_src_eq_model (a b : u64x2) : u64x2.add_src a b = a + b := rfl
/-- the remaining operators (not used by any caller in the crate; the models have no counterpart): lane-wise, as written -/
theorem u32x4.sub_src_lanes (a b : u32x4) : u32x4.sub_src a b = ⟨a.x0 - b.x0, a.x1 - b.x1, a.x2 - b.x2, a.x3 - b.x3⟩ := rfl
theorem u32x4.bitand_src_lanes (a b : u32x4) : u32x4.bitand_src a b = ⟨a.x0 &&& b.x0, a.x1 &&& b.x1, a.x2 &&& b.x2, a.x3 &&& b.x3⟩ := rfl
theorem u32x4.bitor_src_lanes (a b : u32x4) : u32x4.bitor_src a b = ⟨a.x0 ||| b.x0, a.x1 ||| b.x1, a.x2 ||| b.x2, a.x3 ||| b.x3⟩ := rfl
/-- shifts: defined exactly for amounts below 32 (an overflow-checked build panics otherwise) -/
theorem u32x4.shl_usize_src_eq (a : u32x4) (n : Nat) (hn : n < 32) :
    u32x4.shl_usize_src a n = some ⟨a.x0 <<< UInt32.ofNat n, a.x1 <<< UInt32.ofNat n, a.x2 <<< UInt32.ofNat n, a.x3 <<< UInt32.ofNat n⟩ := by
  simp [u32x4.shl_usize_src, shlW32, hn]
theorem u32x4.shr_usize_src_eq (a : u32x4) (n : Nat) (hn : n < 32) :
    u32x4.shr_usize_src a n = some ⟨a.x0 >>> UInt32.ofNat n, a.x1 >>> UInt32.ofNat n, a.x2 >>> UInt32.ofNat n, a.x3 >>> UInt32.ofNat n⟩ := by
  simp [u32x4.shr_usize_src, shrW32, hn]
theorem u32x4.shl_lanes_src_eq (a b : u32x4) (h : b.x0.toNat < 32 ∧ b.x1.toNat < 32 ∧ b.x2.toNat < 32 ∧ b.x3.toNat < 32) :
    u32x4.shl_lanes_src a b = some ⟨a.x0 <<< b.x0, a.x1 <<< b.x1, a.x2 <<< b.x2, a.x3 <<< b.x3⟩ := by
  simp [u32x4.shl_lanes_src, shlW32, h.1, h.2.1, h.2.2.1, h.2.2.2]
theorem u32x4.shr_lanes_src_eq (a b : u32x4) (h : b.x0.toNat < 32 ∧ b.x1.toNat < 32 ∧ b.x2.toNat < 32 ∧ b.x3.toNat < 32) :
    u32x4.shr_lanes_src a b = some ⟨a.x0 >>> b.x0, a.x1 >>> b.x1, a.x2 >>> b.x2, a.x3 >>> b.x3⟩ := by
  simp [u32x4.shr_lanes_src, shrW32, h.1, h.2.1, h.2.2.1, h.2.2.2]
end Simd

namespace Sha2Out
open Cx.Impl Cx.Impl.Sha2
/-! the `#[allow(dead_code)]` fixed-size output functions of eng256.rs / eng512.rs are the `_at` functions (tied by GlueTieMd) on a buffer of
    their static size -/
theorem structs_checked : Sha2Eng256.Engine_struct_src = () ∧ Sha2Eng256.STATE_LEN_src = () ∧ Sha2Eng512.Engine_struct_src = () ∧
    Sha2Eng512.STATE_LEN_src = () := ⟨rfl, rfl, rfl, rfl⟩
theorem eng256_output_224bits_src_eq_model (e : Eng256.Engine) (out : Bytes) (ho : out.length = 28) :
    Sha2Eng256.output_224bits_src e out = e.output_224bits_at out := by
  unfold Sha2Eng256.output_224bits_src Eng256.Engine.output_224bits_at
  simp [Impl.slice, copy_from_slice, ho, write_u32v_be, Spec.Sha2.W8.toList, Cx.Proofs.Bytes.u32be_length]
theorem eng256_output_256bits_src_eq_model (e : Eng256.Engine) (out : Bytes) (ho : out.length = 32) :
    Sha2Eng256.output_256bits_src e out = e.output_256bits_at out := by
  unfold Sha2Eng256.output_256bits_src Eng256.Engine.output_256bits_at
  simp [Impl.slice, copy_from_slice, ho, write_u32v_be, Spec.Sha2.W8.toList, Cx.Proofs.Bytes.u32be_length]
theorem eng512_output_224bits_src_eq_model (e : Eng512.Engine) (out : Bytes) (ho : out.length = 28) :
    Sha2Eng512.output_224bits_src e out = e.output_224bits_at out := by
  unfold Sha2Eng512.output_224bits_src Eng512.Engine.output_224bits_at
  simp [Impl.slice, copy_from_slice, Extracted.GlueRest.copyInto, ho, write_u64v_be, write_u32_be, idx, Spec.Sha2.W8.toList,
    Cx.Proofs.Bytes.u64be_length, Cx.Proofs.Bytes.u32be_length]
theorem eng512_output_nbits_src_eq_model (e : Eng512.Engine) (out : Bytes) :
    Sha2Eng512.output_256bits_src e out = e.output_256bits_at out ∧ Sha2Eng512.output_384bits_src e out = e.output_384bits_at out ∧
    Sha2Eng512.output_512bits_src e out = e.output_512bits_at out := by
  refine ⟨?_, ?_, ?_⟩
  · unfold Sha2Eng512.output_256bits_src Eng512.Engine.output_256bits_at
    simp
  · unfold Sha2Eng512.output_384bits_src Eng512.Engine.output_384bits_at
    simp
  · unfold Sha2Eng512.output_512bits_src Eng512.Engine.output_512bits_at
    simp
end Sha2Out

namespace Sha512Ref
open Cx.Extracted.GlueRest.Sha512Ref
/-- the nested `sigma0` / `sigma1` of `schedule_x2` (`rotate_left(63)` = the model's `rotate_left x 63`, i.e. a right rotation by 1, …) -/
theorem sigma0_src_eq_model (x : UInt64) : sigma0_src x = Impl.Sha2.Impl512.sigma0 x := rfl
theorem sigma1_src_eq_model (x : UInt64) : sigma1_src x = Impl.Sha2.Impl512.sigma1 x := rfl
end Sha512Ref

end Cx.Props.C20.GlueTieRest
