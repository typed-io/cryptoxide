/-
  Props.C20.HashLen (unit `hashlen`) — C20, "hash length counters": the byte counters `processed_bytes` of the
  Merkle–Damgård hashes (u64: SHA-1, SHA-224/256, RIPEMD-160; u128: SHA-384/512/512-224/512-256) can neither
  overflow nor be truncated below the standards' length limits, and the digest a context produces after its counter
  was preset anywhere (hook `verif_set_processed_bytes`, block-aligned N) is the standard's chain over the padding
  for the TOTAL length.  The same theorems are the C01 statement "digest = standard function" at totals that no
  test message can reach (2^29, 2^32, 2^61 − 1, 2^64, 2^125 − 1 … bytes).

  (1) counter clause: inside the standard's domain (< 2^61 resp. < 2^125 bytes) `processed_bytes += len` does not
      overflow (checked = wrapping = mathematical sum) and `finish` from ANY well-formed state writes exactly the
      standard's length field of the bit length `8·processed_bytes`: all 64 (128) bits, nothing dropped by `<< 3`,
      no word of RIPEMD-160's `(pb << 3) as u32`, `(pb >> 29) as u32` pair lost; decoding the field returns `8·pb`.
  (2) `new(); verif_set_processed_bytes(N); update(m); finalize()` on the model = `Spec.HashLen.tailDigest alg N m`
      for EVERY block-aligned N and EVERY m (beyond the domain both sides keep the low 64 / 128 bits of the bit
      length — the model with the wrapping `+=` of the release build; overflow-checked builds panic once the byte
      counter itself passes 2^64 / 2^128, which is outside the standard's domain and outside the correspondence).
  (3) what the Spec means: inside the domain its `% 2^(8·L)` is the identity; `tailHash` started from the chaining
      value after a block-aligned prefix P finishes `Spec.MD.hash` of `P ‖ m`; `tailDigest alg 0 m` is the digest.

  Model: Impl/HashLen.lean (the hook: replaces the `processed_bytes` field) on top of Impl/{Sha2,Sha1,Ripemd160}.lean;
  tied to /repo by the `hlen.<alg>` correspondence in the debug, release+checks and plain release builds.
-/
import CxVerif.Proofs.HashLen
namespace Cx.Props.C20.HashLen
open Cx Cx.Impl Cx.Proofs.FB Cx.Spec.HashLen

/-! ### (1) the counters cannot overflow or be truncated below the standards' limits -/

/-- `Engine256::input` (SHA-224/256): below 2^64 total the `+=` on the u64 counter is the mathematical sum, so an
    overflow-checked build does not panic and a wrapping build does not wrap — in particular below 2^61 -/
theorem engine256_counter_exact (e e' : Sha2.Engine256) (inp : Bytes) (h : e.input inp = some e')
    (hfit : e.processed_bytes + inp.length < 2 ^ 64) : e'.processed_bytes = e.processed_bytes + inp.length := by
  unfold Sha2.Engine256.input at h
  split at h
  · cases h
  · split at h
    · cases h
    · cases h; exact Nat.mod_eq_of_lt hfit

/-- `Engine512::input` (SHA-384/512/512-224/512-256): the u128 counter -/
theorem engine512_counter_exact (e e' : Sha2.Engine512) (inp : Bytes) (h : e.input inp = some e')
    (hfit : e.processed_bytes + inp.length < 2 ^ 128) : e'.processed_bytes = e.processed_bytes + inp.length := by
  unfold Sha2.Engine512.input at h
  split at h
  · cases h
  · cases h; exact Nat.mod_eq_of_lt hfit

/-- SHA-1 `update_mut`: `processed_bytes += input.len() as u64` -/
theorem sha1_counter_exact (c c' : Sha1.Context) (inp : Bytes) (h : c.update_mut inp = some c')
    (hfit : c.processed_bytes.toNat + inp.length < 2 ^ 64) :
    c'.processed_bytes.toNat = c.processed_bytes.toNat + inp.length := by
  unfold Sha1.Context.update_mut at h
  split at h
  · cases h
  · cases h
    simp only [UInt64.toNat_add, UInt64.toNat_ofNat']
    omega

theorem ripemd160_counter_exact (c c' : Ripemd160.Context) (inp : Bytes) (h : c.update_mut inp = some c')
    (hfit : c.processed_bytes.toNat + inp.length < 2 ^ 64) :
    c'.processed_bytes.toNat = c.processed_bytes.toNat + inp.length := by
  unfold Ripemd160.Context.update_mut at h
  split at h
  · cases h
  · cases h
    simp only [UInt64.toNat_add, UInt64.toNat_ofNat']
    omega

example : (2 ^ 61 - 64 : Nat) + 63 < 2 ^ 64 ∧ (2 ^ 125 - 128 : Nat) + 127 < 2 ^ 128 := by decide

/-- the 64-bit big-endian field `(processed_bytes << 3).to_be_bytes()` (SHA-1, SHA-224/256): for a counter below
    2^61 it is the standard's encoding of `8·pb`, eight bytes, and decodes to `8·pb` — no bit is lost -/
theorem length_field_be64_exact (pb : Nat) (h : pb < 2 ^ 61) :
    len_be64 pb = Spec.MD.be64 (8 * pb) ∧ (len_be64 pb).length = 8 ∧ beNat (len_be64 pb) = 8 * pb :=
  Cx.Proofs.HashLen.lenField_be_exact 8 pb (by omega)

/-- the 128-bit big-endian field (SHA-384/512/512-224/512-256), counter below 2^125 -/
theorem length_field_be128_exact (pb : Nat) (h : pb < 2 ^ 125) :
    len_be128 pb = Spec.MD.be128 (8 * pb) ∧ (len_be128 pb).length = 16 ∧ beNat (len_be128 pb) = 8 * pb :=
  Cx.Proofs.HashLen.lenField_be_exact 16 pb (by omega)

/-- RIPEMD-160: the two little-endian words `(pb << 3) as u32`, `(pb >> 29) as u32` written one after the other are
    the 64-bit little-endian bit length and decode to `8·pb` — neither word is lost or swapped -/
theorem length_field_le64_exact (pb : Nat) (h : pb < 2 ^ 61) :
    (len_le64_split pb).1 ++ (len_le64_split pb).2 = Spec.MD.le64 (8 * pb)
    ∧ ((len_le64_split pb).1 ++ (len_le64_split pb).2).length = 8
    ∧ leNat ((len_le64_split pb).1 ++ (len_le64_split pb).2) = 8 * pb := by
  have e : (len_le64_split pb).1 ++ (len_le64_split pb).2 = Spec.MD.le64 (8 * pb) := by
    have := len_le64_split_eq h; rwa [Nat.mod_eq_of_lt (by omega)] at this
  refine ⟨e, ?_, ?_⟩
  · rw [e]; exact Cx.Proofs.Bytes.natToLE_length _ _
  · rw [e, Spec.MD.le64, Cx.Proofs.Bytes.leNat_natToLE]
    exact Nat.mod_eq_of_lt (by omega)

example : (2 ^ 61 - 1 : Nat) < 2 ^ 61 ∧ (2 ^ 125 - 1 : Nat) < 2 ^ 125 := by decide

section
open Cx.Proofs.Sha2Engine

/-- `Engine256::finish` from ANY well-formed unfinished state whose counter is below 2^61: no panic, and the blocks
    compressed are exactly `buffered bytes ‖ 0x80 ‖ 0^z ‖ BE-64(8·processed_bytes)` (z the FIPS zero count) -/
theorem engine256_finish_writes_bit_length (e : Sha2.Engine256) (hwf : WF 64 e.buffer) (hf : e.finished = false)
    (hpb : e.processed_bytes < 2 ^ 61) :
    ∃ e', e.finish = some e' ∧ e'.processed_bytes = e.processed_bytes ∧
      e'.state = (fullBlocks 64 (e.buffer.data ++ [(0x80 : UInt8)]
        ++ zeros (Spec.MD.padZeros 64 8 e.buffer.data.length) ++ Spec.MD.be64 (8 * e.processed_bytes))).foldl
          compressE256 e.state := by
  obtain ⟨b', eq, _⟩ := Cx.Proofs.Md.fin_any eng256 hwf hf
  exact ⟨_, eq, rfl, by rw [← (length_field_be64_exact _ hpb).1]⟩

/-- `Engine512::finish`, counter below 2^125: `buffered ‖ 0x80 ‖ 0^z ‖ BE-128(8·processed_bytes)` -/
theorem engine512_finish_writes_bit_length (e : Sha2.Engine512) (hwf : WF 128 e.buffer)
    (hpb : e.processed_bytes < 2 ^ 125) :
    ∃ e', e.finish = some e' ∧ e'.processed_bytes = e.processed_bytes ∧
      e'.state = (fullBlocks 128 (e.buffer.data ++ [(0x80 : UInt8)]
        ++ zeros (Spec.MD.padZeros 128 16 e.buffer.data.length) ++ Spec.MD.be128 (8 * e.processed_bytes))).foldl
          compressE512 e.state := by
  obtain ⟨b', eq, _⟩ := Cx.Proofs.Md.fin_any eng512 hwf trivial
  exact ⟨_, eq, rfl, by rw [← (length_field_be128_exact _ hpb).1]⟩

end

section
open Cx.Proofs.Sha1Stream

/-- SHA-1 `mk_result` from ANY well-formed state, counter below 2^61 -/
theorem sha1_mk_result_writes_bit_length (c : Sha1.Context) (hwf : WF 64 c.buffer)
    (hpb : c.processed_bytes.toNat < 2 ^ 61) :
    ∃ c', Sha1.Context.mk_result c = some (c', ((fullBlocks 64 (c.buffer.data ++ [(0x80 : UInt8)]
        ++ zeros (Spec.MD.padZeros 64 8 c.buffer.data.length)
        ++ Spec.MD.be64 (8 * c.processed_bytes.toNat))).foldl Spec.Sha1.compressBytes c.h).toBytes) := by
  obtain ⟨b', eq, _⟩ := Cx.Proofs.Md.fin_any eng hwf trivial
  exact ⟨_, by rw [← (length_field_be64_exact _ hpb).1]; exact eq⟩

end

section
open Cx.Proofs.Ripemd160Stream

/-- RIPEMD-160 `finalize_reset` from ANY well-formed state, counter below 2^61: the two `next::<4>()` writes
    together are the LE-64 bit length -/
theorem ripemd160_finalize_writes_bit_length (c : Ripemd160.Context) (hwf : WF 64 c.buffer)
    (hpb : c.processed_bytes.toNat < 2 ^ 61) :
    ∃ c', c.finalize_reset = some (c', ((fullBlocks 64 (c.buffer.data ++ [(0x80 : UInt8)]
        ++ zeros (Spec.MD.padZeros 64 8 c.buffer.data.length)
        ++ Spec.MD.le64 (8 * c.processed_bytes.toNat))).foldl Spec.Ripemd160.compressBytes c.h).toBytes) := by
  obtain ⟨b', eq, _⟩ := Cx.Proofs.Md.fin_any eng hwf trivial
  exact ⟨_, by rw [← (length_field_le64_exact _ hpb).1]; exact eq⟩

end

/-- the hypotheses are met by a fresh context whose counter was preset to the last in-domain block -/
example : WF 64 (Impl.HashLen.Ctx256.verif_set_processed_bytes (Sha2.Ctx256.new Sha2.Sha256) (2 ^ 61 - 64)).engine.buffer
    ∧ (Impl.HashLen.Ctx256.verif_set_processed_bytes (Sha2.Ctx256.new Sha2.Sha256) (2 ^ 61 - 64)).engine.finished = false
    ∧ (Impl.HashLen.Ctx256.verif_set_processed_bytes (Sha2.Ctx256.new Sha2.Sha256) (2 ^ 61 - 64)).engine.processed_bytes
        < 2 ^ 61 :=
  ⟨new_WF (by decide), rfl, by decide⟩

/-! ### (2) preset counter, update, finalize = the Spec's tail digest — every block-aligned N, every message -/

/-- **`new(); verif_set_processed_bytes(N); update(m); finalize()` = `Spec.HashLen.tailDigest alg N m`** for all
    eight algorithms, every N that is a multiple of the block size and every message; no panic.  With
    `tailDigest_in_domain_length_field` / `tailHash_is_hash_of_whole_message` below: for `N + |m|` below 2^61
    (2^125) bytes this is the FIPS 180-4 / RIPEMD-160 chain over the last blocks of an (N+|m|)-byte message. -/
theorem hlen_eq_tailDigest (alg : Alg) (N : Nat) (m : Bytes) (hN : N % alg.block = 0) :
    Impl.HashLen.hlen alg N m = some (tailDigest alg N m) := by
  open Cx.Proofs.HashLen Cx.Proofs.Sha2Engine Cx.Proofs.Sha2Tables in
  cases alg with
  | sha1 => exact hlenSha1_eq N hN m
  | ripemd160 => exact hlenRipemd160_eq N hN m
  | sha256 =>
    have := hlen256_eq Sha2.Sha256 id outOK_sha256 N hN m
    simpa [Impl.HashLen.hlen, tailDigest, Sha2.Sha256, H256_eq] using this
  | sha224 =>
    have := hlen256_eq Sha2.Sha224 (List.take 28) outOK_sha224 N hN m
    simpa [Impl.HashLen.hlen, tailDigest, Sha2.Sha224, H224_eq] using this
  | sha512 =>
    have := hlen512_eq Sha2.Sha512 64 outOK_sha512 N hN m
    -- `tailDigest .sha512` has no `take`: the 8 words are the 64 bytes
    have hl : ∀ h, (Spec.Sha2.wordsToBytes64 h).length ≤ 64 := fun h => by
      simp [wordsToBytes64_eq, Cx.Proofs.Bytes.u64be_length]
    simpa [Impl.HashLen.hlen, tailDigest, Sha2.Sha512, H512_eq, List.take_of_length_le (hl _)] using this
  | sha384 =>
    have := hlen512_eq Sha2.Sha384 48 outOK_sha384 N hN m
    simpa [Impl.HashLen.hlen, tailDigest, Sha2.Sha384, H384_eq] using this
  | sha512_224 =>
    have := hlen512_eq Sha2.Sha512Trunc224 28 outOK_sha512_224 N hN m
    simpa [Impl.HashLen.hlen, tailDigest, Sha2.Sha512Trunc224, H512_TRUNC_224_eq] using this
  | sha512_256 =>
    have := hlen512_eq Sha2.Sha512Trunc256 32 outOK_sha512_256 N hN m
    simpa [Impl.HashLen.hlen, tailDigest, Sha2.Sha512Trunc256, H512_TRUNC_256_eq] using this

/-- block-aligned presets next to the boundaries of the bit length and of the byte counter -/
example : (2 ^ 29 - 64) % Alg.sha256.block = 0 ∧ (2 ^ 61 - 64) % Alg.ripemd160.block = 0
    ∧ (2 ^ 64) % Alg.sha512.block = 0 ∧ (2 ^ 125 - 128) % Alg.sha384.block = 0 := by decide

/-! ### (3) the Spec's tail chain is the standard's hash -/

/-- inside the standard's domain the length field of the Spec is the unreduced bit length of the total -/
theorem tailDigest_in_domain_length_field (alg : Alg) (total : Nat) (h : total < alg.maxBytes) :
    (8 * total) % 2 ^ (8 * alg.lenBytes) = 8 * total := by
  apply Nat.mod_eq_of_lt
  cases alg <;> simp only [Alg.maxBytes, Alg.lenBytes] at h ⊢ <;> omega

/-- the number of zero bytes of the Spec's tail is "the smallest non-negative solution" of FIPS 180-4 §5.1 for the
    TOTAL length -/
theorem tailPad_zero_count_is_least {B : Nat} (hB : 0 < B) (L N len : Nat) :
    (N + len + 1 + Spec.MD.padZeros B L (N + len) + L) % B = 0
    ∧ ∀ z, z < Spec.MD.padZeros B L (N + len) → (N + len + 1 + z + L) % B ≠ 0 :=
  padZeros_spec hB

/-- **`tailHash` finishes the standard hash**: from the chaining value reached after a prefix `P` of whole blocks it
    yields `Spec.MD.hash` (pad, parse, iterate) of `P ‖ m`, whenever the total bit length fits the length field -/
theorem tailHash_is_hash_of_whole_message {σ : Type} {B : Nat} (hB : 0 < B) (L : Nat) (lenEnc : Nat → Bytes)
    (compress : σ → Bytes → σ) (iv : σ) (P m : Bytes) (hP : P.length % B = 0)
    (hdom : 8 * (P.length + m.length) < 2 ^ (8 * L)) :
    tailHash B L lenEnc compress ((fullBlocks B P).foldl compress iv) P.length m
      = Spec.MD.hash B L lenEnc compress iv (P ++ m) :=
  Cx.Proofs.HashLen.tailHash_append hB L lenEnc compress iv P m hP hdom

example : (List.replicate 128 (7 : UInt8)).length % 64 = 0
    ∧ 8 * ((List.replicate 128 (7 : UInt8)).length + ([1, 2, 3] : Bytes).length) < 2 ^ (8 * 8) := by
  rw [List.length_replicate]; decide

/-- with no preset the tail digest is the digest: `tailDigest alg 0 m` = the standard function of `m` -/
theorem tailDigest_zero_is_digest (m : Bytes) :
    (m.length < 2 ^ 61 →
      tailDigest .sha1 0 m = Spec.Sha1.sha1 m ∧ tailDigest .ripemd160 0 m = Spec.Ripemd160.ripemd160 m
      ∧ tailDigest .sha256 0 m = Spec.Sha2.sha256 m ∧ tailDigest .sha224 0 m = Spec.Sha2.sha224 m)
    ∧ (m.length < 2 ^ 125 →
      tailDigest .sha512 0 m = Spec.Sha2.sha512 m ∧ tailDigest .sha384 0 m = Spec.Sha2.sha384 m
      ∧ tailDigest .sha512_224 0 m = Spec.Sha2.sha512_224 m ∧ tailDigest .sha512_256 0 m = Spec.Sha2.sha512_256 m) := by
  constructor <;> intro h <;> refine ⟨?_, ?_, ?_, ?_⟩ <;>
    (simp only [tailDigest, tail256, tail512]
     rw [Cx.Proofs.HashLen.tailHash_zero (by decide) _ _ _ _ _ (by omega)]; rfl)

/-! ### tests (samples, not theorems): the model at the last in-domain byte of RIPEMD-160 / SHA-256 -/

/-- both 32-bit length words of RIPEMD-160 change between a total of 2^29 − 1 and 2^29 bytes -/
example : len_le64_split (2 ^ 29 - 1) = ([0xf8, 0xff, 0xff, 0xff], [0, 0, 0, 0])
    ∧ len_le64_split (2 ^ 29) = ([0, 0, 0, 0], [1, 0, 0, 0]) := by decide

/-- the largest in-domain counters fill the fields to their top bits -/
example : len_be64 (2 ^ 61 - 1) = [0xff, 0xff, 0xff, 0xff, 0xff, 0xff, 0xff, 0xf8]
    ∧ (len_be128 (2 ^ 125 - 1)).take 2 = [0xff, 0xff] ∧ (len_be128 (2 ^ 64)).take 8 = [0, 0, 0, 0, 0, 0, 0, 8] := by
  decide

end Cx.Props.C20.HashLen
