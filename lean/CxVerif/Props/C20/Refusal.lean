/-
  Props.C20.Refusal — C20, second half: "Arguments the API defines as invalid … are refused by a deterministic panic
  or error and never by truncating, reading out of bounds or returning a value."

  THE REFUSAL MATRIX of the public API, one row per entry point.  Every row is a decision theorem
        f args refuses  ↔  ¬ Valid args            (…_refused_iff / …_none_iff / …_panic_iff / …_err_iff)
        Valid args  →  ∃ v, f args = value v       (…_ok)
  about the code-shaped model of the entry point (`Except.error "PANIC"` / `none` = the Rust code panics,
  `Err(_)` = it returns an error; the glue-tie theorems `Props/**/GlueTie*.lean` prove the models equal to what the
  translators generate from the CURRENT source, the correspondence run compares them with the real crate in three
  build profiles).  `Valid…` is the DOCUMENTED domain, written out as a decidable predicate on lengths / parameters (`ValidCall` apart: it takes the admissible keys as an
  arbitrary `keyOk`) and
  quoted from the crate's doc comments and asserts in `Proofs/Refusal*.lean` (with the lemmas the rows rest on).  The
  predicate of a row is restated here by an `Iff.rfl` example, and those on concrete lengths come with one argument
  inside and one outside; `ValidKey1632` and `ValidRounds` of the `…_panic_iff` rows are the key and round conjuncts of
  `ValidChaChaNew` / `ValidNew8`.

    entry point                                  Valid                          theorems
    ChaCha::<R>::new(key, &[u8;12])              ValidChaChaNew R key nonce     chacha_new_refused_iff / _panic_iff / _ok
    ChaChaOriginal::<R>::new(key, &[u8;8])       ValidNew8 R key nonce          chachaorig_new_…
    XChaCha::<R>::new(&[u8;32], &[u8;24])        ValidNewX R key nonce          xchacha_new_…
    Salsa::<R>::new(key, &[u8;8])                ValidNew8                      salsa_new_…
    XSalsa::<R>::new(&[u8;32], &[u8;24])         ValidNewX                      xsalsa_new_…
    Drg::<R>::new(&[u8;32])                      ValidDrgNew R seed             drg_new_panic_iff / drg_new_ok
    process(input, output)                       input.len() = output.len()     stream_process_panic_iff / stream_process_ok
    process_mut(data), seek(u32)                 (no invalid argument)          stream_process_mut_ok, stream_seek_total
    Poly1305::new(&[u8;32])                      (length is a type)             —
    Poly1305 input / raw_result(out) / result    ValidPolyOp finished op        poly1305_refused_iff / _refusal_is_assertion / _valid_ok,
                                                                                poly1305_second_result_same
    Digest objects (16 wrappers) input/result    ValidCall outBytes ⊥ finished  legacy_digest_matrix, legacy_digest_instances
    Hmac<D> input / result / raw_result(out)     ValidCall outBytes ⊥ finished  hmac_matrix
    Blake2b/Blake2s (legacy) new / new_keyed     outlen, key limits             legacy_blake2b_new_none_iff, …_new_keyed_none_iff (b, s)
      … input / result / reset_with_key          ValidCall outlen (≤ maxKey)    legacy_blake2_matrix, legacy_blake2_new_keyed_reachable
    blake2b/s Context::<BITS>::new / new_keyed   ValidBlake2Bits 64|32 …        blake2b_context_new_keyed_none_iff, blake2s_…
    blake2b/s ContextDyn::new / new_keyed        ValidBlake2Dyn 64|32 …         blake2b_contextdyn_new_keyed_none_iff, blake2s_…
      finalize_at / finalize_reset_at(out)       out.len() = outlen             blake2_finalize_at_none_iff, blake2_finalize_reset_at_none_iff
      reset_with_key / finalize_reset_with_key   key.len() ≤ MAX_KEYLEN         blake2_reset_with_key_none_iff, blake2_finalize_reset_with_key_at_none_iff
      update / update_mut                        (no invalid argument)          blake2_update_mut_ok
    sha3 / keccak contexts                       (no refusal reachable)         sha3_engine_refusals, sha3_public_api_never_reaches_them
    hkdf_extract(.., prk)                        ValidHkdfExtract HashLen n     hkdf_extract_none_iff / _ok
    hkdf_expand(.., prk, .., okm)                ValidHkdfExpand HashLen |prk| L  hkdf_expand_none_iff / _none_iff_lengths / _ok,
                                                                                hkdf_expand_old_accepts_short_prk (witness, defect (m))
    pbkdf2(mac, salt, c, out)                    ValidPbkdf2 hLen c dkLen       pbkdf2_none_iff, pbkdf2_c0_refused
    ScryptParams::new(log_n, r, p)               ValidScryptParams log_n r p    scrypt_params_none_iff / _ok, scrypt_params_accepts_iff (re-export)
    scrypt(.., params, out)                      ValidScryptOut dkLen           scrypt_none_iff, scrypt_out_refused
    argon2::Params::parallelism / iterations /   ValidArgon2Parallelism / …     argon2_parallelism_err_iff / _iterations_ / _version_,
      version / memory_kb, builder chain         ValidArgon2Build v t p         argon2_memory_kb_never_refuses, argon2_build_err_iff / _ok
    argon2_at(.., tag) / argon2::<T>             tag.len() ≠ 0                  argon2_at_none_iff, argon2_at_zero_refused
    x25519 TryFrom<&[u8]>                        len = 32                       x25519_tryfrom_none_iff / _ok
    ed25519 keypair / signature / verify         (lengths are types)            ed25519_no_refusal_needed
    AEAD (one-shot and incremental)              see Props/C20/Aead.lean        re-exported at the end

  Round counts: `ChaCha::<R>` &c. compile for every `usize` R; the constructors panic at run time for every R other
  than 8, 12, 20 (`assert!(ROUNDS == 8 || ROUNDS == 12 || ROUNDS == 20)`), before the key is read.
  BLAKE2 `BITS`: every 1 ≤ BITS ≤ 512 (256 for BLAKE2s) is accepted, multiples of 8 or not; the digest has ⌈BITS/8⌉
  bytes.  BITS = 0 and BITS > 512 (256) panic in `new` / `new_keyed`.

  WHERE CODE AND DOCUMENTATION DISAGREE (the `Valid` predicates follow the asserts; the documentation is quoted):
    * `Digest::result` (digest.rs): "This method may be called multiple times." and "out … Must be large enough to
      contain output_bits()."  Every implementation panics on the second call without `reset`
      (`assert!(!self.computed, …)`) and on a buffer LONGER than the digest (`copy_from_slice`): theorems
      `digest_doc_second_result_refused`, `digest_doc_longer_buffer_refused`.  Loud, never a wrong value.
    * `scrypt` asserts `output.len() / 32 <= 0xffffffff`, which lets (2^32−1)·32 < dkLen ≤ (2^32−1)·32+31 pass; those
      lengths are refused by the PBKDF2 block counter instead (`scrypt_none_iff`): no value is returned.
    * Argon2: `memory_kb` below 8·parallelism is raised silently, tag lengths 1..3 and short salts are accepted —
      the ranges property C20 names as documented-unchecked.
-/
import CxVerif.Proofs.RefusalStream
import CxVerif.Proofs.RefusalMac
import CxVerif.Proofs.RefusalHash
import CxVerif.Proofs.RefusalKdf
import CxVerif.Proofs.RefusalArgon2
import CxVerif.Props.C11.Argon2Full
import CxVerif.Impl.X25519
import CxVerif.Props.C09.MacDigest
import CxVerif.Props.C10.Scrypt
import CxVerif.Props.C13.Final
import CxVerif.Props.C14.Final
import CxVerif.Props.C20.Aead
namespace Cx.Props.C20.Refusal
open Cx Cx.Impl Cx.Proofs.Refusal

/-! ## 1. stream ciphers -/
section stream
open Cx.Impl.StreamCtx Cx.Proofs.Stream Cx.Proofs.ChaCha
variable {σ : Type} {E : ChaCha.Engine σ} {α : σ → W16}

example (R : Nat) (key nonce : Bytes) : ValidChaChaNew R key nonce ↔
    ((key.length = 16 ∨ key.length = 32) ∧ nonce.length = 12 ∧ (R = 8 ∨ R = 12 ∨ R = 20)) := Iff.rfl
example (R : Nat) (key nonce : Bytes) : ValidNew8 R key nonce ↔
    ((key.length = 16 ∨ key.length = 32) ∧ nonce.length = 8 ∧ (R = 8 ∨ R = 12 ∨ R = 20)) := Iff.rfl
example (R : Nat) (key nonce : Bytes) : ValidNewX R key nonce ↔
    (key.length = 32 ∧ nonce.length = 24 ∧ (R = 8 ∨ R = 12 ∨ R = 20)) := Iff.rfl
example (R : Nat) (seed : Bytes) : ValidDrgNew R seed ↔ (seed.length = 32 ∧ (R = 8 ∨ R = 12 ∨ R = 20)) := Iff.rfl

example : ValidChaChaNew 20 (List.replicate 32 7) (List.replicate 12 1) := by decide
example : ¬ ValidChaChaNew 20 (List.replicate 31 7) (List.replicate 12 1) := by decide
example : ¬ ValidChaChaNew 10 (List.replicate 32 7) (List.replicate 12 1) := by decide
example : ValidNew8 8 (List.replicate 16 7) (List.replicate 8 1) := by decide
example : ¬ ValidNew8 8 (List.replicate 17 7) (List.replicate 8 1) := by decide
example : ValidNewX 12 (List.replicate 32 7) (List.replicate 24 1) := by decide
example : ¬ ValidNewX 13 (List.replicate 32 7) (List.replicate 24 1) := by decide
example : ValidDrgNew 8 (List.replicate 32 7) ∧ ¬ ValidDrgNew 0 (List.replicate 32 7) := by decide

/-- the two engines the crate has (portable, SSE2) satisfy the hypothesis `EngineSim` of the rows below -/
example : EngineSim ChaCha.referenceEngine id := referenceSim
example : EngineSim ChaCha.sse2Engine toRef := sse2Sim

theorem chacha_new_ok (S : EngineSim E α) (R : Nat) (key nonce : Bytes) (h : ValidChaChaNew R key nonce) :
    ∃ c, ChaCha.ChaCha.new E R key nonce = .ok c :=
  (chacha_opens S R key nonce h.1 h.2.1 h.2.2).ok
theorem chacha_new_refused_iff (S : EngineSim E α) (R : Nat) (key nonce : Bytes) :
    Refused (ChaCha.ChaCha.new E R key nonce) ↔ ¬ ValidChaChaNew R key nonce :=
  refused_iff_not_valid (chacha_new_ok S R key nonce) (guards_refused _ (roundsOk_iff R))
/-- the nonce length being a type, what a caller can provoke is exactly the run-time panic -/
theorem chacha_new_panic_iff (S : EngineSim E α) (R : Nat) (key nonce : Bytes) (hn : nonce.length = 12) :
    ChaCha.ChaCha.new E R key nonce = .error "PANIC" ↔ ¬ (ValidKey1632 key ∧ ValidRounds R) :=
  panic_iff_not_valid (fun hv => chacha_new_ok S R key nonce ⟨hv.1, hn, hv.2⟩) (guards_panic _ (roundsOk_iff R) hn)

theorem chachaorig_new_ok (S : EngineSim E α) (R : Nat) (key nonce : Bytes) (h : ValidNew8 R key nonce) :
    ∃ c, ChaCha.ChaChaOriginal.new E R key nonce = .ok c :=
  (chachaorig_opens S R key nonce h.1 h.2.1 h.2.2).ok
theorem chachaorig_new_refused_iff (S : EngineSim E α) (R : Nat) (key nonce : Bytes) :
    Refused (ChaCha.ChaChaOriginal.new E R key nonce) ↔ ¬ ValidNew8 R key nonce :=
  refused_iff_not_valid (chachaorig_new_ok S R key nonce) (guards_refused _ (roundsOk_iff R))
theorem chachaorig_new_panic_iff (S : EngineSim E α) (R : Nat) (key nonce : Bytes) (hn : nonce.length = 8) :
    ChaCha.ChaChaOriginal.new E R key nonce = .error "PANIC" ↔ ¬ (ValidKey1632 key ∧ ValidRounds R) :=
  panic_iff_not_valid (fun hv => chachaorig_new_ok S R key nonce ⟨hv.1, hn, hv.2⟩)
    (guards_panic _ (roundsOk_iff R) hn)

theorem xchacha_new_ok (S : EngineSim E α) (R : Nat) (key nonce : Bytes) (h : ValidNewX R key nonce) :
    ∃ c, ChaCha.XChaCha.new E R key nonce = .ok c :=
  (xchacha_opens S R key nonce h.1 h.2.1 h.2.2).ok
theorem xchacha_new_refused_iff (S : EngineSim E α) (R : Nat) (key nonce : Bytes) :
    Refused (ChaCha.XChaCha.new E R key nonce) ↔ ¬ ValidNewX R key nonce :=
  refused_iff_not_valid (xchacha_new_ok S R key nonce) (guardsX_refused _ (roundsOk_iff R))
theorem xchacha_new_panic_iff (S : EngineSim E α) (R : Nat) (key nonce : Bytes) (hk : key.length = 32)
    (hn : nonce.length = 24) : ChaCha.XChaCha.new E R key nonce = .error "PANIC" ↔ ¬ ValidRounds R :=
  panic_iff_not_valid (fun hv => xchacha_new_ok S R key nonce ⟨hk, hn, hv⟩) (guardsX_panic _ (roundsOk_iff R) hk hn)

theorem salsa_new_ok (R : Nat) (key nonce : Bytes) (h : ValidNew8 R key nonce) :
    ∃ c, Salsa.Salsa.new R key nonce = .ok c :=
  (Cx.Proofs.Salsa.salsa_opens R key nonce h.1 h.2.1 h.2.2).ok
theorem salsa_new_refused_iff (R : Nat) (key nonce : Bytes) :
    Refused (Salsa.Salsa.new R key nonce) ↔ ¬ ValidNew8 R key nonce :=
  refused_iff_not_valid (salsa_new_ok R key nonce) (guards_refused _ (Cx.Proofs.Salsa.roundsOk_iff R))
theorem salsa_new_panic_iff (R : Nat) (key nonce : Bytes) (hn : nonce.length = 8) :
    Salsa.Salsa.new R key nonce = .error "PANIC" ↔ ¬ (ValidKey1632 key ∧ ValidRounds R) :=
  panic_iff_not_valid (fun hv => salsa_new_ok R key nonce ⟨hv.1, hn, hv.2⟩) (guards_panic _ (Cx.Proofs.Salsa.roundsOk_iff R) hn)

theorem xsalsa_new_ok (R : Nat) (key nonce : Bytes) (h : ValidNewX R key nonce) :
    ∃ c, Salsa.XSalsa.new R key nonce = .ok c :=
  (Cx.Proofs.Salsa.xsalsa_opens R key nonce h.1 h.2.1 h.2.2).ok
theorem xsalsa_new_refused_iff (R : Nat) (key nonce : Bytes) :
    Refused (Salsa.XSalsa.new R key nonce) ↔ ¬ ValidNewX R key nonce :=
  refused_iff_not_valid (xsalsa_new_ok R key nonce) (guardsX_refused _ (Cx.Proofs.Salsa.roundsOk_iff R))
theorem xsalsa_new_panic_iff (R : Nat) (key nonce : Bytes) (hk : key.length = 32) (hn : nonce.length = 24) :
    Salsa.XSalsa.new R key nonce = .error "PANIC" ↔ ¬ ValidRounds R :=
  panic_iff_not_valid (fun hv => xsalsa_new_ok R key nonce ⟨hk, hn, hv⟩) (guardsX_panic _ (Cx.Proofs.Salsa.roundsOk_iff R) hk hn)

theorem drg_new_panic_iff (S : EngineSim E α) (R : Nat) (seed : Bytes) (hs : seed.length = 32) :
    Drg.new E R seed = .error "PANIC" ↔ ¬ ValidRounds R := by
  unfold Drg.new
  rw [if_neg (by simp [hs]), chacha_new_panic_iff S R seed (zeros 12) (by simp [zeros])]
  simp [ValidKey1632, hs]
theorem drg_new_ok (S : EngineSim E α) (R : Nat) (seed : Bytes) (h : ValidDrgNew R seed) :
    ∃ c, Drg.new E R seed = .ok c := by
  unfold Drg.new
  rw [if_neg (by simp [h.1])]
  exact chacha_new_ok S R seed (zeros 12) ⟨Or.inr h.1, by simp [zeros], h.2⟩

/-- `process(input, output)` on every reachable context of all five types (`Abs` = the invariant of Props/C04:
    `new` establishes it — `chacha_opens` &c. — and every method preserves it): refused iff the lengths differ -/
theorem stream_process_panic_iff {g : BlockGen σ} {mk : Nat → σ} {KS : Nat → Bytes} (Rf : Refines g mk KS)
    (c : Ctx σ) (p : Nat) (h : Abs mk KS c p) (input : Bytes) (n : Nat) :
    process g c input n = .error "PANIC" ↔ input.length ≠ n :=
  panic_iff_not_valid (V := input.length = n)
    (fun hv => by subst hv; obtain ⟨c', hc, _⟩ := process_refines Rf c p input h; exact ⟨_, hc⟩)
    (fun hn => by unfold process; rw [if_neg hn])
theorem stream_process_ok {g : BlockGen σ} {mk : Nat → σ} {KS : Nat → Bytes} (Rf : Refines g mk KS)
    (c : Ctx σ) (p : Nat) (h : Abs mk KS c p) (input : Bytes) :
    ∃ c' out, process g c input input.length = .ok (c', out) ∧ Abs mk KS c' (p + input.length) := by
  obtain ⟨c', hc, ha⟩ := process_refines Rf c p input h
  exact ⟨c', _, hc, ha⟩
/-- `process_mut` has no invalid argument and never refuses -/
theorem stream_process_mut_ok {g : BlockGen σ} {mk : Nat → σ} {KS : Nat → Bytes} (Rf : Refines g mk KS)
    (c : Ctx σ) (p : Nat) (h : Abs mk KS c p) (data : Bytes) :
    ∃ c' out, process_mut g c data = .ok (c', out) ∧ Abs mk KS c' (p + data.length) := by
  obtain ⟨c', hc, ha⟩ := process_mut_refines Rf c p data h
  exact ⟨c', _, hc, ha⟩
/-- `seek` has no invalid argument either: it returns a context, not a `Result`, and the context stands at the start
    of the block named, from any position -/
theorem stream_seek_total {τ : Type} (mk : Nat → σ) (KS : Nat → Bytes) (setCounter : σ → τ → σ) (toBlock : τ → Nat)
    (hset : ∀ n t, setCounter (mk n) t = mk (toBlock t)) (c : Ctx σ) (p : Nat) (t : τ) (h : Abs mk KS c p) :
    Abs mk KS (seek setCounter c t) (64 * toBlock t) :=
  seek_abs mk KS setCounter toBlock hset c p t h

end stream

/-! ## 2. Poly1305 -/
section poly
open Cx.Impl.Poly1305 Cx.Proofs.Poly1305

example (fin : Bool) (d : Bytes) : ValidPolyOp fin (.input d) ↔ fin = false := Iff.rfl
example (fin : Bool) (n : Nat) : ValidPolyOp fin (.rawResult n) ↔ 16 ≤ n := Iff.rfl
example (fin : Bool) : ValidPolyOp fin .result ∧ ValidPolyOp fin .reset := ⟨trivial, trivial⟩
example : ValidPolyOp false (.rawResult 16) ∧ ¬ ValidPolyOp false (.rawResult 15) ∧ ¬ ValidPolyOp true (.input [1]) := by decide

/-- a fresh `Poly1305::new(key)` is a reachable object, and so is every successor (`poly1305_step_bisim`, C09) -/
example (key : Bytes) : Sim key (new key) ⟨[], false⟩ := new_sim key

theorem poly1305_refused_iff (key : Bytes) (st : State) (a : Abs) (op : Op) (h : Sim key st a) :
    (∃ e, stepOp .repaired st op = .error e) ↔ ¬ ValidPolyOp a.fin op := by
  rcases poly_call key st a op h with ⟨hv, e⟩ | ⟨hv, st', out, _, e, _⟩
  · exact ⟨fun _ => hv, fun _ => ⟨_, e⟩⟩
  · rw [e]; exact ⟨nofun, fun hn => absurd hv hn⟩
theorem poly1305_refusal_is_assertion (key : Bytes) (st : State) (a : Abs) (op : Op) (h : Sim key st a)
    (hv : ¬ ValidPolyOp a.fin op) : stepOp .repaired st op = .error .assertion :=
  (poly_call key st a op h).elim (·.2) (absurd ·.1 hv)
theorem poly1305_valid_ok (key : Bytes) (st : State) (a : Abs) (op : Op) (h : Sim key st a)
    (hv : ValidPolyOp a.fin op) : ∃ st' out, stepOp .repaired st op = .ok (st', out) :=
  (poly_call key st a op h).elim (absurd hv ·.1) fun ⟨_, st', out, _, e, _⟩ => ⟨st', out, e⟩
/-- after a result: every `input` panics, a second `result` is NOT refused and returns the same tag -/
theorem poly1305_second_result_same (key : Bytes) (st : State) (a : Abs) (h : Sim key st a) (n : Nat) (hn : 16 ≤ n) :
    ∃ st' t, stepOp .repaired st (.rawResult n) = .ok (st', some t) ∧
      (∀ d, stepOp .repaired st' (.input d) = .error .assertion) ∧
      stepOp .repaired st' .result = .ok (st', some t) := by
  have s := step_sim key st a (.rawResult n) h
  have hn' : ¬ n < 16 := by omega
  simp only [absStep, hn', if_false] at s
  obtain ⟨st', e, hs'⟩ := s
  refine ⟨st', _, e, fun d => ?_, ?_⟩
  · exact poly1305_refusal_is_assertion key st' _ (.input d) hs' (by simp [ValidPolyOp])
  · -- the second result leaves the state unchanged (already finalized): read it off the model
    have hfin : Finished key st' a.msg := by simpa [Sim] using hs'
    simp only [stepOp, result, raw_result_finished .repaired key st' a.msg 16 (Nat.le_refl _) hfin]

end poly

/-! ## 3. Digest / Mac objects -/
section objects
open Cx.Impl.Digest Cx.Impl.Hmac Cx.Proofs.MacObj Cx.Proofs.MacLegacy Cx.Proofs.MacHmac Cx.Spec.MacObj
open Cx.Props.C09 (Refined legacy_wrappers_refine)

example (L : Nat) (keyOk : Bytes → Prop) (fin : Bool) (b : Bytes) : ValidCall L keyOk fin (.input b) ↔ fin = false := Iff.rfl
example (L : Nat) (keyOk : Bytes → Prop) (fin : Bool) : ValidCall L keyOk fin .result ↔ fin = false := Iff.rfl
example (L : Nat) (keyOk : Bytes → Prop) (fin : Bool) (n : Nat) :
    ValidCall L keyOk fin (.rawResult n) ↔ (fin = false ∧ n = L) := Iff.rfl
example (L : Nat) (keyOk : Bytes → Prop) (fin : Bool) (k : Bytes) : ValidCall L keyOk fin (.resetWithKey k) ↔ keyOk k := Iff.rfl
example : ValidCall 32 (fun _ => False) false (.rawResult 32) ∧ ¬ ValidCall 32 (fun _ => False) false (.rawResult 31) ∧
    ¬ ValidCall 32 (fun _ => False) false (.rawResult 33) ∧ ¬ ValidCall 32 (fun _ => False) true .result :=
  ⟨⟨rfl, rfl⟩, by simp [ValidCall], by simp [ValidCall], by simp [ValidCall]⟩

/-- **one legacy wrapper type** `X` (`digest!`-generated; `M` its context model, `H` its hash, `ok` the length domain
    of `H`): `X::new()` is a reachable object; on every reachable object every call of `trait Digest` panics iff it is
    outside `ValidCall`; a returned value is `H(bytes since reset)` in full length; the successor is reachable again. -/
theorem legacy_digest_matrix {γ : Type} (M : CtxModel γ) (H : Fn) (ok : Bytes → Prop) (hR : Refined M H ok) :
    ∃ R, Cx.Proofs.MacObj.Sim (outBytes M) (RelL H R) (FinL H R) (Legacy.new M) (fresh H (outBytes M)) ∧
      ∀ (s : Legacy γ) (a : Abs), Cx.Proofs.MacObj.Sim (outBytes M) (RelL H R) (FinL H R) s a → (a.finished = false → ok a.data) →
        ∀ c : Call,
          (runCall (digestFam (legacyDigest M)) s c = none ↔ ¬ ValidCall (outBytes M) (fun _ => False) a.finished c) ∧
          (∀ s' v, runCall (digestFam (legacyDigest M)) s c = some (s', some v) → v = a.f a.data ∧ v.length = outBytes M) ∧
          (∀ s' out, runCall (digestFam (legacyDigest M)) s c = some (s', out) →
            ∃ a', Cx.Proofs.MacObj.Sim (outBytes M) (RelL H R) (FinL H R) s' a') := by
  obtain ⟨R, hc⟩ := hR
  exact ⟨R, .fresh (legacy_new M H R hc), fun s a hS hok c =>
    obj_matrix (legacy_contract M H R hc) s a hS hok (fun _ => by simp) c⟩

/-- the 16 wrappers are such types (`Props.C09.legacy_wrappers_refine`), with these output lengths -/
theorem legacy_digest_instances :
    (outBytes sha1Ctx = 20 ∧ outBytes ripemd160Ctx = 20 ∧ outBytes sha224Ctx = 28 ∧ outBytes sha256Ctx = 32 ∧
     outBytes sha384Ctx = 48 ∧ outBytes sha512Ctx = 64 ∧ outBytes sha512_224Ctx = 28 ∧ outBytes sha512_256Ctx = 32 ∧
     outBytes sha3_224Ctx = 28 ∧ outBytes sha3_256Ctx = 32 ∧ outBytes sha3_384Ctx = 48 ∧ outBytes sha3_512Ctx = 64 ∧
     outBytes keccak224Ctx = 28 ∧ outBytes keccak256Ctx = 32 ∧ outBytes keccak384Ctx = 48 ∧ outBytes keccak512Ctx = 64) ∧
    (Refined sha1Ctx Spec.Sha1.sha1 Cx.Props.C02.Sha1Ripemd.ok ∧
     Refined ripemd160Ctx Spec.Ripemd160.ripemd160 Cx.Props.C02.Sha1Ripemd.ok ∧
     Refined sha224Ctx Spec.Sha2.sha224 Cx.Props.C02.Sha2.ok256 ∧ Refined sha256Ctx Spec.Sha2.sha256 Cx.Props.C02.Sha2.ok256 ∧
     Refined sha384Ctx Spec.Sha2.sha384 Cx.Props.C02.Sha2.ok512 ∧ Refined sha512Ctx Spec.Sha2.sha512 Cx.Props.C02.Sha2.ok512 ∧
     Refined sha512_224Ctx Spec.Sha2.sha512_224 Cx.Props.C02.Sha2.ok512 ∧
     Refined sha512_256Ctx Spec.Sha2.sha512_256 Cx.Props.C02.Sha2.ok512 ∧
     Refined sha3_224Ctx Spec.Keccak.sha3_224 (fun _ => True) ∧ Refined sha3_256Ctx Spec.Keccak.sha3_256 (fun _ => True) ∧
     Refined sha3_384Ctx Spec.Keccak.sha3_384 (fun _ => True) ∧ Refined sha3_512Ctx Spec.Keccak.sha3_512 (fun _ => True) ∧
     Refined keccak224Ctx Spec.Keccak.keccak224 (fun _ => True) ∧ Refined keccak256Ctx Spec.Keccak.keccak256 (fun _ => True) ∧
     Refined keccak384Ctx Spec.Keccak.keccak384 (fun _ => True) ∧ Refined keccak512Ctx Spec.Keccak.keccak512 (fun _ => True)) :=
  ⟨by decide, legacy_wrappers_refine⟩

/-- CODE vs TRAIT DOCUMENTATION ("This method may be called multiple times."): the second `result` without `reset`
    panics, for every wrapper -/
theorem digest_doc_second_result_refused {γ : Type} (M : CtxModel γ) (H : Fn) (R : γ → Bytes → Prop) (ok : Bytes → Prop)
    (hc : CtxContract M H R ok) (s : Legacy γ) (a : Abs) (hS : Cx.Proofs.MacObj.Sim (outBytes M) (RelL H R) (FinL H R) s a)
    (hf : a.finished = true) (n : Nat) :
    runCall (digestFam (legacyDigest M)) s .result = none ∧ runCall (digestFam (legacyDigest M)) s (.rawResult n) = none := by
  constructor
  · exact (legacy_refused_iff M H R ok hc s a hS (by simp [hf]) .result).mpr (by simp [ValidCall, hf])
  · exact (legacy_refused_iff M H R ok hc s a hS (by simp [hf]) (.rawResult n)).mpr (by simp [ValidCall, hf])

/-- CODE vs TRAIT DOCUMENTATION ("Must be large enough to contain output_bits()"): a buffer LONGER than the digest
    panics as well (`copy_from_slice` demands equal lengths) -/
theorem digest_doc_longer_buffer_refused {γ : Type} (M : CtxModel γ) (H : Fn) (R : γ → Bytes → Prop) (ok : Bytes → Prop)
    (hc : CtxContract M H R ok) (s : Legacy γ) (a : Abs) (hS : Cx.Proofs.MacObj.Sim (outBytes M) (RelL H R) (FinL H R) s a)
    (hok : a.finished = false → ok a.data) (n : Nat) (hn : outBytes M < n) :
    runCall (digestFam (legacyDigest M)) s (.rawResult n) = none :=
  (legacy_refused_iff M H R ok hc s a hS hok (.rawResult n)).mpr (by simp [ValidCall]; omega)

/-- **`Hmac<D>`** over any digest object type satisfying the object contract (in particular the 16 wrappers:
    `hmac_legacy_every_history`): `Hmac::new(d0, key)` is reachable, every call of `trait Mac` panics iff outside
    `ValidCall` (input / result / raw_result after a result; a `raw_result` buffer of any length other than the MAC's) -/
theorem hmac_matrix {δ : Type} (D : DigestModel δ) (H : Fn) (B L bits : Nat) (okD : Fn → Bytes → Prop)
    (RelD : δ → Fn → Bytes → Prop) (FinD : δ → Fn → Prop)
    (hD : Contract (digestFam D) L [L, bits, B] (fun _ => none) okD RelD FinD) (hLB : L ≤ B)
    (d0 : δ) (h0 : RelD d0 H []) (key : Bytes) (hk : key.length ≤ B ∨ okD H key) :
    (∃ h, Hmac.new D d0 key = some h ∧
      Cx.Proofs.MacObj.Sim L (RelH H B key RelD) (FinH H B key FinD) h (fresh (Spec.Hmac.hmac H B key) L)) ∧
    ∀ (s : Hmac δ) (a : Abs), Cx.Proofs.MacObj.Sim L (RelH H B key RelD) (FinH H B key FinD) s a →
      (a.finished = false → okH H B key okD a.f a.data) → ∀ c : Call,
        (runCall (macFam (hmacMac D)) s c = none ↔ ¬ ValidCall L (fun _ => False) a.finished c) ∧
        (∀ s' v, runCall (macFam (hmacMac D)) s c = some (s', some v) → v = a.f a.data ∧ v.length = L) ∧
        (∀ s' out, runCall (macFam (hmacMac D)) s c = some (s', out) →
          ∃ a', Cx.Proofs.MacObj.Sim L (RelH H B key RelD) (FinH H B key FinD) s' a') := by
  constructor
  · obtain ⟨h, e, hr⟩ := hmac_new D H B key RelD FinD hD hLB d0 h0 hk
    exact ⟨h, e, .fresh hr⟩
  · exact fun s a hS hok c => obj_matrix (hmac_contract D H B key RelD FinD hD) s a hS hok (fun _ => by simp) c

/-! ### the legacy BLAKE2 objects -/
open Cx.Proofs.MacBlake2 Cx.Proofs.Blake2

theorem legacy_blake2b_new_none_iff (outlen : Nat) :
    Impl.Digest.Blake2.new Impl.Blake2.b outlen = none ↔ ¬ (0 < outlen ∧ outlen ≤ 64) :=
  blake2_new_none_iff Impl.Blake2.b outlen
theorem legacy_blake2s_new_none_iff (outlen : Nat) :
    Impl.Digest.Blake2.new Impl.Blake2.s outlen = none ↔ ¬ (0 < outlen ∧ outlen ≤ 32) :=
  blake2_new_none_iff Impl.Blake2.s outlen

/-- `Blake2b::new_keyed(outlen, key)`: outlen 1..=64, key at most 64 bytes -/
theorem legacy_blake2b_new_keyed_none_iff (outlen : Nat) (key : Bytes) :
    Impl.Digest.Blake2.new_keyed Impl.Blake2.b bKeyAssert outlen key = none ↔
      ¬ (0 < outlen ∧ outlen ≤ 64 ∧ key.length ≤ 64) := by
  rw [blake2_new_keyed_none_iff, bKeyAssert_eq]
  show ¬ (0 < outlen ∧ outlen ≤ 64 ∧ key.length ≤ 64 ∧ key.length ≤ 64) ↔ _
  constructor <;> intro h hv <;> exact h (by omega)
/-- `Blake2s::new_keyed(outlen, key)`: the wrapper's own `assert!(key.len() <= 64)` is weaker than the algorithm's
    limit; keys of 33..64 bytes are refused by `ContextDyn::new_keyed` (`MAX_KEYLEN` = 32) -/
theorem legacy_blake2s_new_keyed_none_iff (outlen : Nat) (key : Bytes) :
    Impl.Digest.Blake2.new_keyed Impl.Blake2.s sKeyAssert outlen key = none ↔
      ¬ (0 < outlen ∧ outlen ≤ 32 ∧ key.length ≤ 32) := by
  rw [blake2_new_keyed_none_iff, sKeyAssert_eq]
  show ¬ (0 < outlen ∧ outlen ≤ 32 ∧ key.length ≤ 32 ∧ key.length ≤ 64) ↔ _
  constructor <;> intro h hv <;> exact h (by omega)

example : (0 < 64 ∧ 64 ≤ 64 ∧ (List.replicate 64 (1 : UInt8)).length ≤ 64) ∧
    ¬ (0 < 65 ∧ 65 ≤ 64 ∧ ([] : Bytes).length ≤ 64) ∧ ¬ (0 < 0 ∧ 0 ≤ 64 ∧ ([] : Bytes).length ≤ 64) ∧
    ¬ (0 < 32 ∧ 32 ≤ 32 ∧ (List.replicate 33 (1 : UInt8)).length ≤ 32) := by decide

/-- every call on a reachable `Blake2b` / `Blake2s` object through `Mac` / `Digest` / `reset_with_key`
    (`P` = the algorithm's parameters, `nn` the object's output length) -/
theorem legacy_blake2_matrix {W : Type} [Spec.Blake2.Word W] (P : Spec.Blake2.Params W) (g : Good P) (nn : Nat)
    (hn : 0 < nn ∧ nn ≤ P.maxOut) (s : Impl.Digest.Blake2 W) (a : Abs)
    (hS : Cx.Proofs.MacObj.Sim nn (RelB P nn) (FinB P nn) s a) (c : Call) :
    (runCall (famB .repaired P) s c = none ↔ ¬ ValidCall nn (fun k => k.length ≤ P.maxKey) a.finished c) ∧
    (∀ s' out, runCall (famB .repaired P) s c = some (s', out) → ∃ a', Cx.Proofs.MacObj.Sim nn (RelB P nn) (FinB P nn) s' a') := by
  -- `reset_with_key(k)` is admissible iff `k.len() ≤ MAX_KEYLEN`
  have m := obj_matrix (blake2_contract P g nn hn) s a hS (fun _ => trivial) (keyOk := fun k => k.length ≤ P.maxKey)
    (fun k => by unfold fkB; split <;> simp [*]) c
  exact ⟨m.1, m.2.2⟩

/-- `Blake2x::new_keyed(outlen, key)` with admissible arguments IS such a reachable object (key = [] included) -/
theorem legacy_blake2_new_keyed_reachable {W : Type} [Spec.Blake2.Word W] (P : Spec.Blake2.Params W) (g : Good P) (nn : Nat)
    (hn : 0 < nn ∧ nn ≤ P.maxOut) (key : Bytes) (hk : key.length ≤ P.maxKey) (keyAssert : Nat) (hka : key.length ≤ keyAssert) :
    ∃ o, Impl.Digest.Blake2.new_keyed P keyAssert nn key = some o ∧
      Cx.Proofs.MacObj.Sim nn (RelB P nn) (FinB P nn) o (fresh (Spec.Blake2.blake2 P nn key) nn) := by
  obtain ⟨o, e, hr⟩ := new_keyed_rel P g nn hn key hk keyAssert hka
  exact ⟨o, e, .fresh hr⟩

end objects

/-! ## 4. BLAKE2 contexts of `hashing`, SHA-3 -/
section hashing
open Cx.Impl.Blake2 Cx.Proofs.Blake2
open Cx.Spec.Blake2 (Word Params)

example (maxOut maxKey BITS : Nat) (key : Bytes) : ValidBlake2Bits maxOut maxKey BITS key ↔
    (1 ≤ BITS ∧ BITS ≤ 8 * maxOut ∧ key.length ≤ maxKey) := Iff.rfl
example (maxOut maxKey outlen : Nat) (key : Bytes) : ValidBlake2Dyn maxOut maxKey outlen key ↔
    (0 < outlen ∧ outlen ≤ maxOut ∧ key.length ≤ maxKey) := Iff.rfl
example : ValidBlake2Bits 64 64 512 (List.replicate 64 1) ∧ ValidBlake2Bits 64 64 505 [] ∧ ValidBlake2Bits 64 64 1 [] ∧
    ¬ ValidBlake2Bits 64 64 0 [] ∧ ¬ ValidBlake2Bits 64 64 513 [] ∧ ¬ ValidBlake2Bits 64 64 256 (List.replicate 65 1) ∧
    ValidBlake2Bits 32 32 256 [] ∧ ¬ ValidBlake2Bits 32 32 257 [] := by decide
example : ValidBlake2Dyn 64 64 64 [] ∧ ¬ ValidBlake2Dyn 64 64 65 [] ∧ ¬ ValidBlake2Dyn 64 64 0 [] ∧
    ¬ ValidBlake2Dyn 32 32 32 (List.replicate 33 1) := by decide

theorem blake2b_context_new_keyed_none_iff (BITS : Nat) (key : Bytes) :
    Context.new_keyed Impl.Blake2.b BITS key = none ↔ ¬ ValidBlake2Bits 64 64 BITS key :=
  context_new_keyed_none_iff Impl.Blake2.b BITS key
theorem blake2b_context_new_none_iff (BITS : Nat) :
    Context.new Impl.Blake2.b BITS = none ↔ ¬ ValidBlake2Bits 64 64 BITS [] :=
  context_new_none_iff Impl.Blake2.b BITS
theorem blake2s_context_new_keyed_none_iff (BITS : Nat) (key : Bytes) :
    Context.new_keyed Impl.Blake2.s BITS key = none ↔ ¬ ValidBlake2Bits 32 32 BITS key :=
  context_new_keyed_none_iff Impl.Blake2.s BITS key
theorem blake2s_context_new_none_iff (BITS : Nat) :
    Context.new Impl.Blake2.s BITS = none ↔ ¬ ValidBlake2Bits 32 32 BITS [] :=
  context_new_none_iff Impl.Blake2.s BITS
theorem blake2b_contextdyn_new_keyed_none_iff (outlen : Nat) (key : Bytes) :
    ContextDyn.new_keyed Impl.Blake2.b outlen key = none ↔ ¬ ValidBlake2Dyn 64 64 outlen key :=
  contextdyn_new_keyed_none_iff Impl.Blake2.b outlen key
theorem blake2b_contextdyn_new_none_iff (outlen : Nat) :
    ContextDyn.new Impl.Blake2.b outlen = none ↔ ¬ ValidBlake2Dyn 64 64 outlen [] :=
  contextdyn_new_none_iff Impl.Blake2.b outlen
theorem blake2s_contextdyn_new_keyed_none_iff (outlen : Nat) (key : Bytes) :
    ContextDyn.new_keyed Impl.Blake2.s outlen key = none ↔ ¬ ValidBlake2Dyn 32 32 outlen key :=
  contextdyn_new_keyed_none_iff Impl.Blake2.s outlen key
theorem blake2s_contextdyn_new_none_iff (outlen : Nat) :
    ContextDyn.new Impl.Blake2.s outlen = none ↔ ¬ ValidBlake2Dyn 32 32 outlen [] :=
  contextdyn_new_none_iff Impl.Blake2.s outlen

/-- `finalize_at(out)` (both context types, both algorithms; `outlen` = ⌈BITS/8⌉ resp. `self.outlen`): refused iff
    the buffer has another length — for EVERY context state, the finalisation itself cannot fail -/
theorem blake2_finalize_at_none_iff {W : Type} [Word W] (P : Params W) (c : Ctx W) (outlen outLen : Nat) :
    Ctx.finalize_at P .wrapping c outlen outLen = none ↔ outLen ≠ outlen := by
  obtain ⟨c', e⟩ := internal_final_wrapping P c
  simp only [Ctx.finalize_at, e]
  split <;> simp_all
theorem blake2_finalize_reset_at_none_iff {W : Type} [Word W] (P : Params W) (c : Ctx W) (outlen outLen : Nat) :
    Ctx.finalize_reset_at P .wrapping c outlen outLen = none ↔ outLen ≠ outlen := by
  obtain ⟨c', e⟩ := internal_final_wrapping P c
  simp only [Ctx.finalize_reset_at, e]
  split <;> simp_all
theorem blake2_reset_with_key_none_iff {W : Type} [Word W] (P : Params W) (c : Ctx W) (outlen : Nat) (key : Bytes) :
    Ctx.reset_with_key P c outlen key = none ↔ ¬ key.length ≤ P.maxKey := by
  unfold Ctx.reset_with_key
  repeat' split
  all_goals simp_all
theorem blake2_finalize_reset_with_key_at_none_iff {W : Type} [Word W] (P : Params W) (c : Ctx W) (outlen : Nat)
    (key : Bytes) (outLen : Nat) :
    Ctx.finalize_reset_with_key_at P .wrapping c outlen key outLen = none ↔ (outLen ≠ outlen ∨ ¬ key.length ≤ P.maxKey) := by
  obtain ⟨c', e⟩ := internal_final_wrapping P c
  simp only [Ctx.finalize_reset_with_key_at, e, ← blake2_reset_with_key_none_iff P c' outlen key]
  split
  · simp_all
  · cases Ctx.reset_with_key P c' outlen key <;> simp_all
/-- `update` / `update_mut` never refuse (wrapping byte counter: Props/C20/Blake2.lean) -/
theorem blake2_update_mut_ok {W : Type} [Word W] (P : Params W) (c : Ctx W) (input : Bytes) :
    ∃ c', Ctx.update_mut P .wrapping c input = some c' := by
  obtain ⟨e', he⟩ := increment_counter_wrapping c.eng P.bb
  simp only [Ctx.update_mut, he]
  repeat' split
  all_goals try exact ⟨_, rfl⟩
  exact absurd ‹Ctx.update_loop P .wrapping _ _ _ = none› (Option.ne_none_iff_exists'.mpr (update_loop_wrapping P _ _ _))

/-- the sponge engine refuses absorbing after finalisation and squeezing when nothing is left … -/
theorem sha3_engine_refusals (dl ds : Nat) (e : Sha3.Engine) (d : Bytes) (n : Nat) :
    (e.can_absorb = false → Sha3.Engine.process dl e d = none ∧ Sha3.Engine.finalize dl ds e = none) ∧
    (e.can_squeeze = false → Sha3.Engine.output dl ds e n = none) :=
  ⟨fun h => ⟨sha3_process_refused dl e d h, sha3_finalize_refused dl ds e h⟩, fun h => sha3_output_refused dl ds e n h⟩

/-- … and no public method of the eight context types leaves an engine in such a state (`finalize` consumes the
    context by value): the refusals are unreachable through `hashing::sha3` / `hashing::keccak`; that the usable
    states never panic is `Proofs.Sponge.run_from_new` (C02) -/
theorem sha3_public_api_never_reaches_them (dl ds : Nat) :
    Sha3Usable Sha3.Context.new ∧ (∀ c, Sha3Usable (Sha3.Context.reset c)) ∧
    (∀ c c' d, Sha3Usable c → Sha3.Context.update_mut dl c d = some c' → Sha3Usable c') ∧
    (∀ c c' out, Sha3.Context.finalize_reset dl ds c = some (c', out) → Sha3Usable c') :=
  ⟨sha3_new_usable, sha3_reset_usable, fun c c' d hc h => sha3_update_usable dl c c' d hc h,
   fun c c' out h => sha3_finalize_reset_usable dl ds c c' out h⟩

end hashing

/-! ## 5. KDFs -/
section kdf
open Cx.Impl.Digest Cx.Impl.Hmac Cx.Impl.Kdf Cx.Proofs.MacObj Cx.Proofs.MacHmac Cx.Props.C10

example (L n : Nat) : ValidHkdfExtract L n ↔ n = L := Iff.rfl
example (L k n : Nat) : ValidHkdfExpand L k n ↔ (L ≤ k ∧ n ≤ 255 * L) := Iff.rfl
example (L k n : Nat) : ¬ ValidHkdfExpand L k n ↔ (k < L ∨ 255 * L < n) := by unfold ValidHkdfExpand; omega
example (L c n : Nat) : ValidPbkdf2 L c n ↔ (0 < c ∧ n ≤ (2 ^ 32 - 1) * L) := Iff.rfl
example (log_n r p : Nat) : ValidScryptParams log_n r p ↔
    (0 < r ∧ 0 < p ∧ 0 < log_n ∧ log_n < 64 ∧ log_n < 16 * r ∧ r * p < 2 ^ 30 ∧
      128 * r * 2 ^ log_n < 2 ^ 64 ∧ 128 * r * p < 2 ^ 64) := Iff.rfl
example (n : Nat) : ValidScryptOut n ↔ (0 < n ∧ n ≤ (2 ^ 32 - 1) * 32) := Iff.rfl
example : ValidHkdfExtract 32 32 ∧ ¬ ValidHkdfExtract 32 31 ∧ ¬ ValidHkdfExtract 32 33 := by decide
example : ValidHkdfExpand 32 32 8160 ∧ ¬ ValidHkdfExpand 32 32 8161 ∧ ¬ ValidHkdfExpand 32 31 1 ∧ ¬ ValidHkdfExpand 32 0 0 ∧
    ¬ ValidHkdfExpand 32 1 33 ∧ ValidHkdfExpand 32 33 0 ∧ ValidHkdfExpand 32 64 1 := by decide
example : ValidPbkdf2 20 1 45 ∧ ¬ ValidPbkdf2 20 0 45 ∧ ¬ ValidPbkdf2 20 1 ((2 ^ 32 - 1) * 20 + 1) := by decide
example : ValidScryptParams 10 8 16 ∧ ¬ ValidScryptParams 16 1 1 ∧ ¬ ValidScryptParams 0 1 1 ∧ ¬ ValidScryptParams 4 0 1 ∧
    ¬ ValidScryptParams 4 1 0 ∧ ¬ ValidScryptParams 1 (2 ^ 15) (2 ^ 15) ∧ ¬ ValidScryptParams 64 8 1 := by decide
example : ValidScryptOut 64 ∧ ¬ ValidScryptOut 0 ∧ ¬ ValidScryptOut ((2 ^ 32 - 1) * 32 + 1) := by decide

theorem hkdf_extract_none_iff {γ : Type} (M : CtxModel γ) (H : Fn) (B L : Nat) (ok : Bytes → Prop)
    (hC : HkdfCorrect M H B L ok) (salt ikm : Bytes) (prkLen : Nat) (hk : salt.length ≤ B ∨ ok salt)
    (h1 : ok (ikey H B salt ++ ikm)) (h2 : ok (okey H B salt ++ H (ikey H B salt ++ ikm))) :
    hkdf_extract (legacyDigest M) (Legacy.new M) salt ikm prkLen = none ↔ ¬ ValidHkdfExtract L prkLen := by
  rw [hC.1 salt ikm prkLen hk h1 h2]
  unfold ValidHkdfExtract
  split <;> simp [*]
theorem hkdf_extract_ok {γ : Type} (M : CtxModel γ) (H : Fn) (B L : Nat) (ok : Bytes → Prop)
    (hC : HkdfCorrect M H B L ok) (salt ikm : Bytes) (prkLen : Nat) (hk : salt.length ≤ B ∨ ok salt)
    (h1 : ok (ikey H B salt ++ ikm)) (h2 : ok (okey H B salt ++ H (ikey H B salt ++ ikm)))
    (hv : ValidHkdfExtract L prkLen) :
    hkdf_extract (legacyDigest M) (Legacy.new M) salt ikm prkLen = some (Spec.Kdf.hkdfExtract H B salt ikm) := by
  have hv' : prkLen = L := hv
  rw [hC.1 salt ikm prkLen hk h1 h2, if_pos hv']
/-- `hkdf_expand` refuses (panics: `assert!(prk.len() >= digest.output_bytes())` / the `checked_add` of the one-byte block
    counter) exactly the calls outside the documented domain: a PRK shorter than HashLen, an output longer than 255·HashLen -/
theorem hkdf_expand_none_iff {γ : Type} (M : CtxModel γ) (H : Fn) (B L : Nat) (ok : Bytes → Prop)
    (hC : HkdfCorrect M H B L ok) (prk info : Bytes) (okmLen : Nat) (hk : prk.length ≤ B ∨ ok prk)
    (hok : ∀ x : Bytes, x.length ≤ L + info.length + 1 →
      ok (ikey H B prk ++ x) ∧ ok (okey H B prk ++ H (ikey H B prk ++ x))) :
    hkdf_expand (legacyDigest M) (Legacy.new M) prk info okmLen = none ↔ ¬ ValidHkdfExpand L prk.length okmLen := by
  rw [hC.2 prk info okmLen hk hok, hkdf_expand_limit]
  unfold ValidHkdfExpand; omega
theorem hkdf_expand_none_iff_lengths {γ : Type} (M : CtxModel γ) (H : Fn) (B L : Nat) (ok : Bytes → Prop)
    (hC : HkdfCorrect M H B L ok) (prk info : Bytes) (okmLen : Nat) (hk : prk.length ≤ B ∨ ok prk)
    (hok : ∀ x : Bytes, x.length ≤ L + info.length + 1 →
      ok (ikey H B prk ++ x) ∧ ok (okey H B prk ++ H (ikey H B prk ++ x))) :
    hkdf_expand (legacyDigest M) (Legacy.new M) prk info okmLen = none ↔ (prk.length < L ∨ 255 * L < okmLen) := by
  rw [hC.2 prk info okmLen hk hok, hkdf_expand_limit]
/-- inside the domain the value is RFC 5869 §2.3's: the first L octets of T(1) ‖ T(2) ‖ … -/
theorem hkdf_expand_ok {γ : Type} (M : CtxModel γ) (H : Fn) (B L : Nat) (ok : Bytes → Prop)
    (hC : HkdfCorrect M H B L ok) (prk info : Bytes) (okmLen : Nat) (hk : prk.length ≤ B ∨ ok prk)
    (hok : ∀ x : Bytes, x.length ≤ L + info.length + 1 →
      ok (ikey H B prk ++ x) ∧ ok (okey H B prk ++ H (ikey H B prk ++ x)))
    (hv : ValidHkdfExpand L prk.length okmLen) :
    hkdf_expand (legacyDigest M) (Legacy.new M) prk info okmLen
      = some (Spec.Kdf.hkdfOkm (Spec.Hmac.hmac H B) L prk info okmLen) := by
  rw [hC.2 prk info okmLen hk hok, hkdf_expand_value H B L prk info okmLen hv.1 hv.2]
/-- WITNESS of the repaired defect (m) (the correspondence line `kdf.hkdf_expand sha256 0b 696e666f 33`): before
    `assert!(prk.len() >= digest.output_bytes())` was added, `hkdf_expand` answered a call with a ONE-byte PRK — outside the
    domain its documentation states ("prk - The pseudorandom key of at least `digest.output_bytes()` octets") — with 33 bytes
    of output; the repaired function refuses it.  (`hkdf_expand_old` = the function without the assert, Impl/Kdf.lean;
    generic form: `Props.C10.hkdf_expand_old_generic`.) -/
theorem hkdf_expand_old_accepts_short_prk :
    ¬ ValidHkdfExpand 32 ([0x0b] : Bytes).length 33 ∧
    (∃ okm : Bytes, okm.length = 33 ∧
      hkdf_expand_old (legacyDigest sha256Ctx) (Legacy.new sha256Ctx) [0x0b] [0x69, 0x6e, 0x66, 0x6f] 33 = some okm) ∧
    hkdf_expand (legacyDigest sha256Ctx) (Legacy.new sha256Ctx) [0x0b] [0x69, 0x6e, 0x66, 0x6f] 33 = none := by
  obtain ⟨_, h1, h2, h3, _⟩ := Cx.Props.C10.hkdf_expand_old_accepts_short_prk
  exact ⟨by decide, ⟨_, h2, h1⟩, h3⟩
/-- the hypothesis `HkdfCorrect` holds for the wrappers (here the six spelled out in Props/C10) -/
example : HkdfCorrect sha256Ctx Spec.Sha2.sha256 64 32 Cx.Props.C02.Sha2.ok256 := hkdf_sha256
example : HkdfCorrect sha1Ctx Spec.Sha1.sha1 64 20 Cx.Props.C02.Sha1Ripemd.ok := hkdf_sha1
example : HkdfCorrect sha512Ctx Spec.Sha2.sha512 128 64 Cx.Props.C02.Sha2.ok512 := hkdf_sha512

theorem pbkdf2_none_iff {γ : Type} (M : CtxModel γ) (H : Fn) (B L : Nat) (ok : Bytes → Prop)
    (hC : Pbkdf2HmacCorrect M H B L ok) (pwd salt : Bytes) (c dkLen : Nat) (hk : pwd.length ≤ B ∨ ok pwd)
    (hok : ∀ x : Bytes, (x.length = L ∨ ∃ i, x = salt ++ natToBE 4 i) →
      ok (ikey H B pwd ++ x) ∧ ok (okey H B pwd ++ H (ikey H B pwd ++ x))) :
    ∃ mac, Hmac.new (legacyDigest M) (Legacy.new M) pwd = some mac ∧
      (pbkdf2 (hmacMac (legacyDigest M)) mac salt c dkLen = none ↔ ¬ ValidPbkdf2 L c dkLen) := by
  obtain ⟨mac, e, h⟩ := hC pwd salt c dkLen hk hok
  refine ⟨mac, e, ?_⟩
  have hl := pbkdf2_limit (Spec.Hmac.hmac H B) L pwd salt c dkLen
  unfold Spec.Kdf.pbkdf2Hmac at h
  rw [← h] at hl
  rw [← Option.map_eq_none_iff (f := (·.2)), hl]
  unfold ValidPbkdf2; omega
theorem pbkdf2_c0_refused {μ : Type} (Mm : MacModel μ) (mac : μ) (salt : Bytes) (dkLen : Nat) :
    pbkdf2 Mm mac salt 0 dkLen = none := by
  simp [pbkdf2]
example : Pbkdf2HmacCorrect sha256Ctx Spec.Sha2.sha256 64 32 Cx.Props.C02.Sha2.ok256 := pbkdf2_hmac_sha256

theorem scrypt_params_none_iff (log_n r p : Nat) :
    ScryptParams.new log_n r p = none ↔ ¬ ValidScryptParams log_n r p := by
  rw [← Option.not_isSome_iff_eq_none, Cx.Proofs.KdfScrypt.new_iff_valid, Cx.Proofs.KdfScrypt.valid_iff]
  refine not_congr ⟨?_, ?_⟩
  · rintro ⟨⟨h1, h2, h3, h4, h5, _⟩, h6, h7, h8⟩
    exact ⟨h2, h4, h1, h6, h3, h5, h7, h8⟩
  · rintro ⟨h1, h2, h3, h4, h5, h6, h7, h8⟩
    exact ⟨⟨h3, h1, h5, h2, h6, by decide, by decide⟩, h4, h7, h8⟩
theorem scrypt_params_ok (log_n r p : Nat) (hv : ValidScryptParams log_n r p) :
    ∃ params, ScryptParams.new log_n r p = some params :=
  Option.ne_none_iff_exists'.1 fun h => (scrypt_params_none_iff log_n r p).mp h hv
/-- re-export: the same decision against the RFC's own formulation `Spec.Kdf.scryptValid` -/
theorem scrypt_params_accepts_iff (log_n r p : Nat) :
    (ScryptParams.new log_n r p).isSome ↔
      (Spec.Kdf.scryptValid (2 ^ log_n) r p 1 = true ∧
        log_n < 64 ∧ 128 * r * 2 ^ log_n < 2 ^ 64 ∧ 128 * r * p < 2 ^ 64) :=
  Cx.Props.C10.scrypt_params_accepts_iff log_n r p
theorem scrypt_out_refused (P S : Bytes) (params : ScryptParams) (dkLen : Nat)
    (h : dkLen = 0 ∨ (2 ^ 32 - 1) * 32 + 31 < dkLen) : scrypt P S params dkLen = none := by
  unfold scrypt
  rcases h with h | h
  · simp [h]
  · rw [if_neg (by omega), if_pos (by omega)]
theorem scrypt_none_iff (P S : Bytes) (log_n r p dkLen : Nat) (hlog : log_n ≤ 32) (hmem : 128 * r * 2 ^ log_n < 2 ^ 64)
    (hP : P.length < 2 ^ 61) (hS : S.length + 68 < 2 ^ 61) :
    (ScryptParams.new log_n r p).bind (fun params => scrypt P S params dkLen) = none ↔
      ¬ (ValidScryptParams log_n r p ∧ ValidScryptOut dkLen) := by
  have hv : (ValidScryptParams log_n r p ∧ ValidScryptOut dkLen) ↔ Spec.Kdf.scryptValid (2 ^ log_n) r p dkLen = true := by
    rw [Cx.Proofs.KdfScrypt.valid_iff_new log_n r p dkLen hlog hmem, ← Option.ne_none_iff_isSome, Ne,
      scrypt_params_none_iff, Classical.not_not]
    rfl
  rw [scrypt_spec P S log_n r p dkLen hlog hmem hP hS, hv]
  unfold Spec.Kdf.scrypt
  by_cases hval : Spec.Kdf.scryptValid (2 ^ log_n) r p dkLen = true
  · obtain ⟨_, _, _, _, a5, _, a7⟩ := (Cx.Proofs.KdfScrypt.valid_iff log_n r p dkLen).mp hval
    have hB : p * (128 * r) ≤ (2 ^ 32 - 1) * 32 := by
      have : p * (128 * r) = 128 * (r * p) := by rw [Nat.mul_comm r p, Nat.mul_left_comm]
      rw [this]; omega
    obtain ⟨B, eB⟩ := spec_pbkdf2_some Spec.Kdf.hmacSha256 32 P S (p * (128 * r)) hB
    obtain ⟨dk, edk⟩ := spec_pbkdf2_some Spec.Kdf.hmacSha256 32 P
      ((takeBlocks (128 * r) p B).map (Spec.Kdf.roMix r (2 ^ log_n))).flatten dkLen a7
    simp [hval, eB, edk]
  · simp [hval]
example : (10 ≤ 32) ∧ 128 * 8 * 2 ^ 10 < 2 ^ 64 ∧ ([112, 97, 115, 115] : Bytes).length < 2 ^ 61 ∧
    ([78, 97, 67, 108] : Bytes).length + 68 < 2 ^ 61 := by decide

end kdf

/-! ## 6. Argon2 -/
section argon2
open Cx.Impl.Argon2 Cx.Proofs.Argon2
open Cx.Spec.Argon2 (Ty)

example (p : Nat) : ValidArgon2Parallelism p ↔ (1 ≤ p ∧ p < 2 ^ 24) := Iff.rfl
example (t : Nat) : ValidArgon2Iterations t ↔ 1 ≤ t := Iff.rfl
example (v : Nat) : ValidArgon2Version v ↔ (v = 0x13 ∨ v = 0x10) := Iff.rfl
example (v t p : Nat) : ValidArgon2Build v t p ↔
    ((v = 0x13 ∨ v = 0x10) ∧ 1 ≤ t ∧ (1 ≤ p ∧ p < 2 ^ 24)) := Iff.rfl
example : ValidArgon2Build 0x13 3 4 ∧ ¬ ValidArgon2Build 0x11 3 4 ∧ ¬ ValidArgon2Build 0x13 0 4 ∧
    ¬ ValidArgon2Build 0x13 3 0 ∧ ¬ ValidArgon2Build 0x10 3 (2 ^ 24) ∧ ValidArgon2Build 0x10 1 (2 ^ 24 - 1) := by decide

theorem argon2_parallelism_error_kind (s : Params) (p : Nat) (h : ¬ ValidArgon2Parallelism p) :
    s.parallelism' p = some (.error (if p = 0 then .ParallelismZero else .ParallelismTooHigh)) := by
  unfold Params.parallelism' ValidArgon2Parallelism at *
  by_cases h1 : p ≥ 0x1000000
  · rw [if_pos h1, if_neg (by omega)]
  · rw [if_neg h1, if_pos (by omega), if_pos (by omega)]
theorem argon2_parallelism_err_iff (s : Params) (p : Nat) (hs : s.memory_kb < 2 ^ 32) :
    IsErr (s.parallelism' p) ↔ ¬ ValidArgon2Parallelism p :=
  isErr_iff_not_valid (fun h => (argon2_parallelism_ok s p hs h).imp fun _ h' => h'.1)
    (fun h => ⟨_, argon2_parallelism_error_kind s p h⟩)
theorem argon2_iterations_err_iff (s : Params) (t : Nat) : IsErr (s.iterations' t) ↔ ¬ ValidArgon2Iterations t :=
  isErr_iff_not_valid (fun h => ⟨_, argon2_iterations_ok s t h⟩) (fun h => ⟨_, argon2_iterations_error_kind s t h⟩)
theorem argon2_version_err_iff (s : Params) (v : Nat) : IsErr (s.version' v) ↔ ¬ ValidArgon2Version v :=
  isErr_iff_not_valid (fun h => ⟨_, argon2_version_ok s v h⟩) (fun h => ⟨_, argon2_version_error_kind s v h⟩)
/-- `memory_kb` has no refusal: below 8·parallelism the value is raised (documented-unchecked range of C20) -/
theorem argon2_memory_kb_never_refuses (s : Params) (m : Nat) (hs : ParamsInv s) (hm : m < 2 ^ 32) :
    ∃ s', s.memory_kb' m = some (.ok s') ∧ s'.memory_kb = max m (8 * s.parallelism) ∧ ParamsInv s' := by
  unfold Params.memory_kb'
  rw [override_eq { s with memory_kb := m } hs.1 hs.2.1 hm]
  refine ⟨_, rfl, rfl, hs.1, hs.2.1, ?_⟩
  show max m (8 * s.parallelism) < 2 ^ 32
  have := hs.2.1; omega
theorem argon2_build_err_iff (y : Ty) (v t m p : Nat) (hm : m < 2 ^ 32) :
    IsErr ((Params.def (tyOf y)).build v t m p) ↔ ¬ ValidArgon2Build v t p := by
  refine isErr_iff_not_valid (fun h => ⟨_, build_ok y v t m p h.1 h.2.1 h.2.2.1 h.2.2.2 hm⟩) fun hv => ?_
  -- the chain stops at the first setter whose argument is outside its domain
  · unfold Params.build
    obtain ⟨s1, e1, _, i1⟩ := argon2_memory_kb_never_refuses (Params.def (tyOf y)) m (def_inv _) hm
    rw [e1]; simp only []
    by_cases ht : ValidArgon2Iterations t
    · rw [argon2_iterations_ok s1 t ht]; simp only []
      by_cases hp : ValidArgon2Parallelism p
      · obtain ⟨s2, e2, _, _⟩ := argon2_parallelism_ok { s1 with iterations := t } p i1.2.2 hp
        rw [e2]; simp only []
        have hvv : ¬ ValidArgon2Version v := fun h => hv ⟨h, ht, hp⟩
        exact ⟨_, argon2_version_error_kind s2 v hvv⟩
      · rw [argon2_parallelism_error_kind _ p hp]; exact ⟨_, rfl⟩
    · rw [argon2_iterations_error_kind s1 t ht]; exact ⟨_, rfl⟩
theorem argon2_build_ok (y : Ty) (v t m p : Nat) (hm : m < 2 ^ 32) (h : ValidArgon2Build v t p) :
    (Params.def (tyOf y)).build v t m p = some (.ok (builtParams y v t m p)) :=
  build_ok y v t m p h.1 h.2.1 h.2.2.1 h.2.2.2 hm

/-- an empty tag is refused by both entry points; the model of `argon2::<T>` has the body of `argon2_at` with
    `T` for the tag length, so one lemma gives both conjuncts -/
theorem argon2_at_zero_refused (params : Params) (pwd salt key aad : Bytes) :
    argon2_at params pwd salt key aad 0 = none ∧ argon2 0 params pwd salt key aad = none :=
  ⟨Cx.Proofs.Refusal.argon2_at_zero_refused params pwd salt key aad,
   Cx.Proofs.Refusal.argon2_at_zero_refused params pwd salt key aad⟩
/-- tag length: refused iff 0; 1..3 are accepted (documented-unchecked), ≥ 4 is RFC 9106 (`argon2_eq_rfc`) -/
theorem argon2_at_none_iff (c : Spec.Argon2.Params) (params : Params) (hc : Corr params c)
    (hp : 1 ≤ c.p) (hm : 8 * c.p ≤ c.m) (hm2 : c.m < 2 ^ 32) (hT2 : c.T < 2 ^ 32)
    (pwd salt key aad : Bytes) (hP : pwd.length < 2 ^ 32) (hS : salt.length < 2 ^ 32) (hK : key.length < 2 ^ 32)
    (hX : aad.length < 2 ^ 32) : argon2_at params pwd salt key aad c.T = none ↔ c.T = 0 := by
  refine ⟨fun h => Decidable.byContradiction fun hT => ?_,
    fun h => h ▸ (argon2_at_zero_refused params pwd salt key aad).1⟩
  rw [Cx.Props.C11.argon2_at_eq c params hc ⟨hp, hm, hm2⟩ (by omega) pwd salt key aad] at h
  cases h
example : Corr (builtParams .id 0x13 3 32 4) { y := .id, v := 0x13, t := 3, m := 32, p := 4, T := 2 } :=
  Cx.Props.C11.builder_corr .id 0x13 3 32 4 2 (by decide) (by decide)

end argon2

/-! ## 7. X25519 / Ed25519 -/

theorem x25519_tryfrom_none_iff (v : Bytes) : Impl.X25519.tryFrom v = none ↔ v.length ≠ 32 := by
  unfold Impl.X25519.tryFrom; split <;> simp [*]
theorem x25519_tryfrom_ok (v : Bytes) (h : v.length = 32) : Impl.X25519.tryFrom v = some v := by
  unfold Impl.X25519.tryFrom; rw [if_pos h]
example : Impl.X25519.tryFrom (List.replicate 32 5) = some (List.replicate 32 5) ∧
    Impl.X25519.tryFrom (List.replicate 31 5) = none ∧ Impl.X25519.tryFrom (List.replicate 33 5) = none ∧
    Impl.X25519.tryFrom [] = none := by decide

/-- `ed25519::keypair(&[u8;32])`, `signature(msg, &[u8;64])`, `verify(msg, &[u8;32], &[u8;64])`: every length is an
    array type, so no length refusal exists and none is needed: inside the types the functions return a value
    (`verify` answers `false`, never panics).  Stated for messages below 2^124 bytes, where the SHA-512 length field
    does not overflow, and, for `signature`, for the secret key that `keypair` makes from the seed -/
theorem ed25519_no_refusal_needed (seed msg pk sig : Bytes) (hs : seed.length = 32) (hm : msg.length < 2 ^ 124)
    (hpk : pk.length = 32) (hsig : sig.length = 64) :
    (∃ kp, Impl.Ed25519.keypair seed = some kp) ∧
    (∃ s, Impl.Ed25519.signature msg (Spec.Ed25519.keypair seed).1 = some s) ∧
    (∃ b, Impl.Ed25519.verify msg pk sig = some b) :=
  ⟨⟨_, Cx.Props.C13.keypair_is_rfc8032 seed hs⟩, ⟨_, Cx.Props.C13.signature_is_rfc8032 seed msg hs hm⟩,
   ⟨_, Cx.Props.C14.verify_is_spec_predicate msg pk sig hpk hsig hm⟩⟩

/-! ## 8. AEAD (re-export of Props/C20/Aead.lean, so that this file lists the whole matrix) -/
section aead
open Cx.Impl.Aead Cx.Proofs.Aead
variable {σ : Type} {E : ChaCha.Engine σ} {R : Nat} {key nonce : Bytes}

theorem aead_reuse_after_encrypt_refused (o o' : ChaChaPoly1305 σ) (pt ct tag : Bytes) (n l : Nat)
    (h : ChaChaPoly1305.encrypt E R o pt n l = .ok (o', ct, tag)) :
    o'.finished = true ∧
    (∀ input n' l', ChaChaPoly1305.encrypt E R o' input n' l' = .error "PANIC") ∧
    (∀ input n' t, ChaChaPoly1305.decrypt E R o' input n' t = .error "PANIC") :=
  Cx.Props.C20.Aead.reuse_after_encrypt_refused o o' pt ct tag n l h
theorem aead_reuse_after_decrypt_refused (o o' : ChaChaPoly1305 σ) (ct out tag : Bytes) (n : Nat) (v : Bool)
    (h : ChaChaPoly1305.decrypt E R o ct n tag = .ok (o', out, v)) :
    o'.finished = true ∧
    (∀ input n' l', ChaChaPoly1305.encrypt E R o' input n' l' = .error "PANIC") ∧
    (∀ input n' t, ChaChaPoly1305.decrypt E R o' input n' t = .error "PANIC") :=
  Cx.Props.C20.Aead.reuse_after_decrypt_refused o o' ct out tag n v h
theorem aead_oneshot_encrypt_bad_lengths (o : ChaChaPoly1305 σ) (input : Bytes) (n l : Nat)
    (h : input.length ≠ n ∨ l ≠ 16) : ChaChaPoly1305.encrypt E R o input n l = .error "PANIC" :=
  Cx.Props.C20.Aead.oneshot_encrypt_bad_lengths o input n l h
theorem aead_oneshot_decrypt_bad_lengths (o : ChaChaPoly1305 σ) (input : Bytes) (n : Nat) (tag : Bytes)
    (h : input.length ≠ n ∨ tag.length ≠ 16) : ChaChaPoly1305.decrypt E R o input n tag = .error "PANIC" :=
  Cx.Props.C20.Aead.oneshot_decrypt_bad_lengths o input n tag h
theorem aead_incremental_bad_output_length (c : Context σ) (input : Bytes) (n : Nat) (h : input.length ≠ n) :
    ContextEncryption.encrypt E R c input n = .error "PANIC" ∧
    ContextDecryption.decrypt E R c input n = .error "PANIC" :=
  Cx.Props.C20.Aead.incremental_bad_output_length c input n h
theorem aead_new_refuses_key_length (hn : nonce.length = 12) (hk : ¬ (key.length = 16 ∨ key.length = 32)) (aad : Bytes) :
    (∃ e, Context.new E R key nonce = .error e ∧ e = "PANIC") ∧
    (∃ e, ChaChaPoly1305.new E R key nonce aad = .error e ∧ e = "PANIC") :=
  Cx.Props.C20.Aead.new_refuses_key_length hn hk aad
theorem aead_new_refuses_rounds (hn : nonce.length = 12) (hk : key.length = 16 ∨ key.length = 32)
    (hR : ¬ (R = 8 ∨ R = 12 ∨ R = 20)) : Context.new E R key nonce = .error "PANIC" :=
  Cx.Props.C20.Aead.new_refuses_rounds hn hk hR
theorem aead_incremental_step_refused (st : Phase × Context σ) (a : AbsSt) (op : Op)
    (hph : st.1 = a.phase) (h : absStep R key nonce a op = none) : ∃ e, step E R st op = .error e :=
  Cx.Props.C20.Aead.incremental_step_refused st a op hph h

end aead

end Cx.Props.C20.Refusal
